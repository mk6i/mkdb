import Mkdb.Proofs.Aggregate
import Mkdb.Proofs.AliasCapture
import Mkdb.Proofs.MeaningPipeline
import Mkdb.Proofs.NoPanicExec
/-!
# C07 — COUNT, AVG and GROUP BY compute true aggregates

The property theorems (lemmas in `Mkdb/Proofs/Aggregate.lean`, `NoPanicExec.lean`,
`AliasCapture.lean`, `MeaningAggCells.lean`, `MeaningAggregateRows.lean`, `MeaningPipeline.lean`).
Full statement for GROUP BY and COUNT; AVG is a *known finding*: the code keeps a
cumulative average rounded after every row, so "AVG = round(sum/count), independent of row
order" is false of the code and of the model — `C07_avg_counterexample` is its witness and
`C07_avg_partial` what does hold.
-/
namespace Mkdb.Exec
open Mkdb.Sql Mkdb.Exec.AggP Mkdb.Exec.NoPanicP Mkdb.Exec.GroupNoAggP Mkdb.Exec.AliasCaptureP

/-- **C07.one_group_per_key**: grouping produces exactly one group per distinct tuple of
grouping values, in first-occurrence order. -/
theorem C07_one_group_per_key (key : Row → List Val) (rows : List Row) :
    ((groupsOf key rows).map (·.key)).Nodup ∧ (groupsOf key rows).map (·.key) = (rows.map key).eraseDups :=
  ⟨groups_keys_nodup key rows, groups_keys_first_occurrence key rows⟩

/-- **C07.same_group_iff_equal_key**: two rows are in the same group only if all their
grouping values are equal, and every row is in the group of its key. -/
theorem C07_group_membership (key : Row → List Val) (rows : List Row) :
    (∀ g ∈ groupsOf key rows, ∀ r ∈ g.rows, key r = g.key) ∧
    (∀ r ∈ rows, ∃ g ∈ groupsOf key rows, g.key = key r ∧ r ∈ g.rows) :=
  groups_rows_key key rows

/-- **C07.partition**: the groups partition the input: each group is exactly the rows with
its key (in order), and together they are a permutation of the input. -/
theorem C07_partition (key : Row → List Val) (rows : List Row) :
    ((groupsOf key rows).flatMap (·.rows)).Perm rows ∧
    (∀ g ∈ groupsOf key rows, g.rows = rows.filter (fun r => key r == g.key)) :=
  ⟨groups_flatMap_perm key rows, groups_rows_eq_filter key rows⟩

/-- **C07.count_star**: COUNT(*) of a group is its number of rows. -/
theorem C07_count_star (colIdx : Nat) (g : Group) (h : ∀ r ∈ g.rows, r[colIdx]? = some (.int 1)) :
    aggCell (.count none) colIdx g = .ok (.int g.rows.length) := by
  have := count_col_correct none colIdx g (fun _ => true) (by simpa using h)
  rw [List.filter_eq_self.2 (fun _ _ => rfl)] at this
  exact this

/-- **C07.count_col**: COUNT(col) of a group is its number of rows with a non-NULL value. -/
theorem C07_count_col (c : Option ColRef) (colIdx : Nat) (g : Group) (nonNull : Row → Bool)
    (h : ∀ r ∈ g.rows, r[colIdx]? = some (.int (if nonNull r then 1 else 0))) :
    aggCell (.count c) colIdx g = .ok (.int (g.rows.filter nonNull).length) :=
  count_col_correct c colIdx g nonNull h

/-- **C07.order_independent (groups, counts)**: permuting the input rows changes neither the
set of groups nor the rows (hence the counts) of any group. -/
theorem C07_order_independent (key : Row → List Val) {rows rows' : List Row} (hp : rows'.Perm rows) (k : List Val) :
    ((∃ g' ∈ groupsOf key rows', g'.key = k) ↔ (∃ g ∈ groupsOf key rows, g.key = k)) ∧
    (∀ g' ∈ groupsOf key rows', ∀ g ∈ groupsOf key rows, g'.key = k → g.key = k →
      g'.rows.Perm g.rows ∧ g'.rows.length = g.rows.length) := by
  constructor
  · rw [groups_key_iff, groups_key_iff]
    exact ⟨fun ⟨r, hr, e⟩ => ⟨r, hp.mem_iff.1 hr, e⟩, fun ⟨r, hr, e⟩ => ⟨r, hp.mem_iff.2 hr, e⟩⟩
  · intro g' hg' g hg e' e
    have hperm : g'.rows.Perm g.rows := by
      rw [groups_rows_eq_filter key rows g hg, groups_rows_eq_filter key rows' g' hg', e, e']
      exact hp.filter _
    exact ⟨hperm, hperm.length_eq⟩

/-- **C07.rows_out**: with aggregates the result has one row per distinct grouping tuple. -/
theorem C07_one_row_per_key (sl : List DerivedCol) (groupBy : List ColRef) (rows out : List Row)
    (hagg : hasAggr sl = true) (hne : (groupBy.isEmpty && rows.isEmpty) = false)
    (h : aggregateRows sl groupBy rows = .ok out) :
    ∃ idxs, groupIdxs sl groupBy = .ok idxs ∧
      out.length = ((rows.map fun r => idxs.map fun i => (r[i]?).getD .null).eraseDups).length := by
  rw [aggregateRows_grouping (by rw [hagg]; rfl) hne] at h
  obtain ⟨idxs, hidx, hout⟩ := bind_eq_ok.1 h
  refine ⟨idxs, hidx, ?_⟩
  have hlen : ∀ {f : Group → X Row}, mapX f (groupsOf (groupKey idxs) rows) = .ok out →
      out.length = ((rows.map (groupKey idxs)).eraseDups).length := fun ho => by
    rw [mapX_ok_length ho, ← groups_keys_first_occurrence, List.length_map]
  split at hout
  · unfold aggregateStar at hout
    split at hout
    · cases hout
    · exact hlen hout
  · exact hlen hout

/-- **C07.group_by_without_aggregate**: a GROUP BY groups whether or not the select list holds an
aggregate - `SELECT a FROM t GROUP BY a` returns one row per distinct `a`, not every row
(`aggregateRows` returns early only without aggregate and without GROUP BY).  For a select list
without aggregates, a non-empty GROUP BY whose references all designate a select-list column, and
projected rows with one value per select-list element (what `projectColumns` delivers), the result
has exactly one row per distinct grouping key (`groupKey idxs r` = the values of `r` at the GROUP BY
positions): (1) the keys of the output rows are pairwise distinct, (2) every key of an input row is
the key of an output row and conversely, (3) every output row is an input row, namely the first
with its key, (4) in order of first occurrence of the keys. -/
theorem C07_group_by_without_aggregate (sl : List DerivedCol) (groupBy : List ColRef)
    (rows : List Row) (hagg : hasAggr sl = false) (hne : groupBy ≠ [])
    (hres : ∀ g ∈ groupBy, ∃ i, groupIdx sl g = some i)
    (hlen : ∀ r ∈ rows, r.length = sl.length) :
    ∃ idxs out, groupIdxs sl groupBy = .ok idxs ∧ aggregateRows sl groupBy rows = .ok out ∧
      (out.map (groupKey idxs)).Nodup ∧
      ((∀ r ∈ rows, ∃ o ∈ out, groupKey idxs o = groupKey idxs r) ∧
       (∀ o ∈ out, ∃ r ∈ rows, groupKey idxs r = groupKey idxs o)) ∧
      (∀ o ∈ out, o ∈ rows ∧
        rows.find? (fun r => groupKey idxs r == groupKey idxs o) = some o) ∧
      out.map (groupKey idxs) = (rows.map (groupKey idxs)).eraseDups := by
  obtain ⟨idxs, hidx⟩ := groupIdxs_ok hres
  refine ⟨idxs, _, hidx, aggregateRows_group_no_aggr_eq hagg hne hidx hlen, ?_⟩
  -- the first row of a group: an input row, with the key of the group, the first such
  have hfirst : ∀ g ∈ groupsOf (groupKey idxs) rows,
      g.rows.headD [] ∈ rows ∧ groupKey idxs (g.rows.headD []) = g.key ∧
      rows.find? (fun r => groupKey idxs r == g.key) = some (g.rows.headD []) := by
    intro g hg
    obtain ⟨hmem, hnil⟩ := groups_rows_mem (groupKey idxs) rows g hg
    have hfil := groups_rows_eq_filter (groupKey idxs) rows g hg
    cases hrows : g.rows with
    | nil => exact absurd hrows hnil
    | cons r rest =>
      have hrg : r ∈ g.rows := by rw [hrows]; exact List.mem_cons_self ..
      refine ⟨hmem r hrg, (groups_rows_key (groupKey idxs) rows).1 g hg r hrg, ?_⟩
      rw [← List.head?_filter, ← hfil, hrows]
      rfl
  have hkeys : ((groupsOf (groupKey idxs) rows).map fun g => g.rows.headD []).map (groupKey idxs)
      = (groupsOf (groupKey idxs) rows).map (·.key) := by
    rw [List.map_map]
    exact List.map_congr_left (fun g hg => (hfirst g hg).2.1)
  refine ⟨?_, ⟨?_, ?_⟩, ?_, ?_⟩
  · rw [hkeys]; exact groups_keys_nodup _ _
  · intro r hr
    obtain ⟨g, hg, hk, _⟩ := (groups_rows_key (groupKey idxs) rows).2 r hr
    exact ⟨_, List.mem_map.mpr ⟨g, hg, rfl⟩, by rw [(hfirst g hg).2.1, hk]⟩
  · intro o ho
    obtain ⟨g, hg, rfl⟩ := List.mem_map.mp ho
    exact ⟨_, (hfirst g hg).1, rfl⟩
  · intro o ho
    obtain ⟨g, hg, rfl⟩ := List.mem_map.mp ho
    refine ⟨(hfirst g hg).1, ?_⟩
    rw [(hfirst g hg).2.1]
    exact (hfirst g hg).2.2
  · rw [hkeys]; exact groups_keys_first_occurrence _ _

/-- `groupKey` is the expression `aggregateRows` groups by -/
theorem C07_groupKey_def (idxs : List Nat) (r : Row) :
    groupKey idxs r = idxs.map fun i => (r[i]?).getD .null := rfl

/-- `SELECT k FROM t GROUP BY k` on the rows 1, 2, 1 is the rows 1, 2 -/
example : aggregateRows [⟨.expr (.val (.col ⟨[], [107]⟩)), []⟩] [⟨[], [107]⟩]
    [[.int 1], [.int 2], [.int 1]] = .ok [[.int 1], [.int 2]] := by decide +kernel

/-- **C07.qualified_group_column_not_captured_by_alias**: a qualified GROUP BY reference `t.b`
matches a select-list element only as that very column reference - the alias alternative and the
bare-name alternative of `DerivedColumn.Matches` need an unqualified reference (`SELECT a AS b ...
GROUP BY t.b` does not group by `a`).  Hence the select-list
column a qualified GROUP BY reference designates (`groupIdx`) is a reference to that column. -/
theorem C07_qualified_group_column_not_captured_by_alias :
    (∀ (d : DerivedCol) (rhs : ColRef), rhs.qual ≠ [] → d.matches rhs = true →
      ∃ lhs, d.item = .expr (.val (.col lhs)) ∧ lhs.equals rhs = true) ∧
    (∀ (sl : List DerivedCol) (g : ColRef) (i : Nat), g.qual ≠ [] → groupIdx sl g = some i →
      ∃ d lhs, sl[i]? = some d ∧ d.item = .expr (.val (.col lhs)) ∧ lhs.equals g = true) :=
  ⟨fun _ _ hq h => matches_qualified hq h,
   fun sl g i hq h => qualified_group_column_not_captured_by_alias sl g hq i h⟩

/-- `ColumnReference.Equals` is equality of qualifier and name -/
theorem C07_colref_equals_eq {lhs rhs : ColRef} (h : lhs.equals rhs = true) : lhs = rhs :=
  ColRef_equals_eq h

/-- `a AS b` does not match `t.b`; `t.b AS c` does -/
example : (⟨.expr (.val (.col ⟨[116], [97]⟩)), [98]⟩ : DerivedCol).matches ⟨[116], [98]⟩ = false ∧
    (⟨.expr (.val (.col ⟨[116], [98]⟩)), [99]⟩ : DerivedCol).matches ⟨[116], [98]⟩ = true := by decide +kernel

/-- **C07.avg_partial**: the cumulative average is exact when all values are equal or there is one value. -/
theorem C07_avg_partial (x : Int) (n : Nat) : runningAvg [x] = x ∧ runningAvg (List.replicate (n + 1) x) = x :=
  ⟨runningAvg_const x 0, runningAvg_const x n⟩

/-- **C07.avg_counterexample** (known finding): the average depends on row order and differs
from round(sum/count): avg of 2,1,1 is 2, of 1,1,2 is 1, while round(4/3) = 1. -/
theorem C07_avg_counterexample : runningAvg [2, 1, 1] = 2 ∧ runningAvg [1, 1, 2] = 1 ∧ roundDiv 4 3 = 1 := by
  decide

end Mkdb.Exec

/-! ## The executor against the reference meaning, for aggregates and GROUP BY

`Spec.meaning` / `Spec.satisfies` are the pair the differential-testing judge evaluates on the output
of the real implementation (`Mkdb/Driver/Exec.lean`); see the same section of `Mkdb/Props/C05.lean`.
The reference meaning groups the *source* rows by the distinct tuples of grouping values and computes
COUNT(*) as the number of rows of the group, COUNT(col) as the number of non-NULL values, AVG as the
rounded mean; a select-list element that is not an aggregate has a meaning only if it evaluates on
every row of the group and has the same value on all of them (a grouping column has; standard SQL
forbids anything else; `validateGroupBy` checks bare column references only).  Without GROUP BY one
row for the whole input, all zeros when it is empty.  The executor aggregates the *projected* rows
and takes a non-aggregate element from the first row of the group it meets. -/
namespace Mkdb.Exec
open Mkdb.Sql Mkdb.Exec.SelectP Mkdb.Exec.MeaningP Mkdb.Exec.NoPanicP Mkdb.Exec.JoinP

/-- **C07.result_is_the_reference_meaning**: whatever a single-table SELECT with COUNT(*) /
COUNT(col) and / or GROUP BY (with or without aggregates) answers is what the query means.  If
`evaluateSelect` answers `(rows, hdr)` then the query has a reference meaning `want` - one row per
distinct combination of grouping values in order of first occurrence, each with the true counts of
its group; without GROUP BY one row for the whole input, all zeros when it is empty -, `hdr` is the
header the judge computes, the ORDER BY keys resolve against it and are comparable, the answer is
exactly `cut (sortRows keys want)`, and the judge's test `Spec.satisfies q hdr want rows` accepts it.
Hypotheses: `hgrouped` - the select list holds only COUNTs, literals and the columns the GROUP BY
references designate (`groupedQuery`, a test on the query alone: a valid grouping query without AVG;
the executor also answers a query that lists something else next to an aggregate, with the value of
the first row of the group, and such a query has no reference meaning:
`C07_ungrouped_expression_has_no_meaning`); `hstar` - the select list does not start with `*`
(`C07_star_with_group_by_is_refused`); `hgroups` - the query has an aggregate or a GROUP BY
(otherwise it is C05's theorem); `hwhere` as in `C05_result_is_the_reference_meaning`. -/
theorem C07_result_is_the_reference_meaning {fetch : Bytes → Option Table} {q : Select}
    {t : TableName} {rows : List Row} {hdr : List Field}
    (hfrom : q.from_ = some (.table t)) (hstar : isStar q.list = false) (hgroups : groups q = true)
    (hgrouped : groupedQuery q = true) (hwhere : whereIsBoolean q = true)
    (h : evaluateSelect fetch q = .ok (rows, hdr)) :
    ∃ want keys, Spec.meaning fetch q = some want ∧ hdr = judgeHeader fetch q ∧
      Spec.sortKeys q hdr = some keys ∧
      (∀ a ∈ want, ∀ b ∈ want, KeyComparable keys a b) ∧
      rows = cut q.lim (sortRows keys want) ∧
      Spec.satisfies q hdr want rows = true := by
  obtain ⟨want, got, keys, hm, hh, hk, _, hex, hcomp, rfl, hs, _⟩ := select_result hfrom hwhere
    (fun _ => ⟨hstar, fun src fields _ => constOnGroups_of_groupedQuery hgrouped fields src⟩) h
  cases hex t rfl
  exact ⟨want, keys, hm, hh, hk, hcomp, rfl, hs⟩

/-- **C07.result_is_the_reference_meaning_with_avg**: the same for any select list, AVG included,
under a hypothesis on the data instead of the query: on the rows of the table every select-list
element that is not a COUNT is constant on each group (`nonCountsConstantOnGroups`, a decidable test
on the table and the query).  For an AVG this is the case of `C07_avg_partial` - all averaged values
of a group equal - in which the code's cumulative average, rounded after every row, is the rounded
mean the reference meaning asks for; without it the statement is false (`C07_avg_counterexample`,
the known finding). -/
theorem C07_result_is_the_reference_meaning_with_avg {fetch : Bytes → Option Table} {q : Select}
    {t : TableName} {rows : List Row} {hdr : List Field}
    (hfrom : q.from_ = some (.table t)) (hstar : isStar q.list = false) (hgroups : groups q = true)
    (hconst : nonCountsConstantOnGroups fetch q = true) (hwhere : whereIsBoolean q = true)
    (h : evaluateSelect fetch q = .ok (rows, hdr)) :
    ∃ want keys, Spec.meaning fetch q = some want ∧ hdr = judgeHeader fetch q ∧
      Spec.sortKeys q hdr = some keys ∧
      (∀ a ∈ want, ∀ b ∈ want, KeyComparable keys a b) ∧
      rows = cut q.lim (sortRows keys want) ∧
      Spec.satisfies q hdr want rows = true := by
  obtain ⟨want, got, keys, hm, hh, hk, _, hex, hcomp, rfl, hs, _⟩ := select_result hfrom hwhere
    (fun _ => ⟨hstar, fun _ _ => constOnGroups_of_nonCountsConstantOnGroups hfrom hconst⟩) h
  cases hex t rfl
  exact ⟨want, keys, hm, hh, hk, hcomp, rfl, hs⟩

/-- **C07.meaningful_query_is_answered** (the converse): a single-table SELECT with aggregates and /
or GROUP BY that has a reference meaning `want`, whose ORDER BY keys resolve against the judge's
header and are comparable on `want`, is not refused: the executor answers with that header and
exactly `cut (sortRows keys want)`, and the judge's test accepts the answer.  No hypothesis on the
shape of the select list: a reference meaning exists only if every non-aggregate element evaluates
on every row and is constant on each group.
Hypotheses: `havg` - in every group the values an AVG averages are equal (`avgGroupsConstant`, a
decidable test; true of every query without AVG: `C07_avgGroupsConstant_of_noAvg`; the known
finding); `hws` - every stored row has one value per column (`WellShaped`; on a short row the
reference meaning counts the missing value as NULL while the executor panics:
`C07_short_row_panics`); `hlist`, `hlim` - the select list is not empty, no written LIMIT / OFFSET is
negative (every parsed statement; `C05_meaningful_query_is_answered`); `hgroups` as above.  (No hypothesis on `*`: a select list that starts with `*`
has no reference meaning in a query with an aggregate or a GROUP BY,
`C07_star_with_group_by_is_refused`.) -/
theorem C07_meaningful_query_is_answered {fetch : Bytes → Option Table} {q : Select}
    {t : TableName} {want : List Row} {keys : List (Nat × Bool)}
    (hfrom : q.from_ = some (.table t)) (hgroups : groups q = true)
    (hlist : q.list ≠ []) (hlim : Spec.boundsOK q.lim = true)
    (havg : avgGroupsConstant fetch q = true) (hws : WellShaped fetch)
    (hm : Spec.meaning fetch q = some want)
    (hk : Spec.sortKeys q (judgeHeader fetch q) = some keys)
    (hcomp : ∀ a ∈ want, ∀ b ∈ want, KeyComparable keys a b) :
    evaluateSelect fetch q = .ok (cut q.lim (sortRows keys want), judgeHeader fetch q) ∧
      Spec.satisfies q (judgeHeader fetch q) want (cut q.lim (sortRows keys want)) = true := by
  obtain ⟨got, _, hex, he, hs⟩ := select_answered hfrom hlist hlim
    (fun _ => ⟨hws, fun _ _ => avgOnGroups_of_avgGroupsConstant hfrom havg⟩) hm hk hcomp
  cases hex t rfl
  exact ⟨he, hs⟩

/-- a select list without AVG passes the test `avgGroupsConstant` on any tables -/
theorem C07_avgGroupsConstant_of_noAvg (fetch : Bytes → Option Table) {q : Select}
    (h : noAvg q.list = true) : avgGroupsConstant fetch q = true := by
  unfold avgGroupsConstant
  split
  · rfl
  · split
    · rfl
    · split
      · rfl
      · exact avgConstB_of_noAvg h _ _ _

/-- **C07.aggregate_rows_is_the_grouping_of_the_meaning**: the heart of the theorems above, on its
own.  For source rows `src` on each of which every select-list element has a value (`hproj`) and
everything but the COUNTs is constant on each group (`hconst`), `aggregateRows` applied to the
projected rows answers `out` if and only if the grouping part of the reference meaning (`specAgg`,
the text of `Spec.meaning` from "grouping columns" on) of `src` is `out`: the same groups in the
same order, the same counts, the same values, the same row of zeros. -/
theorem C07_aggregate_rows_is_the_grouping_of_the_meaning {q : Select} {fields : List Field}
    {src out : List Row} (hgroups : groups q = true)
    (hres : ColumnsResolve q.list fields) (hproj : Projects q.list fields src)
    (hconst : ∀ idxs, q.groupBy.mapM (groupIdx q.list) = some idxs →
      GroupConst q.list fields (keyAt idxs) src) :
    aggregateRows q.list q.groupBy (src.map (projRow q.list fields)) = .ok out ↔
      specAgg q fields src = some out :=
  aggregate_agree hgroups hres hproj hconst

/-- **C07.meaning_demands_constant_elements**: a defined grouping part of the reference meaning
says of the source rows (each as long as the header): every select-list element evaluates on every
row, and every element that is neither a COUNT nor an AVG has one value on all rows of a group. -/
theorem C07_meaning_demands_constant_elements {q : Select} {fields : List Field}
    {src out : List Row} {idxs : List Nat}
    (hgi : q.groupBy.mapM (groupIdx q.list) = some idxs) (hz : ¬(q.groupBy = [] ∧ src = []))
    (hres : ColumnsResolve q.list fields) (hlen : ∀ r ∈ src, r.length = fields.length)
    (h : specAgg q fields src = some out) :
    Projects q.list fields src ∧ PlainConst q.list fields (keyAt idxs) src :=
  specAgg_inv hgi hz hres hlen h

/-- tables: `t(k, v, w)` with five rows in two groups, NULLs in `w`, equal `v` within each group;
`s(v)` holding NULL and 1; `r(a, b)` with a row that is too short -/
def exAggFetch (n : Bytes) : Option Table :=
  if n = [116] then some ⟨[[107], [118], [119]],
    [[.int 1, .int 10, .null], [.int 2, .int 5, .str [97]], [.int 1, .int 10, .str [98]],
     [.int 2, .int 5, .null], [.int 1, .int 10, .str [99]]]⟩
  else if n = [115] then some ⟨[[118]], [[.null], [.int 1]]⟩
  else if n = [114] then some ⟨[[97], [98]], [[.int 1]]⟩
  else none

/-- `SELECT k, count(*), count(w) FROM t WHERE k >= 1 GROUP BY k ORDER BY k DESC LIMIT 5` -/
def exAggQuery : Select :=
  { list := [⟨.expr (.val (.col ⟨[], [107]⟩)), []⟩, ⟨.count none, []⟩, ⟨.count (some ⟨[], [119]⟩), []⟩]
    from_ := some (.table ⟨[116], none⟩)
    where_ := some (.pred ⟨.col ⟨[], [107]⟩, Generated.t_GTE, .lit (.int 1)⟩)
    groupBy := [⟨[], [107]⟩]
    orderBy := [⟨⟨[], [107]⟩, true⟩]
    lim := { limitActive := true, limit := 5 } }

/-- the same with `avg(v)` as a fourth column -/
def exAvgQuery : Select := { exAggQuery with list := exAggQuery.list ++ [⟨.avg ⟨[], [118]⟩, []⟩] }

/-- `SELECT count(*), count(w) FROM t WHERE k > 7`: no row passes -/
def exZeroQuery : Select :=
  { list := [⟨.count none, []⟩, ⟨.count (some ⟨[], [119]⟩), []⟩]
    from_ := some (.table ⟨[116], none⟩)
    where_ := some (.pred ⟨.col ⟨[], [107]⟩, Generated.t_GT, .lit (.int 7)⟩) }

-- non-vacuity of `C07_result_is_the_reference_meaning` and `C07_meaningful_query_is_answered`
example : exAggQuery.from_ = some (.table ⟨[116], none⟩) ∧ isStar exAggQuery.list = false ∧
    groups exAggQuery = true ∧ groupedQuery exAggQuery = true ∧ whereIsBoolean exAggQuery = true ∧
    noAvg exAggQuery.list = true ∧ exAggQuery.list ≠ [] ∧ Spec.boundsOK exAggQuery.lim = true := by decide +kernel
example : evaluateSelect exAggFetch exAggQuery =
    .ok ([[.int 2, .int 2, .int 1], [.int 1, .int 3, .int 2]],
      [⟨[116], [107]⟩, ⟨[], "count(*)".toUTF8.toList⟩, ⟨[], "count(w)".toUTF8.toList⟩]) := by
  decide +kernel
example : Spec.meaning exAggFetch exAggQuery =
    some [[.int 1, .int 3, .int 2], [.int 2, .int 2, .int 1]] := by decide +kernel
example : Spec.sortKeys exAggQuery (judgeHeader exAggFetch exAggQuery) = some [(0, true)] := by
  decide +kernel
example : ∀ a ∈ ([[.int 1, .int 3, .int 2], [.int 2, .int 2, .int 1]] : List Row),
    ∀ b ∈ ([[.int 1, .int 3, .int 2], [.int 2, .int 2, .int 1]] : List Row),
      KeyComparable [(0, true)] a b := by decide +kernel
/-- the table `t` alone: every row has one value per column -/
def exAggFetchT (n : Bytes) : Option Table := if n = [116] then exAggFetch n else none
example : WellShaped exAggFetchT :=
  .of_names [[116]] (fun n hn => if_neg (by simpa using hn)) (by decide)
example : Spec.meaning exAggFetchT exAggQuery =
    some [[.int 1, .int 3, .int 2], [.int 2, .int 2, .int 1]] ∧
    Spec.sortKeys exAggQuery (judgeHeader exAggFetchT exAggQuery) = some [(0, true)] ∧
    avgGroupsConstant exAggFetchT exAggQuery = true := by
  decide +kernel
-- the empty input without GROUP BY: one row of zeros, in the executor and in the meaning
example : evaluateSelect exAggFetch exZeroQuery =
    .ok ([[.int 0, .int 0]], [⟨[], "count(*)".toUTF8.toList⟩, ⟨[], "count(w)".toUTF8.toList⟩]) ∧
    Spec.meaning exAggFetch exZeroQuery = some [[.int 0, .int 0]] ∧ groups exZeroQuery = true ∧
    groupedQuery exZeroQuery = true := by
  decide +kernel
-- non-vacuity of `C07_result_is_the_reference_meaning_with_avg`: `v` is constant in each group
example : nonCountsConstantOnGroups exAggFetch exAvgQuery = true ∧
    avgGroupsConstant exAggFetch exAvgQuery = true ∧ noAvg exAvgQuery.list = false ∧
    groupedQuery exAvgQuery = false ∧
    groups exAvgQuery = true ∧ isStar exAvgQuery.list = false := by decide +kernel
example : evaluateSelect exAggFetch exAvgQuery =
      .ok ([[.int 2, .int 2, .int 1, .int 5], [.int 1, .int 3, .int 2, .int 10]],
        [⟨[116], [107]⟩, ⟨[], "count(*)".toUTF8.toList⟩, ⟨[], "count(w)".toUTF8.toList⟩,
         ⟨[], "avg(v)".toUTF8.toList⟩]) ∧
    Spec.meaning exAggFetch exAvgQuery =
      some [[.int 1, .int 3, .int 2, .int 10], [.int 2, .int 2, .int 1, .int 5]] := by
  decide +kernel

/-- `SELECT * FROM t GROUP BY k` -/
def exStarGroup : Select :=
  { list := [⟨.star, []⟩], from_ := some (.table ⟨[116], none⟩), groupBy := [⟨[], [107]⟩] }

/-- **C07.star_with_group_by_is_refused**: `SELECT * FROM t GROUP BY k` - a statement the parser
accepts (`validateGroupBy` looks at the column references of the select list only and `*` is none) -
is refused by the executor, as by the Go code (`ErrGroupByNotSelected`: `*` is no column a GROUP BY
reference could designate), and has no reference meaning: a grouping query has one row per group and
`*` names no column of it.  So the refusal is no violation for the judge, and the "meaningful query
is answered" theorems need no hypothesis on `*`; the "result is the reference meaning" theorems keep
`hstar` (the executor answers the hand-built list `*, count(*)` - no parser output - on a one-row
table, with that row). -/
theorem C07_star_with_group_by_is_refused :
    evaluateSelect exAggFetch exStarGroup = .err .groupByNotSelected ∧
    Spec.meaning exAggFetch exStarGroup = none ∧ groups exStarGroup = true := by decide +kernel

/-- **C07.star_has_no_meaning_in_a_grouping_query**: in general - a query with an aggregate in the
select list or a GROUP BY whose select list starts with `*` has no reference meaning, on any tables. -/
theorem C07_star_has_no_meaning_in_a_grouping_query (fetch : Bytes → Option Table) (q : Select)
    (hstar : isStar q.list = true) (hgroups : groups q = true) : Spec.meaning fetch q = none := by
  cases hm : Spec.meaning fetch q with
  | none => rfl
  | some want =>
    obtain ⟨tr, src, fields, hf, hfr⟩ := meaning_some_from hm
    rw [meaning_of hf hfr] at hm
    obtain ⟨filtered, _, hst⟩ := Option.bind_eq_some_iff.1 hm
    rw [specTail_groups_nostar hgroups hst] at hstar
    cases hstar

/-- `SELECT v < 'x', count(*) FROM s` -/
def exExprAgg : Select :=
  { list := [⟨.expr (.pred ⟨.col ⟨[], [118]⟩, Generated.t_LT, .lit (.str [120])⟩), []⟩,
             ⟨.count none, []⟩]
    from_ := some (.table ⟨[115], none⟩) }

/-- **C07.expression_next_to_aggregate_has_no_meaning**: `SELECT v < 'x', count(*) FROM s` on the
rows NULL, 1 has no reference meaning - the comparison is ill-typed on the second row of the group
(`1 < 'x'`), and an element of a grouping query must evaluate on every row of its group, not on the
first only - so any answer or refusal is acceptable; the executor, as the Go code, projects every
row before it aggregates and refuses with "incompatible types".  (The parser accepts the statement:
`validateGroupBy` looks at column references only.  On the first row of the group alone the value
would be `[[false, 2]]`.) -/
theorem C07_expression_next_to_aggregate_has_no_meaning :
    evaluateSelect exAggFetch exExprAgg = .err .incompat ∧
    Spec.meaning exAggFetch exExprAgg = none := by decide +kernel

/-- `SELECT k = 1, count(*) FROM t`: no GROUP BY, `k` is 1 on three rows and 2 on two -/
def exUngroupedSingle : Select :=
  { list := [⟨.expr (.pred ⟨.col ⟨[], [107]⟩, Generated.t_EQ, .lit (.int 1)⟩), []⟩, ⟨.count none, []⟩]
    from_ := some (.table ⟨[116], none⟩) }

/-- **C07.ungrouped_expression_on_one_table_has_no_meaning** (why `C07_result_is_the_reference_meaning`
has `hgrouped`): `SELECT k = 1, count(*) FROM t` is answered - with the value of the first row,
`true`, and the count 5 - although `k = 1` is not constant on the one group: the query is not a valid
grouping query and has no reference meaning (any answer or refusal is acceptable). -/
theorem C07_ungrouped_expression_on_one_table_has_no_meaning :
    (∃ hdr, evaluateSelect exAggFetch exUngroupedSingle = .ok ([[.bool true, .int 5]], hdr)) ∧
    Spec.meaning exAggFetch exUngroupedSingle = none ∧
    groupedQuery exUngroupedSingle = false ∧
    nonCountsConstantOnGroups exAggFetch exUngroupedSingle = false :=
  ⟨⟨[⟨[], [63]⟩, ⟨[], "count(*)".toUTF8.toList⟩], by decide +kernel⟩, by decide +kernel⟩

/-- `SELECT count(b) FROM r` -/
def exShortRow : Select :=
  { list := [⟨.count (some ⟨[], [98]⟩), []⟩], from_ := some (.table ⟨[114], none⟩) }

/-- **C07.short_row_panics** (why `C07_meaningful_query_is_answered` has `hws`): on a stored row with
fewer values than the table has columns - which no INSERT produces - `COUNT(b)` has the meaning `0`
(a missing value counts as NULL) while the executor indexes past the end of the row. -/
theorem C07_short_row_panics :
    evaluateSelect exAggFetch exShortRow = .panic "projectColumns: row.Vals[idx]" ∧
    Spec.meaning exAggFetch exShortRow = some [[.int 0]] ∧
    avgGroupsConstant exAggFetch exShortRow = true := by
  decide +kernel

/-! ## Aggregates and GROUP BY over joins

The nested loops deliver the rows of a join in another order than the relational definition lists
them.  Groups, counts and the elements that are constant on each group do not depend on that order;
the first row of a group does. -/

/-- **C07.join_result_is_the_reference_meaning**: whatever a SELECT with COUNT / AVG / GROUP BY over
any FROM clause (one table or a chain of INNER / LEFT / RIGHT joins) answers is what the query
means, as a multiset of result rows.  If `evaluateSelect` answers `(rows, hdr)` then the query has a
reference meaning `want`, `hdr` is the judge's header, the ORDER BY keys resolve against it and are
comparable, the answer is `cut (sortRows keys got)` for a permutation `got` of `want` (the groups in
the order in which the nested loops meet them), and the judge's test accepts it.
Hypothesis `hconst`: everything in the select list but the COUNTs is constant on each group - either
by the look of the query (`groupedQuery`: only COUNTs, literals and the columns the GROUP BY
references designate - what standard SQL demands of a grouping query) or on the data at hand
(`nonCountsConstantOnGroups`, a decidable test; it covers AVG over equal values, `C07_avg_partial`).
Without it the executor still answers - with the value on the first row of the group its loops meet
- a query that has no reference meaning: `C07_ungrouped_expression_has_no_meaning`.  `hstar`,
`hgroups`, `hwhere` as in `C07_result_is_the_reference_meaning`. -/
theorem C07_join_result_is_the_reference_meaning {fetch : Bytes → Option Table} {q : Select}
    {tr : TableRef} {rows : List Row} {hdr : List Field}
    (hfrom : q.from_ = some tr) (hstar : isStar q.list = false) (hgroups : groups q = true)
    (hconst : groupedQuery q = true ∨ nonCountsConstantOnGroups fetch q = true)
    (hwhere : whereIsBoolean q = true)
    (h : evaluateSelect fetch q = .ok (rows, hdr)) :
    ∃ want got keys, Spec.meaning fetch q = some want ∧ hdr = judgeHeader fetch q ∧
      Spec.sortKeys q hdr = some keys ∧ got.Perm want ∧
      (∀ a ∈ want, ∀ b ∈ want, KeyComparable keys a b) ∧
      rows = cut q.lim (sortRows keys got) ∧
      Spec.satisfies q hdr want rows = true := by
  obtain ⟨want, got, keys, hm, hh, hk, hp, _, hcomp, rfl, hs, _⟩ := select_result hfrom hwhere
    (fun _ => ⟨hstar, fun src fields hfr => hconst.elim
      (fun h => constOnGroups_of_groupedQuery h fields src)
      (fun h => constOnGroups_of_nonCountsConstantOnGroups hfrom h hfr)⟩) h
  exact ⟨want, got, keys, hm, hh, hk, hp, hcomp, rfl, hs⟩

/-- **C07.join_meaningful_query_is_answered** (the converse): a SELECT with aggregates / GROUP BY
over any FROM clause that has a reference meaning `want`, whose ORDER BY keys resolve against the
judge's header and are comparable on `want`, is not refused: the executor answers with that header
and `cut (sortRows keys got)` for a permutation `got` of `want`, and the judge's test accepts the
answer.  Hypotheses `havg`, `hws`, `hlist`, `hlim`, `hgroups` as in `C07_meaningful_query_is_answered`; none
on the shape of the select list (a reference meaning exists only for a query whose non-aggregate
elements are constant on each group, and such an element does not depend on the order of the rows). -/
theorem C07_join_meaningful_query_is_answered {fetch : Bytes → Option Table} {q : Select}
    {tr : TableRef} {want : List Row} {keys : List (Nat × Bool)}
    (hfrom : q.from_ = some tr) (hgroups : groups q = true)
    (hlist : q.list ≠ []) (hlim : Spec.boundsOK q.lim = true)
    (havg : avgGroupsConstant fetch q = true) (hws : WellShaped fetch)
    (hm : Spec.meaning fetch q = some want)
    (hk : Spec.sortKeys q (judgeHeader fetch q) = some keys)
    (hcomp : ∀ a ∈ want, ∀ b ∈ want, KeyComparable keys a b) :
    ∃ got, got.Perm want ∧
      evaluateSelect fetch q = .ok (cut q.lim (sortRows keys got), judgeHeader fetch q) ∧
      Spec.satisfies q (judgeHeader fetch q) want (cut q.lim (sortRows keys got)) = true := by
  obtain ⟨got, hp, _, he, hs⟩ := select_answered hfrom hlist hlim
    (fun _ => ⟨hws, fun _ _ => avgOnGroups_of_avgGroupsConstant hfrom havg⟩) hm hk hcomp
  exact ⟨got, hp, he, hs⟩

/-- **C07.groups_do_not_depend_on_row_order**: the grouping part of the reference meaning of two
permutations of one list of source rows is the same multiset of result rows, when everything but
the COUNTs is constant on each group: same distinct keys, same counts, same values. -/
theorem C07_groups_do_not_depend_on_row_order {q : Select} {fields : List Field}
    {src src' out' : List Row} {idxs : List Nat}
    (hp : src'.Perm src) (hgi : q.groupBy.mapM (groupIdx q.list) = some idxs)
    (hres : ColumnsResolve q.list fields) (hproj : Projects q.list fields src)
    (hconst : GroupConst q.list fields (keyAt idxs) src)
    (h : specAgg q fields src' = some out') :
    ∃ out, specAgg q fields src = some out ∧ out'.Perm out :=
  specAgg_perm hp hgi hres hproj hconst h

/-- `t RIGHT JOIN u ON t.id = u.id` on the tables of `Mkdb/Proofs/Join.lean` -/
def exJoinRU : TableRef :=
  .join (.table ⟨Example.bt, none⟩) .right ⟨Example.bu, none⟩ Example.onC

/-- `SELECT u.y, count(*), count(t.x) FROM t RIGHT JOIN u ON t.id = u.id GROUP BY u.y
ORDER BY u.y DESC` -/
def exJoinAgg : Select :=
  { list := [⟨.expr (.val (.col ⟨Example.bu, Example.by_⟩)), []⟩, ⟨.count none, []⟩,
             ⟨.count (some ⟨Example.bt, Example.bx⟩), []⟩]
    from_ := some exJoinRU
    groupBy := [⟨Example.bu, Example.by_⟩]
    orderBy := [⟨⟨Example.bu, Example.by_⟩, true⟩] }

-- non-vacuity of the two theorems: three groups, the unmatched right row counts 1 and 0
example : exJoinAgg.from_ = some exJoinRU ∧ isStar exJoinAgg.list = false ∧ groups exJoinAgg = true ∧
    groupedQuery exJoinAgg = true ∧ nonCountsConstantOnGroups Example.fetchX exJoinAgg = true ∧
    whereIsBoolean exJoinAgg = true ∧ avgGroupsConstant Example.fetchX exJoinAgg = true ∧
    exJoinAgg.list ≠ [] ∧ Spec.boundsOK exJoinAgg.lim = true := by
  decide +kernel
example : evaluateSelect Example.fetchX exJoinAgg =
    .ok ([[.str [122], .int 1, .int 0], [.str [113], .int 2, .int 2], [.str [112], .int 2, .int 2]],
      [⟨Example.bu, Example.by_⟩, ⟨[], "count(*)".toUTF8.toList⟩, ⟨[], "count(t.x)".toUTF8.toList⟩]) ∧
    Spec.meaning Example.fetchX exJoinAgg =
      some [[.str [112], .int 2, .int 2], [.str [113], .int 2, .int 2], [.str [122], .int 1, .int 0]] ∧
    Spec.sortKeys exJoinAgg (judgeHeader Example.fetchX exJoinAgg) = some [(0, true)] := by
  decide +kernel
example : WellShaped Example.fetchX :=
  .of_names [Example.bt, Example.bu]
    (fun n hn => by
      simp only [List.mem_cons, List.not_mem_nil, or_false, not_or] at hn
      simp only [Example.fetchX, hn, if_false])
    (by decide)

/-- `SELECT u.y = 'q', count(*) FROM t RIGHT JOIN u ON t.id = u.id WHERE t.x = 'b' OR u.y = 'q'` -/
def exUngrouped : Select :=
  { list := [⟨.expr (.pred ⟨.col ⟨Example.bu, Example.by_⟩, Generated.t_EQ, .lit (.str [113])⟩), []⟩,
             ⟨.count none, []⟩]
    from_ := some exJoinRU
    where_ := some (.or (.pred ⟨.col ⟨Example.bt, Example.bx⟩, Generated.t_EQ, .lit (.str [98])⟩)
                        (.pred ⟨.col ⟨Example.bu, Example.by_⟩, Generated.t_EQ, .lit (.str [113])⟩)) }

/-- **C07.ungrouped_expression_has_no_meaning** (why the forward theorems have `hgrouped` /
`hconst`): `SELECT u.y = 'q', count(*) FROM t RIGHT JOIN u ON t.id = u.id WHERE t.x = 'b' OR
u.y = 'q'` has no reference meaning: `u.y = 'q'` is false on one and true on two of the three rows of
the one group, so the query is not a valid grouping query and any answer or refusal is acceptable.
The executor, as the Go code, answers with the value on the first row its loops meet - a RIGHT JOIN
runs over the right table outside, the first row that passes WHERE is `(1, b, 1, p)`: `false`, 3.
(The first row in the order of the relational definition is `(1, a, 1, q)`: `true`, 3.)
The parser accepts the statement: `validateGroupBy` looks at column references only. -/
theorem C07_ungrouped_expression_has_no_meaning :
    (∃ hdr, evaluateSelect Example.fetchX exUngrouped = .ok ([[.bool false, .int 3]], hdr)) ∧
    Spec.meaning Example.fetchX exUngrouped = none ∧
    groupedQuery exUngrouped = false ∧ nonCountsConstantOnGroups Example.fetchX exUngrouped = false :=
  ⟨⟨[⟨[], [63]⟩, ⟨[], "count(*)".toUTF8.toList⟩], by decide +kernel⟩, by decide +kernel⟩

end Mkdb.Exec
