import Mkdb.Proofs.ScanTextLayout
import Mkdb.Proofs.StmtTextRoundtrip
import Mkdb.Props.C10
/-!
# C10 — parsing is faithful, TEXT level (the scanner)

The token-level theorems (`Props/C10.lean`) say which token lists parse to
which statement; here: a token list *written as SQL text* - keywords in any mix of upper and lower
case, any whitespace, line breaks and comments between the tokens - scans back to that token list
(`C10_scan_roundtrip`), so that parsing the text is parsing the token list (`C10_text_parse`).

Vocabulary (definitions in `Proofs/ScanText*.lean`):
* `asciiRune c` - the rune of the ASCII byte `c`;
* `Piece` - one written token: `word rs` (identifier or keyword, any identifier runes), `int ds`
  (decimal digits), `str body` (`'body'`), `punct c` (one of `! ( ) * , . ; < = >`), `op2 c`
  (`!=`, `<=`, `>=` with nothing between the two characters); `Piece.ok` its well-formedness,
  `Piece.tok` the token the scanner reports, `Piece.stop` what the next rune must satisfy;
* `Gap` - what stands between two tokens: a list of whitespace runes (tab, LF, VT, FF, CR, space),
  `/* ... */` comments (body without `*/`) and `// ...` comments ending in a line feed;
* `tokRunes cs t` / `renderText gap cs toks` - a token / a token list as text, `TokOK` the covered tokens,
  `layoutOK` the admissible layouts (every non-empty gap is fine; an empty gap where the next rune
  ends the token anyway), `scanned cs 0 toks` the tokens the scanner reports.
-/
namespace Mkdb.Sql
open Mkdb.Scan Mkdb.Generated Mkdb.Scan.TextEx

/-- **C10.scan_roundtrip** (tokens): every list of covered tokens (`TokOK`: IDENT `[A-Za-z_][A-Za-z0-9_]*`
not spelling a keyword, INT decimal digits, STR ASCII text the scanner reads to its closing quote - e.g.
anything without `'`, backslash, line feed -, every keyword and operator of the table), written with
the gaps `gap` (`gap i` before token `i`, `gap n` at the end) and the keyword cases `cs`, scans to
exactly those tokens: same types in the same order, nothing added or dropped.  The text of IDENT, INT,
STR tokens is the token's; the text of keyword / punctuation tokens is what was typed (`scanned`).
Excludes: layouts where two tokens touch although the second continues the first (`layoutOK`), non-ASCII
identifiers and strings (covered by `C10_scan_roundtrip_pieces`), delimited `"identifiers"`. -/
theorem C10_scan_roundtrip (gap : Nat → Gap) (cs : Nat → List Bool) (toks : List Token)
    (htoks : ∀ t ∈ toks, TokOK t = true) (hlay : layoutOK gap cs 0 toks = true) :
    scanSQL (renderText gap cs toks) = .ok (scanned cs 0 toks) :=
  scanSQL_renderText gap cs toks htoks hlay

/-- **C10.scan_roundtrip, what comes back**: the reported tokens are the written ones up to the text of
keyword and punctuation tokens (`ToksSim`: same length, same types, same text on IDENT/INT/STR) - which
the parser never reads (`parseTokens_textSim`). -/
theorem C10_scanned_same_tokens (cs : Nat → List Bool) (toks : List Token)
    (htoks : ∀ t ∈ toks, TokOK t = true) : ToksSim toks (scanned cs 0 toks) :=
  scanned_sim cs toks htoks 0

/-- **C10.scan_roundtrip** (pieces; the general form): a text made of well-formed gaps and written tokens,
each token followed by a rune that lets it end (`ItemsOK`), scans to exactly the tokens of its pieces.
Words may contain any Unicode letters and digits, string bodies any runes. -/
theorem C10_scan_roundtrip_pieces (items : List (Gap × Piece)) (tail : Gap) (hok : ItemsOK items tail = true) :
    scanSQL (renderItems items tail) = .ok (items.map (·.2.tok)) :=
  scanSQL_items items tail hok

/-- **C10.text_parse** (scanner and parser composed): parsing the text of a covered token list - any
admissible layout, any keyword case - gives exactly what the parser gives on the token list.  With a
token-level theorem `parseTokens toks = .ok s` this is `parseSQL text = .ok s`. -/
theorem C10_text_parse (gap : Nat → Gap) (cs : Nat → List Bool) (toks : List Token)
    (htoks : ∀ t ∈ toks, TokOK t = true) (hlay : layoutOK gap cs 0 toks = true) :
    parseSQL (renderText gap cs toks) = parseTokens toks :=
  parseSQL_renderText gap cs toks htoks hlay

/-- **C10.keyword_case_insensitive**: a word (letters, digits, `_`; ASCII or not) whose ASCII upper-casing
(`strings.ToUpper`) is the spelling of a keyword scans to that keyword's token, whatever the case of its
letters; its text is the word as typed. -/
theorem C10_keyword_case_insensitive (rs : Input) (codes : List Nat) (k : Int) (hk : (codes, k) ∈ kwTable)
    (hok : (Piece.word rs).ok = true) (hup : upperCodes rs = codes) :
    scanSQL rs = .ok [⟨k, textOf rs⟩] := by
  have := scanSQL_piece (.word rs) hok
  rwa [word_tok_kw rs codes k hk hup] at this

/-- **C10.keyword_case_insensitive** (ASCII): every upper/lower case mix `spell cs codes` of a word keyword
scans to the keyword. -/
theorem C10_keyword_any_case (cs : List Bool) (codes : List Nat) (k : Int) (hk : (codes, k) ∈ kwTable)
    (hw : isWordKw codes = true) :
    scanSQL ((spell cs codes).map asciiRune) = .ok [⟨k, (spell cs codes).map UInt8.ofNat⟩] := by
  obtain ⟨hok, hup⟩ := spell_word_ok cs codes (kwTable_shape _ hk).1 hw
  have h := C10_keyword_case_insensitive ((spell cs codes).map asciiRune) codes k hk hok hup
  rwa [textOf_ascii] at h

/-- **C10.keyword_vs_identifier**: a word scans to an IDENT token exactly when its upper-casing is not a
keyword, and then the IDENT's text is the word; otherwise it is the keyword with that upper-casing.  So
an identifier is never taken for a keyword nor a keyword for an identifier. -/
theorem C10_keyword_vs_identifier (rs : Input) (hok : (Piece.word rs).ok = true) :
    (keywordOf (upperCodes rs) = none → scanSQL rs = .ok [⟨t_IDENT, textOf rs⟩]) ∧
    (∀ k, keywordOf (upperCodes rs) = some k →
      scanSQL rs = .ok [⟨k, textOf rs⟩] ∧ k ≠ t_IDENT ∧ (upperCodes rs, k) ∈ kwTable) := by
  have h := scanSQL_piece (.word rs) hok
  refine ⟨?_, ?_⟩
  · intro hn
    simpa only [Piece.runes, Piece.tok, hn] using h
  · intro k hk
    refine ⟨?_, keywordOf_ne_ident hk, keywordOf_mem _ _ hk⟩
    simpa only [Piece.runes, Piece.tok, hk] using h

/-- **C10.whitespace_irrelevant**: two admissible layouts of the same tokens (different spaces, tabs, line
breaks, comments) scan to the same token list. -/
theorem C10_whitespace_irrelevant (gap gap' : Nat → Gap) (cs : Nat → List Bool) (toks : List Token)
    (htoks : ∀ t ∈ toks, TokOK t = true) (h1 : layoutOK gap cs 0 toks = true)
    (h2 : layoutOK gap' cs 0 toks = true) :
    scanSQL (renderText gap cs toks) = scanSQL (renderText gap' cs toks) := by
  rw [C10_scan_roundtrip gap cs toks htoks h1, C10_scan_roundtrip gap' cs toks htoks h2]

/-- **C10.layout_and_case_irrelevant**: two texts of the same tokens - different layouts, different keyword
cases - parse to the same result. -/
theorem C10_layout_and_case_irrelevant (gap gap' : Nat → Gap) (cs cs' : Nat → List Bool) (toks : List Token)
    (htoks : ∀ t ∈ toks, TokOK t = true) (h1 : layoutOK gap cs 0 toks = true)
    (h2 : layoutOK gap' cs' 0 toks = true) :
    parseSQL (renderText gap cs toks) = parseSQL (renderText gap' cs' toks) := by
  rw [C10_text_parse gap cs toks htoks h1, C10_text_parse gap' cs' toks htoks h2]

/-- **C10.spaced_layout**: well-formed gaps with at least one whitespace rune or comment between any two
tokens are an admissible layout, whatever the tokens. -/
theorem C10_spaced_layout (gap : Nat → Gap) (cs : Nat → List Bool) (toks : List Token)
    (hgap : ∀ i, Gap.ok (gap i) = true) (hsp : ∀ j, 0 < j → j < toks.length → gap j ≠ []) :
    layoutOK gap cs 0 toks = true :=
  layoutOK_of_spaced gap cs toks hgap 0 (fun j h1 h2 => hsp j h1 (by omega))

/-- **C10.string_plain**: an ASCII string without `'`, backslash and line feed is a covered STR token. -/
theorem C10_string_plain (bs : Bytes)
    (h : ∀ b ∈ bs, b.toNat < 128 ∧ b ≠ 39 ∧ b ≠ 92 ∧ b ≠ 10) : TokOK ⟨t_STR, bs⟩ = true := by
  have e1 : (t_STR == t_IDENT) = false := by decide
  have e2 : (t_STR == t_INT) = false := by decide
  simp only [TokOK, e1, e2, beq_self_eq_true, Bool.false_eq_true, ↓reduceIte, Bool.and_eq_true, List.all_eq_true,
    decide_eq_true_eq]
  refine ⟨fun b hb => (h b hb).1, strBodyOK_plain _ ?_ ?_⟩
  · intro r hr
    simp only [List.mem_map] at hr
    obtain ⟨b, hb, rfl⟩ := hr
    obtain ⟨_, h2, h3, h4⟩ := h b hb
    have : ∀ n : Nat, b.toNat = n → b = UInt8.ofNat n := by
      intro n hn; rw [← hn, UInt8.ofNat_toNat]
    simp only [asciiRune_code, Bool.or_eq_false_iff, beq_eq_false_iff_ne]
    exact ⟨⟨fun hh => h2 (this 39 hh), fun hh => h4 (this 10 hh)⟩, fun hh => h3 (this 92 hh)⟩
  · intro b hb
    rw [textOf_bytes] at hb
    exact (h b hb).2.2.1

/-! ## Non-vacuity: concrete texts -/

example : (renderText exGap exCase exToks).map (·.code) =
    strCodes "sElEcT a , COUNT(*) from t\n WHERE a <= 10 AND b != 'x y' GROUP BY a ;" := by
  rw [strCodes_ofList]
  decide +kernel

/-- that text scans to the expected tokens (computed by the model, not through the theorem) ... -/
example : scanSQL (renderText exGap exCase exToks) = .ok [⟨t_SELECT, [115, 69, 108, 69, 99, 84]⟩, ⟨t_IDENT, [97]⟩,
    ⟨t_COMMA, [44]⟩, ⟨t_COUNT, [67, 79, 85, 78, 84]⟩, ⟨t_LPAREN, [40]⟩, ⟨t_ASTRSK, [42]⟩, ⟨t_RPAREN, [41]⟩,
    ⟨t_FROM, [102, 114, 111, 109]⟩, ⟨t_IDENT, [116]⟩, ⟨t_WHERE, [87, 72, 69, 82, 69]⟩, ⟨t_IDENT, [97]⟩, ⟨t_LTE, [60]⟩,
    ⟨t_INT, [49, 48]⟩, ⟨t_AND, [65, 78, 68]⟩, ⟨t_IDENT, [98]⟩, ⟨t_NEQ, [33]⟩, ⟨t_STR, [120, 32, 121]⟩,
    ⟨t_GROUP, [71, 82, 79, 85, 80]⟩, ⟨t_BY, [66, 89]⟩, ⟨t_IDENT, [97]⟩, ⟨t_SEMICOLON, [59]⟩] := by
  rw [scanSQL_eq]
  decide +kernel

/-- ... which is what the theorem says (`scanned`) ... -/
example : scanSQL (renderText exGap exCase exToks) = .ok (scanned exCase 0 exToks) :=
  C10_scan_roundtrip exGap exCase exToks exToks_ok.1 exToks_ok.2

/-- ... and parses to the expected statement: `a` and `COUNT(*)`, `a <= 10 AND b != 'x y'`, `GROUP BY a`. -/
example : parseSQL (renderText exGap exCase exToks) = .ok (.select
    { list := [⟨.expr (.val (.col ⟨[], [97]⟩)), []⟩, ⟨.count none, []⟩],
      from_ := some (.table ⟨[116], none⟩),
      where_ := some (.and ⟨.col ⟨[], [97]⟩, t_LTE, .lit (.int 10)⟩ (.pred ⟨.col ⟨[], [98]⟩, t_NEQ, .lit (.str [120, 32, 121])⟩)),
      groupBy := [⟨[], [97]⟩] }) := by
  rw [parseSQL, scanSQL_eq]
  decide +kernel

example : ToksSim exToks (scanned exCase 0 exToks) := C10_scanned_same_tokens exCase exToks exToks_ok.1

example : parseSQL (renderText exGap exCase exToks) = parseTokens exToks :=
  C10_text_parse exGap exCase exToks exToks_ok.1 exToks_ok.2

example : (renderText exGap2 exCase2 exToks2).map (·.code) = strCodes "/* q */select\tt.a,b//x\r\nfrom t;\r\n" := by
  rw [strCodes_ofList]
  decide +kernel

example : parseSQL (renderText exGap2 exCase2 exToks2) = .ok (.select
    { list := [⟨.expr (.val (.col ⟨[116], [97]⟩)), []⟩, ⟨.expr (.val (.col ⟨[], [98]⟩)), []⟩],
      from_ := some (.table ⟨[116], none⟩) }) := by
  rw [parseSQL, scanSQL_eq]
  decide +kernel

/-- the two layouts / spellings of `exToks2` - the one above and `SELECT t . a , b FROM t ;` - parse alike -/
example : parseSQL (renderText exGap2 exCase2 exToks2) = parseSQL (renderText (fun _ => sp) (fun _ => []) exToks2) :=
  C10_layout_and_case_irrelevant _ _ _ _ exToks2 exToks2_ok.1 exToks2_ok.2
    (C10_spaced_layout _ _ _ (fun _ => rfl) (fun _ _ _ => by simp [sp]))

example : scanSQL (renderText exGap2 exCase2 exToks2) = scanSQL (renderText (fun _ => sp) exCase2 exToks2) :=
  C10_whitespace_irrelevant _ _ _ exToks2 exToks2_ok.1 exToks2_ok.2
    (C10_spaced_layout _ _ _ (fun _ => rfl) (fun _ _ _ => by simp [sp]))

/-- not admissible: two words that touch, `<` `=` that touch, a number and a word starting with `e` -/
example : layoutOK (fun _ => []) (fun _ => []) 0 [⟨t_SELECT, []⟩, ⟨t_IDENT, [97]⟩] = false ∧
    layoutOK (fun _ => []) (fun _ => []) 0 [⟨t_LT, []⟩, ⟨t_EQ, []⟩] = false ∧
    layoutOK (fun _ => []) (fun _ => []) 0 [⟨t_INT, [49]⟩, ⟨t_ELSE, []⟩] = false := by decide +kernel

/-- keywords: `sElEcT` is SELECT; `ſelect` with the long s U+017F - whose Unicode `ToUpper` is `S` - is an
IDENTIFIER (only ASCII letters are folded when a word is looked up as a keyword: repair 3984b79; before
it this word was the keyword SELECT and `lımıt`, `ſet` were LIMIT and SET); `selects` is an identifier -/
example : scanSQL (asciiText "sElEcT") = .ok [⟨t_SELECT, [115, 69, 108, 69, 99, 84]⟩] :=
  C10_keyword_case_insensitive _ (strCodes "SELECT") _ (by decide) (by decide) (by decide)
example : scanSQL ((⟨0x17F, [0xC5, 0xBF], true, false, 83⟩ : Rune) :: asciiText "elect") =
    .ok [⟨t_IDENT, [0xC5, 0xBF, 101, 108, 101, 99, 116]⟩] :=
  (C10_keyword_vs_identifier _ (by decide)).1 (by rw [keywordOf_eq]; decide +kernel)
example : scanSQL (asciiText "selects") = .ok [⟨t_IDENT, [115, 101, 108, 101, 99, 116, 115]⟩] :=
  (C10_keyword_vs_identifier _ (by decide)).1 (by rw [keywordOf_eq]; decide +kernel)
example : scanSQL (asciiText "Int") = .ok [⟨t_T_INT, [73, 110, 116]⟩] :=
  ((C10_keyword_vs_identifier _ (by decide)).2 t_T_INT (by rw [keywordOf_eq]; decide +kernel)).1
example : scanSQL ((spell [true, false, true] [70, 82, 79, 77]).map asciiRune) = .ok [⟨t_FROM, [102, 82, 111, 77]⟩] :=
  C10_keyword_any_case _ _ _ (by decide) (by decide)

/-- strings: a plain body; a body with an escaped quote is covered too and keeps its backslash -/
example : TokOK ⟨t_STR, [120, 32, 121]⟩ = true := C10_string_plain _ (by decide)
example : TokOK ⟨t_STR, [105, 116, 92, 39, 115]⟩ = true ∧
    scanSQL (asciiText "'it\\'s'") = .ok [⟨t_STR, [105, 116, 92, 39, 115]⟩] :=
  ⟨by decide +kernel, by rw [scanSQL_eq, asciiText_ofList]; decide +kernel⟩

/-- pieces: a non-ASCII identifier `é1` and a string with a non-ASCII rune, without blanks around `=` -/
example : scanSQL (renderItems [([], .word [⟨233, [0xC3, 0xA9], true, false, 201⟩, asciiRune 49]), ([], .punct 61),
      ([], .str [⟨233, [0xC3, 0xA9], true, false, 201⟩])] sp) =
    .ok [⟨t_IDENT, [0xC3, 0xA9, 49]⟩, ⟨t_EQ, [61]⟩, ⟨t_STR, [0xC3, 0xA9]⟩] := by
  rw [C10_scan_roundtrip_pieces _ _ (by decide +kernel)]
  simp only [List.map_cons, List.map_nil, Piece.tok, punctTy, keywordOf_eq]
  decide +kernel

/-! ## Texts in customary SQL form that do NOT scan to the intended tokens (known gaps of the scanner) -/

/-- `-5`: there is no negative literal - `-` is a one-character STR token; `a = -5` is a syntax error -/
example : scanSQL (asciiText "a = -5") = .ok [⟨t_IDENT, [97]⟩, ⟨t_EQ, [61]⟩, ⟨t_STR, [45]⟩, ⟨t_INT, [53]⟩] ∧
    (match parseSQL (asciiText "SELECT a FROM t WHERE a = -5") with | .err .syntax => true | _ => false) = true :=
  ⟨by rw [scanSQL_eq, asciiText_ofList]; decide +kernel, by rw [parseSQL, scanSQL_eq]; decide +kernel⟩

/-- `<>` is `<` then `>`; `--` does not start a comment -/
example : scanSQL (asciiText "a <> 5") = .ok [⟨t_IDENT, [97]⟩, ⟨t_LT, [60]⟩, ⟨t_GT, [62]⟩, ⟨t_INT, [53]⟩] ∧
    scanSQL (asciiText "a -- c") = .ok [⟨t_IDENT, [97]⟩, ⟨t_STR, [45]⟩, ⟨t_STR, [45]⟩, ⟨t_IDENT, [99]⟩] :=
  ⟨by rw [scanSQL_eq, asciiText_ofList]; decide +kernel, by rw [scanSQL_eq, asciiText_ofList]; decide +kernel⟩

/-- `1.5` is a STRING token with the text `1.5` (and the statement is accepted) -/
example : scanSQL (asciiText "a = 1.5") = .ok [⟨t_IDENT, [97]⟩, ⟨t_EQ, [61]⟩, ⟨t_STR, [49, 46, 53]⟩] := by
  rw [scanSQL_eq, asciiText_ofList]
  decide +kernel

/-- `''` does not escape a quote: `'it''s'` is two strings -/
example : scanSQL (asciiText "'it''s'") = .ok [⟨t_STR, [105, 116]⟩, ⟨t_STR, [115]⟩] := by
  rw [scanSQL_eq, asciiText_ofList]
  decide +kernel

/-- a number directly followed by a word: `a=1or b=1` is fine, `a=0or b=1` is not (`0o` is read as an octal
prefix, the INT token `0o` fails in `Atoi`) -/
example : scanSQL (asciiText "a=1or b") = .ok [⟨t_IDENT, [97]⟩, ⟨t_EQ, [61]⟩, ⟨t_INT, [49]⟩, ⟨t_OR, [111, 114]⟩, ⟨t_IDENT, [98]⟩] ∧
    scanSQL (asciiText "a=0or b") = .ok [⟨t_IDENT, [97]⟩, ⟨t_EQ, [61]⟩, ⟨t_INT, [48, 111]⟩, ⟨t_IDENT, [114]⟩, ⟨t_IDENT, [98]⟩] :=
  ⟨by rw [scanSQL_eq, asciiText_ofList]; decide +kernel, by rw [scanSQL_eq, asciiText_ofList]; decide +kernel⟩

/-- digit strings: leading zeros are kept in the text (and `Atoi` reads `007` as 7); `1_0` and `0x1F` are INT
tokens too, whose text `Atoi` then refuses -/
example : scanSQL (asciiText "007 1_0 0x1F") = .ok [⟨t_INT, [48, 48, 55]⟩, ⟨t_INT, [49, 95, 48]⟩, ⟨t_INT, [48, 120, 49, 70]⟩] ∧
    (match parseSQL (asciiText "SELECT a FROM t LIMIT 0x1F") with | .err .atoi => true | _ => false) = true :=
  ⟨by rw [scanSQL_eq, asciiText_ofList]; decide +kernel, by rw [parseSQL, scanSQL_eq]; decide +kernel⟩

/-! ## The whole statement as SQL text (scanner + parser + token-level round trip) -/

/-- **C10.text_tokens_covered**: every token of a rendered text-writable statement (`TextOK`) and of its
closing semicolons is a token the text level covers (`TokOK`) - whatever optional spellings `o` chooses
and whatever texts `o.kw` puts on keyword tokens (the text level writes the keyword table's spelling in
the case chosen per occurrence, and the parser never reads that text).  Hypothesis: literals are written
by the standard tokens. -/
theorem C10_text_tokens_covered (o : ROpts) (ho : o.lit = stdLitTok) (s : Stmt) (ht : TextOK s) (k : Nat) :
    ∀ t ∈ renderStmt o s ++ closing o k false, TokOK t = true :=
  renderStmt_tokOK o ho s ht k

/-- **C10.text_roundtrip** - PARSING IS FAITHFUL, the sentence of the property.  For every statement `s`
the grammar can express (`WFStmt`) whose names and strings can be written in plain SQL text (`TextOK`):
writing it as SQL text - the optional keywords and spellings chosen by `o` (AS, INNER, ASC, GROUP BY
commas, LIMIT/OFFSET order, `()`, `SHOW DATABASE` / `SHOW databases`), every keyword occurrence in the
letter case `cs` chooses for it, the tokens separated by the gaps `gap` (spaces, tabs, CR, LF, `/* */`
and `//` comments; nothing where two tokens may touch: `layoutOK`), closed by `k` semicolons - and
parsing that text (`parseSQL`: scanner, then parser) yields exactly `s`.
Hypotheses: `o.lit = stdLitTok` (integers as decimal digits, strings as `'text'`); `closingOK` (behind a
SELECT without FROM the code accepts at most one semicolon); `layoutOK` (decidable; every layout with a
non-empty gap between any two tokens qualifies, see `C10_text_roundtrip_spaced`).
`TextOK` excludes: names needing "delimited identifier" quoting (reserved words, blanks, leading digit,
empty), non-ASCII names and strings, strings with a quote, line feed or a backslash sequence beyond
`strBodyOK`; `WFStmt` excludes negative integers (`-5` is not a token) and shapes the grammar cannot
produce. -/
theorem C10_text_roundtrip (o : ROpts) (ho : o.lit = stdLitTok) (s : Stmt) (hw : WFStmt s) (ht : TextOK s)
    (k : Nat) (hc : closingOK s k false = true) (gap : Nat → Gap) (cs : Nat → List Bool)
    (hlay : layoutOK gap cs 0 (renderStmt o s ++ closing o k false) = true) :
    parseSQL (renderText gap cs (renderStmt o s ++ closing o k false)) = .ok s :=
  parseSQL_renderStmt o ho s hw ht k hc gap cs hlay

/-- **C10.text_roundtrip (any whitespace)**: the same for every layout that puts at least one whitespace
rune or comment between any two tokens (leading and trailing gap optional) - no condition that mentions
the tokens. -/
theorem C10_text_roundtrip_spaced (o : ROpts) (ho : o.lit = stdLitTok) (s : Stmt) (hw : WFStmt s) (ht : TextOK s)
    (k : Nat) (hc : closingOK s k false = true) (gap : Nat → Gap) (cs : Nat → List Bool)
    (hgap : ∀ i, Gap.ok (gap i) = true) (hsp : ∀ j, 0 < j → gap j ≠ []) :
    parseSQL (renderText gap cs (renderStmt o s ++ closing o k false)) = .ok s :=
  C10_text_roundtrip o ho s hw ht k hc gap cs (C10_spaced_layout gap cs _ hgap (fun j h _ => hsp j h))

/-- **C10.text_no_list_cut**: no clause written as text in standard form is cut short - the statement
parsed from the TEXT of `s` has the same select list, GROUP BY list, ORDER BY list, INSERT column list,
VALUES rows (and values in each row), SET assignments and column definitions as `s`: same elements in
the same order, hence the same lengths.  (`C10_no_list_cut` through the scanner; same hypotheses as
`C10_text_roundtrip`.) -/
theorem C10_text_no_list_cut (o : ROpts) (ho : o.lit = stdLitTok) (s : Stmt) (hw : WFStmt s) (ht : TextOK s)
    (k : Nat) (hc : closingOK s k false = true) (gap : Nat → Gap) (cs : Nat → List Bool)
    (hlay : layoutOK gap cs 0 (renderStmt o s ++ closing o k false) = true) :
    (∀ sel, s = .select sel → ∃ sel',
      parseSQL (renderText gap cs (renderStmt o s ++ closing o k false)) = .ok (.select sel') ∧
      sel'.list = sel.list ∧ sel'.groupBy = sel.groupBy ∧ sel'.orderBy = sel.orderBy ∧
      sel'.list.length = sel.list.length ∧ sel'.groupBy.length = sel.groupBy.length ∧
      sel'.orderBy.length = sel.orderBy.length) ∧
    (∀ t cols rows, s = .insert t cols rows → ∃ cols' rows',
      parseSQL (renderText gap cs (renderStmt o s ++ closing o k false)) = .ok (.insert t cols' rows') ∧
      cols' = cols ∧ rows' = rows ∧ rows'.length = rows.length ∧ rows'.map List.length = rows.map List.length) ∧
    (∀ t sets w, s = .update t sets w → ∃ sets',
      parseSQL (renderText gap cs (renderStmt o s ++ closing o k false)) = .ok (.update t sets' w) ∧
      sets' = sets ∧ sets'.length = sets.length) ∧
    (∀ n cols, s = .createTable n cols → ∃ cols',
      parseSQL (renderText gap cs (renderStmt o s ++ closing o k false)) = .ok (.createTable n cols') ∧
      cols' = cols ∧ cols'.length = cols.length) := by
  rw [C10_text_parse gap cs _ (renderStmt_tokOK o ho s ht k) hlay]
  exact C10_no_list_cut o ho s hw k false hc

/-! ### Non-vacuity: the rich statements of `Props/C10.lean` as text -/

example : TextOK c10ExSelect ∧ TextOK c10ExInsert ∧ TextOK c10ExCreate ∧ TextOK c10ExUpdate ∧ TextOK c10TxTightStmt :=
  c10Ex_textOK

example : (renderText c10TxGap c10TxCase (renderStmt {} c10ExCreate ++ closing {} 1 false)).map (·.code) =
    strCodes "cReAtE table t ( a\tINT ,\r\n  b BIGINT ,\tc VARCHAR ( 255\r\n  )\t, d BOOLEAN ) ;\t" := by
  rw [strCodes_ofList]
  decide +kernel

example : (renderText c10TxGap c10TxCase (renderStmt c10ExOpts c10ExInsert ++ closing c10ExOpts 2 false)).map (·.code) =
    strCodes "iNsErT into t ( a\t, b\r\n  ) VALUES (\t1 , 'x' ,\r\n  TRUE\t) , ( 2 ,\t'y'\r\n  , false ) ,\t( ) ;\r\n  ; " := by
  rw [strCodes_ofList]
  decide +kernel

example : ((renderText c10TxGap c10TxCase (renderStmt {} c10ExSelect ++ closing {} 1 false)).take 41).map (·.code) =
    strCodes "sElEcT t . a as\tx ,\r\n  count ( *\t) AS c ," := by
  rw [strCodes_ofList]
  decide +kernel

example :
    parseSQL (renderText c10TxGap c10TxCase (renderStmt {} c10ExSelect ++ closing {} 1 false)) = .ok c10ExSelect ∧
    parseSQL (renderText c10TxGap c10TxCase (renderStmt c10ExOpts c10ExSelect ++ closing c10ExOpts 0 false)) = .ok c10ExSelect ∧
    parseSQL (renderText c10TxGap c10TxCase (renderStmt c10ExOpts c10ExInsert ++ closing c10ExOpts 2 false)) = .ok c10ExInsert ∧
    parseSQL (renderText c10TxGap c10TxCase (renderStmt {} c10ExCreate ++ closing {} 1 false)) = .ok c10ExCreate ∧
    parseSQL (renderText c10TxGap c10TxCase (renderStmt c10ExOpts c10ExUpdate ++ closing c10ExOpts 1 false)) = .ok c10ExUpdate ∧
    parseSQL (renderText c10TxGap c10TxCase (renderStmt c10ExOpts .showDatabases ++ closing c10ExOpts 1 false)) =
      .ok .showDatabases :=
  ⟨C10_text_roundtrip_spaced {} rfl _ (by decide) c10Ex_textOK.1 1 (by decide) _ _ c10TxGap_ok c10TxGap_ne,
   C10_text_roundtrip_spaced c10ExOpts rfl _ (by decide) c10Ex_textOK.1 0 (by decide) _ _ c10TxGap_ok c10TxGap_ne,
   C10_text_roundtrip_spaced c10ExOpts rfl _ (by decide) c10Ex_textOK.2.1 2 (by decide) _ _ c10TxGap_ok c10TxGap_ne,
   C10_text_roundtrip_spaced {} rfl _ (by decide) c10Ex_textOK.2.2.1 1 (by decide) _ _ c10TxGap_ok c10TxGap_ne,
   C10_text_roundtrip_spaced c10ExOpts rfl _ (by decide) c10Ex_textOK.2.2.2.1 1 (by decide) _ _ c10TxGap_ok c10TxGap_ne,
   C10_text_roundtrip_spaced c10ExOpts rfl _ (by decide) (by decide) 1 (by decide) _ _ c10TxGap_ok c10TxGap_ne⟩

/-- the same by evaluation of the scanner and parser models, independent of the round-trip proofs (the
keyword map looked up in `kwTable`: `scanSQL_eq`) -/
example :
    (match parseSQL (renderText c10TxGap c10TxCase (renderStmt c10ExOpts c10ExSelect ++ closing c10ExOpts 0 false)) with
      | .ok s => s == c10ExSelect | _ => false) = true ∧
    (match parseSQL (renderText c10TxGap c10TxCase (renderStmt c10ExOpts c10ExInsert ++ closing c10ExOpts 2 false)) with
      | .ok s => s == c10ExInsert | _ => false) = true ∧
    (match parseSQL (renderText c10TxGap c10TxCase (renderStmt {} c10ExCreate ++ closing {} 1 false)) with
      | .ok s => s == c10ExCreate | _ => false) = true := by
  refine ⟨?_, ?_, ?_⟩
  all_goals rw [parseSQL, scanSQL_eq]; decide +kernel

/-- tokens that touch: `SELECT COUNT(*),t.a FROM t WHERE a<=1 GROUP BY t.a;` is an admissible layout
(through `C10_text_roundtrip` itself, with `layoutOK` decided) -/
example : (renderText c10TxTight (fun _ => []) (renderStmt {} c10TxTightStmt ++ closing {} 1 false)).map (·.code) =
      strCodes "SELECT COUNT(*),t.a FROM t WHERE a<=1 GROUP BY t.a;" ∧
    parseSQL (renderText c10TxTight (fun _ => []) (renderStmt {} c10TxTightStmt ++ closing {} 1 false)) = .ok c10TxTightStmt :=
  ⟨by rw [strCodes_ofList]; decide +kernel,
   C10_text_roundtrip {} rfl _ (by decide) c10Ex_textOK.2.2.2.2 1 (by decide) _ _ (by decide +kernel)⟩

example : ∃ cols' rows', parseSQL (renderText c10TxGap c10TxCase (renderStmt c10ExOpts c10ExInsert ++ closing c10ExOpts 1 false)) =
      .ok (.insert [116] cols' rows') ∧ rows'.length = 3 ∧ rows'.map List.length = [3, 3, 0] := by
  obtain ⟨c, r, h, _, hr, _, _⟩ :=
    (C10_text_no_list_cut c10ExOpts rfl c10ExInsert (by decide) c10Ex_textOK.2.1 1 (by decide) c10TxGap c10TxCase
      (C10_spaced_layout _ _ _ c10TxGap_ok (fun j h _ => c10TxGap_ne j h))).2.1 _ _ _ rfl
  exact ⟨c, r, h, by rw [hr]; rfl, by rw [hr]; rfl⟩

/-- what `TextOK` refuses: a table named `select` / `Order`, a name with a blank, a name starting with a
digit, an empty name, a non-ASCII name; a string with a quote, a line feed, a trailing backslash, a
non-ASCII byte.  (A string with an escaped quote `it\'s` is accepted - and comes back with its backslash.) -/
example : ¬ TextOK (.use [115, 101, 108, 101, 99, 116]) ∧ ¬ TextOK (.use [79, 114, 100, 101, 114]) ∧
    ¬ TextOK (.use [97, 32, 98]) ∧ ¬ TextOK (.use [49, 97]) ∧ ¬ TextOK (.use []) ∧ ¬ TextOK (.use [0xC3, 0xA9]) ∧
    ¬ TextOK (.insert [116] [] [[.str [105, 116, 39, 115]]]) ∧ ¬ TextOK (.insert [116] [] [[.str [97, 10, 98]]]) ∧
    ¬ TextOK (.insert [116] [] [[.str [97, 92]]]) ∧ ¬ TextOK (.insert [116] [] [[.str [0xC3, 0xA9]]]) ∧
    TextOK (.insert [116] [] [[.str [105, 116, 92, 39, 115]]]) := by
  unfold TextOK
  simp only [stmtTextOK, identOK, TokOK, keywordOf_eq]
  decide +kernel

end Mkdb.Sql
