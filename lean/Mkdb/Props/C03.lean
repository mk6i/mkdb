import Mkdb.Proofs.CountersCrashHistories
import Mkdb.Proofs.CrashExamples
import Mkdb.Proofs.CrashRowPrefix
import Mkdb.Proofs.Wal
/-!
# C03 — a crash while a statement is being logged leaves a row-prefix state

Property theorems only.  Quantifier: every list of well-formed records (any number, any values), and
every cut position `n` of the log file - every byte position, not only the boundaries between the
writes `wal.flush` issues.  What is proved is the log-file half of the property: the reader never
sees a later record without the earlier ones, never half a record, never an error, and what is
appended after recovery is read back right behind the surviving prefix.  The storage half follows
(second part of this file, `Mkdb.Store`): after any history of acknowledged statements, a crash that
cuts the append of an INSERT / DELETE / UPDATE after ANY number `k` of its records recovers to a store
that abstracts to a plain-model database in which the statement's table holds one of the row-prefix
states `Spec.rowPrefixStates` lists - the very list the judge of the crash-image runs uses - and
every other table is untouched, with the row-id counter advanced by exactly the rows applied.
Scenario of these theorems: no page of the history reached the data file since `db0` (the append
of a statement's records happens before the flusher can run on its pages; flushes between earlier
statements are the subject of C02/C04).
Third part (`C03_*_byte_cut_*`, `C03_engine_records_well_formed`): the two halves composed through the
concrete bytes of the very records the engine logs - for EVERY byte position of the statement's append,
what `wal.read` (`Wal.readLog`) returns from the cut file is the acknowledged log plus the first `k`
records of the statement, the file it leaves is the file of exactly these records, and replaying them
gives a row-prefix state.  The only added hypotheses are that the three counters of the store the
statement leaves in memory are values of their Go types (`uint64`, `uint64`, `uint32`).
The side conditions `hself` (`PtSelf`: the row the page table holds about itself names a page of the page
table - also after the page table has split and that row is stale) and `hf` (`FreshM`: every page of every
user table is older than the LSN counter) of the storage theorems are invariants of every database a
history reaches from CREATE DATABASE (`C02_side_conditions_hold_in_every_reachable_database`); the
witness `C03_torn_insert_with_a_split_page_table` is a database with eight tables.
-/
namespace Mkdb.Wal

/-- **C03.roundtrip**: every log the writer produces is read back completely and is not flagged torn. -/
theorem C03_roundtrip (rs : List Rec) (h : ∀ r ∈ rs, r.wf) :
    readLog (encodeLog rs) = .ok rs (encodeLog rs).length false := readLog_encodeLog rs h

/-- **C03.cut_is_prefix**: reading the first `n` bytes of a log - a crash at any point of the append -
yields exactly the records whose frames lie completely inside those bytes: a prefix `rs.take k` of
what was written, with `k` maximal, no partial record and no error; the tail is flagged torn exactly
when the cut is inside a frame. -/
theorem C03_cut_is_prefix (rs : List Rec) (h : ∀ r ∈ rs, r.wf) (n : Nat) :
    ∃ k torn, k ≤ rs.length ∧
      readLog ((encodeLog rs).take n) = .ok (rs.take k) (encodeLog (rs.take k)).length torn ∧
      (encodeLog (rs.take k)).length ≤ n ∧
      (k < rs.length → n < (encodeLog (rs.take (k+1))).length) ∧
      (torn = true ↔ (encodeLog (rs.take k)).length < min n (encodeLog rs).length) :=
  readLog_take rs h n

/-- **C03.append_after_cut**: after the reader has cut the torn tail off, whatever later statements
append is read back right behind the surviving prefix - statements issued after the recovery are
not lost behind garbage. -/
theorem C03_append_after_cut (rs more : List Rec) (h : ∀ r ∈ rs, r.wf) (h' : ∀ r ∈ more, r.wf) (n : Nat) :
    ∃ k, k ≤ rs.length ∧
      readLog (afterRead ((encodeLog rs).take n) ++ encodeLog more) =
        .ok (rs.take k ++ more) (encodeLog (rs.take k ++ more)).length false :=
  append_after_cut rs more h h' n

/-- non-vacuity: a two-record log cut in the middle of its second record -/
example : (⟨1, 7, 3, 2, [0xAA, 0xBB]⟩ : Rec).wf ∧
    readLog ((encodeLog [⟨1, 7, 3, 2, [0xAA, 0xBB]⟩, ⟨2, 8, 4, 0, []⟩]).take 40) = .ok [⟨1, 7, 3, 2, [0xAA, 0xBB]⟩] 31 true := by
  unfold Rec.wf; decide +kernel

end Mkdb.Wal

namespace Mkdb.Store
open Mkdb.Engine Mkdb.Tree Mkdb.Page Mkdb.Tuple Mkdb.Generated

/-- **C03.insert_crash_leaves_row_prefix**: after a history of acknowledged statements (`SpecRun`), a
multi-row INSERT ran in memory and the crash cut the append of its records after `k` of them, for
ANY `k` (an INSERT that moves the root of its table logs two records for that row; a cut between them
is covered: the INSERT record alone re-points the catalog).  Recovery ends without error in a store
that abstracts to a plain database where the table holds its rows before the statement plus the
first `j` new rows - never a later row without an earlier one, never half a row - every other table
is as before, and the row-id counter is the one before the statement plus `j`. -/
theorem C03_insert_crash_leaves_row_prefix (sch : Levels) {db0 dbN : Engine.DB} {sdb0 sdbN : Spec.SDB}
    {stmts : List EStmt} (run : SpecRun sch db0 sdb0 stmts dbN sdbN) (hwal : db0.wal = [])
    (pt : Levels) (tbls : List (Bytes × Levels)) (hA : AbsV db0.store pt sch tbls sdb0)
    (hself : PtSelf pt) (hf : FreshM db0.store tbls)
    (table : Bytes) (cols : List Bytes) (lrows : List (List Sql.Lit))
    (hvalid : ∀ r ∈ lrows.map (fun r => r.map Spec.litVal), ∀ v ∈ r, ValidVal v) (sdbC : Spec.SDB)
    (hspec : Spec.specInsert sdbN table cols (lrows.map fun r => r.map Spec.litVal) = some sdbC)
    (hrunok : ∀ pt tbls t schema, AbsV dbN.store pt sch tbls sdbN → (table, t) ∈ tbls →
      schemaOf sch table = some schema →
      InsRunOK schema (cols.map Engine.bytesToName) t dbN.store.hdr.lastKey dbN.store.hdr.nextLSN
        dbN.store.hdr.nextFree (lrows.map fun r => r.map Spec.litVal))
    (n : Nat) (dbC : Engine.DB)
    (heval : Engine.evalInsert dbN table cols (lrows.map fun r => r.map Spec.litVal) = .ok n dbC) (k : Nat) :
    ∃ rK ptR tblsK sdbK stK j,
      replayAll (dbN.wal ++ (dbC.wal.drop dbN.wal.length).take k) db0.store = (rK, none, false) ∧
      AbsV rK ptR sch tblsK sdbK ∧
      Spec.findTable sdbK table = some stK ∧
      (table, stK.rows.map (·.vals)) ∈ Spec.rowPrefixStates sdbN (.insert table cols lrows) ∧
      (∀ n, n ≠ table → Spec.findTable sdbK n = Spec.findTable sdbN n) ∧
      j ≤ lrows.length ∧ rK.hdr.lastKey = dbN.store.hdr.lastKey + j :=
  insert_crash_rowPrefixState sch run hwal pt tbls hA hself hf table cols lrows hvalid sdbC hspec hrunok n dbC heval k

/-- **C03.delete_crash_leaves_row_prefix**: likewise for DELETE - the first `min k (selected rows)`
selected rows are gone, in the order the statement deleted them. -/
theorem C03_delete_crash_leaves_row_prefix (sch : Levels) {db0 dbN : Engine.DB} {sdb0 sdbN : Spec.SDB}
    {stmts : List EStmt} (run : SpecRun sch db0 sdb0 stmts dbN sdbN) (hwal : db0.wal = [])
    (pt : Levels) (tbls : List (Bytes × Levels)) (hA : AbsV db0.store pt sch tbls sdb0)
    (hself : PtSelf pt) (hf : FreshM db0.store tbls)
    (table : Bytes) (w : Option Sql.Cond) (sdbC : Spec.SDB)
    (hspec : Spec.specDelete sdbN table w = some sdbC)
    (n : Nat) (dbC : Engine.DB) (heval : Engine.evalDelete dbN table w = .ok n dbC) (k : Nat) :
    ∃ rK ptK tblsK sdbK stK,
      replayAll (dbN.wal ++ (dbC.wal.drop dbN.wal.length).take k) db0.store = (rK, none, false) ∧
      AbsV rK ptK sch tblsK sdbK ∧
      Spec.findTable sdbK table = some stK ∧
      (table, stK.rows.map (·.vals)) ∈ Spec.rowPrefixStates sdbN (.delete table w) ∧
      (∀ n, n ≠ table → Spec.findTable sdbK n = Spec.findTable sdbN n) ∧
      rK.hdr.lastKey = dbN.store.hdr.lastKey ∧ rK.hdr.nextFree = dbN.store.hdr.nextFree :=
  delete_crash_rowPrefixState sch run hwal pt tbls hA hself hf table w sdbC hspec n dbC heval k

/-- **C03.update_crash_leaves_row_prefix**: likewise for UPDATE - the first `min k (selected rows)`
selected rows are rewritten, the others are as before. -/
theorem C03_update_crash_leaves_row_prefix (sch : Levels) {db0 dbN : Engine.DB} {sdb0 sdbN : Spec.SDB}
    {stmts : List EStmt} (run : SpecRun sch db0 sdb0 stmts dbN sdbN) (hwal : db0.wal = [])
    (pt : Levels) (tbls : List (Bytes × Levels)) (hA : AbsV db0.store pt sch tbls sdb0)
    (hself : PtSelf pt) (hf : FreshM db0.store tbls)
    (table : Bytes) (sets : List (Bytes × Sql.VExpr)) (w : Option Sql.Cond)
    (hvalid : ∀ p ∈ sets, ∀ l, p.2 = .lit l → ValidVal (Engine.litToVal l)) (sdbC : Spec.SDB)
    (hspec : Spec.specUpdate sdbN table sets w = some sdbC)
    (dbC : Engine.DB) (heval : Engine.evalUpdate dbN table sets w = .ok () dbC) (k : Nat) :
    ∃ rK ptK tblsK sdbK stK,
      replayAll (dbN.wal ++ (dbC.wal.drop dbN.wal.length).take k) db0.store = (rK, none, false) ∧
      AbsV rK ptK sch tblsK sdbK ∧
      Spec.findTable sdbK table = some stK ∧
      (table, stK.rows.map (·.vals)) ∈ Spec.rowPrefixStates sdbN (.update table sets w) ∧
      (∀ n, n ≠ table → Spec.findTable sdbK n = Spec.findTable sdbN n) ∧
      rK.hdr.lastKey = dbN.store.hdr.lastKey ∧ rK.hdr.nextFree = dbN.store.hdr.nextFree :=
  update_crash_rowPrefixState sch run hwal pt tbls hA hself hf table sets w hvalid sdbC hspec dbC heval k

/-- **C03.log_cut_is_statement_prefix** (storage level, any mix of row operations over several
tables): replaying the first `k` records of what a live run logged reproduces the live state after a
prefix of the row operations, page for page on every table and `sys_schema`; the only cut that is not
a row boundary - between the two records of an insert that moved a root - yields the state AFTER that
row with one leaf of the page table carrying an older LSN stamp (`PtRestamp`). -/
theorem C03_log_cut_is_statement_prefix (sch : Levels) {s0 sN : Store} {tbls tblsN : List (Bytes × Levels)}
    {stmts : List RStmt} {logs : List WalRec} (run : LiveRunM sch s0 tbls stmts sN tblsN logs)
    (pt : Levels) (h : Cat s0 pt sch tbls) (hself : PtSelf pt) (hf : FreshM s0 tbls)
    (k : Nat) (hk : k ≤ logs.length) :
    ∃ j sK tblsK logsK ptK ptR rK,
      j ≤ stmts.length ∧
      LiveRunM sch s0 tbls (stmts.take j) sK tblsK logsK ∧
      replayAll (logs.take k) s0 = (rK, none, false) ∧
      Cat sK ptK sch tblsK ∧ Cat rK ptR sch tblsK ∧
      (∀ x ∈ sch :: tblsK.map (·.2), ∀ o ∈ offs x, view rK o = view sK o) ∧
      rK.hdr.nextFree = sK.hdr.nextFree ∧ rK.hdr.lastKey = sK.hdr.lastKey ∧
      rK.hdr.ptRoot = sK.hdr.ptRoot ∧ rK.hdr.nextLSN ≤ sK.hdr.nextLSN ∧
      ((logsK = logs.take k ∧ ptR = ptK ∧ ∀ o ∈ offs ptK, view rK o = view sK o) ∨
       (logsK = logs.take (k + 1) ∧ k + 1 ≤ logs.length ∧ PtRestamp ptR ptK ∧
         ∃ table cols vals, (stmts.take j).getLast? = some (.ins table cols vals))) :=
  replay_prefix sch run pt h hself hf k hk

/-- **C03.torn_insert_with_a_split_page_table** (witness with a split page table; every
state is an output of the model).  `db8` is the database after `CREATE DATABASE` and
eight `CREATE TABLE tN (a INT)`: checkpointed, its page table has split and the row the page table holds
about itself is stale (`¬ PtSelfRoot`).  The append of the ten log records of `INSERT INTO t1 VALUES (1),
…, (9)` (`db9.wal`: nine INSERT records, then the UPDATE record of the catalog row, because the ninth
row moved the root of `t1`) is cut after ANY number `k` of records.  The surviving records replayed on
the store before the statement end without error in a store that abstracts to a plain database where
`t1` holds a row prefix `(1), …, (j)` - a state `Spec.rowPrefixStates` lists - every other table is
untouched and the row-id counter advanced by `j`.  For `k = 9` the INSERT record that moved the root has
survived without its catalog record: the replay itself re-points the catalog row of `t1`, found by its
old offset in a page table that also holds the stale row `(sys_pages, 4096)`. -/
theorem C03_torn_insert_with_a_split_page_table (k : Nat) : ∃ sch8 pt8 tbls8,
    Ckpt sch8 db8 sdb8 pt8 tbls8 ∧ ¬ PtSelfRoot pt8 ∧
    ∃ rK ptR tblsK sdbK stK j,
      replayAll (db9.wal.take k) db8.store = (rK, none, false) ∧
      AbsV rK ptR sch8 tblsK sdbK ∧
      Spec.findTable sdbK [116, 49] = some stK ∧
      (([116, 49] : Bytes), stK.rows.map (·.vals)) ∈ Spec.rowPrefixStates sdb8 (.insert [116, 49] [] lrows9) ∧
      (∀ n, n ≠ ([116, 49] : Bytes) → Spec.findTable sdbK n = Spec.findTable sdb8 n) ∧
      j ≤ 9 ∧ rK.hdr.lastKey = db8.store.hdr.lastKey + j :=
  split_page_table_torn_insert k

end Mkdb.Store

/-! ## the two halves composed: a cut at any byte of the statement's append -/

namespace Mkdb.Store
open Mkdb.Engine Mkdb.Tree Mkdb.Page Mkdb.Tuple Mkdb.Generated

/-- **C03.engine_records_well_formed**: after a history of acknowledged statements (`SpecRun`) from a
database with an empty log and one more accepted statement `e` (INSERT, DELETE or UPDATE, `step`), the
log is the log before the statement followed by the statement's records, and every record in it,
converted field by field to a record of the log file (`toRec`), fits the wire types of `WALEntry`
(`Wal.Rec.wf`: op < 256, lsn < 2^64, page < 2^64, cell < 2^32, value shorter than 2^32 - 25).
Hypotheses: the LSN counter, the allocation frontier and the row-id counter of the store the statement
leaves are values of their Go types (`_nextLSN uint64`, `nextFreeOffset uint64`, `lastKey uint32`) -
this excludes only a wrap-around of these counters, which the model (natural numbers) does not have.
Values need no hypothesis: they passed the size check (`maxValueSize` = 400). -/
theorem C03_engine_records_well_formed (sch : Levels) {db0 dbN dbC : Engine.DB} {sdb0 sdbN sdbC : Spec.SDB}
    {stmts : List EStmt} {e : EStmt}
    (run : SpecRun sch db0 sdb0 stmts dbN sdbN) (step : SpecRun sch dbN sdbN [e] dbC sdbC)
    (hwal : db0.wal = [])
    (pt : Levels) (tbls : List (Bytes × Levels)) (hA : AbsV db0.store pt sch tbls sdb0)
    (hlsn : dbC.store.hdr.nextLSN < 2 ^ 64) (hnf : dbC.store.hdr.nextFree < 2 ^ 64)
    (hlk : dbC.store.hdr.lastKey < 2 ^ 32) :
    dbC.wal = dbN.wal ++ dbC.wal.drop dbN.wal.length ∧ ∀ r ∈ dbC.wal, (toRec r).wf :=
  stmt_wal_wf sch run step hwal pt tbls hA (Nat.le_of_lt hlsn) (Nat.le_of_lt hnf) hlk

/-- **C03.insert_byte_cut_leaves_row_prefix**: hypotheses of `C03_insert_crash_leaves_row_prefix`, and
the three counters of the store the INSERT leaves in memory are values of their Go types.  `walFile l`
is the log file holding the records `l` (`Wal.encodeLog` of their `toRec`); the crash leaves of the
file `walFile dbC.wal` the bytes of the acknowledged log `walFile dbN.wal` and the first `cut` bytes of
what the statement appended - for EVERY `cut`, also inside a length prefix or a record body, or beyond
the end.  Then all records are well formed and there is a `k` (the one of `C03_cut_is_prefix`: the first
`k` frames of the statement lie inside the `cut` bytes, the next one does not) such that
* `wal.read` returns exactly the acknowledged records followed by the first `k` records of the
  statement, flagged torn exactly when the cut is inside a frame;
* the file the reader leaves after truncating the torn tail is exactly the file of these records, so
  that anything appended later (`more`: the records of statements issued after the recovery) is read
  back right behind them;
* replaying these records on the store the history started from gives a row-prefix state: the
  conclusion of `C03_insert_crash_leaves_row_prefix`, verbatim, for this `k`. -/
theorem C03_insert_byte_cut_leaves_row_prefix (sch : Levels) {db0 dbN : Engine.DB} {sdb0 sdbN : Spec.SDB}
    {stmts : List EStmt} (run : SpecRun sch db0 sdb0 stmts dbN sdbN) (hwal : db0.wal = [])
    (pt : Levels) (tbls : List (Bytes × Levels)) (hA : AbsV db0.store pt sch tbls sdb0)
    (hself : PtSelf pt) (hf : FreshM db0.store tbls)
    (table : Bytes) (cols : List Bytes) (lrows : List (List Sql.Lit))
    (hvalid : ∀ r ∈ lrows.map (fun r => r.map Spec.litVal), ∀ v ∈ r, ValidVal v) (sdbC : Spec.SDB)
    (hspec : Spec.specInsert sdbN table cols (lrows.map fun r => r.map Spec.litVal) = some sdbC)
    (hrunok : ∀ pt tbls t schema, AbsV dbN.store pt sch tbls sdbN → (table, t) ∈ tbls →
      schemaOf sch table = some schema →
      InsRunOK schema (cols.map Engine.bytesToName) t dbN.store.hdr.lastKey dbN.store.hdr.nextLSN
        dbN.store.hdr.nextFree (lrows.map fun r => r.map Spec.litVal))
    (n : Nat) (dbC : Engine.DB)
    (heval : Engine.evalInsert dbN table cols (lrows.map fun r => r.map Spec.litVal) = .ok n dbC)
    (hlsn : dbC.store.hdr.nextLSN < 2 ^ 64) (hnf : dbC.store.hdr.nextFree < 2 ^ 64)
    (hlk : dbC.store.hdr.lastKey < 2 ^ 32) (cut : Nat) :
    (∀ r ∈ dbC.wal, (toRec r).wf) ∧
    ∃ k torn,
      (k ≤ (dbC.wal.drop dbN.wal.length).length ∧
       Wal.readLog ((walFile dbC.wal).take ((walFile dbN.wal).length + cut))
         = .ok ((dbN.wal ++ (dbC.wal.drop dbN.wal.length).take k).map toRec)
             (walFile (dbN.wal ++ (dbC.wal.drop dbN.wal.length).take k)).length torn ∧
       (walFile ((dbC.wal.drop dbN.wal.length).take k)).length ≤ cut ∧
       (k < (dbC.wal.drop dbN.wal.length).length →
         cut < (walFile ((dbC.wal.drop dbN.wal.length).take (k+1))).length) ∧
       (torn = true ↔ (walFile ((dbC.wal.drop dbN.wal.length).take k)).length <
         min cut (walFile (dbC.wal.drop dbN.wal.length)).length) ∧
       Wal.afterRead ((walFile dbC.wal).take ((walFile dbN.wal).length + cut))
         = walFile (dbN.wal ++ (dbC.wal.drop dbN.wal.length).take k) ∧
       ∀ more : List Wal.Rec, (∀ r ∈ more, r.wf) →
         Wal.readLog (Wal.afterRead ((walFile dbC.wal).take ((walFile dbN.wal).length + cut)) ++
             Wal.encodeLog more)
           = .ok ((dbN.wal ++ (dbC.wal.drop dbN.wal.length).take k).map toRec ++ more)
               (Wal.encodeLog ((dbN.wal ++ (dbC.wal.drop dbN.wal.length).take k).map toRec ++ more)).length
               false) ∧
      ∃ rK ptR tblsK sdbK stK j,
        replayAll (dbN.wal ++ (dbC.wal.drop dbN.wal.length).take k) db0.store = (rK, none, false) ∧
        AbsV rK ptR sch tblsK sdbK ∧
        Spec.findTable sdbK table = some stK ∧
        (table, stK.rows.map (·.vals)) ∈ Spec.rowPrefixStates sdbN (.insert table cols lrows) ∧
        (∀ n, n ≠ table → Spec.findTable sdbK n = Spec.findTable sdbN n) ∧
        j ≤ lrows.length ∧ rK.hdr.lastKey = dbN.store.hdr.lastKey + j :=
  have ⟨hwf, k, torn, hcut⟩ := stmt_byte_cut sch run (.insert table cols _ hvalid hspec hrunok heval (.nil dbC sdbC))
    hwal pt tbls hA (Nat.le_of_lt hlsn) (Nat.le_of_lt hnf) hlk cut
  ⟨hwf, k, torn, hcut,
    insert_crash_rowPrefixState sch run hwal pt tbls hA hself hf table cols lrows hvalid sdbC hspec hrunok n dbC heval k⟩

/-- non-vacuity, on the database the model computes for `CREATE DATABASE; CREATE TABLE t (a INT)`
(`tableDB`): `INSERT INTO t VALUES (5), (6)` logs two records of 34 bytes; the file cut after 54 bytes
(16 bytes into the 30-byte body of the second record) is read as the first record, torn, and truncated
to it; replaying it gives the table with exactly the row `(5)` (`sdbA5`), row-id counter 11 -/
example : ∃ db1 rK ptR tblsK,
    Engine.evalInsert tableDB tname [] [[.int 5], [.int 6]] = .ok 2 db1 ∧
    db1.wal = [recT1, recT2] ∧ (walFile db1.wal).length = 68 ∧
    (∀ r ∈ db1.wal, (toRec r).wf) ∧
    ByteCut tableDB.wal db1.wal 54 1 true ∧
    Wal.readLog ((walFile db1.wal).take 54) = .ok [toRec recT1] 34 true ∧
    Wal.afterRead ((walFile db1.wal).take 54) = walFile [recT1] ∧
    replayAll [recT1] tableDB.store = (rK, none, false) ∧
    AbsV rK ptR schT tblsK sdbA5 ∧ rK.hdr.lastKey = 11 := byte_cut_example

/-- **C03.delete_byte_cut_leaves_row_prefix**: likewise for DELETE, with the hypotheses and the
conclusion of `C03_delete_crash_leaves_row_prefix`. -/
theorem C03_delete_byte_cut_leaves_row_prefix (sch : Levels) {db0 dbN : Engine.DB} {sdb0 sdbN : Spec.SDB}
    {stmts : List EStmt} (run : SpecRun sch db0 sdb0 stmts dbN sdbN) (hwal : db0.wal = [])
    (pt : Levels) (tbls : List (Bytes × Levels)) (hA : AbsV db0.store pt sch tbls sdb0)
    (hself : PtSelf pt) (hf : FreshM db0.store tbls)
    (table : Bytes) (w : Option Sql.Cond) (sdbC : Spec.SDB)
    (hspec : Spec.specDelete sdbN table w = some sdbC)
    (n : Nat) (dbC : Engine.DB) (heval : Engine.evalDelete dbN table w = .ok n dbC)
    (hlsn : dbC.store.hdr.nextLSN < 2 ^ 64) (hnf : dbC.store.hdr.nextFree < 2 ^ 64)
    (hlk : dbC.store.hdr.lastKey < 2 ^ 32) (cut : Nat) :
    (∀ r ∈ dbC.wal, (toRec r).wf) ∧
    ∃ k torn,
      (k ≤ (dbC.wal.drop dbN.wal.length).length ∧
       Wal.readLog ((walFile dbC.wal).take ((walFile dbN.wal).length + cut))
         = .ok ((dbN.wal ++ (dbC.wal.drop dbN.wal.length).take k).map toRec)
             (walFile (dbN.wal ++ (dbC.wal.drop dbN.wal.length).take k)).length torn ∧
       (walFile ((dbC.wal.drop dbN.wal.length).take k)).length ≤ cut ∧
       (k < (dbC.wal.drop dbN.wal.length).length →
         cut < (walFile ((dbC.wal.drop dbN.wal.length).take (k+1))).length) ∧
       (torn = true ↔ (walFile ((dbC.wal.drop dbN.wal.length).take k)).length <
         min cut (walFile (dbC.wal.drop dbN.wal.length)).length) ∧
       Wal.afterRead ((walFile dbC.wal).take ((walFile dbN.wal).length + cut))
         = walFile (dbN.wal ++ (dbC.wal.drop dbN.wal.length).take k) ∧
       ∀ more : List Wal.Rec, (∀ r ∈ more, r.wf) →
         Wal.readLog (Wal.afterRead ((walFile dbC.wal).take ((walFile dbN.wal).length + cut)) ++
             Wal.encodeLog more)
           = .ok ((dbN.wal ++ (dbC.wal.drop dbN.wal.length).take k).map toRec ++ more)
               (Wal.encodeLog ((dbN.wal ++ (dbC.wal.drop dbN.wal.length).take k).map toRec ++ more)).length
               false) ∧
      ∃ rK ptK tblsK sdbK stK,
        replayAll (dbN.wal ++ (dbC.wal.drop dbN.wal.length).take k) db0.store = (rK, none, false) ∧
        AbsV rK ptK sch tblsK sdbK ∧
        Spec.findTable sdbK table = some stK ∧
        (table, stK.rows.map (·.vals)) ∈ Spec.rowPrefixStates sdbN (.delete table w) ∧
        (∀ n, n ≠ table → Spec.findTable sdbK n = Spec.findTable sdbN n) ∧
        rK.hdr.lastKey = dbN.store.hdr.lastKey ∧ rK.hdr.nextFree = dbN.store.hdr.nextFree :=
  have ⟨hwf, k, torn, hcut⟩ := stmt_byte_cut sch run (.delete table w hspec heval (.nil dbC sdbC))
    hwal pt tbls hA (Nat.le_of_lt hlsn) (Nat.le_of_lt hnf) hlk cut
  ⟨hwf, k, torn, hcut, delete_crash_rowPrefixState sch run hwal pt tbls hA hself hf table w sdbC hspec n dbC heval k⟩

/-- non-vacuity: on `tableDB`, after the acknowledged `INSERT INTO t VALUES (5), (6)` and
`UPDATE t SET a = 7 WHERE a = 5` (three records), `DELETE FROM t WHERE a = 6` appends one record of 29
bytes; position 40 behind the history is beyond the end: all four records are read, not torn -/
example : ∃ db2 db3,
    SpecRun schT tableDB sdbA0 [.insert tname [] [[.int 5], [.int 6]],
      .update tname [([97], .lit (.int 7))] (some (condEq 5))] db2 sdbA2 ∧
    Engine.evalDelete db2 tname (some (condEq 6)) = .ok 1 db3 ∧
    db2.wal = [recT1, recT2, recT3] ∧ db3.wal = [recT1, recT2, recT3, recT4] ∧
    (∀ r ∈ db3.wal, (toRec r).wf) ∧
    ByteCut db2.wal db3.wal 40 1 false ∧
    ∃ rK ptK tblsK sdbK stK,
      replayAll [recT1, recT2, recT3, recT4] tableDB.store = (rK, none, false) ∧
      AbsV rK ptK schT tblsK sdbK ∧
      Spec.findTable sdbK tname = some stK ∧
      (tname, stK.rows.map (·.vals)) ∈ Spec.rowPrefixStates sdbA2 (.delete tname (some (condEq 6))) :=
  delete_byte_cut_example

/-- **C03.update_byte_cut_leaves_row_prefix**: likewise for UPDATE, with the hypotheses and the
conclusion of `C03_update_crash_leaves_row_prefix`. -/
theorem C03_update_byte_cut_leaves_row_prefix (sch : Levels) {db0 dbN : Engine.DB} {sdb0 sdbN : Spec.SDB}
    {stmts : List EStmt} (run : SpecRun sch db0 sdb0 stmts dbN sdbN) (hwal : db0.wal = [])
    (pt : Levels) (tbls : List (Bytes × Levels)) (hA : AbsV db0.store pt sch tbls sdb0)
    (hself : PtSelf pt) (hf : FreshM db0.store tbls)
    (table : Bytes) (sets : List (Bytes × Sql.VExpr)) (w : Option Sql.Cond)
    (hvalid : ∀ p ∈ sets, ∀ l, p.2 = .lit l → ValidVal (Engine.litToVal l)) (sdbC : Spec.SDB)
    (hspec : Spec.specUpdate sdbN table sets w = some sdbC)
    (dbC : Engine.DB) (heval : Engine.evalUpdate dbN table sets w = .ok () dbC)
    (hlsn : dbC.store.hdr.nextLSN < 2 ^ 64) (hnf : dbC.store.hdr.nextFree < 2 ^ 64)
    (hlk : dbC.store.hdr.lastKey < 2 ^ 32) (cut : Nat) :
    (∀ r ∈ dbC.wal, (toRec r).wf) ∧
    ∃ k torn,
      (k ≤ (dbC.wal.drop dbN.wal.length).length ∧
       Wal.readLog ((walFile dbC.wal).take ((walFile dbN.wal).length + cut))
         = .ok ((dbN.wal ++ (dbC.wal.drop dbN.wal.length).take k).map toRec)
             (walFile (dbN.wal ++ (dbC.wal.drop dbN.wal.length).take k)).length torn ∧
       (walFile ((dbC.wal.drop dbN.wal.length).take k)).length ≤ cut ∧
       (k < (dbC.wal.drop dbN.wal.length).length →
         cut < (walFile ((dbC.wal.drop dbN.wal.length).take (k+1))).length) ∧
       (torn = true ↔ (walFile ((dbC.wal.drop dbN.wal.length).take k)).length <
         min cut (walFile (dbC.wal.drop dbN.wal.length)).length) ∧
       Wal.afterRead ((walFile dbC.wal).take ((walFile dbN.wal).length + cut))
         = walFile (dbN.wal ++ (dbC.wal.drop dbN.wal.length).take k) ∧
       ∀ more : List Wal.Rec, (∀ r ∈ more, r.wf) →
         Wal.readLog (Wal.afterRead ((walFile dbC.wal).take ((walFile dbN.wal).length + cut)) ++
             Wal.encodeLog more)
           = .ok ((dbN.wal ++ (dbC.wal.drop dbN.wal.length).take k).map toRec ++ more)
               (Wal.encodeLog ((dbN.wal ++ (dbC.wal.drop dbN.wal.length).take k).map toRec ++ more)).length
               false) ∧
      ∃ rK ptK tblsK sdbK stK,
        replayAll (dbN.wal ++ (dbC.wal.drop dbN.wal.length).take k) db0.store = (rK, none, false) ∧
        AbsV rK ptK sch tblsK sdbK ∧
        Spec.findTable sdbK table = some stK ∧
        (table, stK.rows.map (·.vals)) ∈ Spec.rowPrefixStates sdbN (.update table sets w) ∧
        (∀ n, n ≠ table → Spec.findTable sdbK n = Spec.findTable sdbN n) ∧
        rK.hdr.lastKey = dbN.store.hdr.lastKey ∧ rK.hdr.nextFree = dbN.store.hdr.nextFree :=
  have ⟨hwf, k, torn, hcut⟩ := stmt_byte_cut sch run (.update table sets w hvalid hspec heval (.nil dbC sdbC))
    hwal pt tbls hA (Nat.le_of_lt hlsn) (Nat.le_of_lt hnf) hlk cut
  ⟨hwf, k, torn, hcut,
    update_crash_rowPrefixState sch run hwal pt tbls hA hself hf table sets w hvalid sdbC hspec dbC heval k⟩

/-- non-vacuity: on `tableDB`, after the acknowledged `INSERT INTO t VALUES (5), (6)` (two records, 68
bytes), `UPDATE t SET a = 7 WHERE a = 5` appends one record of 34 bytes; the file cut 20 bytes into it
is read as the two records of the history, torn; replaying them gives a row-prefix state of the UPDATE
(no row rewritten), row-id counter 12 -/
example : ∃ db1 db2,
    SpecRun schT tableDB sdbA0 [.insert tname [] [[.int 5], [.int 6]]] db1 sdbA1 ∧
    Engine.evalUpdate db1 tname [([97], .lit (.int 7))] (some (condEq 5)) = .ok () db2 ∧
    db1.wal = [recT1, recT2] ∧ db2.wal = [recT1, recT2, recT3] ∧
    (∀ r ∈ db2.wal, (toRec r).wf) ∧
    ByteCut db1.wal db2.wal 20 0 true ∧
    ∃ rK ptK tblsK sdbK stK,
      replayAll [recT1, recT2] tableDB.store = (rK, none, false) ∧
      AbsV rK ptK schT tblsK sdbK ∧
      Spec.findTable sdbK tname = some stK ∧
      (tname, stK.rows.map (·.vals)) ∈
        Spec.rowPrefixStates sdbA1 (.update tname [([97], .lit (.int 7))] (some (condEq 5))) ∧
      rK.hdr.lastKey = 12 := update_byte_cut_example

/-- non-vacuity of `C03_engine_records_well_formed`: the history INSERT, then the UPDATE, on `tableDB` -/
example : ∃ db1 db2,
    SpecRun schT tableDB sdbA0 [.insert tname [] [[.int 5], [.int 6]]] db1 sdbA1 ∧
    SpecRun schT db1 sdbA1 [.update tname [([97], .lit (.int 7))] (some (condEq 5))] db2 sdbA2 ∧
    db2.store.hdr = ⟨12, 4096, 16384, 13⟩ ∧ db2.wal.map toRec = [toRec recT1, toRec recT2, toRec recT3] := by
  obtain ⟨db1, db2, _, run1, e2, _, _, _, hw2, hh2, _⟩ := historyT
  exact ⟨db1, db2, run1, .update _ _ _ set7_valid specA2 e2 (.nil db2 sdbA2), hh2, by rw [hw2]; rfl⟩

end Mkdb.Store

/-! ## the range hypotheses discharged by the length of the history -/

namespace Mkdb.Store
open Mkdb.Engine Mkdb.Tree Mkdb.Page Mkdb.Tuple Mkdb.Generated

/-- **C03.engine_records_well_formed_below_the_wrap**: `C03_engine_records_well_formed` with its three range
hypotheses (`nextLSN < 2^64`, `nextFree < 2^64`, `lastKey < 2^32` in the store the statement leaves) replaced
by a bound on the history: the database `db0` the acknowledged statements start from is reached from CREATE
DATABASE by ANY history `Hist newDB w db0` (statements accepted or refused, CREATE TABLEs, flushes, crashes
and recoveries; `C02_counters_after_any_history`), and the total work of that history plus the number of
records the acknowledged statements and the last one logged is at most `2^32 - 9` (`maxRows`; the bound
under which no counter has wrapped, `C02_counters_fit_their_go_types`).  Then every record of the log fits the
wire types of `WALEntry`. -/
theorem C03_engine_records_well_formed_below_the_wrap (sch : Levels) {db0 dbN dbC : Engine.DB}
    {sdb0 sdbN sdbC : Spec.SDB} {stmts : List EStmt} {e : EStmt} {w : Work} (hist : Hist newDB w db0)
    (run : SpecRun sch db0 sdb0 stmts dbN sdbN) (step : SpecRun sch dbN sdbN [e] dbC sdbC)
    (hwal : db0.wal = [])
    (pt : Levels) (tbls : List (Bytes × Levels)) (hA : AbsV db0.store pt sch tbls sdb0)
    (hN : w.total + dbC.wal.length ≤ 4294967287) :
    dbC.wal = dbN.wal ++ dbC.wal.drop dbN.wal.length ∧ ∀ r ∈ dbC.wal, (toRec r).wf := by
  obtain ⟨hlk, hlsn, hnf⟩ := hist_run_fit hist ((specRun_adv run).1.trans (specRun_adv step).1)
    (by rw [hwal]; exact hN)
  exact C03_engine_records_well_formed sch run step hwal pt tbls hA hlsn
    (Nat.lt_trans hnf (by decide)) hlk

/-- non-vacuity: `tableDB` is reached by the history `CREATE TABLE t (a INT)` (work 3: two catalog rows, one
table); the acknowledged INSERT of two rows and the UPDATE log three records -/
example : ∃ db1 db2,
    Hist newDB ⟨2, 1, 0, 0, 0⟩ tableDB ∧
    SpecRun schT tableDB sdbA0 [.insert tname [] [[.int 5], [.int 6]]] db1 sdbA1 ∧
    SpecRun schT db1 sdbA1 [.update tname [([97], .lit (.int 7))] (some (condEq 5))] db2 sdbA2 ∧
    (⟨2, 1, 0, 0, 0⟩ : Work).total + db2.wal.length ≤ 4294967287 := by
  obtain ⟨db1, db2, _, run1, e2, _, _, _, hw2, hh2, _⟩ := historyT
  exact ⟨db1, db2, hist_tableDB, run1, .update _ _ _ set7_valid specA2 e2 (.nil db2 sdbA2), by rw [hw2]; decide⟩

/-- **C03.insert_byte_cut_leaves_row_prefix_below_the_wrap**: `C03_insert_byte_cut_leaves_row_prefix` with
its three range hypotheses replaced by the bound on the history (as in
`C03_engine_records_well_formed_below_the_wrap`: `db0` reached from CREATE DATABASE by any history of work
`w`, and `w.total` plus the number of records in the log the INSERT leaves at most `2^32 - 9`).  The
conclusion is that of `C03_insert_byte_cut_leaves_row_prefix`, verbatim. -/
theorem C03_insert_byte_cut_leaves_row_prefix_below_the_wrap (sch : Levels) {db0 dbN : Engine.DB}
    {sdb0 sdbN : Spec.SDB} {stmts : List EStmt} {w : Work} (hist : Hist newDB w db0)
    (run : SpecRun sch db0 sdb0 stmts dbN sdbN) (hwal : db0.wal = [])
    (pt : Levels) (tbls : List (Bytes × Levels)) (hA : AbsV db0.store pt sch tbls sdb0)
    (hself : PtSelf pt) (hf : FreshM db0.store tbls)
    (table : Bytes) (cols : List Bytes) (lrows : List (List Sql.Lit))
    (hvalid : ∀ r ∈ lrows.map (fun r => r.map Spec.litVal), ∀ v ∈ r, ValidVal v) (sdbC : Spec.SDB)
    (hspec : Spec.specInsert sdbN table cols (lrows.map fun r => r.map Spec.litVal) = some sdbC)
    (hrunok : ∀ pt tbls t schema, AbsV dbN.store pt sch tbls sdbN → (table, t) ∈ tbls →
      schemaOf sch table = some schema →
      InsRunOK schema (cols.map Engine.bytesToName) t dbN.store.hdr.lastKey dbN.store.hdr.nextLSN
        dbN.store.hdr.nextFree (lrows.map fun r => r.map Spec.litVal))
    (n : Nat) (dbC : Engine.DB)
    (heval : Engine.evalInsert dbN table cols (lrows.map fun r => r.map Spec.litVal) = .ok n dbC)
    (hN : w.total + dbC.wal.length ≤ 4294967287) (cut : Nat) :
    (∀ r ∈ dbC.wal, (toRec r).wf) ∧
    ∃ k torn,
      (k ≤ (dbC.wal.drop dbN.wal.length).length ∧
       Wal.readLog ((walFile dbC.wal).take ((walFile dbN.wal).length + cut))
         = .ok ((dbN.wal ++ (dbC.wal.drop dbN.wal.length).take k).map toRec)
             (walFile (dbN.wal ++ (dbC.wal.drop dbN.wal.length).take k)).length torn ∧
       (walFile ((dbC.wal.drop dbN.wal.length).take k)).length ≤ cut ∧
       (k < (dbC.wal.drop dbN.wal.length).length →
         cut < (walFile ((dbC.wal.drop dbN.wal.length).take (k+1))).length) ∧
       (torn = true ↔ (walFile ((dbC.wal.drop dbN.wal.length).take k)).length <
         min cut (walFile (dbC.wal.drop dbN.wal.length)).length) ∧
       Wal.afterRead ((walFile dbC.wal).take ((walFile dbN.wal).length + cut))
         = walFile (dbN.wal ++ (dbC.wal.drop dbN.wal.length).take k) ∧
       ∀ more : List Wal.Rec, (∀ r ∈ more, r.wf) →
         Wal.readLog (Wal.afterRead ((walFile dbC.wal).take ((walFile dbN.wal).length + cut)) ++
             Wal.encodeLog more)
           = .ok ((dbN.wal ++ (dbC.wal.drop dbN.wal.length).take k).map toRec ++ more)
               (Wal.encodeLog ((dbN.wal ++ (dbC.wal.drop dbN.wal.length).take k).map toRec ++ more)).length
               false) ∧
      ∃ rK ptR tblsK sdbK stK j,
        replayAll (dbN.wal ++ (dbC.wal.drop dbN.wal.length).take k) db0.store = (rK, none, false) ∧
        AbsV rK ptR sch tblsK sdbK ∧
        Spec.findTable sdbK table = some stK ∧
        (table, stK.rows.map (·.vals)) ∈ Spec.rowPrefixStates sdbN (.insert table cols lrows) ∧
        (∀ n, n ≠ table → Spec.findTable sdbK n = Spec.findTable sdbN n) ∧
        j ≤ lrows.length ∧ rK.hdr.lastKey = dbN.store.hdr.lastKey + j := by
  obtain ⟨hlk, hlsn, hnf⟩ := hist_run_fit hist ((specRun_adv run).1.trans (evalInsert_runAdv heval))
    (by rw [hwal]; exact hN)
  exact C03_insert_byte_cut_leaves_row_prefix sch run hwal pt tbls hA hself hf table cols lrows hvalid sdbC hspec
    hrunok n dbC heval hlsn (Nat.lt_trans hnf (by decide)) hlk cut

/-- non-vacuity: the history `CREATE TABLE t (a INT)` to `tableDB` and `INSERT INTO t VALUES (5), (6)` on it
(the example of `C03_insert_byte_cut_leaves_row_prefix`): work 3, two records -/
example : ∃ db1, Hist newDB ⟨2, 1, 0, 0, 0⟩ tableDB ∧ tableDB.wal = [] ∧
    Engine.evalInsert tableDB tname [] [[.int 5], [.int 6]] = .ok 2 db1 ∧
    (⟨2, 1, 0, 0, 0⟩ : Work).total + db1.wal.length ≤ 4294967287 := by
  obtain ⟨db1, _, _, _, e1, hw, _⟩ := byte_cut_example
  exact ⟨db1, hist_tableDB, rfl, e1, by rw [hw]; decide⟩

end Mkdb.Store
