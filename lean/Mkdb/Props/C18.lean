import Mkdb.Proofs.BaseCaseTable
import Mkdb.Proofs.CatSelfHistory
import Mkdb.Proofs.CatSelfWitness
import Mkdb.Proofs.RoundtripRange
import Mkdb.Proofs.SessInvHistory
import Mkdb.Proofs.SessionSelect
import Mkdb.Proofs.SpecHistory
import Mkdb.Proofs.TypedWalk
/-!
# C18 — no statement can crash the engine

Property theorems (proofs in `Mkdb/Proofs/`).  Parts, in this order: (1) SELECT evaluation on any well-shaped tables
(`NoPanicExec`, `TypedWalk`); (2) CREATE TABLE / INSERT / UPDATE / DELETE on a database related to a plain database
(`SpecRefineStmt`); (3) every statement keeps the database invariant, whatever its outcome (`DbInv`); (4) sessions
(`SessInv`, `SessInvHistory`); (5) SELECT on stored tables (`Kinds`, `TypedWalk`, `TypedSpec`, `StoredSelect`,
`SessionSelect`); (6) the SELECT of a session, evaluated (`SessionSelect`); (7) SELECT on the two catalog tables and
the `…_any_table` forms of (4)-(6) (`CatSelf`, `CatSelfHistory`, `CatSelfWitness`).  Quantifier of
the first part: every database content whose rows have one value per column (any values: NULLs, any
types), every SELECT the parser can produce.  Termination is structural recursion on the row lists.
-/
namespace Mkdb.Exec
open Mkdb.Sql Mkdb.Exec.NoPanicP

/-- **C18.no_panic_partial**: on well-shaped tables, whatever the query (unknown, ambiguous or
duplicated columns, wrong-typed comparisons, AVG over non-integers, empty tables, NULLs …),
evaluation returns rows or an error value; the single remaining panic of the model is the
sort comparator meeting two non-NULL values of different types in one ORDER BY column.
Hypothesis `hq` (`ParsedShape`, decidable; spelled out in `C18_parsedShape_def`): the select list is not
empty, it is `*` alone or does not start with `*`, and no written LIMIT / OFFSET is negative.  Every
SELECT the parser returns has this shape (`C18_parsed_select_has_the_shape`); the exported function
`engine.EvaluateSelect` takes it for granted, and a hand-built statement without it panics, in the Go
code as in the model: `C18_empty_list_and_negative_bounds_counterexample`,
`C18_star_aggregate_counterexample`, `C18_star_group_by_counterexample`. -/
theorem C18_no_panic_partial {fetch : Bytes → Option Table} (hw : WellShaped fetch) (q : Select)
    (hq : ParsedShape q) (s : String)
    (h : evaluateSelect fetch q = .panic s) : s = "sortColumns: no comparison available" :=
  no_panic_except_sort hw q hq.ne_nil hq.bounds hq.listOK s h

/-- the shape hypothesis, spelled out -/
theorem C18_parsedShape_def (q : Select) :
    ParsedShape q ↔ q.list ≠ [] ∧ (isStar q.list = true → q.list.length = 1) ∧
      ((!q.lim.offsetActive || decide (0 ≤ q.lim.offset)) &&
       (!q.lim.limitActive || decide (0 ≤ q.lim.limit))) = true := Iff.rfl

/-- equivalently: `*` alone, or a non-empty list that does not start with `*`; and bounds that are not
negative -/
theorem C18_parsedShape_iff (q : Select) :
    ParsedShape q ↔ ((∃ a, q.list = [⟨.star, a⟩]) ∨ (isStar q.list = false ∧ q.list ≠ [])) ∧
      Spec.boundsOK q.lim = true := by
  constructor
  · intro h
    refine ⟨?_, h.bounds⟩
    rcases h.star with e | e
    · exact .inl e
    · exact .inr ⟨e, h.ne_nil⟩
  · rintro ⟨⟨a, e⟩ | ⟨e, hne⟩, hb⟩
    · exact ParsedShape.of_star hb e
    · exact ParsedShape.of_nostar hne hb e

/-- non-vacuity: `SELECT * FROM t LIMIT 5 OFFSET 0` and `SELECT count(*) FROM t` have the shape -/
example : ParsedShape
      { list := [⟨.star, []⟩]
        from_ := some (.table ⟨[116], none⟩)
        lim := { limitActive := true, limit := 5, offsetActive := true } } ∧
    ParsedShape { list := [⟨.count none, []⟩], from_ := some (.table ⟨[116], none⟩) } := by decide

/-- **C18.sort_safe**: that remaining panic cannot occur when every ORDER BY column holds
values of one type or NULL — which is what typed storage (C08) delivers. -/
theorem C18_sort_safe (ob : List SortSpec) (hdr : List Field) (rows : List Row)
    (h : ∀ sp ∈ ob, ∀ i, findColumn sp.key hdr = .ok i →
      ∀ a ∈ rows, ∀ b ∈ rows, Comparable ((a[i]?).getD .null) ((b[i]?).getD .null))
    (s : String) : sortColumns ob hdr rows ≠ .panic s := fun e => by
  obtain ⟨_, sp, hsp, i, hfc, a, ha, b, hb, hn⟩ := (sortColumns_wp ob hdr rows).of_panic e
  exact hn (h sp hsp i hfc a ha b hb)

/-- the shape hypothesis of `C18_no_panic_partial` is necessary (1): `SELECT *, count(*), 1 FROM t` - a
select list that starts with `*` and also holds an aggregate, which the parser never builds.  The rows
of a `*` list are not projected, and the grouping loop indexes them with the select-list position of
the COUNT - from the second row of a group on: on the one-column table with the rows 1, 2 (one group)
`Vals[1]` is past the end of the row, a panic; on ONE row the loop touches nothing and the answer is
that row, `[[1]]`.  Both as the Go code (`EvaluateSelect` on the hand-built statement: `index out of
range [1] with length 1`, resp. `[[1]]`). -/
theorem C18_star_aggregate_counterexample :
    evaluateSelect (fun _ => some ⟨[[105]], [[.int 1], [.int 2]]⟩) exStarAgg =
      .panic "aggregateRows: Vals[colIdx]" ∧
    evaluateSelect (fun _ => some ⟨[[105]], [[.int 1]]⟩) exStarAgg = .ok ([[.int 1]], [⟨[116], [105]⟩]) ∧
    ¬ ParsedShape exStarAgg :=
  ⟨rfl, rfl, by decide⟩

/-- likewise (2) for the grouping path without an aggregate (`SELECT a FROM t GROUP BY a` groups): a
select list that starts with `*` and goes on (which the parser never builds) with a GROUP BY on a
later column indexes the unprojected row with the select-list position of that column for the group
key - past the end of a one-column row, on the first row already (Go: `index out of range [1] with
length 1`).  With a list the parser can build the path is covered by `C18_no_panic_partial`: the
projected rows have one value per select-list element. -/
theorem C18_star_group_by_counterexample :
    evaluateSelect (fun _ => some ⟨[[105]], [[.int 1]]⟩)
      { list := [⟨.star, []⟩, ⟨.expr (.val (.col ⟨[], [105]⟩)), []⟩],
        from_ := some (.table ⟨[116], none⟩),
        groupBy := [⟨[], [105]⟩] } = .panic "aggregateRows: groupKey row.Vals[idx]" :=
  rfl

/-- and (3): an empty select list is indexed at `[0]` (with or without FROM), an active negative LIMIT
or OFFSET is a slice out of range - on a table without rows already (Go: `index out of range [0] with
length 0`, `slice bounds out of range [:-1]`, `[-1:]`).  The parser returns no such statement. -/
theorem C18_empty_list_and_negative_bounds_counterexample :
    evaluateSelect (fun _ => some ⟨[[105]], []⟩) { list := [], from_ := some (.table ⟨[116], none⟩) } =
      .panic "projectColumns: selectList[0]" ∧
    evaluateSelect (fun _ => none) { list := [] } = .panic "projectColumns: selectList[0]" ∧
    evaluateSelect (fun _ => some ⟨[[105]], []⟩)
      { list := [⟨.star, []⟩], from_ := some (.table ⟨[116], none⟩),
        lim := { limitActive := true, limit := -1 } } = .panic "limit: rows[0:limit]" ∧
    evaluateSelect (fun _ => some ⟨[[105]], []⟩)
      { list := [⟨.star, []⟩], from_ := some (.table ⟨[116], none⟩),
        lim := { offsetActive := true, offset := -1 } } = .panic "offset: rows[offset:]" :=
  ⟨rfl, rfl, rfl, rfl⟩

end Mkdb.Exec

namespace Mkdb.Store
open Mkdb.Tree Mkdb.Page Mkdb.Tuple Mkdb.Generated

/-- **C18.dml_ddl_never_crash**: for every database state related to a plain database (`Rel`: the
catalog invariant, any number of tables of any size and depth), every CREATE TABLE / INSERT / UPDATE /
DELETE the parser can produce - unknown tables and columns, wrong types, NULLs, out-of-range integers,
oversized rows, WHERE clauses that cannot be evaluated, duplicate tables - the engine model returns
`.ok` or `.err`: never a panic, never an unmodelled path, never out of fuel (fuel exhaustion is how the
model would show a hang).  Side conditions: `StmtNames` - the statement does not address the two
catalog tables by name; `StmtRoomT` - literals that fit their Go types and the size room (64-level
fuel, offsets below 2^63) for INSERT and CREATE TABLE only. -/
theorem C18_dml_ddl_never_crash (db : Engine.DB) (order : List Nat) (pt sch : Levels)
    (tbls : List (Bytes × Levels)) (sdb : Spec.SDB) (h : Rel db pt sch tbls sdb) (st : Sql.Stmt)
    (hnames : StmtNames pt tbls st) (hroom : StmtRoomT db pt sch tbls st) :
    (∀ p, evalStmt db order st ≠ .panic p) ∧ (∀ w, evalStmt db order st ≠ .unmodelled w) ∧
      evalStmt db order st ≠ .fuel :=
  (evalStmt_total db order pt sch tbls sdb h st hnames hroom).not_crash

/-- and a refused statement leaves the log alone (`Total`) -/
theorem C18_dml_ddl_total (db : Engine.DB) (order : List Nat) (pt sch : Levels)
    (tbls : List (Bytes × Levels)) (sdb : Spec.SDB) (h : Rel db pt sch tbls sdb) (st : Sql.Stmt)
    (hnames : StmtNames pt tbls st) (hroom : StmtRoomT db pt sch tbls st) :
    Total db (evalStmt db order st) :=
  evalStmt_total db order pt sch tbls sdb h st hnames hroom

end Mkdb.Store

namespace Mkdb.Store
open Mkdb.Tree Mkdb.Page Mkdb.Tuple Mkdb.Generated

/-- **C18.every_statement_keeps_the_database_invariant** (what makes `C18_dml_ddl_never_crash` hold for the
NEXT statement too, whatever the outcome of this one).  `DbInv db sdb pt sch tbls` (Proofs/DbInv):
the store abstracts to the plain database `sdb` with the catalog trees `pt`, `sch`, `tbls`; `sys_schema`
has no stale rows; the cache is filed; every record of the log is applied and behind the two counters;
every clean page is in the data file.  For every CREATE TABLE / INSERT / UPDATE / DELETE the parser can
produce the engine model returns `.ok` or `.err` - never a panic, an unmodelled path, exhausted fuel -
and the database it returns satisfies `DbInv` again for SOME plain database: the plain model's result
if the statement is accepted, the same plain database if it is refused before a change, the plain
database with the applied prefix if a multi-row INSERT / UPDATE is refused at a later row (the known
finding of C14 - the relation survives it).  Side conditions, per statement: `StmtNames` (the two
catalog tables are not addressed by name), `StmtRoomT` (INSERT literals that fit their Go types and the
size room - 64-level fuel, offsets below 2^63 - for INSERT and CREATE TABLE), `StmtLits` (UPDATE SET
literals that fit their Go types). -/
theorem C18_every_statement_keeps_the_database_invariant (db : Engine.DB) (order : List Nat) (sdb : Spec.SDB)
    (pt sch : Levels) (tbls : List (Bytes × Levels)) (h : DbInv db sdb pt sch tbls) (st : Sql.Stmt)
    (hnames : StmtNames pt tbls st) (hroom : StmtRoomT db pt sch tbls st) (hlits : StmtLits st) :
    ∃ db', (evalStmt db order st = .ok () db' ∨ ∃ e, evalStmt db order st = .err e db') ∧
      ∃ sdb' pt' sch' tbls', DbInv db' sdb' pt' sch' tbls' :=
  evalStmt_keeps_inv db order sdb pt sch tbls h st hnames hroom hlits

/-- non-vacuity: the database `CREATE DATABASE` leaves satisfies the invariant, and `CREATE TABLE t (a INT)`
meets the side conditions on it -/
example : DbInv newDB [] ptNew schNew [] ∧ StmtNames ptNew [] (.createTable tname acols) ∧
    StmtRoomT newDB ptNew schNew [] (.createTable tname acols) ∧ StmtLits (.createTable tname acols) :=
  ⟨(ckpt_newDB.dbFlushed noStale_new).inv, fun h => absurd h tname_ne_sys.1,
    room_create_t.2.2, trivial⟩

end Mkdb.Store

namespace Mkdb.Session
open Mkdb.Engine Mkdb.Store Mkdb.Sql

/-- **C18.session_statement_never_crashes** (the session states: no USE yet, a refused USE, a refused
CREATE DATABASE, a selected database).  `SessInv s` (Proofs/SessInv): every database of the session
satisfies `DbInv` for some plain database, every database other than the selected one is closed (flushed:
nothing dirty, header and every page in the data file), the selected name - if any - is a database of
the session, names are distinct.  From such a session EVERY statement - CREATE DATABASE, USE, SHOW
DATABASES, SELECT, CREATE TABLE, INSERT, UPDATE, DELETE; valid or not; with or without a selected
database; naming a database that exists or not - returns a result or an error value, never `Out.panic`
(which is how the model shows a crash: a selected database that is not in the list, a statement
evaluator that panics, runs an unmodelled path or out of fuel, a CREATE DATABASE or close that fails),
and leaves a session that satisfies the invariant again.  `StmtSide s st`: the side conditions of
`C18_every_statement_keeps_the_database_invariant` for the selected database (none for the statements
not routed to it, none when nothing is selected).
The session model EVALUATES a SELECT (`Exec.evaluateSelect` on what `Fetch` returns from the
selected database, `Session.fetchOfDB`), so this theorem covers SELECT statements: that the
evaluation returns rows or an error value - never a panic, the sort comparator included - is proved from
`C18_select_on_stored_tables_never_panics` under the invariant `DbInv` of the selected database
(`select_sessAbs`, Proofs/SessInv).  For that `StmtSide` has, for a `.select q`, the two conditions
of that theorem (`SelectSide`): the select list has a shape the parser builds - the shape hypothesis of
`C18_no_panic_partial`, which `C18_parsed_select_has_the_shape` discharges for every parsed statement -
and the FROM clause names neither `sys_pages` nor `sys_schema` (`UserTables q`; not needed under `CatSelf`:
`C18_session_statement_never_crashes_any_table`). -/
theorem C18_session_statement_never_crashes (s : Sess) (h : SessInv s) (st : Sql.Stmt) (hside : StmtSide s st) :
    (exec s st).2 ≠ Out.panic ∧ SessInv (exec s st).1 := by
  obtain ⟨w, hw⟩ := h
  obtain ⟨w', h1, h2, _⟩ := exec_sessAbs hw st hside
  exact ⟨h2, w', h1⟩

/-- **C18.session_never_crashes**: run ANY list of statements from the empty session (no database
exists, none is selected), going on after every error value.  If each statement meets the side
conditions in the state it is run in (`SessOK`), no step returns `Out.panic` - in particular not with no
database selected (`C17_no_database_selected`: the error `noDbSelected`), not after a refused USE
(`C17_use_missing`, `C17_invalid_name_refused`), not after a refused CREATE DATABASE
(`C17_create_existing`) - and the final session satisfies the invariant.  The SELECT statements of the
history are EVALUATED on the database selected at that point; `SessOK` asks of each of them a select list of a parser-produced shape and a FROM clause over user
tables (`SelectSide`), and nothing else. -/
theorem C18_session_never_crashes (sts : List Sql.Stmt) (hok : SessOK {} sts) :
    (∀ o ∈ (runAll {} sts).2, o ≠ Out.panic) ∧ SessInv (runAll {} sts).1 := by
  obtain ⟨hfin, houts⟩ := runAll_sessAbs sts {} (fun _ => []) (sessAbs_empty _) hok
  exact ⟨houts, hfin⟩

/-- **C18.plain_histories_never_crash** (non-vacuity of `SessOK` beyond single examples):
every history of CREATE DATABASE, USE, SHOW DATABASES, SELECT, DELETE and UPDATE statements - the last
two on any table name other than `sys_pages` / `sys_schema`, UPDATE with SET literals a Go program can
hold; SELECT with a select list of a shape the parser builds and a FROM clause that names neither catalog
table - meets the side conditions from EVERY session state.  So no such history, of any length, over any number of
databases, makes the session model crash - its SELECTs are evaluated, each on the database selected when
it runs. -/
theorem C18_plain_histories_never_crash (sts : List Sql.Stmt) (h : ∀ st ∈ sts, Plain st) :
    (∀ o ∈ (runAll {} sts).2, o ≠ Out.panic) ∧ SessInv (runAll {} sts).1 :=
  C18_session_never_crashes sts (sessOK_plain sts {} h)

/-- non-vacuity: a history with a statement before any USE (a SELECT), a USE of a missing database, CREATE
DATABASE twice, an invalid name, DELETE / UPDATE / SELECT of a table that does not exist -/
example : ∀ st ∈ [Stmt.select exJoinQuery, .delete tname none, .use [120], .createDatabase [100], .createDatabase [100],
    .createDatabase [97, 47, 98], .use [100], .use [120], .delete tname none,
    .update tname [([97], .lit (.int 7))] none, .select exGroupQuery, .showDatabases], Plain st := by
  intro st hst
  simp only [List.mem_cons, List.not_mem_nil, or_false] at hst
  rcases hst with rfl | rfl | rfl | rfl | rfl | rfl | rfl | rfl | rfl | rfl | rfl | rfl
  all_goals first
    | exact trivial
    | exact tname_ne_sys
    | exact ⟨exQueries_ok.1, exQueries_ok.2.1⟩
    | exact ⟨exQueries_ok.2.2.1, exQueries_ok.2.2.2⟩
    | exact ⟨tname_ne_sys, set7_valid⟩

/-- non-vacuity with a table and rows: in the session whose selected database is the one
`CREATE DATABASE; CREATE TABLE t (a INT)` produces (computed by the model), the invariant holds and
`INSERT INTO t VALUES (5), (6)` meets the side conditions -/
example : SessInv sessT ∧ StmtSide sessT (.insert tname [] [[.int 5], [.int 6]]) :=
  ⟨⟨_, sessAbs_sessT⟩, stmtSide_sessT⟩

end Mkdb.Session

/-! ## SELECT on STORED tables: typed storage discharges the hypotheses of the SELECT theorems

`C18_no_panic_partial` asks for well-shaped tables and leaves one panic open (the sort comparator on a
column of mixed types); `C18_sort_safe` closes it for columns of one type.  This section shows that the
tables a SELECT reads from a database that statements produced ARE well shaped and typed, that every
output column of a SELECT over typed tables holds values of one type or NULL, and so that a SELECT on a
stored database never panics.  Proofs: `Mkdb/Proofs/Kinds.lean`, `TypedWalk.lean`, `TypedSpec.lean`, `StoredSelect.lean`, `SessionSelect.lean`.
`rowHas ks row` (Kinds): the row has exactly one value per entry of the list of kinds `ks`, each
NULL or of that kind (`Kind`: integer, string, boolean). -/

namespace Mkdb.Spec
open Mkdb.Exec.TypedP

/-- **C18.plain_database_stays_typed**.  `Typed sdb` (Proofs/TypedSpec): the tables of
the plain in-memory database have distinct names, and every row of every table has exactly one value per
declared column, each NULL or of the column's kind (INT / BIGINT: an integer, VARCHAR: a string, BOOLEAN: a
boolean - `kindOf`, read off `Tuple.validate`).  The empty database is typed, and every statement the
plain model accepts keeps it typed: INSERT because `rowOf` lets a row through only if `Tuple.Encode`
accepts it for the table's columns, UPDATE because its per-row check is the same, DELETE because it only
removes rows, CREATE TABLE because the new table is empty and its name fresh; so the plain database of
every history (`specHist`: refused statements change nothing) is typed. -/
theorem C18_plain_database_stays_typed :
    Typed [] ∧
    (∀ (sdb sdb' : SDB) (st : Sql.Stmt), Typed sdb → specStmt sdb st = some sdb' → Typed sdb') ∧
    ∀ sts : List Sql.Stmt, Typed (Mkdb.Store.specHist [] sts) :=
  ⟨typed_empty, fun _ _ _ h hs => h.specStmt hs, fun sts => Mkdb.Store.typed_specHist sts [] typed_empty⟩

/-- the distinct table names are part of `Typed` because they are needed: with two tables of one name
(which CREATE TABLE never produces) the INSERT of the plain model checks the row against the first table
and appends it to both - here an integer lands in a VARCHAR column -/
theorem C18_typed_rows_need_distinct_names :
    TypedRows [⟨[116], [⟨"a", .int, 0⟩], []⟩, ⟨[116], [⟨"a", .varchar, 9⟩], []⟩] ∧
    specStmt [⟨[116], [⟨"a", .int, 0⟩], []⟩, ⟨[116], [⟨"a", .varchar, 9⟩], []⟩] (.insert [116] [] [[.int 1]]) =
      some [⟨[116], [⟨"a", .int, 0⟩], [⟨none, [.int 1]⟩]⟩, ⟨[116], [⟨"a", .varchar, 9⟩], [⟨none, [.int 1]⟩]⟩] ∧
    ¬ TypedRows [⟨[116], [⟨"a", .int, 0⟩], [⟨none, [.int 1]⟩]⟩, ⟨[116], [⟨"a", .varchar, 9⟩], [⟨none, [.int 1]⟩]⟩] := by
  refine ⟨?_, rfl, ?_⟩
  · unfold TypedRows
    decide
  · unfold TypedRows
    decide

/-- non-vacuity: the plain database after `CREATE TABLE t (a INT); INSERT INTO t VALUES (5), (6)` is typed,
by the theorem -/
example : Typed Mkdb.Store.sdbA1 :=
  (C18_plain_database_stays_typed.2.1 _ _ (.insert Mkdb.Store.tname [] [[.int 5], [.int 6]])
    (C18_plain_database_stays_typed.2.1 [] _ (.createTable Mkdb.Store.tname Mkdb.Store.acols)
      C18_plain_database_stays_typed.1 Mkdb.Store.spec_create_t) rfl)

end Mkdb.Spec

namespace Mkdb.Exec
open Mkdb.Sql Mkdb.Exec.NoPanicP Mkdb.Exec.TypedP

/-- **C18.select_output_columns_are_typed**.  `KindedFetch fetch`: every table the
executor can read has a list of kinds, one per column, that every row meets (this contains `WellShaped`).
Then for every SELECT whose select list has a shape the parser builds - any FROM clause: inner, LEFT and
RIGHT joins, nested, with their NULL padding; any WHERE; any GROUP BY; any aggregates; ORDER BY, OFFSET,
LIMIT - the evaluation does not panic, and if it returns rows there is ONE list of kinds that every
returned row meets: each output column holds values of one kind or NULL.  The kind of an output column is
`itemKind` (Proofs/Kinds): a column keeps the kind of its source column (`projectItem_typed`), also
as a grouping column (`aggregateRows_typed`: read from the first row of the group); COUNT and AVG give
integers, over an empty input too; a literal has its own kind; a comparison, AND, OR gives a boolean or an
error value (`evaluate_typed`).  No expression kind breaks this - no reachable sort panic was found. -/
theorem C18_select_output_columns_are_typed {fetch : Bytes → Option Table} (hk : KindedFetch fetch) (q : Select)
    (hq : Exec.NoPanicP.ParsedShape q) :
    (∀ s, evaluateSelect fetch q ≠ .panic s) ∧
    ∀ rows hdr, evaluateSelect fetch q = .ok (rows, hdr) → ∃ ks : List Kind, ∀ r ∈ rows, rowHas ks r = true :=
  ⟨(evaluateSelect_kinded q (fun _ _ => hk.typed _) hq).not_panic,
    fun _ _ e => (evaluateSelect_kinded q (fun _ _ => hk.typed _) hq).of_ok e⟩

/-- the stage-by-stage form: the rows projection hands to aggregation and aggregation hands to ORDER BY are
kinded by `outKinds` - the kinds of the sources for `SELECT *`, the `itemKind`s of the select list
otherwise - which is what `C18_sort_safe` needs for every ORDER BY key, whatever position it resolves to -/
theorem C18_sorted_rows_are_comparable (q : Select) (fields : List Field) (ks : List Kind) (rows : List Row)
    (hq : Exec.NoPanicP.ParsedShape q)
    (hlen : ∀ r ∈ rows, r.length = fields.length) (hk : ∀ r ∈ rows, rowHas ks r = true)
    (out : List Row) (hdr : List Field) (h : SelectP.selectTail q fields rows = .ok (out, hdr)) :
    (∀ r ∈ out, rowHas (outKinds q.list fields ks) r = true) ∧
    ∀ a ∈ out, ∀ b ∈ out, ∀ i : Nat, Comparable ((a[i]?).getD .null) ((b[i]?).getD .null) := by
  have h1 := (selectTail_kinded q fields ks rows hq hlen hk).of_ok h
  exact ⟨h1, fun a ha b hb i => rowHas_comparable (h1 a ha) (h1 b hb) i⟩

/-- non-vacuity: `SELECT b, a … ORDER BY b` over the rows of a table with an integer column `a` and a
string column `b` (one NULL): the hypotheses hold and the tail of the evaluation returns the sorted rows -/
example : (∀ r ∈ Mkdb.Store.exKT.rows, r.length = [(⟨[116], [97]⟩ : Field), ⟨[116], [98]⟩].length) ∧
    (∀ r ∈ Mkdb.Store.exKT.rows, rowHas [.int, .str] r = true) ∧
    SelectP.selectTail
      { list := [⟨.expr (.val (.col ⟨[], [98]⟩)), []⟩, ⟨.expr (.val (.col ⟨[], [97]⟩)), []⟩],
        orderBy := [⟨⟨[], [98]⟩, false⟩] }
      [⟨[116], [97]⟩, ⟨[116], [98]⟩] Mkdb.Store.exKT.rows =
    .ok ([[.null, .int 2], [.str [120], .int 1], [.str [121], .int 3]], [⟨[116], [98]⟩, ⟨[116], [97]⟩]) :=
  ⟨by decide, by decide, rfl⟩

/-- non-vacuity: a table with an integer and a string column (with a NULL) is kinded; its LEFT JOIN with
itself, sorted on a column the padding fills with NULLs, evaluates to the four rows -/
example : KindedFetch Mkdb.Store.exKFetch ∧
    (Exec.NoPanicP.ParsedShape Mkdb.Store.exJoinQuery) ∧
    Mkdb.Store.selectGives (evaluateSelect Mkdb.Store.exKFetch Mkdb.Store.exJoinQuery)
      [[.int 1, .str [120], .int 3, .str [121]], [.int 2, .null, .int 3, .str [121]],
       [.int 1, .str [120], .int 2, .null], [.int 3, .str [121], .null, .null]]
      [⟨[120], [97]⟩, ⟨[120], [98]⟩, ⟨[121], [97]⟩, ⟨[121], [98]⟩] = true :=
  ⟨Mkdb.Store.exKFetch_kinded, Mkdb.Store.exQueries_ok.2.2.1, Mkdb.Store.exJoin_on_exKFetch⟩

/-- the hypothesis `KindedFetch` is needed: on a table whose one column holds an integer and a string
(which typed storage never produces) `SELECT * FROM t ORDER BY i` panics in the sort comparator -/
example : evaluateSelect (fun _ => some ⟨[[105]], [[.int 1], [.str [97]]]⟩)
    { list := [⟨.star, []⟩], from_ := some (.table ⟨[116], none⟩), orderBy := [⟨⟨[], [105]⟩, false⟩] } =
    .panic "sortColumns: no comparison available" := rfl

end Mkdb.Exec

namespace Mkdb.Store
open Mkdb.Tree Mkdb.Page Mkdb.Tuple Mkdb.Generated Mkdb.Exec Mkdb.Exec.TypedP Mkdb.Sql

/-- **C18.stored_tables_are_typed**.  `fetchOf db` (Proofs/StoredSelect) is the `fetch`
function `evaluateSelect` is run with on a stored database: `RelationService.Fetch` (`Store.fetchTable`)
of the table, handed to the executor as `Engine.fetchForExec` hands it to UPDATE / DELETE (column names as
bytes, rows without row ids); an error value of `Fetch` is `none`, which the executor answers with an
error value.  For a database that satisfies the invariant `DbInv` (what every statement of a session
keeps): (1) `fetchOf db` is well shaped - for ANY database, invariant or not: every row `Fetch` returns is
one decoded tuple read in schema order (`fetchTable_rows`); (2) the plain database `sdb` it abstracts to
is `Typed` - this is a consequence of the invariant (every row is decoded with a schema of distinct column
names, `decodeTuple_kinds`), not an extra assumption; (3) for every table name other than `sys_pages` /
`sys_schema`, `Fetch` returns rows or an error value (`FetchTotal`: no panic, unmodelled path, exhausted
fuel), and what the SELECT then reads is the table of the plain database: its declared columns, exactly
its rows, every row kinded by the declared column types.  The two catalog tables are excluded from (3):
the invariant describes the `sys_schema` rows of the user tables only (`CatSelf` describes the rest:
`C18_catalog_tables_are_read_as_stored`). -/
theorem C18_stored_tables_are_typed (db : Engine.DB) (sdb : Spec.SDB) (pt sch : Levels)
    (tbls : List (Bytes × Levels)) (h : DbInv db sdb pt sch tbls) :
    NoPanicP.WellShaped (fetchOf db) ∧ Spec.Typed sdb ∧
    ∀ n, n ≠ sysPages → n ≠ sysSchema → FetchTotal db n ∧
      ∀ t, fetchOf db n = some t → ∃ tb, Spec.findTable sdb n = some tb ∧
        t.cols = tb.cols.map (fun fd => fd.name.toUTF8.toList) ∧ t.rows = tb.rows.map (·.vals) ∧
        ∀ r ∈ t.rows, rowHas (Spec.colKinds tb.cols) r = true :=
  ⟨fetchOf_wellShaped db, h.typed, fun n h1 h2 => stored_table_typed h.abs n h1 h2⟩

/-- well-shapedness needs no hypothesis at all: whatever the store, the rows `Fetch` returns have one
value per column of the schema it returns -/
theorem C18_fetched_tables_are_well_shaped (db : Engine.DB) : NoPanicP.WellShaped (fetchOf db) :=
  fetchOf_wellShaped db

/-- non-vacuity on the computed database `CREATE DATABASE; CREATE TABLE t (a INT)` leaves: the invariant
holds, and the SELECT reads the empty table with the column `a` for `t`, nothing for an unknown name -/
example : DbInv tableDB sdbA0 ptT schT [(tname, tT)] ∧
    (fetchOf tableDB tname).map (fun t => (t.cols, t.rows)) = some ([[97]], []) ∧
    (fetchOf tableDB [117]).isNone = true :=
  ⟨dbFlushed_tableDB.inv, fetchOf_tableDB.1, fetchOf_tableDB.2⟩

/-- **C18.select_on_stored_tables_never_panics**.  For every database that satisfies the
invariant `DbInv` - the database `CREATE DATABASE` leaves does, and every CREATE TABLE / INSERT / UPDATE /
DELETE keeps it (`C18_every_statement_keeps_the_database_invariant`); `Typed sdb` follows from it
(`C18_stored_tables_are_typed`) - and every SELECT whose select list has a shape the parser builds (`hq`:
the hypothesis of `C18_no_panic_partial`; `C18_parsed_select_has_the_shape`) and whose FROM clause names
user tables (`UserTables q`: neither `sys_pages` nor `sys_schema`): `Fetch` of every table read returns
rows or an error value, `evaluateSelect (fetchOf db) q` is `.ok` or `.err` - NEVER `.panic`, the sort
comparator included -, and every column of the rows it returns holds values of one kind or NULL.
Termination: `evaluateSelect` is structural recursion on the row lists, `Fetch` runs on fuel that
`FetchTotal` shows is not exhausted.  `UserTables` is not needed when the catalog describes itself
(`CatSelf`): `C18_select_on_catalog_tables_never_panics`. -/
theorem C18_select_on_stored_tables_never_panics (db : Engine.DB) (sdb : Spec.SDB) (pt sch : Levels)
    (tbls : List (Bytes × Levels)) (h : DbInv db sdb pt sch tbls) (q : Select)
    (hq : Exec.NoPanicP.ParsedShape q) (hn : UserTables q) :
    (∀ n ∈ selectNames q, FetchTotal db n) ∧ (∀ s, evaluateSelect (fetchOf db) q ≠ .panic s) ∧
    ∀ rows hdr, evaluateSelect (fetchOf db) q = .ok (rows, hdr) → ∃ ks : List Kind, ∀ r ∈ rows, rowHas ks r = true :=
  select_on_stored_never_panics h.abs q hq hn

/-- the same from the relation `Rel` of the refinement theorems (C01) -/
theorem C18_select_on_related_database_never_panics (db : Engine.DB) (sdb : Spec.SDB) (pt sch : Levels)
    (tbls : List (Bytes × Levels)) (h : Rel db pt sch tbls sdb) (q : Select)
    (hq : Exec.NoPanicP.ParsedShape q) (hn : UserTables q) :
    (∀ n ∈ selectNames q, FetchTotal db n) ∧ ∀ s, evaluateSelect (fetchOf db) q ≠ .panic s :=
  ⟨(select_on_stored_never_panics h.1 q hq hn).1, (select_on_stored_never_panics h.1 q hq hn).2.1⟩

/-- non-vacuity: the computed database is related to its plain database -/
example : Rel tableDB ptT schT [(tname, tT)] sdbA0 := rel_tableDB

/-- non-vacuity on the computed database: the hypotheses hold for `SELECT a, count(*) FROM t GROUP BY a
ORDER BY a` and for `SELECT * FROM t x LEFT JOIN t y ON x.a < y.a ORDER BY y.a DESC`, and both evaluate
(computed) to no rows under their headers -/
example : DbInv tableDB sdbA0 ptT schT [(tname, tT)] ∧
    (Exec.NoPanicP.ParsedShape exGroupQuery) ∧ UserTables exGroupQuery ∧
    (Exec.NoPanicP.ParsedShape exJoinQuery) ∧ UserTables exJoinQuery ∧
    selectGives (evaluateSelect (fetchOf tableDB) exGroupQuery) []
      [⟨tname, [97]⟩, ⟨[], "count(*)".toUTF8.toList⟩] = true ∧
    selectGives (evaluateSelect (fetchOf tableDB) exJoinQuery) [] [⟨[120], [97]⟩, ⟨[121], [97]⟩] = true :=
  ⟨dbFlushed_tableDB.inv, exQueries_ok.1, exQueries_ok.2.1, exQueries_ok.2.2.1, exQueries_ok.2.2.2,
    exQueries_on_tableDB.1, exQueries_on_tableDB.2⟩

/-- non-vacuity with rows: after `INSERT INTO t VALUES (5), (6)` on that database (accepted:
`C08_accepted_statement_is_read_back`) the theorem applies to the database the engine model returns -/
example : ∃ db', evalStmt tableDB [] (.insert tname [] [[.int 5], [.int 6]]) = .ok () db' ∧
    ∀ s, evaluateSelect (fetchOf db') exGroupQuery ≠ .panic s := by
  obtain ⟨db', pt', sch', tbls', e, hi'⟩ := dbFlushed_tableDB.inv.accepted [] _ room_insert56 sdbA1 rfl
  exact ⟨db', e, (C18_select_on_stored_tables_never_panics db' sdbA1 pt' sch' tbls' hi' exGroupQuery
    exQueries_ok.1 exQueries_ok.2.1).2.1⟩

/-- **C18.select_on_any_table_never_panics**: the two catalog tables included, on a database that passes
the Boolean check `catalogOK db` (`Fetch` of `sys_pages` and of `sys_schema` returns an error value or
rows under a schema of distinct column names; then those rows are typed too, `fetchTable_kinded`).  The
check is a hypothesis on the database, not proved to be kept by the statements. -/
theorem C18_select_on_any_table_never_panics (db : Engine.DB) (sdb : Spec.SDB) (pt sch : Levels)
    (tbls : List (Bytes × Levels)) (h : DbInv db sdb pt sch tbls) (hc : catalogOK db = true) (q : Select)
    (hq : Exec.NoPanicP.ParsedShape q) :
    (∀ n ∈ selectNames q, FetchTotal db n) ∧ ∀ s, evaluateSelect (fetchOf db) q ≠ .panic s :=
  ⟨(select_any_table_never_panics h.abs hc q hq).1, (select_any_table_never_panics h.abs hc q hq).2.1⟩

/-- non-vacuity: the computed database passes the check, and `SELECT * FROM sys_schema ORDER BY field_type`
returns (computed) the seven rows of the catalog under four columns -/
example : DbInv tableDB sdbA0 ptT schT [(tname, tT)] ∧ catalogOK tableDB = true ∧
    (Exec.NoPanicP.ParsedShape exCatalogQuery) ∧
    (match evaluateSelect (fetchOf tableDB) exCatalogQuery with
      | .ok (rows, hdr) => rows.length == 7 && hdr.length == 4
      | _ => false) = true :=
  ⟨dbFlushed_tableDB.inv, catalogOK_tableDB.1, by decide, catalogOK_tableDB.2⟩

/-- **C18.parsed_select_has_the_shape**: the shape hypothesis of `C18_no_panic_partial` and of the theorems
above holds of every SELECT `Parser.Parse` returns (`C10_parsed_statements_are_wellformed`: the select
list is `*` alone or a non-empty list without `*`, and a negative LIMIT / OFFSET is refused with
`ErrNegativeLimit` / `ErrNegativeOffset`) -/
theorem C18_parsed_select_has_the_shape (ts : List Scan.Token) (q : Select) (h : parseTokens ts = .ok (.select q)) :
    Exec.NoPanicP.ParsedShape q :=
  wfSelect_shape (parseTokens_wf h)

/-- **C18.parsed_select_on_stored_tables_never_panics**: so for every token list the parser accepts as a
SELECT over user tables, on every database that satisfies the invariant, the evaluation returns rows or
an error value -/
theorem C18_parsed_select_on_stored_tables_never_panics (db : Engine.DB) (sdb : Spec.SDB) (pt sch : Levels)
    (tbls : List (Bytes × Levels)) (h : DbInv db sdb pt sch tbls) (ts : List Scan.Token) (q : Select)
    (hp : parseTokens ts = .ok (.select q)) (hn : UserTables q) (s : String) :
    evaluateSelect (fetchOf db) q ≠ .panic s :=
  (select_on_stored_never_panics h.abs q (C18_parsed_select_has_the_shape ts q hp) hn).2.1 s

/-- non-vacuity: the tokens of `SELECT * FROM t;` parse to a SELECT over the user table `t` -/
example : parseTokens [⟨t_SELECT, []⟩, ⟨t_ASTRSK, []⟩, ⟨t_FROM, []⟩, ⟨t_IDENT, [116]⟩, ⟨t_SEMICOLON, []⟩] =
      .ok (.select { list := [⟨.star, []⟩], from_ := some (.table ⟨[116], none⟩) }) ∧
    UserTables { list := [⟨.star, []⟩], from_ := some (.table ⟨[116], none⟩) } :=
  ⟨rfl, by decide +kernel⟩

/-- **C18.select_after_any_history_never_panics**: run any list of statements from the database
`CREATE DATABASE` leaves, each accepted by the plain model (with room) or refused before a change
(`HistOK`, the hypothesis of `from_create_database_history`); on the database reached, a SELECT of a
parser-produced shape over user tables never panics. -/
theorem C18_select_after_any_history_never_panics (sts : List Sql.Stmt) (hok : HistOK [] sts newDB []) :
    ∃ db', runHist [] newDB sts = some db' ∧ ∀ q : Select,
      (Exec.NoPanicP.ParsedShape q) → UserTables q →
      (∀ n ∈ selectNames q, FetchTotal db' n) ∧ ∀ s, evaluateSelect (fetchOf db') q ≠ .panic s := by
  obtain ⟨db', hr, h⟩ := history_select_never_panics_any sts hok
  exact ⟨db', hr, fun q hq _ => h q hq⟩

/-- non-vacuity: `histOK_create_t` (Proofs/BaseCaseTable) - the history `CREATE TABLE t (a INT)` -/
example : HistOK [] [.createTable tname acols] newDB [] := histOK_create_t

end Mkdb.Store

namespace Mkdb.Session
open Mkdb.Engine Mkdb.Store Mkdb.Sql Mkdb.Exec

/-- **C18.session_select_never_panics** (a SELECT evaluated on ANY database of the session reached, not
only on the selected one as `Session.exec` does - `C18_session_never_crashes`,
`C18_session_select_is_answered_or_refused`).  Run ANY list of statements from the empty session, going on after every error value (`SessOK`: the side
conditions of `C18_session_never_crashes`).  In the session reached, on EVERY database of the session -
the selected one in particular - every SELECT of a parser-produced shape over user tables reads its
tables without a crash of `Fetch` and evaluates to rows or an error value: never a panic. -/
theorem C18_session_select_never_panics (sts : List Sql.Stmt) (hok : SessOK {} sts) :
    ∀ p ∈ (runAll {} sts).1.dbs, ∀ q : Select,
      (Exec.NoPanicP.ParsedShape q) → UserTables q →
      (∀ n ∈ selectNames q, FetchTotal p.2 n) ∧ ∀ x, evaluateSelect (fetchOf p.2) q ≠ .panic x :=
  sessInv_select_never_panics (C18_session_never_crashes sts hok).2

/-- non-vacuity: a history with a refused USE, two CREATE DATABASE, a USE and a SELECT meets `SessOK`; the
SELECT is evaluated (computed by the model) on the database `CREATE DATABASE` left, which has no table
`t`: the error value `tableNotExist` -/
example : SessOK {} [.use [120], .createDatabase [100], .createDatabase [101], .use [100], .select exGroupQuery] ∧
    (runAll {} [.use [120], .createDatabase [100], .createDatabase [101], .use [100], .select exGroupQuery]).2.map
      (Out.isErr "tableNotExist") = [false, false, false, false, true] :=
  ⟨sessOK_plain _ {} (by
    intro st hst
    simp only [List.mem_cons, List.not_mem_nil, or_false] at hst
    rcases hst with rfl | rfl | rfl | rfl | rfl
    all_goals first
      | exact trivial
      | exact ⟨exQueries_ok.1, exQueries_ok.2.1⟩), select_on_new_database_refused⟩

/-- non-vacuity with a real evaluation that is answered: from the session whose selected database holds the
table `t (a INT)` (`sessT`: it satisfies the invariant) the two SELECTs - GROUP BY with COUNT and ORDER BY, a
LEFT JOIN of `t` with itself sorted on the padded column - meet `SessOK`, read the pages of `t` and are
answered (computed by the model) -/
example : SessInv sessT ∧ SessOK sessT [.select exGroupQuery, .select exJoinQuery] ∧
    (runAll sessT [.select exGroupQuery, .select exJoinQuery]).2.map Out.isOk = [true, true] :=
  ⟨⟨_, sessAbs_sessT⟩, sessOK_plain _ _ (by
    intro st hst
    simp only [List.mem_cons, List.not_mem_nil, or_false] at hst
    rcases hst with rfl | rfl
    · exact ⟨exQueries_ok.1, exQueries_ok.2.1⟩
    · exact ⟨exQueries_ok.2.2.1, exQueries_ok.2.2.2⟩), sessT_selects_answered⟩

/-- the same from any session that satisfies the invariant -/
theorem C18_session_state_select_never_panics (s : Sess) (h : SessInv s) :
    ∀ p ∈ s.dbs, ∀ q : Select, (Exec.NoPanicP.ParsedShape q) → UserTables q →
      (∀ n ∈ selectNames q, FetchTotal p.2 n) ∧ ∀ x, evaluateSelect (fetchOf p.2) q ≠ .panic x :=
  sessInv_select_never_panics h

/-- non-vacuity: the session whose selected database is the computed `tableDB` satisfies the invariant and
holds that database -/
example : SessInv sessT ∧ ("d", tableDB) ∈ sessT.dbs := ⟨⟨_, sessAbs_sessT⟩, by simp [sessT]⟩

/-! ## the SELECT statement of a session, evaluated

`Session.exec s (.select q)` runs `evaluateSelect` on `Session.fetchOfDB db` of the selected database `db`
- by definition the `fetchOf db` of the theorems above (`C18_session_fetch_is_fetchOf`).  `fetchOfPlain sdb`
(Proofs/StoredSelect) is the `fetch` function of a plain in-memory database: for each table its declared
column names and its rows - the one the judge of the session runs builds (`Mkdb/Driver/Sess.lean`). -/

/-- what the session's SELECT reads is the `fetchOf` of `C18_stored_tables_are_typed` (by definition) -/
theorem C18_session_fetch_is_fetchOf : fetchOfDB = fetchOf := rfl

/-- **C18.stored_database_reads_as_the_plain_database**: under the invariant, what a SELECT reads for a name
other than `sys_pages` / `sys_schema` is exactly the table of the plain database (`none` if it has none of
that name; `C17_contents_are_what_a_reader_sees`, `C18_stored_tables_are_typed`), so a SELECT over user
tables evaluates on the stored database to what it evaluates to on the plain one. -/
theorem C18_stored_database_reads_as_the_plain_database (db : Engine.DB) (sdb : Spec.SDB) (pt sch : Tree.Levels)
    (tbls : List (Bytes × Tree.Levels)) (h : DbInv db sdb pt sch tbls) :
    (∀ n, n ≠ sysPages → n ≠ sysSchema → fetchOf db n = fetchOfPlain sdb n) ∧
    ∀ q : Select, UserTables q → evaluateSelect (fetchOf db) q = evaluateSelect (fetchOfPlain sdb) q :=
  ⟨fun n h1 h2 => fetchOf_eq_plain h.abs n h1 h2, fun q hn => select_on_stored_eq_plain h.abs q hn⟩

/-- non-vacuity: the computed database `tableDB` and its plain database; `t` reads as the empty table with
the column `a` on both sides -/
example : DbInv tableDB sdbA0 ptT schT [(tname, tT)] ∧ UserTables exGroupQuery ∧
    (fetchOfPlain sdbA0 tname).map (fun t => (t.cols, t.rows)) = some ([[97]], []) :=
  ⟨dbFlushed_tableDB.inv, exQueries_ok.2.1, by decide +kernel⟩

open Mkdb.Exec.MeaningP Mkdb.Exec.SelectP in
/-- **C18.session_select_is_answered_or_refused**.  In a session that satisfies the invariant - it abstracts
to the plain databases `w` (`SessAbs s w`; `SessInv s` is `∃ w, SessAbs s w`) - with a database `n`
selected, for a SELECT whose select list has a shape the parser builds (`hq`; `C18_parsed_select_has_the_shape`)
and whose FROM clause names user tables (`hn`):
(1) the statement changes nothing;
(2) it is answered (`Out.ok`) or refused with an error value of the executor - never `Out.panic`;
(3) which of the two, and which error, is what `evaluateSelect` returns on the PLAIN database `w n`
(`selectOut`: `.ok _ ↦ Out.ok`, `.err e ↦ Out.err (stmtErr (.exec e))`);
(4) it is answered whenever the query has a reference meaning `want` on the plain database
(`Spec.meaning (fetchOfPlain (w n)) q`), its ORDER BY keys resolve against the judge's header and hold
comparable values on `want`: a well-typed query is not refused at the session level either
(`C05_meaningful_query_is_answered`, `C06_…`, `C07_join_…` composed with the invariant; `WellShaped` of C07
is discharged by `Typed (w n)`, a consequence of the invariant).  `hgrp` (only for a query with aggregates
or GROUP BY): `avgGroupsConstant` (the hypothesis of `C07_join_meaningful_query_is_answered`; it holds of
every query without AVG: `C07_avgGroupsConstant_of_noAvg`).
Not covered: with no database selected the statement is refused with `noDbSelected`
(`C17_no_database_selected`); that the key columns of a meaning over typed tables ARE comparable is not
derived here (`hcomp` stays a hypothesis), and a query with AVG over a group of unequal values is only
covered by (1)-(3). -/
theorem C18_session_select_is_answered_or_refused (s : Sess) (w : String → Spec.SDB) (h : SessAbs s w)
    (n : String) (hc : s.cur = some n) (q : Select)
    (hq : Exec.NoPanicP.ParsedShape q) (hn : UserTables q) :
    (exec s (.select q)).1 = s ∧
    ((exec s (.select q)).2 = Out.ok ∨ ∃ e, (exec s (.select q)).2 = Out.err (stmtErr (.exec e))) ∧
    (exec s (.select q)).2 = selectOut (evaluateSelect (fetchOfPlain (w n)) q) ∧
    ∀ (want : List Row) (keys : List (Nat × Bool)),
      Spec.meaning (fetchOfPlain (w n)) q = some want →
      Spec.sortKeys q (judgeHeader (fetchOfPlain (w n)) q) = some keys →
      (∀ a ∈ want, ∀ b ∈ want, KeyComparable keys a b) →
      (groups q = true → avgGroupsConstant (fetchOfPlain (w n)) q = true) →
      (exec s (.select q)).2 = Out.ok := by
  obtain ⟨he, hnp⟩ := session_select_outcome h hc q hn
  refine ⟨by rw [he], ?_, by rw [he], fun want keys hm hk hcomp hgrp => ?_⟩
  · rw [he]; exact selectOut_cases (hnp hq)
  · rw [session_meaningful_select_answered h hc q hq hn hm hk hcomp hgrp]

open Mkdb.Exec.MeaningP Mkdb.Exec.SelectP in
/-- non-vacuity, with rows: `INSERT INTO t VALUES (5), (6)` in the session `sessT` is accepted and leaves a
session `s1` that abstracts to plain databases `w` with `d` selected and `w "d"` the plain model's result;
there `SELECT a, count(*) FROM t GROUP BY a ORDER BY a` has the reference meaning `(5, 1), (6, 1)`, its sort
key resolves, the keys are comparable, no AVG: every hypothesis of the theorem holds, so the session answers
the query -/
example : ∃ s1 w, exec sessT (.insert tname [] [[.int 5], [.int 6]]) = (s1, .ok) ∧ SessAbs s1 w ∧
    s1.cur = some "d" ∧ w "d" = sdbA1 ∧
    (Exec.NoPanicP.ParsedShape exGroupQuery) ∧ UserTables exGroupQuery ∧
    Spec.meaning (fetchOfPlain sdbA1) exGroupQuery = some [[.int 5, .int 1], [.int 6, .int 1]] ∧
    Spec.sortKeys exGroupQuery (judgeHeader (fetchOfPlain sdbA1) exGroupQuery) = some [(0, false)] ∧
    (∀ a ∈ [[Tuple.Val.int 5, .int 1], [.int 6, .int 1]], ∀ b ∈ [[Tuple.Val.int 5, .int 1], [.int 6, .int 1]],
      KeyComparable [(0, false)] a b) ∧
    isStar exGroupQuery.list = false ∧ avgGroupsConstant (fetchOfPlain sdbA1) exGroupQuery = true ∧
    exec s1 (.select exGroupQuery) = (s1, .ok) := by
  obtain ⟨s1, w, e, h1, hc, hw⟩ := sessT_after_insert
  obtain ⟨hm, hk, hcomp, hs, havg⟩ := exGroupQuery_meaning_sdbA1
  refine ⟨s1, w, e, h1, hc, hw, exQueries_ok.1, exQueries_ok.2.1, hm, hk, hcomp, hs, havg, ?_⟩
  have h4 := (C18_session_select_is_answered_or_refused s1 w h1 "d" hc exGroupQuery exQueries_ok.1
    exQueries_ok.2.1).2.2.2 _ _ (by rw [hw]; exact hm) (by rw [hw]; exact hk) hcomp
    (fun _ => by rw [hw]; exact havg)
  have h1' := (C18_session_select_is_answered_or_refused s1 w h1 "d" hc exGroupQuery exQueries_ok.1
    exQueries_ok.2.1).1
  exact Prod.ext h1' h4

/-- the other branch of (2): in `sessT` a SELECT from a table that does not exist is refused with the
executor's error value (computed by the model) -/
example : (exec sessT (.select { list := [⟨.star, []⟩], from_ := some (.table ⟨[117], none⟩) })).2.isErr
    "tableNotExist" = true := by decide +kernel

end Mkdb.Session

/-! ## SELECT on the two CATALOG tables: without `UserTables`

The theorems above exclude a SELECT whose FROM clause names `sys_pages` or `sys_schema` (`UserTables`): the
invariant `DbInv` does not say what `sys_schema` lists for the two catalog tables themselves, nor what the
page table's row about itself names.  `CatSelf pt sch` (Proofs/CatSelf) says it: the page table holds
the row `(sys_pages, leftmost leaf of the page table)`, and the columns `sys_schema` lists for `sys_pages`
and for `sys_schema` are `pageTableSchema` / `schemaTableSchema` - the rows `CREATE DATABASE` wrote
(`C01_catalog_describes_itself`).  It holds after `CREATE DATABASE`, every statement keeps it, so it holds
in every database of every reachable session, and with it no SELECT - over any tables - panics.
Proofs: `Mkdb/Proofs/CatSelf.lean`, `CatSelfHistory.lean`, `CatSelfWitness.lean`. -/

namespace Mkdb.Store
open Mkdb.Tree Mkdb.Page Mkdb.Tuple Mkdb.Generated Mkdb.Exec Mkdb.Exec.TypedP Mkdb.Sql

/-- **C18.catalog_tables_are_read_as_stored**.  For a database that satisfies `DbInv` and whose catalog
describes itself (`CatSelf pt sch`), `RelationService.Fetch` of `sys_pages` and of `sys_schema` returns
`.ok` - no error value, no panic, no unmodelled path, no exhausted fuel: what a SELECT reads
(`fetchOf db`) is, for `sys_pages`, the columns `table_name`, `file_offset` and one row per live row of the
page table (`rowsOf`: every one decodes with `pageTableSchema`, a consequence of `Cat`); for `sys_schema`
the columns `table_name`, `field_name`, `field_type`, `field_length` and one row per live row of
`sys_schema` (every one decodes with `schemaTableSchema`).  For `sys_pages` the scan starts at the page
the page table's row about itself names: the leftmost LEAF of the page table (`firstLeafOff pt`), which is
its root only until the page table splits (`C18_select_on_a_split_page_table`) - the scan walks the
sibling chain from there and still sees every row (`scan_first`). -/
theorem C18_catalog_tables_are_read_as_stored (db : Engine.DB) (sdb : Spec.SDB) (pt sch : Levels)
    (tbls : List (Bytes × Levels)) (h : DbInv db sdb pt sch tbls) (hs : CatSelf pt sch) :
    fetchOf db sysPages = some ⟨pageTableSchema.map fun fd => fd.name.toUTF8.toList,
      (rowsOf pageTableSchema (live pt)).map (·.2)⟩ ∧
    fetchOf db sysSchema = some ⟨schemaTableSchema.map fun fd => fd.name.toUTF8.toList,
      (rowsOf schemaTableSchema (live sch)).map (·.2)⟩ ∧
    (rowsOf pageTableSchema (live pt)).length = (live pt).length ∧
    (rowsOf schemaTableSchema (live sch)).length = (live sch).length := by
  obtain ⟨_, habs, _⟩ := h.abs
  obtain ⟨h1, h2⟩ := fetchOf_catalog habs.cat hs
  refine ⟨h1, h2, ?_, ?_⟩
  · have := congrArg List.length (rowsOf_keys pageTableSchema (live pt)
      (fun c hc => ptEntry_decodes (habs.cat.dec c hc)))
    simpa using this
  · have := congrArg List.length (rowsOf_keys schemaTableSchema (live sch) (schemaOf_rows_decode hs.schS))
    simpa using this

/-- non-vacuity: the computed database `CREATE DATABASE; CREATE TABLE t (a INT)` satisfies both hypotheses;
its page table has three live rows, its `sys_schema` seven -/
example : DbInv tableDB sdbA0 ptT schT [(tname, tT)] ∧ CatSelf ptT schT ∧
    (live ptT).length = 3 ∧ (live schT).length = 7 :=
  ⟨dbFlushed_tableDB.inv, catSelf_tableDB, by decide +kernel, by decide +kernel⟩

/-- **C18.every_statement_keeps_the_catalog_self_description** (what makes the next theorem hold in every
reachable database).  The database `CREATE DATABASE` leaves satisfies `CatSelf` (with `DbInv`), and from a
database that satisfies `DbInv` and `CatSelf` every CREATE TABLE / INSERT / UPDATE / DELETE the parser can
produce (side conditions exactly those of `C18_every_statement_keeps_the_database_invariant`) returns `.ok`
or `.err` with a database that satisfies `DbInv` for some plain database and some catalog description, and
that description satisfies `CatSelf` again.  Why: statements do not address the catalog tables by name
(`StmtNames`), so the page table changes only by `insertPageTable` (CREATE TABLE: a new row at the end; if
that splits the leftmost leaf its left half keeps the offset - `firstLeafOff_insertAppend`) and by
re-pointings of the rows of OTHER names (`updatePageTable` of a user table or of `sys_schema`: same leaves,
same offsets); and `sys_schema` changes only by `insertSchemaRows` (CREATE TABLE: rows under the NEW
table's name - `createTable_cat_core`). -/
theorem C18_every_statement_keeps_the_catalog_self_description :
    (DbInv newDB [] ptNew schNew [] ∧ CatSelf ptNew schNew) ∧
    ∀ (db : Engine.DB) (order : List Nat) (sdb : Spec.SDB) (pt sch : Levels) (tbls : List (Bytes × Levels)),
      DbInv db sdb pt sch tbls → CatSelf pt sch → ∀ st : Sql.Stmt,
      StmtNames pt tbls st → StmtRoomT db pt sch tbls st → StmtLits st →
      ∃ db', (evalStmt db order st = .ok () db' ∨ ∃ e, evalStmt db order st = .err e db') ∧
        ∃ sdb' pt' sch' tbls', DbInv db' sdb' pt' sch' tbls' ∧ CatSelf pt' sch' :=
  ⟨⟨(ckpt_newDB.dbFlushed noStale_new).inv, catSelf_new⟩,
    fun db order sdb pt sch tbls h hs st hn hr hl => by
      obtain ⟨db', hres, sdb', pt', sch', tbls', hi'⟩ := evalStmt_keeps_inv db order sdb pt sch tbls h st hn hr hl
      exact ⟨db', hres, sdb', pt', sch', tbls', hi',
        (evalStmt_keeps_self db order sdb pt sch tbls h hs st hn hr hl db' hres).catSelf hi'⟩⟩

/-- non-vacuity of the step: `CREATE TABLE t (a INT)` on the new database meets the side conditions -/
example : StmtNames ptNew [] (.createTable tname acols) ∧
    StmtRoomT newDB ptNew schNew [] (.createTable tname acols) ∧ StmtLits (.createTable tname acols) :=
  ⟨fun h => absurd h tname_ne_sys.1,
    room_create_t.2.2, trivial⟩

/-- **C18.select_on_catalog_tables_never_panics** - `C18_select_on_stored_tables_never_panics` WITHOUT
`UserTables`, and `C18_select_on_any_table_never_panics` with the unproved check `catalogOK db` replaced
by the invariant `CatSelf`.  For every database that satisfies `DbInv` and `CatSelf` (every database of
every reachable session does: `C18_session_never_crashes_any_table`) and every SELECT whose select list has
a shape the parser builds (`hq`; `C18_parsed_select_has_the_shape`) - ANY FROM clause: user tables,
`sys_pages`, `sys_schema`, unknown names, joins of them: `Fetch` of every table read returns rows or an
error value (`FetchTotal`: no panic, no unmodelled path, fuel not exhausted - `Fetch` of `sys_pages` scans
from the leftmost leaf of the page table), `evaluateSelect (fetchOf db) q` is `.ok` or `.err` - NEVER
`.panic`, the sort comparator included: the rows of the catalog tables are typed by `pageTableSchema` /
`schemaTableSchema`, whose column names are distinct -, and every column of the rows returned holds values
of one kind or NULL. -/
theorem C18_select_on_catalog_tables_never_panics (db : Engine.DB) (sdb : Spec.SDB) (pt sch : Levels)
    (tbls : List (Bytes × Levels)) (h : DbInv db sdb pt sch tbls) (hs : CatSelf pt sch) (q : Select)
    (hq : Exec.NoPanicP.ParsedShape q) :
    (∀ n ∈ selectNames q, FetchTotal db n) ∧ (∀ s, evaluateSelect (fetchOf db) q ≠ .panic s) ∧
    ∀ rows hdr, evaluateSelect (fetchOf db) q = .ok (rows, hdr) → ∃ ks : List Kind, ∀ r ∈ rows, rowHas ks r = true :=
  select_never_panics_self h.abs hs q hq

/-- non-vacuity on the computed database `tableDB`: the hypotheses hold; `SELECT * FROM
sys_schema ORDER BY field_type`, `SELECT * FROM sys_pages p JOIN sys_schema s ON p.table_name = s.table_name
ORDER BY s.field_name` and `SELECT * FROM sys_pages` have the parser shape, do NOT meet `UserTables`, and
evaluate (computed by the kernel) to 7 rows × 4 columns, 7 × 6, 3 × 2 -/
example : DbInv tableDB sdbA0 ptT schT [(tname, tT)] ∧ CatSelf ptT schT ∧
    (Exec.NoPanicP.ParsedShape exCatalogQuery) ∧
    (Exec.NoPanicP.ParsedShape exCatalogJoin) ∧
    (Exec.NoPanicP.ParsedShape exPagesQuery) ∧
    ¬ UserTables exCatalogQuery ∧ ¬ UserTables exCatalogJoin ∧ ¬ UserTables exPagesQuery ∧
    selectSize (evaluateSelect (fetchOf tableDB) exCatalogQuery) = some (7, 4) ∧
    selectSize (evaluateSelect (fetchOf tableDB) exCatalogJoin) = some (7, 6) ∧
    selectSize (evaluateSelect (fetchOf tableDB) exPagesQuery) = some (3, 2) :=
  ⟨dbFlushed_tableDB.inv, catSelf_tableDB, exCatalog_shapes.1, exCatalog_shapes.2.1, exCatalog_shapes.2.2.1,
    exCatalog_shapes.2.2.2.1, exCatalog_shapes.2.2.2.2.1, exCatalog_shapes.2.2.2.2.2,
    exCatalog_on_tableDB.1, exCatalog_on_tableDB.2.1, exCatalog_on_tableDB.2.2⟩

/-- **C18.select_on_a_split_page_table** (the case one might expect to fail: after the page table has
split, `SELECT * FROM sys_pages` reads the page table through its STALE self-row).  `db8` is the database
the model computes for `CREATE DATABASE; CREATE TABLE t1 (a INT); …; CREATE TABLE t8 (a INT)`: the header
locates the page table's root at page 53248, its row about itself still reads `(sys_pages, 4096)`
(`PtSelfSplitWitness.db8_stale`; cf. `C02_side_conditions_hold_in_every_reachable_database`).  The catalog of `db8`
describes itself all the same (`SelfOK db8`: `CatSelf` under whatever catalog description the store has -
page 4096 is the leftmost leaf), so no SELECT of a parser-produced shape panics on it, and `SELECT * FROM
sys_pages` returns (computed by the kernel) all ten rows, the join with `sys_schema` its fourteen.  No
panic of a catalog SELECT was found in the model: the Go code's `Fetch("sys_pages")` starts `scanRight` at
the old root, which `split` keeps as the leftmost leaf. -/
theorem C18_select_on_a_split_page_table :
    db8.store.hdr.ptRoot = 53248 ∧ SelfOK db8 ∧
    (∀ sdb pt sch tbls, DbInv db8 sdb pt sch tbls → (sysPages, 4096) ∈ ptEntries pt → ∀ q : Select,
      (Exec.NoPanicP.ParsedShape q) → ∀ s, evaluateSelect (fetchOf db8) q ≠ .panic s) ∧
    selectSize (evaluateSelect (fetchOf db8) exPagesQuery) = some (10, 2) ∧
    selectSize (evaluateSelect (fetchOf db8) exCatalogJoin) = some (14, 6) :=
  ⟨db8_ptRoot, selfOK_db8,
    fun _ _ _ _ hi _ q hq => (select_never_panics_self hi.abs (selfOK_db8.catSelf hi) q hq).2.1,
    exPages_on_db8.1, exPages_on_db8.2⟩

/-- non-vacuity of the quantified part: `db8` satisfies `DbInv` for a catalog description whose page table
holds the stale row -/
example : ∃ sdb pt sch tbls, DbInv db8 sdb pt sch tbls ∧ (sysPages, 4096) ∈ ptEntries pt ∧ rootOff pt = 53248 := by
  obtain ⟨sch8, pt8, tbls8, _, _, hg⟩ := eight_tables
  exact ⟨sdb8, pt8, sch8, tbls8, (hg.ck.dbFlushed hg.ns).inv, (db8_stale hg).1, (db8_stale hg).2.1⟩

/-- **C18.parsed_select_on_any_table_never_panics**: for every token list the parser accepts as a SELECT -
over whatever tables - on every database that satisfies `DbInv` and `CatSelf`, the evaluation returns rows
or an error value (`C18_parsed_select_on_stored_tables_never_panics` without `UserTables`). -/
theorem C18_parsed_select_on_any_table_never_panics (db : Engine.DB) (sdb : Spec.SDB) (pt sch : Levels)
    (tbls : List (Bytes × Levels)) (h : DbInv db sdb pt sch tbls) (hs : CatSelf pt sch) (ts : List Scan.Token)
    (q : Select) (hp : parseTokens ts = .ok (.select q)) (s : String) :
    evaluateSelect (fetchOf db) q ≠ .panic s :=
  (select_never_panics_self h.abs hs q (C18_parsed_select_has_the_shape ts q hp)).2.1 s

/-- non-vacuity: the tokens of `SELECT * FROM sys_pages;` parse to a SELECT whose FROM clause names the page
table (the bytes of `sys_pages`: `sysPages_eq`) -/
example : parseTokens [⟨t_SELECT, []⟩, ⟨t_ASTRSK, []⟩, ⟨t_FROM, []⟩,
      ⟨t_IDENT, [115, 121, 115, 95, 112, 97, 103, 101, 115]⟩, ⟨t_SEMICOLON, []⟩] =
      .ok (.select { list := [⟨.star, []⟩], from_ := some (.table ⟨[115, 121, 115, 95, 112, 97, 103, 101, 115], none⟩) }) ∧
    sysPages = [115, 121, 115, 95, 112, 97, 103, 101, 115] :=
  ⟨rfl, sysPages_eq⟩

/-- **C18.select_after_any_history_never_panics_any_table** - `C18_select_after_any_history_never_panics`
without `UserTables`: run any list of statements from the database `CREATE DATABASE` leaves, each accepted
by the plain model (with room) or refused before a change (`HistOK`); the run keeps `CatSelf`
(`runHist_self`), and on the database reached a SELECT of a parser-produced shape over ANY tables never
panics. -/
theorem C18_select_after_any_history_never_panics_any_table (sts : List Sql.Stmt) (hok : HistOK [] sts newDB []) :
    ∃ db', runHist [] newDB sts = some db' ∧ ∀ q : Select,
      (Exec.NoPanicP.ParsedShape q) →
      (∀ n ∈ selectNames q, FetchTotal db' n) ∧ ∀ s, evaluateSelect (fetchOf db') q ≠ .panic s :=
  history_select_never_panics_any sts hok

/-- non-vacuity: `histOK_create_t` (Proofs/BaseCaseTable) - the history `CREATE TABLE t (a INT)` -/
example : HistOK [] [.createTable tname acols] newDB [] := histOK_create_t

end Mkdb.Store

namespace Mkdb.Session
open Mkdb.Engine Mkdb.Store Mkdb.Sql Mkdb.Exec

/-- **C18.session_statement_never_crashes_any_table** - `C18_session_statement_never_crashes`
without `UserTables`.  `SessInvAny s` (Proofs/CatSelfHistory) is `SessInv s` together with `SessSelf s`: every
database of the session has a catalog that describes itself (`SelfOK`: `CatSelf` under whatever catalog
description its store has).  From such a session EVERY statement - CREATE DATABASE, USE, SHOW DATABASES,
SELECT, CREATE TABLE, INSERT, UPDATE, DELETE; valid or not; with or without a selected database - returns a
result or an error value, never `Out.panic`, and leaves a session that satisfies `SessInvAny` again.
`StmtSideAny s st` is `StmtSide s st` with the condition of a `.select q` reduced to the parser shape
(`SelectShape`: the select list is `*` alone or has no leading `*` - discharged for every parsed statement by
`C18_parsed_select_has_the_shape`); its FROM clause may name `sys_pages`, `sys_schema`, user tables, unknown
names.  The conditions of the other statements are unchanged (`StmtNames`: INSERT / UPDATE / DELETE / CREATE
TABLE do not address the two catalog tables by name; `StmtRoomT`; `StmtLits`). -/
theorem C18_session_statement_never_crashes_any_table (s : Sess) (h : SessInvAny s) (st : Sql.Stmt)
    (hside : StmtSideAny s st) : (exec s st).2 ≠ Out.panic ∧ SessInvAny (exec s st).1 := by
  obtain ⟨⟨w, hw⟩, hs⟩ := h
  obtain ⟨w', h1, hs1, h2, _⟩ := exec_sessAbs_any hw hs st hside
  exact ⟨h2, ⟨w', h1⟩, hs1⟩

/-- non-vacuity: the session whose selected database is the computed `tableDB` satisfies `SessInvAny`, and
the join of `sys_pages` with `sys_schema` meets `StmtSideAny` in it -/
example : SessInvAny sessT ∧ StmtSideAny sessT (.select exCatalogJoin) :=
  ⟨sessInvAny_sessT, stmtSideAny_plain _ _ exCatalog_shapes.2.1⟩

/-- **C18.session_never_crashes_any_table** - `C18_session_never_crashes` without `UserTables`: run ANY
list of statements from the empty session, going on after every error value.  If each statement meets the
side conditions in the state it is run in (`SessOKAny`: for a SELECT only the parser shape), no step returns
`Out.panic` and the final session satisfies `SessInvAny` - so `CatSelf` holds in every database of every
session reachable this way.  Every history that meets `SessOK` meets `SessOKAny` (`SessOK.any`). -/
theorem C18_session_never_crashes_any_table (sts : List Sql.Stmt) (hok : SessOKAny {} sts) :
    (∀ o ∈ (runAll {} sts).2, o ≠ Out.panic) ∧ SessInvAny (runAll {} sts).1 := by
  obtain ⟨hfin, hsfin, houts⟩ := runAll_sessAbs_any sts {} (fun _ => []) (sessAbs_empty _) sessSelf_empty hok
  exact ⟨houts, hfin, hsfin⟩

/-- **C18.plain_histories_never_crash_any_table** - `C18_plain_histories_never_crash` without
`UserTables` (`PlainAny`: as `Plain`, a SELECT needs only a select list of a shape the parser builds): every
history of CREATE DATABASE, USE, SHOW DATABASES, SELECT over ANY tables, DELETE and UPDATE (on names other
than the catalog tables) meets the side conditions from every session state, so none makes the session
model crash. -/
theorem C18_plain_histories_never_crash_any_table (sts : List Sql.Stmt) (h : ∀ st ∈ sts, PlainAny st) :
    (∀ o ∈ (runAll {} sts).2, o ≠ Out.panic) ∧ SessInvAny (runAll {} sts).1 :=
  C18_session_never_crashes_any_table sts (sessOKAny_plain sts {} h)

/-- non-vacuity: CREATE DATABASE, USE, then the three catalog queries are `PlainAny`, and the session model
answers all five statements (computed by the kernel) -/
example : (∀ st ∈ [Stmt.createDatabase [100], .use [100], .select exCatalogQuery, .select exCatalogJoin,
      .select exPagesQuery], PlainAny st) ∧
    (runAll {} [.createDatabase [100], .use [100], .select exCatalogQuery, .select exCatalogJoin,
      .select exPagesQuery]).2.map Out.isOk = [true, true, true, true, true] := by
  refine ⟨?_, catalog_history_answered⟩
  intro st hst
  simp only [List.mem_cons, List.not_mem_nil, or_false] at hst
  rcases hst with rfl | rfl | rfl | rfl | rfl
  · exact trivial
  · exact trivial
  · exact exCatalog_shapes.1
  · exact exCatalog_shapes.2.1
  · exact exCatalog_shapes.2.2.1

/-- **C18.session_select_never_panics_any_table** - `C18_session_select_never_panics` without
`UserTables`: in the session any list of statements leaves, on EVERY database of the session, every SELECT of a
parser-produced shape over any tables reads its tables without a crash of `Fetch` and evaluates to rows or
an error value. -/
theorem C18_session_select_never_panics_any_table (sts : List Sql.Stmt) (hok : SessOKAny {} sts) :
    ∀ p ∈ (runAll {} sts).1.dbs, ∀ q : Select, (Exec.NoPanicP.ParsedShape q) →
      (∀ n ∈ selectNames q, FetchTotal p.2 n) ∧ ∀ x, evaluateSelect (fetchOf p.2) q ≠ .panic x :=
  sessInvAny_select_never_panics (C18_session_never_crashes_any_table sts hok).2

/-- the same from any session that satisfies `SessInvAny` -/
theorem C18_session_state_select_never_panics_any_table (s : Sess) (h : SessInvAny s) :
    ∀ p ∈ s.dbs, ∀ q : Select, (Exec.NoPanicP.ParsedShape q) →
      (∀ n ∈ selectNames q, FetchTotal p.2 n) ∧ ∀ x, evaluateSelect (fetchOf p.2) q ≠ .panic x :=
  sessInvAny_select_never_panics h

/-- non-vacuity: `sessT` satisfies `SessInvAny` and holds the computed `tableDB` -/
example : SessInvAny sessT ∧ ("d", tableDB) ∈ sessT.dbs := ⟨sessInvAny_sessT, by simp [sessT]⟩

/-- **C18.session_select_any_table_is_answered_or_refused** - parts (1) and (2) of
`C18_session_select_is_answered_or_refused` without `UserTables`: in a session that satisfies
`SessInvAny`, with a database selected, a SELECT of a parser-produced shape over ANY tables changes nothing
and is answered (`Out.ok`) or refused with an error value of the executor - never `Out.panic`.  Parts (3)
and (4) of that theorem compare with the evaluation on the PLAIN database, which has no catalog tables
(there `sys_pages` is an unknown table): they stay as they are, for user tables. -/
theorem C18_session_select_any_table_is_answered_or_refused (s : Sess) (h : SessInvAny s) (n : String)
    (hc : s.cur = some n) (q : Select) (hq : Exec.NoPanicP.ParsedShape q) :
    (exec s (.select q)).1 = s ∧
    ((exec s (.select q)).2 = Out.ok ∨ ∃ e, (exec s (.select q)).2 = Out.err (stmtErr (.exec e))) := by
  obtain ⟨⟨w, hw⟩, hs⟩ := h
  refine ⟨exec_select_fst s q, ?_⟩
  obtain ⟨db, pt, sch, tbls, hg, hm, hi⟩ := hw.selected hc
  rw [exec_select_cur hc hg]
  exact selectOut_cases (select_never_panics_self hi.abs ((hs _ hm).catSelf hi) q hq).2.1

/-- non-vacuity: in `sessT` (database `d` selected) the three catalog queries are answered (computed by the
kernel) -/
example : SessInvAny sessT ∧ sessT.cur = some "d" ∧
    (runAll sessT [.select exCatalogQuery, .select exCatalogJoin, .select exPagesQuery]).2.map Out.isOk =
      [true, true, true] :=
  ⟨sessInvAny_sessT, rfl, sessT_catalog_selects_answered⟩

end Mkdb.Session
