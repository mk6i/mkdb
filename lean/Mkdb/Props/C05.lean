import Mkdb.Proofs.AliasCapture
import Mkdb.Proofs.MeaningPipeline
import Mkdb.Proofs.Roundtrip
import Mkdb.Proofs.Select
import Mkdb.Proofs.SortAny
/-!
# C05 — single-table SELECT returns what its clauses mean

The property theorems (lemmas in `Mkdb/Proofs/Select.lean`, `MeaningClauses`, `MeaningSelectList`,
`MeaningPipeline`, `SortAny`).  Quantifier: every table
content, every query (any WHERE condition, select list, ORDER BY keys, OFFSET, LIMIT).
-/
namespace Mkdb.Exec
open Mkdb.Sql Mkdb.Exec.SelectP Mkdb.Exec.AliasCaptureP

/-- **C05.select_correct**: the result of a single-table SELECT without aggregates and without
GROUP BY is exactly: the rows of the table that satisfy the WHERE condition (in insertion order),
projected by the select list, sorted by the resolved ORDER BY keys, then OFFSET rows
dropped and at most LIMIT rows kept — nothing else happens, in that order.
(The keys are resolved against `sortFields q.list hdr`: the output header in which an aliased
column has lost its table id, so that a qualified key `t.b` is not captured by the alias `b` of
another column - `C05_qualified_key_not_captured_by_alias`.)
(`hgb : q.groupBy = []`: a GROUP BY groups even when the select list holds no aggregate -
`SELECT a FROM t GROUP BY a` is one row per distinct `a`, which is C07's
`C07_group_by_without_aggregate`, not this theorem.) -/
theorem C05_select_correct {fetch : Bytes → Option Table} {q : Select} {t : TableName}
    {rows : List Row} {hdr : List Field}
    (hfrom : q.from_ = some (.table t)) (hagg : hasAggr q.list = false) (hgb : q.groupBy = [])
    (h : evaluateSelect fetch q = .ok (rows, hdr)) :
    ∃ tbl src fields filtered projected keys,
      fetch t.name = some tbl ∧ src = tbl.rows ∧ fields = tableFields t tbl ∧
      (match q.where_ with
        | some c => (∀ r ∈ src, ∃ v, evaluate c fields r = .ok v) ∧
                    filtered = src.filter (keeps c fields)
        | none => filtered = src) ∧
      projectColumns q.list fields filtered = .ok (projected, hdr) ∧
      resolveSortKeys q.orderBy (sortFields q.list hdr) = .ok keys ∧
      (∀ a ∈ projected, ∀ b ∈ projected, KeyComparable keys a b) ∧
      rows = cut q.lim (sortRows keys projected) :=
  select_single_table hfrom hagg hgb h

/-- **C05.sort**: the sorting step returns a permutation of its input that is sorted by
the keys (ASC/DESC per key), for every key list and every row list. -/
theorem C05_sort (keys : List (Nat × Bool)) (rows : List Row) :
    (sortRows keys rows).Perm rows ∧ Spec.sortedBy keys (sortRows keys rows) = true :=
  ⟨sortRows_perm keys rows, sortRows_sorted keys rows⟩

/-- **C05.insertion_order**: without ORDER BY the rows come back in insertion order. -/
theorem C05_no_order_by (rows : List Row) : sortRows [] rows = rows := sortRows_nil_keys rows

/-- **C05.cmp_strict_weak**: on rows whose key columns hold values of one type (or NULL)
the multi-key ASC/DESC comparator is a strict weak order — the hypothesis under which the
library sort (`sort.Slice`) is trusted to produce a sorted permutation. -/
theorem C05_cmp_strict_weak (keys : List (Nat × Bool)) (S : List Row)
    (hS : ∀ a ∈ S, ∀ b ∈ S, KeyComparable keys a b) : StrictWeakOn (rowLess keys) S :=
  rowLess_strict_weak keys S hS

/-- **C05.limit_offset**: the final rows are `take LIMIT (drop OFFSET sorted)` of a sorted
permutation of the projected rows, and are themselves sorted.  (Without aggregates and without
GROUP BY, `hgb : q.groupBy = []`, as in `C05_select_correct`: with a GROUP BY the sorted rows are
the grouped rows, not the projected ones.) -/
theorem C05_limit_offset {fetch : Bytes → Option Table} {q : Select} {t : TableName}
    {rows : List Row} {hdr : List Field}
    (hfrom : q.from_ = some (.table t)) (hagg : hasAggr q.list = false) (hgb : q.groupBy = [])
    (h : evaluateSelect fetch q = .ok (rows, hdr)) :
    ∃ keys fields filtered projected sorted,
      projectColumns q.list fields filtered = .ok (projected, hdr) ∧
      Spec.sortKeys q hdr = some keys ∧
      sorted = sortRows keys projected ∧ sorted.Perm projected ∧
      Spec.sortedBy keys sorted = true ∧
      sorted.Pairwise (fun a b => rowLess keys b a = false) ∧
      rows = (let off := if q.lim.offsetActive then q.lim.offset.toNat else 0
              let d := sorted.drop off
              if q.lim.limitActive then d.take q.lim.limit.toNat else d) ∧
      Spec.sortedBy keys rows = true := by
  obtain ⟨tbl, src, fields, filtered, projected, keys, _, _, _, _, hproj, hkeys, hcomp, hrows⟩ :=
    select_single_table hfrom hagg hgb h
  refine ⟨keys, fields, filtered, projected, _, hproj, resolveSortKeys_iff_spec.1 hkeys, rfl,
    sortRows_perm _ _, sortRows_sorted _ _, sortRows_pairwise _ _ hcomp, ?_, ?_⟩
  · rw [hrows, cut_eq]
  · rw [hrows]; exact sortedBy_cut _ _ _ (sortRows_sorted _ _)

/-- **C05.qualified_key_not_captured_by_alias**: a qualified ORDER BY key finds only a non-aliased
column of the table it names.  For a select list `sl` and an output header `hdr` of the same length
(any select list but `*`), if the qualified reference `c` resolves - in the header `sortColumns` is
handed, `sortFields sl hdr` - to position `i`, then the `i`-th select-list element has no alias and
the `i`-th output column is the column `c.qual.c.name` itself.  (`SELECT a AS b, b AS c FROM t
ORDER BY t.b` does not sort by the first column, the alias `b` of `a`; see the example below.) -/
theorem C05_qualified_key_not_captured_by_alias (sl : List DerivedCol) (hdr : List Field)
    (hlen : sl.length = hdr.length) (c : ColRef) (hq : c.qual ≠ []) (i : Nat)
    (h : findColumn c (sortFields sl hdr) = .ok i) :
    (sl[i]?).map (·.alias) = some [] ∧ hdr[i]? = some ⟨c.qual, c.name⟩ :=
  qualified_key_not_captured_by_alias sl hdr hlen c hq i h

/-- `sortFields` only blanks table ids: the positions of the header are unchanged -/
theorem C05_sortFields_length (sl : List DerivedCol) (hdr : List Field) :
    (sortFields sl hdr).length = hdr.length := by
  unfold sortFields
  split
  · rfl
  · rename_i h
    have h' : sl.length = hdr.length := by simpa using h
    simp only [List.length_map, List.length_zip, h', Nat.min_self]

/-- `SELECT a AS b, b AS c FROM t ORDER BY t.b`: the key is refused (no output column is the column
`b` of `t`), whereas resolved against the raw output header it was the alias `b` of column `a` -/
example :
    findColumn ⟨[116], [98]⟩
      (sortFields [⟨.expr (.val (.col ⟨[], [97]⟩)), [98]⟩, ⟨.expr (.val (.col ⟨[], [98]⟩)), [99]⟩]
        [⟨[116], [98]⟩, ⟨[116], [99]⟩]) = .err .fieldNotFound ∧
    findColumn ⟨[116], [98]⟩ [⟨[116], [98]⟩, ⟨[116], [99]⟩] = .ok 0 := by decide +kernel

/-- **C05.where**: the WHERE step keeps exactly the rows on which the condition holds, in order. -/
theorem C05_where {c : Cond} {fields : List Field} {rows out : List Row}
    (h : filterRows c fields rows = .ok out) :
    (∀ r ∈ rows, ∃ v, evaluate c fields r = .ok v) ∧ out = rows.filter (keeps c fields) :=
  filterRows_ok_iff.1 h

/-- **C05.precedence** is `C10_cond_roundtrip`: every parenthesis-free AND/OR combination
parses to the tree with AND binding tighter than OR; `evaluate` then computes
`(… ∧ …) ∨ …` on that tree. -/
theorem C05_or_of_and (p q r : Pred) (fields : List Field) (row : Row) (a b c : Bool)
    (hp : evalPred p fields row = .ok a) (hq : evalPred q fields row = .ok b) (hr : evalPred r fields row = .ok c) :
    evaluate (Sql.orTree (p, [q]) [(r, [])]) fields row = .ok (.bool ((a && b) || c)) := by
  simp [Sql.orTree, Sql.andTree, evaluate, hp, hq, hr, bind, Bind.bind]

end Mkdb.Exec

/-! ## The executor against the reference meaning

`Spec.meaning fetch q` (the rows a SELECT means before ORDER BY / OFFSET / LIMIT, written as list
comprehensions) and `Spec.satisfies q hdr want result` ("`result` is what `q` means") are the pair
the differential-testing judge evaluates on the output of the real implementation
(`Mkdb/Driver/Exec.lean`, `judgeLine`); the header it passes is `judgeHeader fetch q`
(`projectColumns q.list fields []` on the fields of `Spec.fromRows`).  The theorems below say that the
model of `EvaluateSelect` and this reference meaning agree, in both directions. -/
namespace Mkdb.Exec
open Mkdb.Sql Mkdb.Exec.SelectP Mkdb.Exec.MeaningP

/-- **C05.result_is_the_reference_meaning**: whatever a single-table SELECT without aggregates and
without GROUP BY answers is what the query means.  If `evaluateSelect` answers `(rows, hdr)` then the
query has a reference meaning `want` (`Spec.meaning`: the rows of the table satisfying WHERE, in
insertion order, projected by the select list), `hdr` is the header the judge computes, the ORDER BY
keys resolve against it to `keys`, the key columns of `want` are comparable, the answer is exactly
`rows = cut (sortRows keys want)` (OFFSET rows dropped, at most LIMIT kept; without ORDER BY
`keys = []` and `sortRows [] want = want`: insertion order), and the judge's test
`Spec.satisfies q hdr want rows` accepts it.
Hypothesis `hwhere` excludes a WHERE clause that is a bare integer or string literal (`WHERE 5`):
the code evaluates it to a non-boolean, selects no row and answers, while the reference meaning is
undefined (ill-typed) - `C05_bare_literal_where_is_answered` is the witness that the hypothesis is
needed. -/
theorem C05_result_is_the_reference_meaning {fetch : Bytes → Option Table} {q : Select}
    {t : TableName} {rows : List Row} {hdr : List Field}
    (hfrom : q.from_ = some (.table t)) (hagg : hasAggr q.list = false) (hgb : q.groupBy = [])
    (hwhere : whereIsBoolean q = true)
    (h : evaluateSelect fetch q = .ok (rows, hdr)) :
    ∃ want keys, Spec.meaning fetch q = some want ∧ hdr = judgeHeader fetch q ∧
      Spec.sortKeys q hdr = some keys ∧
      (∀ a ∈ want, ∀ b ∈ want, KeyComparable keys a b) ∧
      rows = cut q.lim (sortRows keys want) ∧
      Spec.satisfies q hdr want rows = true := by
  obtain ⟨want, got, keys, hm, hh, hk, _, hex, hcomp, rfl, hs, _⟩ :=
    select_result hfrom hwhere (no_groups hagg hgb) h
  cases hex t rfl
  exact ⟨want, keys, hm, hh, hk, hcomp, rfl, hs⟩

/-- **C05.meaningful_query_is_answered** (the converse: what makes the reference meaning a
specification and not a restatement): a single-table SELECT without aggregates and without GROUP BY
that has a reference meaning `want`, whose ORDER BY keys resolve against the header the judge
computes and whose key columns hold comparable values (one type, or NULL - what typed columns
guarantee; `C05_incomparable_keys_panic` shows the hypothesis is needed) is not refused: the
executor answers, with that header and exactly the rows `cut (sortRows keys want)`, and the judge's
test accepts the answer.  No hypothesis on WHERE and none on the shape of the stored rows.
Hypotheses `hlist`, `hlim`: the select list is not empty and no written LIMIT / OFFSET is negative
(`Spec.boundsOK`) - true of every statement the parser returns; `EvaluateSelect` takes both for
granted and a hand-built statement without them makes it panic (`selectList[0]`, `rows[0:limit]`,
`rows[offset:]`) although the reference meaning, which does not look at LIMIT / OFFSET, is defined:
`C05_empty_list_and_negative_bounds_panic`. -/
theorem C05_meaningful_query_is_answered {fetch : Bytes → Option Table} {q : Select}
    {t : TableName} {want : List Row} {keys : List (Nat × Bool)}
    (hfrom : q.from_ = some (.table t)) (hagg : hasAggr q.list = false) (hgb : q.groupBy = [])
    (hlist : q.list ≠ []) (hlim : Spec.boundsOK q.lim = true)
    (hm : Spec.meaning fetch q = some want)
    (hk : Spec.sortKeys q (judgeHeader fetch q) = some keys)
    (hcomp : ∀ a ∈ want, ∀ b ∈ want, KeyComparable keys a b) :
    evaluateSelect fetch q = .ok (cut q.lim (sortRows keys want), judgeHeader fetch q) ∧
      Spec.satisfies q (judgeHeader fetch q) want (cut q.lim (sortRows keys want)) = true := by
  obtain ⟨got, _, hex, he, hs⟩ := select_answered hfrom hlist hlim (no_groups hagg hgb) hm hk hcomp
  cases hex t rfl
  exact ⟨he, hs⟩

/-- **C05.answered_iff_meaningful**: the two directions as one equivalence.  For a single-table
SELECT without aggregates and GROUP BY whose WHERE clause is not a bare non-boolean literal, the
executor answers `(rows, hdr)` if and only if the select list is not empty, no written LIMIT / OFFSET
is negative (`Spec.boundsOK`; both hold of every parsed statement), the query has a reference meaning
`want`, `hdr` is the judge's header, the sort keys resolve to `keys` and are comparable on `want`, and
`rows = cut (sortRows keys want)`.  In particular a query without a meaning (unknown table, unknown
or ambiguous column, ill-typed comparison on some row) or with an unresolvable sort key is refused
(an error or a panic), and a refused query has no meaning or no usable sort keys. -/
theorem C05_answered_iff_meaningful {fetch : Bytes → Option Table} {q : Select} {t : TableName}
    (hfrom : q.from_ = some (.table t)) (hagg : hasAggr q.list = false) (hgb : q.groupBy = [])
    (hwhere : whereIsBoolean q = true) (rows : List Row) (hdr : List Field) :
    evaluateSelect fetch q = .ok (rows, hdr) ↔
      q.list ≠ [] ∧ Spec.boundsOK q.lim = true ∧
      ∃ want keys, Spec.meaning fetch q = some want ∧ hdr = judgeHeader fetch q ∧
        Spec.sortKeys q hdr = some keys ∧
        (∀ a ∈ want, ∀ b ∈ want, KeyComparable keys a b) ∧
        rows = cut q.lim (sortRows keys want) := by
  constructor
  · intro h
    obtain ⟨want, got, keys, hm, hh, hk, _, hex, hcomp, hrows, _, hne, hb⟩ :=
      select_result hfrom hwhere (no_groups hagg hgb) h
    cases hex t rfl
    exact ⟨hne, hb, want, keys, hm, hh, hk, hcomp, hrows⟩
  · rintro ⟨hlist, hlim, want, keys, hm, rfl, hk, hcomp, rfl⟩
    exact (C05_meaningful_query_is_answered hfrom hagg hgb hlist hlim hm hk hcomp).1

/-- the judge's header, spelled out: `projectColumns` on the fields of the FROM clause and no rows -/
theorem C05_judgeHeader_def (fetch : Bytes → Option Table) (q : Select) :
    judgeHeader fetch q =
      (match projectColumns q.list
          (match q.from_ with
            | some tr => (match Spec.fromRows fetch tr with | some (_, f) => f | none => [])
            | none => []) [] with
        | .ok (_, h) => h | _ => []) := rfl

/-- the hypothesis on WHERE, spelled out -/
theorem C05_whereIsBoolean_def (q : Select) :
    whereIsBoolean q = (match q.where_ with
      | some (.val (.lit (.int _))) => false
      | some (.val (.lit (.str _))) => false
      | _ => true) := by
  unfold whereIsBoolean
  cases q.where_ with
  | none => rfl
  | some c => cases c with
    | val v => cases v with
      | lit l => cases l <;> rfl
      | col c => rfl
    | pred p => rfl
    | and p r => rfl
    | or l r => rfl

/-- `SELECT a FROM t WHERE 5` -/
def exQueryBareLiteral : Select :=
  { list := [⟨.expr (.val (.col ⟨[], [97]⟩)), []⟩]
    from_ := some (.table ⟨[116], none⟩)
    where_ := some (.val (.lit (.int 5))) }

/-- **C05.bare_literal_where_is_answered** (an ill-typed query answered; why
`C05_result_is_the_reference_meaning` has the hypothesis `whereIsBoolean`): `SELECT a FROM t WHERE 5`
on a table with five rows is answered with the empty result, although the condition is not a truth
value on any row and the reference meaning is undefined (`filterRows` keeps a row when the value is
the boolean `true` and drops it silently when it is not a boolean at all).  The parser accepts the
statement; the judge does not flag it (a query without meaning may be answered with anything but
rows in an unresolvable order). -/
theorem C05_bare_literal_where_is_answered :
    evaluateSelect exFetch exQueryBareLiteral = .ok ([], [⟨[116], [97]⟩]) ∧
    Spec.meaning exFetch exQueryBareLiteral = none ∧ whereIsBoolean exQueryBareLiteral = false := by
  decide +kernel

/-- table `m(a)` with an integer and a string in one column (no typed table holds this) -/
def exFetchMixed (n : Bytes) : Option Table :=
  if n = [109] then some ⟨[[97]], [[.int 1], [.str [120]]]⟩ else none

/-- `SELECT a FROM m ORDER BY a` -/
def exQueryMixed : Select :=
  { list := [⟨.expr (.val (.col ⟨[], [97]⟩)), []⟩]
    from_ := some (.table ⟨[109], none⟩)
    orderBy := [⟨⟨[], [97]⟩, false⟩] }

/-- **C05.incomparable_keys_panic** (why `C05_meaningful_query_is_answered` has the hypothesis
`KeyComparable`): on a column holding an integer and a string the query has a meaning and its sort
key resolves, yet the executor does not answer - the comparator of `sortColumns` has no order for
the pair (a panic in Go; C18 records it). -/
theorem C05_incomparable_keys_panic :
    Spec.meaning exFetchMixed exQueryMixed = some [[.int 1], [.str [120]]] ∧
    Spec.sortKeys exQueryMixed (judgeHeader exFetchMixed exQueryMixed) = some [(0, false)] ∧
    evaluateSelect exFetchMixed exQueryMixed = .panic "sortColumns: no comparison available" := by
  decide +kernel

/-- **C05.empty_list_and_negative_bounds_panic** (why `C05_meaningful_query_is_answered` has `hlist`
and `hlim`): three hand-built statements over the table `m` - an empty select list, `SELECT a FROM m
LIMIT -1`, `SELECT a FROM m OFFSET -1` (the parser returns none of them: it demands a select list and
refuses a negative bound) - have a reference meaning, and `EvaluateSelect` panics on each, in the Go
code (index out of range [0], slice bounds out of range [:-1] and [-1:]) as in the model. -/
theorem C05_empty_list_and_negative_bounds_panic :
    Spec.meaning exFetchMixed { list := [], from_ := some (.table ⟨[109], none⟩) } = some [[], []] ∧
    evaluateSelect exFetchMixed { list := [], from_ := some (.table ⟨[109], none⟩) } =
      .panic "projectColumns: selectList[0]" ∧
    Spec.meaning exFetchMixed { exQueryMixed with orderBy := [], lim := { limitActive := true, limit := -1 } } =
      some [[.int 1], [.str [120]]] ∧
    evaluateSelect exFetchMixed { exQueryMixed with orderBy := [], lim := { limitActive := true, limit := -1 } } =
      .panic "limit: rows[0:limit]" ∧
    evaluateSelect exFetchMixed { exQueryMixed with orderBy := [], lim := { offsetActive := true, offset := -1 } } =
      .panic "offset: rows[offset:]" := by
  decide +kernel

-- non-vacuity: `SELECT b, a FROM t WHERE a = 3 OR b = 'ab' ORDER BY b LIMIT 2 OFFSET 1` on the
-- five-row table `t(a, b)` of `Mkdb/Proofs/Select.lean` meets every hypothesis of the three theorems
example : exQuery.from_ = some (.table ⟨[116], none⟩) ∧ hasAggr exQuery.list = false ∧
    exQuery.groupBy = [] ∧ whereIsBoolean exQuery = true ∧ exQuery.list ≠ [] ∧
    Spec.boundsOK exQuery.lim = true := by decide +kernel
example : evaluateSelect exFetch exQuery =
    .ok ([[.str [97, 98], .int 1], [.str [98], .int 3]], [⟨[116], [98]⟩, ⟨[116], [97]⟩]) := by decide +kernel
example : Spec.meaning exFetch exQuery =
    some [[.str [98], .int 3], [.str [97, 98], .int 1], [.str [97], .int 3]] := by decide +kernel
example : judgeHeader exFetch exQuery = [⟨[116], [98]⟩, ⟨[116], [97]⟩] := by decide +kernel
example : Spec.sortKeys exQuery (judgeHeader exFetch exQuery) = some [(0, false)] := by decide +kernel
example : ∀ a ∈ ([[.str [98], .int 3], [.str [97, 98], .int 1], [.str [97], .int 3]] : List Row),
    ∀ b ∈ ([[.str [98], .int 3], [.str [97, 98], .int 1], [.str [97], .int 3]] : List Row),
      KeyComparable [(0, false)] a b := by decide +kernel
-- and the answer is the meaning, sorted by `b` ascending, one row skipped, two kept
example : cut exQuery.lim (sortRows [(0, false)]
    [[.str [98], .int 3], [.str [97, 98], .int 1], [.str [97], .int 3]]) =
    [[.str [97, 98], .int 1], [.str [98], .int 3]] := by decide +kernel
example : Spec.satisfies exQuery (judgeHeader exFetch exQuery)
    [[.str [98], .int 3], [.str [97, 98], .int 1], [.str [97], .int 3]]
    [[.str [97, 98], .int 1], [.str [98], .int 3]] = true := by decide +kernel

end Mkdb.Exec

/-! ## ORDER BY under any correct sorting algorithm

The model sorts with a stable insertion sort (`sortRows`).  The Go code sorts with `sort.Slice`
(`sortColumns`, engine/select.go), which is an insertion sort up to 12 elements and a
pattern-defeating quicksort above: from 13 rows on it is NOT stable, and rows that are tied under the
sort keys may come back in another order than the model's - with LIMIT / OFFSET, other rows
(`exGoOrder13` below is an order `sort.Slice` of go1.23.5 really returns).  The theorems of this section
are the bridge between the exact statements above (`rows = cut (sortRows keys want)`) and the code:
`SortedPerm keys rows out` is what ANY correct sort may return (a rearrangement of `rows` in which no
row is strictly before its predecessor under the comparison of `sortColumns`); without ties there is
one such `out` and the exact statements describe the code whatever it sorts with; with ties every
such `out`, cut, is what `Spec.satisfies` accepts - and the exact statements describe the model only.
(The comparison `rowLess keys` is irreflexive, asymmetric and transitive on all rows -
`rowLess_irrefl`, `rowLess_asymm`, `rowLess_trans`; "tied" is transitive on rows whose key columns hold
values of one type or NULL - `C05_cmp_strict_weak` -, and on the others `sortColumns` panics:
`C05_incomparable_keys_panic`.  So `sort.Slice` is never left with a comparison that is not a strict
weak order.) -/
namespace Mkdb.Exec
open Mkdb.Sql Mkdb.Exec.SelectP Mkdb.Exec.MeaningP Mkdb.Exec.SortAnyP

/-- what any correct sort may return, spelled out: a permutation of the input, sorted on consecutive
pairs by the comparison of `sortColumns` -/
theorem C05_SortedPerm_def (keys : List (Nat × Bool)) (rows out : List Row) :
    SortedPerm keys rows out ↔ out.Perm rows ∧ Spec.sortedBy keys out = true := Iff.rfl

/-- **C05.model_sort_is_a_correct_sort**: what the model's stable insertion sort returns is one of
the lists a correct sort may return (`SortedPerm`), for every key list and every row list; on rows
whose key columns are comparable, being sorted on consecutive pairs (the definition) and being sorted
on all pairs are the same thing, for every correct sort. -/
theorem C05_model_sort_is_a_correct_sort (keys : List (Nat × Bool)) (rows : List Row) :
    SortedPerm keys rows (sortRows keys rows) ∧
    ((∀ a ∈ rows, ∀ b ∈ rows, KeyComparable keys a b) → ∀ out, SortedPerm keys rows out →
      out.Pairwise (fun a b => rowLess keys b a = false)) :=
  ⟨sortRows_sortedPerm keys rows, fun hc _ h => sortedPerm_pairwise hc h⟩

/-- **C05.sort_is_unique_without_ties**: if no two different positions of `rows` are tied under the
sort keys (one of the two rows is strictly before the other), then every correct sort - stable or
not - returns the same list: the one the model's `sortRows` returns.  This is what makes the exact
theorems (`rows = cut (sortRows keys want)`) statements about the Go code, whose `sort.Slice` is not
stable from 13 rows on: on tie-free keys stability does not matter.  No hypothesis on the types of
the key columns: a tie-free list is totally ordered by the comparison.  Excluded: lists with two rows
carrying the same key values (in particular a list holding one row twice), see
`C05_tied_rows_have_several_correct_orders`. -/
theorem C05_sort_is_unique_without_ties {keys : List (Nat × Bool)} {rows out : List Row}
    (htf : ∀ (i j : Nat) (hi : i < rows.length) (hj : j < rows.length), i ≠ j →
      rowLess keys rows[i] rows[j] = true ∨ rowLess keys rows[j] rows[i] = true)
    (hout : SortedPerm keys rows out) : out = sortRows keys rows :=
  sortedPerm_unique ((tieFree_iff_index keys rows).2 htf) hout

/-- **C05.tie_free_sort_ignores_the_input_order**: the same for a sort that is handed a rearrangement
`got` of the tie-free rows `want` (after a join or a grouping the model's rows come in the order of
the nested loops or of the groups: C06, C07): every correct sort of `got` returns `sortRows keys want`.
On tie-free keys the exact answer `cut (sortRows keys want)` depends neither on the sorting algorithm
nor on the order in which the rows were produced. -/
theorem C05_tie_free_sort_ignores_the_input_order {keys : List (Nat × Bool)} {want got out : List Row}
    (htf : ∀ (i j : Nat) (hi : i < want.length) (hj : j < want.length), i ≠ j →
      rowLess keys want[i] want[j] = true ∨ rowLess keys want[j] want[i] = true)
    (hgot : got.Perm want) (hout : SortedPerm keys got out) : out = sortRows keys want :=
  C05_sort_is_unique_without_ties htf (hout.of_perm hgot)

/-- **C05.any_correct_sort_satisfies_the_reference**: under ORDER BY, whatever a correct sort - stable
or not, e.g. Go's `sort.Slice`, unstable from 13 rows on - makes of the rows to be sorted, cut by
OFFSET / LIMIT, is accepted by the reference `Spec.satisfies`.  `want` is the meaning of the query
(`Spec.meaning`), `got` the rows handed to the sort: `want` itself for a single table, a
rearrangement of it after a join or a grouping (C06, C07), `out` any sorted rearrangement of `got`.
With ties `cut out` may hold other rows than the model's answer; the reference accepts it because it
asks for: the right number of rows, sorted, the key values of the model's answer position by
position, every row taken from the meaning (no more often than it occurs there).
Hypotheses: `hob`, there is an ORDER BY (without one see
`C05_without_order_by_only_insertion_order_is_accepted`); `hcomp`, the key columns hold values of one
type or NULL (otherwise `sortColumns` panics and there is no answer). -/
theorem C05_any_correct_sort_satisfies_the_reference {q : Select} {hdr : List Field}
    {keys : List (Nat × Bool)} {want got out : List Row}
    (hob : q.orderBy ≠ []) (hk : Spec.sortKeys q hdr = some keys)
    (hcomp : ∀ a ∈ want, ∀ b ∈ want, KeyComparable keys a b)
    (hgot : got.Perm want) (hout : SortedPerm keys got out) :
    Spec.satisfies q hdr want (cut q.lim out) = true :=
  satisfies_any_sort hob hk hcomp (hout.of_perm hgot)

/-- **C05.reference_accepts_exactly_the_correct_sorts**: under ORDER BY, on a meaning `want` whose
key columns hold comparable values, the reference `Spec.satisfies` accepts a result if and only if it
is `cut out` (OFFSET rows dropped, at most LIMIT kept) for SOME correct sort `out` of `want` - some
rearrangement of the meaning that is sorted by the keys.  So the specification neither demands
stability (which Go's `sort.Slice` does not give from 13 rows on) nor lets through anything a correct
sort followed by the cut could not have produced: it is exactly "sort correctly, then cut".
Hypotheses as in `C05_any_correct_sort_satisfies_the_reference`; excluded: no ORDER BY (there the
reference asks for the insertion order, `C05_without_order_by_only_insertion_order_is_accepted`). -/
theorem C05_reference_accepts_exactly_the_correct_sorts {q : Select} {hdr : List Field}
    {keys : List (Nat × Bool)} {want : List Row}
    (hob : q.orderBy ≠ []) (hk : Spec.sortKeys q hdr = some keys)
    (hcomp : ∀ a ∈ want, ∀ b ∈ want, KeyComparable keys a b) (result : List Row) :
    Spec.satisfies q hdr want result = true ↔
      ∃ out, SortedPerm keys want out ∧ cut q.lim out = result :=
  ⟨accepted_is_cut_of_sort hob hk hcomp,
   fun ⟨_, hout, hcut⟩ => hcut ▸ satisfies_any_sort hob hk hcomp hout⟩

/-- **C05.answered_query_accepts_any_correct_sort**: the same, tied to the executor.  If the model of
`EvaluateSelect` answers a single-table SELECT with ORDER BY (no aggregates, no GROUP BY), then the
query has a meaning `want`, the keys resolve to `keys`, the model's answer is the stable one,
`cut (sortRows keys want)`, and the answer of ANY implementation that filters and projects like the
model and then sorts correctly - `cut out` for a `SortedPerm keys want out`; Go's unstable
`sort.Slice` from 13 rows on - is accepted by the reference. -/
theorem C05_answered_query_accepts_any_correct_sort {fetch : Bytes → Option Table} {q : Select}
    {t : TableName} {rows : List Row} {hdr : List Field}
    (hfrom : q.from_ = some (.table t)) (hagg : hasAggr q.list = false) (hgb : q.groupBy = [])
    (hwhere : whereIsBoolean q = true) (hob : q.orderBy ≠ [])
    (h : evaluateSelect fetch q = .ok (rows, hdr)) :
    ∃ want keys, Spec.meaning fetch q = some want ∧ Spec.sortKeys q hdr = some keys ∧
      rows = cut q.lim (sortRows keys want) ∧ SortedPerm keys want (sortRows keys want) ∧
      ∀ out, SortedPerm keys want out → Spec.satisfies q hdr want (cut q.lim out) = true := by
  obtain ⟨want, keys, hm, _, hk, hcomp, hrows, _⟩ :=
    C05_result_is_the_reference_meaning hfrom hagg hgb hwhere h
  exact ⟨want, keys, hm, hk, hrows, sortRows_sortedPerm keys want,
    fun out hout => satisfies_any_sort hob hk hcomp hout⟩

/-- **C05.exact_result_describes_any_sort_when_tie_free**: under the hypotheses of
`C05_result_is_the_reference_meaning`, if no two rows of the meaning `want` (the filtered and
projected rows) are tied under the resolved sort keys, then ANY implementation that filters and
projects as the model does and then sorts correctly - stably or not: Go's `sort.Slice` is unstable
from 13 rows on - returns exactly the `rows` the model returns: `cut out = rows` for every
`SortedPerm keys want out`.  (`hm`, `hk` name the meaning and the keys, which `h` determines:
`C05_result_is_the_reference_meaning`.)  Excluded: ties, where only
`C05_any_correct_sort_satisfies_the_reference` holds; and the query without ORDER BY, where every pair
of rows is tied: `C05_without_order_by_only_insertion_order_is_accepted`. -/
theorem C05_exact_result_describes_any_sort_when_tie_free {fetch : Bytes → Option Table} {q : Select}
    {t : TableName} {rows want : List Row} {hdr : List Field} {keys : List (Nat × Bool)}
    (hfrom : q.from_ = some (.table t)) (hagg : hasAggr q.list = false) (hgb : q.groupBy = [])
    (hwhere : whereIsBoolean q = true)
    (h : evaluateSelect fetch q = .ok (rows, hdr))
    (hm : Spec.meaning fetch q = some want) (hk : Spec.sortKeys q hdr = some keys)
    (htf : ∀ (i j : Nat) (hi : i < want.length) (hj : j < want.length), i ≠ j →
      rowLess keys want[i] want[j] = true ∨ rowLess keys want[j] want[i] = true) :
    ∀ out, SortedPerm keys want out → cut q.lim out = rows := by
  obtain ⟨want', keys', hm', _, hk', _, hrows, _⟩ :=
    C05_result_is_the_reference_meaning hfrom hagg hgb hwhere h
  rw [hm] at hm'; cases hm'
  rw [hk] at hk'; cases hk'
  intro out hout
  rw [hrows, C05_sort_is_unique_without_ties htf hout]

/-- **C05.without_order_by_only_insertion_order_is_accepted** (the special case without sort keys):
a single-table SELECT without ORDER BY (no aggregates, no GROUP BY) that is answered has the empty key
list, the model's answer is the meaning in insertion order, cut (`sortRows [] want = want`); under
the empty key list EVERY pair of rows is tied and every rearrangement of `want` is "sorted"
(`SortedPerm [] want out ↔ out.Perm want`), yet the reference accepts the insertion order only
(`result = rows`).  So here the freedom of an unstable sort is NOT covered by the specification: the
Go code calls `sort.Slice` also when there is no ORDER BY, with a comparison that is constantly
false, and the result is right only because the library's insertion sort and pdqsort move nothing
when nothing is less than anything (no documented guarantee of `sort.Slice`; observed on go1.23.5 for
5 to 5000 rows). -/
theorem C05_without_order_by_only_insertion_order_is_accepted {fetch : Bytes → Option Table}
    {q : Select} {t : TableName} {rows : List Row} {hdr : List Field}
    (hfrom : q.from_ = some (.table t)) (hagg : hasAggr q.list = false) (hgb : q.groupBy = [])
    (hwhere : whereIsBoolean q = true) (hob : q.orderBy = [])
    (h : evaluateSelect fetch q = .ok (rows, hdr)) :
    ∃ want, Spec.meaning fetch q = some want ∧ Spec.sortKeys q hdr = some [] ∧
      rows = cut q.lim want ∧ sortRows [] want = want ∧
      (∀ out, SortedPerm [] want out ↔ out.Perm want) ∧
      ∀ result, Spec.satisfies q hdr want result = true ↔ result = rows := by
  obtain ⟨want, keys, hm, _, hk, _, hrows, _⟩ :=
    C05_result_is_the_reference_meaning hfrom hagg hgb hwhere h
  have hkeys := keys_nil_of_no_order_by hob hk
  subst hkeys
  rw [sortRows_nil_keys] at hrows
  refine ⟨want, hm, hk, hrows, sortRows_nil_keys want, sortedPerm_nil_iff want, ?_⟩
  intro result
  rw [hrows]
  exact satisfies_no_order_by_iff hdr want result hob
    (comparedExactly_iff.2 ⟨⟨t, hfrom⟩, groups_eq_false.2 ⟨hagg, hgb⟩⟩)

/-! ### examples: a tie-free sort, a tied one, and what `sort.Slice` does with 13 rows -/

/-- table `u(k, v)`: `k` = 1, 1, 0 (the first two rows are tied under `k`), `v` = 10, 20, 30 -/
def exFetchTie (n : Bytes) : Option Table :=
  if n = [117] then some ⟨[[107], [118]], [[.int 1, .int 10], [.int 1, .int 20], [.int 0, .int 30]]⟩
  else none

/-- `SELECT k, v FROM u ORDER BY k LIMIT 2` (tied) -/
def exQueryTie : Select :=
  { list := [⟨.expr (.val (.col ⟨[], [107]⟩)), []⟩, ⟨.expr (.val (.col ⟨[], [118]⟩)), []⟩]
    from_ := some (.table ⟨[117], none⟩)
    orderBy := [⟨⟨[], [107]⟩, false⟩]
    lim := { limitActive := true, limit := 2 } }

/-- `SELECT k, v FROM u ORDER BY v DESC LIMIT 2` (tie-free) -/
def exQueryNoTie : Select := { exQueryTie with orderBy := [⟨⟨[], [118]⟩, true⟩] }

def exTieRows : List Row := [[.int 1, .int 10], [.int 1, .int 20], [.int 0, .int 30]]

-- non-vacuity of `C05_sort_is_unique_without_ties` and
-- `C05_exact_result_describes_any_sort_when_tie_free`: three rows with distinct keys `v`
example : exQueryNoTie.from_ = some (.table ⟨[117], none⟩) ∧ hasAggr exQueryNoTie.list = false ∧
    exQueryNoTie.groupBy = [] ∧ whereIsBoolean exQueryNoTie = true ∧ exQueryNoTie.orderBy ≠ [] := by
  decide +kernel
example : evaluateSelect exFetchTie exQueryNoTie =
    .ok ([[.int 0, .int 30], [.int 1, .int 20]], [⟨[117], [107]⟩, ⟨[117], [118]⟩]) := by decide +kernel
example : Spec.meaning exFetchTie exQueryNoTie = some exTieRows := by decide +kernel
example : Spec.sortKeys exQueryNoTie [⟨[117], [107]⟩, ⟨[117], [118]⟩] = some [(1, true)] := by decide +kernel
example : TieFree [(1, true)] exTieRows := by decide +kernel
example : ∀ (i j : Nat) (hi : i < exTieRows.length) (hj : j < exTieRows.length), i ≠ j →
    rowLess [(1, true)] exTieRows[i] exTieRows[j] = true ∨
      rowLess [(1, true)] exTieRows[j] exTieRows[i] = true :=
  (tieFree_iff_index _ _).1 (by decide +kernel)
example : SortedPerm [(1, true)] exTieRows
    [[.int 0, .int 30], [.int 1, .int 20], [.int 1, .int 10]] := by decide +kernel
example : sortRows [(1, true)] exTieRows =
    [[.int 0, .int 30], [.int 1, .int 20], [.int 1, .int 10]] := by decide +kernel

/-- **C05.tied_rows_have_several_correct_orders** (why `C05_sort_is_unique_without_ties` has its
hypothesis, and non-vacuity of `C05_any_correct_sort_satisfies_the_reference`):
`SELECT k, v FROM u ORDER BY k LIMIT 2` on three rows with `k` = 1, 1, 0.  The rows are not tie-free;
two different lists are correct sorts of them - the stable one, which the model returns, and the one
with the tied rows exchanged -; cut by `LIMIT 2` they hold DIFFERENT rows (`v` = 10 or `v` = 20 next
to `v` = 30), the model answers with the first, and the reference accepts both - and does not accept
the two rows out of order, nor a row that is not in the table. -/
theorem C05_tied_rows_have_several_correct_orders :
    Spec.meaning exFetchTie exQueryTie = some exTieRows ∧
    Spec.sortKeys exQueryTie [⟨[117], [107]⟩, ⟨[117], [118]⟩] = some [(0, false)] ∧
    ¬ TieFree [(0, false)] exTieRows ∧
    (∀ a ∈ exTieRows, ∀ b ∈ exTieRows, KeyComparable [(0, false)] a b) ∧
    sortRows [(0, false)] exTieRows = [[.int 0, .int 30], [.int 1, .int 10], [.int 1, .int 20]] ∧
    SortedPerm [(0, false)] exTieRows [[.int 0, .int 30], [.int 1, .int 10], [.int 1, .int 20]] ∧
    SortedPerm [(0, false)] exTieRows [[.int 0, .int 30], [.int 1, .int 20], [.int 1, .int 10]] ∧
    evaluateSelect exFetchTie exQueryTie =
      .ok ([[.int 0, .int 30], [.int 1, .int 10]], [⟨[117], [107]⟩, ⟨[117], [118]⟩]) ∧
    Spec.satisfies exQueryTie [⟨[117], [107]⟩, ⟨[117], [118]⟩] exTieRows
      [[.int 0, .int 30], [.int 1, .int 10]] = true ∧
    Spec.satisfies exQueryTie [⟨[117], [107]⟩, ⟨[117], [118]⟩] exTieRows
      [[.int 0, .int 30], [.int 1, .int 20]] = true ∧
    Spec.satisfies exQueryTie [⟨[117], [107]⟩, ⟨[117], [118]⟩] exTieRows
      [[.int 1, .int 10], [.int 0, .int 30]] = false ∧
    Spec.satisfies exQueryTie [⟨[117], [107]⟩, ⟨[117], [118]⟩] exTieRows
      [[.int 0, .int 30], [.int 1, .int 30]] = false := by
  decide +kernel

/-- thirteen rows `(k, id)`: `k` = 1 on the first, 0 on the twelve others -/
def exTieRows13 : List Row :=
  [.int 1, .int 0] :: (List.range 12).map fun i => [.int 0, .int (i + 1 : Nat)]

/-- the order the Go function `sortColumns` itself (engine/select.go, run with go1.23.5 on these
rows, key = first column ascending) leaves `exTieRows13` in: the row `id = 6` has moved to the front of its eleven equals -/
def exGoOrder13 : List Row :=
  ([6, 1, 2, 3, 4, 5, 7, 8, 9, 10, 11, 12].map fun (i : Nat) => [.int 0, .int i]) ++ [[.int 1, .int 0]]

/-- **C05.unstable_sort_of_13_rows** (the smallest case in which the Go code and the model differ):
for thirteen rows with the keys 1, 0, 0, …, 0 the list `sort.Slice` returns is a correct sort
(`SortedPerm`), it is not the list the model returns, under `ORDER BY k LIMIT 1` the two answers are
different rows (`id = 6` against `id = 1`), and the reference accepts both. -/
theorem C05_unstable_sort_of_13_rows :
    SortedPerm [(0, false)] exTieRows13 exGoOrder13 ∧
    exGoOrder13 ≠ sortRows [(0, false)] exTieRows13 ∧
    (exGoOrder13.take 1, (sortRows [(0, false)] exTieRows13).take 1) =
      ([[.int 0, .int 6]], [[.int 0, .int 1]]) ∧
    Spec.satisfies { exQueryTie with lim := { limitActive := true, limit := 1 } }
      [⟨[117], [107]⟩, ⟨[117], [118]⟩] exTieRows13 (exGoOrder13.take 1) = true ∧
    Spec.satisfies { exQueryTie with lim := { limitActive := true, limit := 1 } }
      [⟨[117], [107]⟩, ⟨[117], [118]⟩] exTieRows13 ((sortRows [(0, false)] exTieRows13).take 1) = true := by
  decide +kernel

-- non-vacuity of `C05_without_order_by_only_insertion_order_is_accepted`: `SELECT k, v FROM u LIMIT 2`
example : evaluateSelect exFetchTie { exQueryTie with orderBy := [] } =
    .ok ([[.int 1, .int 10], [.int 1, .int 20]], [⟨[117], [107]⟩, ⟨[117], [118]⟩]) := by decide +kernel
example : whereIsBoolean { exQueryTie with orderBy := [] } = true := by decide +kernel
example : SortedPerm [(0, false)] [[.int 0, .int 30], [.int 1, .int 10], [.int 1, .int 20]]
    (sortRows [(0, false)] [[.int 0, .int 30], [.int 1, .int 10], [.int 1, .int 20]]) := sortRows_sortedPerm _ _
example : exQueryTie.orderBy ≠ [] ∧ whereIsBoolean exQueryTie = true := by decide +kernel
-- `C05_tie_free_sort_ignores_the_input_order`: a rearrangement of the three rows, sorted by `v` DESC
example : ([[.int 1, .int 20], [.int 0, .int 30], [.int 1, .int 10]] : List Row).Perm exTieRows ∧
    SortedPerm [(1, true)] [[.int 1, .int 20], [.int 0, .int 30], [.int 1, .int 10]]
      [[.int 0, .int 30], [.int 1, .int 20], [.int 1, .int 10]] := by decide +kernel
-- a rearrangement is a "correct sort" by no keys, and is refused
example : SortedPerm [] exTieRows [[.int 1, .int 20], [.int 1, .int 10], [.int 0, .int 30]] ∧
    Spec.satisfies { exQueryTie with orderBy := [] } [⟨[117], [107]⟩, ⟨[117], [118]⟩] exTieRows
      [[.int 1, .int 20], [.int 1, .int 10]] = false := by decide +kernel

end Mkdb.Exec
