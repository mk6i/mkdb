import Mkdb.Proofs.BaseCaseTable
import Mkdb.Proofs.CkptRounds
import Mkdb.Proofs.CountersCrashHistories
import Mkdb.Proofs.CountersHistory
import Mkdb.Proofs.CountersSession
import Mkdb.Proofs.PtSelfSideConditions
import Mkdb.Proofs.PtSelfSplitWitness
import Mkdb.Proofs.Redo
import Mkdb.Proofs.RedoLink
import Mkdb.Proofs.ReplayCounter
import Mkdb.Proofs.ReplayInsert
import Mkdb.Proofs.ReplayMixed
import Mkdb.Proofs.Wal
/-!
# C02 — acknowledged statements survive a crash between statements

Property theorems only.  The layers:

* the redo rule (`Mkdb.Redo`): for every log of page-local changes with increasing LSNs, every
  initial state and **every** placement of page flushes (each page of the data file is the cached
  page as of an arbitrary earlier moment: never flushed, flushed after any statement, always
  flushed), replaying the log reproduces exactly the state the statements had built, page by page;
  replaying again changes nothing;
* the log file (`Mkdb.Wal`): what the statements appended is what recovery reads;
* the concrete recovery model (`Mkdb.Engine.replayAll`, `Mkdb.Engine.recover`): on UPDATE and DELETE
  records it is the redo rule (`Mkdb.RedoLink`); for histories of statements - tree inserts with their
  splits, root moves and the catalog re-pointing that follows included - the replay of their log gives
  the live state, up to the plain model, also with a log that is never truncated, over rounds of
  flushes, crashes and recoveries, and with CREATE TABLE;
* the header counters: natural numbers in the model, bounded by the work done, against their Go types.

The concrete model is compared with the implementation on crash images after every statement under
every flush placement the harness generates.
-/
namespace Mkdb.Redo
variable {α : Type}

/-- **C02.recovery_reconstructs**: whatever subset of the pages had reached the data file, and
whenever each of them did, replay of the whole log yields exactly the pages the acknowledged
statements had produced in the cache. -/
theorem C02_recovery_reconstructs (log : List (Rec α)) (init : Pages α) (k : Nat → Nat) (h : LogOK log init) :
    ∀ p, replay log (Image log init k) p = run log init p := replay_image log init k h

/-- **C02.recovery_idempotent**: running recovery again changes nothing. -/
theorem C02_recovery_idempotent (log : List (Rec α)) (init : Pages α) (k : Nat → Nat) (h : LogOK log init) :
    ∀ p, replay log (replay log (Image log init k)) p = replay log (Image log init k) p :=
  replay_idempotent log init k h

/-- **C02.clean_shutdown**: the special case "flush, then crash": replay over fully flushed pages is
the identity. -/
theorem C02_clean_shutdown (log : List (Rec α)) (init : Pages α) (h : LogOK log init) :
    ∀ p, replay log (run log init) p = run log init p := replay_run log init h

/-- non-vacuity: a two-record log on one page satisfies the hypothesis -/
example : LogOK exLog exInit := exLog_ok

end Mkdb.Redo

namespace Mkdb.Wal
/-- **C02.log_roundtrip**: the records a statement appended (each followed by fsync) are exactly the
records start-up recovery reads. -/
theorem C02_log_roundtrip (rs : List Rec) (h : ∀ r ∈ rs, r.wf) :
    readLog (encodeLog rs) = .ok rs (encodeLog rs).length false := readLog_encodeLog rs h
end Mkdb.Wal

namespace Mkdb.RedoLink
open Mkdb.Engine Mkdb.Store Mkdb.Page

/-- **C02.concrete_replay_is_the_redo_rule**: on UPDATE and DELETE records the concrete recovery model
(`Mkdb.Engine.replayAll`, the model of `WALBatch.replay` that is compared with the implementation on
crash images) *is* the abstract redo rule, page by page, under the abstraction "page = LSN and
content the engine sees at the offset" - so the theorems above are statements about it. -/
theorem C02_concrete_replay_is_the_redo_rule (log : List WalRec) (s : Store) (h : LogFits log s) :
    (replayAll log s).2 = (none, false) ∧
      absPages (replayAll log s).1 = Redo.replay (log.map toAbs) (absPages s) :=
  replayAll_is_replay log s h

/-- **C02.concrete_recovery_reconstructs**: for every crashed store whose pages are, each, the cached
page as of some earlier moment of the history (`Redo.Image`: any flush placement, any torn flush),
the concrete replay of a log of UPDATE / DELETE records ends without error and every page is the
page the acknowledged statements had built. -/
theorem C02_concrete_recovery_reconstructs (log : List WalRec) (s : Store)
    (init : Redo.Pages (Option Node)) (k : Nat → Nat) (hfit : StaticFits log s)
    (himg : absPages s = Redo.Image (log.map toAbs) init k) (hok : Redo.LogOK (log.map toAbs) init) :
    (replayAll log s).2 = (none, false) ∧
      ∀ p, absPages (replayAll log s).1 p = Redo.run (log.map toAbs) init p :=
  concrete_recovery_reconstructs_static log s init k hfit himg hok

/-- non-vacuity: one leaf on disk, an update and a delete in the log, file flushed after the first -/
example : StaticFits exLog exStore1 ∧ Redo.LogOK (exLog.map toAbs) (absPages exStore) := ⟨ex_static1, ex_logOK⟩

end Mkdb.RedoLink

namespace Mkdb.Store
open Mkdb.Engine Mkdb.Tree Mkdb.Page

/-- **C02.redo_of_unflushed_inserts** (INSERT records, concrete recovery model, with the catalog): take
any history of INSERT statements run live from a store satisfying the catalog invariant; replaying
the concatenation of their log records on the store *before* the history - the crash in which
nothing since then had reached the data file - ends without error in a store with the same catalog,
the same tables page for page, the same row-id counter and allocation frontier as the live run:
tree inserts with all their splits, root moves and catalog re-pointing are redone exactly.
(`hself`, `hf`: the side conditions `PtSelf` / `Fresh`, which hold in every reachable database - see
`C02_acknowledged_statements_survive_an_unflushed_crash`.) -/
theorem C02_redo_of_unflushed_inserts (sch : Levels) {s0 sN : Store} {tbls tblsN : List (Bytes × Levels)}
    {stmts : List Stmt} {logs : List WalRec} (run : LiveRun sch s0 tbls stmts sN tblsN logs)
    (pt : Levels) (h : Cat s0 pt sch tbls) (hself : PtSelf pt) (hf : Fresh s0 tbls) :
    ∃ ptN rN, replayAll logs s0 = (rN, none, false) ∧
      Cat sN ptN sch tblsN ∧ Cat rN ptN sch tblsN ∧
      (∀ x ∈ catTrees ptN sch tblsN, ∀ o ∈ offs x, view rN o = view sN o) ∧
      rN.hdr.nextFree = sN.hdr.nextFree ∧ rN.hdr.lastKey = sN.hdr.lastKey ∧
      rN.hdr.ptRoot = sN.hdr.ptRoot ∧ rN.hdr.nextLSN ≤ sN.hdr.nextLSN :=
  replay_history sch run pt h hself hf

/-- **C02.recovery_of_a_flushed_database_changes_nothing**: a log every record of which is already
applied - its page carries an LSN at least the record's, or it is an INSERT of a key the table
already holds - and none of whose INSERT records carries a key beyond the row-id counter is replayed
without error and without any visible change; only the LSN counter moves, to the largest LSN seen
(clean shutdown, and running recovery a second time).

*The hypothesis `hkeys`* (corpus `C04/F27`): `replayOne` raises `lastKey` to the key of every INSERT
record before the page-LSN test, so also for a record it then skips.  Without `hkeys` the conclusion is
false: a skipped INSERT record with `r.cell > s.hdr.lastKey` raises the counter (as it must: after a torn
flush the pages may be ahead of the header).  `hkeys` holds in every state a complete flush leaves behind: every
logged insert key was handed out by the counter, and the flush wrote the counter
(`Ckpt.keys` in `CkptInvariant`).  The form without the hypothesis is `replay_clean_gen`, restated
next: the row-id counter ends at the largest INSERT key of the log, if that is beyond it. -/
theorem C02_recovery_of_a_flushed_database_changes_nothing (log : List WalRec) (s : Store) (pt sch : Levels)
    (tbls : List (Bytes × Levels)) (h : Cat s pt sch tbls) (hall : ∀ r ∈ log, Applied tbls s r)
    (hkeys : ∀ r ∈ log, r.op = Generated.c_OpInsert → r.cell ≤ s.hdr.lastKey) :
    ∃ s', replayAll log s = (s', none, false) ∧ view s' = view s ∧ Cat s' pt sch tbls ∧
      s'.hdr = { s.hdr with nextLSN := log.foldl (fun m r => max m r.lsn) s.hdr.nextLSN } :=
  replay_clean log s pt sch tbls h hall hkeys

/-- **C02.recovery_of_an_applied_log_changes_only_the_counters**: the same without the hypothesis on
the keys: no visible change, and of the header only the two counters move - `nextLSN` to the largest
LSN of the log, the row-id counter to the largest key of an INSERT record of the log (`maxKey`),
skipped records included. -/
theorem C02_recovery_of_an_applied_log_changes_only_the_counters (log : List WalRec) (s : Store)
    (pt sch : Levels) (tbls : List (Bytes × Levels)) (h : Cat s pt sch tbls)
    (hall : ∀ r ∈ log, Applied tbls s r) :
    ∃ s', replayAll log s = (s', none, false) ∧ view s' = view s ∧ Cat s' pt sch tbls ∧
      s'.hdr = { s.hdr with nextLSN := log.foldl (fun m r => max m r.lsn) s.hdr.nextLSN,
                            lastKey := maxKey log s.hdr.lastKey } :=
  replay_clean_gen log s pt sch tbls h hall

end Mkdb.Store

namespace Mkdb.Store
open Mkdb.Engine Mkdb.Tree Mkdb.Page

/-- **C02.acknowledged_statements_survive_an_unflushed_crash** (end to end, at the level of the plain
in-memory model): run any list of INSERT / DELETE / UPDATE statements that the plain model accepts
from a database whose log is empty; replay the log the statements wrote on the store as it was
before them - the crash in which nothing since then reached the data file; the replay ends without
error in a store that abstracts to the very plain database the live run ended in: every table holds
exactly the effects of all acknowledged statements, and the row-id counter, the allocation frontier
and the catalog root are the live ones (later statements never reuse a row id).
The two side conditions are invariants of every database a history reaches from CREATE DATABASE, not
assumptions about a region (`C02_side_conditions_hold_in_every_reachable_database`): `hself` (`PtSelf`):
the row the page table holds about itself names a page of the page table - true also after the page
table has split and that row, which nothing ever rewrites, has gone stale (it then names the old root,
now the leftmost leaf; the stronger reading "names the root", `PtSelfRoot`, is false of those databases); `hf`
(`FreshM`): every page of every user table is older than the LSN counter, and nothing lies at offset 0.
Witness with a split page table: `C02_crash_recovery_with_a_split_page_table`. -/
theorem C02_acknowledged_statements_survive_an_unflushed_crash (sch : Levels) {db0 dbN : Engine.DB}
    {sdb0 sdbN : Spec.SDB} {stmts : List EStmt}
    (run : SpecRun sch db0 sdb0 stmts dbN sdbN) (hwal : db0.wal = [])
    (pt : Levels) (tbls : List (Bytes × Levels)) (hA : AbsV db0.store pt sch tbls sdb0)
    (hself : PtSelf pt) (hf : FreshM db0.store tbls) :
    ∃ ptN tblsN rN, replayAll dbN.wal db0.store = (rN, none, false) ∧
      AbsV dbN.store ptN sch tblsN sdbN ∧ AbsV rN ptN sch tblsN sdbN ∧
      (∀ x ∈ catTrees ptN sch tblsN, ∀ o ∈ offs x, view rN o = view dbN.store o) ∧
      rN.hdr.nextFree = dbN.store.hdr.nextFree ∧ rN.hdr.lastKey = dbN.store.hdr.lastKey ∧
      rN.hdr.ptRoot = dbN.store.hdr.ptRoot ∧ rN.hdr.nextLSN ≤ dbN.store.hdr.nextLSN :=
  crash_recovery_spec sch run hwal pt tbls hA hself hf

/-- **C02.mixed_history_is_redone**: the same at the storage level, for any interleaving of row inserts,
updates and deletes over several tables (same side conditions). -/
theorem C02_mixed_history_is_redone (sch : Levels) {s0 sN : Store} {tbls tblsN : List (Bytes × Levels)}
    {stmts : List RStmt} {logs : List WalRec} (run : LiveRunM sch s0 tbls stmts sN tblsN logs)
    (pt : Levels) (h : Cat s0 pt sch tbls) (hself : PtSelf pt) (hf : FreshM s0 tbls) :
    ∃ ptN rN, replayAll logs s0 = (rN, none, false) ∧
      Cat sN ptN sch tblsN ∧ Cat rN ptN sch tblsN ∧
      (∀ x ∈ catTrees ptN sch tblsN, ∀ o ∈ offs x, view rN o = view sN o) ∧
      rN.hdr.nextFree = sN.hdr.nextFree ∧ rN.hdr.lastKey = sN.hdr.lastKey ∧
      rN.hdr.ptRoot = sN.hdr.ptRoot ∧ rN.hdr.nextLSN ≤ sN.hdr.nextLSN :=
  replay_history_mixed sch run pt h hself hf

end Mkdb.Store

namespace Mkdb.Store
open Mkdb.Engine Mkdb.Tree Mkdb.Page Mkdb.Generated

/-- **C02.crash_after_a_checkpoint** (the log is never truncated): as
`C02_acknowledged_statements_survive_an_unflushed_crash`, but the database the statements start from
may carry any log whose records are already applied on it and behind its counters - what every flush
and every recovery leaves (`C02_rounds_*`).  The WHOLE log - old records, then the records of the
statements - is replayed on the store the statements started from.  (`hself`, `hf`: see
`C02_acknowledged_statements_survive_an_unflushed_crash`; they hold in every reachable database.) -/
theorem C02_crash_after_a_checkpoint (sch : Levels) {db0 dbN : Engine.DB} {sdb0 sdbN : Spec.SDB} {stmts : List EStmt}
    (run : SpecRun sch db0 sdb0 stmts dbN sdbN)
    (pt : Levels) (tbls : List (Bytes × Levels)) (hA : AbsV db0.store pt sch tbls sdb0)
    (hself : PtSelf pt) (hf : FreshM db0.store tbls)
    (hold : ∀ r ∈ db0.wal, Applied tbls db0.store r)
    (hlsn : ∀ r ∈ db0.wal, r.lsn ≤ db0.store.hdr.nextLSN)
    (hkeys : ∀ r ∈ db0.wal, r.op = c_OpInsert → r.cell ≤ db0.store.hdr.lastKey) :
    ∃ ptN tblsN rN, replayAll dbN.wal db0.store = (rN, none, false) ∧
      AbsV dbN.store ptN sch tblsN sdbN ∧ AbsV rN ptN sch tblsN sdbN ∧
      (∀ x ∈ catTrees ptN sch tblsN, ∀ o ∈ offs x, view rN o = view dbN.store o) ∧
      rN.hdr.nextFree = dbN.store.hdr.nextFree ∧ rN.hdr.lastKey = dbN.store.hdr.lastKey ∧
      rN.hdr.ptRoot = dbN.store.hdr.ptRoot ∧ rN.hdr.nextLSN ≤ dbN.store.hdr.nextLSN :=
  crash_recovery_ckpt sch run pt tbls hA hself hf hold hlsn hkeys

/-- **C02.rounds_keep_the_checkpoint_invariant**: any number of rounds, each `statements ; flush`
(any page write order) or `statements ; crash ; start-up recovery` (`Engine.recover`: replay of the
whole log on the reopened data file, LSN bump, two flushes), starting from a checkpointed database
(`Ckpt`: abstraction to the plain database, all catalog pages clean and in the data file, every log
record applied and behind the counters; with the side conditions `PtSelf`, `FreshM` of the replay
theorems) end in a checkpointed database for the plain database of ALL statements acknowledged so far.
(`Rounds` has no CREATE TABLE; CREATE TABLE keeps `Ckpt` too: `C02_create_table_keeps_the_checkpoint_invariant`,
and both together: `C02_histories_with_create_table_stay_checkpointed`.) -/
theorem C02_rounds_keep_the_checkpoint_invariant {sch : Levels} {db db' : Engine.DB} {sdb sdb' : Spec.SDB}
    (hist : Rounds sch db sdb db' sdb') {pt : Levels} {tbls : List (Bytes × Levels)}
    (h : Ckpt sch db sdb pt tbls) : ∃ pt' tbls', Ckpt sch db' sdb' pt' tbls' :=
  rounds_ckpt hist h

/-- **C02.rounds_no_recovery_fails**: in such a history no recovery fails, and after it the store
abstracts to the plain database of the acknowledged statements with a log that is applied in full
(so running recovery again changes nothing: `C02_recovery_of_a_flushed_database_changes_nothing`). -/
theorem C02_rounds_no_recovery_fails {sch : Levels} {db db1 dbN : Engine.DB} {sdb sdb1 sdbN : Spec.SDB}
    {stmts : List EStmt} {pt : Levels} {tbls : List (Bytes × Levels)} (h : Ckpt sch db sdb pt tbls)
    (hist : Rounds sch db sdb db1 sdb1) (run : SpecRun sch db1 sdb1 stmts dbN sdbN) (o1 o2 : List Nat) :
    ∃ db2, Engine.recover dbN o1 o2 = .ok db2 ∧ Rounds sch db sdb db2 sdbN ∧
      ∃ pt2 tbls2, AbsV db2.store pt2 sch tbls2 sdbN ∧ ∀ r ∈ db2.wal, Applied tbls2 db2.store r :=
  rounds_recover h hist run o1 o2

/-- **C02.never_reuses_a_row_id** (any store, any log, any placement of flushes - also a flush torn
between its page writes and its header write): when the replay runs to its end, the row-id counter is
at least the key of EVERY logged insert - redone, tolerated or skipped because its page had already
reached the data file - and never below its old value; the next INSERT takes `counter + 1`.
(Were the raise skipped with the record, the next insert would reuse a row id; `skipped_example` in
Proofs/ReplayCounter.lean is the torn flush concretely, kernel-checked.) -/
theorem C02_never_reuses_a_row_id (log : List WalRec) (s s' : Store) (h : replayAll log s = (s', none, false)) :
    (∀ r ∈ log, r.op = c_OpInsert → r.cell ≤ s'.hdr.lastKey) ∧ s.hdr.lastKey ≤ s'.hdr.lastKey :=
  replayAll_counter log s s' h

/-- **C02.unknown_operation_code_is_ignored**: the `switch` of `WALBatch.replay` has no default.  A log
record whose operation code is none of INSERT, UPDATE, DELETE (the engine never writes one; a damaged or
foreign log can hold one) raises the LSN counter to its LSN, has its page fetched (`s1`: the store after
that fetch), and changes nothing else - no cell, no page LSN, no dirty bit, not the row-id counter - and
the replay goes on with the next record.  (It is not read as a DELETE.)  No hypothesis on the store. -/
theorem C02_unknown_operation_code_is_ignored (r : WalRec) (s : Store)
    (h0 : r.op ≠ c_OpInsert) (h1 : r.op ≠ c_OpUpdate) (h2 : r.op ≠ c_OpDelete) (node : Node) (s1 : Store)
    (hf : fetch r.page { s with hdr := { s.hdr with nextLSN := max s.hdr.nextLSN r.lsn } } = .ok node s1) :
    replayOne r s = (s1, none, false) ∧
    ∀ rest, replayAll (r :: rest) s = replayAll rest s1 := by
  have hr : raiseRec s r = { s with hdr := { s.hdr with nextLSN := max s.hdr.nextLSN r.lsn } } := by
    unfold raiseRec
    rw [if_neg (by simpa using h0)]
  have e : replayOne r s = (s1, none, false) :=
    (replayOne_fetched (hr ▸ hf)).trans (replayOn_other h0 h1 h2)
  exact ⟨e, fun rest => by rw [replayAll, e]⟩

/-- non-vacuity: a record with operation code 5 and LSN 50 on the leaf of the one row: the row
is still there and not deleted, the page keeps LSN 10 and stays clean, the LSN counter is 50 -/
example :
    let l : Leaf := ⟨12288, 10, false, false, 0, 0, [⟨11, false, [5, 0, 0, 0]⟩]⟩
    let s : Store := { hdr := { lastKey := 11, nextLSN := 11, nextFree := 16384 }, disk := [(12288, .leaf l)] }
    let s' := (replayAll [⟨5, 50, 12288, 11, []⟩] s).1
    (replayAll [⟨5, 50, 12288, 11, []⟩] s).2 = (none, false) ∧
    view s' 12288 = some (.leaf l, false) ∧ s'.hdr.nextLSN = 50 ∧ s'.hdr.lastKey = 11 := by
  decide +kernel

end Mkdb.Store

namespace Mkdb.Store
open Mkdb.Engine Mkdb.Tree Mkdb.Page Mkdb.Generated

/-- **C02.rounds_from_create_database**: `C02_rounds_keep_the_checkpoint_invariant` and
`C02_rounds_no_recovery_fails` with their hypothesis `Ckpt` discharged at the real starting point: the
database `CREATE DATABASE` leaves (`newDB`: the store `createDB` returns, re-opened, with an empty
log; `C01_create_database_establishes_the_invariants`) is checkpointed for the empty plain database,
so any number of rounds from it end checkpointed and no recovery fails.  (From the EMPTY plain database
no row statement is accepted and `Rounds` has no CREATE TABLE, so these rounds carry no statements:
`specRun_of_empty`; the rounds with statements start at `C02_rounds_from_create_table`.) -/
theorem C02_rounds_from_create_database :
    Ckpt schNew newDB [] ptNew [] ∧
    (∀ db' sdb', Rounds schNew newDB [] db' sdb' → ∃ pt' tbls', Ckpt schNew db' sdb' pt' tbls') ∧
    (∀ db1 dbN sdb1 sdbN stmts o1 o2, Rounds schNew newDB [] db1 sdb1 → SpecRun schNew db1 sdb1 stmts dbN sdbN →
      ∃ db2, Engine.recover dbN o1 o2 = .ok db2 ∧ Rounds schNew newDB [] db2 sdbN) ∧
    (∃ db1 db2, Engine.flush newDB [] = .ok () db1 ∧ Engine.recover db1 [] [] = .ok db2 ∧
      Rounds schNew newDB [] db2 []) := by
  refine ⟨ckpt_newDB, fun _ _ h => rounds_ckpt h ckpt_newDB, ?_, ?_⟩
  · intro db1 dbN sdb1 sdbN stmts o1 o2 hist run
    obtain ⟨db2, e, hr, _⟩ := rounds_recover ckpt_newDB hist run o1 o2
    exact ⟨db2, e, hr⟩
  · obtain ⟨db1, db2, e1, e2, hr, _⟩ := rounds_newDB_example
    exact ⟨db1, db2, e1, e2, hr⟩

/-- **C02.rounds_from_create_table**: `CREATE TABLE t (a INT)` on `newDB` returns the database
`tableDB` (computed by kernel evaluation of `evalStmt`; CREATE TABLE writes no log record and ends with
a flush), which is checkpointed for the plain database with the one empty table `t (a INT)`; so any
number of rounds from it end checkpointed. -/
theorem C02_rounds_from_create_table :
    evalStmt newDB [] (.createTable tname acols) = .ok () tableDB ∧
    Ckpt schT tableDB sdbA0 ptT [(tname, tT)] ∧
    ∀ db' sdb', Rounds schT tableDB sdbA0 db' sdb' → ∃ pt' tbls', Ckpt schT db' sdb' pt' tbls' :=
  ⟨create_table_eq, ckpt_tableDB, fun _ _ h => rounds_ckpt h ckpt_tableDB⟩

/-- **C02.rounds_example_from_create_database** (non-vacuity with every state produced by the model):
`CREATE DATABASE`; `CREATE TABLE t (a INT)`; `INSERT INTO t VALUES (5), (6)`; crash; recovery;
`UPDATE t SET a = 7 WHERE a = 5`; crash; recovery.  Both recoveries succeed and keep the log; the final
database is checkpointed for the plain database with the rows `(7)`, `(6)`. -/
theorem C02_rounds_example_from_create_database : ∃ db1 dbR1 db2 dbR2 pt2 tbls2,
    evalStmt newDB [] (.createTable tname acols) = .ok () tableDB ∧
    SpecRun schT tableDB sdbA0 [.insert tname [] [[.int 5], [.int 6]]] db1 sdbA1 ∧
    Engine.recover db1 [] [] = .ok dbR1 ∧ dbR1.wal = db1.wal ∧
    SpecRun schT dbR1 sdbA1 [.update tname [([97], .lit (.int 7))] (some (condEq 5))] db2 sdbA2 ∧
    Engine.recover db2 [] [] = .ok dbR2 ∧ dbR2.wal = db2.wal ∧
    Ckpt schT dbR2 sdbA2 pt2 tbls2 ∧ Rounds schT tableDB sdbA0 dbR2 sdbA2 :=
  real_rounds_example

end Mkdb.Store

namespace Mkdb.Store
open Mkdb.Engine Mkdb.Tree Mkdb.Page Mkdb.Generated

/-- **C02.create_table_keeps_the_checkpoint_invariant**: from a checkpointed database (`Ckpt`) whose
`sys_schema` has no rows for unknown names (`NoStale`), a CREATE TABLE the plain model accepts - fresh
name that is not a catalog table, per-column checks and catalog-row checks passed, fuel and file-size
room - succeeds, writes no log record, and leaves a checkpointed database for the plain database with
the new empty table.  In particular `PtSelf` and `FreshM`, the side conditions of the crash theorems,
hold again - whether or not this CREATE TABLE split the page table and left its self-row stale.
Excluded: nothing beyond the acceptance conditions (`hpd` … `hbig` hold for every catalog below some
sixty B-tree levels and files below 2^63 bytes). -/
theorem C02_create_table_keeps_the_checkpoint_invariant {db : Engine.DB} {sdb : Spec.SDB} {pt sch : Levels}
    {tbls : List (Bytes × Levels)} (h : Ckpt sch db sdb pt tbls) (hns : NoStale sch tbls) (name : Bytes)
    (cols : List Sql.ColDef) (order : List Nat)
    (hfind : Spec.findTable sdb name = none) (hn1 : name ≠ sysPages) (hn2 : name ≠ sysSchema)
    (hfld : checkFieldsFrom [] (cols.map Engine.colTypeToField) = none)
    (hchk : checkCatalogRows (cols.map Engine.colTypeToField) name = none)
    (hpd : pt.inner.length + 3 ≤ treeFuel) (hpl : pt.leaves.length + 1 ≤ scanFuel)
    (hsd : sch.inner.length + cols.length + 2 ≤ treeFuel) (hsl : sch.leaves.length + cols.length ≤ scanFuel)
    (hbig : db.store.hdr.nextFree + 262144 * cols.length + 262144 ≤ 9223372036854775807) :
    ∃ db' pt' sch' tbls', evalStmt db order (.createTable name cols) = .ok () db' ∧ db'.wal = db.wal ∧
      Ckpt sch' db' (sdb ++ [⟨name, cols.map Spec.colField, []⟩]) pt' tbls' ∧ NoStale sch' tbls' ∧
      PtSelf pt' ∧ FreshM db'.store tbls' := by
  obtain ⟨db', pt', sch', tbls', e, hw, hk, hns', _⟩ := h.createTable_ok hns name cols order hfind hn1 hn2 hfld
    hchk hpd hpl hsd hsl hbig
  exact ⟨db', pt', sch', tbls', e, hw, hk, hns', hk.self, hk.fresh⟩

/-- non-vacuity: the database CREATE DATABASE leaves meets the hypotheses for `CREATE TABLE t (a INT)` -/
example : Ckpt schNew newDB [] ptNew [] ∧ NoStale schNew [] ∧ Spec.findTable [] tname = none ∧
    checkCatalogRows (acols.map Engine.colTypeToField) tname = none :=
  ⟨ckpt_newDB, noStale_new, rfl, acheck⟩

/-- **C02.histories_with_create_table_stay_checkpointed**: a history `HistCT` alternates rounds (`Rounds`:
row statements, then a flush or a crash with recovery) and accepted CREATE TABLEs.  From a checkpointed
database without stale `sys_schema` rows, every database such a history reaches is checkpointed - for the
plain database of ALL acknowledged statements, CREATE TABLEs included - so the crash theorems
(`C02_crash_after_a_checkpoint`, `C02_rounds_no_recovery_fails`, `C03_*`) apply at every point of it. -/
theorem C02_histories_with_create_table_stay_checkpointed {sch0 sch : Levels} {db0 db : Engine.DB}
    {sdb0 sdb : Spec.SDB} (hist : HistCT sch0 db0 sdb0 sch db sdb) {pt0 : Levels} {tbls0 : List (Bytes × Levels)}
    (h : Ckpt sch0 db0 sdb0 pt0 tbls0) (hns : NoStale sch0 tbls0) :
    ∃ pt tbls, Ckpt sch db sdb pt tbls ∧ NoStale sch tbls :=
  histCT_ckpt hist h hns

/-- **C02.side_conditions_hold_in_every_reachable_database**: every database reached from the one CREATE
DATABASE leaves (`newDB`) by rounds and accepted CREATE TABLEs (`HistCT`) is checkpointed; in particular
the two side conditions of the concrete crash theorems hold in it: the self-row of the page table names
a page of the page table (`PtSelf`), every page of every user table is older than the LSN counter
(`FreshM`).  And no recovery fails: after any further accepted row statements a crash is recovered from,
and the recovered store abstracts to the plain database of all acknowledged statements.
(Histories of the engine's statements; a session additionally routes CREATE DATABASE / USE: C17.) -/
theorem C02_side_conditions_hold_in_every_reachable_database {sch : Levels} {db : Engine.DB} {sdb : Spec.SDB}
    (hist : HistCT schNew newDB [] sch db sdb) :
    (∃ pt tbls, Ckpt sch db sdb pt tbls ∧ NoStale sch tbls ∧ PtSelf pt ∧ FreshM db.store tbls) ∧
    ∀ stmts dbN sdbN o1 o2, SpecRun sch db sdb stmts dbN sdbN →
      ∃ db2, Engine.recover dbN o1 o2 = .ok db2 ∧ HistCT schNew newDB [] sch db2 sdbN ∧
        ∃ pt2 tbls2, AbsV db2.store pt2 sch tbls2 sdbN ∧ ∀ r ∈ db2.wal, Applied tbls2 db2.store r :=
  ⟨histCT_from_create_database hist, fun _ _ _ o1 o2 run => histCT_recover hist run o1 o2⟩

/-- **C02.crash_recovery_with_a_split_page_table** (the witness with a stale self row, where `PtSelfRoot` fails;
every state is an output of the model).  `CREATE DATABASE`; `CREATE TABLE t1 (a INT)` … `CREATE TABLE t8
(a INT)` give `db8` (`runCreates`, evaluated by the kernel): all eight are accepted, `db8` is reached by a
history `HistCT` and is checkpointed for the plain database `sdb8` of eight empty tables.  With the seventh
table the page table split: its root is page 53248, while its row about itself still reads `(sys_pages,
4096)` - the stronger reading `PtSelfRoot` ("names the root") is FALSE here, `PtSelf` true.  Then
`INSERT INTO t1 VALUES (1), …, (9)`: accepted; the ninth row splits the root leaf of `t1` (page 12288),
the root moves, and the log ends with the UPDATE record that re-points the catalog row of `t1` - for
page 4096, the page the stale self-row names and lives on.  Crash with nothing flushed: the log replayed
on the store before the statement gives a store that abstracts to the plain database with the nine rows,
with the live allocation frontier, row-id counter and catalog root; start-up recovery succeeds, keeps the
log and leaves a checkpointed database for that plain database. -/
theorem C02_crash_recovery_with_a_split_page_table : ∃ sch8 pt8 tbls8,
    runCreates newDB names8 = some db8 ∧ HistCT schNew newDB [] sch8 db8 sdb8 ∧
    Ckpt sch8 db8 sdb8 pt8 tbls8 ∧
    (sysPages, 4096) ∈ ptEntries pt8 ∧ rootOff pt8 = 53248 ∧ ¬ PtSelfRoot pt8 ∧ PtSelf pt8 ∧
    SpecRun sch8 db8 sdb8 [.insert [116, 49] [] rows9] db9 sdb9 ∧
    db9.wal.map (fun r => (r.op, r.page)) =
      [(c_OpInsert, 12288), (c_OpInsert, 12288), (c_OpInsert, 12288), (c_OpInsert, 12288), (c_OpInsert, 12288),
       (c_OpInsert, 12288), (c_OpInsert, 12288), (c_OpInsert, 12288), (c_OpInsert, 12288), (c_OpUpdate, 4096)] ∧
    (∃ ptN tblsN rN, replayAll db9.wal db8.store = (rN, none, false) ∧
      AbsV db9.store ptN sch8 tblsN sdb9 ∧ AbsV rN ptN sch8 tblsN sdb9 ∧
      rN.hdr.nextFree = db9.store.hdr.nextFree ∧ rN.hdr.lastKey = db9.store.hdr.lastKey ∧
      rN.hdr.ptRoot = db9.store.hdr.ptRoot) ∧
    (∃ dbR ptR tblsR, Engine.recover db9 [] [] = .ok dbR ∧ dbR.wal = db9.wal ∧
      Ckpt sch8 dbR sdb9 ptR tblsR) := by
  obtain ⟨sch8, pt8, tbls8, erun, hk, _, run, hre, hrec⟩ := split_page_table_crash
  obtain ⟨sch8', pt8', tbls8', _, hist, hg⟩ := eight_tables
  obtain ⟨_, habs, _⟩ := hk.abs
  obtain ⟨_, habs', _⟩ := hg.ck.abs
  have es : sch8' = sch8 := habs'.cat.sch_unique habs.cat
  have ep : pt8' = pt8 := habs'.cat.pt_unique habs.cat
  subst es
  subst ep
  obtain ⟨s1, s2, s3, s4⟩ := db8_stale hg
  exact ⟨_, _, tbls8, erun, hist, hk, s1, s2, s3, s4, run, db9_log, hre, hrec⟩

/-- **C02.each_side_condition_is_needed** (kernel evaluations of the model on two hand-made, unreachable
stores; `Cat` excludes neither).  `FreshM`: on a store whose table page carries LSN 100 while the LSN
counter stands at 7, the record of an INSERT is stamped 7 and the replay skips it - live one row, replayed
none, no error.  `PtSelf`: on a store whose page-table self-row names the root of table `t` (12288), nine
inserts move that root to 20480; replaying the nine INSERT records without the catalog record re-points
the self-row instead of the row of `t` (offsets of the rows `sys_pages`, `sys_schema`, `t`: live `[12288,
8192, 20480]`, replayed `[20480, 8192, 12288]`: the table is cut in half), replaying all ten records leaves
the self-row rewritten.  On the regular store `st1` both replays reproduce the live state. -/
theorem C02_each_side_condition_is_needed :
    (insertThenReplay st1 = some (1, 1, true) ∧ insertThenReplay stStale = some (1, 0, true)) ∧
    (nineThenReplay st1 9 = some (10, [4096, 8192, 20480], [4096, 8192, 20480], true) ∧
     nineThenReplay stSelfBad 9 = some (10, [12288, 8192, 20480], [20480, 8192, 12288], true) ∧
     nineThenReplay stSelfBad 10 = some (10, [12288, 8192, 20480], [20480, 8192, 20480], true)) :=
  ⟨freshM_is_needed, ptSelf_is_needed⟩

end Mkdb.Store

/-! ## the header counters: natural numbers in the model, `uint32` / `uint64` in the code -/

namespace Mkdb.Store
open Mkdb.Engine Mkdb.Tree Mkdb.Page Mkdb.Generated

/-- **C02.one_tree_insert_allocates_at_most_66_pages** (every store - also corrupt pages -, every outcome):
`BTree.insertKey` moves neither the row-id counter nor the LSN counter, never lowers the allocation frontier
and raises it by at most `insertBytes = 270336 = pageSize × (treeFuel + 2)` bytes: one page per level
that splits (the leaf and at most `treeFuel = 64` internal levels: below that fuel the model reports a
hang, not a state) and one for a new root.  `BTree.insert` (`btInsert`) adds exactly one row id and one
LSN - also when the insertion is refused (`keyExists`, `rowTooLarge`). -/
theorem C02_one_tree_insert_allocates_at_most_66_pages (bt : BT) (key lsn : Nat) (value : Bytes) :
    Grows (Store.insertKey bt key lsn value) 0 0 270336 ∧ 270336 = c_pageSize * (treeFuel + 2) ∧
    Grows (Store.btInsert bt value) 1 1 270336 :=
  ⟨Grows.insertKey bt key lsn value, rfl, Grows.btInsert bt value⟩

/-- **C02.insert_advances_the_counters_by_at_most** (`EvaluateInsert`, every database, every outcome that
leaves a database - `ResI`): an INSERT statement of `n` rows never lowers a counter, raises the row-id
counter by at most `n`, the LSN counter by at most `2 n` (a row whose insert moved the root of its table
logs a second record, for the catalog), the allocation frontier by at most `66 n` pages, and does not touch
the header in the data file.  Accepted: the log grew by records that account for the LSNs one by one
(`Logged`: the LSN counter advanced by exactly the number of records, the row-id counter by exactly the
number of INSERT records).  REFUSED (a later row is invalid, `rowTooLarge` inside the tree insert, …): the
log is the old one, but the counters keep what the rows tried before the error consumed - refused
statements use up row ids. -/
theorem C02_insert_advances_the_counters_by_at_most (db : Engine.DB) (table : Bytes) (cols : List Bytes)
    (rows : List (List Tuple.Val)) :
    ResI db (Engine.evalInsert db table cols rows) rows.length (2 * rows.length) (270336 * rows.length) :=
  evalInsert_counters db table cols rows

/-- **C02.update_and_delete_move_only_the_lsn_counter** (`EvaluateUpdate`, `EvaluateDelete`, every database,
every outcome - `ResUD`): neither the row-id counter nor the allocation frontier nor the header in the data
file moves; the LSN counter does not go down; accepted: it advanced by exactly the number of records
appended to the log - one per row version written.  (No bound in terms of the statement text exists: the
number of rows a WHERE clause selects is a property of the table; `RelationService.Update` rewrites EVERY
cell of the scan that carries the row id, `update_counters`.) -/
theorem C02_update_and_delete_move_only_the_lsn_counter (db : Engine.DB) (table : Bytes)
    (sets : List (Bytes × Sql.VExpr)) (w : Option Sql.Cond) :
    ResUD db (Engine.evalUpdate db table sets w) ∧ ResUD db (Engine.evalDelete db table w) :=
  ⟨evalUpdate_counters db table sets w, evalDelete_counters db table w⟩

/-- **C02.create_table_advances_the_counters_by_at_most** (`EvaluateCreateTable`, every database, every
outcome - `ResC`): a CREATE TABLE of `n` columns never lowers a counter, raises the row-id counter by at most
`n + 1` (its catalog rows: one in `sys_pages`, one per column in `sys_schema` - catalog rows draw from the
same counter as user rows), the LSN counter by at most `2 n + 1`, the allocation frontier by at most
`1 + 66 (n + 1)` pages; it writes no log record; its final flush copies the header to the data file. -/
theorem C02_create_table_advances_the_counters_by_at_most (db : Engine.DB) (name : Bytes)
    (cols : List Sql.ColDef) (order : List Nat) (doFlush : Bool) :
    ResC db (Engine.evalCreateTable db name cols order doFlush)
      (cols.length + 1) (2 * cols.length + 1) (4096 + 270336 * (cols.length + 1)) :=
  evalCreateTable_counters db name cols order doFlush

/-- **C02.recovery_raises_the_counters_to_at_most_header_and_log** (`Engine.recover`, every database - any
crash image -, every outcome that leaves a database; `RecAdv`): after start-up recovery the row-id counter
lies between its value in the data-file header and the maximum of that value and the keys of the logged
INSERT records (`maxKey`); the LSN counter between the header's value and the maximum of header and logged
LSNs plus one (`maxLsn … + 1`: the final bump; not reached when the replay ends early); the allocation
frontier between the header's value and that value plus 66 pages per INSERT record of the log (a replay on a
data file the pages had not reached allocates them again; in the histories of the crash theorems it
allocates exactly what the crash lost: `C02_counters_in_checkpointed_histories_are_bounded_by_the_log`); the
new header is written to the data file and the log is kept.  The reference is the header ON FILE: the
in-memory counters died with the crash, and recovery can end BELOW them (a refused statement's row ids, pages
allocated since the last flush by statements that logged nothing). -/
theorem C02_recovery_raises_the_counters_to_at_most_header_and_log (db : Engine.DB) (o1 o2 : List Nat) :
    match Engine.recover db o1 o2 with
    | .ok db' => RecAdv db db'
    | .err _ db' => RecAdv db db'
    | _ => True :=
  recover_counters db o1 o2

/-- **C02.counters_after_any_history**: `Hist newDB w db` - `db` is reached from the database CREATE
DATABASE leaves by ANY sequence of INSERT / UPDATE / DELETE / CREATE TABLE statements with any arguments,
accepted or refused, flushes in any page write order, crashes (also inside a flush: `tornFlush`) followed
by start-up recovery that succeeds or fails, and re-opening; no invariant of the store is assumed.  `w`
counts the work: `rows` = rows of the INSERT statements run + catalog rows (columns + 1) of the CREATE
TABLEs run; `creates`; `lsns` = LSNs consumed by UPDATE / DELETE statements; `recs` = recoveries;
`replayed` = INSERT records in the log at each recovery, summed.  Then EVERY counter of `db` - header in
memory, header in the data file, the key of every logged INSERT, every logged LSN (`Bnd`) - is at most
`8 + rows` (row ids), `8 + 2 rows + lsns + recs` (LSNs), `12288 + 66 pages × (rows + replayed) + 1 page ×
creates` (allocation frontier).  And `replayed ≤ recs × rows`: every INSERT record in the log is a row some
INSERT statement of the history was given (`hist_insCount`).  The histories of the crash theorems (`SpecRun`,
`Rounds`, `HistCT`) are such histories: `specRun_hist`, `rounds_hist`, `histCT_hist`; so is what the session
does to each of its databases: `C02_row_ids_of_a_session_fit`. -/
theorem C02_counters_after_any_history {db : Engine.DB} {w : Work} (hist : Hist newDB w db) :
    Bnd db (8 + w.rows) (8 + 2 * w.rows + w.lsns + w.recs)
      (12288 + 270336 * w.rows + 4096 * w.creates + 270336 * w.replayed) ∧
    w.replayed ≤ w.recs * w.rows :=
  ⟨hist_bounds newDB_bnd hist, hist_replayed_le hist⟩

/-- non-vacuity: `CREATE TABLE t (a INT)` on the new database is such a history (two catalog rows, one table);
a longer one, with a refused statement, a crash and a recovery, follows `C02_counters_fit_their_go_types` -/
example : Hist newDB ⟨2, 1, 0, 0, 0⟩ tableDB := hist_tableDB

/-- **C02.counters_fit_their_go_types**: after any history from CREATE DATABASE (`Hist newDB w db`, see
`C02_counters_after_any_history`)
* the row-id counter is a `uint32` if `w.rows ≤ 2^32 - 9 = 4294967287` (`maxRows`) - the binding bound, and
  an exact one: `newDB` starts at 8 and every row insert that reaches the tree adds exactly one
  (`btInsert_counters`), so a history of `2^32 - 8` such inserts leaves `lastKey = 2^32` in the model and `0`
  in the Go code (`f.lastKey++` on a `uint32` wraps in silence; the next row ids are ids in use).  BEYOND
  THIS BOUND THE MODEL IS NOT FAITHFUL AND C01 / C02 ("never reuses a row id") ARE NOT CLAIMED.  Note what
  counts: rows of REFUSED inserts and catalog rows too;
* the LSN counter is a `uint64` if `2 rows + lsns + recs < 2^64 - 8`;
* the allocation frontier is a non-negative `int64` file offset if `66 (rows + replayed) + creates < 2^51 - 3`;
* all three hold if the total work `rows + creates + lsns + recs + replayed` is at most `2^32 - 9`: the
  natural numbers of the model ARE the values of the Go fields, nothing has wrapped.  (With 10^9 row
  operations the margins are: 4.29 for the row ids, 9·10^9 for the LSNs, 3·10^4 for the frontier.) -/
theorem C02_counters_fit_their_go_types {db : Engine.DB} {w : Work} (hist : Hist newDB w db) :
    (w.rows ≤ 4294967287 → db.store.hdr.lastKey < 2 ^ 32) ∧
    (2 * w.rows + w.lsns + w.recs < 2 ^ 64 - 8 → db.store.hdr.nextLSN < 2 ^ 64) ∧
    (66 * (w.rows + w.replayed) + w.creates < 2 ^ 51 - 3 → db.store.hdr.nextFree < 2 ^ 63) ∧
    (w.total ≤ 4294967287 →
      db.store.hdr.lastKey < 2 ^ 32 ∧ db.store.hdr.nextLSN < 2 ^ 64 ∧ db.store.hdr.nextFree < 2 ^ 63) := by
  obtain ⟨h1, h2, h3⟩ := counters_fit_each hist
  exact ⟨h1, h2, h3, counters_fit hist⟩

/-- non-vacuity (every state computed by the model): CREATE DATABASE; `CREATE TABLE t (a INT)`; `INSERT INTO
t VALUES (5), ('x')` - REFUSED, and row id 11 and LSN 10 are gone -; `INSERT INTO t VALUES (5), (6)`;
`UPDATE t SET a = 7 WHERE a = 6`; crash and recovery; flush.  Work: 6 rows (2 catalog rows, 2 + 2 rows), 1
table, 1 UPDATE LSN, 1 recovery that replayed 2 INSERT records; the counters end at 13 / 14 / 16384, within
`8 + 6`, `8 + 12 + 1 + 1`, `12288 + 270336 × (6 + 2) + 4096`. -/
example : ∃ db, Hist newDB ⟨6, 1, 1, 1, 2⟩ db ∧ db.store.hdr = ⟨13, 4096, 16384, 14⟩ ∧ db.wal.length = 3 ∧
    (⟨6, 1, 1, 1, 2⟩ : Work).total ≤ 4294967287 := by
  obtain ⟨db, h1, h2, h3⟩ := ex_history
  exact ⟨db, h1, h2, h3, by decide⟩

/-- **C02.counters_in_checkpointed_histories_are_bounded_by_the_log**: in the histories of the crash
theorems - `HistR r c t`: the histories `HistCT` from CREATE DATABASE (rounds of accepted statements ending
in a flush or in a crash and its recovery, accepted CREATE TABLEs; `histCT_histR`: every `HistCT` history is
one), with `r` recoveries, `c` catalog rows and `t` tables created - and after any further accepted
statements, the LOG (never truncated) bounds the counters: row-id counter `≤ 8 + c + #INSERT records`, LSN
counter `≤ 8 + 2 c + #records + r`, allocation frontier `≤ 12288 + t pages + 66 pages × (c + #INSERT
records)`.  No term for the recoveries in the frontier: every database of such a history is checkpointed and
a recovery re-allocates exactly the pages the crash lost (`Ckpt.recover_round_full`).  Hence with `c + t + r +
#records ≤ 2^32 - 9` the three counters are values of their Go types. -/
theorem C02_counters_in_checkpointed_histories_are_bounded_by_the_log {r c t : Nat} {sch : Levels}
    {db dbN : Engine.DB} {sdb sdbN : Spec.SDB} {stmts : List EStmt}
    (hist : HistR r c t sch db sdb) (run : SpecRun sch db sdb stmts dbN sdbN) :
    (dbN.store.hdr.lastKey ≤ 8 + c + insCount dbN.wal ∧
     dbN.store.hdr.nextLSN ≤ 8 + 2 * c + dbN.wal.length + r ∧
     dbN.store.hdr.nextFree ≤ 12288 + 4096 * t + 270336 * (c + insCount dbN.wal)) ∧
    (c + t + r + dbN.wal.length ≤ 4294967287 →
      dbN.store.hdr.lastKey < 2 ^ 32 ∧ dbN.store.hdr.nextLSN < 2 ^ 64 ∧ dbN.store.hdr.nextFree < 2 ^ 63) := by
  obtain ⟨h1, h2, h3⟩ := histR_run_bounds hist run
  refine ⟨⟨h1, h2, h3⟩, fun hN => ?_⟩
  have := insCount_le dbN.wal
  exact ⟨by omega, by omega, by omega⟩

/-- non-vacuity: the history of `C02_rounds_example_from_create_database` (CREATE TABLE, INSERT of two rows,
crash, recovery, UPDATE, crash, recovery), counted: two recoveries, two catalog rows, one table -/
example : ∃ dbR2, HistR 2 2 1 schT dbR2 sdbA2 ∧ SpecRun schT dbR2 sdbA2 [] dbR2 sdbA2 := by
  obtain ⟨db1, dbR1, db2, dbR2, pt2, tbls2, hc, run1, rec1, _, run2, rec2, _, hk, _⟩ := real_rounds_example
  have h0 : HistR 0 (0 + (acols.length + 1)) (0 + 1) schT tableDB ([] ++ [⟨tname, acols.map Spec.colField, []⟩]) :=
    HistR.create .nil tname acols [] rfl tname_ne_sys.1 tname_ne_sys.2 acols_fields acheck
      (grown_newDB.create (by decide) tname rfl tname_ne_sys.1 tname_ne_sys.2 acheck).1 hc cat_tableDB
  exact ⟨dbR2, (h0.crash run1 rec1).crash run2 rec2, .nil _ _⟩

end Mkdb.Store

namespace Mkdb.Session
open Mkdb.Engine Mkdb.Store Mkdb.Sql

/-- **C02.row_ids_of_a_session_fit** (the session model `Session.exec`: CREATE DATABASE, USE - which flushes
and re-opens the database selected before -, SHOW DATABASES, SELECT, and the four DML / DDL statements on the
selected database, accepted or refused or given with no database selected; `runAll` goes on after every
error): after ANY list of statements from the empty session, every database of the session is reached from
the database CREATE DATABASE leaves by a history `Hist` (so `C02_counters_after_any_history` applies to it)
whose row-id work is at most `Σ stmtRows` - the rows of all INSERT statements plus the catalog rows (columns +
1) of all CREATE TABLE statements of the list, to whatever database they went; its row-id counter is at most
8 plus that, and a `uint32` if the list carries at most `2^32 - 9` such rows.  A restart of the session
(close, start-up recovery of every database, re-open) keeps this: `restart_sessRows`. -/
theorem C02_row_ids_of_a_session_fit (sts : List Sql.Stmt) :
    ∀ p ∈ (runAll {} sts).1.dbs, (∃ w, Hist newDB w p.2 ∧ w.rows ≤ (sts.map stmtRows).sum) ∧
      p.2.store.hdr.lastKey ≤ 8 + (sts.map stmtRows).sum ∧
      ((sts.map stmtRows).sum ≤ 4294967287 → p.2.store.hdr.lastKey < 2 ^ 32) :=
  session_row_ids_fit sts

/-- a session: an INSERT before any database is selected (it counts), `CREATE DATABASE d`, `USE d`, `CREATE
TABLE t (a INT)`, a refused and an accepted two-row INSERT -/
def exSession : List Sql.Stmt :=
  [.insert tname [] [[.int 1]], .createDatabase [100], .use [100], .createTable tname acols,
   .insert tname [] [[.int 5], [.str [120]]], .insert tname [] [[.int 5], [.int 6]]]

/-- the example session, computed: one database, row-id counter 13, within `8 + 7` -/
example : (runAll {} exSession).1.dbs.map (fun p => (p.1, p.2.store.hdr.lastKey)) = [("d", 13)] ∧
    (exSession.map stmtRows).sum = 7 := by decide +kernel

end Mkdb.Session
