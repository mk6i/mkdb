import Mkdb.Proofs.Join
import Mkdb.Proofs.TableNames
import Mkdb.Proofs.MeaningPipeline
/-!
# C06 — JOIN results equal the relational definition

The property theorems (lemmas in `Mkdb/Proofs/Join.lean`, `Mkdb/Proofs/TableNames.lean`,
`Mkdb/Proofs/SortAny.lean`, `Mkdb/Proofs/MeaningPipeline.lean`).  Quantifier: every table
content (empty sides, duplicate keys), every chain of INNER / LEFT / RIGHT joins, every ON
condition that evaluates to a boolean on every pair.
-/
namespace Mkdb.Exec
open Mkdb.Sql Mkdb.Exec.JoinP

/-- **C06.join**: for every left-deep chain of joins, whenever the relational definition
`Spec.fromRows` is defined (all ON evaluations are booleans) the nested-loop join returns
the same header and, as a multiset, exactly the same rows: the pairs satisfying the
condition plus — for LEFT (RIGHT) joins — each unmatched left (right) row once, padded
with NULLs. -/
theorem C06_join (fetch : Bytes → Option Table) (tr : TableRef) (rowsS : List Row) (fieldsS : List Field)
    (h : Spec.fromRows fetch tr = some (rowsS, fieldsS)) :
    ∃ rowsM fieldsM, nestedLoopJoin fetch tr = .ok (rowsM, fieldsM) ∧ fieldsM = fieldsS ∧ rowsM.Perm rowsS :=
  nestedLoopJoin_perm_fromRows fetch tr rowsS fieldsS h

/-- **C06.inner**: one INNER join is the list comprehension, in loop order. -/
theorem C06_inner (on : Cond) (fields : List Field) (L R : List Row) (truth : Row → Bool)
    (h : ∀ l ∈ L, ∀ r ∈ R, evaluate on fields (l ++ r) = .ok (.bool (truth (l ++ r)))) :
    joinOuter on fields L R (fun l r => l ++ r) none = .ok (L.flatMap fun l => (R.map fun r => l ++ r).filter truth) :=
  inner_join_eq on fields L R truth h

/-- **C06.left**: LEFT JOIN — every matching pair, and each left row without a match exactly
once, padded with `n` NULLs. -/
theorem C06_left (on : Cond) (fields : List Field) (L R : List Row) (truth : Row → Bool) (n : Nat)
    (h : ∀ l ∈ L, ∀ r ∈ R, evaluate on fields (l ++ r) = .ok (.bool (truth (l ++ r)))) :
    joinOuter on fields L R (fun l r => l ++ r) (some fun l => l ++ List.replicate n .null) =
      .ok (L.flatMap fun l => let ms := (R.map fun r => l ++ r).filter truth
                              if ms.isEmpty then [l ++ List.replicate n .null] else ms) :=
  joinOuter_ok on fields L R _ _ truth h

/-- **C06.right**: RIGHT JOIN, symmetrically. -/
theorem C06_right (on : Cond) (fields : List Field) (L R : List Row) (truth : Row → Bool) (n : Nat)
    (h : ∀ l ∈ L, ∀ r ∈ R, evaluate on fields (l ++ r) = .ok (.bool (truth (l ++ r)))) :
    joinOuter on fields R L (fun r l => l ++ r) (some fun r => List.replicate n .null ++ r) =
      .ok (R.flatMap fun r => let ms := (L.map fun l => l ++ r).filter truth
                              if ms.isEmpty then [List.replicate n .null ++ r] else ms) :=
  joinOuter_ok on fields R L _ _ truth (fun r hr l hl => h l hl r hr)

/-- **C06.resolve (ambiguity)**: an unqualified name carried by two different columns of the
joined header is rejected as ambiguous, never resolved silently. -/
theorem C06_ambiguous (fields : List Field) (n : Bytes) (i j : Nat) (hij : i ≠ j)
    (hi : fields[i]?.map (·.column) = some n) (hj : fields[j]?.map (·.column) = some n) :
    lookupFieldIdx fields n = .err .fieldAmbiguous :=
  lookupFieldIdx_ambiguous fields n i j hij hi hj

/-- **C06.resolve (qualified)**: a qualified reference resolves to the first column carrying
exactly that table id and name. -/
theorem C06_qualified (fields : List Field) (tid n : Bytes) (i : Nat)
    (h : lookupColIdxByID fields tid n = .ok i) :
    fields[i]? = some ⟨tid, n⟩ ∧ ∀ k, k < i → fields[k]? ≠ some ⟨tid, n⟩ :=
  lookupColIdxByID_first fields tid n i h

/-- **C06.resolve (alias)**: a table's columns are addressable through its alias when it has
one and through its name otherwise (so one table joined to itself under two aliases gives
two disjoint sets of qualified names). -/
theorem C06_alias (fetch : Bytes → Option Table) (t : TableName) (rows : List Row) (fields : List Field)
    (h : fetchTable fetch t = .ok (rows, fields)) :
    ∃ tbl, fetch t.name = some tbl ∧ rows = tbl.rows ∧ fields = tbl.cols.map (fun c => ⟨t.alias.getD t.name, c⟩) ∧
      (∀ a, t.alias = some a → ∀ f ∈ fields, f.tableId = a) ∧ (t.alias = none → ∀ f ∈ fields, f.tableId = t.name) :=
  fetchTable_alias fetch t rows fields h

/-- **C06.padding_null_in_an_ordering_comparison**: a comparison `<`, `<=`, `>`, `>=` one operand of
which evaluates to NULL - in particular the NULL an outer join padded an unmatched row with - is
false, never an error: `t LEFT JOIN u ON … LEFT JOIN v ON u.k < v.k` keeps every unmatched row of
`t` and does not fail when one exists.  (`=` and `!=` compare NULL as a value.) -/
theorem C06_padding_null_in_an_ordering_comparison (p : Pred) (fields : List Field) (row : Row)
    (l r : Tuple.Val) (hl : evalPrimary p.lhs fields row = .ok l) (hr : evalPrimary p.rhs fields row = .ok r)
    (hop : p.op ≠ Generated.t_EQ ∧ p.op ≠ Generated.t_NEQ) (hnull : l = .null ∨ r = .null) :
    evalPred p fields row = .ok false := by
  unfold evalPred
  simp only [bind, hl, hr]
  have h1 : (p.op == Generated.t_EQ) = false := by simpa using hop.1
  have h2 : (p.op == Generated.t_NEQ) = false := by simpa using hop.2
  have h3 : (l == Tuple.Val.null || r == Tuple.Val.null) = true := by
    rcases hnull with rfl | rfl <;> simp
  simp [h1, h2, h3, pure]

/-- **C06.one_name_for_two_tables_refused**: a table id - the alias of a table if it has one, else
its name - is used once in a FROM clause.  `l JOIN r ON c` where some field gathered for `l` already
carries the table id of `r` (the id `fetchTable` gives every field of `r`, read off the first one;
`r` must have a column for that) is refused as ambiguous, whatever the condition and the join type
(every qualified reference would resolve silently to the left-most table);
and the relational definition agrees: the clause has no meaning. -/
theorem C06_one_name_for_two_tables_refused (fetch : Bytes → Option Table) (l : TableRef) (jt : JoinType)
    (r : TableName) (on : Cond) :
    (∀ (lRows rRows : List Row) (lFields rFields : List Field),
      nestedLoopJoin fetch l = .ok (lRows, lFields) → fetchTable fetch r = .ok (rRows, rFields) →
      rFields ≠ [] → (∃ f ∈ lFields, f.tableId = r.alias.getD r.name) →
      nestedLoopJoin fetch (.join l jt r on) = .err .fieldAmbiguous) ∧
    (∀ (lRows rRows : List Row) (lFields rFields : List Field) (f0 : Field),
      nestedLoopJoin fetch l = .ok (lRows, lFields) → fetchTable fetch r = .ok (rRows, rFields) →
      rFields.head? = some f0 → (∃ f ∈ lFields, f.tableId = f0.tableId) →
      nestedLoopJoin fetch (.join l jt r on) = .err .fieldAmbiguous) ∧
    (∀ (L R : List Row) (lf rf : List Field),
      Spec.fromRows fetch l = some (L, lf) → Spec.fieldsOf fetch r = some (R, rf) →
      rf.any (fun g => lf.any (·.tableId == g.tableId)) = true →
      Spec.fromRows fetch (.join l jt r on) = none) :=
  ⟨fun lRows rRows lFields rFields hl hr hne hc =>
      nestedLoopJoin_one_name_for_two_tables fetch l jt r on lRows rRows lFields rFields hl hr hne hc,
   fun lRows rRows lFields rFields f0 hl hr h0 hc =>
      nestedLoopJoin_one_name_for_two_tables' fetch l jt r on lRows rRows lFields rFields f0 hl hr h0 hc,
   fun L R lf rf hL hR hc => fromRows_one_name_for_two_tables fetch l jt r on L R lf rf hL hR hc⟩

/-- **C06.table_ids_distinct**: whenever the relational definition of a FROM clause is defined,
(1) its header is the concatenation of the fields of its tables, left to right, and fields of two
different tables never share a table id, so that (2) a qualified reference `id.col` matches fields
of at most one table (tables counted by position: one table joined to itself counts twice); and
(3) the table ids of its tables (`tableIds`: alias, else name, left to right) are pairwise distinct
provided every table of the clause has at least one column.  A table without
columns contributes no field to the header: the test, which looks at fields, cannot see it - and no
reference can name a column of it - so (3) needs the proviso while (1) and (2) do not. -/
theorem C06_table_ids_distinct (fetch : Bytes → Option Table) (tr : TableRef) (rows : List Row)
    (fields : List Field) (h : Spec.fromRows fetch tr = some (rows, fields)) :
    (fields = (tableBlocks fetch tr).flatten ∧
      (tableBlocks fetch tr).Pairwise fun b₁ b₂ => ∀ f ∈ b₁, ∀ g ∈ b₂, f.tableId ≠ g.tableId) ∧
    (∀ id : Bytes, ((tableBlocks fetch tr).filter fun b => b.any (·.tableId == id)).length ≤ 1) ∧
    ((∀ t ∈ tablesOf tr, ∀ tbl, fetch t.name = some tbl → tbl.cols ≠ []) → (tableIds tr).Nodup) :=
  ⟨⟨fromRows_fields_eq_blocks fetch tr rows fields h, fromRows_blocks_disjoint fetch tr rows fields h⟩,
   fun id => qualified_ref_at_most_one_table fetch tr rows fields h id,
   fun hcols => fromRows_tableIds_nodup fetch tr rows fields h hcols⟩

end Mkdb.Exec

/-! ## The executor against the reference meaning, for joins

`Spec.meaning` / `Spec.satisfies` are the pair the differential-testing judge evaluates on the output
of the real implementation (`Mkdb/Driver/Exec.lean`); see the same section of `Mkdb/Props/C05.lean`. -/
namespace Mkdb.Exec
open Mkdb.Sql Mkdb.Exec.JoinP Mkdb.Exec.SelectP Mkdb.Exec.MeaningP

/-- **C06.join_defined_iff**: the converse of `C06_join`, and the two together.  Whenever the
nested loops succeed on a left-deep chain of joins, the relational definition `Spec.fromRows` is
defined (no table id used twice, every ON evaluation on every pair a boolean), with the same header
and - as a multiset - the same rows; hence the executor's FROM clause succeeds exactly when the
relational definition is defined. -/
theorem C06_join_defined_iff (fetch : Bytes → Option Table) (tr : TableRef) :
    (∀ rowsM fields, nestedLoopJoin fetch tr = .ok (rowsM, fields) →
      ∃ rowsS, Spec.fromRows fetch tr = some (rowsS, fields) ∧ rowsM.Perm rowsS) ∧
    (∀ fields, (∃ rowsM, nestedLoopJoin fetch tr = .ok (rowsM, fields)) ↔
      (∃ rowsS, Spec.fromRows fetch tr = some (rowsS, fields))) :=
  ⟨fun rowsM fields h => fromRows_of_nestedLoopJoin fetch tr rowsM fields h,
   fun fields => ⟨fun ⟨rowsM, h⟩ => (fromRows_of_nestedLoopJoin fetch tr rowsM fields h).imp fun _ h => h.1,
     fun ⟨rowsS, h⟩ => by
       obtain ⟨rowsM, fieldsM, hM, rfl, _⟩ := nestedLoopJoin_perm_fromRows fetch tr rowsS fields h
       exact ⟨rowsM, hM⟩⟩⟩

/-- **C06.result_is_the_reference_meaning**: whatever a SELECT over a chain of INNER / LEFT / RIGHT
joins (any left-deep `FROM` clause; no aggregates, no GROUP BY) answers is what the query means.  If
`evaluateSelect` answers `(rows, hdr)` then the query has a reference meaning `want` (the relational
join - matching pairs plus the padded unmatched rows of the outer side - filtered by WHERE,
projected by the select list), `hdr` is the header the judge computes, the ORDER BY keys resolve
against it to `keys` and are comparable on `want`, the answer is `cut (sortRows keys got)` for a
permutation `got` of `want` (the order in which the nested loops deliver the rows), and the judge's
test `Spec.satisfies q hdr want rows` accepts it: equal as multisets without ORDER BY (right length
and sub-multiset when OFFSET / LIMIT cut), and with ORDER BY sorted, with the key sequence of the
sorted meaning at those positions, and a sub-multiset of the meaning.
Hypothesis `hwhere` as in `C05_result_is_the_reference_meaning` (a WHERE clause that is a bare
integer or string literal is answered although ill-typed). -/
theorem C06_result_is_the_reference_meaning {fetch : Bytes → Option Table} {q : Select}
    {l : TableRef} {jt : JoinType} {r : TableName} {on : Cond} {rows : List Row} {hdr : List Field}
    (hfrom : q.from_ = some (.join l jt r on)) (hagg : hasAggr q.list = false)
    (hgb : q.groupBy = []) (hwhere : whereIsBoolean q = true)
    (h : evaluateSelect fetch q = .ok (rows, hdr)) :
    ∃ want got keys, Spec.meaning fetch q = some want ∧ hdr = judgeHeader fetch q ∧
      Spec.sortKeys q hdr = some keys ∧ got.Perm want ∧
      (∀ a ∈ want, ∀ b ∈ want, KeyComparable keys a b) ∧
      rows = cut q.lim (sortRows keys got) ∧
      Spec.satisfies q hdr want rows = true := by
  obtain ⟨want, got, keys, hm, hh, hk, hp, _, hcomp, rfl, hs, _⟩ :=
    select_result hfrom hwhere (no_groups hagg hgb) h
  exact ⟨want, got, keys, hm, hh, hk, hp, hcomp, rfl, hs⟩

/-- **C06.meaningful_query_is_answered** (the converse): a SELECT over a chain of joins (no
aggregates, no GROUP BY) that has a reference meaning `want`, whose ORDER BY keys resolve against the
judge's header and are comparable on `want`, is not refused: the executor answers with that header
and `cut (sortRows keys got)` for a permutation `got` of `want`, and the judge's test accepts the
answer.  No hypothesis on WHERE, none on the shape of the stored rows.  `hlist`, `hlim` as in
`C05_meaningful_query_is_answered`: a select list that is not empty, no negative LIMIT / OFFSET
(every parsed statement; without them the executor panics: `C05_empty_list_and_negative_bounds_panic`). -/
theorem C06_meaningful_query_is_answered {fetch : Bytes → Option Table} {q : Select}
    {l : TableRef} {jt : JoinType} {r : TableName} {on : Cond}
    {want : List Row} {keys : List (Nat × Bool)}
    (hfrom : q.from_ = some (.join l jt r on)) (hagg : hasAggr q.list = false)
    (hgb : q.groupBy = []) (hlist : q.list ≠ []) (hlim : Spec.boundsOK q.lim = true)
    (hm : Spec.meaning fetch q = some want)
    (hk : Spec.sortKeys q (judgeHeader fetch q) = some keys)
    (hcomp : ∀ a ∈ want, ∀ b ∈ want, KeyComparable keys a b) :
    ∃ got, got.Perm want ∧
      evaluateSelect fetch q = .ok (cut q.lim (sortRows keys got), judgeHeader fetch q) ∧
      Spec.satisfies q (judgeHeader fetch q) want (cut q.lim (sortRows keys got)) = true := by
  obtain ⟨got, hp, _, he, hs⟩ := select_answered hfrom hlist hlim (no_groups hagg hgb) hm hk hcomp
  exact ⟨got, hp, he, hs⟩

/-- **C06.sorted_keys_of_permutations_agree**: why the judge may compare the key sequence of the
answer with that of the *stably sorted meaning* although the executor sorts the rows in another
order: two permutations of one list of rows whose key columns are comparable, sorted by the same
keys, show the same sequence of key values - ties may be ordered differently, nothing else. -/
theorem C06_sorted_keys_of_permutations_agree {keys : List (Nat × Bool)} {got want : List Row}
    (hp : got.Perm want) (hc : ∀ a ∈ want, ∀ b ∈ want, KeyComparable keys a b) :
    (sortRows keys got).map (Spec.keyProj keys) = (sortRows keys want).map (Spec.keyProj keys) :=
  SortAnyP.sortedPerm_keys_eq hc ((SortAnyP.sortRows_sortedPerm keys got).of_perm hp)
    (SortAnyP.sortRows_sortedPerm keys want)

/-- `SELECT t.x, u.y FROM t RIGHT JOIN u ON t.id = u.id LEFT JOIN t w ON u.id = w.id
WHERE u.id >= 1 ORDER BY u.y DESC LIMIT 5 OFFSET 1` on the tables of `Mkdb/Proofs/Join.lean`
(duplicate join keys on both sides, an unmatched right row) -/
def exJoinQuery : Select :=
  { list := [⟨.expr (.val (.col ⟨Example.bt, Example.bx⟩)), []⟩,
             ⟨.expr (.val (.col ⟨Example.bu, Example.by_⟩)), []⟩]
    from_ := some Example.trX
    where_ := some (.pred ⟨.col ⟨Example.bu, Example.bid⟩, Generated.t_GTE, .lit (.int 1)⟩)
    orderBy := [⟨⟨Example.bu, Example.by_⟩, true⟩]
    lim := { limitActive := true, offsetActive := true, limit := 5, offset := 1 } }

def exJoinWant : List Row :=
  [[.str [97], .str [112]], [.str [97], .str [112]], [.str [97], .str [113]], [.str [97], .str [113]],
   [.str [98], .str [112]], [.str [98], .str [112]], [.str [98], .str [113]], [.str [98], .str [113]],
   [.null, .str [122]]]

-- non-vacuity: the query meets every hypothesis of the two theorems
example : exJoinQuery.from_ = some (.join
      (.join (.table ⟨Example.bt, none⟩) .right ⟨Example.bu, none⟩ Example.onC) .left
      ⟨Example.bt, some Example.bw⟩
      (.pred ⟨.col ⟨Example.bu, Example.bid⟩, Generated.t_EQ, .col ⟨Example.bw, Example.bid⟩⟩)) ∧
    hasAggr exJoinQuery.list = false ∧ exJoinQuery.groupBy = [] ∧
    whereIsBoolean exJoinQuery = true ∧ exJoinQuery.list ≠ [] ∧
    Spec.boundsOK exJoinQuery.lim = true := by decide +kernel
example : Spec.meaning Example.fetchX exJoinQuery = some exJoinWant := by decide +kernel
example : judgeHeader Example.fetchX exJoinQuery =
    [⟨Example.bt, Example.bx⟩, ⟨Example.bu, Example.by_⟩] := by decide +kernel
example : Spec.sortKeys exJoinQuery (judgeHeader Example.fetchX exJoinQuery) = some [(1, true)] := by
  decide +kernel
example : ∀ a ∈ exJoinWant, ∀ b ∈ exJoinWant, KeyComparable [(1, true)] a b := by decide +kernel
-- the executor's answer: the row with `z` skipped, then the four rows with `q`, then one with `p`
example : evaluateSelect Example.fetchX exJoinQuery = .ok (
    [[.str [97], .str [113]], [.str [97], .str [113]], [.str [98], .str [113]], [.str [98], .str [113]],
     [.str [97], .str [112]]], [⟨Example.bt, Example.bx⟩, ⟨Example.bu, Example.by_⟩]) := by decide +kernel
example : Spec.satisfies exJoinQuery [⟨Example.bt, Example.bx⟩, ⟨Example.bu, Example.by_⟩] exJoinWant
    [[.str [97], .str [113]], [.str [97], .str [113]], [.str [98], .str [113]], [.str [98], .str [113]],
     [.str [97], .str [112]]] = true := by decide +kernel

end Mkdb.Exec
