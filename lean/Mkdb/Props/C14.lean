import Mkdb.Proofs.BaseCaseEmptyCatalog
import Mkdb.Proofs.ColumnNames
import Mkdb.Proofs.SpecHistory
import Mkdb.Proofs.SpecRefine
import Mkdb.Proofs.SpecRefineRefused
import Mkdb.Proofs.SpecRefineStmt
import Mkdb.Proofs.Unchanged
/-!
# C14 — a statement that returns an error changes nothing

Property theorems only, about the heap model of the storage engine (`Mkdb.Store`, `Mkdb.Engine`),
which is compared with the implementation page by page.  "Changes nothing" is `SameData`
(Mkdb/Spec/Unchanged.lean): every page the engine can see, every dirty bit, the data file, the
header on disk and the fields of the in-memory header that locate data are what they were, and
the log is untouched - so the same holds after a restart (recovery reads exactly these; proved for the
statements the plain model refuses: `C17_refused_statement_keeps_the_crash_invariant`).  The
row-id and LSN counters may advance, and pages may have been pulled into the cache by reading.
Quantifier: every well-filed store (`Filed`), every table, every row.

What the theorems do **not** say is as important, and is stated here rather than hidden:
* `C14_insert_kth_row` is the *exact* behaviour for a multi-row INSERT whose k-th row (k >= 2) is
  refused: the statement returns the error and logs nothing, but the rows before it stay applied
  in the cache.  That is the known finding `db:failed-statement-applied-row-prefix` (the
  implementation does the same; not repaired, see KNOWN_FINDINGS.txt), so C14 is proved for the
  first row and relative to the prefix state for later rows.
* UPDATE: on the heap model alone there is only `update_err`, for one row and under a uniqueness
  hypothesis on the scan; the statement-level theorems for UPDATE are the ones against the plain
  model (`C14_update_refused_plain_model`, and `C14_update_kth_row_plain_model` for the same finding).
* For CREATE TABLE, on a store of which only `Filed` is known (`C14_create_table`), five error codes
  (`BodyErr`) could still come out of the body, after the root page was allocated: the catalog may itself
  be damaged.  On a store related to a plain database they do not: a CREATE TABLE is refused by its checks
  with pages, header and log as before, or it passes them and succeeds
  (`evalCreateTable_refused_or_checked`, `createTable_cat`; put together in `evalStmt_total`).
-/
namespace Mkdb.Engine
open Mkdb.Store Mkdb.Tuple Mkdb.Sql

/-- **C14.insert_first_row**: an INSERT whose first row is refused - unknown table, column-count
mismatch, a column name the table does not have (`fieldNotFound`) or one column named twice
(`fieldAmbiguous`), type mismatch, out-of-range integer, duplicate key - returns that error, leaves the
log untouched and changes nothing in the store. -/
theorem C14_insert_first_row (db : DB) (table : Bytes) (cols : List Bytes) (r : List Val)
    (rest : List (List Val)) (e : SErr) (s' : Store) (hf : Filed db.store)
    (h : insert table (cols.map bytesToName) r db.store = .err e s') (he : Refusal e) :
    ∃ db', evalInsert db table cols (r :: rest) = .err (.store e) db' ∧
      db'.wal = db.wal ∧ Filed db'.store ∧ SameData db.store db'.store :=
  evalInsert_first_row_refused db table cols r rest e s' hf h he

/-- **C14.insert_oversized_row**: the same for a row that is too large, for every table whose name fits
the catalog. -/
theorem C14_insert_oversized_row (table : Bytes) (cols : List String) (vals : List Val) (s s' : Store)
    (hf : Filed s) (hname : table.length + 14 ≤ Mkdb.Generated.c_maxValueSize)
    (h : insert table cols vals s = .err .rowTooLarge s') : Filed s' ∧ SameData s s' :=
  insert_err_rowTooLarge table cols vals s s' hf hname h

/-- **C14.insert_kth_row** (the exact statement behind the known finding): when the rows before the
refused one were applied, taking the store to `sk`, the statement returns the error and the log is
untouched, and relative to `sk` the refused row changed nothing - but `sk`, not the store before
the statement, is what the cache holds. -/
theorem C14_insert_kth_row (db : DB) (table : Bytes) (cols : List Bytes)
    (good : List (List Val)) (bad : List Val) (rest : List (List Val))
    (logs : List WalRec) (sk s' : Store) (e : SErr) (hf : Filed sk)
    (hgood : Applies table (cols.map bytesToName) good db.store logs sk)
    (hbad : insert table (cols.map bytesToName) bad sk = .err e s') (he : Refusal e) :
    ∃ db', evalInsert db table cols (good ++ bad :: rest) = .err (.store e) db' ∧
      db'.wal = db.wal ∧ Filed db'.store ∧ SameData sk db'.store :=
  evalInsert_kth_row_refused db table cols good bad rest logs sk s' e hf hgood hbad he

/-- **C14.create_table**: CREATE TABLE refused because the table exists, a column length is out of
range, a column name is used twice (`fieldAmbiguous`), or a catalog row would not fit a page cell (a
long table or column name) changes nothing and logs nothing. -/
theorem C14_create_table (db : DB) (name : Bytes) (cols : List Sql.ColDef)
    (flushOrder : List Nat) (doFlush : Bool) (e : SErr) (s' : Store) (hf : Filed db.store)
    (h : createTable (cols.map colTypeToField) name flushOrder doFlush db.store = .err e s')
    (he : e = .tableAlreadyExist ∨ e = .intOutOfRange ∨ e = .rowTooLarge ∨ e = .typeMismatch ∨
          e = .colCountMismatch ∨ e = .fieldAmbiguous) :
    ∃ db', evalCreateTable db name cols flushOrder doFlush = .err (.store e) db' ∧
      db'.wal = db.wal ∧ Filed db'.store ∧ SameData db.store db'.store :=
  evalCreateTable_refused db name cols flushOrder doFlush e s' hf h he

/-- **C14.delete**: a DELETE that fails at its first selected row changes nothing. -/
theorem C14_delete (db : DB) (table : Bytes) (where_ : Option Sql.Cond)
    (rows : List (Nat × List Val)) (schema : List FieldDef) (s0 : Store)
    (r : Nat × List Val) (rest : List (Nat × List Val)) (e : SErr) (s' : Store)
    (hf : Filed db.store)
    (hfetch : fetchTable table db.store = .ok (rows, schema) s0)
    (hsel : filterIds where_ (schema.map fun fd => ⟨[], fd.name.toUTF8.toList⟩) rows = .ok (r :: rest))
    (h : markDeleted table r.1 s0 = .err e s') :
    evalDelete db table where_ = .err (.store e) { db with store := s' } ∧
      Filed s' ∧ SameData db.store s' :=
  evalDelete_first_row_err db table where_ rows schema s0 r rest e s' hf hfetch hsel h

end Mkdb.Engine

namespace Mkdb.Store
/-- **C14.insert_unknown_column** (the repaired defect, on ANY store): once the catalog lookups have
delivered the columns `schema` of the table, an INSERT whose column list names something that is not a
column of the table never succeeds: it returns `colCountMismatch` (wrong number of values, tested
first) or `fieldNotFound` / `fieldAmbiguous` (what `checkColumns` says), in the store the lookups left,
and - the cache being well filed - every page, every dirty bit, the data file and the header locations
are as before.  (Before the repair the row went in with the value dropped.) -/
theorem C14_insert_unknown_column (table : Bytes) (cols : List String) (vals : List Tuple.Val)
    (s s1 s2 s3 : Store) (off : Nat) (n : Mkdb.Page.Node) (schema : List Tuple.FieldDef)
    (h1 : relationOffset table s = .ok off s1) (h2 : fetch off s1 = .ok n s2)
    (h3 : relationSchema table s2 = .ok schema s3)
    (c : String) (hc : c ∈ colsOf schema cols) (hn : c ∉ schema.map (·.name)) :
    ∃ e, insert table cols vals s = .err e s3 ∧
      (e = .colCountMismatch ∨ e = .fieldNotFound ∨ e = .fieldAmbiguous) ∧
      ((colsOf schema cols).length = vals.length → checkColumns schema (colsOf schema cols) = some e) ∧
      (Filed s → Filed s3 ∧ SameData s s3) :=
  insert_unknown_column table cols vals s s1 s2 s3 off n schema h1 h2 h3 c hc hn

/-- **C14.create_table_long_column_witness** (non-vacuity, and the regression witness of a repaired
defect): on an empty catalog, CREATE TABLE with a 400-byte name in its *second* column is refused
and the store is exactly the one before it, with the page table pulled into the cache - no root
page allocated, no `sys_pages` entry, no schema row of the first column left behind. -/
theorem C14_create_table_long_column_witness :
    createTable [⟨"a", .int, 0⟩, ⟨longColumn, .int, 0⟩] [116] [] true emptyCatalog
        = .err .rowTooLarge emptyCatalogRead ∧
      Filed emptyCatalogRead ∧ SameData emptyCatalog emptyCatalogRead :=
  createTable_longColumn_unchanged

/-- non-vacuity: a refused INSERT on a concrete well-filed store meets the hypotheses -/
example : Filed emptyCatalog ∧ ∃ s', insert [116] [] [] emptyCatalog = .err .tableNotExist s' :=
  ⟨emptyCatalog_filed, of_errIs (r := insert [116] [] [] emptyCatalog) insertNoTableCheck_true⟩
end Mkdb.Store

namespace Mkdb.Store
open Mkdb.Tree Mkdb.Page Mkdb.Tuple

/-- **C14.insert_refused_plain_model**: against the plain in-memory model (the judge's specification):
an INSERT into an unknown table, or whose *first* row the plain model refuses (arity, type, range,
size), or whose column list names a column the table does not have or one column twice, is refused by
the plain model and by the engine, the log is untouched and the store still abstracts to the same
plain database. -/
theorem C14_insert_refused_plain_model (db : Engine.DB) (pt sch : Levels) (tbls : List (Bytes × Levels))
    (sdb : Spec.SDB) (h : AbsV db.store pt sch tbls sdb) (table : Bytes) (cols : List Bytes)
    (r : List Val) (rest : List (List Val))
    (hbad : (Spec.findTable sdb table = none ∧ table ≠ sysPages ∧ table ≠ sysSchema) ∨
      ∃ st, Spec.findTable sdb table = some st ∧
        (Spec.rowOf st cols r = none ∨ Spec.namesOK st (cols.map Spec.nameStr) = false)) :
    Spec.specInsert sdb table cols (r :: rest) = none ∧
    ∃ e db', Engine.evalInsert db table cols (r :: rest) = .err (.store e) db' ∧
      (e = .tableNotExist ∨ RowRefusal e) ∧ db'.wal = db.wal ∧ AbsV db'.store pt sch tbls sdb :=
  evalInsert_refused_specV db pt sch tbls sdb h table cols r rest hbad

/-- **C14.insert_kth_row_plain_model** (the known finding, stated against the plain model): when the
k-th row (k >= 2) is the refused one, the plain model refuses the statement and so does the engine,
nothing is logged - but the store abstracts to the plain database *with the good rows before it
appended*, not to the database before the statement.  (`hnames`: the column list is one the plain model
accepts; a bad column list is refused at the first row, `C14_insert_refused_plain_model`.) -/
theorem C14_insert_kth_row_plain_model (db : Engine.DB) (pt sch : Levels) (tbls : List (Bytes × Levels))
    (sdb : Spec.SDB) (h : Abs db.store pt sch tbls sdb)
    (table : Bytes) (t : Levels) (ht : (table, t) ∈ tbls)
    (schema : List FieldDef) (hsch : schemaOf sch table = some schema)
    (cols : List Bytes) (good : List (List Val)) (bad : List Val) (rest : List (List Val))
    (goodRows : List (List Val)) (hvalid : ∀ r ∈ good, ∀ v ∈ r, ValidVal v)
    (hgood : good.mapM (Spec.rowOf (absTable table schema t) cols) = some goodRows)
    (hbad : Spec.rowOf (absTable table schema t) cols bad = none)
    (hnames : Spec.namesOK (absTable table schema t) (cols.map Spec.nameStr) = true)
    (hrun : InsRunOK schema (cols.map Engine.bytesToName) t db.store.hdr.lastKey db.store.hdr.nextLSN
      db.store.hdr.nextFree good) :
    Spec.specInsert sdb table cols (good ++ bad :: rest) = none ∧
    ∃ e db' ptF t', Engine.evalInsert db table cols (good ++ bad :: rest) = .err (.store e) db' ∧
      RowRefusal e ∧ db'.wal = db.wal ∧
      Abs db'.store ptF sch (setTable tbls table t')
        (sdb.map (updRows table (fun r => r ++ idRows db.store.hdr.lastKey goodRows))) :=
  evalInsert_kth_refused_spec db pt sch tbls sdb h table t ht schema hsch cols good bad rest goodRows hvalid hgood hbad hnames hrun

end Mkdb.Store

namespace Mkdb.Store
open Mkdb.Tree Mkdb.Page Mkdb.Tuple Mkdb.Generated

/-- **C14.refused_statement_plain_model** (one theorem over parsed statements, against the plain
in-memory model): `StmtRefusal` lists the refusals that happen before anything is changed - CREATE
TABLE of an existing or catalog name, with a column length beyond 32 bits or with one column name
twice; INSERT into an unknown table, whose column list names an unknown column or one column twice, or
whose first row is refused (column count, type, range, size); UPDATE with a column source, of an
unknown table, with an unknown or repeated SET column (whatever its WHERE selects), with a WHERE that
cannot be evaluated, or whose first selected row cannot be rewritten; DELETE of an unknown table or with a WHERE that cannot be evaluated.  The plain
model refuses, the engine model returns an error, the log is untouched and the relation `Rel` holds
with the SAME catalog trees and the SAME plain database: every table and the catalog contain what
they contained, and since recovery reads only the file and the log, so they do after a restart. -/
theorem C14_refused_statement_plain_model (db : Engine.DB) (order : List Nat) (pt sch : Levels)
    (tbls : List (Bytes × Levels)) (sdb : Spec.SDB) (h : Rel db pt sch tbls sdb) (st : Sql.Stmt)
    (hbad : StmtRefusal sdb pt st) :
    Spec.specStmt sdb st = none ∧
    ∃ e db', evalStmt db order st = .err e db' ∧ db'.wal = db.wal ∧ Rel db' pt sch tbls sdb :=
  evalStmt_refused_spec db order pt sch tbls sdb h st hbad

/-- **C14.delete_refused_plain_model**: the DELETE case with the stronger conclusion `Same` - no page
and no header field differs, not only the abstraction. -/
theorem C14_delete_refused_plain_model (db : Engine.DB) (pt sch : Levels) (tbls : List (Bytes × Levels))
    (sdb : Spec.SDB) (h : AbsV db.store pt sch tbls sdb) (table : Bytes) (w : Option Sql.Cond)
    (hname : Spec.findTable sdb table = none → table ≠ sysPages ∧ table ≠ sysSchema)
    (hbad : Spec.specDelete sdb table w = none) :
    ∃ e db', Engine.evalDelete db table w = .err e db' ∧ PreErr e ∧
      (Spec.findTable sdb table = none → e = .store .tableNotExist) ∧
      ((Spec.findTable sdb table).isSome → ∃ x, e = .exec x) ∧
      db'.wal = db.wal ∧ Same db.store db'.store ∧ AbsV db'.store pt sch tbls sdb :=
  evalDelete_refused_specV db pt sch tbls sdb h table w hname hbad

/-- **C14.update_refused_plain_model**: likewise for UPDATE refused before its first row (`UpdRefusal`:
column source, unknown table, a SET column the table does not have or one set twice - also when no row
is selected -, WHERE not evaluable, first selected row not rewritable). -/
theorem C14_update_refused_plain_model (db : Engine.DB) (pt sch : Levels) (tbls : List (Bytes × Levels))
    (sdb : Spec.SDB) (h : AbsV db.store pt sch tbls sdb) (table : Bytes)
    (sets : List (Bytes × Sql.VExpr)) (w : Option Sql.Cond) (hbad : UpdRefusal sdb table sets w) :
    Spec.specUpdate sdb table sets w = none ∧
    ∃ e db', Engine.evalUpdate db table sets w = .err e db' ∧ UpdErr e ∧
      db'.wal = db.wal ∧ Same db.store db'.store ∧ AbsV db'.store pt sch tbls sdb :=
  evalUpdate_refused_specV db pt sch tbls sdb h table sets w hbad

/-- **C14.update_kth_row_plain_model** (the known finding for UPDATE, stated exactly): when the k-th
selected row (k >= 2) is the one that cannot be rewritten, the plain model refuses the statement, the
engine model returns a row error and logs nothing - but the store abstracts to the plain database
with the first k-1 selected rows REWRITTEN, one of the states `Spec.prefixStates` lists
(`kth_state_in_prefixStates`), not to the database before the statement.  (`hset`: the SET columns pass
the statement's check; an unknown or repeated SET column is refused before any row is rewritten,
`C14_update_refused_plain_model`.) -/
theorem C14_update_kth_row_plain_model (db : Engine.DB) (pt sch : Levels) (tbls : List (Bytes × Levels))
    (sdb : Spec.SDB) (h : Abs db.store pt sch tbls sdb) (table : Bytes)
    (sets : List (Bytes × Sql.VExpr)) (w : Option Sql.Cond)
    (hnocol : ∀ p ∈ sets, ∀ c, p.2 ≠ .col c)
    (hvalid : ∀ p ∈ sets, ∀ l, p.2 = .lit l → ValidVal (Engine.litToVal l))
    (st : Spec.STable) (sel : List Bool) (pre : List (List Val)) (bad : List Val) (post : List (List Val))
    (hfind : Spec.findTable sdb table = some st) (hsel : Spec.selects st w = some sel)
    (hset : Engine.checkSetColumns (Spec.fieldsOfTable st) [] (sets.map (·.1)) = none)
    (hsplit : selVals st sel = pre ++ bad :: post)
    (hpre : ∀ v ∈ pre, specAssign st.cols sets v ≠ none) (hbad : specAssign st.cols sets bad = none) :
    Spec.specUpdate sdb table sets w = none ∧
    ∃ e db' t', Engine.evalUpdate db table sets w = .err (.store e) db' ∧
      (e = .typeMismatch ∨ e = .intOutOfRange ∨ e = .rowTooLarge) ∧ db'.wal = db.wal ∧
      Abs db'.store pt sch (setTable tbls table t')
        (sdb.map (updRows table fun rs => rewriteFirst st.cols sets pre.length (rs.zip sel))) :=
  evalUpdate_kth_refused_spec db pt sch tbls sdb h table sets w hnocol hvalid st sel pre bad post hfind hsel hset hsplit hpre hbad

end Mkdb.Store

namespace Mkdb.Store
open Mkdb.Tree Mkdb.Page Mkdb.Tuple Mkdb.Generated

/-- **C14.witnesses_on_a_real_database** (non-vacuity on a store the model itself creates): on the
database `CREATE DATABASE` leaves (`createDB [] {}` computed, reopened), a CREATE TABLE whose name makes
a catalog row too large, a CREATE TABLE with such a column name, and an INSERT into a table that does
not exist are refused and leave a well-filed store with the same data.  (The earlier witness store
`emptyCatalog` was hand-written; the base-case work showed that it satisfies `Filed` but is not a
database at all - `emptyCatalog_not_cat`: no catalog invariant holds of it.) -/
theorem C14_witnesses_on_a_real_database :
    (∃ s', createTable [] longName [] true (reopen newStore) = .err .rowTooLarge s' ∧
      Filed s' ∧ SameData (reopen newStore) s') ∧
    (∃ s', createTable [⟨"a", .int, 0⟩, ⟨longColumn, .int, 0⟩] [116] [] true (reopen newStore) = .err .rowTooLarge s' ∧
      Filed s' ∧ SameData (reopen newStore) s') ∧
    (∃ s', insert [116] [] [] (reopen newStore) = .err .tableNotExist s' ∧
      Filed s' ∧ SameData (reopen newStore) s') :=
  newStore_examples

end Mkdb.Store
