import Mkdb.Proofs.Console
import Mkdb.Proofs.ConsoleBytes
import Mkdb.Proofs.ConsoleEdit
import Mkdb.Proofs.ConsoleHistory
import Mkdb.Proofs.ConsoleSession
/-!
# C20 — the console submits exactly the statements that were typed

Property theorems only, most with an example evaluated on the model: at the key level (`step`, `run`: what
a key sequence hands over and the state it leaves) and at the byte level (`session`, `sessionFrom`: the loop of
`ReadLine` calls on a complete byte stream).  The lemmas are in `Mkdb/Proofs/Console*.lean`.
-/
namespace Mkdb.Console

/-- Enter on an input whose last top-level ';' is followed only by blanks submits exactly
the quote-aware split of the buffer and clears it (cursor at 0); every statement handed over becomes
a history entry (`addHistory`); paste mode and the rest of the state stay. -/
theorem C20_enter_complete (t : Term) (h : (splitStatements t.line).2.all isSpace = true) :
    step t keyEnter = (addHistory { t with line := [], pos := 0 } (splitStatements t.line).1,
      some (splitStatements t.line).1) := by
  rw [step_enter_split, if_pos h]

/-- Enter on an incomplete input submits nothing and replaces the line break by one space - put
where the cursor is (`addKeyToLine`), which is the end of the line when nothing but printable keys
and Enter were typed (`C20_cursor_at_end`). -/
theorem C20_enter_incomplete (t : Term) (h : (splitStatements t.line).2.all isSpace = false) :
    step t keyEnter = (addKeyToLine t 32, none) := by
  rw [step_enter_split, h]
  rfl

/-- Printable keys and Enter keep the cursor at the end of the line, where `addKeyToLine` appends. -/
theorem C20_cursor_at_end (t : Term) (keys : List Nat) (h : t.pos = t.line.length)
    (hvalid : ∀ k ∈ keys, k = 13 ∨ (isPrintable k = true ∧ k ≠ 13)) :
    (final t keys).pos = (final t keys).line.length ∧
      ∀ k, (addKeyToLine (final t keys) k).line = (final t keys).line ++ [k] := by
  have he : AtEnd (final t keys) := final_valid_atEnd keys t h hvalid
  exact ⟨he, fun k => (addKey_atEnd he k).1⟩

/-- A ';' inside a quoted literal never ends a statement: the automaton reports an end only
at top level. -/
theorem C20_semicolon_in_quote (q0 r : Nat) : (qstep (.inq q0) r).2 = false ∧ (qstep (.esc q0) r).2 = false :=
  qstep_quoted q0 r

/-- **C20.split**: a buffer made of well-formed statements (balanced quotes, the only ';'
outside quotes is the last character) separated by blanks splits into exactly those
statements, each without surrounding blanks — a ';' inside a literal does not split. -/
theorem C20_split (w0 : List Nat) (items : List (List Nat × List Nat))
    (hw0 : Blank w0) (hitems : ∀ p ∈ items, WFStmt p.1 ∧ Blank p.2) :
    splitStatements (w0 ++ items.flatMap (fun p => p.1 ++ p.2)) =
      (items.map (·.1), (items.getLast?.map (·.2)).getD w0) :=
  split_wf w0 items hw0 hitems

/-- **C20.session**: for every key sequence of printable keys and Enters, of ANY length, that
ends with a submitting Enter, all submissions together, in order, are the quote-aware split of
everything typed with each Enter read as one space.  (ANY length: the terminal keeps every key of an
entry, however long; a key dropped in silence would lose or mutilate a statement.) -/
theorem C20_session (keys : List Nat)
    (hvalid : ∀ k ∈ keys, k = 13 ∨ (isPrintable k = true ∧ k ≠ 13))
    (hlast : keys.getLast? = some 13)
    (hrest : Blank (splitStatements (keys.map (fun k => if k = 13 then 32 else k))).2) :
    (run {} keys).flatten = (splitStatements (keys.map (fun k => if k = 13 then 32 else k))).1 :=
  run_eq_split keys hvalid hlast hrest

/-- **C20.submit**: however a list of well-formed statements is typed — blanks or line
breaks between and (outside literals) inside them, several per line or one over many
lines — the console hands the engine exactly those statements, once each, in order, with
every literal intact. -/
theorem C20_submit (keys : List Nat) (w0 : List Nat) (items : List (List Nat × List Nat))
    (hvalid : ∀ k ∈ keys, k = 13 ∨ (isPrintable k = true ∧ k ≠ 13))
    (hlast : keys.getLast? = some 13)
    (hw0 : Blank w0) (hitems : ∀ p ∈ items, WFStmt p.1 ∧ Blank p.2)
    (htext : keys.map (fun k => if k = 13 then 32 else k) =
      w0 ++ items.flatMap (fun p => p.1 ++ p.2)) :
    (run {} keys).flatten = items.map (·.1) :=
  submit_exact keys w0 items hvalid hlast hw0 hitems htext

def codes (s : String) : List Nat := s.toList.map Char.toNat

example : (splitStatements (codes "SELECT 'a;b'; USE d;")).1 = [codes "SELECT 'a;b';", codes "USE d;"] := by decide +kernel

/-! ## The editing keys -/

/-- **C20.submission_is_split_of_buffer**: whatever keys came before (editing keys, history, pastes:
any key sequence `before`, from any state `t0`), Enter hands over exactly the quote-aware split of
the line buffer when what follows its last top-level ';' is blank, and nothing otherwise.  No hypotheses. -/
theorem C20_submission_is_split_of_buffer (t0 : Term) (before : List Nat) :
    (step (final t0 before) keyEnter).2 =
      if (splitStatements (final t0 before).line).2.all isSpace
      then some (splitStatements (final t0 before).line).1 else none := by
  by_cases h : (splitStatements (final t0 before).line).2.all isSpace = true
  · rw [C20_enter_complete _ h, if_pos h]
  · rw [C20_enter_incomplete _ (by simpa using h), if_neg h]

/-- The cursor never leaves the line: `pos ≤ len(line)` after every key sequence (so the hypothesis
of `C20_type_then_backspace` holds in every state the editor reaches). -/
theorem C20_cursor_inside_line (keys : List Nat) : (final {} keys).pos ≤ (final {} keys).line.length :=
  posOK_final keys {} (Nat.le_refl _)

/-- **Erase law**: outside paste mode, a printable key followed by backspace gives back the same
state - line, cursor and all the rest - wherever the cursor is, and hands over nothing.  Excluded:
paste mode (there backspace is a character), a cursor outside the line (never reached:
`C20_cursor_inside_line`). -/
theorem C20_type_then_backspace (t : Term) (hpa : t.pasteActive = false)
    (hpos : t.pos ≤ t.line.length) (k : Nat) (hk : isPrintable k = true) :
    step (step t k).1 keyBackspace = (t, none) :=
  type_backspace t hpa hpos hk

example : step (step { line := codes "SELCT", pos := 3 } 69).1 keyBackspace =
    ({ line := codes "SELCT", pos := 3 }, none) :=
  C20_type_then_backspace _ rfl (by decide +kernel) 69 (by decide +kernel)

/-- Outside paste mode both DEL (127) and ^H (8) are the backspace key. -/
theorem C20_backspace_bytes (rest : List Nat) :
    bytesToKey (127 :: rest) false = some (keyBackspace, rest) ∧
    bytesToKey (8 :: rest) false = some (keyBackspace, rest) := by
  constructor
  · simp [bytesToKey, ctrlKey, keyEscape, keyBackspace, decode1]
  · simp [bytesToKey, ctrlKey, keyBackspace]

/-- **^U** outside paste mode erases everything before the cursor - the whole buffer, which holds
the earlier lines of an unfinished statement too - and keeps what is behind it. -/
theorem C20_ctrlU (t : Term) (hpa : t.pasteActive = false) :
    step t keyCtrlU = ({ t with line := t.line.drop t.pos, pos := 0 }, none) :=
  (step_table t hpa).ctrlU

/-- ... so with the cursor at the end of the line the buffer is empty afterwards. -/
theorem C20_ctrlU_at_end (t : Term) (hpa : t.pasteActive = false) (hend : t.pos = t.line.length) :
    (step t keyCtrlU).1.line = [] ∧ (step t keyCtrlU).1.pos = 0 := by
  rw [C20_ctrlU t hpa]
  simp [hend]

example : (step { line := codes "SELECT 1", pos := 8 } keyCtrlU).1.line = [] :=
  (C20_ctrlU_at_end _ rfl rfl).1

/-- **C20.typed_with_corrections**: a list of well-formed statements typed with any number of pairs
(a wrong printable key, backspace) put in anywhere (`Corrected noisy keys`) is handed over as the clean
list: exactly the statements, once each, in order.  Hypotheses as in `C20_submit`, on the clean keys. -/
theorem C20_typed_with_corrections (noisy keys : List Nat) (w0 : List Nat)
    (items : List (List Nat × List Nat))
    (hc : Corrected noisy keys)
    (hvalid : ∀ k ∈ keys, k = 13 ∨ (isPrintable k = true ∧ k ≠ 13))
    (hlast : keys.getLast? = some 13)
    (hw0 : Blank w0) (hitems : ∀ p ∈ items, WFStmt p.1 ∧ Blank p.2)
    (htext : keys.map (fun k => if k = 13 then 32 else k) =
      w0 ++ items.flatMap (fun p => p.1 ++ p.2)) :
    (run {} noisy).flatten = items.map (·.1) := by
  rw [(run_correctedN (correctedN_of_corrected hc) {} rfl (Nat.le_refl _)).1]
  exact submit_exact keys w0 items hvalid hlast hw0 hitems htext

/-- `US` `X` ⌫ `E d` `q` ⌫ `;` Enter is `USE d;` Enter with two corrections -/
example : Corrected ([85, 83, 88, 127, 69, 32, 100, 113, 127, 59, 13]) (codes "USE d;" ++ [13]) :=
  .key _ (.key _ (.fix 88 (by decide +kernel) (.key _ (.key _ (.key _ (.fix 113 (by decide +kernel) (.key _ (.key _ .nil))))))))

example : run {} [85, 83, 88, 127, 69, 32, 100, 113, 127, 59, 13] = [[codes "USE d;"]] := by decide +kernel

/-! ## Paste mode -/

/-- In paste mode every key except Enter - control characters, backspace, the special key values -
is put into the line at the cursor, verbatim; nothing is handed over. -/
theorem C20_paste_verbatim (t : Term) (hpa : t.pasteActive = true) (k : Nat) (hk : k ≠ keyEnter) :
    step t k = (addKeyToLine t k, none) := by
  rw [step, handleKey_paste t hpa hk]

example : (step { line := [97, 98], pos := 1, pasteActive := true } 127).1.line = [97, 127, 98] := by
  rw [C20_paste_verbatim _ rfl 127 (by decide +kernel)]; rfl

/-- A pasted text made of printable keys and Enter gives the same submissions as the same text
typed, from every state. -/
theorem C20_paste_same_as_typed (t : Term) (keys : List Nat)
    (hvalid : ∀ k ∈ keys, k = 13 ∨ (isPrintable k = true ∧ k ≠ 13)) :
    run { t with pasteActive := true } keys = run { t with pasteActive := false } keys :=
  (Runs.setPaste true keys { t with pasteActive := false } hvalid).1

example : run { pasteActive := true } (codes "USE d;" ++ [13]) = [[codes "USE d;"]] := by decide +kernel

/-! ## The byte level -/

/-- **Typed as bytes**: the UTF-8 encoding of a printable key or Enter (a Unicode scalar value:
`validRune k = k`), whatever bytes follow, in and outside paste mode, is decoded by `bytesToKey`
to exactly that key, and the bytes that follow are left.  So a sequence of such keys arrives at
`handleKey` as it was typed, and the key-level theorems speak about what is typed as bytes.
Excluded: ESC and the control bytes (they are editing keys), the special key values. -/
theorem C20_bytes_decode (k : Nat) (hk : k = 13 ∨ isPrintable k = true) (hv : validRune k = k)
    (rest : List Nat) (paste : Bool) : bytesToKey (encodeRune k ++ rest) paste = some (k, rest) :=
  bytesToKey_encode hk hv rest paste

/-- 'é' (two bytes) followed by ';' -/
example : bytesToKey (encodeRune 233 ++ [59]) false = some (233, [59]) :=
  C20_bytes_decode 233 (Or.inr (by decide +kernel)) (by decide +kernel) [59] false

/-- **Typed as bytes, the session**: for a complete byte stream that is the UTF-8 text of printable
keys and Enters (`TypedKey`: Unicode scalar values; no ESC, no control bytes), the loop of `ReadLine`
calls (`session`: `bytesToKey`, the ^C/^D/paste tests of `readLine`, `handleKey`, the history) hands over
exactly what `run` says for the keys - so `C20_session`, `C20_submit` and the C20Parse theorems
speak about what the console reads from its input. -/
theorem C20_bytes_session (keys : List Nat) (hv : ∀ k ∈ keys, TypedKey k) :
    session (encodeKeys keys) = run {} keys :=
  (Reads.typed false hv).session

example : session (encodeKeys (codes "SELECT 'é;';" ++ [13])) = [[codes "SELECT 'é;';"]] := by
  rw [C20_bytes_session _ (by decide +kernel)]; decide +kernel

/-- the editing keys at the byte level: `SELECT 12` DEL `;` Enter, `ELECT 1;` ^A `S` Enter, and
`SELECT 1;` Enter ^P Enter (the history) -/
example : session (codes "SELECT 12" ++ [127] ++ codes ";" ++ [13]) = [[codes "SELECT 1;"]] := by decide +kernel
example : session (codes "ELECT 1;" ++ [1] ++ codes "S" ++ [13]) = [[codes "SELECT 1;"]] := by decide +kernel
example : session (codes "SELECT 1;" ++ [13, 16, 13]) = [[codes "SELECT 1;"], [codes "SELECT 1;"]] := by decide +kernel

/-! ## Nested corrections, ^U -/

/-- A block of `n` printable keys followed by `n` backspaces (`w1 w2 ⌫ ⌫`) is a balanced sequence
(`Noise`: a backspace erases the last printable key of the sequence not erased yet, every key of the
sequence is erased); so are balanced sequences nested in or following each other. -/
theorem C20_correction_block (ws : List Nat) (h : ∀ w ∈ ws, isPrintable w = true) :
    Noise (ws ++ List.replicate ws.length keyBackspace) :=
  noise_block ws h

example : Noise [88, 89, 127, 127] := C20_correction_block [88, 89] (by decide +kernel)

/-- **Nested corrections change nothing.**  A key sequence with balanced sequences of printable keys and
backspaces put in anywhere, any number of times (`CorrectedN noisy clean`; backspace is what both DEL and
^H decode to, `C20_backspace_bytes`), hands over exactly what the clean sequence of printable keys and
Enters does, and ends in the same state (line, cursor, history, all of it) - from every state outside
paste mode whose cursor is inside the line.  Excluded: paste mode (there backspace is a character), a
cursor outside the line (never reached: `C20_cursor_inside_line`). -/
theorem C20_nested_corrections_same_run (noisy clean : List Nat) (hc : CorrectedN noisy clean) (t : Term)
    (hpa : t.pasteActive = false) (hpos : t.pos ≤ t.line.length)
    (hvalid : ∀ k ∈ clean, k = 13 ∨ (isPrintable k = true ∧ k ≠ 13)) :
    run t noisy = run t clean ∧ final t noisy = final t clean :=
  run_correctedN hc t hpa hpos

/-- `US` `XY` ⌫ ⌫ `E d` `q` `r` ⌫ `s` ⌫ ⌫ `;` Enter is `USE d;` Enter: a block of two, and a nested one -/
example : CorrectedN ([85, 83, 88, 89, 127, 127, 69, 32, 100, 113, 114, 127, 115, 127, 127, 59, 13])
    (codes "USE d;" ++ [13]) :=
  .key _ (.key _ (.noise (m := [88, 89, 127, 127]) (C20_correction_block [88, 89] (by decide +kernel))
    (.key _ (.key _ (.key _ (.noise (m := [113, 114, 127, 115, 127, 127])
      (.wrap 113 (by decide +kernel) (m := [114, 127, 115, 127])
        (.append (.wrap 114 (by decide +kernel) .nil) (.wrap 115 (by decide +kernel) .nil)))
      (.key _ (.key _ .nil))))))))

/-- **C20.typed_with_nested_corrections**: a list of well-formed statements typed with any number of
corrections - blocks of wrong printable keys erased again by as many backspaces, nested and repeated
anywhere (`CorrectedN noisy keys`) - is handed over as the clean list: exactly the statements, once each,
in order.  Hypotheses as in `C20_submit`, on the clean keys. -/
theorem C20_typed_with_nested_corrections (noisy keys : List Nat) (w0 : List Nat)
    (items : List (List Nat × List Nat))
    (hc : CorrectedN noisy keys)
    (hvalid : ∀ k ∈ keys, k = 13 ∨ (isPrintable k = true ∧ k ≠ 13))
    (hlast : keys.getLast? = some 13)
    (hw0 : Blank w0) (hitems : ∀ p ∈ items, WFStmt p.1 ∧ Blank p.2)
    (htext : keys.map (fun k => if k = 13 then 32 else k) =
      w0 ++ items.flatMap (fun p => p.1 ++ p.2)) :
    (run {} noisy).flatten = items.map (·.1) := by
  rw [(run_correctedN hc {} rfl (Nat.le_refl _)).1]
  exact submit_exact keys w0 items hvalid hlast hw0 hitems htext

example : run {} [85, 83, 88, 89, 127, 127, 69, 32, 100, 113, 114, 127, 115, 127, 127, 59, 13] =
    [[codes "USE d;"]] := by decide +kernel

/-- **^U after typing**: outside paste mode, whatever printable keys were typed just before ^U are gone
with it - the state after them and ^U is the state after ^U alone (everything before the cursor erased);
nothing is handed over.  With the cursor at the beginning of the line - in particular on an empty line,
as after a submission - the state is exactly the one before the keys. -/
theorem C20_ctrlU_wipes_typed (ws : List Nat) (t : Term) (hpa : t.pasteActive = false)
    (hpos : t.pos ≤ t.line.length) (h : ∀ w ∈ ws, isPrintable w = true) :
    run t (ws ++ [keyCtrlU]) = [] ∧
    final t (ws ++ [keyCtrlU]) = { t with line := t.line.drop t.pos, pos := 0 } ∧
    (t.pos = 0 → final t (ws ++ [keyCtrlU]) = t) :=
  ⟨(typed_then_ctrlU ws t hpa hpos h).1, (typed_then_ctrlU ws t hpa hpos h).2,
    fun h0 => (typed_then_ctrlU_id ws t hpa h0 h).2⟩

example : final {} (codes "SELEKT 1;" ++ [keyCtrlU]) = {} :=
  (C20_ctrlU_wipes_typed (codes "SELEKT 1;") {} rfl (Nat.le_refl _) (by decide +kernel)).2.2 rfl

/-- **A mistyped line wiped by ^U** is as if never typed: after printable keys and Enters that leave the
line empty (`pre`; e.g. nothing, or whole statements ending with a submitting Enter), printable keys
followed by ^U change no submission of what is typed afterwards. -/
theorem C20_wiped_line_same_run (pre junk keys : List Nat)
    (hpre : ∀ k ∈ pre, k = 13 ∨ (isPrintable k = true ∧ k ≠ 13))
    (hempty : (final {} pre).line = []) (hjunk : ∀ w ∈ junk, isPrintable w = true) :
    run {} (pre ++ junk ++ keyCtrlU :: keys) = run {} (pre ++ keys) :=
  (run_wiped {} rfl (Nat.le_refl _) pre junk keys hempty hjunk).1

/-- **C20.wiped_line_retyped**: statements typed (`pre`, leaving an empty line), then a whole mistyped
line wiped by ^U, then typed again correctly: exactly the well-formed statements of `pre ++ keys` are
handed over, once each, in order - nothing of the wiped line.  Hypotheses as in `C20_submit` on
`pre ++ keys`. -/
theorem C20_wiped_line_retyped (pre junk keys : List Nat) (w0 : List Nat)
    (items : List (List Nat × List Nat))
    (hempty : (final {} pre).line = []) (hjunk : ∀ w ∈ junk, isPrintable w = true)
    (hvalid : ∀ k ∈ pre ++ keys, k = 13 ∨ (isPrintable k = true ∧ k ≠ 13))
    (hlast : (pre ++ keys).getLast? = some 13)
    (hw0 : Blank w0) (hitems : ∀ p ∈ items, WFStmt p.1 ∧ Blank p.2)
    (htext : (pre ++ keys).map (fun k => if k = 13 then 32 else k) =
      w0 ++ items.flatMap (fun p => p.1 ++ p.2)) :
    (run {} (pre ++ junk ++ keyCtrlU :: keys)).flatten = items.map (·.1) := by
  rw [(run_wiped {} rfl (Nat.le_refl _) pre junk keys hempty hjunk).1]
  exact submit_exact _ w0 items hvalid hlast hw0 hitems htext

/-- `USE a;` Enter `USE bb;` ^U `USE b;` Enter -/
example : run {} ((codes "USE a;" ++ [13]) ++ codes "USE bb;" ++ keyCtrlU :: (codes "USE b;" ++ [13])) =
    run {} ((codes "USE a;" ++ [13]) ++ (codes "USE b;" ++ [13])) :=
  C20_wiped_line_same_run _ _ _ (by decide +kernel) (by decide +kernel) (by decide +kernel)

example : run {} ((codes "USE a;" ++ [13]) ++ codes "USE bb;" ++ keyCtrlU :: (codes "USE b;" ++ [13])) =
    [[codes "USE a;"], [codes "USE b;"]] := by decide +kernel

/-! ## The history -/

/-- Every statement the splitter returns - so every statement the console hands over, whatever was
typed, pasted or edited (`C20_submission_is_split_of_buffer`) - is well formed: it ends with its only
top-level ';', its quotes are balanced, it begins with no blank; and alone in the buffer it splits into
itself with nothing left.  No hypotheses. -/
theorem C20_split_outputs_wellformed (l : List Nat) :
    ∀ s ∈ (splitStatements l).1, WFStmt s ∧ splitStatements s = ([s], []) :=
  fun s hs => ⟨split_outputs_wf l s hs, split_single (split_outputs_wf l s hs)⟩

/-- **What the history holds**: after printable keys and Enters that are Unicode scalar values
(`TypedKey`; a value that is none would be stored as U+FFFD), the ring holds the statements handed over,
one entry per statement, the most recent first, at most 100; the editor is not inside the history
(`historyIndex = -1`). -/
theorem C20_history_holds_submissions (keys : List Nat) (hv : ∀ k ∈ keys, TypedKey k) :
    (final {} keys).history = (run {} keys).flatten.reverse.take 100 ∧ (final {} keys).historyIndex = -1 := by
  obtain ⟨g, hh, _⟩ := typedState_run keys {} typedState_init hv
  exact ⟨by rw [hh]; simp, g.idx⟩

example : (final {} (codes "USE a; USE b;" ++ [13])).history = [codes "USE b;", codes "USE a;"] := by
  rw [(C20_history_holds_submissions _ (by decide +kernel)).1]; decide +kernel

/-- **C20.recall_resubmits_exactly**: after any sequence of typed keys (printable keys and Enters,
Unicode scalar values) that handed over the statements `s_1 … s_n` in all, pressing Up `k` times
(`1 ≤ k ≤ n`, `k ≤ 100`, the size of the ring) and Enter hands over exactly `[s_(n-k+1)]` - the `k`-th most
recent statement, text intact, once, alone - and nothing else; whatever was in the line before the first Up
(an unfinished input is kept aside as `historyPending`) is not handed over.  Excluded: key values that are
no Unicode scalar values (possible only in paste mode; the entry then holds U+FFFD), `k` beyond the
entries there are (`Up` then stays at the oldest entry). -/
theorem C20_recall_resubmits_exactly (keys : List Nat) (hv : ∀ k ∈ keys, TypedKey k) (k : Nat)
    (hk1 : 1 ≤ k) (hkn : k ≤ (run {} keys).flatten.length) (hk100 : k ≤ 100) :
    run {} (keys ++ List.replicate k keyUp ++ [keyEnter]) =
      run {} keys ++ [[(run {} keys).flatten[(run {} keys).flatten.length - k]]] :=
  recall keys hv k hk1 hkn hk100

/-- `USE a; USE b;` Enter `USE c;` Enter, then Up Up Up Enter: `USE a;` again; with an unfinished `SEL`
in the line before the Ups: the same -/
example : run {} (codes "USE a; USE b;" ++ [13] ++ codes "USE c;" ++ [13] ++ List.replicate 3 keyUp ++ [keyEnter]) =
    run {} (codes "USE a; USE b;" ++ [13] ++ codes "USE c;" ++ [13]) ++ [[codes "USE a;"]] :=
  C20_recall_resubmits_exactly _ (by decide +kernel) 3 (by decide +kernel) (by decide +kernel) (by decide +kernel)

example : run {} (codes "USE a; USE b;" ++ [13] ++ codes "USE c;" ++ [13] ++ codes "SEL" ++ [keyUp, keyUp, 13]) =
    [[codes "USE a;", codes "USE b;"], [codes "USE c;"], [codes "USE b;"]] := by decide +kernel

/-! ## The movement keys -/

/-- **Movement changes no text**: outside paste mode the keys Left, Right, Home, End, Alt-Left, Alt-Right
and ^L (`isMove`) hand over nothing and change nothing but the cursor position, which stays inside the
line when it was. -/
theorem C20_movement_keeps_text (t : Term) (hpa : t.pasteActive = false) (k : Nat) (hk : isMove k = true) :
    ∃ p, step t k = ({ t with pos := p }, none) ∧ (t.pos ≤ t.line.length → p ≤ t.line.length) := by
  obtain ⟨p, hs⟩ := step_move t hpa hk
  refine ⟨p, hs, fun h => ?_⟩
  have := posOK_step t h k
  rw [hs] at this
  exact this

example : ∃ p, step { line := codes "SELECT 1", pos := 8 } keyAltLeft = ({ line := codes "SELECT 1", pos := p }, none) ∧
    (8 ≤ (codes "SELECT 1").length → p ≤ (codes "SELECT 1").length) :=
  C20_movement_keeps_text { line := codes "SELECT 1", pos := 8 } rfl keyAltLeft (by decide +kernel)

example : (step { line := codes "SELECT 1", pos := 8 } keyAltLeft).1.pos = 7 := by decide +kernel

/-- **Edits change nothing**: a key sequence with, put in anywhere and any number of times, corrections
(balanced sequences of printable keys and backspaces) and blocks of movement keys each closed by End
(`Edited noisy clean`; ^E decodes to End) hands over exactly what the clean sequence of printable keys and
Enters does - from every state outside paste mode with the cursor at the end of the line.  Excluded: a
movement block not closed by End before the next key (the key then goes in where the cursor is: that is
editing, not noise), paste mode. -/
theorem C20_edits_same_run (noisy clean : List Nat) (hc : Edited noisy clean) (t : Term)
    (hpa : t.pasteActive = false) (hend : t.pos = t.line.length)
    (hvalid : ∀ k ∈ clean, k = 13 ∨ (isPrintable k = true ∧ k ≠ 13)) :
    run t noisy = run t clean :=
  run_edited hc t hpa hend hvalid

/-- **C20.typed_with_edits**: a list of well-formed statements typed with corrections and with cursor
movements each closed by End before typing goes on is handed over as the clean list: exactly the
statements, once each, in order.  Hypotheses as in `C20_submit`, on the clean keys. -/
theorem C20_typed_with_edits (noisy keys : List Nat) (w0 : List Nat)
    (items : List (List Nat × List Nat))
    (hc : Edited noisy keys)
    (hvalid : ∀ k ∈ keys, k = 13 ∨ (isPrintable k = true ∧ k ≠ 13))
    (hlast : keys.getLast? = some 13)
    (hw0 : Blank w0) (hitems : ∀ p ∈ items, WFStmt p.1 ∧ Blank p.2)
    (htext : keys.map (fun k => if k = 13 then 32 else k) =
      w0 ++ items.flatMap (fun p => p.1 ++ p.2)) :
    (run {} noisy).flatten = items.map (·.1) := by
  rw [run_edited hc {} rfl rfl hvalid]
  exact submit_exact keys w0 items hvalid hlast hw0 hitems htext

/-- `USE` Home Alt-Right End ` d` `x` ⌫ Left Left End `;` Enter Left is `USE d;` Enter -/
example : Edited ([85, 83, 69, keyHome, keyAltRight, keyEnd, 32, 100, 120, 127, keyLeft, keyLeft, keyEnd, 59, 13,
    keyLeft]) (codes "USE d;" ++ [13]) :=
  .key _ (.key _ (.key _ (.move (ms := [keyHome, keyAltRight]) (by decide +kernel)
    (.key _ (.key _ (.noise (m := [120, 127]) (.wrap 120 (by decide +kernel) .nil)
      (.move (ms := [keyLeft, keyLeft]) (by decide +kernel)
        (.key _ (.key _ (.tail (ms := [keyLeft]) (by decide +kernel)))))))))))

example : run {} [85, 83, 69, keyHome, keyAltRight, keyEnd, 32, 100, 120, 127, keyLeft, keyLeft, keyEnd, 59, 13,
    keyLeft] = [[codes "USE d;"]] := by decide +kernel

/-! ## The editing keys as bytes -/

/-- **Editing keys as bytes**: outside paste mode the bytes a terminal sends for an editing key (`keyBytes`:
DEL, ^U, ^L, ^W, ^K, `ESC [ A/B/C/D/H/F` for the arrows and Home/End, `ESC [ 1 ; 3 D/C` for Alt-Left/Right),
whatever bytes follow, are decoded by `bytesToKey` to exactly that key, and the bytes that follow are left. -/
theorem C20_edit_bytes_decode (k : Nat) (hk : isEditKey k = true) (rest : List Nat) :
    bytesToKey (keyBytes k ++ rest) false = some (k, rest) :=
  editKey_bytes hk rest

example : bytesToKey ([27, 91, 65] ++ [13]) false = some (keyUp, [13]) := C20_edit_bytes_decode keyUp (by decide +kernel) [13]

/-- **Typed and edited as bytes, the session**: for a complete byte stream that is the bytes of typed keys
(printable keys and Enters, Unicode scalar values) and editing keys (`EditKey`: backspace, ^U, ^W, ^K, ^L,
arrows, Home/End, Alt-arrows), the loop of `ReadLine` calls hands over exactly what `run` says for the
keys - so the theorems about corrections, ^U, recall from the history and cursor movement speak about what
the console reads from its input.  Excluded: ^C, ^D, ESC alone, bracketed paste (see `C20_paste_*`). -/
theorem C20_bytes_session_edited (keys : List Nat) (hv : ∀ k ∈ keys, EditKey k) :
    session (keysBytes keys) = run {} keys :=
  (Reads.keys hv).session

/-- `USX` DEL `E d;` Enter `ESC [ A` Enter: `USE d;` twice -/
example : session (codes "USX" ++ [127] ++ codes "E d;" ++ [13, 27, 91, 65, 13]) =
    run {} (codes "USX" ++ [keyBackspace] ++ codes "E d;" ++ [13, keyUp, 13]) :=
  C20_bytes_session_edited (codes "USX" ++ [keyBackspace] ++ codes "E d;" ++ [13, keyUp, 13]) (by decide +kernel)

example : session (codes "USX" ++ [127] ++ codes "E d;" ++ [13, 27, 91, 65, 13]) =
    [[codes "USE d;"], [codes "USE d;"]] := by decide +kernel

/-! ## Bracketed paste as bytes -/

/-- **The fuel of the session does not matter**: `sessionFrom` (the loop of `ReadLine` calls) gives the same
lines with every fuel above the number of bytes left - `bytesToKey` consumes at least one byte per key, for
ANY bytes.  (So the `sessionFrom (rest.length + 1) …` of the theorems below is `sessionFrom` with any
sufficient fuel.) -/
theorem C20_session_fuel_irrelevant (F F' : Nat) (t : Term) (bytes : List Nat) (h : bytes.length < F)
    (h' : bytes.length < F') : sessionFrom F t bytes = sessionFrom F' t bytes :=
  (sessionFrom_sess F t bytes h).trans (sessionFrom_sess F' t bytes h').symm

example : sessionFrom 9 {} (codes "USE d;" ++ [13]) = sessionFrom 100 {} (codes "USE d;" ++ [13]) :=
  C20_session_fuel_irrelevant 9 100 {} _ (by decide +kernel) (by decide +kernel)

/-- **Typed text, then anything**: outside paste mode, the UTF-8 text of printable keys and Enters (`TypedKey`)
followed by ANY bytes `rest` hands over what `run` says for the keys, and then `rest` is read from the state
the keys leave (`final t keys`).  Generalises `C20_bytes_session` (there `rest = []`, `t = {}`). -/
theorem C20_typed_bytes_then (keys : List Nat) (t : Term) (rest : List Nat) (hpa : t.pasteActive = false)
    (hv : ∀ k ∈ keys, TypedKey k) :
    sessionFrom ((encodeKeys keys ++ rest).length + 1) t (encodeKeys keys ++ rest) =
      run t keys ++ sessionFrom (rest.length + 1) (final t keys) rest :=
  (Reads.typed false hv).from _ _ t rest hpa (Nat.lt_succ_self _) (Nat.lt_succ_self _)

example : sessionFrom ((encodeKeys (codes "USE d;" ++ [13]) ++ [4, 65]).length + 1) {}
    (encodeKeys (codes "USE d;" ++ [13]) ++ [4, 65]) =
    run {} (codes "USE d;" ++ [13]) ++ sessionFrom 3 (final {} (codes "USE d;" ++ [13])) [4, 65] :=
  C20_typed_bytes_then _ {} [4, 65] rfl (by decide +kernel)

/-- **A paste as bytes, from any state**: outside paste mode, the byte stream `ESC[200~` (`pasteStartSeq`),
the UTF-8 text of printable keys and Enters, `ESC[201~` (`pasteEndSeq`), then ANY bytes `rest`: the lines
handed over are those of the text typed (`run t keys`: a pasted line comes with `ErrPasteIndicator`, which
the console loop treats like any other line), and `rest` is read outside paste mode from
the state the typed text would have left (`final t keys`).  Proved in full: the paste may hold complete
lines, an unfinished one, or begin in the middle of a line.  Excluded: pasted bytes that are no printable keys
or Enters (in paste mode control bytes and ESC sequences other than `ESC[201~` go into the line verbatim:
`C20_paste_verbatim`), text that is no Unicode scalar values. -/
theorem C20_pasted_bytes_from (keys : List Nat) (t : Term) (rest : List Nat) (hpa : t.pasteActive = false)
    (hv : ∀ k ∈ keys, TypedKey k) :
    sessionFrom ((pasteStartSeq ++ encodeKeys keys ++ pasteEndSeq ++ rest).length + 1) t
        (pasteStartSeq ++ encodeKeys keys ++ pasteEndSeq ++ rest) =
      run t keys ++ sessionFrom (rest.length + 1) (final t keys) rest :=
  (Reads.paste hv).from _ _ t rest hpa (Nat.lt_succ_self _) (Nat.lt_succ_self _)

/-- **C20.pasted_bytes_session**: the console started on the byte stream `ESC[200~` text `ESC[201~` `rest`
(text: printable keys and Enters, Unicode scalar values) hands over exactly what it hands over when the text
is typed (`run {} keys`, so `C20_session` / `C20_submit` apply), and then reads `rest` - any bytes: typed text,
editing keys, another paste - outside paste mode from the state the typed text leaves.  This is "typed or
pasted" of the property at the level the program reads its input. -/
theorem C20_pasted_bytes_session (keys : List Nat) (rest : List Nat) (hv : ∀ k ∈ keys, TypedKey k) :
    session (pasteStartSeq ++ encodeKeys keys ++ pasteEndSeq ++ rest) =
      run {} keys ++ sessionFrom (rest.length + 1) (final {} keys) rest :=
  C20_pasted_bytes_from keys {} rest rfl hv

/-- ... in particular a paste alone gives what the text typed gives -/
theorem C20_pasted_bytes_alone (keys : List Nat) (hv : ∀ k ∈ keys, TypedKey k) :
    session (pasteStartSeq ++ encodeKeys keys ++ pasteEndSeq) = run {} keys :=
  (Reads.paste hv).session

/-- two statements pasted in one piece, the second over two lines -/
example : session (pasteStartSeq ++ encodeKeys (codes "USE é; SELECT" ++ [13] ++ codes "1;" ++ [13]) ++ pasteEndSeq) =
    [[codes "USE é;", codes "SELECT 1;"]] := by
  rw [C20_pasted_bytes_alone _ (by decide +kernel)]; decide +kernel

/-- **Typed, pasted, typed**: text typed, then a paste, then text typed again - each of printable keys and
Enters; the paste may begin and end in the middle of a line - is handed over as the whole text typed. -/
theorem C20_pasted_among_typed (pre keys post : List Nat) (hpre : ∀ k ∈ pre, TypedKey k)
    (hv : ∀ k ∈ keys, TypedKey k) (hpost : ∀ k ∈ post, TypedKey k) :
    session (encodeKeys pre ++ (pasteStartSeq ++ encodeKeys keys ++ pasteEndSeq ++ encodeKeys post)) =
      run {} (pre ++ keys ++ post) := by
  rw [List.append_assoc pre]
  exact ((Reads.typed false hpre).append ((Reads.paste hv).append (.typed false hpost))).session

/-- `SELECT ` typed, `'a;b'` pasted, `;` Enter typed -/
example : session (encodeKeys (codes "SELECT ") ++ (pasteStartSeq ++ encodeKeys (codes "'a;b'") ++ pasteEndSeq ++
    encodeKeys (codes ";" ++ [13]))) = [[codes "SELECT 'a;b';"]] := by
  rw [C20_pasted_among_typed _ _ _ (by decide +kernel) (by decide +kernel) (by decide +kernel)]; decide +kernel

/-! ## ^K, ^D, ^W -/

/-- **^K at the end of the line** (outside paste mode, nothing behind the cursor) changes nothing and hands
over nothing. -/
theorem C20_delete_line_at_end (t : Term) (hpa : t.pasteActive = false) (hend : t.pos = t.line.length) :
    step t keyDeleteLine = (t, none) :=
  step_deleteLine_atEnd t hpa (by omega)

/-- **^D at the end of the line** (outside paste mode, nothing behind the cursor) changes nothing and hands
over nothing - as a key of `handleKey`.  In the loop of `readLine` ^D on an EMPTY line ends the console
(`C20_ctrlD_byte`). -/
theorem C20_ctrlD_at_end (t : Term) (hpa : t.pasteActive = false) (hend : t.pos = t.line.length) :
    step t keyCtrlD = (t, none) :=
  step_ctrlD_atEnd t hpa (by omega)

example : step { line := codes "SELECT 1", pos := 8 } keyDeleteLine = ({ line := codes "SELECT 1", pos := 8 }, none) :=
  C20_delete_line_at_end _ rfl rfl
example : step { line := codes "SELECT 1", pos := 8 } keyCtrlD = ({ line := codes "SELECT 1", pos := 8 }, none) :=
  C20_ctrlD_at_end _ rfl rfl

/-- **The byte ^D**, outside paste mode, whatever bytes follow: on an empty line it ends the console (nothing
that follows is handed over); with the cursor at the end of a line that is not empty it is skipped. -/
theorem C20_ctrlD_byte (t : Term) (rest : List Nat) (hpa : t.pasteActive = false) :
    (t.line = [] → sessionFrom ((4 :: rest).length + 1) t (4 :: rest) = []) ∧
    (t.line ≠ [] → t.pos = t.line.length →
      sessionFrom ((4 :: rest).length + 1) t (4 :: rest) = sessionFrom (rest.length + 1) t rest) :=
  ⟨fun hl => sess_ctrlD_empty _ t rest hpa hl (Nat.lt_succ_self _),
   fun hl hend => sess_ctrlD_nonempty _ _ t rest hpa hl (by omega) (Nat.lt_succ_self _) (Nat.lt_succ_self _)⟩

example : session ([4] ++ codes "USE d;" ++ [13]) = [] := (C20_ctrlD_byte {} _ rfl).1 rfl
example : session (codes "USE d" ++ [4] ++ codes ";" ++ [13]) = [[codes "USE d;"]] := by decide +kernel

/-- **^K and ^D after typed text are noise**: from a state outside paste mode with the cursor at the end,
after printable keys and Enters (`a`), any number of ^K and ^D keys change no submission of what is typed
afterwards and leave the same state.  Excluded: the cursor moved back before (then they delete text), and
at the byte level ^D on an empty line (`C20_ctrlD_byte`). -/
theorem C20_delete_line_ctrlD_same_run (a ks b : List Nat) (t : Term) (hpa : t.pasteActive = false)
    (hend : t.pos = t.line.length)
    (ha : ∀ k ∈ a, k = 13 ∨ (isPrintable k = true ∧ k ≠ 13))
    (hks : ∀ k ∈ ks, k = keyDeleteLine ∨ k = keyCtrlD) :
    run t (a ++ ks ++ b) = run t (a ++ b) ∧ final t (a ++ ks ++ b) = final t (a ++ b) :=
  run_endNoise a ks b t hpa hend ha hks

example : run {} (codes "USE" ++ [keyDeleteLine, keyCtrlD, keyDeleteLine] ++ (codes " d;" ++ [13])) =
    run {} (codes "USE" ++ (codes " d;" ++ [13])) :=
  (C20_delete_line_ctrlD_same_run _ _ _ {} rfl rfl (by decide +kernel) (by decide +kernel)).1

/-- **C20.delete_word_erases_the_last_word**: outside paste mode, with the cursor at the end of a line that
ends with a space which is not its first key (`t.line = pre ++ [32]`, `pre` not empty), a word `w` (not empty,
printable keys other than the space) typed and then ^W gives back exactly the state before the word: the word
is erased, the space before it STAYS (`countToLeftWord` stops behind the space), nothing is handed over.
Excluded: a space at index 0 of the line (`C20_delete_word_quirk`); blanks other than U+0020 (tab, NBSP:
`countToLeftWord` knows only `' '`, they are part of the word). -/
theorem C20_delete_word_erases_the_last_word (t : Term) (pre w : List Nat) (hpa : t.pasteActive = false)
    (hend : t.pos = t.line.length) (hl : t.line = pre ++ [32]) (hpre : pre ≠ []) (hne : w ≠ [])
    (hw : ∀ c ∈ w, isPrintable c = true ∧ c ≠ 32) :
    run t (w ++ [keyDeleteWord]) = [] ∧ final t (w ++ [keyDeleteWord]) = t :=
  word_then_deleteWord t pre w hpa hend hl hpre hne hw

example : final { line := codes "SELECT ", pos := 7 } (codes "12" ++ [keyDeleteWord]) = { line := codes "SELECT ", pos := 7 } :=
  (C20_delete_word_erases_the_last_word _ (codes "SELECT") (codes "12") rfl rfl rfl (by decide +kernel) (by decide +kernel)
    (by decide +kernel)).2

/-- **The quirk of ^W** (as in x/term): the loop of `countToLeftWord` that looks for the space before the word
runs `for pos > 0` and never looks at index 0 - a space that is the FIRST key of the line is erased together
with the word after it (` ab` ^W leaves the empty line, not ` `); everywhere else the space stays (`a ab` ^W
leaves `a `).  No statement is lost or changed by it: the space is a blank outside any word. -/
theorem C20_delete_word_quirk :
    (final {} (codes " ab" ++ [keyDeleteWord])).line = [] ∧ (final {} (codes " ")).line = codes " " ∧
    (final {} (codes "a ab" ++ [keyDeleteWord])).line = codes "a " := by decide +kernel

/-! ## Up and Down -/

/-- **C20.up_then_down_restores_the_typed_line**: on a line typed but not yet submitted - outside paste mode,
outside the history (`historyIndex = -1`), the line holding Unicode scalar values only (typed text does;
`C20_up_then_down_general` without), cursor at the end - Up pressed `j` times (`1 ≤ j ≤` the number of
history entries) and then Down `j` times hands over nothing and gives back the same state: `line`, `pos`,
history, `historyIndex = -1`; only `historyPending` (where the first Up put the line aside) now holds the line. -/
theorem C20_up_then_down_restores_the_typed_line (j : Nat) (t : Term) (hpa : t.pasteActive = false)
    (hi : t.historyIndex = -1) (hend : t.pos = t.line.length) (hv : ∀ c ∈ t.line, validRune c = c)
    (hj1 : 1 ≤ j) (hj : j ≤ t.history.length) :
    run t (List.replicate j keyUp ++ List.replicate j keyDown) = [] ∧
      final t (List.replicate j keyUp ++ List.replicate j keyDown) = { t with historyPending := t.line } := by
  rw [← afterUpDown_valid t hv hend]
  exact ups_downs j t hpa hi hj hj1

example : final { line := codes "SEL", pos := 3, history := [codes "USE b;", codes "USE a;"] }
      (List.replicate 2 keyUp ++ List.replicate 2 keyDown) =
    { line := codes "SEL", pos := 3, history := [codes "USE b;", codes "USE a;"], historyPending := codes "SEL" } :=
  (C20_up_then_down_restores_the_typed_line 2 _ rfl rfl rfl (by decide +kernel) (by decide +kernel) (by decide +kernel)).2

/-- after `USE a;` Enter and an unfinished `SEL`: Up Down, then `ECT 1;` Enter submits `SELECT 1;` -/
example : run {} (codes "USE a;" ++ [13] ++ codes "SEL" ++ [keyUp, keyDown] ++ codes "ECT 1;" ++ [13]) =
    [[codes "USE a;"], [codes "SELECT 1;"]] := by decide +kernel

/-- **Up then Down, in general**: wherever the cursor was and whatever the line holds, Up `j` times then Down
`j` times from outside the history gives `afterUpDown t`: the line as `[]rune(string(line))` (a key value that
is no Unicode scalar value - it can be in the line only after a paste - comes back as U+FFFD), the cursor at
the END of the line (not where it was), `historyPending` that line, everything else as before. -/
theorem C20_up_then_down_general (j : Nat) (t : Term) (hpa : t.pasteActive = false)
    (hi : t.historyIndex = -1) (hj1 : 1 ≤ j) (hj : j ≤ t.history.length) :
    run t (List.replicate j keyUp ++ List.replicate j keyDown) = [] ∧
      final t (List.replicate j keyUp ++ List.replicate j keyDown) = afterUpDown t :=
  ups_downs j t hpa hi hj hj1

/-- the cursor was at 1 and is at the end afterwards; the key value 0xd807 in the line comes back as U+FFFD -/
example : final { line := [97, 0xd807, 98], pos := 1, history := [codes "USE a;"] } [keyUp, keyDown] =
    { line := [97, 0xfffd, 98], pos := 3, history := [codes "USE a;"], historyPending := [97, 0xfffd, 98] } :=
  (C20_up_then_down_general 1 _ rfl rfl (by decide +kernel) (by decide +kernel)).2

/-- **Down undoes Up inside the history too**: at entry `m` of the history (line = that entry, cursor at its
end), Up `j` times - there are that many older entries - then Down `j` times gives back exactly the same
state. -/
theorem C20_up_then_down_inside_history (j : Nat) (t : Term) (m : Nat) (h : InHist t m)
    (hlen : m + j < t.history.length) :
    run t (List.replicate j keyUp ++ List.replicate j keyDown) = [] ∧
      final t (List.replicate j keyUp ++ List.replicate j keyDown) = t :=
  ups_downs_inHist j t m h hlen

example : InHist { line := codes "USE b;", pos := 6, history := [codes "USE b;", codes "USE a;"], historyIndex := 0 } 0 :=
  ⟨rfl, rfl, rfl, rfl⟩

/-- **Down outside the history** changes nothing. -/
theorem C20_down_outside_history (t : Term) (hpa : t.pasteActive = false) (hi : t.historyIndex = -1) :
    step t keyDown = (t, none) := by
  rw [(step_table t hpa).down, hi]; rfl

example : step { line := codes "SEL", pos := 3 } keyDown = ({ line := codes "SEL", pos := 3 }, none) :=
  C20_down_outside_history _ rfl rfl

/-- **C20.up_beyond_oldest_changes_nothing**: outside paste mode, when there is no entry older than the one
shown (`nthPrevious history (historyIndex + 1) = none`: the editor is at the oldest entry, or the history is
empty), Up - any number of times - hands over nothing and changes nothing: line, cursor, position in the
history all stay. -/
theorem C20_up_beyond_oldest_changes_nothing (j : Nat) (t : Term) (hpa : t.pasteActive = false)
    (h : nthPrevious t.history (t.historyIndex + 1) = none) :
    run t (List.replicate j keyUp) = [] ∧ final t (List.replicate j keyUp) = t :=
  ups_beyond j t hpa h

example : final { line := codes "SEL", pos := 2 } (List.replicate 3 keyUp) = { line := codes "SEL", pos := 2 } :=
  (C20_up_beyond_oldest_changes_nothing 3 _ rfl (by decide +kernel)).2

/-- **Up past the oldest entry, then Enter**: after typed keys that handed over `n` statements (`1 ≤ n ≤ 100`),
Up pressed `n + extra` times and Enter hands over the OLDEST statement again - the presses beyond the oldest
entry do nothing.  (Complements `C20_recall_resubmits_exactly`, which needs `k ≤ n`.) -/
theorem C20_recall_beyond_oldest (keys : List Nat) (hv : ∀ k ∈ keys, TypedKey k) (extra : Nat)
    (hn1 : 1 ≤ (run {} keys).flatten.length) (hn100 : (run {} keys).flatten.length ≤ 100) :
    run {} (keys ++ List.replicate ((run {} keys).flatten.length + extra) keyUp ++ [keyEnter]) =
      run {} keys ++ [[(run {} keys).flatten[0]]] := by
  obtain ⟨s, hs, h⟩ := recall_any keys hv ((run {} keys).flatten.length + extra) (by omega) hn1
  rw [Nat.min_eq_left hn100, Nat.min_eq_right (Nat.le_add_right _ _), List.getElem?_reverse (by omega),
    List.getElem?_eq_getElem (by omega)] at hs
  rw [h, ← Option.some.inj hs]
  congr 4
  omega

example : run {} (codes "USE a;" ++ [13] ++ codes "USE b;" ++ [13] ++ List.replicate (2 + 3) keyUp ++ [keyEnter]) =
    run {} (codes "USE a;" ++ [13] ++ codes "USE b;" ++ [13]) ++ [[codes "USE a;"]] :=
  C20_recall_beyond_oldest (codes "USE a;" ++ [13] ++ codes "USE b;" ++ [13]) (by decide +kernel) 3 (by decide +kernel) (by decide +kernel)

end Mkdb.Console
