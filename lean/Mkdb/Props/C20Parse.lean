import Mkdb.Proofs.ScanTextLayout
import Mkdb.Proofs.TypedStmtSession
/-!
# C20 and C10 composed — from keystrokes at the console to the parsed statement

Property theorems only.  C20 (`Props/C20.lean`) says which texts the console submits; C10
(`Props/C10Text.lean`) says to which statement a text parses.  In the program they meet in
`runTerminal` (cmd/console/main.go): every text the console submits is handed to
`engine.Session.ExecQuery`, which parses it.  Here the two models are joined.

**The two alphabets.**  The console model works on key codes (`Nat`), the scanner model on `Rune`s.  A
submission is a list of key codes; the engine receives it as a Go string and the scanner decodes the string
into runes.  For an ASCII key `c` that rune is `asciiRune c`; `runesOfKeys` maps a submission to the runes
the scanner reads, `keysOfRunes` a text to the keys that type it.  **The composition is for ASCII text** -
what `renderText` writes.  (Names and literals outside ASCII are covered by each property separately:
`C20_submit` for any code points, `C10_scan_roundtrip_pieces` for any runes.)

Vocabulary (definitions in `Proofs/TypedStmt*.lean`): `Typed` - one statement as it is typed: the statement,
the optional spellings `opts`, the keyword cases, the gap before each token, the blanks `after` the `;`;
`Typed.text` its SQL text (`renderText`, one closing `;`), `Typed.keys` the text as key codes; `Typed.OK`
the hypotheses of `C10_text_roundtrip` plus: every gap consists of BLANKS only (`blankGap`: a line break
typed at the console is the Enter key, which the console turns into one blank - so at any gap the user
types blanks and/or Enters, and in the text handed to the engine every Enter has become a blank; comments
are not typed here: the console does not understand them, see the last examples), no gap before the first
token or behind the `;`; `Neutral l` - the keys `l`, read by the console's quote automaton from outside
quotes, end no statement and end outside quotes.
-/
namespace Mkdb.Console
open Mkdb.Scan Mkdb.Generated Mkdb.Sql

/-- **C20∘C10.quote_tracking_agrees**: the console and the scanner agree on where a string literal ends,
for every literal the text level of C10 accepts.  If the scanner (`scanString`, with all its escape
handling: `\'`, `\\`, octal, `\x`, `\u`, `\U`, invalid escapes) reads `'body'` up to the quote written
behind `body` (`strBodyOK`, the condition in `TokOK` / `TextOK` for string literals), then the console's
`splitStatements`, reading the same characters as keys, is inside the literal up to that same quote and
outside behind it, and ends no statement on the way - whatever `;`, blanks, `"`, backquotes or backslash
sequences the body contains.  (No `TextOK` literal on which the two disagree exists.) -/
theorem C20_quote_tracking_agrees (body : Input) (h : strBodyOK body = true) :
    Neutral (39 :: keysOfRunes body ++ [39]) :=
  neutral_str body h

/-- the same in terms of a string literal of a statement: the bytes `b` of a literal `TextOK` accepts -/
theorem C20_quote_tracking_agrees_lit (b : Bytes) (h : litTextOK (.str b) = true) :
    Neutral (39 :: b.map (·.toNat) ++ [39]) := by
  have e2 : (t_STR == t_IDENT) = false := by decide
  have e3 : (t_STR == t_INT) = false := by decide
  simp only [litTextOK, TokOK, e2, e3, Bool.false_eq_true, ↓reduceIte, beq_self_eq_true, Bool.and_eq_true] at h
  have := neutral_str _ h.2
  have e : keysOfRunes (b.map fun b => asciiRune b.toNat) = b.map (·.toNat) := by
    simp only [keysOfRunes, List.map_map]; rfl
  rwa [e] at this

example : litTextOK (.str [97, 59, 32, 34, 96, 92, 39, 59, 92, 92]) = true ∧
    Neutral (39 :: [97, 59, 32, 34, 96, 92, 39, 59, 92, 92] ++ [39]) :=
  ⟨by decide +kernel, C20_quote_tracking_agrees_lit [97, 59, 32, 34, 96, 92, 39, 59, 92, 92] (by decide +kernel)⟩

/-- **C20∘C10.typed_text_wellformed**: the text of a typed statement is a statement text in the sense of
`C20_submit` (`Console.WFStmt`): its quotes are balanced for the console, the only `;` outside quotes is
its last character, it does not begin with a blank.  Rests on: no token of a rendered well-formed
statement is a `;` (`noSemi_renderStmt`), and `C20_quote_tracking_agrees` for its literals. -/
theorem C20_typed_text_wellformed (t : Typed) (h : t.OK) : Console.WFStmt t.keys := typed_wf t h

/-- **C20∘C10.bridge**: the runes the scanner decodes from the submitted key codes of a typed statement are
exactly its SQL text (`renderText` writes ASCII runes only, and `runesOfKeys` is the decoding of ASCII). -/
theorem C20_typed_keys_are_text (t : Typed) (h : t.OK) : runesOfKeys t.keys = t.text := typed_runes t h

/-- **C20∘C10.typed_statement_is_parsed** - FROM KEYSTROKES TO THE PARSED STATEMENT.  Take any list of
statements `ts`, each a statement the grammar can express (`Sql.WFStmt`) whose names and strings can be
written in plain SQL text (`TextOK`), each written with any optional spellings, any keyword case, gaps of
blanks between the tokens (`layoutOK`: tokens may touch where the scanner separates them anyway) and closed
by exactly one `;` (`Typed.OK`).  Type them at the console in any of the ways `C20_submit` allows: `keys`
is any sequence of printable keys and Enters that ends with Enter and whose text, each Enter read as the
one blank the console makes of it, is: blanks `w0`, then the statements' texts in order, each followed by
blanks `after` - so several statements per line, one statement over many lines, any blank of a gap typed
as Enter.  Then (1) the console submits exactly the `n` texts, once each, in order, and (2) the engine's
parser (`parseSQL`, on the runes of each submission) yields exactly the statements that were typed, in
order: the i-th submission parses to the i-th statement.
Hypotheses and what they exclude: `hvalid` - only printable keys and Enter are typed (a control character
inside a literal, e.g. a tab, which `TextOK` accepts, has no key); `Typed.OK` - `TextOK` / `WFStmt` as in
`C10_text_roundtrip`; gaps of blanks only, so NO COMMENTS (the console does not understand them: a quote or
`;` inside a comment derails it, examples below) and no tabs between tokens (no key); one closing `;`.
A line break typed INSIDE a string literal reaches the engine as a blank (C20's known behaviour): the
statement parsed then is the one whose literal has a blank there (second example below). -/
theorem C20_typed_statement_is_parsed (keys : List Nat) (w0 : List Nat) (ts : List Typed)
    (hvalid : ∀ k ∈ keys, k = 13 ∨ (isPrintable k = true ∧ k ≠ 13))
    (hlast : keys.getLast? = some 13)
    (hw0 : Blank w0) (hts : ∀ t ∈ ts, t.OK)
    (htext : keys.map (fun k => if k = 13 then 32 else k) = w0 ++ ts.flatMap (fun t => t.keys ++ t.after)) :
    (run {} keys).flatten = ts.map (·.keys) ∧
    (run {} keys).flatten.map (fun sub => parseSQL (runesOfKeys sub)) = ts.map (fun t => Outcome.ok t.stmt) :=
  typed_session keys w0 ts hvalid hlast hw0 hts htext

/-- **C20∘C10, in the words of both properties**: for any sequence of statements each terminated by a
semicolon and entered with arbitrary line breaks, several per line or one across many lines, the console
hands the engine exactly those statements, once each and in order (there are exactly `n` submissions, the
i-th is the text of the i-th statement with every string literal intact), and writing each statement as SQL
text - with any keyword case, blanks and line breaks, optional keywords present or absent - and parsing
the text the console submitted yields the same statement.  Same hypotheses as
`C20_typed_statement_is_parsed`. -/
theorem C20_console_to_engine (keys : List Nat) (w0 : List Nat) (ts : List Typed)
    (hvalid : ∀ k ∈ keys, k = 13 ∨ (isPrintable k = true ∧ k ≠ 13))
    (hlast : keys.getLast? = some 13)
    (hw0 : Blank w0) (hts : ∀ t ∈ ts, t.OK)
    (htext : keys.map (fun k => if k = 13 then 32 else k) = w0 ++ ts.flatMap (fun t => t.keys ++ t.after)) :
    (run {} keys).flatten.length = ts.length ∧
    ∀ i (hi : i < ts.length), ∃ sub, (run {} keys).flatten[i]? = some sub ∧
      runesOfKeys sub = ts[i].text ∧ parseSQL (runesOfKeys sub) = .ok ts[i].stmt := by
  obtain ⟨hsub, _⟩ := typed_session keys w0 ts hvalid hlast hw0 hts htext
  refine ⟨by rw [hsub, List.length_map], ?_⟩
  intro i hi
  have hok := hts ts[i] (List.getElem_mem hi)
  refine ⟨ts[i].keys, ?_, typed_runes _ hok, typed_parse _ hok⟩
  rw [hsub, List.getElem?_map, List.getElem?_eq_getElem hi]
  rfl

/-- **C20∘C10, one statement over several lines** (`n = 1`): a statement typed with Enters at any of its
gaps is submitted once, by the Enter behind its `;`, and parses to the statement. -/
theorem C20_typed_single (keys : List Nat) (w0 : List Nat) (t : Typed)
    (hvalid : ∀ k ∈ keys, k = 13 ∨ (isPrintable k = true ∧ k ≠ 13))
    (hlast : keys.getLast? = some 13) (hw0 : Blank w0) (ht : t.OK)
    (htext : keys.map (fun k => if k = 13 then 32 else k) = w0 ++ (t.keys ++ t.after)) :
    (run {} keys).flatten = [t.keys] ∧ parseSQL (runesOfKeys t.keys) = .ok t.stmt := by
  have := typed_session keys w0 [t] hvalid hlast hw0 (by simpa using ht) (by simpa using htext)
  exact ⟨by simpa using this.1, typed_parse t ht⟩

/-! ## Non-vacuity: a concrete entry of two statements

    ␣insert INTO t VALUES ('a; b'); select a⏎
    ␣from t⏎
    where a = 1;⏎

The INSERT has a `;` and a blank inside its string literal; the SELECT stands behind it on the same
line and goes on over two more lines. -/
section Examples
open TypedEx

example : exIns.keys = strCodes "insert INTO t VALUES ('a; b');" ∧
    exSel.keys = strCodes "select a  from t where a = 1;" :=
  ⟨by rw [strCodes_ofList]; decide +kernel, by rw [strCodes_ofList]; decide +kernel⟩

/-- computed through the console model: nothing is submitted by the first two Enters, the third submits
both statements, the literal intact ... -/
example : run {} exKeys = [[strCodes "insert INTO t VALUES ('a; b');", strCodes "select a  from t where a = 1;"]] := by
  simp only [exKeys]
  decide +kernel

/-- ... and computed through the scanner and parser models: each submission parses to its statement -/
example :
    (match parseSQL (runesOfKeys (strCodes "insert INTO t VALUES ('a; b');")) with
      | .ok s => s == .insert [116] [] [[.str [97, 59, 32, 98]]] | _ => false) = true ∧
    (match parseSQL (runesOfKeys (strCodes "select a  from t where a = 1;")) with
      | .ok s => s == exSel.stmt | _ => false) = true := by
  constructor
  · rw [parseSQL, scanSQL_eq, strCodes_ofList]; decide +kernel
  · rw [parseSQL, scanSQL_eq, strCodes_ofList]; decide +kernel

/-- the same by instantiating the theorem -/
example : (run {} exKeys).flatten = [exIns.keys, exSel.keys] ∧
    (run {} exKeys).flatten.map (fun sub => parseSQL (runesOfKeys sub)) = [.ok exIns.stmt, .ok exSel.stmt] :=
  C20_typed_statement_is_parsed exKeys [32] [exIns, exSel] exKeys_valid (by decide +kernel)
    ((blank_iff_all _).mp (by decide +kernel))
    exBoth_ok exKeys_text

example : (run {} exKeys).flatten.length = 2 :=
  (C20_console_to_engine exKeys [32] [exIns, exSel] exKeys_valid (by decide +kernel) ((blank_iff_all _).mp (by decide +kernel))
    exBoth_ok exKeys_text).1

/-- the blank inside the literal typed as Enter (`'a;⏎b'`): the same two submissions - the engine gets
the literal with a blank where the line was broken -/
example : (run {} exKeysBreakInLiteral).flatten = [exIns.keys, exSel.keys] ∧
    (run {} exKeysBreakInLiteral).flatten.map (fun sub => parseSQL (runesOfKeys sub)) = [.ok exIns.stmt, .ok exSel.stmt] :=
  C20_typed_statement_is_parsed exKeysBreakInLiteral [32] [exIns, exSel] exKeysBreakInLiteral_valid (by decide +kernel)
    ((blank_iff_all _).mp (by decide +kernel))
    exBoth_ok exKeysBreakInLiteral_text

/-- one statement over three lines (`n = 1`) -/
example : (run {} (strCodes "select a" ++ [13, 32] ++ strCodes "from t" ++ [13] ++ strCodes "where a = 1;" ++ [13])).flatten =
      [exSel.keys] ∧ parseSQL (runesOfKeys exSel.keys) = .ok exSel.stmt :=
  C20_typed_single _ [] exSel (by decide +kernel) (by decide +kernel) Blank.nil exSel_ok (by decide +kernel)

example : exIns.OK ∧ exSel.OK := ⟨exIns_ok, exSel_ok⟩

/-! ### What the hypothesis "gaps of blanks only" excludes: comments (known finding of C20)

The scanner skips comments, the console does not know them.  `select /* it's */ a from t;` is a statement
for the engine, but the console sees a quote open in the comment and never submits; with a `;` in the
comment it submits two fragments, neither of which is the statement. -/

example : run {} (strCodes "select /* it's */ a from t;" ++ [13]) = [] ∧
    (match parseSQL (runesOfKeys (strCodes "select /* it's */ a from t;")) with | .ok _ => true | _ => false) = true :=
  ⟨by decide +kernel, by rw [parseSQL, scanSQL_eq, strCodes_ofList]; decide +kernel⟩

example : run {} (strCodes "select /* ; */ a from t;" ++ [13]) = [[strCodes "select /* ;", strCodes "*/ a from t;"]] ∧
    (match parseSQL (runesOfKeys (strCodes "select /* ; */ a from t;")) with | .ok _ => true | _ => false) = true :=
  ⟨by decide +kernel, by rw [parseSQL, scanSQL_eq, strCodes_ofList]; decide +kernel⟩

end Examples

end Mkdb.Console
