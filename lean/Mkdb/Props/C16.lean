import Mkdb.Proofs.CacheSimEngine
import Mkdb.Proofs.FlushOrder
import Mkdb.Proofs.FlushRefusal
import Mkdb.Proofs.PageCacheLRU
/-!
# C16 — query results do not depend on the page-cache size

Property theorems only, about the page-cache model `Mkdb.PageCache` (storage/page.go
`fileStore.fetch` / `markDirty` / `flushPages` over the LRU of storage/lru.go).  Quantifier:
every capacity (both sides arbitrary, from 0 up), every initial cache content satisfying the
invariant, every sequence of page reads, page changes and flushes that neither side refuses.
The workload is expressed in page operations.  No theorem reads a program of the heap model
`Mkdb.Store` as such a sequence (allocation, `Store.appendNode`, is none of the three operations): the heap
model, with its unbounded cache and an explicit eviction step, is the second part of this file, and the two
parts share no lemma.  What the model cannot exhibit: Go pointer aliasing - a page object that is evicted
while a caller still holds the pointer and changes it afterwards.  That is what the capacity sweep of the
check looks for on the real code (partial).
-/
namespace Mkdb.PageCache
variable {α : Type}

/-- **C16.capacity_independent**: two caches of any two capacities started on the same logical
contents return the same page contents for every read of every workload that neither refuses, and
end with the same logical contents. -/
theorem C16_capacity_independent (s1 s2 : St α) (ops : List (Op α)) (h1 : Inv s1) (h2 : Inv s2)
    (hv : ∀ k, view s1 k = view s2 k) (s1' s2' : St α) (o1 o2 : List (Option α))
    (r1 : run s1 ops = some (s1', o1)) (r2 : run s2 ops = some (s2', o2)) :
    o1 = o2 ∧ ∀ k, view s1' k = view s2' k :=
  cap_independent s1 s2 ops h1 h2 hv s1' s2' o1 o2 r1 r2

/-- **C16.equals_cacheless**: a cache of any capacity behaves like no cache at all (one current
content per page), and keeps its invariant: an evicted page equals its disk image. -/
theorem C16_equals_cacheless (s : St α) (ops : List (Op α)) (h : Inv s) (s' : St α) (outs : List (Option α))
    (hr : run s ops = some (s', outs)) :
    Inv s' ∧ outs = (refRun (view s) ops).2 ∧ ∀ k, view s' k = (refRun (view s) ops).1 k :=
  run_sim s ops h s' outs hr

/-- **C16.refusal_only_when_full_of_dirty**: the only way the bounded cache differs - by refusing - is
a miss on a cache that is full of dirty pages: the precondition "dirty pages are flushed before
they fill the cache" is exact. -/
theorem C16_refusal_only_when_full_of_dirty (s : St α) (k : Nat) :
    fetch s k = none ↔ (find? s.items k = none ∧ s.items.length = s.cap ∧ ∀ e ∈ s.items, e.dirty = true) :=
  fetch_none_iff s k

/-- **C16.flush_makes_durable**: after a flush the data file holds the logical contents, so a restart
(which drops the cache) reads the same pages whatever the capacity was. -/
theorem C16_flush_makes_durable (s : St α) (h : Inv s) : ∀ k, (flush s).disk k = view s k := flush_disk s h

/-- **C16.policy_is_the_lru_model**: the recency and eviction behaviour of this model is that of the
LRU model of C15 (which is compared with storage/lru.go on every run): eviction, insertion of a
missing page, and a hit project to `LRU.evict`, `LRU.Cache.set` and `LRU.Cache.get`. -/
theorem C16_policy_is_the_lru_model (s : St α) (k : Nat) :
    (fetch s k).map (fun r => proj r.1.items) =
      (match LRU.Cache.get ⟨s.cap, proj s.items⟩ k with
       | (c', some _) => some c'.items
       | (_, none) =>
         let r := LRU.Cache.set ⟨s.cap, proj s.items⟩ k k false
         if r.2 then some r.1.items else none) := proj_fetch s k

/-- non-vacuity: a capacity-2 cache on which an 8-operation workload over 4 pages runs with evictions,
and the same workload with capacity 5 -/
example : Inv Example.s0 ∧ (run Example.s0 Example.w).isSome = true ∧
    (run { Example.s0 with cap := 5 } Example.w).isSome = true := by
  refine ⟨Example.s0_inv, by decide, by decide⟩

end Mkdb.PageCache

/-!
## C16 on the heap model: evicting clean pages changes nothing the engine can see

The theorems above are about the abstract cache model.  The engine model runs on the page heap
`Mkdb.Store`, whose cache is unbounded: nothing is ever evicted in it.  `evict s offs` (Proofs/Evict) is
the eviction step of the real cache on the heap model - the cache loses the pages at the offsets `offs`
that the engine sees clean, for ANY list of offsets (which pages go is the LRU policy of C15; every
choice is covered); a page the engine sees dirty is never dropped.  The theorems below say that this
step is invisible: to the page heap, to the database invariant of the statement-level theorems (C01,
C08, C14, C17, C18), to the outcome of every statement, to every reader, and along whole histories of
statements, flushes and evictions.

Two routes, with different reach:
* through the plain model (`C16_statement_outcomes_do_not_depend_on_evictions`, `C16_histories_with_evictions`):
  ANY evictions; outcomes as accepted / refused; side conditions of C01 / C14;
* directly on the heap (`C16_evicted_run_is_the_same_run`, `C16_histories_with_evictions_same_errors`): the
  run on the smaller cache is step for step the run on the larger one - the same error values, also for
  a statement refused at a later row - for evictions of pages that are in the data file (every page of
  the catalog description is, `C16_catalog_pages_may_always_be_evicted`) and a cache with one entry per
  offset (a Go map).

Limit: the heap model has no capacity, so it cannot exhibit the refusal of a page load by a cache that
is full of dirty pages; `C16_refusal_only_when_full_of_dirty` (above, on the abstract model) says that
this is the only way a bounded cache differs, and the property's precondition excludes it.
-/
namespace Mkdb.Store
open Mkdb.Tree Mkdb.Page Mkdb.Tuple Mkdb.Generated

/-- **C16.eviction_is_invisible**: let the store hold a catalog (`Cat`: the trees `pt`, `sch`, `tbls`)
whose clean pages are in the data file (`Synced`, a clause of `DbInv`), and evict the clean pages at any
offsets.  Then (1) at the offset of every page of every tree the engine sees exactly what it saw: the
same page content and the same dirty bit (a dropped page is read back from the file, clean - which it
was); (2) headers and data file are untouched; (3) a page the engine sees dirty stays in the cache;
(4) at ANY offset - catalog page or not - the engine sees the same as before provided the page it saw
clean there is the data file's page (without this the eviction IS visible:
`Mkdb.Store.visible_without_the_file`); (5) where a page was dropped, the engine now sees the data
file's page. -/
theorem C16_eviction_is_invisible (s : Store) (pt sch : Levels) (tbls : List (Bytes × Levels))
    (hc : Cat s pt sch tbls) (hsy : Synced s pt sch tbls) (offs : List Nat) :
    (∀ x ∈ catTrees pt sch tbls, ∀ e ∈ flatten x,
      view (evict s offs) e.1 = view s e.1 ∧ view s e.1 = some (e.2.1, e.2.2)) ∧
    ((evict s offs).hdr = s.hdr ∧ (evict s offs).dhdr = s.dhdr ∧ (evict s offs).disk = s.disk) ∧
    (∀ o n, view s o = some (n, true) → assocGet (evict s offs).mem o = assocGet s.mem o) ∧
    (∀ o, (∀ n, view s o = some (n, false) → assocGet s.disk o = some n) → view (evict s offs) o = view s o) ∧
    (∀ o, view (evict s offs) o = view s o ∨
      (o ∈ offs ∧ (∃ n, view s o = some (n, false)) ∧
        view (evict s offs) o = (assocGet s.disk o).map fun n => (n, false))) := by
  refine ⟨fun x hx e he => ?_, ⟨rfl, rfl, rfl⟩, fun o n hv => evict_keeps_dirty hv, fun o h => evict_view_eq h,
    fun o => ?_⟩
  · have hh := (hc.tree x hx).1
    exact ⟨(hh.evict (hsy x hx) offs e he).trans (hh e he).symm, hh e he⟩
  · rw [view_evict]
    by_cases he : evictable s offs o = true
    · obtain ⟨h1, h2⟩ := evictable_view he
      exact .inr ⟨h1, h2, by simp [he]⟩
    · exact .inl (by simp [he])

/-- non-vacuity: the computed database after INSERT and flush holds its catalog with every clean page in
the data file, and evicting its three pages empties the cache -/
example : (∃ pt sch tbls, Cat dbF.store pt sch tbls ∧ Synced dbF.store pt sch tbls) ∧
    (evict dbF.store allPages).mem = [] ∧ dbF.store.mem.length = 3 := by
  obtain ⟨pt, sch, tbls, hi, _⟩ := dbInv_dbF
  obtain ⟨sdb0, habs, _⟩ := hi.abs
  exact ⟨⟨pt, sch, tbls, habs.cat, hi.synced⟩, evict_example.2.1,
    by simpa using congrArg List.length evict_example.1⟩

/-- **C16.eviction_preserves_the_database_invariant**: the invariant of the statement-level theorems
(`DbInv`: abstraction to the plain database `sdb`, no stale schema rows, cache filed, log applied, clean
pages in the file) survives the eviction of ANY set of clean pages, with the SAME plain database, the
SAME catalog trees and the same log; so do its parts `Holds` (tree by tree), `Cat`, `AbsV` and the
relation `Rel` of C01 / C14, and "closed database" (`DbFlushed`).  Hence every theorem stated for a
database in `DbInv` applies after any eviction, and says the same. -/
theorem C16_eviction_preserves_the_database_invariant (db : Engine.DB) (sdb : Spec.SDB) (pt sch : Levels)
    (tbls : List (Bytes × Levels)) (h : DbInv db sdb pt sch tbls) (offs : List Nat) :
    DbInv (evictDB db offs) sdb pt sch tbls ∧ (evictDB db offs).wal = db.wal ∧
    (∀ x ∈ catTrees pt sch tbls, Holds (evict db.store offs) x) ∧
    Cat (evict db.store offs) pt sch tbls ∧ AbsV (evict db.store offs) pt sch tbls sdb ∧
    Rel (evictDB db offs) pt sch tbls sdb ∧
    (DbFlushed db sdb pt sch tbls → DbFlushed (evictDB db offs) sdb pt sch tbls) := by
  obtain ⟨sdb0, habs, hv⟩ := h.abs
  exact ⟨h.evict offs, rfl, fun x hx => ((habs.cat.tree x hx).1).evict (h.synced x hx) offs,
    habs.cat.evict h.synced offs, h.abs.evict h.synced offs, (h.evict offs).rel, fun hk => hk.evict offs⟩

/-- non-vacuity: `tableDB` (computed: CREATE DATABASE, CREATE TABLE t (a INT)) satisfies the invariant;
evicting its three pages empties its cache -/
example : DbInv tableDB sdbA0 ptT schT [(tname, tT)] ∧ (evictDB tableDB allPages).store.mem = [] :=
  ⟨dbFlushed_tableDB.inv, by decide +kernel⟩

/-- **C16.statement_outcomes_do_not_depend_on_evictions** (any evictions; through the plain model).  On a
database that satisfies the invariant for the plain database `sdb`, evict ANY clean pages before a
statement.  (1) If the plain model accepts the statement (with the room a Go program has, `StmtRoom`, as
in `C01_every_statement_refines_plain_model`), the engine model accepts it with and without the
eviction, and both results satisfy the invariant for the plain model's result `sdb'`.  (2) If the
statement is refused before a change (`StmtRefusal`, as in `C14_refused_statement_plain_model`), the
plain model refuses it and the engine model refuses it with and without the eviction, the log is
untouched and both results satisfy the invariant for the SAME plain database and the same trees.
(3) For every other outcome - a multi-row INSERT / UPDATE refused at a later row, the known finding of
C14 - under the side conditions of `C18_every_statement_keeps_the_database_invariant` the run after the
eviction still returns `.ok` or `.err` and keeps the invariant for some plain database; that it is the
same error and the same plain database as without the eviction is `C16_evicted_run_is_the_same_run`
(for evictions of pages that are in the data file).  Not said here: that the two error values of (2)
are equal - also in `C16_evicted_run_is_the_same_run`. -/
theorem C16_statement_outcomes_do_not_depend_on_evictions (db : Engine.DB) (order : List Nat) (sdb : Spec.SDB)
    (pt sch : Levels) (tbls : List (Bytes × Levels)) (h : DbInv db sdb pt sch tbls) (offs : List Nat)
    (st : Sql.Stmt) :
    (∀ sdb', StmtRoom db pt sch tbls st → Spec.specStmt sdb st = some sdb' →
      (∃ db1 pt1 sch1 tbls1, evalStmt db order st = .ok () db1 ∧ DbInv db1 sdb' pt1 sch1 tbls1) ∧
      (∃ db2 pt2 sch2 tbls2, evalStmt (evictDB db offs) order st = .ok () db2 ∧ DbInv db2 sdb' pt2 sch2 tbls2)) ∧
    (StmtRefusal sdb pt st →
      Spec.specStmt sdb st = none ∧
      (∃ e1 db1, evalStmt db order st = .err e1 db1 ∧ db1.wal = db.wal ∧ DbInv db1 sdb pt sch tbls) ∧
      (∃ e2 db2, evalStmt (evictDB db offs) order st = .err e2 db2 ∧ db2.wal = db.wal ∧ DbInv db2 sdb pt sch tbls)) ∧
    (StmtNames pt tbls st → StmtRoomT db pt sch tbls st → StmtLits st →
      ∃ db2, (evalStmt (evictDB db offs) order st = .ok () db2 ∨ ∃ e, evalStmt (evictDB db offs) order st = .err e db2) ∧
        ∃ sdb' pt' sch' tbls', DbInv db2 sdb' pt' sch' tbls') :=
  ⟨fun sdb' hroom hspec => accepted_evict h offs order st hroom sdb' hspec,
   fun hbad => refused_evict h offs order st hbad,
   fun hnames hroom hlits => evalStmt_keeps_inv (evictDB db offs) order sdb pt sch tbls (h.evict offs) st hnames
     (hroom.evict offs) hlits⟩

/-- non-vacuity: on `tableDB`, `INSERT INTO t VALUES (5), (6)` is accepted by the plain model with room, and
`CREATE TABLE t (b VARCHAR(10))` is a refusal before a change (the table exists) -/
example : DbInv tableDB sdbA0 ptT schT [(tname, tT)] ∧
    StmtRoom tableDB ptT schT [(tname, tT)] (.insert tname [] [[.int 5], [.int 6]]) ∧
    Spec.specStmt sdbA0 (.insert tname [] [[.int 5], [.int 6]]) = some sdbA1 ∧
    StmtRefusal sdbA0 ptT (.createTable tname bcols) :=
  ⟨dbFlushed_tableDB.inv, room_insert56, rfl, .create tname bcols (.exists_ rfl)⟩

/-- **C16.reader_sees_the_same_rows_after_evictions** (the reader's side, `C17_contents_are_what_a_reader_sees`
after an eviction): on a database that satisfies the invariant for `sdb`, after the eviction of ANY
clean pages `RelationService.Fetch` - the source of every SELECT - returns for every table of `sdb` its
declared columns and exactly its rows, value for value and in order: what it returns without the
eviction. -/
theorem C16_reader_sees_the_same_rows_after_evictions (db : Engine.DB) (sdb : Spec.SDB) (pt sch : Levels)
    (tbls : List (Bytes × Levels)) (h : DbInv db sdb pt sch tbls) (offs : List Nat) (t : Bytes)
    (tb : Spec.STable) (hfind : Spec.findTable sdb t = some tb) :
    Reads db t tb.cols (tb.rows.map (·.vals)) ∧ Reads (evictDB db offs) t tb.cols (tb.rows.map (·.vals)) :=
  ⟨h.reads hfind, (h.evict offs).reads hfind⟩

/-- non-vacuity: the table `t` of the plain database of `tableDB` -/
example : DbInv tableDB sdbA0 ptT schT [(tname, tT)] ∧ Spec.findTable sdbA0 tname = some ⟨tname, schemaA, []⟩ :=
  ⟨dbFlushed_tableDB.inv, rfl⟩

/-- **C16.histories_with_evictions** (any evictions; through the plain model).  Take any history of
statements, flushes of the page cache (in any page write order) and evictions of ANY clean pages
(`CacheOp`), from a database that satisfies the invariant for `sdb`, and the same history with the
evictions left out.  Under the side conditions of `C01_every_history_refines_plain_model` along both
runs (`OpsOK`: an accepted statement has `StmtRoom`, a refused one is refused before a change; flushes
and evictions have none) neither run crashes; every statement has the same outcome class in both
(accepted / refused) - the plain model's verdict on the statements alone; both runs end in a database
that satisfies the invariant for the SAME plain database, the one the statements alone imply
(`specHist`); and a reader sees the same rows of every table in both.  Excluded by `OpsOK`, as in C01:
statements refused at a later row (covered by `C16_histories_with_evictions_same_errors`).  The heap
model has no capacity: a refusal for a cache full of dirty pages cannot occur in it
(`C16_refusal_only_when_full_of_dirty` is the statement about when the real cache refuses). -/
theorem C16_histories_with_evictions (order : List Nat) (ops : List CacheOp) (db : Engine.DB) (sdb : Spec.SDB)
    (pt sch : Levels) (tbls : List (Bytes × Levels)) (h : DbInv db sdb pt sch tbls)
    (hok : OpsOK order ops db sdb) (hok0 : OpsOK order (noEvict ops) db sdb) :
    ∃ db1 outs1 db2 outs2, runOps order db ops = some (db1, outs1) ∧
      runOps order db (noEvict ops) = some (db2, outs2) ∧
      outs1.map Option.isNone = outs2.map Option.isNone ∧
      outs1.map Option.isNone = specOuts sdb (stmtsOf ops) ∧
      (∃ pt1 sch1 tbls1, DbInv db1 (specHist sdb (stmtsOf ops)) pt1 sch1 tbls1) ∧
      (∃ pt2 sch2 tbls2, DbInv db2 (specHist sdb (stmtsOf ops)) pt2 sch2 tbls2) ∧
      ∀ t tb, Spec.findTable (specHist sdb (stmtsOf ops)) t = some tb →
        Reads db1 t tb.cols (tb.rows.map (·.vals)) ∧ Reads db2 t tb.cols (tb.rows.map (·.vals)) := by
  obtain ⟨db1, outs1, pt1, sch1, tbls1, hr1, hi1, ho1⟩ := runOps_refines order ops db sdb pt sch tbls h hok
  obtain ⟨db2, outs2, pt2, sch2, tbls2, hr2, hi2, ho2⟩ := runOps_refines order (noEvict ops) db sdb pt sch tbls h hok0
  rw [stmtsOf_noEvict] at hi2 ho2
  exact ⟨db1, outs1, db2, outs2, hr1, hr2, ho1.trans ho2.symm, ho1, ⟨pt1, sch1, tbls1, hi1⟩, ⟨pt2, sch2, tbls2, hi2⟩,
    fun t tb hf => ⟨hi1.reads hf, hi2.reads hf⟩⟩

/-- non-vacuity: every history whose statements are DELETEs on user-table names, with any WHERE clauses
and any flushes and evictions in between, meets `OpsOK` from every database - here one on `tableDB` -/
example : DbInv tableDB sdbA0 ptT schT [(tname, tT)] ∧
    OpsOK [] [.evict allPages, .stmt (.delete tname none), .flush [], .evict [12288], .stmt (.delete tname (some condB))]
      tableDB sdbA0 ∧
    OpsOK [] (noEvict [.evict allPages, .stmt (.delete tname none), .flush [], .evict [12288],
      .stmt (.delete tname (some condB))]) tableDB sdbA0 := by
  have hd : ∀ st ∈ [Sql.Stmt.delete tname none, .delete tname (some condB)],
      ∃ t w, st = .delete t w ∧ t ≠ sysPages ∧ t ≠ sysSchema := by
    intro st hst
    simp only [List.mem_cons, List.not_mem_nil, or_false] at hst
    rcases hst with rfl | rfl
    · exact ⟨tname, none, rfl, tname_ne_sys⟩
    · exact ⟨tname, some condB, rfl, tname_ne_sys⟩
  refine ⟨dbFlushed_tableDB.inv, ?_, ?_⟩
  · apply opsOK_deletes
    intro st hst
    exact hd st hst
  · apply opsOK_deletes
    intro st hst
    exact hd st hst

/-- **C16.catalog_pages_may_always_be_evicted**: under the database invariant every page of the catalog
description - the page table, `sys_schema`, every page of every table - is, where the engine sees it
clean, the data file's page: the hypothesis `EvictSafe` of the two theorems below holds for any offsets
among them (`catOffs`).  For other offsets `evictSafeB` computes it. -/
theorem C16_catalog_pages_may_always_be_evicted (db : Engine.DB) (sdb : Spec.SDB) (pt sch : Levels)
    (tbls : List (Bytes × Levels)) (h : DbInv db sdb pt sch tbls) (offs : List Nat)
    (hoffs : ∀ o ∈ offs, o ∈ catOffs pt sch tbls) : EvictSafe db.store offs :=
  h.evictSafe offs hoffs

/-- non-vacuity: the three pages of `tableDB` are its catalog pages -/
example : DbInv tableDB sdbA0 ptT schT [(tname, tT)] ∧ ∀ o ∈ allPages, o ∈ catOffs ptT schT [(tname, tT)] :=
  ⟨dbFlushed_tableDB.inv, by decide +kernel⟩

/-- **C16.evicted_run_is_the_same_run** (directly on the page heap, every outcome).  On a database that
satisfies the invariant, whose cache has one entry per offset (`MemNodup`: it is a Go map), evict any
pages that are in the data file (`EvictSafe`: any catalog pages, `C16_catalog_pages_may_always_be_evicted`).
Then EVERY CREATE TABLE / INSERT / UPDATE / DELETE the parser can produce (side conditions of
`C18_every_statement_keeps_the_database_invariant`: `StmtNames`, `StmtRoomT`, `StmtLits`) has the SAME
outcome with and without the eviction: accepted by both, or refused by both WITH THE SAME ERROR VALUE -
whether before a change or at a later row of a multi-row INSERT / UPDATE (the known finding of C14: the
applied prefix is the same on both sides).  The two resulting databases have the same log, the same
headers, the same data file and show the same page with the same dirty bit at every offset (`DbEq`),
and satisfy the invariant for the SAME plain database and the SAME catalog trees.  The proof is a
simulation of every program of the page store (`Sim`, Proofs/CacheSim, CacheSimEngine), not a detour through
the plain model. -/
theorem C16_evicted_run_is_the_same_run (db : Engine.DB) (order : List Nat) (sdb : Spec.SDB) (pt sch : Levels)
    (tbls : List (Bytes × Levels)) (h : DbInv db sdb pt sch tbls) (hn : MemNodup db.store) (offs : List Nat)
    (hs : EvictSafe db.store offs) (st : Sql.Stmt) (hnames : StmtNames pt tbls st)
    (hroom : StmtRoomT db pt sch tbls st) (hlits : StmtLits st) :
    ∃ db1 db2,
      ((evalStmt db order st = .ok () db1 ∧ evalStmt (evictDB db offs) order st = .ok () db2) ∨
        ∃ e, evalStmt db order st = .err e db1 ∧ evalStmt (evictDB db offs) order st = .err e db2) ∧
      DbEq db1 db2 ∧
      ∃ sdb' pt' sch' tbls', DbInv db1 sdb' pt' sch' tbls' ∧ DbInv db2 sdb' pt' sch' tbls' :=
  evalStmt_evict_exact h hn offs hs order st hnames hroom hlits

/-- non-vacuity: the computed database after INSERT and flush, the eviction of all its pages, and
`UPDATE t SET a = 7 WHERE a = 5` -/
example : (∃ pt sch tbls, DbInv dbF sdbA1 pt sch tbls ∧ StmtNames pt tbls stU ∧ StmtRoomT dbF pt sch tbls stU ∧
    StmtLits stU) ∧ MemNodup dbF.store ∧ EvictSafe dbF.store allPages :=
  ⟨dbInv_dbF, memNodup_dbF, evictSafe_dbF⟩

/-- **C16.histories_with_evictions_same_errors** (directly on the page heap; no side condition on the
statements).  Run any history of statements, flushes and evictions from a database whose cache is filed
under its own offsets with one entry per offset, every eviction dropping only pages that are in the data
file at that moment (`evictsSafeB`, computed along the run; under the invariant: any catalog pages).  If
that run completes (no panic, unmodelled path or exhausted fuel: C18), then the same statements and
flushes WITHOUT any eviction complete too, with the same outcome for every statement - `none` for
accepted, `some e` for refused with the error `e`, the SAME `e` - and the two final databases have the
same log, headers and data file and show the same page at every offset; in particular they satisfy the
database invariant for the same plain database.  As above, the heap model cannot exhibit a refusal for a
full cache. -/
theorem C16_histories_with_evictions_same_errors (order : List Nat) (ops : List CacheOp) (db : Engine.DB)
    (hf : MemFiled db.store) (hn : MemNodup db.store) (hsafe : evictsSafeB order ops db = true)
    (d2 : Engine.DB) (outs : List (Option Engine.StmtErr)) (hrun : runOps order db ops = some (d2, outs)) :
    ∃ d1, runOps order db (noEvict ops) = some (d1, outs) ∧ DbEq d1 d2 ∧
      ∀ sdb pt sch tbls, DbInv d1 sdb pt sch tbls ↔ DbInv d2 sdb pt sch tbls := by
  obtain ⟨d1, hr, hd⟩ := runOps_thins order (.noEvict ops) db db (DbEq.refl hf hn) hsafe d2 outs hrun
  exact ⟨d1, hr, hd, fun _ _ _ _ => hd.dbInv⟩

/-- non-vacuity: a history on `tableDB` - INSERT, flush, eviction of all pages, UPDATE, eviction (the
dirty page stays), DELETE, flush, eviction, a refused CREATE TABLE: every eviction is safe and the run
completes with the outcomes accepted, accepted, accepted, refused -/
example : MemFiled tableDB.store ∧ MemNodup tableDB.store ∧ evictsSafeB [] opsExample tableDB = true ∧
    ((runOps [] tableDB opsExample).map fun r => r.2.map Option.isNone) = some [true, true, true, false] :=
  ⟨memFiled_tableDB, memNodup_tableDB, opsExample_ok.1, opsExample_ok.2⟩

/-- **C16.cache_has_one_entry_per_offset**: the hypothesis `MemNodup` of the two theorems above - the model's
cache, an association list, has one entry per offset, as the Go map it stands for - holds for the empty
cache of every freshly opened data file and is kept, together with `MemFiled`, by every statement
whatever its outcome, every flush and every eviction: it holds in every database a history reaches. -/
theorem C16_cache_has_one_entry_per_offset (order : List Nat) (ops : List CacheOp) (db : Engine.DB)
    (hf : MemFiled db.store) (hn : MemNodup db.store) (d : Engine.DB) (outs : List (Option Engine.StmtErr))
    (hrun : runOps order db ops = some (d, outs)) :
    MemNodup d.store ∧ MemFiled d.store ∧ ∀ s : Store, MemNodup (reopen s) :=
  ⟨(runOps_memNodup order ops db hf hn d outs hrun).1, (runOps_memNodup order ops db hf hn d outs hrun).2,
    memNodup_reopen⟩

/-- non-vacuity: the example history on `tableDB` completes -/
example : MemFiled tableDB.store ∧ MemNodup tableDB.store ∧ (runOps [] tableDB opsExample).isSome = true :=
  ⟨memFiled_tableDB, memNodup_tableDB, by simpa using congrArg Option.isSome opsExample_ok.2⟩

/-- **C16.evictions_on_a_computed_database** (the model evaluated): on `tableDB` run
`INSERT INTO t VALUES (5), (6)` and flush; the three pages are cached and clean.  Evicting all of them
empties the cache; `Fetch` of `t` then returns the rows 11 and 12 with the values 5 and 6, as it does
from the full cache; `UPDATE t SET a = 7 WHERE a = 5` succeeds with and without the eviction and `Fetch`
returns 7 and 6 after both.  Before the flush the page of `t` is dirty and an eviction of all three
offsets leaves it in the cache. -/
theorem C16_evictions_on_a_computed_database :
    dbF.store.mem.map (·.1) = [4096, 12288, 8192] ∧ (evictDB dbF allPages).store.mem = [] ∧
    rowsOfDB dbF = some [(11, [.int 5]), (12, [.int 6])] ∧
    rowsOfDB (evictDB dbF allPages) = some [(11, [.int 5]), (12, [.int 6])] ∧
    rowsAfterU dbF = some [(11, [.int 7]), (12, [.int 6])] ∧
    rowsAfterU (evictDB dbF allPages) = some [(11, [.int 7]), (12, [.int 6])] ∧
    (evictDB dbI allPages).store.mem.map (·.1) = [12288] :=
  evict_example

end Mkdb.Store

/-!
## C16 with the flush as the code does it: a flush reorders the recency list

`fileStore.flushPagesLocked` (storage/page.go) ranges over the cache's Go map - an order that is arbitrary
and differs from run to run - and calls `update` for every dirty page; `update` ends in `setCache`, i.e.
`LRUCache.set` of a key that is resident, which is `MoveToFront` (storage/lru.go).  So a flush is not only
"write the dirty pages and mark them clean" (the `flush` of the theorems above, which keeps the recency
order): after it every page that was dirty is at the front of the recency list, in the order of that map
iteration, ahead of all pages that were clean.  Which page the NEXT miss evicts therefore depends on the
iteration order (`C16_flush_order_changes_the_next_victim`).  `flushOrd s order` is that flush with the
iteration order as a parameter (every `order` allowed; those that enumerate the dirty pages are the
behaviours of the code), `OpF` / `runF` are the histories with it.  The theorems below say that nothing
of this is visible in what is read: outputs and logical contents depend neither on the capacities nor on
the orders.  `C16_policy_is_the_lru_model` (above) describes the recency order BETWEEN flushes only - a
fetch is an `LRUCache.get` / `set`; the move at a flush is `C16_flush_moves_the_dirty_pages_to_the_front`.
-/
namespace Mkdb.PageCache
variable {α : Type}

/-- **C16.flush_order_is_invisible**: the flush of the code, whatever order its map iteration takes
(`o1`, `o2`: any two lists of keys), keeps the invariant and the capacity, leaves the logical contents
unchanged, writes the data file exactly as the order-keeping `flush` does, and leaves under every key the
same entry as `flush` does - the same pages resident, with the same contents, all clean.  The recency
lists after `flush`, after order `o1` and after order `o2` are permutations of each other: only the order
differs.  Hypothesis: the cache invariant (distinct keys, within capacity, clean pages equal their disk
image), which every history keeps. -/
theorem C16_flush_order_is_invisible (s : St α) (h : Inv s) (o1 o2 : List Nat) :
    Inv (flushOrd s o1) ∧ (flushOrd s o1).cap = s.cap ∧ (∀ k, view (flushOrd s o1) k = view s k) ∧
    (flushOrd s o1).disk = (flush s).disk ∧
    (∀ k, find? (flushOrd s o1).items k = find? (flush s).items k) ∧
    (∀ e ∈ (flushOrd s o1).items, e.dirty = false) ∧
    (flushOrd s o1).items.Perm (flush s).items ∧ (flushOrd s o1).items.Perm (flushOrd s o2).items :=
  ⟨flushOrd_inv s h o1, rfl, flushOrd_view s h o1, rfl, flushOrd_find? s h.1 o1, flushOrd_all_clean s h.1 o1,
    flushOrd_items_perm s h.1 o1, (flushOrd_items_perm s h.1 o1).trans (flushOrd_items_perm s h.1 o2).symm⟩

/-- non-vacuity: the capacity-2 cache with the two dirty pages 1 and 2, on which the orders `[1, 2]` and
`[2, 1]` give different recency lists (the page visited last in front; `flush` keeps the old order) -/
example : Inv ExampleF.d0 ∧
    ExampleF.ents (flushOrd ExampleF.d0 [1, 2]) = [(2, 21, false), (1, 11, false)] ∧
    ExampleF.ents (flushOrd ExampleF.d0 [2, 1]) = [(1, 11, false), (2, 21, false)] ∧
    ExampleF.ents (flush ExampleF.d0) = [(1, 11, false), (2, 21, false)] :=
  ⟨ExampleF.d0_inv, ExampleF.orders_differ⟩

/-- **C16.flush_moves_the_dirty_pages_to_the_front**: the recency list after the flush of the code is
`F ++ C`: `C` the pages that were clean, in their old relative order; `F`, in front of them, the pages that
were dirty - every one of them, once, now clean - in an order that depends on the iteration order.
Hypothesis: the cache invariant. -/
theorem C16_flush_moves_the_dirty_pages_to_the_front (s : St α) (h : Inv s) (order : List Nat) :
    ∃ F, (flushOrd s order).items = F ++ s.items.filter (fun e => !e.dirty) ∧
      F.Perm ((s.items.filter fun e => e.dirty).map clean) :=
  flushOrd_shape s h.1 order

/-- non-vacuity: the cache with the two dirty pages satisfies the invariant; the orders `[1, 2]`, `[2, 1]`
give `F` = 2, 1 and `F` = 1, 2 (example above) -/
example : Inv ExampleF.d0 := ExampleF.d0_inv

/-- **C16.flush_without_dirty_pages_keeps_the_order**: when no resident page is dirty the loop of
`flushPagesLocked` skips every page: the flush of the code is then the order-keeping `flush`, for every
iteration order (in particular `order = []`).  Hypothesis: no resident page is dirty - otherwise the two
differ in the order (example above). -/
theorem C16_flush_without_dirty_pages_keeps_the_order (s : St α) (hclean : ∀ e ∈ s.items, e.dirty = false)
    (order : List Nat) : flushOrd s order = flush s :=
  flushOrd_of_clean s hclean order

/-- non-vacuity: the cache `Example.s0` (page 1 resident and clean) -/
example : ∀ e ∈ Example.s0.items, e.dirty = false := by decide

/-- **C16.capacity_independent_with_reordering_flushes**: two caches of any two capacities, started on the
same logical contents, run the same operations - `ops1` and `ops2` are the same list of reads, changes
and flushes (`map OpF.toOp` forgets the iteration orders), but every flush of either run takes its own
iteration order.  If neither run refuses, every read returns the same page content in both and both end
with the same logical contents: neither the capacities nor the orders chosen at the flushes are visible.
Excluded: runs in which a side refuses (`ErrLRUCacheFull`; when that happens is
`C16_refusal_with_reordering_flushes`). -/
theorem C16_capacity_independent_with_reordering_flushes (s1 s2 : St α) (ops1 ops2 : List (OpF α))
    (hops : ops1.map OpF.toOp = ops2.map OpF.toOp) (h1 : Inv s1) (h2 : Inv s2)
    (hv : ∀ k, view s1 k = view s2 k) (s1' s2' : St α) (o1 o2 : List (Option α))
    (r1 : runF s1 ops1 = some (s1', o1)) (r2 : runF s2 ops2 = some (s2', o2)) :
    o1 = o2 ∧ ∀ k, view s1' k = view s2' k :=
  capF_independent s1 s2 ops1 ops2 hops h1 h2 hv s1' s2' o1 o2 r1 r2

/-- non-vacuity: flush, read 3, read 1, read 2 on the capacity-2 cache with two dirty pages, the flush
taking the order `[1, 2]` in the one run and `[2, 1]` in the other, and the second run with capacity 3:
all complete -/
example : Inv ExampleF.d0 ∧ Inv { ExampleF.d0 with cap := 3 } ∧
    ExampleF.wA.map OpF.toOp = ExampleF.wB.map OpF.toOp ∧ (runF ExampleF.d0 ExampleF.wA).isSome = true ∧
    (runF { ExampleF.d0 with cap := 3 } ExampleF.wB).isSome = true :=
  ⟨ExampleF.d0_inv, ⟨ExampleF.d0_inv.1, by decide, ExampleF.d0_inv.2.2⟩, rfl, by decide, by decide⟩

/-- **C16.equals_cacheless_with_reordering_flushes**: a cache of any capacity whose flushes reorder the
recency list in any way behaves like no cache at all (`refRun` on the operations with the orders
forgotten), and keeps its invariant.  Excluded: a run that refuses. -/
theorem C16_equals_cacheless_with_reordering_flushes (s : St α) (ops : List (OpF α)) (h : Inv s) (s' : St α)
    (outs : List (Option α)) (hr : runF s ops = some (s', outs)) :
    Inv s' ∧ outs = (refRun (view s) (ops.map OpF.toOp)).2 ∧
      ∀ k, view s' k = (refRun (view s) (ops.map OpF.toOp)).1 k :=
  (runF_runQ h hr).sim h

/-- non-vacuity: the history `ExampleF.wA` runs -/
example : Inv ExampleF.d0 ∧ (runF ExampleF.d0 ExampleF.wA).isSome = true := ⟨ExampleF.d0_inv, by decide⟩

/-- **C16.refusal_with_reordering_flushes**: in a history with the flushes of the code the only operation
that can refuse is still a read or a change of a page that is not resident while the cache is full of
dirty pages (`C16_refusal_only_when_full_of_dirty`); a flush never refuses, whatever its order.  That two
runs with the same capacity and start but different flush orders refuse at the same operations is
`C16_refusals_do_not_depend_on_the_flush_order` (which clean pages are resident depends on the earlier
orders through the evictions; the dirty pages, which decide a refusal, do not). -/
theorem C16_refusal_with_reordering_flushes (s : St α) (op : OpF α) :
    stepF s op = none ↔ ∃ k, (op = .fetch k ∨ ∃ f, op = .write k f) ∧
      find? s.items k = none ∧ s.items.length = s.cap ∧ ∀ e ∈ s.items, e.dirty = true :=
  stepF_none_iff s op

/-- **C16.flush_makes_durable_with_reordering_flushes**: after the flush of the code, in whatever order,
the data file holds the logical contents - those before the flush, which are those after it. -/
theorem C16_flush_makes_durable_with_reordering_flushes (s : St α) (h : Inv s) (order : List Nat) :
    ∀ k, (flushOrd s order).disk k = view s k ∧ (flushOrd s order).disk k = view (flushOrd s order) k :=
  fun k => ⟨flushOrd_disk_view s h order k, (flushOrd_disk_view s h order k).trans (flushOrd_view s h order k).symm⟩

/-- non-vacuity: after either order the file of the example cache holds 11 and 21 in pages 1 and 2 -/
example : Inv ExampleF.d0 ∧ (flushOrd ExampleF.d0 [2, 1]).disk 1 = 11 ∧ (flushOrd ExampleF.d0 [1, 2]).disk 2 = 21 :=
  ⟨ExampleF.d0_inv, by decide, by decide⟩

/-- **C16.flush_order_changes_the_next_victim** (the model evaluated; why the order matters at all): on the
capacity-2 cache holding the dirty pages 1 and 2, after the flush with iteration order `[1, 2]` the read
of page 3 evicts page 1, after the flush with order `[2, 1]` it evicts page 2 (both return 30; the victim
is `LRU.victim` of the projected list).  Continuing with reads of 1 and 2, page 1 is a miss in the one
run and a hit in the other, and both runs return `30, 11, 21`. -/
theorem C16_flush_order_changes_the_next_victim :
    ((fetch (flushOrd ExampleF.d0 [1, 2]) 3).map fun r => (ExampleF.ents r.1, r.2)) =
      some ([(3, 30, false), (2, 21, false)], 30) ∧
    ((fetch (flushOrd ExampleF.d0 [2, 1]) 3).map fun r => (ExampleF.ents r.1, r.2)) =
      some ([(3, 30, false), (1, 11, false)], 30) ∧
    (LRU.victim (proj (flushOrd ExampleF.d0 [1, 2]).items)).map (·.key) = some 1 ∧
    (LRU.victim (proj (flushOrd ExampleF.d0 [2, 1]).items)).map (·.key) = some 2 ∧
    ((runF ExampleF.d0 ExampleF.wA).map (·.2)) = some [none, some 30, some 11, some 21] ∧
    ((runF ExampleF.d0 ExampleF.wB).map (·.2)) = some [none, some 30, some 11, some 21] :=
  ⟨ExampleF.victims_differ.1, ExampleF.victims_differ.2.1, ExampleF.victims_differ.2.2.1,
    ExampleF.victims_differ.2.2.2, by decide, by decide⟩

/-- **C16.flush_loop_is_the_lru_model**: the loop of the flush - the turns at the keys of `order` -
projects to `LRU.touchAll` of the LRU model of C15, whose every turn is the identity or an
`LRUCache.set` of a resident key (`C15_flush_reordering_is_a_run_of_sets`).  Said of the loop over
`order`; `flushOrd` then completes an `order` that leaves dirty pages out (nothing to complete when
`order` names every dirty page, as the iteration of the code does). -/
theorem C16_flush_loop_is_the_lru_model (cap : Nat) (l : List (Ent α)) (order : List Nat) :
    proj (order.foldl visit l) = (LRU.touchAll ⟨cap, proj l⟩ order).items :=
  proj_foldl_visit cap l order

/-- **C16.flush_reaches_every_arrangement_and_no_other**: the model of the flush has exactly the
behaviours of the code's loop.  (1) For EVERY arrangement `F` of the pages that were dirty there is an
iteration order - the keys of `F`, last first, which names every dirty page - after which the recency
list is `F` followed by the clean pages: no order of the Go map iteration is left out.  (2) Every
`order`, also one that leaves dirty pages out or names other keys, gives the state of an `order'` that
names every dirty resident page, i.e. of an iteration of the code: letting `flushOrd` complete such
orders adds no behaviour.  Hypothesis: resident keys are distinct (a clause of `Inv`). -/
theorem C16_flush_reaches_every_arrangement_and_no_other (s : St α) (h : Inv s) :
    (∀ F : List (Ent α), F.Perm ((s.items.filter fun e => e.dirty).map clean) →
      (flushOrd s (F.map (·.key)).reverse).items = F ++ s.items.filter (fun e => !e.dirty) ∧
      ∀ e ∈ s.items, e.dirty = true → e.key ∈ (F.map (·.key)).reverse) ∧
    (∀ order, ∃ order', (∀ e ∈ s.items, e.dirty = true → e.key ∈ order') ∧ flushOrd s order = flushOrd s order') :=
  ⟨fun F hF => flushOrd_reaches s h.1 F hF, fun order => flushOrd_complete_order s h.1 order⟩

/-- non-vacuity: on the cache with the dirty pages 1 and 2 the arrangement "2 in front of 1" -/
example : Inv ExampleF.d0 ∧ ([⟨2, 21, false⟩, ⟨1, 11, false⟩] : List (Ent Nat)).Perm
    ((ExampleF.d0.items.filter fun e => e.dirty).map clean) :=
  ⟨ExampleF.d0_inv, List.Perm.swap _ _ _⟩

/-- **C16.refusals_do_not_depend_on_the_flush_order**: two runs from the same cache state `s` of the same
operations - `ops1` and `ops2` are the same list of reads, changes and flushes (`map OpF.toOp` forgets
the iteration orders), every flush of either run taking its own iteration order - refuse
(`ErrLRUCacheFull`, `runF = none`) together or not at all; the same holds of every pair of prefixes of
equal length, so the two runs refuse at the same operation; and when neither refuses every read returns
the same content in both and both end with the same logical contents.  So the iteration order of the Go
map in `flushPagesLocked` changes which clean pages are resident later (the victims of the evictions,
`C16_flush_order_changes_the_next_victim`) but nothing a caller can see, errors included.  Hypothesis:
the cache invariant of the start state, which every history keeps.  Excluded: two runs with different
capacities (a smaller cache refuses earlier). -/
theorem C16_refusals_do_not_depend_on_the_flush_order (s : St α) (ops1 ops2 : List (OpF α))
    (hops : ops1.map OpF.toOp = ops2.map OpF.toOp) (h : Inv s) :
    (runF s ops1 = none ↔ runF s ops2 = none) ∧
    (∀ n, runF s (ops1.take n) = none ↔ runF s (ops2.take n) = none) ∧
    ∀ s1' s2' o1 o2, runF s ops1 = some (s1', o1) → runF s ops2 = some (s2', o2) →
      o1 = o2 ∧ ∀ k, view s1' k = view s2' k :=
  ⟨runF_none_iff_of_same_dirty s s ops1 ops2 hops h h rfl fun _ => Iff.rfl,
    fun n => runF_none_iff_of_same_dirty s s (ops1.take n) (ops2.take n)
      (by rw [map_take_toOp, map_take_toOp, hops]) h h rfl fun _ => Iff.rfl,
    fun s1' s2' o1 o2 r1 r2 => capF_independent s s ops1 ops2 hops h h (fun _ => rfl) s1' s2' o1 o2 r1 r2⟩

/-- non-vacuity: on the capacity-2 cache with the dirty pages 1 and 2: flush (order `[1, 2]` in the one
run, `[2, 1]` in the other), read 3 (page 1 is evicted in the one run, page 2 in the other), change 1,
change 2, change 4.  Both runs refuse, both at the fifth operation (the first four complete in both),
although their recency lists differ after the second. -/
example : Inv ExampleF.d0 ∧ ExampleF.xA.map OpF.toOp = ExampleF.xB.map OpF.toOp ∧
    (runF ExampleF.d0 ExampleF.xA).isNone = true ∧ (runF ExampleF.d0 ExampleF.xB).isNone = true ∧
    (runF ExampleF.d0 (ExampleF.xA.take 4)).isSome = true ∧
    (runF ExampleF.d0 (ExampleF.xB.take 4)).isSome = true ∧
    ExampleF.obsF (runF ExampleF.d0 (ExampleF.xA.take 2)) =
      some ([(3, 30, false), (2, 21, false)], [none, some 30]) ∧
    ExampleF.obsF (runF ExampleF.d0 (ExampleF.xB.take 2)) =
      some ([(3, 30, false), (1, 11, false)], [none, some 30]) :=
  ⟨ExampleF.d0_inv, rfl, ExampleF.refusals⟩

/-- non-vacuity of the last clause: the histories `wA`, `wB` of `C16_flush_order_changes_the_next_victim`
(two orders, two victims) both complete -/
example : Inv ExampleF.d0 ∧ ExampleF.wA.map OpF.toOp = ExampleF.wB.map OpF.toOp ∧
    (runF ExampleF.d0 ExampleF.wA).isSome = true ∧ (runF ExampleF.d0 ExampleF.wB).isSome = true :=
  ⟨ExampleF.d0_inv, rfl, by decide, by decide⟩

/-- **C16.refusals_depend_only_on_capacity_and_dirty_pages**: the reason, and the statement for two
different start states: two caches with the same capacity and the same set of dirty resident keys
(`DirtyKey s k`: page `k` is resident and dirty; the clean resident pages, the contents and the recency
orders may all differ) run the same operations with any flush orders: they refuse together, at every
prefix.  Hypotheses: the cache invariant of both. -/
theorem C16_refusals_depend_only_on_capacity_and_dirty_pages (s1 s2 : St α) (ops1 ops2 : List (OpF α))
    (hops : ops1.map OpF.toOp = ops2.map OpF.toOp) (h1 : Inv s1) (h2 : Inv s2) (hc : s1.cap = s2.cap)
    (hD : ∀ k, DirtyKey s1 k ↔ DirtyKey s2 k) :
    (runF s1 ops1 = none ↔ runF s2 ops2 = none) ∧
    ∀ n, runF s1 (ops1.take n) = none ↔ runF s2 (ops2.take n) = none :=
  ⟨runF_none_iff_of_same_dirty s1 s2 ops1 ops2 hops h1 h2 hc hD,
    fun n => runF_none_iff_of_same_dirty s1 s2 (ops1.take n) (ops2.take n)
      (by rw [map_take_toOp, map_take_toOp, hops]) h1 h2 hc hD⟩

/-- non-vacuity: the two caches after the first two operations of `xA` and `xB` (flush in two orders, read
3): capacity 2, nothing dirty in either, pages 3, 2 resident in the one and 3, 1 in the other -/
example : Inv ExampleF.tA ∧ Inv ExampleF.tB ∧ ExampleF.tA.cap = ExampleF.tB.cap ∧
    (∀ k, DirtyKey ExampleF.tA k ↔ DirtyKey ExampleF.tB k) ∧
    ExampleF.ents ExampleF.tA = [(3, 30, false), (2, 21, false)] ∧
    ExampleF.ents ExampleF.tB = [(3, 30, false), (1, 11, false)] :=
  ⟨ExampleF.tA_inv, ExampleF.tB_inv, rfl, ExampleF.tA_tB_dirty, rfl, rfl⟩

/-- **C16.dirty_pages_do_not_depend_on_the_flush_order**: after a history that does not refuse the
capacity is unchanged and the set of dirty resident keys is `drun` of the operations with the orders
forgotten, from the set at the start: a read keeps the set, a change of page `k` adds `k`, a flush (in any
order) empties it (`dstep`).  The evictions never enter: they remove clean pages only.  In particular two
runs of the same operations with different flush orders hold the same dirty pages at every moment.
Hypothesis: the cache invariant.  Excluded: a run that refuses. -/
theorem C16_dirty_pages_do_not_depend_on_the_flush_order (s : St α) (ops : List (OpF α)) (h : Inv s)
    (s' : St α) (outs : List (Option α)) (hr : runF s ops = some (s', outs)) :
    s'.cap = s.cap ∧ ∀ k, DirtyKey s' k ↔ drun (DirtyKey s) (ops.map OpF.toOp) k :=
  runF_dirtyKey s ops h s' outs hr

/-- non-vacuity: the first four operations of `xA` complete -/
example : Inv ExampleF.d0 ∧ (runF ExampleF.d0 (ExampleF.xA.take 4)).isSome = true :=
  ⟨ExampleF.d0_inv, ExampleF.refusals.2.2.1⟩

/-- **C16.refusal_is_decided_by_the_dirty_pages**: of two caches with the same capacity and the same dirty
resident keys, when the one is full of dirty pages and does not hold page `k` (the condition of
`C16_refusal_with_reordering_flushes`), so is and does the other - although "full" and "not resident"
speak of all resident pages: a cache full of dirty pages consists of its `cap` dirty pages, the other
cache holds the same `cap` dirty keys and, being within its capacity, nothing else.  Hypotheses: the
cache invariant of both (distinct keys, within capacity). -/
theorem C16_refusal_is_decided_by_the_dirty_pages (s1 s2 : St α) (h1 : Inv s1) (h2 : Inv s2)
    (hc : s1.cap = s2.cap) (hD : ∀ j, DirtyKey s1 j ↔ DirtyKey s2 j) (k : Nat)
    (hr : find? s1.items k = none ∧ s1.items.length = s1.cap ∧ ∀ e ∈ s1.items, e.dirty = true) :
    find? s2.items k = none ∧ s2.items.length = s2.cap ∧ ∀ e ∈ s2.items, e.dirty = true :=
  full_of_dirty_transfer h1 h2 hc hD hr

/-- non-vacuity: the cache `ExampleF.d0` (capacity 2, pages 1 and 2 dirty) and page 3, against itself -/
example : Inv ExampleF.d0 ∧ find? ExampleF.d0.items 3 = none ∧ ExampleF.d0.items.length = ExampleF.d0.cap ∧
    ∀ e ∈ ExampleF.d0.items, e.dirty = true :=
  ⟨ExampleF.d0_inv, by decide, by decide, by decide⟩

end Mkdb.PageCache
