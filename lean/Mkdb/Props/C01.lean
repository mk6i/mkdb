import Mkdb.Proofs.BaseCaseTable
import Mkdb.Proofs.ColumnNames
import Mkdb.Proofs.Forest
import Mkdb.Proofs.RefineHistory
import Mkdb.Proofs.RefineScan
import Mkdb.Proofs.SessionStep
import Mkdb.Proofs.SpecHistory
import Mkdb.Proofs.SpecRefine
import Mkdb.Proofs.StmtCreateTable
import Mkdb.Proofs.StmtExamples
import Mkdb.Proofs.StmtInsert
import Mkdb.Props.C11
/-!
# C01 — table contents always equal what the statement history implies

The "plain in-memory model" of ONE table is the plain list: rows in insertion order, each with its row id,
tombstone flag and value (`specStep`); from "The end-to-end refinement" on, "the plain model" is the plain
DATABASE `Mkdb.Spec.SDB`.  First, about the levels model `Mkdb.Tree` (see C11 for how it
is tied to the code): what a scan of the tree sees is that list, whatever page splits happened on the
way: nothing lost, duplicated, resurrected, and row ids strictly increasing; several tables sharing one
file, and the catalog, are `Mkdb.Tree.Forest` (C01_forest_*).  Then the same carried to the heap model
`Mkdb.Store` (C01_heap_*), to the storage operations under the catalog invariant (C01_statement_*), and
to parsed statements and whole histories run by `Mkdb.Engine` against the plain database
`Mkdb.Spec.SDB` (C01_*_refines_plain_model), from the database `CREATE DATABASE` leaves on.
Quantifier: every history of any length.  The history theorems end in `Rel … (specHist sdb sts)`; that a reader
(`RelationService.Fetch`, the source of every SELECT) then gets exactly the rows of the plain database is
`AbsV.reads` (Proofs/SpecRefineStmt), as a property theorem `C17_contents_are_what_a_reader_sees`.

Not covered by a theorem here: the round trip of the row codec inside the cells is C08; that the heap
model is the implementation is checked by comparing the two statement by statement, page by page.
-/
namespace Mkdb.Tree
open Mkdb.Page Mkdb.Generated

/-- the plain model of one table: rows in insertion order -/
def specStep (rows : List LeafCell) (op : TOp) (accepted : Bool) : List LeafCell :=
  match op with
  | .ins k _ v => if accepted then rows ++ [⟨k, false, v⟩] else rows
  | .upd k _ v => rows.map fun c => if c.key == k then { c with val := v } else c
  | .del k _ => rows.map fun c => if c.key == k then { c with deleted := true } else c

/-- did the tree accept the operation (an insert can be refused: duplicate key, oversized row) -/
def accepted (s : Levels × Nat) : TOp → Bool
  | .ins k lsn v => match insertAppend s.1 k lsn v s.2 with | .ok _ => true | .error _ => false
  | _ => true

/-- **C01.step**: one operation changes what a scan sees exactly as it changes the plain list. -/
theorem C01_step (s : Levels × Nat) (op : TOp) :
    cells (applyOp s op).1 = specStep (cells s.1) op (accepted s op) := by
  cases op with
  | ins k lsn v =>
    cases hr : insertAppend s.1 k lsn v s.2 with
    | ok r =>
      simp only [applyOp, accepted, specStep, hr]
      simpa using cells_insertAppend s.1 r.1 k lsn s.2 r.2 v hr
    | error e => simp [applyOp, accepted, specStep, hr]
  | upd k lsn v => exact cells_setVal s.1 k lsn v
  | del k lsn => exact cells_setDeleted s.1 k lsn

/-- the plain model run over a history, given which inserts were accepted -/
def specRun (s : Levels × Nat) (rows : List LeafCell) : List TOp → List LeafCell
  | [] => rows
  | op :: rest => specRun (applyOp s op) (specStep rows op (accepted s op)) rest

/-- **C01.history**: after any history the scan order view of the tree is the plain list the history
implies - no row lost, duplicated or reordered by any pattern of page splits. -/
theorem C01_history (s : Levels × Nat) (ops : List TOp) :
    cells (runOps s ops).1 = specRun s (cells s.1) ops := by
  induction ops generalizing s with
  | nil => rfl
  | cons op rest ih =>
    simp only [runOps, List.foldl_cons, specRun]
    have := ih (applyOp s op)
    simp only [runOps] at this
    rw [this, C01_step]

/-- **C01.ids_strictly_increasing**: the row ids a scan returns are strictly increasing, hence unique. -/
theorem C01_ids_strictly_increasing (off nf : Nat) (h : off < nf) (ops : List TOp) :
    (keys (runOps (emptyTree off, nf) ops).1).Pairwise (· < ·) :=
  (C11_every_history off nf h ops).asc

/-- **C01.select_sees_live_rows**: what `scanRight` hands to SELECT is the plain list without the
tombstoned rows. -/
theorem C01_select_sees_live_rows (s : Levels × Nat) (ops : List TOp) :
    live (runOps s ops).1 = (specRun s (cells s.1) ops).filter (fun c => !c.deleted) := by
  unfold live; rw [C01_history]

theorem tomb_map (k : Nat) (f : LeafCell → LeafCell) (hkey : ∀ c, (f c).key = c.key)
    (hdel : ∀ c, c.deleted = true → (f c).deleted = true) {rows : List LeafCell}
    (h : (∃ c ∈ rows, c.key = k) ∧ ∀ c ∈ rows, c.key = k → c.deleted = true) :
    (∃ c ∈ rows.map f, c.key = k) ∧ ∀ c ∈ rows.map f, c.key = k → c.deleted = true := by
  obtain ⟨⟨c0, hc0, hk0⟩, hall⟩ := h
  refine ⟨⟨f c0, List.mem_map_of_mem hc0, (hkey c0).trans hk0⟩, fun c hc hk => ?_⟩
  obtain ⟨c1, hc1, rfl⟩ := List.mem_map.mp hc
  exact hdel c1 (hall c1 hc1 ((hkey c1).symm.trans hk))

theorem specStep_tomb (rows : List LeafCell) (op : TOp) (a : Bool) (k : Nat)
    (hnew : ∀ key lsn v, op = .ins key lsn v → a = true → key ≠ k)
    (h : (∃ c ∈ rows, c.key = k) ∧ ∀ c ∈ rows, c.key = k → c.deleted = true) :
    (∃ c ∈ specStep rows op a, c.key = k) ∧ ∀ c ∈ specStep rows op a, c.key = k → c.deleted = true := by
  cases op with
  | ins key lsn v =>
    simp only [specStep]
    split
    · rename_i ha
      obtain ⟨⟨c0, hc0, hk0⟩, hall⟩ := h
      refine ⟨⟨c0, List.mem_append_left _ hc0, hk0⟩, fun c hc hk => ?_⟩
      rcases List.mem_append.mp hc with hc | hc
      · exact hall c hc hk
      · rw [List.mem_singleton.mp hc] at hk
        exact absurd hk (hnew key lsn v rfl ha)
    · exact h
  | upd key lsn v => exact tomb_map k _ (fun c => by split <;> rfl) (fun c hd => by split <;> exact hd) h
  | del key lsn =>
    exact tomb_map k _ (fun c => by split <;> rfl) (fun c hd => by split; rfl; exact hd) h

theorem accepted_key_fresh (s : Levels × Nat) (hinv : Inv s.1 s.2) (key lsn : Nat) (v : Bytes)
    (ha : accepted s (.ins key lsn v) = true) : ∀ c ∈ cells s.1, c.key ≠ key := by
  simp only [accepted] at ha
  split at ha
  · rename_i r hr
    have hinv' := insertAppend_inv s.1 r.1 key lsn s.2 r.2 v hinv hr
    have hc := cells_insertAppend s.1 r.1 key lsn s.2 r.2 v hr
    have hasc := hinv'.asc
    unfold KeysAsc keys at hasc
    rw [hc, List.map_append, List.pairwise_append] at hasc
    intro c hcm heq
    have := hasc.2.2 c.key (List.mem_map_of_mem hcm) key (by simp)
    omega
  · cases ha

/-- **C01.no_resurrection**: a deleted row stays deleted through every later operation - no later
insert, value change, split or deletion brings it back. -/
theorem C01_no_resurrection (s : Levels × Nat) (hinv : Inv s.1 s.2) (k : Nat)
    (h : ∀ c ∈ cells s.1, c.key = k → c.deleted = true) (hk : ∃ c ∈ cells s.1, c.key = k) (ops : List TOp) :
    ∀ c ∈ cells (runOps s ops).1, c.key = k → c.deleted = true := by
  induction ops generalizing s with
  | nil => exact h
  | cons op rest ih =>
    simp only [runOps, List.foldl_cons]
    have hnew : ∀ key lsn v, op = .ins key lsn v → accepted s op = true → key ≠ k := by
      intro key lsn v hop ha heq
      subst hop
      obtain ⟨c0, hc0, hc0k⟩ := hk
      exact accepted_key_fresh s hinv key lsn v ha c0 hc0 (hc0k.trans heq.symm)
    obtain ⟨hk', h'⟩ := specStep_tomb (cells s.1) op (accepted s op) k hnew ⟨hk, h⟩
    rw [← C01_step] at hk' h'
    have := ih (applyOp s op) (applyOp_inv s op hinv) h' hk'
    simpa [runOps] using this

/-- **C01.forest_isolated**: with several tables (and the catalog) sharing one file and one allocation
frontier, an operation on one tree leaves the cells of every other tree exactly as they were - no
row leaks into another table. -/
theorem C01_forest_isolated (f : Forest) (op : FOp) (j : Nat) (hj : j ≠ target op) :
    (f.step op).trees[j]?.map cells = f.trees[j]?.map cells := Forest.step_cells_other f op j hj

/-- **C01.forest_target**: …and changes the target tree's cells exactly as the plain model says. -/
theorem C01_forest_target (f : Forest) (op : FOp) (t : Levels) (ht : f.trees[target op]? = some t) :
    ∃ t', (f.step op).trees[target op]? = some t' ∧ cells t' = cellsAfter f.nextFree t op :=
  Forest.step_cells f op t ht

/-- **C01.forest_no_page_shared**: after any history over any number of trees, every tree is well formed
below the shared frontier and no page belongs to two trees - "however the rows happen to be laid out
over pages". -/
theorem C01_forest_no_page_shared (f : Forest) (ops : List FOp) (hf : f.Inv) : (f.run ops).Inv :=
  Forest.run_inv f ops hf

/-- non-vacuity: insert 12 rows (one leaf split and a root), delete row 3, change row 5, insert one more -/
example :
    let ops : List TOp := (List.range' 1 12).map (fun k => TOp.ins k k [k.toUInt8]) ++ [.del 3 20, .upd 5 21 [9], .ins 13 22 []]
    (live (runOps (emptyTree 4096, 8192) ops).1).map (fun c => (c.key, c.val)) =
      [(1, [1]), (2, [2]), (4, [4]), (5, [9]), (6, [6]), (7, [7]), (8, [8]), (9, [9]), (10, [10]), (11, [11]), (12, [12]), (13, [])] := by
  decide +kernel

end Mkdb.Tree

namespace Mkdb.Refine
open Mkdb.Store Mkdb.Tree Mkdb.Page

/-- **C01.heap_scan_is_live** (the levels theorems reach the heap model): whenever the page heap of a
store holds a well-formed tree `t` - every page of `t` is what the engine sees at its offset - the
heap model's `scanRight` from `t`'s root (what SELECT, UPDATE and DELETE read a table with) returns
exactly `live t`, the plain list without tombstones, never panics and never runs out of fuel, and
leaves the heap holding `t`.  For trees of any depth up to the fuel bound (64 levels). -/
theorem C01_heap_scan_is_live (s : Store) (t : Levels) (nf : Nat) (hH : Holds s t) (hI : Inv t nf)
    (hF : Filed s) (hdepth : t.inner.length + 1 ≤ treeFuel) (hlen : t.leaves.length ≤ scanFuel) :
    ∃ res s', scanRight (rootOff t) s = .ok res s' ∧ res.map (·.1) = live t ∧ Holds s' t :=
  scanRight_live s t nf hH hI hdepth hlen

/-- non-vacuity: the sample tree laid out on disk -/
example : Holds sampleStore sampleTree ∧ Filed sampleStore := ⟨sample_holds, sample_filed⟩

end Mkdb.Refine

namespace Mkdb.Store
open Mkdb.Tree Mkdb.Page

/-- **C01.heap_history** (the levels theorems carried to whole histories on the heap model): for every
store whose page heap holds a well-formed tree `t` and every history of inserts, value changes and
deletions (side conditions `RunOK`: inserts arrive in ascending key order or are refused, updated
values fit a page cell, a row is deleted once, the tree stays within the 64-level fuel), running
the history with the heap model's own code - `insertKeyHeap`, `findLeaf` + `updateCellAt`, the
tombstone change of `MarkDeleted` - ends in a store whose heap holds exactly the tree the levels
model computes, well formed, with the same allocation frontier... -/
theorem C01_heap_history (ops : List HOp) (s : Store) (t : Levels)
    (hH : Holds s t) (hI : Inv t s.hdr.nextFree) (hok : RunOK (t, s.hdr.nextFree) ops) :
    ∃ s' root', heapRun (rootOff t) ops s = .ok root' s' ∧
      root' = rootOff (runH (t, s.hdr.nextFree) ops).1 ∧
      Holds s' (runH (t, s.hdr.nextFree) ops).1 ∧
      Inv (runH (t, s.hdr.nextFree) ops).1 s'.hdr.nextFree ∧
      s'.hdr.nextFree = (runH (t, s.hdr.nextFree) ops).2 :=
  heapRun_refines ops s t hH hI hok

/-- **C01.heap_history_scan**: ...and the scan SELECT reads the table with then returns exactly the live
cells of that tree - by `C01_history` the plain list the history implies, without the tombstoned rows. -/
theorem C01_heap_history_scan (ops : List HOp) (s : Store) (t : Levels)
    (hH : Holds s t) (hI : Inv t s.hdr.nextFree) (hok : RunOK (t, s.hdr.nextFree) ops)
    (hdepth : (runH (t, s.hdr.nextFree) ops).1.inner.length + 1 ≤ treeFuel)
    (hlen : (runH (t, s.hdr.nextFree) ops).1.leaves.length ≤ scanFuel) :
    ∃ s' root' res s'', heapRun (rootOff t) ops s = .ok root' s' ∧
      scanRight root' s' = .ok res s'' ∧
      res.map (·.1) = live (runH (t, s.hdr.nextFree) ops).1 ∧
      Holds s'' (runH (t, s.hdr.nextFree) ops).1 :=
  heapRun_scan ops s t hH hI hok hdepth hlen

end Mkdb.Store

namespace Mkdb.Store
open Mkdb.Tree Mkdb.Page Mkdb.Tuple Mkdb.Generated

/-- **C01.statement_insert** (statement level, with the catalog): under the catalog invariant `Cat` - the
page heap holds the page table, `sys_schema` and every user table as well-formed, pairwise disjoint
trees; the live rows of the page table name exactly these tables with their current roots; every
row id in the file is at most the row-id counter - `RelationService.Insert` on a known table with a
column list that names only columns of the table, each once (`hnames`; anything else is refused,
`C01_unknown_column_refused`), and a row that encodes: finds the table through the catalog, gives the row the next row id and the next
LSN, appends it to that table's tree (whatever splits that takes), leaves every other table and the
schema catalog untouched, re-points the table's page-table row exactly when its root moved, logs
the insert record and, then, the catalog record - and the catalog invariant holds again, so the
theorem applies to the next statement. -/
theorem C01_statement_insert (s : Store) (pt sch : Levels) (tbls : List (Bytes × Levels)) (h : Cat s pt sch tbls)
    (table : Bytes) (t : Levels) (ht : (table, t) ∈ tbls) (cols : List String) (vals : List Val)
    (schema : List FieldDef) (buf : Bytes) (hsch : schemaOf sch table = some schema)
    (hcols : (colsOf schema cols).length = vals.length)
    (hnames : checkColumns schema (colsOf schema cols) = none)
    (henc : encodeTuple schema ((colsOf schema cols).zip vals).reverse = .ok buf)
    (hlen : buf.length ≤ c_maxValueSize)
    (t' : Levels) (nf' : Nat)
    (hins : insertAppend t (s.hdr.lastKey + 1) s.hdr.nextLSN buf s.hdr.nextFree = .ok (t', nf'))
    (hd' : t'.inner.length + 2 ≤ treeFuel) (hl' : t'.leaves.length ≤ scanFuel)
    (hbig : (nf' : Int) ≤ 9223372036854775807) :
    ∃ s' ptF logs, insert table cols vals s = .ok logs s' ∧
      Cat s' ptF sch (setTable tbls table t') ∧
      s'.hdr.lastKey = s.hdr.lastKey + 1 ∧ s'.hdr.nextFree = nf' ∧
      ((rootOff t' = rootOff t ∧ ptF = pt ∧ s'.hdr.nextLSN = s.hdr.nextLSN + 1 ∧
          logs = [⟨c_OpInsert, s.hdr.nextLSN, rootOff t, s.hdr.lastKey + 1, buf⟩]) ∨
       (rootOff t' ≠ rootOff t ∧ s'.hdr.nextLSN = s.hdr.nextLSN + 2 ∧
          ∃ k leafOff, ptF = setVal pt k (s.hdr.nextLSN + 1) (ptRow table (rootOff t')) ∧
            logs = [⟨c_OpInsert, s.hdr.nextLSN, rootOff t, s.hdr.lastKey + 1, buf⟩,
                    ⟨c_OpUpdate, s.hdr.nextLSN + 1, leafOff, k, ptRow table (rootOff t')⟩])) :=
  insert_refines s pt sch tbls h table t ht cols vals schema buf hsch hcols hnames henc hlen t' nf' hins hd' hl' hbig

/-- **C01.statement_insert_row_appended**: ...and the table then reads as before plus the new row. -/
theorem C01_statement_insert_row_appended (t t' : Levels) (key lsn nf nf' : Nat) (buf : Bytes)
    (h : insertAppend t key lsn buf nf = .ok (t', nf')) : live t' = live t ++ [⟨key, false, buf⟩] :=
  insert_live t t' key lsn nf nf' buf h

/-- **C01.statement_unknown_table**: an INSERT into a table the catalog does not know is refused and
changes nothing the engine can see. -/
theorem C01_statement_unknown_table (s : Store) (pt sch : Levels) (tbls : List (Bytes × Levels)) (h : Cat s pt sch tbls)
    (table : Bytes) (cols : List String) (vals : List Val)
    (h1 : table ≠ sysPages) (h2 : table ≠ sysSchema) (h3 : table ∉ tbls.map (·.1)) :
    ∃ s', insert table cols vals s = .err .tableNotExist s' ∧ Same s s' ∧ Cat s' pt sch tbls :=
  insert_unknown_table s pt sch tbls h table cols vals h1 h2 h3

end Mkdb.Store

namespace Mkdb.Store
open Mkdb.Tree Mkdb.Page Mkdb.Tuple Mkdb.Generated

/-- **C01.statement_select**: under the catalog invariant, `RelationService.Fetch` on a known table -
what SELECT reads - returns, for every live cell of the table's tree in scan order, its row id and
its decoded values, and the table's declared columns; it changes nothing the engine can see. -/
theorem C01_statement_select {s : Store} {pt sch : Levels} {tbls : List (Bytes × Levels)} (h : Cat s pt sch tbls)
    (table : Bytes) (t : Levels) (ht : (table, t) ∈ tbls) (schema : List FieldDef)
    (hsch : schemaOf sch table = some schema)
    (hdec : ∀ c ∈ live t, ∃ m, decodeTuple schema c.val [] = .ok m) :
    ∃ s', fetchTable table s = .ok (rowsOf schema (live t), schema) s' ∧ Same s s' ∧ Cat s' pt sch tbls :=
  fetchTable_cat h table t ht schema hsch hdec

/-- **C01.statement_delete**: `RelationService.MarkDeleted` of a live row id finds the row through the
catalog and the tree, sets its tombstone, logs one DELETE record with the next LSN, touches no other
page and no other table; afterwards the table reads as before without that row
(`live_setDeleted`); a row id that is absent or already deleted is refused and nothing changes
(`markDeleted_cat_absent`). -/
theorem C01_statement_delete {s : Store} {pt sch : Levels} {tbls : List (Bytes × Levels)} (h : Cat s pt sch tbls)
    (table : Bytes) (t : Levels) (ht : (table, t) ∈ tbls) (rowId : Nat) (c : LeafCell)
    (hc : c ∈ live t) (hk : c.key = rowId) :
    ∃ s' l d, (l, d) ∈ t.leaves ∧ c ∈ l.cells ∧
      markDeleted table rowId s = .ok [⟨c_OpDelete, s.hdr.nextLSN, l.off, rowId, []⟩] s' ∧
      Cat s' pt sch (setTable tbls table (setDeleted t rowId s.hdr.nextLSN)) ∧
      s'.hdr.nextLSN = s.hdr.nextLSN + 1 ∧ s'.hdr.lastKey = s.hdr.lastKey ∧
      s'.hdr.ptRoot = s.hdr.ptRoot ∧ s'.hdr.nextFree = s.hdr.nextFree ∧
      ∀ off, off ≠ l.off → view s' off = view s off :=
  markDeleted_cat h table t ht rowId c hc hk

/-- **C01.statement_update**: `RelationService.Update` of a live row id whose new tuple encodes and
fits replaces exactly that row's value, logs one UPDATE record, and touches nothing else; with no
such live row it is a no-op (`update_cat_absent`); a column list naming an unknown column or one column
twice is refused before the scan with nothing changed (`update_names_refused`; `hnames` excludes it
here); a row that does not decode, encode or fit is refused with nothing changed
(`update_cat_undecodable`, `update_cat_encode_error`, `update_cat_too_large`). -/
theorem C01_statement_update {s : Store} {pt sch : Levels} {tbls : List (Bytes × Levels)} (h : Cat s pt sch tbls)
    (table : Bytes) (t : Levels) (ht : (table, t) ∈ tbls) (schema : List FieldDef)
    (hsch : schemaOf sch table = some schema) (rowId : Nat) (cols : List String) (src : List Val)
    (hnames : checkColumns schema cols = none)
    (c : LeafCell) (hc : c ∈ live t) (hk : c.key = rowId) (m : Vals) (buf : Bytes)
    (hdec : decodeTuple schema c.val [] = .ok m)
    (henc : encodeTuple schema ((cols.zip src).reverse ++ m) = .ok buf)
    (hlen : buf.length ≤ c_maxValueSize) :
    ∃ s' l d, (l, d) ∈ t.leaves ∧ c ∈ l.cells ∧
      update table rowId cols src s = .ok [⟨c_OpUpdate, s.hdr.nextLSN, l.off, rowId, buf⟩] s' ∧
      Cat s' pt sch (setTable tbls table (setVal t rowId s.hdr.nextLSN buf)) ∧
      s'.hdr.nextLSN = s.hdr.nextLSN + 1 ∧ s'.hdr.lastKey = s.hdr.lastKey ∧
      s'.hdr.ptRoot = s.hdr.ptRoot ∧ s'.hdr.nextFree = s.hdr.nextFree ∧
      ∀ off, off ≠ l.off → view s' off = view s off :=
  update_cat h table t ht schema hsch rowId cols src hnames c hc hk m buf hdec henc hlen

end Mkdb.Store

namespace Mkdb.Store
open Mkdb.Tree Mkdb.Page Mkdb.Tuple Mkdb.Generated

/-- **C01.statement_create_table**: under the catalog invariant (and a well-filed cache), CREATE TABLE of
a new name whose column lengths fit `int32`, whose column names are distinct (`hfld`) and whose catalog
rows fit - with the flush that ends it - succeeds; afterwards the catalog
invariant holds for the old tables (unchanged but for cleared dirty bits) plus the new, empty table
rooted at the page that was the allocation frontier; the page table has exactly one more entry
(and its `sys_schema` entry follows that tree's root); `sys_schema` has one more row per declared
column, in order, and reads back the declared columns for the new table and the same columns as
before for every other table; the header on disk equals the header in memory and no page is dirty. -/
theorem C01_statement_create_table {s : Store} {pt sch : Levels} {tbls : List (Bytes × Levels)}
    (h : Cat s pt sch tbls) (hf : MemFiled s)
    (fields : List FieldDef) (name : Bytes) (order : List Nat)
    (hn1 : name ≠ sysPages) (hn2 : name ≠ sysSchema) (hn3 : name ∉ tbls.map (·.1))
    (hfld : checkFieldsFrom [] fields = none)
    (hchk : checkCatalogRows fields name = none)
    (hpd : pt.inner.length + 3 ≤ treeFuel) (hpl : pt.leaves.length + 1 ≤ scanFuel)
    (hsd : sch.inner.length + fields.length + 2 ≤ treeFuel) (hsl : sch.leaves.length + fields.length ≤ scanFuel)
    (hbig : s.hdr.nextFree + 262144 * fields.length + 262144 ≤ 9223372036854775807) :
    ∃ s' ptN schN,
      createTable fields name order true s = .ok () s' ∧
      Cat s' (clean ptN) (clean schN)
        ((tbls.map fun e => (e.1, clean e.2)) ++ [(name, clean (emptyTree s.hdr.nextFree))]) ∧
      s'.dhdr = s'.hdr ∧ (∀ p ∈ s'.mem, p.2.dirty = false) ∧
      ptEntries (clean ptN) =
        (ptEntries pt ++ [(name, s.hdr.nextFree)]).map (repoint sysSchema (rootOff schN)) ∧
      cells (clean schN) = cells sch ++ schemaCells name fields (s.hdr.lastKey + 2) ∧
      schemaOf (clean schN) name = (schemaOf sch name).map (· ++ fields) ∧
      (∀ n, n ≠ name → schemaOf (clean schN) n = schemaOf sch n) ∧
      s'.hdr.lastKey = s.hdr.lastKey + 1 + fields.length := by
  obtain ⟨_, s', _, _, ptN, schN, _, e, hc, _, hd, _, _, _, hnd, _, _, _, _, _, hent, hcells, hs1, hs2, hlk, _⟩ :=
    createTable_cat h hf fields name order hn1 hn2 hn3 hfld hchk hpd hpl hsd hsl hbig
  exact ⟨s', ptN, schN, e, hc, hd, hnd, hent, hcells, hs1, hs2, hlk⟩

/-- **C01.statement_create_existing**: CREATE TABLE of a name the catalog knows is refused and changes
nothing the engine can see. -/
theorem C01_statement_create_existing {s : Store} {pt sch : Levels} {tbls : List (Bytes × Levels)}
    (h : Cat s pt sch tbls) (fields : List FieldDef) (name : Bytes) (order : List Nat) (doFlush : Bool)
    (hn : name ∈ tbls.map (·.1)) :
    ∃ s', createTable fields name order doFlush s = .err .tableAlreadyExist s' ∧ Same s s' ∧ Cat s' pt sch tbls :=
  createTable_exists_cat h fields name order doFlush hn

end Mkdb.Store

namespace Mkdb.Store
open Mkdb.Tree Mkdb.Page Mkdb.Tuple Mkdb.Generated

/-! ### The end-to-end refinement: the engine's statements refine the plain in-memory model

`AbsV db.store pt sch tbls sdb`: the store satisfies the catalog invariant and, table by table in
creation order, its declared columns and the decoded live rows of its tree are the columns and rows
of the plain database `sdb` (`Mkdb.Spec.SDB`, the very specification the judge evaluates on the
implementation's outputs).  The three theorems say that whenever the plain model accepts a
statement, the engine's evaluator (statement loop, catalog lookups, WHERE evaluation, row codec,
B+ tree, log batch) succeeds and lands in a store that abstracts to the plain model's result. -/

/-- **C01.insert_refines_plain_model** -/
theorem C01_insert_refines_plain_model (db : Engine.DB) (pt sch : Levels) (tbls : List (Bytes × Levels))
    (sdb sdb' : Spec.SDB) (h : AbsV db.store pt sch tbls sdb)
    (table : Bytes) (t : Levels) (ht : (table, t) ∈ tbls)
    (schema : List FieldDef) (hsch : schemaOf sch table = some schema)
    (cols : List Bytes) (rows : List (List Val)) (hvalid : ∀ r ∈ rows, ∀ v ∈ r, ValidVal v)
    (hspec : Spec.specInsert sdb table cols rows = some sdb')
    (hrun : InsRunOK schema (cols.map Engine.bytesToName) t db.store.hdr.lastKey db.store.hdr.nextLSN
      db.store.hdr.nextFree rows) :
    ∃ db' ptF t' logs,
      Engine.evalInsert db table cols rows = .ok rows.length db' ∧
      db'.wal = db.wal ++ logs ∧
      InsApplies table (cols.map Engine.bytesToName) rows db.store logs db'.store ∧
      AbsV db'.store ptF sch (setTable tbls table t') sdb' ∧
      db'.store.hdr.lastKey = db.store.hdr.lastKey + rows.length :=
  let ⟨db', ptF, t', logs, e, hw, ha, _, hA, hlk⟩ :=
    evalInsert_refines_specV db pt sch tbls sdb sdb' h table t ht schema hsch cols rows hvalid hspec hrun
  ⟨db', ptF, t', logs, e, hw, ha, hA, hlk⟩

/-- **C01.delete_refines_plain_model**: no side condition at all beyond the abstraction. -/
theorem C01_delete_refines_plain_model (db : Engine.DB) (pt sch : Levels) (tbls : List (Bytes × Levels))
    (sdb sdb' : Spec.SDB) (h : AbsV db.store pt sch tbls sdb) (table : Bytes) (w : Option Sql.Cond)
    (hspec : Spec.specDelete sdb table w = some sdb') :
    ∃ n db' t' logs,
      Engine.evalDelete db table w = .ok n db' ∧ db'.wal = db.wal ++ logs ∧ logs.length = n ∧
      AbsV db'.store pt sch (setTable tbls table t') sdb' ∧
      db'.store.hdr.lastKey = db.store.hdr.lastKey ∧
      (∀ st sel, Spec.findTable sdb table = some st → Spec.selects st w = some sel →
        n = (sel.filter id).length) :=
  let ⟨n, db', t', logs, _, e, hw, hl, _, hA, hlk⟩ := evalDelete_refines_specV db pt sch tbls sdb sdb' h table w hspec
  ⟨n, db', t', logs, e, hw, hl, hA, hlk⟩

/-- **C01.update_refines_plain_model** (`hutf`: the SET column names are valid UTF-8 - the engine's check
of the SET columns compares the names as byte strings, the plain model as decoded strings; they differ
only for a name that is not valid UTF-8 on a table with a column named by the empty string) -/
theorem C01_update_refines_plain_model (db : Engine.DB) (pt sch : Levels) (tbls : List (Bytes × Levels))
    (sdb sdb' : Spec.SDB) (h : AbsV db.store pt sch tbls sdb) (table : Bytes)
    (sets : List (Bytes × Sql.VExpr)) (w : Option Sql.Cond)
    (hvalid : ∀ p ∈ sets, ∀ l, p.2 = .lit l → ValidVal (Engine.litToVal l))
    (hutf : ∀ p ∈ sets, (Spec.nameStr p.1).toUTF8.toList = p.1)
    (hspec : Spec.specUpdate sdb table sets w = some sdb') :
    ∃ db' t' logs,
      Engine.evalUpdate db table sets w = .ok () db' ∧ db'.wal = db.wal ++ logs ∧
      AbsV db'.store pt sch (setTable tbls table t') sdb' ∧
      db'.store.hdr.lastKey = db.store.hdr.lastKey :=
  let ⟨db', t', logs, _, e, hw, _, hA, hlk⟩ :=
    evalUpdate_refines_specV db pt sch tbls sdb sdb' h table sets w hvalid hutf hspec
  ⟨db', t', logs, e, hw, hA, hlk⟩

end Mkdb.Store

namespace Mkdb.Store
open Mkdb.Tree Mkdb.Page Mkdb.Tuple Mkdb.Generated

/-- **C01.every_statement_refines_plain_model** (end to end, one theorem over parsed statements):
`Rel` ties the engine model to the plain in-memory model - the store abstracts table by table to the
plain database (`AbsV`), `sys_schema` holds no rows under names without a table (`NoStale`), every page
object in the cache sits under the offset it carries (`MemFiled`).  Whenever the plain model accepts a
statement - CREATE TABLE, multi-row INSERT, UPDATE, DELETE with any WHERE; every other statement kind
changes no database - the engine model succeeds and `Rel` holds again with the plain model's result.
`StmtRoom` is the side condition a Go program meets: literals that fit their Go types, 64-level fuel,
offsets below 2^63, CREATE TABLE catalog rows within the cell size (otherwise refused, C14), SET column
names that are valid UTF-8.  (`AbsV` includes that no table has two columns of one name - what the
repaired CREATE TABLE guarantees and every statement keeps.) -/
theorem C01_every_statement_refines_plain_model (db : Engine.DB) (order : List Nat) (pt sch : Levels)
    (tbls : List (Bytes × Levels)) (sdb sdb' : Spec.SDB) (h : Rel db pt sch tbls sdb) (st : Sql.Stmt)
    (hroom : StmtRoom db pt sch tbls st) (hspec : Spec.specStmt sdb st = some sdb') :
    ∃ db' pt' sch' tbls', evalStmt db order st = .ok () db' ∧ Rel db' pt' sch' tbls' sdb' :=
  evalStmt_refines_spec db order pt sch tbls sdb sdb' h st hroom hspec

/-- **C01.create_table_refines_plain_model**: CREATE TABLE the plain model accepts - the new catalog is
the old tables (clean) plus an empty tree at the old allocation frontier, the row-id counter advanced
by one per catalog row, no dirty page left, header on disk equal to the one in memory. -/
theorem C01_create_table_refines_plain_model (db : Engine.DB) (pt sch : Levels) (tbls : List (Bytes × Levels))
    (sdb sdb' : Spec.SDB) (h : AbsV db.store pt sch tbls sdb) (hns : NoStale sch tbls) (hmf : MemFiled db.store)
    (name : Bytes) (cols : List Sql.ColDef) (order : List Nat)
    (hspec : Spec.specCreate sdb name cols = some sdb')
    (hlo : ∀ c ∈ cols, ∀ k, c.ty = .varchar k → -2147483648 ≤ k)
    (hchk : checkCatalogRows (cols.map Engine.colTypeToField) name = none)
    (hpd : pt.inner.length + 3 ≤ treeFuel) (hpl : pt.leaves.length + 1 ≤ scanFuel)
    (hsd : sch.inner.length + cols.length + 2 ≤ treeFuel) (hsl : sch.leaves.length + cols.length ≤ scanFuel)
    (hbig : db.store.hdr.nextFree + 262144 * cols.length + 262144 ≤ 9223372036854775807) :
    ∃ db' pt' sch',
      Engine.evalCreateTable db name cols order true = .ok () db' ∧ db'.wal = db.wal ∧
      AbsV db'.store pt' sch'
        ((tbls.map fun e => (e.1, clean e.2)) ++ [(name, clean (emptyTree db.store.hdr.nextFree))]) sdb' ∧
      NoStale sch'
        ((tbls.map fun e => (e.1, clean e.2)) ++ [(name, clean (emptyTree db.store.hdr.nextFree))]) ∧
      MemFiled db'.store ∧ db'.store.dhdr = db'.store.hdr ∧ (∀ p ∈ db'.store.mem, p.2.dirty = false) ∧
      db'.store.hdr.lastKey = db.store.hdr.lastKey + 1 + cols.length :=
  evalCreateTable_refines_specV db pt sch tbls sdb sdb' h hns hmf name cols order hspec hlo hchk hpd hpl hsd hsl hbig

/-- the statement dispatcher of the theorems above is the one of the session model (`Session.exec`,
compared with `Session.ExecQuery` by the sess harness): on the four kinds it runs `evalStmt` on the
selected database -/
theorem C01_session_runs_evalStmt (s : Session.Sess) (st : Sql.Stmt)
    (hk : (∃ n c, st = .createTable n c) ∨ (∃ t c r, st = .insert t c r) ∨ (∃ t a w, st = .update t a w) ∨
      (∃ t w, st = .delete t w)) :
    Session.exec s st = Session.onCurrent s fun db => evalStmt db [] st :=
  Session.exec_routed s st (Session.isRouted_of_kind hk)

end Mkdb.Store

namespace Mkdb.Store
open Mkdb.Tree Mkdb.Page Mkdb.Tuple Mkdb.Generated

/-- **C01.every_history_refines_plain_model** (the property itself, at the level of parsed
statements, for histories of any length): start from related states; run any list of statements
each of which the plain model either accepts (with the room a Go program has, `StmtRoom`) or refuses
before a change (`StmtRefusal`), going on after every error value.  The engine model never crashes and
ends related to `specHist`, the plain database the acknowledged statements of the history imply
(a refused statement contributes nothing).  Excluded by `HistOK`, and stated exactly in
C14_insert_kth_row_plain_model / C14_update_kth_row_plain_model: a multi-row statement refused at a
later row (the known finding of C14), after which the plain database of the judge and the store
differ by the applied prefix. -/
theorem C01_every_history_refines_plain_model (order : List Nat) (sts : List Sql.Stmt)
    (db : Engine.DB) (pt sch : Levels) (tbls : List (Bytes × Levels)) (sdb : Spec.SDB)
    (h : Rel db pt sch tbls sdb) (hok : HistOK order sts db sdb) :
    ∃ db' pt' sch' tbls', runHist order db sts = some db' ∧ Rel db' pt' sch' tbls' (specHist sdb sts) :=
  runHist_refines_spec order sts db pt sch tbls sdb h hok

/-- the side conditions are met by every history of DELETE statements on user tables, whatever their
WHERE clauses (non-vacuity of `HistOK` beyond single examples; `hist_example` mixes in a refused
CREATE TABLE on a concrete store) -/
theorem C01_delete_histories_meet_side_conditions (order : List Nat) (sts : List Sql.Stmt)
    (h : ∀ st ∈ sts, ∃ t w, st = .delete t w ∧ t ≠ sysPages ∧ t ≠ sysSchema)
    (db : Engine.DB) (sdb : Spec.SDB) : HistOK order sts db sdb :=
  histOK_deletes order sts h db sdb

end Mkdb.Store

namespace Mkdb.Store
open Mkdb.Tree Mkdb.Page Mkdb.Tuple Mkdb.Generated

/-! ### No value is dropped in silence: column names (the repaired defect)

Before the repair an INSERT / UPDATE naming a column the table does not have (or one column twice)
went through with the value dropped, and CREATE TABLE accepted two columns of one name. -/

/-- **C01.unknown_column_refused** (heap model, ANY store): once the catalog lookups of
`RelationService.Insert` have delivered the columns `schema` of the table, an INSERT whose column list
names something that is not a column of the table is never accepted: it returns `colCountMismatch`
(wrong number of values; tested first) or `fieldNotFound` / `fieldAmbiguous` (exactly what
`checkColumns` says), in the store the read-only lookups left - and a well-filed cache stays well
filed with every page, dirty bit, the data file and the header locations as they were. -/
theorem C01_unknown_column_refused (table : Bytes) (cols : List String) (vals : List Val) (s s1 s2 s3 : Store)
    (off : Nat) (n : Node) (schema : List FieldDef)
    (h1 : relationOffset table s = .ok off s1) (h2 : fetch off s1 = .ok n s2)
    (h3 : relationSchema table s2 = .ok schema s3)
    (c : String) (hc : c ∈ colsOf schema cols) (hn : c ∉ schema.map (·.name)) :
    ∃ e, insert table cols vals s = .err e s3 ∧
      (e = .colCountMismatch ∨ e = .fieldNotFound ∨ e = .fieldAmbiguous) ∧
      ((colsOf schema cols).length = vals.length → checkColumns schema (colsOf schema cols) = some e) ∧
      (Filed s → Filed s3 ∧ SameData s s3) :=
  insert_unknown_column table cols vals s s1 s2 s3 off n schema h1 h2 h3 c hc hn

/-- **C01.accepted_insert_names_columns** (heap model, ANY store): an `RelationService.Insert` that
succeeded named only columns of the table, each of them once, with one value per name. -/
theorem C01_accepted_insert_names_columns (table : Bytes) (cols : List String) (vals : List Val) (s : Store)
    (logs : List WalRec) (s' : Store) (h : insert table cols vals s = .ok logs s') :
    ∃ off s1 n s2 schema s3, relationOffset table s = .ok off s1 ∧ fetch off s1 = .ok n s2 ∧
      relationSchema table s2 = .ok schema s3 ∧ (colsOf schema cols).length = vals.length ∧
      (∀ c ∈ colsOf schema cols, c ∈ schema.map (·.name)) ∧ (colsOf schema cols).Nodup :=
  insert_ok_names table cols vals s logs s' h

/-- **C01.checkColumns_exact**: the check passes exactly when every name is a column of the relation and
no name occurs twice; its only errors are `fieldNotFound` and `fieldAmbiguous`. -/
theorem C01_checkColumns_exact (schema : List FieldDef) (cs : List String) :
    (checkColumns schema cs = none ↔ (∀ c ∈ cs, c ∈ schema.map (·.name)) ∧ cs.Nodup) ∧
    ∀ e, checkColumns schema cs = some e → e = .fieldNotFound ∨ e = .fieldAmbiguous :=
  ⟨checkColumns_none_iff schema cs, fun _ h => checkColumns_some h⟩

/-- **C01.plain_model_names**: an INSERT (of at least one row) the plain model accepts names only
columns of the table, each of them once. -/
theorem C01_plain_model_names {sdb sdb' : Spec.SDB} {table : Bytes} {cols : List Bytes}
    {r : List Val} {rest : List (List Val)}
    (h : Spec.specInsert sdb table cols (r :: rest) = some sdb') :
    ∃ tbl, Spec.findTable sdb table = some tbl ∧ Spec.namesOK tbl (cols.map Spec.nameStr) = true :=
  specInsert_names h

/-- **C01.row_holds_named_values**: a row the plain model accepts for an INSERT with a column list holds,
at the position of every column of the table, the `i`-th value when the column is the `i`-th name of
the list and NULL when the column is not named: every given value is in the row, under its name. -/
theorem C01_row_holds_named_values (t : Spec.STable) (cols : List Bytes) (vals row : List Val)
    (h : Spec.rowOf t cols vals = some row) (hne : cols ≠ [])
    (hok : Spec.namesOK t (cols.map Spec.nameStr) = true) :
    row.length = t.cols.length ∧
    ∀ (j : Nat) (fd : FieldDef), t.cols[j]? = some fd →
      (∀ (i : Nat) (c : Bytes) (v : Val), cols[i]? = some c → vals[i]? = some v →
        Spec.nameStr c = fd.name → row[j]? = some v) ∧
      (fd.name ∉ cols.map Spec.nameStr → row[j]? = some .null) :=
  rowOf_named t cols vals row h hne hok

/-- **C01.plain_model_check_is_engine_check**: the plain model's test of a column list is the engine
model's `checkColumns` on the table's columns. -/
theorem C01_plain_model_check_is_engine_check (t : Spec.STable) (names : List String) :
    Spec.namesOK t names = true ↔ checkColumns t.cols names = none :=
  namesOK_iff_checkColumns t names

/-- **C01.unknown_column_example** (non-vacuity, and the regression witness of the repaired defect): on
the concrete store with the table `t (a INT)`, `INSERT INTO t (b) VALUES (1)` is refused by the plain
model and by the engine model (`fieldNotFound`); pages, header and log are as before, and the store
still abstracts to the same plain database. -/
theorem C01_unknown_column_example :
    Spec.specInsert sdbA0 tname [[98]] [[.int 1]] = none ∧
    ∃ db', Engine.evalInsert dbA tname [[98]] [[.int 1]] = .err (.store .fieldNotFound) db' ∧
      db'.wal = dbA.wal ∧ Same dbA.store db'.store ∧ Abs db'.store pt0 sch1 [(tname, t0)] sdbA0 :=
  unknown_column_example

/-- **C01.names_refusals_example**: `UPDATE t SET b = 1` and `CREATE TABLE u (b VARCHAR(10), b VARCHAR(10))`
on the same store: refused by both, log untouched, same catalog and plain database. -/
theorem C01_names_refusals_example :
    (Spec.specStmt sdbA0 (.update tname [([98], .lit (.int 1))] none) = none ∧
      ∃ e db', evalStmt dbA [] (.update tname [([98], .lit (.int 1))] none) = .err e db' ∧ db'.wal = dbA.wal ∧
        Rel db' pt0 sch1 [(tname, t0)] sdbA0) ∧
    (Spec.specStmt sdbA0 (.createTable uname (bcols ++ bcols)) = none ∧
      ∃ e db', evalStmt dbA [] (.createTable uname (bcols ++ bcols)) = .err e db' ∧ db'.wal = dbA.wal ∧
        Rel db' pt0 sch1 [(tname, t0)] sdbA0) :=
  names_refusals_example

end Mkdb.Store

namespace Mkdb.Store
open Mkdb.Tree Mkdb.Page Mkdb.Tuple Mkdb.Generated

/-- **C01.create_database_establishes_the_invariants** (the base case of every induction above).
`storage.CreateDB` as modelled (`createDB`, write order `[]`, from nothing) returns the store
`newStore` - computed by kernel evaluation of the model: the page table at 4096 with the rows of
`sys_pages` and `sys_schema`, `sys_schema` at 8192 with the six rows that describe the two catalog
tables, row ids and LSNs 1-8 used, both pages and the header in the data file; the levels model agreed
with every insert.  The session installs `newDB` = that data file re-opened, with an empty log.  Of
`newDB`, with the catalog description `ptNew`, `schNew` (the two one-leaf trees), NO user tables and
the EMPTY plain database, every invariant of the development holds: the catalog invariant `Cat`, the
abstraction `Abs` / `AbsV`, `NoStale`, `MemFiled`, hence `Rel` (what every statement preserves);
`PtSelf`, `FreshM`, and the checkpoint invariant `Ckpt` (what flushes, crashes and recoveries
preserve).  None of the hand-written stores of the examples (`emptyCatalog`, `st0`, `st1`) is this
store (`Proofs/BaseCase`, `BaseCaseEmptyCatalog`). -/
theorem C01_create_database_establishes_the_invariants :
    createDB [] {} = .ok () newStore ∧ newDB = { store := reopen newStore, wal := [] } ∧
    (∀ (s s' : Session.Sess) (name : Bytes), Session.exec s (.createDatabase name) = (s', Session.Out.ok) →
      s' = Session.setDB s (Session.canon name) newDB) ∧
    Cat newDB.store ptNew schNew [] ∧ Abs newDB.store ptNew schNew [] [] ∧ AbsV newDB.store ptNew schNew [] [] ∧
    NoStale schNew [] ∧ MemFiled newDB.store ∧ Rel newDB ptNew schNew [] [] ∧
    PtSelf ptNew ∧ FreshM newDB.store [] ∧ Ckpt schNew newDB [] ptNew [] :=
  ⟨createDB_eq, rfl, fun s s' name h => exec_createDatabase_newDB s name s' h, cat_newDB, abs_newDB, absV_newDB,
    noStale_new, memFiled_newDB, rel_newDB, ptNew_self, freshM_newDB, ckpt_newDB⟩

/-- **C01.catalog_describes_itself**: in the new database the page table names itself and `sys_schema`,
and the column lists `sys_schema` spells for `sys_pages` and for `sys_schema` are the schemas the
catalog lookups decode their rows with; this description of the store is the only one. -/
theorem C01_catalog_describes_itself :
    ptEntries ptNew = [(sysPages, 4096), (sysSchema, 8192)] ∧
    schemaOf schNew sysPages = some pageTableSchema ∧ schemaOf schNew sysSchema = some schemaTableSchema ∧
    ∀ pt sch tbls sdb, Rel newDB pt sch tbls sdb → pt = ptNew ∧ sch = schNew ∧ tbls = [] ∧ sdb = [] :=
  ⟨ptNew_entries, schNew_describes_catalog.1, schNew_describes_catalog.2, fun _ _ _ _ h => rel_newDB_unique h⟩

/-- **C01.every_history_from_create_database**: `C01_every_history_refines_plain_model` with its
hypothesis discharged at the real starting point.  From the database `CREATE DATABASE` leaves and the
empty plain database, through any list of statements each of which the plain model accepts (with
room) or refuses before a change, for any page write order of the flushes, the engine model never
crashes and ends related to the plain database the history implies. -/
theorem C01_every_history_from_create_database (order : List Nat) (sts : List Sql.Stmt)
    (hok : HistOK order sts newDB []) :
    ∃ db' pt' sch' tbls', runHist order newDB sts = some db' ∧ Rel db' pt' sch' tbls' (specHist [] sts) :=
  runHist_refines_spec order sts newDB ptNew schNew [] [] rel_newDB hok

/-- **C01.create_table_after_create_database** (non-vacuity of the above): `CREATE TABLE t (a INT)` on
the new database is accepted by the plain model and by the engine model; the relation holds afterwards
for the plain database with the one empty table `t (a INT)`; and the one-statement history meets
`HistOK`. -/
theorem C01_create_table_after_create_database :
    (Spec.specStmt [] (.createTable tname acols) = some [⟨tname, [⟨"a", .int, 0⟩], []⟩] ∧
      ∃ db' pt' sch' tbls', evalStmt newDB [] (.createTable tname acols) = .ok () db' ∧
        Rel db' pt' sch' tbls' [⟨tname, [⟨"a", .int, 0⟩], []⟩]) ∧
    HistOK [] [.createTable tname acols] newDB [] :=
  ⟨create_table_on_newDB, histOK_create_t⟩

end Mkdb.Store
