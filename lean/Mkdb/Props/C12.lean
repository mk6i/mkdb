import Mkdb.Proofs.CountersTreeFrontier
import Mkdb.Proofs.FlushReloadHistory
import Mkdb.Proofs.Page
/-!
# C12 — a page written to disk reads back as the same page

Property theorems only.  Quantifier: every leaf / internal node within capacity — any
number of cells up to the maximum, any value bytes up to `maxValueSize`, any flags, any
64-bit offsets and LSNs.  The constants are the ones regenerated from storage/page.go.
That the nodes the *engine* produces are within capacity and in range is
`C12_every_engine_node_roundtrips` (levels model, every history) and
`C12_every_heap_page_roundtrips_after_flushes_and_reloads` (page heap, histories with flushes and
reloads), further down.
-/
namespace Mkdb.Page
open Mkdb.Bin Mkdb.Generated

/-- **C12.fits**: the capacity constants derived from the page size leave room for the
header, the offset array and the maximum number of maximum-size cells (so `freeSize`
never underflows). -/
theorem C12_fits :
    c_leafNodeHeaderSize + c_maxLeafNodeCells * (c_offsetElemSize + c_leafNodeCellSize) ≤ c_pageSize ∧
    c_internalNodeHeaderSize + c_maxInternalNodeCells * (c_offsetElemSize + c_nodeCellSize) ≤ c_pageSize ∧
    c_leafNodeHeaderSize = 1 + 8 + 8 + 1 + 1 + 8 + 8 + 4 + 2 ∧
    c_internalNodeHeaderSize = 1 + 8 + 8 + 8 + 4 + 2 ∧
    c_leafNodeCellSize = 4 + 1 + 4 + c_maxValueSize ∧ c_nodeCellSize = 4 + 8 ∧ c_offsetElemSize = 2 ∧
    c_maxLeafNodeCells ≤ 2 ^ 16 ∧ c_maxInternalNodeCells ≤ 2 ^ 16 ∧
    c_LeafNode = 1 ∧ c_InternalNode = 0 := by decide

/-- **C12.leaf**: a well-formed leaf encodes to exactly one page and decodes — through the
first-byte dispatch of `fetch` — to the same leaf. -/
theorem C12_leaf (l : Leaf) (h : WFLeaf l) :
    ∃ page, encodeLeaf l = .ok page ∧ page.length = c_pageSize ∧ decodePage page = .ok (.leaf l) (List.range l.cells.length) :=
  decodePage_encodeLeaf l h

/-- **C12.internal**: likewise for internal nodes. -/
theorem C12_internal (n : Internal) (h : WFInternal n) :
    ∃ page, encodeInternal n = .ok page ∧ page.length = c_pageSize ∧
      decodePage page = .ok (.internal n) (List.range n.cells.length) :=
  decodePage_encodeInternal n h

/-- **C12.node**: every node within capacity serialises to exactly one page and
deserialises to identical logical content. -/
theorem C12_roundtrip (n : Node) (h : WF n) :
    ∃ page, encode n = .ok page ∧ page.length = c_pageSize ∧ ∃ offs, decodePage page = .ok n offs := by
  cases n with
  | leaf l => obtain ⟨p, h1, h2, h3⟩ := C12_leaf l h; exact ⟨p, h1, h2, _, h3⟩
  | internal i => obtain ⟨p, h1, h2, h3⟩ := C12_internal i h; exact ⟨p, h1, h2, _, h3⟩

/-- **C12.dispatch**: the first byte alone decides which decoder runs, and the two kinds
never collide: a page that decodes as a leaf never decodes as an internal node. -/
theorem C12_dispatch (page : Bytes) (l : Leaf) (i : Internal) (o1 o2 : List Nat) :
    ¬ (decodePage page = .ok (.leaf l) o1 ∧ decodeInternal page = .ok (.internal i) o2) := by
  rintro ⟨h1, h2⟩
  cases page with
  | nil => simp [decodePage] at h1
  | cons b rest =>
    simp only [decodePage] at h1
    by_cases hb : b.toNat = c_InternalNode
    · -- dispatched to decodeInternal, which never yields a leaf
      simp only [hb, ↓reduceIte] at h1
      rw [h2] at h1; cases h1
    · simp only [hb, ↓reduceIte] at h1
      -- decodeInternal requires the kind byte to be InternalNode
      simp only [decodeInternal, decU8, decLE] at h2
      simp [hb] at h2

/-! Non-vacuity: a full leaf with maximum-size values, tombstones and both sibling links is
well formed, and so is a full internal node. -/
example : WFLeaf ⟨8192, 2 ^ 63, true, true, 4096, 12288,
    (List.range 9).map fun i => ⟨i + 1, i % 2 == 0, List.replicate 400 0xff⟩⟩ := by
  refine ⟨by decide, by decide, by decide, by decide, by decide, ?_⟩
  intro c hc
  simp only [List.mem_map, List.mem_range] at hc
  obtain ⟨i, hi, rfl⟩ := hc
  exact ⟨by show i + 1 < 2 ^ 32; omega, by
    show (List.replicate 400 (0xff : UInt8)).length ≤ 400
    rw [List.length_replicate]; exact Nat.le_refl _⟩

example : WFInternal ⟨8192, 7, 4096, (List.range 290).map fun i => ⟨i + 1, 4096 * i⟩⟩ := by
  refine ⟨by decide, by decide, by decide, by simp [c_maxInternalNodeCells], ?_⟩
  intro c hc
  simp only [List.mem_map, List.mem_range] at hc
  obtain ⟨i, hi, rfl⟩ := hc
  exact ⟨by show i + 1 < 2 ^ 32; omega, by show 4096 * i < 2 ^ 64; omega⟩

/-! ## Every node the engine can produce -/

open Mkdb.Tree in
/-- **C12.well_formed_tree_roundtrips**: every page of a tree that satisfies the C11 shape invariant
(`Inv`: in particular no node over capacity) and whose fields are in the ranges of their Go types
(`FieldsOK (2^64) (2^64) (2^32)`: page offsets, sibling and child pointers and LSNs are `uint64`, row ids
and separator keys `uint32`, every cell value at most `maxValueSize` bytes) is well formed for the codec:
it encodes to exactly one page of `pageSize` bytes, which decodes to the same node. -/
theorem C12_well_formed_tree_roundtrips (t : Levels) (nf : Nat) (hinv : Inv t nf)
    (hf : FieldsOK (2 ^ 64) (2 ^ 64) (2 ^ 32) t) :
    ∀ e ∈ flatten t, WF e.2.1 ∧
      ∃ page, encode e.2.1 = .ok page ∧ page.length = c_pageSize ∧ ∃ offs, decodePage page = .ok e.2.1 offs :=
  fun e he => ⟨hf.wf hinv.cap e he, C12_roundtrip e.2.1 (hf.wf hinv.cap e he)⟩

open Mkdb.Tree in
/-- **C12.every_engine_node_roundtrips**: after any history of insertions, value changes and deletions
from a freshly created table (the histories of `C11_every_history`: any number of leaf splits, internal
splits at any depth, root growths), *every* page of the resulting tree - leaf or internal, with whatever
number of cells, value sizes, tombstones, sibling links and LSN the history gave it - satisfies `WF`,
hence serialises to exactly one page of `pageSize` bytes and deserialises to the identical node.
Hypotheses, all decidable: `OpInRange` for every operation - a row id is a `uint32`, an LSN a `uint64`
(the types of the Go fields), an *updated* value has at most `maxValueSize` bytes (`updateCell` refuses a
larger one before it touches the page; an *inserted* value needs no hypothesis, `insertAppend` refuses a
larger one itself: `rowTooLarge`) - and the allocation frontier at the end of the history is at most
`2^64` (the file offset is a `uint64`; the frontier never goes down, so this bounds every offset the
history handed out). -/
theorem C12_every_engine_node_roundtrips (off nf : Nat) (h : off < nf) (ops : List TOp)
    (hops : ∀ op ∈ ops, OpInRange op) (hnf : (runOps (emptyTree off, nf) ops).2 ≤ 2 ^ 64) :
    ∀ e ∈ flatten (runOps (emptyTree off, nf) ops).1, WF e.2.1 ∧
      ∃ page, encode e.2.1 = .ok page ∧ page.length = c_pageSize ∧ ∃ offs, decodePage page = .ok e.2.1 offs :=
  fun e he => ⟨runOps_wf off nf h ops hops hnf e he, C12_roundtrip e.2.1 (runOps_wf off nf h ops hops hnf e he)⟩

/-- a history with three leaf splits and a root: 20 inserts, one of them with a value of the maximum
size, an update to the maximum size, a deletion -/
def opsC12 : List Mkdb.Tree.TOp :=
  ((List.range' 1 20).map fun k => Mkdb.Tree.TOp.ins k (1000 + k) (List.replicate (if k = 7 then 400 else k) 0xff)) ++
  [.upd 3 2000 (List.replicate 400 1), .del 5 2001]

set_option maxRecDepth 8000 in
open Mkdb.Tree in
/-- non-vacuity: the history meets the hypotheses and ends with four leaves under one internal node -/
example : (∀ op ∈ opsC12, OpInRange op) ∧ (runOps (emptyTree 4096, 8192) opsC12).2 ≤ 2 ^ 64 ∧
    ((runOps (emptyTree 4096, 8192) opsC12).1.leaves.length, (runOps (emptyTree 4096, 8192) opsC12).1.inner.length) = (4, 1) := by
  decide +kernel

set_option maxRecDepth 8000 in
open Mkdb.Tree in
/-- non-vacuity of `C12_well_formed_tree_roundtrips`: the four-leaf tree the history `opsC12` ends with
satisfies both hypotheses -/
example : Inv (runOps (emptyTree 4096, 8192) opsC12).1 (runOps (emptyTree 4096, 8192) opsC12).2 ∧
    FieldsOK (2 ^ 64) (2 ^ 64) (2 ^ 32) (runOps (emptyTree 4096, 8192) opsC12).1 :=
  ⟨runOps_inv opsC12 _ (emptyTree_inv 4096 8192 (by decide)),
   runOps_fields opsC12 (emptyTree 4096, 8192) (by decide +kernel) (by decide +kernel)
     (emptyTree_fields _ _ _ 4096 (by decide) (by decide))⟩

open Mkdb.Tree Mkdb.Store in
/-- **C12.every_heap_page_roundtrips_after_flushes_and_reloads**: on the page heap, through histories
in which flushes (any page write order) and reloads are interleaved with the tree operations
(`C11_every_history_with_flushes_and_reloads`): every page the final heap shows for the tree - whether it
comes from the cache or, after a reload or an eviction, from the data file - is the page of the levels
model, and it serialises to exactly one page and deserialises to itself; so writing it out and reading
it back never changes what it means.  Hypotheses: those of the C11 theorem (`HeapInv`, `RunOKF`), the
starting tree's fields in range (`FieldsOK`; true of the empty tree of a new table), every tree operation
in range (`FROpInRange`: `uint32` row ids, `uint64` LSNs, updated values within `maxValueSize`), the final
allocation frontier at most `2^64`. -/
theorem C12_every_heap_page_roundtrips_after_flushes_and_reloads (ops : List FROp) (s : Store) (t : Levels)
    (h : HeapInv s t) (hf : FieldsOK (2 ^ 64) (2 ^ 64) (2 ^ 32) t) (hok : RunOKF (t, s.hdr.nextFree) ops)
    (hops : ∀ op ∈ ops, FROpInRange op) (hnf : (runF (t, s.hdr.nextFree) ops).2 ≤ 2 ^ 64) :
    ∃ s' root', heapRunF (rootOff t) ops s = .ok root' s' ∧
      ∀ e ∈ flatten (runF (t, s.hdr.nextFree) ops).1, view s' e.1 = some (e.2.1, e.2.2) ∧ WF e.2.1 ∧
        ∃ page, encode e.2.1 = .ok page ∧ page.length = c_pageSize ∧ ∃ offs, decodePage page = .ok e.2.1 offs := by
  obtain ⟨s', root', e, _, h', _⟩ := heapRunF_refines ops s t h hok
  refine ⟨s', root', e, fun x hx => ?_⟩
  have hwf := runF_wf t s.hdr.nextFree h.inv hf ops hops hnf x hx
  exact ⟨h'.holds x hx, hwf, C12_roundtrip x.2.1 hwf⟩

open Mkdb.Tree Mkdb.Store in
/-- non-vacuity: the history `opsF0` (two leaf splits, three flushes, three reloads) from the store `s0` of
a fresh table meets every hypothesis -/
example : HeapInv s0 (emptyTree 4096) ∧ FieldsOK (2 ^ 64) (2 ^ 64) (2 ^ 32) (emptyTree 4096) ∧
    RunOKF (emptyTree 4096, s0.hdr.nextFree) opsF0 ∧ (∀ op ∈ opsF0, FROpInRange op) ∧
    (runF (emptyTree 4096, s0.hdr.nextFree) opsF0).2 ≤ 2 ^ 64 :=
  ⟨s0_heapInv, emptyTree_fields _ _ _ 4096 (by decide) (by decide), opsF0_ok, by decide +kernel,
    by decide +kernel⟩

end Mkdb.Page

/-! ## the range hypotheses discharged by the length of the history -/

namespace Mkdb.Page
open Mkdb.Bin Mkdb.Generated

open Mkdb.Tree in
/-- **C12.engine_nodes_roundtrip_below_the_wrap**: `C12_every_engine_node_roundtrips` with its range
hypotheses (`OpInRange` for every operation, final allocation frontier `≤ 2^64`) replaced by the length of
the history.  The operations are stamped by counters (`Issued k l ops`: the `i`-th operation carries a row id
at most `k + i + 1` and an LSN below `l + 2 i + 2` - what `lastKey + 1` / `nextLSN` of the engine give when
the table was created at counters `k`, `l` and every operation consumes at most one row id and two LSNs; an
updated value passed `updateCell`'s size check).  If these counters do not wrap within the history
(`k + n < 2^32`, `l + 2 n ≤ 2^64`) and `nf + 34 pages × n ≤ 2^64` for the `n` operations, every page of the
resulting tree is well formed for the codec and round-trips.  The frontier needs no hypothesis of its own: a
history of `n < 2^32` operations builds a tree of at most 32 internal levels (`tree_depth_pow`: a well-formed
tree with `d` internal levels has at least `2^d` leaves), so each insert allocates at most 34 pages
(`runOps_frontier`).  For `n ≤ 10^9` operations on a table created right after CREATE DATABASE (`k = l = 10`,
`nf = 16384`) the three conditions hold with room to spare. -/
theorem C12_engine_nodes_roundtrip_below_the_wrap (off nf k l : Nat) (h : off < nf) (ops : List TOp)
    (hi : Issued k l ops) (hk : k + ops.length < 2 ^ 32) (hl : l + 2 * ops.length ≤ 2 ^ 64)
    (hf : nf + 139264 * ops.length ≤ 2 ^ 64) :
    ∀ e ∈ flatten (runOps (emptyTree off, nf) ops).1, WF e.2.1 ∧
      ∃ page, encode e.2.1 = .ok page ∧ page.length = c_pageSize ∧ ∃ offs, decodePage page = .ok e.2.1 offs :=
  fun e he => ⟨runOps_wf_issued off nf k l h ops hi hk hl hf e he,
    C12_roundtrip e.2.1 (runOps_wf_issued off nf k l h ops hi hk hl hf e he)⟩

set_option maxRecDepth 8000 in
open Mkdb.Tree in
/-- non-vacuity: the history `opsC12` (20 inserts with row ids 1 … 20 and LSNs 1001 … 1020, an update at LSN
2000, a deletion at LSN 2001) is issued by counters starting at row id 0 and LSN 2000 -/
example : Issued 0 2000 opsC12 ∧ 0 + opsC12.length < 2 ^ 32 ∧ 2000 + 2 * opsC12.length ≤ 2 ^ 64 ∧
    8192 + 139264 * opsC12.length ≤ 2 ^ 64 := by decide +kernel

end Mkdb.Page

/-!
## The file header (the 28 bytes in front of the first page)

`fileStore.save` / `fileStore.open` (storage/page.go): the row-id counter, the catalog root, the allocation
frontier and the LSN counter, little-endian, `uint32` + 3 x `uint64`.  Every restart, every recovery and
every flush goes through these bytes.  Quantifier: every header, every file content; no bound.
-/
namespace Mkdb.Header
open Mkdb.Store

/-- a header whose fields fit their widths is written as exactly 28 bytes and read back as the same
header, whatever follows it in the file (the pages) -/
theorem C12_header_roundtrip (h : Header) (hf : Fits h) (rest : Bytes) :
    (encode h).length = 28 ∧ decode (encode h ++ rest) = some h := by
  refine ⟨encode_length h, ?_⟩
  rw [decode_encode_wrap, wrap_of_fits h hf]

/-- without the width hypothesis: what comes back is the header with every counter wrapped to its field
width - `save` stores `lastKey` in 32 bits and the others in 64 whatever their value (the counter bounds
of `C02_counters_after_any_history` are what keeps the engine's headers inside `Fits`) -/
theorem C12_header_roundtrip_wraps (h : Header) (rest : Bytes) :
    decode (encode h ++ rest) = some (wrap h) :=
  decode_encode_wrap h rest

/-- `open` succeeds exactly on files of at least 28 bytes: a shorter file (an empty one, a header write
cut short) is an error - the database does not start - and never a header made up of what was there -/
theorem C12_header_read_iff_28_bytes (bs : Bytes) : (∃ h, decode bs = some h) ↔ 28 ≤ bs.length :=
  decode_some_iff bs

/-- non-vacuity: a header of a database with a few tables; the largest header the fields can hold; a
27-byte file is refused; a row-id counter beyond 32 bits does NOT come back (the hypothesis is needed) -/
example : Fits ⟨17, 4096, 53248, 2041⟩ ∧ Fits ⟨2 ^ 32 - 1, 2 ^ 64 - 1, 2 ^ 64 - 4096, 2 ^ 64 - 1⟩ ∧
    decode (encode ⟨17, 4096, 53248, 2041⟩) = some ⟨17, 4096, 53248, 2041⟩ ∧
    decode ((encode ⟨17, 4096, 53248, 2041⟩).take 27) = none ∧
    decode (encode ⟨2 ^ 32 + 5, 4096, 8192, 1⟩) = some ⟨5, 4096, 8192, 1⟩ := by
  decide +kernel

end Mkdb.Header
