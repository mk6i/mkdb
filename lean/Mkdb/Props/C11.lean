import Mkdb.Proofs.BSearch
import Mkdb.Proofs.FlushReloadHistory
import Mkdb.Proofs.Forest
import Mkdb.Proofs.RefineInsert
import Mkdb.Proofs.RefineScan
import Mkdb.Proofs.Tree
import Mkdb.Proofs.TreeShape
/-!
# C11 — the on-disk B+ tree keeps its shape invariants

Property theorems only, about the levels model `Mkdb.Tree` of storage/btree.go `insertKey` /
`insertLeaf` / `insertInternal` / `btreeNode.split`, `updateCell`, the tombstone flag and `findCell`.
The invariant `Inv` (Mkdb/Spec/TreeInv.lean) is the C11 statement clause by clause: capacity,
strictly ascending keys within and across leaves, separators = lowest key of the right subtree
(so every subtree's keys lie inside its parent's bounds), all leaves at one depth and one parent
per node (`LinkOK`), no page twice (`OffsOK`), the doubly linked leaf chain = the leaves in tree
order (`ChainOK`).  Quantifier: every history of inserts with ascending keys, value changes and
deletions, of any length - any number of leaf splits, internal splits at any depth and root
growths; no bound.  Flushes and reloads do not change the logical pages (C12: the page codec
round-trips; C16: the cache is transparent), so they are not operations of the levels model; on the
heap model they are: `C11_flush_and_reload_preserve_the_tree` and
`C11_every_history_with_flushes_and_reloads` (under "Flushes and reloads" below) put them into the quantifier.
The two leaf chains are walked explicitly in `C11_leaf_chains`.

The levels model is tied to the code through the heap model `Mkdb.Store` (compared page for page
with the implementation): every insert the heap model performs is cross-checked against
`insertAppend` on the tree read out of the heap (`Store.ghostAgrees`).
-/
namespace Mkdb.Tree
open Mkdb.Page Mkdb.Generated

/-- **C11.created_well_formed**: the one-leaf tree CREATE TABLE / CREATE DATABASE start from is well formed. -/
theorem C11_created_well_formed (off nf : Nat) (h : off < nf) : Inv (emptyTree off) nf := emptyTree_inv off nf h

/-- **C11.insert_preserves**: an insert - with whatever leaf split, separator propagation, internal
splits and root growth it causes - takes a well-formed tree to a well-formed tree. -/
theorem C11_insert_preserves (t t' : Levels) (k lsn nf nf' : Nat) (v : Bytes) (hinv : Inv t nf)
    (h : insertAppend t k lsn v nf = .ok (t', nf')) : Inv t' nf' := insertAppend_inv t t' k lsn nf nf' v hinv h

/-- **C11.every_history**: after any history of insertions, value changes and deletions, starting from
a freshly created table, the tree is well formed. -/
theorem C11_every_history (off nf : Nat) (h : off < nf) (ops : List TOp) :
    Inv (runOps (emptyTree off, nf) ops).1 (runOps (emptyTree off, nf) ops).2 :=
  runOps_inv ops _ (emptyTree_inv off nf h)

/-- **C11.lookup_finds_every_key**: in a well-formed tree every stored key - live or tombstoned - is
found by point lookup from the root (`findCell`'s routing over the separators). -/
theorem C11_lookup_finds_every_key (t : Levels) (nf : Nat) (hinv : Inv t nf) (c : LeafCell) (hc : c ∈ cells t) :
    lookup t c.key = some c := lookup_finds t nf hinv c hc

/-- …hence after every history -/
theorem C11_lookup_after_history (off nf : Nat) (h : off < nf) (ops : List TOp) (c : LeafCell)
    (hc : c ∈ cells (runOps (emptyTree off, nf) ops).1) :
    lookup (runOps (emptyTree off, nf) ops).1 c.key = some c :=
  lookup_finds _ _ (C11_every_history off nf h ops) c hc

/-- **C11.heap_roundtrip**: the levels representation loses nothing with respect to the page heap: reading
a well-formed tree back from its own pages (`ofHeap`, the function the cross-check with the heap model
uses) returns the tree itself. -/
theorem C11_heap_roundtrip (t : Levels) (nf : Nat) (h : Inv t nf) (extra : Nat) :
    ofHeap (heapOf t) (t.inner.length + 2 + extra) (rootOff t) = some t := ofHeap_flatten_fuel t nf h extra

/-- **C11.pages_come_from_the_frontier**: an insert reuses the tree's own pages and otherwise only takes
pages from the allocation frontier, so trees sharing a file never overlap. -/
theorem C11_pages_come_from_the_frontier (t t' : Levels) (k lsn nf nf' : Nat) (v : Bytes)
    (h : insertAppend t k lsn v nf = .ok (t', nf')) : ∀ o ∈ offs t', o ∈ offs t ∨ (nf ≤ o ∧ o < nf') :=
  insertAppend_offs_new t t' k lsn nf nf' v h

/-- non-vacuity: 20 inserts from the empty tree force three leaf splits and a root; the result has
4 leaves under one internal node -/
example : ((runOps (emptyTree 4096, 8192) ((List.range' 1 20).map fun k => .ins k 0 [])).1.leaves.length,
    (runOps (emptyTree 4096, 8192) ((List.range' 1 20).map fun k => .ins k 0 [])).1.inner.length) = (4, 1) := by
  decide +kernel

end Mkdb.Tree

namespace Mkdb.Refine
open Mkdb.Store Mkdb.Tree Mkdb.Page

/-- **C11.heap_lookup_finds_every_key**: on the heap model, `findLeaf` (the routing of `findCell`,
`MarkDeleted` and log replay) from the root of a well-formed tree held by the page heap reaches, for
every stored key, the leaf that holds it, and the key search in that leaf finds the cell. -/
theorem C11_heap_lookup_finds_every_key (s : Store) (t : Levels) (nf : Nat) (hH : Holds s t) (hI : Inv t nf)
    (hF : Filed s) (hdepth : t.inner.length + 1 ≤ treeFuel) (c : LeafCell) (hc : c ∈ cells t) :
    ∃ s' l, findLeaf treeFuel (rootOff t) c.key s = .ok l s' ∧ (∃ d, (l, d) ∈ t.leaves) ∧
      c ∈ l.cells ∧ l.cells.find? (fun x => x.key == c.key) = some c ∧ Holds s' t :=
  findLeaf_finds s t nf hH hI hdepth c hc

end Mkdb.Refine

namespace Mkdb.Store
open Mkdb.Tree Mkdb.Page

/-- **C11.heap_insert_is_levels_insert** (the refinement that carries C01/C11 from the levels model to
the heap model, for every store, every tree depth up to the fuel bound and every insert):
whenever the page heap holds a well-formed tree `t` and the levels insert succeeds with `t'`, the
heap insert - `insertLeaf` / `insertInternal` with their leaf splits, separator propagation,
internal splits and root growth on pages addressed by offset - returns the root of `t'`, leaves the
heap holding `t'`, which is well formed again, advances the allocation frontier exactly as the
levels model says, and leaves every other tree in the file as it was.
The outcome is `.ok`: in particular none of the `.unmodelled` outcomes of `insertLeaf` is reached - not
the insertion inside a leaf, not the split of a leaf that is not the rightmost, and not the append to a
leaf that has a right sibling (the node object the code may have split before, where it computes a wrong
physical slot): `C11_append_never_meets_a_split_node` says this on its own. -/
theorem C11_heap_insert_is_levels_insert (s : Store) (t : Levels) (key lsn : Nat) (value : Bytes)
    (hH : Holds s t) (hI : Inv t s.hdr.nextFree) (hdepth : t.inner.length ≤ treeFuel)
    (t' : Levels) (nf' : Nat) (h : insertAppend t key lsn value s.hdr.nextFree = .ok (t', nf')) :
    ∃ s', insertKeyHeap ⟨rootOff t⟩ key lsn value s = .ok ⟨rootOff t'⟩ s' ∧
      Holds s' t' ∧ Inv t' s'.hdr.nextFree ∧ s'.hdr.nextFree = nf' ∧ s.hdr.nextFree ≤ s'.hdr.nextFree ∧
      ∀ u, Holds s u → (∀ o ∈ offs u, o < s.hdr.nextFree ∧ o ∉ offs t) → Holds s' u :=
  insertKeyHeap_refines_forest s t key lsn value hH hI hdepth t' nf' h

/-- **C11.append_to_a_split_leaf_is_unmodelled** (what the guard is): `btreeNode.split` leaves the moved
cells in the node object and `insertLeafCell` takes `len(leafCells)` as the physical slot, so an append
to a leaf object that was split and not reloaded writes an offset array like `0,1,2,3,9`.  The model has
no physical slots: for an append (key beyond every key of the leaf, value that fits) to a leaf that has
a right sibling - in every store, whatever the parent - it predicts nothing (`.unmodelled`). -/
theorem C11_append_to_a_split_leaf_is_unmodelled (s : Store) (parent : Option Nat) (cur : Leaf)
    (key lsn : Nat) (value : Bytes) (root : Nat) (hR : cur.hasR = true)
    (hpos : ∀ x ∈ keysOfLeaf cur, x < key) (hv : value.length ≤ Mkdb.Generated.c_maxValueSize) :
    insertLeaf parent cur key lsn value root s =
      .unmodelled "insertLeafCell: append to a leaf that was split (physical slot)" := by
  rw [insertLeaf_eq, findPos_beyond _ _ hpos]
  have hlen : (keysOfLeaf cur).length = cur.cells.length := by simp [keysOfLeaf]
  simp only [hlen, hR, bne_self_eq_false, Bool.false_eq_true, if_false, gt_iff_lt, Nat.not_lt.mpr hv, if_true]
  rfl

/-- **C11.append_never_meets_a_split_node**: in the situations C11 quantifies over - the heap holds a
well-formed tree `t`, the key is beyond every stored key (the levels insert succeeds) - the guard of
`C11_append_to_a_split_leaf_is_unmodelled` is never hit: the leaf the insert is routed to is the last leaf of
the tree, it has no right sibling (a node that was split has one, and is never the rightmost again: after a
split the rightmost node is the new one), and the heap insert does not end `.unmodelled`.  For internal nodes
the same follows: a separator is only appended to the ancestors of that leaf. -/
theorem C11_append_never_meets_a_split_node (s : Store) (t : Levels) (key lsn : Nat) (value : Bytes)
    (hH : Holds s t) (hI : Inv t s.hdr.nextFree) (hdepth : t.inner.length ≤ treeFuel)
    (t' : Levels) (nf' : Nat) (h : insertAppend t key lsn value s.hdr.nextFree = .ok (t', nf')) :
    (∀ lpre last d, t.leaves = lpre ++ [(last, d)] → last.hasR = false) ∧
    (∀ w, insertKeyHeap ⟨rootOff t⟩ key lsn value s ≠ .unmodelled w) := by
  refine ⟨fun lpre last d hpre => last_hasR_of_chain hI.chain hpre, fun w hw => ?_⟩
  obtain ⟨s', e, _⟩ := insertKeyHeap_refines s t key lsn value hH hI hdepth t' nf' h
  rw [e] at hw
  cases hw

/-- **C11.heap_insert_refusals**: a duplicate key or an oversized row is refused by the heap insert
exactly when the levels insert refuses it, and nothing the engine can see changes. -/
theorem C11_heap_insert_refusals (s : Store) (t : Levels) (key lsn : Nat) (value : Bytes)
    (hH : Holds s t) (hI : Inv t s.hdr.nextFree) (hdepth : t.inner.length ≤ treeFuel) :
    (insertAppend t key lsn value s.hdr.nextFree = .error .keyExists →
      ∃ s', insertKeyHeap ⟨rootOff t⟩ key lsn value s = .err .keyExists s' ∧ Holds s' t ∧ ∀ off, view s' off = view s off) ∧
    (insertAppend t key lsn value s.hdr.nextFree = .error .rowTooLarge →
      ∃ s', insertKeyHeap ⟨rootOff t⟩ key lsn value s = .err .rowTooLarge s' ∧ Holds s' t ∧ ∀ off, view s' off = view s off) := by
  refine ⟨fun h => ?_, fun h => ?_⟩
  · obtain ⟨s', e, hh, _, hv⟩ := insertKeyHeap_refines_keyExists s t key lsn value hH hI hdepth h
    exact ⟨s', e, hh, hv⟩
  · obtain ⟨s', e, hh, _, hv⟩ := insertKeyHeap_refines_rowTooLarge s t key lsn value hH hI hdepth h
    exact ⟨s', e, hh, hv⟩

/-- **C11.cross_check_never_fires**: the run-time comparison of the two models inside `insertKey`
(`ghostAgrees`) is provably true on well-formed trees: it is a redundancy, kept as a test of the
proof's hypotheses on the states the implementation actually reaches. -/
theorem C11_cross_check_never_fires (s : Store) (t : Levels) (key lsn : Nat) (value : Bytes)
    (hH : Holds s t) (hI : Inv t s.hdr.nextFree) (hdepth : t.inner.length + 2 ≤ treeFuel)
    (hres : (∃ r, insertAppend t key lsn value s.hdr.nextFree = .ok r) ∨
      insertAppend t key lsn value s.hdr.nextFree = .error .keyExists ∨
      insertAppend t key lsn value s.hdr.nextFree = .error .rowTooLarge) :
    insertKey ⟨rootOff t⟩ key lsn value s = insertKeyHeap ⟨rootOff t⟩ key lsn value s :=
  insertKey_eq_insertKeyHeap s t key lsn value hH hI hdepth hres

end Mkdb.Store

/-! ## The two leaf chains, walked -/

namespace Mkdb.Tree
open Mkdb.Page Mkdb.Generated

/-- **C11.leaf_chains**: in a well-formed tree, the left-to-right leaf chain - start at the first leaf,
follow `hasR` / `rSib`, read each sibling from the tree's own pages by offset (`walkRight`, the loop of
`scanRight`) - is exactly the list of leaves in tree order; the right-to-left chain - start at the last
leaf, follow `hasL` / `lSib` (`walkLeft`, the loop of `scanLeft`) - is exactly that list reversed; so each
chain is the exact reverse of the other.  Both walks end by themselves (the outermost leaves carry no
sibling flag): any fuel of at least the number of leaves gives the same result.  Hypotheses: `Inv t nf`
(which `C11_every_history` provides after every history); `first` / `last` are the first and last leaf
(a well-formed tree has at least one leaf). -/
theorem C11_leaf_chains (t : Levels) (nf : Nat) (hinv : Inv t nf) (first last : Leaf × Bool)
    (hfirst : t.leaves.head? = some first) (hlast : t.leaves.getLast? = some last) (extra : Nat) :
    walkRight (leafAt t) (t.leaves.length + extra) first.1 = t.leaves.map (·.1) ∧
    walkLeft (leafAt t) (t.leaves.length + extra) last.1 = (t.leaves.map (·.1)).reverse ∧
    walkLeft (leafAt t) (t.leaves.length + extra) last.1 =
      (walkRight (leafAt t) (t.leaves.length + extra) first.1).reverse := by
  have h1 := walkRight_leaves t nf hinv first hfirst extra
  have h2 := walkLeft_leaves t nf hinv last hlast extra
  exact ⟨h1, h2, by rw [h1, h2]⟩

/-- …hence after every history: the tree has a first and a last leaf, and the two walks from them give the
leaves in tree order and in reverse tree order. -/
theorem C11_leaf_chains_after_history (off nf : Nat) (h : off < nf) (ops : List TOp) :
    ∃ first last, (runOps (emptyTree off, nf) ops).1.leaves.head? = some first ∧
      (runOps (emptyTree off, nf) ops).1.leaves.getLast? = some last ∧
      walkRight (leafAt (runOps (emptyTree off, nf) ops).1) (runOps (emptyTree off, nf) ops).1.leaves.length first.1 =
        (runOps (emptyTree off, nf) ops).1.leaves.map (·.1) ∧
      walkLeft (leafAt (runOps (emptyTree off, nf) ops).1) (runOps (emptyTree off, nf) ops).1.leaves.length last.1 =
        ((runOps (emptyTree off, nf) ops).1.leaves.map (·.1)).reverse := by
  have hinv := C11_every_history off nf h ops
  generalize (runOps (emptyTree off, nf) ops).1 = t at hinv
  generalize (runOps (emptyTree off, nf) ops).2 = nf' at hinv
  have hne : t.leaves ≠ [] := by
    have := linked_below_ne t.inner _ hinv.link
    intro h0; rw [h0] at this; exact this rfl
  obtain ⟨first, hf⟩ : ∃ first, t.leaves.head? = some first := by
    cases hl : t.leaves with
    | nil => exact absurd hl hne
    | cons a _ => exact ⟨a, rfl⟩
  obtain ⟨last, hl⟩ : ∃ last, t.leaves.getLast? = some last :=
    ⟨t.leaves.getLast hne, List.getLast?_eq_some_getLast hne⟩
  obtain ⟨h1, h2, _⟩ := C11_leaf_chains t nf' hinv first last hf hl 0
  exact ⟨first, last, hf, hl, h1, h2⟩

/-- non-vacuity: after 20 inserts (four leaves under a root) the walk to the right from the first leaf
visits the four leaves at offsets 4096, 8192, 16384, 20480 and the walk to the left visits them backwards -/
example :
    let t := (runOps (emptyTree 4096, 8192) ((List.range' 1 20).map fun k => .ins k 0 [])).1
    (t.leaves.head?.map fun f => (walkRight (leafAt t) t.leaves.length f.1).map (·.off)) = some [4096, 8192, 16384, 20480] ∧
    (t.leaves.getLast?.map fun l => (walkLeft (leafAt t) t.leaves.length l.1).map (·.off)) = some [20480, 16384, 8192, 4096] := by
  decide +kernel

end Mkdb.Tree

/-! ## Flushes and reloads -/

namespace Mkdb.Store
open Mkdb.Tree Mkdb.Page

/-- **C11.flush_and_reload_preserve_the_tree**: if the page heap holds a well-formed tree `t`
(`Holds s t`, `Inv t nextFree`), then after `flushPages order` - *any* page write order - and after the
re-open that follows (`reopen`: the cache dropped, the header re-read, every page read from the data file
again), the heap still holds the same tree: page for page the same nodes at the same offsets, every dirty
bit cleared (`clean t`; `flatten (clean t)` is `flatten t` with `false` in every dirty bit).  So the tree
is still well formed at the same allocation frontier, has the same root and the same cells, and every
stored key is still found by point lookup from the root; every page of it is in the data file.
Hypotheses: `MemFiled s` (every cached page object sits under the offset it carries - every primitive of
the page store keeps that) and `SyncedT s t` (the pages of `t` the cache shows *clean* are in the data
file as shown - true of a tree whose pages are all dirty, kept by every tree operation, flush and
re-open: `HeapInv`).  A re-open *without* the flush is a crash and loses the dirty pages (see the examples
below); that is C02/C03, not this property. -/
theorem C11_flush_and_reload_preserve_the_tree (s : Store) (t : Levels) (order : List Nat)
    (hH : Holds s t) (hI : Inv t s.hdr.nextFree) (hmf : MemFiled s) (hsy : SyncedT s t) :
    ∃ s', flushPages order s = .ok () s' ∧
      Holds s' (clean t) ∧ s'.hdr = s.hdr ∧
      Holds (reopen s') (clean t) ∧ (reopen s').hdr = s.hdr ∧ OnDiskT (reopen s') (clean t) ∧
      flatten (clean t) = (flatten t).map (fun e => (e.1, e.2.1, false)) ∧
      Inv (clean t) (reopen s').hdr.nextFree ∧ rootOff (clean t) = rootOff t ∧ cells (clean t) = cells t ∧
      ∀ c ∈ cells t, lookup (clean t) c.key = some c := by
  obtain ⟨s', e, hH', hh, hdh, _, _, _, hod⟩ := flush_holds order s t hH hmf
  have hod' := hod hsy
  have hro : (reopen s').hdr = s.hdr := hdh
  have hI' : Inv (clean t) (reopen s').hdr.nextFree := by rw [hro]; exact clean_inv t _ hI
  refine ⟨s', e, hH', hh, ?_, hro, hod'.of_disk rfl, flatten_clean t, hI', rootOff_clean t, cells_clean t, ?_⟩
  · have := reopen_holds s' (clean t) hod'
    rw [clean_clean] at this
    exact this
  · intro c hc
    exact lookup_finds _ _ hI' c (by rw [cells_clean]; exact hc)

/-- **C11.reload_preserves_a_tree_on_disk**: re-opening a data file that has every page of a tree (`OnDiskT`: what a flush
leaves, `C11_flush_and_reload_preserve_the_tree`) gives a heap that holds the tree, all pages clean -
whatever the cache held. -/
theorem C11_reload_preserves_a_tree_on_disk (s : Store) (t : Levels) (hd : OnDiskT s t) :
    Holds (reopen s) (clean t) ∧ OnDiskT (reopen s) (clean t) ∧ MemFiled (reopen s) :=
  ⟨reopen_holds s t hd, hd.clean.of_disk rfl, reopen_memFiled s⟩

/-- non-vacuity of `C11_reload_preserves_a_tree_on_disk`: the store the history `opsF0` up to its last
flush ends in has every page of a three-leaf tree in the data file -/
example : ∃ s t, OnDiskT s t ∧ t.leaves.length = 3 := by
  obtain ⟨s1, _, _, _, h1, _⟩ := heapRunF_refines (opsF0.take 21) s0 (emptyTree 4096) s0_heapInv opsF0_take_ok
  obtain ⟨s2, _, _, _, _, hod, _⟩ := h1.flush []
  exact ⟨s2, _, hod, by decide +kernel⟩

/-- the hypothesis "flushed first" cannot be dropped: the store `s0` holds the one-leaf tree of a fresh
table in a dirty cached page; re-opened without a flush, the page is gone -/
example : Holds s0 (emptyTree 4096) ∧ view (reopen s0) 4096 = none := ⟨s0_holds, rfl⟩

/-- a store whose cache shows a *clean* page that differs from the data file (LSN 0 in the cache, LSN 7 in
the file); the page store never produces such a cache (a clean page object is a copy of the file) -/
def sStale : Store :=
  { hdr := { nextFree := 8192 }, dhdr := { nextFree := 8192 },
    mem := [(4096, ⟨.leaf ⟨4096, 0, false, false, 0, 0, []⟩, false⟩)],
    disk := [(4096, .leaf ⟨4096, 7, false, false, 0, 0, []⟩)] }

/-- the hypothesis `SyncedT` cannot be dropped either: the heap of `sStale` holds the clean one-leaf tree;
a flush writes nothing (nothing is dirty); the re-opened data file shows the other page -/
example : Holds sStale (clean (emptyTree 4096)) ∧
    ∃ s', flushPages [] sStale = .ok () s' ∧ ¬ Holds (reopen s') (clean (emptyTree 4096)) := by
  exact ⟨by decide +kernel, _, rfl, by decide +kernel⟩

/-- **C11.every_history_with_flushes_and_reloads**: histories in which flushes (any page write order)
and reloads are interleaved with insertions, value changes and deletions (`FROp`, `heapRunF`: the
operations of `C01_heap_history` plus `flush order` and `reload` = `Store.reopen`).  Started in a store
whose heap holds a well-formed tree `t` (`HeapInv s t`: `Holds`, `Inv`, the cache filed, the clean pages
in the data file, the frontier saved when nothing is dirty - true of a freshly created table,
`HeapInv.of_all_dirty`), the heap run succeeds and returns the root of the tree `t'` of the levels run
`runF`, in which a flush and a reload only clear dirty bits; the final heap holds `t'`; `t'` satisfies the
whole shape invariant at the final allocation frontier; every stored key is found by point lookup from
the root, on the levels model and by `findLeaf` on the heap.  Hypotheses `RunOKF` (decidable, along the
levels run): `RunOK` of `C01_heap_history` for the tree operations (ascending insert keys, updated
values that fit a cell, no deletion of a tombstone, depth below the fuel bound 64) and a reload only at a
moment when no page of the tree is dirty (`clean t = t`) - a re-open with dirty pages is a crash. -/
theorem C11_every_history_with_flushes_and_reloads (ops : List FROp) (s : Store) (t : Levels)
    (h : HeapInv s t) (hok : RunOKF (t, s.hdr.nextFree) ops)
    (hdepth : (runF (t, s.hdr.nextFree) ops).1.inner.length + 1 ≤ treeFuel) :
    ∃ s' root', heapRunF (rootOff t) ops s = .ok root' s' ∧
      root' = rootOff (runF (t, s.hdr.nextFree) ops).1 ∧
      Holds s' (runF (t, s.hdr.nextFree) ops).1 ∧
      Inv (runF (t, s.hdr.nextFree) ops).1 s'.hdr.nextFree ∧
      HeapInv s' (runF (t, s.hdr.nextFree) ops).1 ∧
      (∀ c ∈ cells (runF (t, s.hdr.nextFree) ops).1, lookup (runF (t, s.hdr.nextFree) ops).1 c.key = some c) ∧
      (∀ c ∈ cells (runF (t, s.hdr.nextFree) ops).1, ∃ s'' l, findLeaf treeFuel root' c.key s' = .ok l s'' ∧
        l.cells.find? (fun x => x.key == c.key) = some c ∧ view s'' = view s') := by
  obtain ⟨s', root', e, hr, h', _⟩ := heapRunF_refines ops s t h hok
  refine ⟨s', root', e, hr, h'.holds, h'.inv, h', fun c hc => lookup_finds _ _ h'.inv c hc, ?_⟩
  intro c hc
  obtain ⟨s'', l, _, e2, _, hv, _, hfind⟩ := findLeaf_key s' _ _ h'.holds h'.inv hdepth c.key
  exact ⟨s'', l, by rw [hr]; exact e2, hfind c hc rfl, hv⟩

/-- …hence in every history of `C11_every_history_with_flushes_and_reloads` (ascending insert keys, value
changes, deletions, flushes in any write order, reloads) no operation is `.unmodelled`: no append ever goes
to a leaf that has a right sibling, i.e. to a node object that was split. -/
theorem C11_append_never_meets_a_split_node_in_a_history (ops : List FROp) (s : Store) (t : Levels)
    (h : HeapInv s t) (hok : RunOKF (t, s.hdr.nextFree) ops) :
    ∀ w, heapRunF (rootOff t) ops s ≠ .unmodelled w := by
  intro w hw
  obtain ⟨s', root', e, _⟩ := heapRunF_refines ops s t h hok
  rw [e] at hw
  cases hw

/-- **C11.flushes_and_reloads_change_nothing_logical**: the tree at the end of a history with flushes and
reloads (`runF`, the tree the heap holds by `C11_every_history_with_flushes_and_reloads`) is, up to dirty
bits, the tree at the end of the same history with the flushes and reloads left out (`stripF`, `runH`: the
histories of `C11_every_history` / `C01_heap_history`): the same nodes at the same offsets
(`clean … = clean …`), hence the same cells in scan order, the same root, the same allocation frontier.
No hypotheses. -/
theorem C11_flushes_and_reloads_change_nothing_logical (ops : List FROp) (st : Levels × Nat) :
    clean (runF st ops).1 = clean (runH st (stripF ops)).1 ∧
    (flatten (runF st ops).1).map (fun e => (e.1, e.2.1)) = (flatten (runH st (stripF ops)).1).map (fun e => (e.1, e.2.1)) ∧
    cells (runF st ops).1 = cells (runH st (stripF ops)).1 ∧
    rootOff (runF st ops).1 = rootOff (runH st (stripF ops)).1 ∧
    (runF st ops).2 = (runH st (stripF ops)).2 := by
  obtain ⟨h1, h2⟩ := runF_erase ops st st rfl rfl
  refine ⟨h1, ?_, ?_, ?_, h2⟩
  · have := congrArg (fun t => (flatten t).map (fun e => (e.1, e.2.1))) h1
    simp only [flatten_clean, List.map_map] at this
    exact this
  · rw [← cells_clean, h1, cells_clean]
  · rw [← rootOff_clean, h1, rootOff_clean]

/-- non-vacuity: in `opsF0` the flushes and reloads are really there (6 of 23 steps) and the tree they
leave differs from the tree of the stripped history in dirty bits only -/
example : opsF0.length = 23 ∧ (stripF opsF0).length = 17 ∧
    (runF (emptyTree 4096, 8192) opsF0).1 ≠ (runH (emptyTree 4096, 8192) (stripF opsF0)).1 ∧
    clean (runF (emptyTree 4096, 8192) opsF0).1 = clean (runH (emptyTree 4096, 8192) (stripF opsF0)).1 := by
  decide +kernel

/-- non-vacuity: the concrete history `opsF0` (12 inserts with a leaf split and a new root, a flush, an
update, a delete, a flush in another order, a reload, a refused insert, a reload, two inserts with a
second split, a flush, a reload) from the store `s0` of a fresh table meets every hypothesis -/
example : HeapInv s0 (emptyTree 4096) ∧ RunOKF (emptyTree 4096, s0.hdr.nextFree) opsF0 ∧
    (runF (emptyTree 4096, s0.hdr.nextFree) opsF0).1.inner.length + 1 ≤ treeFuel ∧
    (runF (emptyTree 4096, s0.hdr.nextFree) opsF0).1.leaves.length = 3 :=
  ⟨s0_heapInv, opsF0_ok, by decide +kernel⟩

/-- non-vacuity of `C11_flush_and_reload_preserve_the_tree`: the store the history `opsF0` minus its last
flush and reload ends in holds a tree with three leaves, two of them dirty, and meets the hypotheses -/
example : ∃ s t, Holds s t ∧ Inv t s.hdr.nextFree ∧ MemFiled s ∧ SyncedT s t ∧ t.leaves.length = 3 ∧
    clean t ≠ t := by
  obtain ⟨s', _, _, _, h', hn⟩ := heapRunF_refines (opsF0.take 21) s0 (emptyTree 4096) s0_heapInv opsF0_take_ok
  exact ⟨s', _, h'.holds, h'.inv, h'.filed, h'.synced, by decide +kernel⟩

end Mkdb.Store

/-!
## The search inside a page: `btreeNode.findCellOffsetByKey`

Every lookup, insert, value change and deletion finds its cell (and every descent its child) with the
binary search of `findCellOffsetByKey`.  The heap model states the search by its result (`Store.findPos`:
the number of keys below the key, and whether the key stands there); `Mkdb.BSearch.loop` is the loop as
written - `low`, `high`, `mid` as Go ints, `high = -1` on an empty node, an index outside the slot array
a panic.  Quantifier: every slot array of any length, every key; no bound.
-/
namespace Mkdb.BSearch

/-- on the strictly ascending slot arrays the shape invariant gives every page, the loop of
`findCellOffsetByKey` returns exactly the insertion point and hit flag the heap model (and through it
every C01 / C11 theorem) takes for granted -/
theorem C11_binary_search_is_the_insertion_point (keys : List Nat) (k : Nat)
    (hs : keys.Pairwise (· < ·)) :
    search keys k = .ret (Mkdb.Store.findPos keys k).1 (Mkdb.Store.findPos keys k).2 :=
  search_eq_findPos keys k hs

/-- ... so it reports a hit exactly for the keys the page holds, at the slot that holds them -/
theorem C11_binary_search_finds_exactly_the_stored_keys (keys : List Nat) (k : Nat)
    (hs : keys.Pairwise (· < ·)) :
    (∃ p, search keys k = .ret p true) ↔ k ∈ keys :=
  search_hit_iff_mem keys k hs

/-- and on a miss the position returned is where the key belongs: everything before it is smaller,
everything from it on is larger (what `insertLeafCell` / `insertInternalCell` and the descent rely on) -/
theorem C11_binary_search_miss_is_the_insertion_point (keys : List Nat) (k p : Nat)
    (hs : keys.Pairwise (· < ·)) (h : search keys k = .ret p false) :
    p ≤ keys.length ∧ (∀ i (hi : i < keys.length), i < p → keys[i] < k) ∧
      (∀ i (hi : i < keys.length), p ≤ i → k < keys[i]) := 
  search_miss_bounds keys k p hs h

/-- on ANY slot array - ascending or not, with duplicate keys or not, empty or full - the loop ends,
never indexes outside the array (no panic), answers a position within `0 .. len`, and a reported hit is
a real one: a page whose keys were damaged cannot crash or hang the search (C18's concern, C11's code) -/
theorem C11_binary_search_never_leaves_the_slot_array (keys : List Nat) (k : Nat) :
    ∃ p f, search keys k = .ret p f ∧ p ≤ keys.length ∧ (f = true → keys[p]? = some k) :=
  loop_ret keys k 0 _ (Int.le_refl 0) (by omega) (by omega)

/-- non-vacuity: a 7-slot page; a hit in the middle, a miss between two keys, a miss beyond the end,
the empty page; and an array that is NOT ascending, on which the loop misses a key that is there
(the sortedness hypothesis of the first three theorems is needed) -/
example : search [2, 3, 5, 7, 11, 13, 17] 7 = .ret 3 true ∧ search [2, 3, 5, 7, 11, 13, 17] 8 = .ret 4 false ∧
    search [2, 3, 5, 7, 11, 13, 17] 99 = .ret 7 false ∧ search [] 1 = .ret 0 false ∧
    search [9, 1, 5] 9 = .ret 3 false := by
  decide +kernel

end Mkdb.BSearch


/-!
## The search inside a page, on the pages the engine builds

`C11_binary_search_is_the_insertion_point` needs the slot array strictly ascending.  The shape invariant
gives that on every page: for leaves it is `KeysAsc`; for internal nodes the separators are (by `SepsOK`)
a sublist of the lowest keys of the level below, which bottom-up are a sublist of the leaf keys
(`LeavesNonempty` makes the lowest key of a leaf a real key).  Proofs: `Mkdb/Proofs/TreeShape.lean`.
-/
namespace Mkdb.Tree
open Mkdb.Page Mkdb.Generated

/-- **C11.every_page_is_sorted**: in a well-formed tree the keys of every leaf and the separators of
every internal node of every level are strictly ascending - the hypothesis of the binary-search
theorems, from the shape invariant. -/
theorem C11_every_page_is_sorted (t : Levels) (nf : Nat) (hinv : Inv t nf) :
    (∀ l ∈ t.leaves, (l.1.cells.map (·.key)).Pairwise (· < ·)) ∧
    (∀ lvl ∈ t.inner, ∀ n ∈ lvl, (n.1.cells.map (·.key)).Pairwise (· < ·)) :=
  ⟨inv_leaf_sorted t nf hinv, inv_internal_sorted t nf hinv⟩

/-- **C11.every_page_is_searched_by_the_loop**: after any history of insertions, value changes and
deletions from a freshly created table (the trees of `C11_every_history`: any number of leaf splits,
internal splits and root growths), on every page of the tree - every leaf, every internal node of every
level - and for EVERY key `k`, stored or not, the loop of `findCellOffsetByKey` as written
(`BSearch.search` on the page's keys in slot order) returns exactly the position and hit flag the heap
model takes for granted (`Store.findPos (keysOfLeaf l) k` / `Store.findPos (keysOfInternal n) k`);
it reports a hit exactly when `k` is on the page; and it never indexes outside the slot array (no
panic).  So the sortedness hypothesis of `C11_binary_search_is_the_insertion_point` holds on every page
the engine can build. -/
theorem C11_every_page_is_searched_by_the_loop (off nf : Nat) (h : off < nf) (ops : List TOp) (k : Nat) :
    (∀ l ∈ (runOps (emptyTree off, nf) ops).1.leaves,
      BSearch.search (Store.keysOfLeaf l.1) k =
        .ret (Store.findPos (Store.keysOfLeaf l.1) k).1 (Store.findPos (Store.keysOfLeaf l.1) k).2 ∧
      ((∃ p, BSearch.search (Store.keysOfLeaf l.1) k = .ret p true) ↔ k ∈ Store.keysOfLeaf l.1) ∧
      BSearch.search (Store.keysOfLeaf l.1) k ≠ .panic) ∧
    (∀ lvl ∈ (runOps (emptyTree off, nf) ops).1.inner, ∀ n ∈ lvl,
      BSearch.search (Store.keysOfInternal n.1) k =
        .ret (Store.findPos (Store.keysOfInternal n.1) k).1 (Store.findPos (Store.keysOfInternal n.1) k).2 ∧
      ((∃ p, BSearch.search (Store.keysOfInternal n.1) k = .ret p true) ↔ k ∈ Store.keysOfInternal n.1) ∧
      BSearch.search (Store.keysOfInternal n.1) k ≠ .panic) :=
  have hinv := C11_every_history off nf h ops
  ⟨fun l hl => BSearch.search_sorted_package _ k (inv_leaf_sorted _ _ hinv l hl),
   fun lvl hlvl n hn => BSearch.search_sorted_package _ k (inv_internal_sorted _ _ hinv lvl hlvl n hn)⟩

/-- non-vacuity: after 20 inserts the tree has four leaves with keys 1-4, 5-8, 9-12, 13-20 under a root
with the separators 5, 9, 13; on the root the loop sends key 11 to slot 2 (no hit) and finds the
separator 9 at slot 1; on the last leaf it finds key 17 at slot 4 and puts the absent key 99 at slot 8 -/
example :
    (runOps (emptyTree 4096, 8192) ((List.range' 1 20).map fun k => .ins k 0 [])).1.leaves.map
      (fun l => Store.keysOfLeaf l.1) = [[1, 2, 3, 4], [5, 6, 7, 8], [9, 10, 11, 12], [13, 14, 15, 16, 17, 18, 19, 20]] ∧
    (runOps (emptyTree 4096, 8192) ((List.range' 1 20).map fun k => .ins k 0 [])).1.inner.map
      (fun lvl => lvl.map fun n => Store.keysOfInternal n.1) = [[[5, 9, 13]]] ∧
    BSearch.search [5, 9, 13] 11 = .ret 2 false ∧ BSearch.search [5, 9, 13] 9 = .ret 1 true ∧
    BSearch.search [13, 14, 15, 16, 17, 18, 19, 20] 17 = .ret 4 true ∧
    BSearch.search [13, 14, 15, 16, 17, 18, 19, 20] 99 = .ret 8 false := by
  decide +kernel

end Mkdb.Tree

namespace Mkdb.Store
open Mkdb.Tree Mkdb.Page

/-- **C11.every_heap_page_is_searched_by_the_loop**: on the heap model.  If the store's page heap holds
a well-formed tree `t` (`HeapInv s t`), then every page object of that tree - every `(off, node, dirty)`
of the flattened heap - is what the store shows at its offset (`view s off`), and on its keys in slot
order (`nodeKeys`: `keysOfLeaf` of a leaf, `keysOfInternal` of an internal node) the loop of
`findCellOffsetByKey`, for EVERY key `k`, returns exactly `findPos`, reports a hit exactly when `k` is on
the page, and does not panic.  (Pages of the store that belong to no tree the hypothesis speaks of are
not covered: nothing is known about them.) -/
theorem C11_every_heap_page_is_searched_by_the_loop (s : Store) (t : Levels) (h : HeapInv s t) (k : Nat) :
    ∀ e ∈ flatten t, view s e.1 = some (e.2.1, e.2.2) ∧
      BSearch.search (nodeKeys e.2.1) k = .ret (findPos (nodeKeys e.2.1) k).1 (findPos (nodeKeys e.2.1) k).2 ∧
      ((∃ p, BSearch.search (nodeKeys e.2.1) k = .ret p true) ↔ k ∈ nodeKeys e.2.1) ∧
      BSearch.search (nodeKeys e.2.1) k ≠ .panic :=
  fun e he => ⟨h.holds e he, BSearch.search_sorted_package _ k (inv_page_sorted t _ h.inv e he)⟩

/-- ... hence at the end of every history of `C11_every_history_with_flushes_and_reloads` (ascending
insert keys, value changes, deletions, flushes in any write order, reloads): the heap run succeeds, and
every page of the tree it leaves in the store is searched by the loop exactly as `findPos` says, for
every key, without a panic. -/
theorem C11_every_heap_page_is_searched_by_the_loop_in_a_history (ops : List FROp) (s : Store) (t : Levels)
    (h : HeapInv s t) (hok : RunOKF (t, s.hdr.nextFree) ops) (k : Nat) :
    ∃ s' root', heapRunF (rootOff t) ops s = .ok root' s' ∧
      ∀ e ∈ flatten (runF (t, s.hdr.nextFree) ops).1, view s' e.1 = some (e.2.1, e.2.2) ∧
        BSearch.search (nodeKeys e.2.1) k = .ret (findPos (nodeKeys e.2.1) k).1 (findPos (nodeKeys e.2.1) k).2 ∧
        ((∃ p, BSearch.search (nodeKeys e.2.1) k = .ret p true) ↔ k ∈ nodeKeys e.2.1) ∧
        BSearch.search (nodeKeys e.2.1) k ≠ .panic := by
  obtain ⟨s', root', e, _, h', _⟩ := heapRunF_refines ops s t h hok
  exact ⟨s', root', e, C11_every_heap_page_is_searched_by_the_loop s' _ h' k⟩

/-- non-vacuity: the history `opsF0` from the store `s0` of a fresh table meets the hypotheses
(`s0_heapInv`, `RunOKF` by computation) and leaves four pages in the heap: the leaves at 4096, 8192, 16384
with keys 1-4, 5-8, 9-14 and the root at 12288 with the separators 5, 9; the loop on the root sends key 7
to slot 1 and on the last leaf finds key 13 at slot 4 -/
example : HeapInv s0 (emptyTree 4096) ∧ RunOKF (emptyTree 4096, s0.hdr.nextFree) opsF0 ∧
    (flatten (runF (emptyTree 4096, s0.hdr.nextFree) opsF0).1).map (fun e => (e.1, nodeKeys e.2.1)) =
      [(4096, [1, 2, 3, 4]), (8192, [5, 6, 7, 8]), (16384, [9, 10, 11, 12, 13, 14]), (12288, [5, 9])] ∧
    BSearch.search [5, 9] 7 = .ret 1 false ∧ BSearch.search [9, 10, 11, 12, 13, 14] 13 = .ret 4 true := by
  exact ⟨s0_heapInv, opsF0_ok, by decide +kernel⟩

end Mkdb.Store
