import Mkdb.Proofs.LRU
/-!
# C15 — the page cache is a correct LRU that never drops unsaved pages

Property theorems only (helper lemmas live in `Mkdb/Proofs/LRU.lean`).
Quantifier: every sequence of `set / get / flip-dirty` operations, every capacity,
every key set — no bound on length.
-/
namespace Mkdb.LRU

/-- **C15.bounded**: in every state reachable from the empty cache of any capacity the
cache holds at most `cap` entries and at most one entry per key. -/
theorem C15_bounded (cap : Nat) (ops : List Op) :
    (run (Cache.empty cap) ops).items.length ≤ cap ∧
    (keys (run (Cache.empty cap) ops).items).Nodup := by
  have h := run_inv (Cache.empty cap) ops ⟨Nat.zero_le _, List.nodup_nil⟩
  have hc : (run (Cache.empty cap) ops).cap = cap := run_cap _ _
  exact ⟨by simpa [hc] using h.1, h.2⟩

/-- **C15.lookup (store)**: a successful `set` makes exactly the stored page visible. -/
theorem C15_lookup_after_set (c : Cache) (k id : Nat) (d : Bool)
    (hok : (c.set k id d).2 = true) :
    find? (c.set k id d).1.items k = some ⟨k, id, d⟩ := by
  rcases set_cases c k id d with ⟨_, _, hs⟩ | ⟨_, ⟨l, hi, hs⟩ | ⟨_, hs⟩⟩ <;> rw [hs] at hok ⊢
  · simp [find?]
  · obtain ⟨t, rfl, _⟩ := Recency.insert_some hi
    simp [find?]
  · cases hok

/-- **C15.lookup (keep)**: after a successful `set k id`, however many other operations
follow (anything except another `set` of the same key), a lookup of `k` either
misses (it was evicted) or returns page `id` — never a different page. -/
theorem C15_lookup (c : Cache) (hc : Inv c) (k id : Nat) (d : Bool)
    (hok : (c.set k id d).2 = true) (ops : List Op)
    (hops : ∀ op ∈ ops, ∀ id' d', op ≠ .set k id' d') :
    (step (run (c.set k id d).1 ops) (.get k)).2 = .miss ∨
    ∃ d', (step (run (c.set k id d).1 ops) (.get k)).2 = .hit id d' := by
  rcases find?_run_other (c.set k id d).1 k ops hops (step_inv c (.set k id d) hc) with h | h
  · left; simp [step, Cache.get, h]
  · rw [C15_lookup_after_set c k id d hok] at h
    cases hf : find? (run (c.set k id d).1 ops).items k with
    | none => rw [hf] at h; cases h
    | some e =>
      rw [hf] at h
      simp only [Option.map_some, Option.some.injEq] at h
      exact .inr ⟨e.dirty, by simp [step, Cache.get, hf, h]⟩

/-- **C15.evicts_lru_clean**: when a `set` of a new key into a full cache succeeds, exactly
one resident entry leaves; it is clean, and every entry colder than it is dirty (so it
is the least recently used among the clean ones).  All other entries keep their order. -/
theorem C15_evicts_lru_clean (c : Cache) (k id : Nat) (d : Bool)
    (hnew : find? c.items k = none) (hfull : c.items.length = c.cap)
    (hok : (c.set k id d).2 = true) :
    ∃ pre v post, c.items = pre ++ v :: post ∧
      (c.set k id d).1.items = ⟨k, id, d⟩ :: (pre ++ post) ∧
      v.dirty = false ∧ (∀ e ∈ post, e.dirty = true) ∧ victim c.items = some v := by
  rcases set_cases c k id d with ⟨_, hf, _⟩ | ⟨_, ⟨l, hi, hs⟩ | ⟨_, hs⟩⟩
  · rw [hnew] at hf; cases hf
  · obtain ⟨t, rfl, _, _, ⟨hl, _⟩ | ⟨_, he⟩⟩ := Recency.insert_some hi
    · exact absurd hfull hl
    · obtain ⟨pre, v, post, h1, h2, h3, h4⟩ := Recency.evict_some he
      exact ⟨pre, v, post, h1, by rw [hs, h2], h3, h4, h1 ▸ victim_of_split h3 h4⟩
  · rw [hs] at hok; cases hok

/-- **C15.dirty_pinned**: no operation ever removes a dirty entry: after any step, every
entry that was dirty before is still resident (same key, same page), unless that very
step replaced it by a `set` of its own key. -/
theorem C15_dirty_pinned (c : Cache) (hc : Inv c) (op : Op) (e : Entry)
    (he : e ∈ c.items) (hd : e.dirty = true)
    (hop : ∀ id d, op ≠ .set e.key id d) :
    ∃ e' ∈ (step c op).1.items, e'.key = e.key ∧ e'.id = e.id := by
  rcases step_shape c op with hs | ⟨e0, t, hs, hop', _, _, hkept, _⟩ | ⟨k, d, rfl⟩
  · rw [hs]; exact ⟨e, he, rfl, rfl⟩
  · rw [hs]
    by_cases hk : e.key = e0.key
    · -- not a `set` of its key: it is the entry a `get` found, now in front
      rcases hop' with rfl | ⟨_, hf⟩
      · exact absurd (by rw [hk]) (hop e0.id e0.dirty)
      · have h1 : find? c.items e.key = some e := find?_of_mem hc.2 he
        rw [hk, hf] at h1
        cases h1
        exact ⟨e, List.mem_cons_self, rfl, rfl⟩
    · exact ⟨e, List.mem_cons_of_mem _ (hkept e he hd hk), rfl, rfl⟩
  · simp only [step, Cache.flip]
    refine ⟨if e.key == k then { e with dirty := d } else e, ?_, ?_, ?_⟩
    · exact List.mem_map.mpr ⟨e, he, rfl⟩
    · split <;> rfl
    · split <;> rfl

/-- **C15.refuse_iff**: an insertion is refused exactly when the key is new, the cache is
full, and every resident page is dirty. -/
theorem C15_refuse_iff (c : Cache) (k id : Nat) (d : Bool) :
    (c.set k id d).2 = false ↔
      find? c.items k = none ∧ c.items.length = c.cap ∧ ∀ e ∈ c.items, e.dirty = true := by
  rw [← Recency.insert_none_iff (dirty := Entry.dirty) (e := ⟨k, id, d⟩)]
  rcases set_cases c k id d with ⟨_, hf, hs⟩ | ⟨hf, ⟨_, hi, hs⟩ | ⟨hi, hs⟩⟩ <;> rw [hs] <;> simp [*]

/-- A refused insertion changes nothing. -/
theorem C15_refuse_unchanged (c : Cache) (k id : Nat) (d : Bool)
    (h : (c.set k id d).2 = false) : (c.set k id d).1 = c := by
  rcases set_cases c k id d with ⟨_, _, hs⟩ | ⟨_, ⟨_, _, hs⟩ | ⟨_, hs⟩⟩ <;> rw [hs] at h ⊢ <;> cases h

/-! Non-vacuity: the hypotheses above are met by concrete reachable states. -/

example : (Cache.set { cap := 2, items := [⟨1, 10, true⟩, ⟨2, 20, false⟩] } 3 30 false).2 = true := by decide
example : find? ([⟨1, 10, true⟩, ⟨2, 20, false⟩] : List Entry) 3 = none := by decide
example : (Cache.set { cap := 2, items := [⟨1, 10, true⟩, ⟨2, 20, true⟩] } 3 30 false).2 = false := by decide
example : Inv { cap := 2, items := [⟨1, 10, true⟩, ⟨2, 20, false⟩] } := by unfold Inv; decide

/-! ### a flush changes the recency order

`fileStore.flushPagesLocked` (storage/page.go) calls `update` for every dirty page in the order of a Go
map iteration; `update` ends in `LRUCache.set` of the page under its own key (`MoveToFront`), then the
page is marked clean.  `touchAll c order` (Proofs/LRU) is that loop with the iteration order as
a parameter.  It is not a new kind of step: every turn is the identity or a `set` of the model. -/

/-- **C15.flush_reordering_is_a_run_of_sets**: the recency change of a flush, in whatever order the map
iteration takes, is a run of `set k id false` operations of the model (one per dirty resident page met);
so a history with flushes in between is a history without, and every state reachable with flushes is
reachable without them: `C15_bounded`, `C15_dirty_pinned`, `C15_refuse_iff`, `C15_evicts_lru_clean` (which
hold in every state, or every reachable state) cover them - the next eviction after a flush still takes
the least recently used clean entry of the reordered list. -/
theorem C15_flush_reordering_is_a_run_of_sets (c : Cache) (ops : List Op) (order : List Nat) :
    ∃ ops', touchAll (run c ops) order = run c (ops ++ ops') ∧ ∀ op ∈ ops', ∃ k id, op = .set k id false := by
  obtain ⟨ops', h1, h2⟩ := touchAll_is_run (run c ops) order
  exact ⟨ops', by rw [h1, run_append], h2⟩

/-- **C15.bounded_after_flush**: after any operations from the empty cache and the recency change of a
flush in any order, the cache holds at most `cap` entries and one entry per key, and its capacity is
unchanged. -/
theorem C15_bounded_after_flush (cap : Nat) (ops : List Op) (order : List Nat) :
    (touchAll (run (Cache.empty cap) ops) order).items.length ≤ cap ∧
    (keys (touchAll (run (Cache.empty cap) ops) order).items).Nodup ∧
    (touchAll (run (Cache.empty cap) ops) order).cap = cap := by
  obtain ⟨ops', h1, _⟩ := C15_flush_reordering_is_a_run_of_sets (Cache.empty cap) ops order
  rw [h1]
  exact ⟨(C15_bounded cap (ops ++ ops')).1, (C15_bounded cap (ops ++ ops')).2, run_cap _ _⟩

/-- **C15.lookup_across_flush**: the recency change of a flush keeps, under every key, the page that was
filed there (resident stays resident with the same page, absent stays absent), and keeps the invariant
of `C15_lookup` / `C15_dirty_pinned`. -/
theorem C15_lookup_across_flush (c : Cache) (order : List Nat) (k : Nat) :
    (find? (touchAll c order).items k).map (·.id) = (find? c.items k).map (·.id) ∧
    (Inv c → Inv (touchAll c order)) :=
  ⟨find?_touchAll c order k, fun h => touchAll_inv c h order⟩

/-- **C15.flush_order_changes_the_victim** (the model evaluated): capacity 2, pages 1 and 2 dirty.  After
the flush meeting 1 then 2 the list is 2, 1 and the victim of the next insertion is page 1; meeting 2 then
1 it is 1, 2 and the victim is page 2.  Both are clean lists of the same two pages. -/
theorem C15_flush_order_changes_the_victim :
    (touchAll ⟨2, [⟨1, 10, true⟩, ⟨2, 20, true⟩]⟩ [1, 2]).items = [⟨2, 20, false⟩, ⟨1, 10, false⟩] ∧
    (touchAll ⟨2, [⟨1, 10, true⟩, ⟨2, 20, true⟩]⟩ [2, 1]).items = [⟨1, 10, false⟩, ⟨2, 20, false⟩] ∧
    victim (touchAll ⟨2, [⟨1, 10, true⟩, ⟨2, 20, true⟩]⟩ [1, 2]).items = some ⟨1, 10, false⟩ ∧
    victim (touchAll ⟨2, [⟨1, 10, true⟩, ⟨2, 20, true⟩]⟩ [2, 1]).items = some ⟨2, 20, false⟩ := by decide

end Mkdb.LRU
