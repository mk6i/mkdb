import Mkdb.Proofs.Session
import Mkdb.Proofs.SessInvHistory
import Mkdb.Proofs.DbNameCanon
import Mkdb.Proofs.SessCrashExamples
/-!
# C17 — databases are isolated and survive any USE pattern

Property theorems only, about the session model `Mkdb.Session.exec` (engine/session.go
`Session.ExecQuery` over storage.CreateDB / OpenRelation / Close).  Quantifier: every session state
(any number of databases with any contents, any selection) and every statement; the history
statements follow by induction over the statement list.  What the model cannot exhibit - the
flush timer of a relation service that was never closed, file handles, the clock - is exercised
by the harness with the real timer (partial by nature for the schedule quantifier).
-/
namespace Mkdb.Session
open Mkdb.Engine Mkdb.Sql
open Mkdb.Store hiding Stmt   -- (`Store.Stmt`, a row statement of the replay proofs, is not meant here)

/-- the statements that keep the selection and the set of databases: all but CREATE DATABASE and USE (SELECT and
SHOW DATABASES included; `SessionStep.isRouted` is the narrower notion: the four kinds handed to `evalStmt`) -/
def routed : Stmt → Bool
  | .createDatabase _ | .use _ => false
  | _ => true

/-- **C17.frame**: a DDL/DML/SELECT/SHOW statement changes at most the selected database: the
selection, the set of databases and every other database's pages and log are exactly what they
were - whatever the statement does, succeeds or fails.  (A SELECT is evaluated on the selected database
and changes NOTHING, the selected database included, whatever it returns: `exec_select_fst`.) -/
theorem C17_frame (s : Sess) (st : Stmt) (h : routed st = true) :
    (exec s st).1.cur = s.cur ∧ names (exec s st).1 = names s ∧
    ∀ m, s.cur ≠ some m → getDB (exec s st).1 m = getDB s m := by
  exact (exec_step s st).frame (fun n hn => by rw [hn] at h; cases h) (fun n hn => by rw [hn] at h; cases h)

/-- **C17.no_database_selected**: without a selected database every routed statement other than
SHOW DATABASES is an error that changes nothing. -/
theorem C17_no_database_selected (s : Sess) (st : Stmt) (h : routed st = true) (hs : st ≠ .showDatabases)
    (hc : s.cur = none) : exec s st = (s, .err "noDbSelected") := by
  cases st with
  | createDatabase n => simp [routed] at h
  | use n => simp [routed] at h
  | showDatabases => exact absurd rfl hs
  | select q => simp only [exec, hc]
  | _ => rw [exec_routed s _ rfl, onCurrent_none _ hc]

/-- **C17.create_existing**: creating a database that exists (names compared in lower case: `canon`,
the model of Go's Unicode-aware `strings.ToLower`) is an error that changes nothing. -/
theorem C17_create_existing (s : Sess) (name : Bytes) (hv : validDbName name = true)
    (hne : name.isEmpty = false) (h : (getDB s (canon name)).isSome = true) :
    exec s (.createDatabase name) = (s, .err "dbExists") := by
  simp [exec, h, hv, hne]

/-- **C17.empty_name_refused**: the empty name is no database: CREATE DATABASE and USE refuse it and
change nothing. -/
theorem C17_empty_name_refused (s : Sess) :
    exec s (.createDatabase []) = (s, .err "noDbSelected") ∧ exec s (.use []) = (s, .err "noDbSelected") := by
  have hv : validDbName [] = true := by decide
  constructor <;> simp [exec, hv]

/-- **C17.invalid_name_refused**: a name whose lower-cased form (`canonBytes`: what Go's `checkDBName`
checks, `strings.ToLower` of the name) is not one plain directory name (`.`, `..`, a path
separator or NUL inside, more than 255 bytes) is refused by CREATE DATABASE and by USE with an error
that changes nothing, whatever exists - no database appears under a different name, nothing is opened
twice, nothing is written outside the data directory (`CREATE DATABASE "a/b"` would name a directory below another). -/
theorem C17_invalid_name_refused (s : Sess) (name : Bytes) (hv : validDbName name = false) :
    exec s (.createDatabase name) = (s, .err "invalidDbName") ∧
    exec s (.use name) = (s, .err "invalidDbName") := by
  simp [exec, hv]

/-- **C17.create_new**: a successful CREATE DATABASE adds exactly one database under the canonical name -
with an empty log - and leaves the selection and every existing database alone. -/
theorem C17_create_new (s s' : Sess) (name : Bytes) (h : exec s (.createDatabase name) = (s', .ok)) :
    getDB s (canon name) = none ∧ names s' = names s ++ [canon name] ∧ s'.cur = s.cur ∧
    (∃ db, getDB s' (canon name) = some db ∧ db.wal = []) ∧
    ∀ m, m ≠ canon name → getDB s' m = getDB s m := by
  have hstep := exec_step s (.createDatabase name)
  rw [h] at hstep
  rcases hstep.createDatabase with ⟨_, hno⟩ | ⟨_, hnone, es⟩
  · exact absurd rfl hno
  · subst es
    exact ⟨hnone, by rw [names_setDB, hnone]; rfl, rfl, ⟨newDB, getDB_setDB_same _ _ _, rfl⟩,
      fun m hm => getDB_setDB_ne s _ hm⟩

/-- **C17.use_missing**: selecting a database that does not exist is an error that changes nothing - in
particular the previously selected database stays selected and open. -/
theorem C17_use_missing (s : Sess) (name : Bytes) (hv : validDbName name = true)
    (hne : name.isEmpty = false) (h : getDB s (canon name) = none) :
    exec s (.use name) = (s, .err "dbNotExist") := by
  simp [exec, h, hv, hne]

/-- **C17.use_current**: re-selecting the selected database changes nothing at all. -/
theorem C17_use_current (s : Sess) (name : Bytes) (hv : validDbName name = true)
    (hne : name.isEmpty = false) (h : (getDB s (canon name)).isSome = true)
    (hc : s.cur = some (canon name)) : exec s (.use name) = (s, .ok) := by
  have hn : (getDB s (canon name)).isNone = false := by
    cases hg : getDB s (canon name) <;> simp_all
  cases s with
  | mk dbs cur =>
    simp only at hc
    subst hc
    simp [exec, hn, hv, hne]

/-- **C17.use_other**: selecting another existing database succeeds, selects it, keeps the set of
databases, and leaves every database other than the previously selected one (which is closed, i.e.
flushed) exactly as it was. -/
theorem C17_use_other (s : Sess) (name : Bytes) (hv : validDbName name = true)
    (hne : name.isEmpty = false) (h : (getDB s (canon name)).isSome = true) :
    (exec s (.use name)).2 = .ok ∧ (exec s (.use name)).1.cur = some (canon name) ∧
    names (exec s (.use name)).1 = names s ∧
    ∀ m, s.cur ≠ some m → getDB (exec s (.use name)).1 m = getDB s m := by
  have hok := use_accepted hv hne h
  have hstep := exec_step s (.use name)
  rw [hok] at hstep
  exact ⟨hok, hstep.use_ok⟩

/-- a session history and its outputs -/
def runOuts (s : Sess) : List Stmt → Sess × List Out
  | [] => (s, [])
  | st :: rest =>
    let r := exec s st
    let rr := runOuts r.1 rest
    (rr.1, r.2 :: rr.2)

/-- the canonical names of the CREATE DATABASE statements that returned ok, in order -/
def created : List Stmt → List Out → List String
  | .createDatabase n :: sts, .ok :: outs => canon n :: created sts outs
  | _ :: sts, _ :: outs => created sts outs
  | _, _ => []

/-- non-vacuity: `a/b`, `..` are refused, `plain` is a name -/
example : validDbName [97, 47, 98] = false ∧ validDbName [46, 46] = false ∧ validDbName [112, 108, 97, 105, 110] = true := by
  decide +kernel

/-! ### database names: identity and validity are those of the lower-cased name

`canon` models Go's `strings.ToLower` (storage/file.go `checkDBName`, `makeDBDir`, `dbFilePath`,
engine/session.go): the bytes are read as UTF-8 the way Go reads them (every byte that is part of no
well-formed sequence is U+FFFD), every code point is mapped by `unicode.ToLower` - the table
`Mkdb/Generated/Lower.lean`, regenerated from the Go library by tools/extract -, and encoded again. -/

/-- **C17.lowering_is_the_generated_table**: the model's `unicode.ToLower` maps every code point the
generated table lists to the listed image, moves no code point the table does not list, and every
image is a fixed point (lowering twice is lowering once).  The table itself - that it is what the Go
library computes - is trusted to the extractor. -/
theorem C17_lowering_is_the_generated_table :
    (∀ p ∈ Mkdb.Generated.lowerPairsList, lowerRune p.1 = p.2) ∧
    (∀ r, lowerRune r ≠ r → (r, lowerRune r) ∈ Mkdb.Generated.lowerPairsList) ∧
    (∀ r, lowerRune (lowerRune r) = lowerRune r) :=
  ⟨lowerRune_listed, lowerRune_moved, lowerRune_idem⟩

/-- **C17.canonical_name_is_its_own_canonical_name**: the bytes of the canonical name - the directory
name, what SHOW DATABASES lists - are `canonBytes`, and naming a database by them names the same
database: `canon` is idempotent on its own output.  (Go's decoder reads back what the UTF-8 encoder
writes, and no image of `unicode.ToLower` is itself moved.) -/
theorem C17_canonical_name_is_its_own_canonical_name (name : Bytes) :
    (canon name).toUTF8.toList = canonBytes name ∧ canon (canon name).toUTF8.toList = canon name ∧
    validDbName (canon name).toUTF8.toList = validDbName name :=
  ⟨toUTF8_canon name, canon_idem name, validDbName_of_canon_eq (canon_idem name)⟩

/-- **C17.same_lowering_same_database**: two spellings with the same lower-cased form are the same
database name for CREATE DATABASE and USE - same outcome, same resulting session, in every session
state: both valid or both not, both empty or both not, the same database found or missing. -/
theorem C17_same_lowering_same_database (s : Sess) (a b : Bytes) (h : canon a = canon b) :
    exec s (.createDatabase a) = exec s (.createDatabase b) ∧ exec s (.use a) = exec s (.use b) := by
  have hv := validDbName_of_canon_eq h
  have he := isEmpty_of_canon_eq h
  constructor <;> simp only [exec, h, hv, he]

/-- **C17.ascii_upper_case_is_the_same_database**: a name and its ASCII-upper-cased spelling (the
letters a-z replaced by A-Z, every other byte - valid UTF-8 or not - kept) are the same database. -/
theorem C17_ascii_upper_case_is_the_same_database (s : Sess) (name : Bytes) :
    canon (name.map up8) = canon name ∧
    exec s (.createDatabase (name.map up8)) = exec s (.createDatabase name) ∧
    exec s (.use (name.map up8)) = exec s (.use name) :=
  ⟨canon_map_up8 name, C17_same_lowering_same_database s _ _ (canon_map_up8 name)⟩

/-- **C17.ascii_names_fold_bytewise**: on a pure-ASCII name the lower-cased form is the byte-wise
folding of A-Z to a-z (the byte-wise path of `strings.ToLower`): such a name is valid exactly if the
folded bytes are one plain directory name. -/
theorem C17_ascii_names_fold_bytewise (name : Bytes) (h : ∀ c ∈ name, c.toNat < 128) :
    canonBytes name = name.map low8 :=
  canonBytes_ascii name h

/-- examples (kernel-evaluated; the sess harness runs the same names against the code): `É` and `é`
are one database; the Kelvin sign lowers to `k`, `İ` to `i`; σ and ς, s and ſ stay apart; 127 × `Ⱥ` is
254 bytes but 381 lowered: refused; 100 × the Kelvin sign is 300 bytes but 100 lowered: accepted, the
database `kkk…k`; the byte FF alone is the database U+FFFD (EF BF BD), as FE is; after distinct
prefixes it gives distinct databases; the overlong form C0 AF of `/` is no `/` but two U+FFFD; an
encoded surrogate is three U+FFFD -/
example :
    canonBytes [0xC3, 0x89] = [0xC3, 0xA9] ∧ canonBytes [0xC3, 0xA9] = [0xC3, 0xA9] ∧
    canonBytes [0xE2, 0x84, 0xAA] = [107] ∧ canonBytes [0xC4, 0xB0] = [105] ∧
    canonBytes [0xCF, 0x83] ≠ canonBytes [0xCF, 0x82] ∧ canonBytes [115] ≠ canonBytes [0xC5, 0xBF] ∧
    validDbName ((List.replicate 127 [0xC8, 0xBA]).flatten) = false ∧
    validDbName ((List.replicate 85 [0xC8, 0xBA]).flatten) = true ∧
    validDbName ((List.replicate 100 [0xE2, 0x84, 0xAA]).flatten) = true ∧
    canonBytes ((List.replicate 100 [0xE2, 0x84, 0xAA]).flatten) = List.replicate 100 107 ∧
    canonBytes [0xFF] = [0xEF, 0xBF, 0xBD] ∧ canonBytes [0xFE] = canonBytes [0xFF] ∧
    canonBytes [0xEF, 0xBF, 0xBD] = canonBytes [0xFF] ∧
    canonBytes [97, 0xFF] ≠ canonBytes [98, 0xFF] ∧ canonBytes [65, 0xFE] = canonBytes [97, 0xFF] ∧
    canonBytes [0xC0, 0xAF] = [0xEF, 0xBF, 0xBD, 0xEF, 0xBF, 0xBD] ∧ validDbName [0xC0, 0xAF] = true ∧
    canonBytes [0xED, 0xA0, 0x80] = canonBytes [0xFF, 0xFF, 0xFF] ∧
    validDbName (List.replicate 85 0xFF) = true ∧ validDbName (List.replicate 86 0xFF) = false := by
  decide +kernel

theorem exec_create_fst (s : Sess) (n : Bytes) (h : (exec s (.createDatabase n)).2 ≠ .ok) :
    (exec s (.createDatabase n)).1 = s := by
  rcases (exec_step s (.createDatabase n)).createDatabase with ⟨e, _⟩ | ⟨hok, _⟩
  · exact e
  · exact absurd hok h

theorem created_none {st : Stmt} {o : Out} (h : ∀ n, st = .createDatabase n → o ≠ .ok) : created [st] [o] = [] := by
  cases st with
  | createDatabase n =>
    cases o with
    | ok => exact absurd rfl (h n rfl)
    | _ => rfl
  | _ => rfl

theorem names_exec (s : Sess) (st : Stmt) :
    names (exec s st).1 = names s ++ created [st] [(exec s st).2] := by
  rcases (exec_step s st).names_eq with ⟨e, hno⟩ | ⟨n, rfl, hok, e⟩
  · rw [e, created_none hno, List.append_nil]
  · rw [e, hok]; rfl

theorem created_cons (st : Stmt) (o : Out) (sts : List Stmt) (outs : List Out) :
    created (st :: sts) (o :: outs) = created [st] [o] ++ created sts outs := by
  cases st with
  | createDatabase n => cases o <;> rfl
  | _ => rfl

/-- **C17.names_are_the_created_ones**: after any history the databases of the session are exactly
those whose CREATE DATABASE returned ok, in creation order. -/
theorem C17_names_are_the_created_ones (s : Sess) (sts : List Stmt) :
    names (runOuts s sts).1 = names s ++ created sts (runOuts s sts).2 := by
  induction sts generalizing s with
  | nil => exact (List.append_nil _).symm
  | cons st rest ih =>
    show names (runOuts (exec s st).1 rest).1 =
      names s ++ created (st :: rest) ((exec s st).2 :: (runOuts (exec s st).1 rest).2)
    rw [ih, names_exec, created_cons st (exec s st).2 rest, List.append_assoc]

/-- **C17.show_lists_exactly_the_databases**: SHOW DATABASES changes nothing and returns a permutation
of the session's database names - none missing, none invented, none twice. -/
theorem C17_show (s : Sess) :
    exec s .showDatabases = (s, .rows (sortedNames s)) ∧ (sortedNames s).Perm (names s) := by
  refine ⟨rfl, ?_⟩
  have := sortedNames_perm_aux s.dbs []
  simpa [sortedNames, names] using this

/-- non-vacuity: a session with two databases, one selected; the hypotheses of the theorems above are met -/
example : let s : Sess := { dbs := [("a", {}), ("b", {})], cur := some "a" }
    (getDB s "b").isSome = true ∧ s.cur ≠ some "b" ∧ routed (.delete [] none) = true := by
  decide

/-! ### contents: the session abstracts to one plain database per name

`SessAbs s w` (Proofs/SessInv): `w name` is the plain in-memory database (`Spec.SDB`: tables, their
declared columns, their rows in order) that the database `name` of the session holds - every database
satisfies the invariant `DbInv` for it, every database other than the selected one is closed.  The
theorems below say what `exec` and `restart` do to `w`. -/

/-- `runOuts` is the history runner of the invariant theorems -/
theorem runOuts_eq_runAll (s : Sess) (sts : List Stmt) : runOuts s sts = runAll s sts := by
  induction sts generalizing s with
  | nil => rfl
  | cons st rest ih =>
    show ((runOuts (exec s st).1 rest).1, (exec s st).2 :: (runOuts (exec s st).1 rest).2) = _
    rw [ih]; rfl

/-- **C17.contents_are_what_a_reader_sees**: in a session that abstracts to the plain databases `w`, what
`RelationService.Fetch` - the source of every SELECT - returns for a table of a database is the declared
columns and exactly the rows, value for value and in order, that the plain database `w name` holds for
it. -/
theorem C17_contents_are_what_a_reader_sees (s : Sess) (w : String → Spec.SDB) (h : SessAbs s w)
    (name : String) (db : DB) (hg : getDB s name = some db) (t : Bytes) (tb : Spec.STable)
    (hfind : Spec.findTable (w name) t = some tb) : Reads db t tb.cols (tb.rows.map (·.vals)) := by
  obtain ⟨pt, sch, tbls, hi, _⟩ := h.dbs (name, db) (getDB_mem hg)
  exact hi.reads hfind

/-- non-vacuity: the table `t` of the selected database of `sessT` -/
example : SessAbs sessT (fun _ => sdbA0) ∧ getDB sessT "d" = some tableDB ∧
    Spec.findTable sdbA0 tname = some ⟨tname, schemaA, []⟩ :=
  ⟨sessAbs_sessT, getDB_sessT, rfl⟩

/-- **C17.empty_session**: the session before any statement abstracts (to anything: it has no database). -/
theorem C17_empty_session (w : String → Spec.SDB) : SessAbs {} w := sessAbs_empty w

/-- **C17.use_changes_no_database**: USE - of another database, of the selected one, of a missing one,
with an invalid name - changes the contents of NO database: the session abstracts to the same plain
databases `w` afterwards (the database it leaves is flushed and re-opened: a closed database for the same
plain database), it does not crash, and the invariant holds again (so every database accepts statements
as before). -/
theorem C17_use_changes_no_database (s : Sess) (w : String → Spec.SDB) (h : SessAbs s w) (name : Bytes) :
    SessAbs (exec s (.use name)).1 w ∧ (exec s (.use name)).2 ≠ Out.panic :=
  use_sessAbs h name

/-- **C17.any_number_of_uses**: switching between databases with USE any number of times - back and
forth, re-selecting the current one, naming databases that do not exist - leaves every database's
contents as they were. -/
theorem C17_any_number_of_uses (s : Sess) (w : String → Spec.SDB) (h : SessAbs s w) (names : List Bytes) :
    SessAbs (runOuts s (names.map Stmt.use)).1 w := by
  induction names generalizing s with
  | nil => exact h
  | cons n rest ih =>
    exact ih _ (use_sessAbs h n).1

/-- **C17.create_database_adds_an_empty_database**: an accepted CREATE DATABASE adds a database whose
contents are EMPTY (no tables) under the canonical name and changes the contents of no other database;
a refused one (`C17_create_existing`, `C17_invalid_name_refused`, `C17_empty_name_refused`) changes no
contents at all; either way the invariant holds again. -/
theorem C17_create_database_adds_an_empty_database (s : Sess) (w : String → Spec.SDB) (h : SessAbs s w)
    (name : Bytes) :
    ∃ w', SessAbs (exec s (.createDatabase name)).1 w' ∧
      (∀ m, (getDB s m).isSome = true → w' m = w m) ∧
      ((exec s (.createDatabase name)).2 = Out.ok → w' (canon name) = [] ∧ ∀ m, m ≠ canon name → w' m = w m) ∧
      ((exec s (.createDatabase name)).2 ≠ Out.ok → w' = w) := by
  obtain ⟨w', h1, _, h3, h4⟩ := createDatabase_sessAbs h name
  by_cases hok : (exec s (.createDatabase name)).2 = Out.ok
  · refine ⟨w', h1, h3, fun _ => ?_, fun hne => absurd hok hne⟩
    rw [h4 hok]
    exact ⟨setW_same w _ _, fun m hm => setW_other w _ hm⟩
  · have hs : (exec s (.createDatabase name)).1 = s := exec_create_fst s name hok
    refine ⟨w, by rw [hs]; exact h, fun _ _ => rfl, fun h0 => absurd h0 hok, fun _ => rfl⟩

/-- **C17.statements_change_only_the_selected_database**: whatever a statement does - accepted, refused,
refused at a later row - the contents of every database other than the selected one are what they were
(each database holds only what was written while it was selected), and the invariant holds again.
`StmtSide`: the side conditions of the statement-level theorems for the selected database
(`C18_session_statement_never_crashes`; for a SELECT - evaluated by the session model - a select list of
a shape the parser builds and a FROM clause over user tables: `SelectSide`). -/
theorem C17_statements_change_only_the_selected_database (s : Sess) (w : String → Spec.SDB) (h : SessAbs s w)
    (st : Stmt) (hside : StmtSide s st) :
    ∃ w', SessAbs (exec s st).1 w' ∧ ∀ m, s.cur ≠ some m → (getDB s m).isSome = true → w' m = w m := by
  obtain ⟨w', h1, _, h3⟩ := exec_sessAbs h st hside
  exact ⟨w', h1, h3⟩

/-- **C17.accepted_statement_changes_the_selected_database_as_the_plain_model_says**: a statement routed
to the selected database that the plain model accepts (`Spec.specStmt`; side conditions `StmtRoom`)
succeeds, and the selected database then holds exactly the plain model's result; every other database
holds what it held. -/
theorem C17_accepted_statement (s : Sess) (w : String → Spec.SDB) (h : SessAbs s w) (n : String)
    (hc : s.cur = some n) (db : DB) (hg : getDB s n = some db) (st : Stmt)
    (hk : (∃ t c, st = .createTable t c) ∨ (∃ t c r, st = .insert t c r) ∨ (∃ t a c, st = .update t a c) ∨
      (∃ t c, st = .delete t c))
    (hroom : ∀ pt sch tbls, DbInv db (w n) pt sch tbls → StmtRoom db pt sch tbls st)
    (sdb' : Spec.SDB) (hspec : Spec.specStmt (w n) st = some sdb') :
    (exec s st).2 = Out.ok ∧ SessAbs (exec s st).1 (setW w n sdb') := by
  exact accepted_sessAbs h hc hg (isRouted_of_kind hk) hroom hspec

/-- **C17.restart_preserves_every_database**: for a session that satisfies the invariant, `restart` -
close (flush) the selected database, run start-up recovery on every database, re-open the files -
succeeds: NO recovery fails.  Afterwards the session has the same database names, nothing selected, and
abstracts to THE SAME plain databases `w`: every database holds the same tables with the same rows
(`C17_contents_are_what_a_reader_sees`), and the invariant holds again - every database is closed - so
the `exec` theorems apply again: after a USE each database accepts new rows as before
(`C17_accepted_statement`, `C18_session_statement_never_crashes`).  (A crash WITHOUT the close:
`C17_crash_restart_keeps_every_database`, under the crash invariant; per database C02,
`C02_rounds_no_recovery_fails`.) -/
theorem C17_restart_preserves_every_database (s : Sess) (w : String → Spec.SDB) (h : SessAbs s w) :
    ∃ s', restart s = some s' ∧ SessAbs s' w ∧ names s' = names s ∧ s'.cur = none := by
  obtain ⟨s', e, h1, h2, h3, _⟩ := restart_sessAbs h
  exact ⟨s', e, h1, h2, h3⟩

/-- **C17.restart_after_any_history**: from the empty session, after ANY history of statements that meets
the side conditions, restart succeeds and preserves the contents of every database, and the session goes
on without a crash. -/
theorem C17_restart_after_any_history (sts : List Stmt) (hok : SessOK {} sts) :
    ∃ w s', SessAbs (runOuts {} sts).1 w ∧ restart (runOuts {} sts).1 = some s' ∧ SessAbs s' w ∧
      names s' = names (runOuts {} sts).1 ∧
      ∀ st, StmtSide s' st → (exec s' st).2 ≠ Out.panic ∧ SessInv (exec s' st).1 := by
  rw [runOuts_eq_runAll]
  obtain ⟨⟨w, hw⟩, _⟩ := runAll_sessAbs sts {} (fun _ => []) (sessAbs_empty _) hok
  obtain ⟨s', e, h1, h2, _⟩ := restart_sessAbs hw
  refine ⟨w, s', hw, e, h1, h2, fun st hside => ?_⟩
  obtain ⟨w', k1, k2, _⟩ := exec_sessAbs h1 st hside
  exact ⟨k2, w', k1⟩

/-- non-vacuity of `SessOK`: every history of CREATE DATABASE / USE / SHOW DATABASES / SELECT / DELETE /
UPDATE statements meets it (`sessOK_plain`, `C18_plain_histories_never_crash`; a SELECT - here `SELECT * FROM
t`, evaluated on the selected database - with a select list of a parser-produced shape over user tables) -/
example : SessOK {} [.createDatabase [100], .use [100], .delete tname none,
    .select { list := [⟨.star, []⟩], from_ := some (.table ⟨tname, none⟩) }, .use [120], .showDatabases] :=
  sessOK_plain _ _ (fun st hst => by
    simp only [List.mem_cons, List.not_mem_nil, or_false] at hst
    rcases hst with rfl | rfl | rfl | rfl | rfl | rfl
    · exact trivial
    · exact trivial
    · exact tname_ne_sys
    · exact ⟨by decide, by decide +kernel⟩
    · exact trivial
    · exact trivial)

/-- non-vacuity: the session whose selected database is the one `CREATE DATABASE; CREATE TABLE t (a INT)`
produces abstracts to the plain database with the empty table `t (a INT)`; `INSERT INTO t VALUES (5),
(6)` is accepted there with room, so `C17_accepted_statement` and `C17_restart_preserves_every_database`
apply to it and to the session after it -/
example : SessAbs sessT (fun _ => sdbA0) ∧ sessT.cur = some "d" ∧ getDB sessT "d" = some tableDB ∧
    (∀ pt sch tbls, DbInv tableDB sdbA0 pt sch tbls →
      StmtRoom tableDB pt sch tbls (.insert tname [] [[.int 5], [.int 6]])) ∧
    Spec.specStmt sdbA0 (.insert tname [] [[.int 5], [.int 6]]) = some sdbA1 :=
  ⟨sessAbs_sessT, rfl, getDB_sessT, room_insert56_tableDB, rfl⟩

/-! ### crashes: the process dies between two statements

`crashRestart` (Model/Session.lean): the cache of the selected database is dropped WITHOUT a flush, then
start-up recovery of every database.  The invariant `SessAbs` is too weak for it (it speaks of the cache of
the selected database, not of its log: `C17_crash_loses_rows_of_a_refused_insert`); the crash invariant
`SessCrash s w` (Proofs/SessCrash) adds: every database is reached from a checkpointed one (`Ckpt`, C02)
by row statements the plain model accepts. -/

/-- **C17.crash_restart_keeps_every_database**: for a session that satisfies the crash invariant for the
plain databases `w`, `crashRestart` - the process dies between two statements, no page of the selected
database is flushed, start-up recovery of every database - succeeds: NO recovery fails.  Afterwards the
session has the same names, nothing selected, satisfies the crash invariant (hence `SessAbs`) again and
abstracts to THE SAME plain databases `w`: every database holds the same tables with the same rows
(`C17_contents_are_what_a_reader_sees`), the acknowledged statements of the selected database included.
Hypothesis `SessCrash` (instead of `SessAbs`, which `C17_restart_preserves_every_database` needs): it
excludes sessions whose selected database holds rows that no log record holds - those a statement refused
at a later row left behind; there the statement is false (`C17_crash_loses_rows_of_a_refused_insert`). -/
theorem C17_crash_restart_keeps_every_database (s : Sess) (w : String → Spec.SDB) (h : SessCrash s w) :
    ∃ s', crashRestart s = some s' ∧ SessCrash s' w ∧ SessAbs s' w ∧ names s' = names s ∧ s'.cur = none := by
  obtain ⟨s', e, h1, h2, h3, _⟩ := crashRestart_ok h.abs h.allB
  exact ⟨s', e, h1.base, h1.base.abs, h2, h3⟩

/-- non-vacuity: the session after CREATE DATABASE d; USE d; CREATE TABLE t (a INT), with `d` selected -/
example : SessCrash sessT (fun _ => sdbA0) ∧ sessT.cur = some "d" := ⟨sessCrash_sessT, rfl⟩

/-- **C17.crash_invariant**: the crash invariant implies the session invariant, holds in the empty
session, and is kept by USE, by CREATE DATABASE (accepted or refused), by every statement that leaves the
session as it is (SELECT, SHOW DATABASES, anything while no database is selected), and by `restart`.
(Accepted INSERT / UPDATE / DELETE: `C17_accepted_statement_keeps_the_crash_invariant`.) -/
theorem C17_crash_invariant (s : Sess) (w : String → Spec.SDB) (h : SessCrash s w) :
    SessInv s ∧ SessCrash {} w ∧ (∀ name, SessCrash (exec s (.use name)).1 w) ∧
    (∀ name, ∃ w', SessCrash (exec s (.createDatabase name)).1 w') ∧
    (∀ st, (exec s st).1 = s → SessCrash (exec s st).1 w) ∧
    (∃ s', restart s = some s' ∧ SessCrash s' w ∧ names s' = names s ∧ s'.cur = none) := by
  refine ⟨h.inv, sessCrash_empty w, use_sessCrash h, fun name => ⟨_, createDatabase_sessCrash h name⟩,
    fun st hs => by rw [hs]; exact h, ?_⟩
  obtain ⟨s', e, h1, h2, h3, _⟩ := restart_ok h.abs h.allB
  exact ⟨s', e, h1.base, h2, h3⟩

/-- **C17.accepted_statement_keeps_the_crash_invariant**: `C17_accepted_statement` for the crash invariant:
an INSERT / UPDATE / DELETE that the plain model accepts (with room) succeeds, the selected database then
holds the plain model's result - in its cache AND, after a crash, from its log.  And an accepted CREATE TABLE
on a selected database that is checkpointed (`CkptNS`: right after USE or after another CREATE TABLE).
CREATE TABLE after row statements with no flush between them: `C17_create_table_anywhere_keeps_the_crash_invariant`
(the `CkptNS` asked here is not needed); refused statements: `C17_refused_statement_keeps_the_crash_invariant`. -/
theorem C17_accepted_statement_keeps_the_crash_invariant (s : Sess) (w : String → Spec.SDB) (h : SessCrash s w)
    (n : String) (hc : s.cur = some n) (db : DB) (hg : getDB s n = some db) (st : Stmt)
    (hk : ((∃ t c r, st = .insert t c r) ∨ (∃ t a c, st = .update t a c) ∨ (∃ t c, st = .delete t c)) ∨
      (CkptNS db (w n) ∧ ∃ t c, st = .createTable t c))
    (hroom : ∀ pt sch tbls, DbInv db (w n) pt sch tbls → StmtRoom db pt sch tbls st)
    (sdb' : Spec.SDB) (hspec : Spec.specStmt (w n) st = some sdb') :
    (exec s st).2 = Out.ok ∧ SessCrash (exec s st).1 (setW w n sdb') := by
  rcases hk with hk | ⟨hck, t, c, rfl⟩
  · exact accepted_sessCrash h ⟨hc, hg, hspec, hroom⟩ hk
  · exact createTable_sessCrash h ⟨hc, hg, hspec, hroom⟩

/-- non-vacuity: `INSERT INTO t VALUES (5), (6)` on `sessT` -/
example : SessCrash sessT (fun _ => sdbA0) ∧ getDB sessT "d" = some tableDB ∧
    (∀ pt sch tbls, DbInv tableDB sdbA0 pt sch tbls →
      StmtRoom tableDB pt sch tbls (.insert tname [] [[.int 5], [.int 6]])) ∧
    Spec.specStmt sdbA0 (.insert tname [] [[.int 5], [.int 6]]) = some sdbA1 :=
  ⟨sessCrash_sessT, getDB_sessT, room_insert56_tableDB, rfl⟩

/-- **C17.histories_with_crashes_partial**: every session reached from the empty session by a history
`CrashHist` - CREATE DATABASE (accepted or refused), USE, statements that leave the session as it is,
accepted INSERT / UPDATE / DELETE, accepted CREATE TABLE on a checkpointed selected database, `restart`,
`crashRestart`, in any order and number - satisfies the crash invariant for the plain databases `w` of the
acknowledged statements: what a reader sees of every database is `w` (`C17_contents_are_what_a_reader_sees`),
and a crash or a restart at this point succeeds (no recovery fails), keeps the names and leads to such a
session for the same `w`.  PARTIAL: the histories exclude statements refused by the selected database (a
refusal at a later row leaves unlogged rows: the statement is then false,
`C17_crash_loses_rows_of_a_refused_insert`; a refusal before any change is harmless:
`C17_histories_with_crashes_and_refused_statements`) and a CREATE TABLE issued after row statements with no USE /
CREATE TABLE / restart between them (allowed in `C17_histories_with_crashes_create_table_anywhere`). -/
theorem C17_histories_with_crashes_partial (s : Sess) (w : String → Spec.SDB) (h : CrashHist s w) :
    SessCrash s w ∧ SessAbs s w ∧
    (∃ s', crashRestart s = some s' ∧ CrashHist s' w ∧ names s' = names s ∧ s'.cur = none) ∧
    (∃ s', restart s = some s' ∧ CrashHist s' w ∧ names s' = names s ∧ s'.cur = none) :=
  ⟨crashHist_sessCrash h, (crashHist_sessCrash h).abs, (crashHist_recovers h).1, (crashHist_recovers h).2⟩

/-- non-vacuity: the empty history, crashed twice with a restart between -/
example : ∃ s, CrashHist s (fun _ => []) :=
  ⟨_, .crash (.restart (.crash .empty (s' := {}) rfl) (s' := {}) rfl) (s' := {}) rfl⟩

/-- **C17.crash_example** (computed): CREATE DATABASE d; USE d; CREATE TABLE t (a INT); INSERT INTO t VALUES
(5) - all accepted; crash with no page flushed since CREATE TABLE; recovery succeeds; USE d; a reader of `t`
sees the row `(5)`. -/
theorem C17_crash_example :
    allOk (runAll {} crashHistory).2 = true ∧
    ((crashRestart (runAll {} crashHistory).1).map fun s' => rowsOf (exec s' (.use [100])).1 "d")
      = some (some [[.int 5]]) := by
  unfold crashHistory
  rw [runAll_dt]
  decide +kernel

/-- **C17.crash_loses_rows_of_a_refused_insert** (computed; why `SessAbs` is not enough for a crash).
CREATE DATABASE d; USE d; CREATE TABLE t (a INT); INSERT INTO t VALUES (5), ('x') - refused at the second
row, nothing logged, but the first row stays in the cache (C14): a reader sees `(5)`; `restart` (which
flushes) keeps it; `crashRestart` loses it.  Then UPDATE t SET a = 7 WHERE a = 5 is ACCEPTED and logged, a
reader sees `(7)`; after a crash recovery succeeds and `t` is empty: the acknowledged UPDATE is lost with
the row it changed. -/
theorem C17_crash_loses_rows_of_a_refused_insert :
    rowsOf (runAll {} ghostHistory).1 "d" = some [[.int 5]] ∧
    (restart (runAll {} ghostHistory).1).map (rowsOf · "d") = some (some [[.int 5]]) ∧
    (crashRestart (runAll {} ghostHistory).1).map (rowsOf · "d") = some (some []) ∧
    allOk [(exec (runAll {} ghostHistory).1 ghostUpdate).2] = true ∧
    rowsOf (exec (runAll {} ghostHistory).1 ghostUpdate).1 "d" = some [[.int 7]] ∧
    (crashRestart (exec (runAll {} ghostHistory).1 ghostUpdate).1).map (rowsOf · "d") = some (some []) := by
  unfold ghostHistory
  rw [runAll_dt]
  decide +kernel


/-! ### crashes: the databases that are not selected are checkpointed; histories as lists of operations

`SessCrash' s w` (Proofs/SessCrash): `SessCrash s w`, and every database that is NOT selected is
checkpointed (`CkptNS`).  With it a CREATE TABLE right after USE needs no extra hypothesis. -/

/-- **C17.crash_invariant_with_closed_databases**: the stronger crash invariant `SessCrash'` implies
`SessCrash`, holds in the empty session, is kept by USE, CREATE DATABASE (for the plain databases `cdW`: a
new empty one if the statement was accepted), every statement that leaves the session as it is, and by
`restart` and `crashRestart` - neither fails, and after either EVERY database is checkpointed for the same
plain database (nothing is selected then).  (Accepted INSERT / UPDATE / DELETE / CREATE TABLE:
`row_crashInv`, `createTable_crashInv`, used in `C17_histories_with_crashes`.) -/
theorem C17_crash_invariant_with_closed_databases (s : Sess) (w : String → Spec.SDB) (h : SessCrash' s w) :
    SessCrash s w ∧ SessCrash' {} w ∧ (∀ name, SessCrash' (exec s (.use name)).1 w) ∧
    (∀ name, SessCrash' (exec s (.createDatabase name)).1 (cdW s w name)) ∧
    (∀ st, (exec s st).1 = s → SessCrash' (exec s st).1 w) ∧
    (∃ s', restart s = some s' ∧ SessCrash' s' w ∧ names s' = names s ∧ s'.cur = none ∧
      ∀ p ∈ s'.dbs, CkptNS p.2 (w p.1)) ∧
    (∃ s', crashRestart s = some s' ∧ SessCrash' s' w ∧ names s' = names s ∧ s'.cur = none ∧
      ∀ p ∈ s'.dbs, CkptNS p.2 (w p.1)) :=
  ⟨h.base, (crashInv_empty _ w false).sessCrash', fun name => (use_crashInv crashLike h.crashInv name).sessCrash',
    fun name => (createDatabase_crashInv crashLike h.crashInv name).sessCrash', fun st hs => by rw [hs]; exact h,
    restart_ok h.base.abs h.base.allB, crashRestart_ok h.base.abs h.base.allB⟩

/-- non-vacuity: the session after CREATE DATABASE d -/
example : SessCrash' sess1 (setW (fun _ => []) (canon [100]) []) := createTable_after_use_example.1

/-- **C17.use_leaves_both_databases_checkpointed**: after an ACCEPTED USE in a session that satisfies
`SessCrash'`: the invariant holds again for the same plain databases; the named database is selected; every
OTHER database is checkpointed (`CkptNS`) - in particular the one selected before, which USE flushed and
re-opened (`DbCrashB.flushed`); and the newly selected database is checkpointed too, unless it was the
selected one already (then USE changes nothing and it may hold row statements not yet flushed). -/
theorem C17_use_leaves_both_databases_checkpointed (s : Sess) (w : String → Spec.SDB) (h : SessCrash' s w)
    (name : Bytes) (hok : (exec s (.use name)).2 = Out.ok) :
    SessCrash' (exec s (.use name)).1 w ∧ (exec s (.use name)).1.cur = some (canon name) ∧
    (∀ p ∈ (exec s (.use name)).1.dbs, p.1 ≠ canon name → CkptNS p.2 (w p.1)) ∧
    (∀ c db, s.cur = some c → c ≠ canon name → getDB (exec s (.use name)).1 c = some db → CkptNS db (w c)) ∧
    ∃ db, getDB (exec s (.use name)).1 (canon name) = some db ∧
      (s.cur ≠ some (canon name) → CkptNS db (w (canon name))) := by
  obtain ⟨h1, h2, h3⟩ := use_ckpt crashLike h.crashInv name hok
  exact ⟨(use_crashInv crashLike h.crashInv name).sessCrash', h1, h2,
    fun c db _ hne hg => h2 (c, db) (getDB_mem hg) hne, h3⟩

/-- non-vacuity: USE d in the session after CREATE DATABASE d is accepted -/
example : SessCrash' sess1 (setW (fun _ => []) (canon [100]) []) ∧ (exec sess1 (.use [100])).2 = Out.ok :=
  ⟨createTable_after_use_example.1, createTable_after_use_example.2.1⟩

/-- **C17.create_table_after_use_keeps_the_crash_invariant**: a CREATE TABLE that the plain model accepts
(with room), issued right after an accepted USE of a database that was not the selected one - in particular
after `restart` or a crash, when nothing is selected - is accepted, keeps `SessCrash'` for the plain model's
result, and leaves the selected database checkpointed (so another CREATE TABLE may follow).  NO hypothesis
that the selected database is checkpointed: `SessCrash'` gives it (`C17_use_leaves_both_databases_checkpointed`).
`db` is the database USE selected. -/
theorem C17_create_table_after_use_keeps_the_crash_invariant (s : Sess) (w : String → Spec.SDB)
    (h : SessCrash' s w) (name : Bytes) (hok : (exec s (.use name)).2 = Out.ok) (hsel : s.cur ≠ some (canon name))
    (db : DB) (hg : getDB (exec s (.use name)).1 (canon name) = some db) (t : Bytes) (cols : List ColDef)
    (hroom : ∀ pt sch tbls, DbInv db (w (canon name)) pt sch tbls → StmtRoom db pt sch tbls (.createTable t cols))
    (sdb' : Spec.SDB) (hspec : Spec.specStmt (w (canon name)) (.createTable t cols) = some sdb') :
    (exec (exec s (.use name)).1 (.createTable t cols)).2 = Out.ok ∧
    SessCrash' (exec (exec s (.use name)).1 (.createTable t cols)).1 (setW w (canon name) sdb') ∧
    ∃ db', getDB (exec (exec s (.use name)).1 (.createTable t cols)).1 (canon name) = some db' ∧
      CkptNS db' sdb' := by
  obtain ⟨h1, h2, db', hg', _, hck'⟩ := createTable_crashInv crashLike (use_crashInv crashLike h.crashInv name)
    ⟨use_cur hok, hg, hspec, hroom⟩
  exact ⟨h1, h2.sessCrash', db', hg', hck'⟩

/-- non-vacuity: CREATE DATABASE d; then USE d; CREATE TABLE t (a INT) -/
example : SessCrash' sess1 (setW (fun _ => []) (canon [100]) []) ∧ (exec sess1 (.use [100])).2 = Out.ok ∧
    sess1.cur ≠ some (canon [100]) ∧ getDB (exec sess1 (.use [100])).1 (canon [100]) = some newDB ∧
    (∀ pt sch tbls, DbInv newDB (setW (fun _ => []) (canon [100]) [] (canon [100])) pt sch tbls →
      StmtRoom newDB pt sch tbls (.createTable tname acols)) ∧
    Spec.specStmt (setW (fun _ => []) (canon [100]) [] (canon [100])) (.createTable tname acols) =
      some [⟨tname, [⟨"a", .int, 0⟩], []⟩] := createTable_after_use_example

/-- **C17.histories_with_crashes_from**: the list form of `C17_histories_with_crashes_partial`, from any
session.  `runOps` runs a list of operations - statements, `restart`, crash (`crashRestart`) - and is `none`
if a recovery fails.  From a session that satisfies `CInv s w clean` (`SessCrash' s w`, and if the flag
`clean` is set every database is checkpointed), for every list that meets `OkOps`: the run is `some s'` - NO
recovery in it fails - and `s'` satisfies `SessCrash'` (hence `SessCrash`, `SessAbs`) for the plain
databases `worldOps s w ops`: those the plain model `Spec.specStmt` computes, statement by statement, on
the selected database (CREATE DATABASE adds an empty one when accepted; restarts and crashes change none).
`OkOps` asks NOTHING of CREATE DATABASE, USE, SHOW DATABASES, SELECT, `restart`, crash; of CREATE TABLE /
INSERT / UPDATE / DELETE: either the statement leaves the session as it is and the plain model refuses it
too, or the plain model accepts it with room (`StmtRoom`), a CREATE TABLE only while the flag is set:
the flag is set by an accepted USE of another database, an accepted CREATE TABLE, a restart, a crash, and
cleared by an accepted row statement.  EXCLUDED: statements the selected database refuses after changing
its cache (a refusal at a later row: the statement is then false, `C17_crash_loses_rows_of_a_refused_insert`;
a refusal that only advances counters: `C17_histories_with_crashes_and_oversized_rows`), CREATE TABLE after row
statements with no USE of another database / restart / crash between them
(`C17_histories_with_crashes_create_table_anywhere`). -/
theorem C17_histories_with_crashes_from (s : Sess) (w : String → Spec.SDB) (clean : Bool) (ops : List SOp)
    (h : CInv s w clean) (hok : OkOps s w clean ops) :
    ∃ s', runOps s ops = some s' ∧ SessCrash' s' (worldOps s w ops) ∧ SessAbs s' (worldOps s w ops) ∧
      (cleanOps s w clean ops = true → ∀ p ∈ s'.dbs, CkptNS p.2 (worldOps s w ops p.1)) := by
  obtain ⟨s', e, h'⟩ := runOps_cinv ops s w clean h hok
  exact ⟨s', e, h'.inv, h'.inv.base.abs, h'.ck⟩

/-- non-vacuity: from `sessT` (CREATE DATABASE d; USE d; CREATE TABLE t (a INT)): INSERT INTO t VALUES (5),
(6) - accepted with room -; crash; USE d; restart -/
example : CInv sessT (fun _ => sdbA0) false ∧ OkOps sessT (fun _ => sdbA0) false
    [.stmt (.insert tname [] [[.int 5], [.int 6]]), .crash, .stmt (.use [100]), .restart] := okOps_sessT_example

/-- **C17.histories_with_crashes**: from the EMPTY session, for every list of operations - statements,
`restart`, crash - that meets the side conditions `OkOps` (see `C17_histories_with_crashes_from`: none for
CREATE DATABASE, USE, SHOW DATABASES, SELECT, restart, crash; a CREATE TABLE / INSERT / UPDATE / DELETE is
accepted by the plain model of the selected database with room, a CREATE TABLE only right after USE of
another database / restart / crash / another CREATE TABLE, or it leaves the session as it is and is refused
by the plain model too): `runOps {} ops` is `some s'` - no recovery fails, however many crashes and restarts
the list holds -, and `s'` satisfies the crash invariant `SessCrash'` (so `SessCrash`, `SessAbs`: what a
reader sees of every database, `C17_contents_are_what_a_reader_sees`) for the plain databases
`worldOps {} (fun _ => []) ops` of the acknowledged statements; one more crash or restart succeeds too and
preserves them. -/
theorem C17_histories_with_crashes (ops : List SOp) (hok : OkOps {} (fun _ => []) true ops) :
    ∃ s', runOps {} ops = some s' ∧ SessCrash' s' (worldOps {} (fun _ => []) ops) ∧
      SessAbs s' (worldOps {} (fun _ => []) ops) ∧
      (∃ s'', crashRestart s' = some s'' ∧ SessCrash' s'' (worldOps {} (fun _ => []) ops) ∧ names s'' = names s') ∧
      (∃ s'', restart s' = some s'' ∧ SessCrash' s'' (worldOps {} (fun _ => []) ops) ∧ names s'' = names s') := by
  obtain ⟨s', e, h'⟩ := runOps_cinv ops {} _ true (cinv_empty _ _) hok
  obtain ⟨s1, e1, k1, n1, _⟩ := crashRestart_ok h'.inv.base.abs h'.inv.base.allB
  obtain ⟨s2, e2, k2, n2, _⟩ := restart_ok h'.inv.base.abs h'.inv.base.allB
  exact ⟨s', e, h'.inv, h'.inv.base.abs, ⟨s1, e1, k1, n1⟩, ⟨s2, e2, k2, n2⟩⟩

/-- non-vacuity: CREATE DATABASE d; USE d; CREATE TABLE t (a INT) - accepted with room, the flag is set by
the USE -; crash; USE d; restart -/
example : OkOps {} (fun _ => []) true
    [.stmt (.createDatabase [100]), .stmt (.use [100]), .stmt (.createTable tname acols), .crash,
     .stmt (.use [100]), .restart] := okOps_example

/-- **C17.crash_operations_example** (computed): CREATE DATABASE d; CREATE DATABASE e; USE d; CREATE TABLE t
(a INT); INSERT INTO t VALUES (5); crash; USE e; CREATE TABLE t (a INT); restart; USE d; INSERT INTO t VALUES
(6); crash - every statement is accepted, no recovery fails; afterwards nothing is selected, a reader of
`d.t` sees `(5), (6)` and `e.t` is empty. -/
theorem C17_crash_operations_example :
    (outsOps {} crashOps).map allOk = some true ∧
    (runOps {} crashOps).map (fun s' => (s'.cur, rowsOf (exec s' (.use [100])).1 "d",
        rowsOf (exec s' (.use [101])).1 "e")) = some (none, some [[.int 5], [.int 6]], some []) := by
  unfold crashOps
  rw [outsOps_de, runOps_de]
  decide +kernel


/-! ### crashes: statements the selected database refuses

A row statement or CREATE TABLE that the selected database refuses BEFORE it changes anything still reads
pages, and `fetch` files every page it reads in the cache: the session after it is not the session before it
(the `unchanged` alternative of `OkRouted` does not apply), and the selected database is no longer literally
"reached from a checkpoint by accepted row statements" (`DbCrash`).  `SessCrashL s w` (Proofs/SessCrash)
is `SessCrash'` with `DbCrashL` (Proofs/DbCrash) in the place of `DbCrash`: reached from the store of a
checkpoint by a LIVE RUN - accepted row operations and steps in which only the cache grows (`Same`: every page
and the whole header read as before) -, the log is the checkpoint's log followed by the records of the run,
the data file is the checkpoint's.  That is all the crash theorems of C02 use of a run of statements. -/

/-- **C17.crash_invariant_up_to_the_cache**: the crash invariant `SessCrash'` implies `SessCrashL`; and from a
session that satisfies `SessCrashL` - e.g. after any number of refused statements - BOTH `crashRestart` (the
process dies, no page of the selected database is flushed) and `restart` succeed: no recovery fails, the names
are kept, nothing is selected, every database is checkpointed for THE SAME plain database `w`, and the session
satisfies `SessCrash'` (hence `SessCrash`, `SessAbs`) again. -/
theorem C17_crash_invariant_up_to_the_cache (s : Sess) (w : String → Spec.SDB) :
    (SessCrash' s w → SessCrashL s w) ∧
    (SessCrashL s w → SessAbs s w ∧
      (∃ s', crashRestart s = some s' ∧ SessCrash' s' w ∧ names s' = names s ∧ s'.cur = none ∧
        ∀ p ∈ s'.dbs, CkptNS p.2 (w p.1)) ∧
      (∃ s', restart s = some s' ∧ SessCrash' s' w ∧ names s' = names s ∧ s'.cur = none ∧
        ∀ p ∈ s'.dbs, CkptNS p.2 (w p.1))) :=
  ⟨fun h => h.toL, fun h => ⟨h.abs, crashRestart_ok h.abs h.allB, restart_ok h.abs h.allB⟩⟩

/-- non-vacuity: the session `sessT` (CREATE DATABASE d; USE d; CREATE TABLE t (a INT), `d` selected) -/
example : SessCrashL sessT (fun _ => sdbA0) := okOps2_sessT_example.1.inv

/-- **C17.refused_statement_keeps_the_crash_invariant**: a CREATE TABLE / INSERT / UPDATE / DELETE that the
selected database refuses before it changes anything, for one of the reasons `StmtRefusalC` lists - CREATE
TABLE of an existing table or of a catalog name, with a column name used twice or a VARCHAR length beyond 32
bits; INSERT into an unknown table, with a column list naming an unknown column or one column twice, or whose
FIRST row has the wrong number of values or a value its column does not accept (type, integer range); UPDATE
with a column source, of an unknown table, with an unknown or repeated SET column, a WHERE that cannot be
evaluated, or a first selected row that cannot be rewritten; DELETE of an unknown table or with a WHERE that
cannot be evaluated - returns an error, is refused by the plain model too, and KEEPS the crash invariant
`SessCrashL` for THE SAME plain databases `w`: a crash right after it (or after any number of them) loses
nothing (`C17_crash_invariant_up_to_the_cache`).  If the selected database was checkpointed it still is (so a
CREATE TABLE may follow).  `hbad` is asked for whatever catalog description the database has (`DbInv`; only
the refusal "CREATE TABLE sys_pages" looks at it).  An INSERT whose first row is TOO LARGE is refused inside
`btInsert`, after the row-id and LSN counters moved: it keeps `SessCrashB`, not `SessCrashL`
(`C17_oversized_first_row_keeps_the_crash_invariant`).  NOT covered: a refusal at a later row
(`C17_crash_loses_rows_of_a_refused_insert`: there the statement is false). -/
theorem C17_refused_statement_keeps_the_crash_invariant (s : Sess) (w : String → Spec.SDB) (h : SessCrashL s w)
    (n : String) (hc : s.cur = some n) (db : DB) (hg : getDB s n = some db) (st : Stmt)
    (hbad : ∀ pt sch tbls, DbInv db (w n) pt sch tbls → StmtRefusalC (w n) pt st) :
    Spec.specStmt (w n) st = none ∧ (∃ k, (exec s st).2 = Out.err k) ∧ SessCrashL (exec s st).1 w ∧
    ∃ db', getDB (exec s st).1 n = some db' ∧ (CkptNS db (w n) → CkptNS db' (w n)) := by
  obtain ⟨h1, h2, h3, h4⟩ := refused_crashInv sameClosedL h.crashInv ⟨hc, hg, hbad⟩
  exact ⟨h1, h2, h3.sessCrashL, h4⟩

/-- non-vacuity: INSERT INTO u VALUES (1) - no table `u` - and INSERT INTO t VALUES ('x') - `a` is an INT - on
`sessT` -/
example : SessCrashL sessT (fun _ => sdbA0) ∧ sessT.cur = some "d" ∧ getDB sessT "d" = some tableDB ∧
    (∀ pt, StmtRefusalC sdbA0 pt insUnknown) ∧ (∀ pt, StmtRefusalC sdbA0 pt insBadValue) :=
  ⟨okOps2_sessT_example.1.inv, rfl, getDB_sessT, refusalC_insUnknown rfl, refusalC_insBadValue⟩

/-- **C17.histories_with_crashes_and_refused_statements**: `C17_histories_with_crashes` with statements the
selected database refuses.  From the EMPTY session, for every list of operations - statements, `restart`,
crash - that meets the side conditions `OkOps2`: `runOps {} ops` is `some s'` - NO recovery fails, however
many crashes and restarts the list holds -, and `s'` satisfies the crash invariant `SessCrashL` (so `SessAbs`:
what a reader sees of every database, `C17_contents_are_what_a_reader_sees`) for the plain databases
`worldOps {} (fun _ => []) ops` of the acknowledged statements - a refused statement changes none -; one more
crash or restart succeeds too and preserves them (then `SessCrash'` holds again).  `OkOps2` asks NOTHING of
CREATE DATABASE, USE, SHOW DATABASES, SELECT, `restart`, crash; a CREATE TABLE / INSERT / UPDATE / DELETE is
(1) accepted by the plain model of the selected database with room (`StmtRoom`), a CREATE TABLE only right
after USE of another database / restart / crash / another CREATE TABLE, or (2) leaves the session as it is and
is refused by the plain model (no database selected), or (3) is refused by the selected database for one of
the reasons `StmtRefusalC` lists (`C17_refused_statement_keeps_the_crash_invariant`).  Every list that meets
`OkOps` meets `OkOps2` (`OkOps.toOkOps2`).  EXCLUDED: an INSERT whose first row is too large (refused after
the counters moved: `C17_histories_with_crashes_and_oversized_rows`), statements
refused at a later row (false: `C17_crash_loses_rows_of_a_refused_insert`), CREATE TABLE after row statements
with no USE of another database / restart / crash between them. -/
theorem C17_histories_with_crashes_and_refused_statements (ops : List SOp)
    (hok : OkOps2 {} (fun _ => []) true ops) :
    ∃ s', runOps {} ops = some s' ∧ SessCrashL s' (worldOps {} (fun _ => []) ops) ∧
      SessAbs s' (worldOps {} (fun _ => []) ops) ∧
      (cleanOps {} (fun _ => []) true ops = true → ∀ p ∈ s'.dbs, CkptNS p.2 (worldOps {} (fun _ => []) ops p.1)) ∧
      (∃ s'', crashRestart s' = some s'' ∧ SessCrash' s'' (worldOps {} (fun _ => []) ops) ∧ names s'' = names s') ∧
      (∃ s'', restart s' = some s'' ∧ SessCrash' s'' (worldOps {} (fun _ => []) ops) ∧ names s'' = names s') := by
  obtain ⟨s', e, h'⟩ := runOps_cinvL ops {} _ true (cinvL_empty _ _) hok
  obtain ⟨s1, e1, k1, n1, _⟩ := crashRestart_ok h'.inv.abs h'.inv.allB
  obtain ⟨s2, e2, k2, n2, _⟩ := restart_ok h'.inv.abs h'.inv.allB
  exact ⟨s', e, h'.inv, h'.inv.abs, h'.ck, ⟨s1, e1, k1, n1⟩, ⟨s2, e2, k2, n2⟩⟩

/-- non-vacuity: CREATE DATABASE d; USE d; INSERT INTO u VALUES (1) - refused by the selected database, which
has no table; its cache has grown -; crash; USE d; restart -/
example : OkOps2 {} (fun _ => []) true
    [.stmt (.createDatabase [100]), .stmt (.use [100]), .stmt insUnknown, .crash, .stmt (.use [100]), .restart] :=
  okOps2_example

/-- **C17.histories_with_crashes_and_refused_statements_from**: the same from any session that satisfies
`CInvL s w clean` (`SessCrashL s w`, and if the flag is set every database is checkpointed; `CInv` implies
it). -/
theorem C17_histories_with_crashes_and_refused_statements_from (s : Sess) (w : String → Spec.SDB) (clean : Bool)
    (ops : List SOp) (h : CInvL s w clean) (hok : OkOps2 s w clean ops) :
    ∃ s', runOps s ops = some s' ∧ SessCrashL s' (worldOps s w ops) ∧ SessAbs s' (worldOps s w ops) ∧
      (cleanOps s w clean ops = true → ∀ p ∈ s'.dbs, CkptNS p.2 (worldOps s w ops p.1)) := by
  obtain ⟨s', e, h'⟩ := runOps_cinvL ops s w clean h hok
  exact ⟨s', e, h'.inv, h'.inv.abs, h'.ck⟩

/-- non-vacuity: from `sessT`: INSERT INTO u VALUES (1) - no such table -; INSERT INTO t VALUES ('x') - wrong
type, issued on the database the first refusal left -; crash; USE d; restart -/
example : CInvL sessT (fun _ => sdbA0) false ∧ OkOps2 sessT (fun _ => sdbA0) false
    [.stmt insUnknown, .stmt insBadValue, .crash, .stmt (.use [100]), .restart] := okOps2_sessT_example

/-- **C17.refused_statements_example** (computed): CREATE DATABASE d; USE d; CREATE TABLE t (a INT); INSERT INTO
u VALUES (1) - refused: no table `u` -; INSERT INTO t VALUES ('x') - refused: `'x'` is not an INT -; INSERT
INTO t VALUES (5) - accepted -; crash with no page flushed since CREATE TABLE.  Outcomes 0 = accepted, 1 =
refused.  Recovery succeeds; nothing is selected; a reader of `d.t` sees the row `(5)`. -/
theorem C17_refused_statements_example :
    (outsOps {} refusedOps).map (·.map outCode) = some [0, 0, 0, 1, 1, 0] ∧
    (runOps {} refusedOps).map (fun s' => (s'.cur, rowsOf (exec s' (.use [100])).1 "d")) =
      some (none, some [[.int 5]]) := by
  unfold refusedOps
  rw [outsOps_dt, runOps_dt]
  decide +kernel

/-- **C17.oversized_first_row_example** (computed; the refusal the theorems above leave out): CREATE DATABASE d;
USE d; CREATE TABLE t (b VARCHAR(5000)); INSERT INTO t VALUES ('xx…x') with 1100 bytes - refused with
`rowTooLarge` INSIDE the tree insert, after the counters moved -; INSERT INTO t VALUES ('x') - accepted.
Before the crash: row-id counter 12, LSN counter 12, the header in the data file says 10 and 10, the log holds
one record with LSN 11 and row id 12 (LSN 10 and row id 11 went to the refused row, which no log record
mentions).  After the crash: recovery succeeds, the counters are 12 and 12 again, a reader sees `('x')`.  The
crash theorems are not false here; for this refusal they are `C17_oversized_first_row_keeps_the_crash_invariant`
and `C17_histories_with_crashes_and_oversized_rows`. -/
theorem C17_oversized_first_row_example :
    (outsOps {} oversizedOps).map (·.map outCode) = some [0, 0, 0, 1, 0] ∧
    (runOps {} oversizedOps.dropLast).map (fun s' => (getDB s' "d").map fun db =>
        [db.store.hdr.lastKey, db.store.hdr.nextLSN, db.store.dhdr.lastKey, db.store.dhdr.nextLSN] ++
          db.wal.flatMap fun r => [r.lsn, r.cell]) = some (some [12, 12, 10, 10, 11, 12]) ∧
    (runOps {} oversizedOps).map (fun s' => ((getDB s' "d").map fun db =>
        (db.store.hdr.lastKey, db.store.hdr.nextLSN), rowsOf (exec s' (.use [100])).1 "d")) =
      some (some (12, 12), some [[.str [120]]]) := by
  simp only [oversizedOps, List.dropLast]
  rw [outsOps_cd, runOps_cd, runOps_cd]
  decide +kernel

open Mkdb.Tree

/-! ### crashes: an INSERT refused for the SIZE of its first row (the counters move, nothing is logged)

An INSERT whose first row is too large for a page cell is refused INSIDE the tree insert (`btInsert`), after the
row-id counter and the LSN counter were advanced; no log record is written and no page changes.  `SessCrashL`
does not hold after it (not proved here; `live_run_applied`: a `LiveRunM` ends with the LSN counter where it
started or one past a record it logged).  `SessCrashB s w` (Proofs/SessCrash) is `SessCrashL` with `DbCrashB` in
the place of `DbCrashL`: the live runs may be separated by steps in which only the row-id / LSN counters go up.
Recovery does not need the counters of the dead process: it raises the row-id counter to the key of every INSERT
record and the LSN counter to every record's LSN. -/

/-- **C17.crash_invariant_up_to_the_counters**: `SessCrashL` (hence `SessCrash'`) implies `SessCrashB`; and from
a session that satisfies `SessCrashB` - e.g. after any number of refused statements, oversized rows included -
BOTH `crashRestart` (the process dies, nothing is flushed) and `restart` succeed: no recovery fails, the names are
kept, nothing is selected, every database is checkpointed for THE SAME plain database `w`, and the session
satisfies `SessCrash'` again. -/
theorem C17_crash_invariant_up_to_the_counters (s : Sess) (w : String → Spec.SDB) :
    (SessCrashL s w → SessCrashB s w) ∧
    (SessCrashB s w → SessAbs s w ∧
      (∃ s', crashRestart s = some s' ∧ SessCrash' s' w ∧ names s' = names s ∧ s'.cur = none ∧
        ∀ p ∈ s'.dbs, CkptNS p.2 (w p.1)) ∧
      (∃ s', restart s = some s' ∧ SessCrash' s' w ∧ names s' = names s ∧ s'.cur = none ∧
        ∀ p ∈ s'.dbs, CkptNS p.2 (w p.1))) :=
  ⟨fun h => h.toB, fun h => ⟨h.abs, crashRestart_ok h.abs h.crash, restart_ok h.abs h.crash⟩⟩

/-- **C17.oversized_first_row_keeps_the_crash_invariant**: an INSERT into an existing table whose FIRST row the
plain model has no row for (`FirstRowRefused`: wrong number of values, a value the column does not accept, or -
the case `C17_refused_statement_keeps_the_crash_invariant` leaves out - a row TOO LARGE for a page cell, refused
inside the tree insert after the row-id and LSN counters moved) returns an error, is refused by the plain model
too, and KEEPS the crash invariant `SessCrashB` for THE SAME plain databases `w`: a crash right after it (or
after any number of them) loses nothing (`C17_crash_invariant_up_to_the_counters`).  The log and the data file of
the selected database are as before.  NOT claimed: that a checkpointed selected database is still checkpointed
(it is not when the counters moved: the header in the data file is behind), so a CREATE TABLE may follow only
after USE of another database / restart / crash. -/
theorem C17_oversized_first_row_keeps_the_crash_invariant (s : Sess) (w : String → Spec.SDB) (h : SessCrashB s w)
    (n : String) (hc : s.cur = some n) (db : DB) (hg : getDB s n = some db) (st : Stmt)
    (hbad : FirstRowRefused (w n) st) :
    Spec.specStmt (w n) st = none ∧ (∃ k, (exec s st).2 = Out.err k) ∧ SessCrashB (exec s st).1 w ∧
    ∃ db', getDB (exec s st).1 n = some db' ∧ db'.wal = db.wal ∧ DiskSame db.store db'.store := by
  obtain ⟨h1, h2, h3, h4⟩ := firstRow_crashInv h.crashInv n hc db hg st hbad
  exact ⟨h1, h2, h3.sessCrashB, h4⟩

/-- **C17.refused_statement_keeps_the_crash_invariant_up_to_the_counters**: the statements of
`C17_refused_statement_keeps_the_crash_invariant` (`StmtRefusalC`) keep `SessCrashB` too. -/
theorem C17_refused_statement_keeps_the_crash_invariant_up_to_the_counters (s : Sess) (w : String → Spec.SDB)
    (h : SessCrashB s w) (n : String) (hc : s.cur = some n) (db : DB) (hg : getDB s n = some db) (st : Stmt)
    (hbad : ∀ pt sch tbls, DbInv db (w n) pt sch tbls → StmtRefusalC (w n) pt st) :
    Spec.specStmt (w n) st = none ∧ (∃ k, (exec s st).2 = Out.err k) ∧ SessCrashB (exec s st).1 w ∧
    ∃ db', getDB (exec s st).1 n = some db' ∧ (CkptNS db (w n) → CkptNS db' (w n)) := by
  obtain ⟨h1, h2, h3, h4⟩ := refused_crashInv sameClosedB h.crashInv ⟨hc, hg, hbad⟩
  exact ⟨h1, h2, h3.sessCrashB, h4⟩

/-- **C17.histories_with_crashes_and_oversized_rows**: `C17_histories_with_crashes_and_refused_statements` with
INSERTs refused at their first row FOR ANY REASON, the size of the row included, anywhere in the history.  From
the EMPTY session, for every list of operations - statements, `restart`, crash - that meets `OkOps3`:
`runOps {} ops` is `some s'` - NO recovery fails -, `s'` satisfies `SessCrashB` (so `SessAbs`) for the plain
databases `worldOps {} (fun _ => []) ops` of the acknowledged statements - a refused statement changes none -, and
one more crash or restart succeeds too and preserves them (then `SessCrash'` holds again).  `OkOps3` asks of a
statement EITHER what `OkOps2` asks, OR that it is an INSERT into an existing table of the selected database whose
first row the plain model has no row for (`FirstRowRefused`); after such an INSERT the flag that allows CREATE
TABLE is cleared.  Every list that meets `OkOps2` meets `OkOps3` (`OkOps2.toOkOps3`).  EXCLUDED as before:
statements refused at a later row (false: `C17_crash_loses_rows_of_a_refused_insert`), CREATE TABLE after row
statements with no USE of another database / restart / crash between them. -/
theorem C17_histories_with_crashes_and_oversized_rows (ops : List SOp)
    (hok : OkOps3 {} (fun _ => []) true ops) :
    ∃ s', runOps {} ops = some s' ∧ SessCrashB s' (worldOps {} (fun _ => []) ops) ∧
      SessAbs s' (worldOps {} (fun _ => []) ops) ∧
      (∃ s'', crashRestart s' = some s'' ∧ SessCrash' s'' (worldOps {} (fun _ => []) ops) ∧ names s'' = names s') ∧
      (∃ s'', restart s' = some s'' ∧ SessCrash' s'' (worldOps {} (fun _ => []) ops) ∧ names s'' = names s') := by
  obtain ⟨s', e, h'⟩ := runOps_cinvB ops {} _ true (cinvB_empty _ _) hok
  obtain ⟨s1, e1, k1, n1, _⟩ := crashRestart_ok h'.abs h'.crash
  obtain ⟨s2, e2, k2, n2, _⟩ := restart_ok h'.abs h'.crash
  exact ⟨s', e, h', h'.abs, ⟨s1, e1, k1, n1⟩, ⟨s2, e2, k2, n2⟩⟩

/-- **C17.histories_with_crashes_and_oversized_rows_from**: the same from any session that satisfies
`CInvB s w clean` (`SessCrashB s w`, and if the flag is set every database is checkpointed; `CInvL` implies it,
`CInvL.toB`). -/
theorem C17_histories_with_crashes_and_oversized_rows_from (s : Sess) (w : String → Spec.SDB) (clean : Bool)
    (ops : List SOp) (h : CInvB s w clean) (hok : OkOps3 s w clean ops) :
    ∃ s', runOps s ops = some s' ∧ SessCrashB s' (worldOps s w ops) ∧ SessAbs s' (worldOps s w ops) := by
  obtain ⟨s', e, h'⟩ := runOps_cinvB ops s w clean h hok
  exact ⟨s', e, h', h'.abs⟩

/-- non-vacuity (the statements of `oversizedOps` / `C17_oversized_first_row_example`): on the plain database with
the one empty table `t (b VARCHAR(5000))`, INSERT INTO t VALUES ('xx…x') with 1100 bytes is `FirstRowRefused`
(the row encodes, and is too large), and it is NOT one of the refusals `rowRefusedEarly` covers -/
example : FirstRowRefused [⟨tname, [⟨"b", .varchar, 5000⟩], []⟩] (.insert tname [] [[.str (List.replicate 1100 120)]]) ∧
    rowRefusedEarly [⟨"b", .varchar, 5000⟩] [] [Mkdb.Tuple.Val.str (List.replicate 1100 120)] = false :=
  firstRowRefused_oversized_example

/-- non-vacuity of `OkOps3` with an oversized row: CREATE DATABASE d; USE d; CREATE TABLE t (b VARCHAR(5000));
INSERT INTO t VALUES ('xx…x') with 1100 bytes - refused for its size, the counters moved -; INSERT INTO t VALUES
('yy…y') with 1100 bytes - refused again, on the database the first refusal left -; crash; USE d; restart -/
example : OkOps3 {} (fun _ => []) true oversizedOps3 := okOps3_example

/-! ### crashes: CREATE TABLE anywhere - also after row statements that are logged and not flushed

`CreateTable` (storage/relation.go: lockExclusive; createTable; flushPagesLocked) writes no log record; it adds
rows to the two catalog tables and then flushes ALL dirty pages and the header.  So it ends in a checkpoint
whatever was dirty before it.  The records of the earlier row statements stay in the log; after the flush every
one of them is applied on the pages in the data file (the catalog trees only grew, the LSN counter only went up),
so a recovery after a crash finds nothing to redo.  The theorems below drop the side condition "CREATE TABLE only
while no row statement is unflushed on the selected database" of the history theorems above (the flag `clean` of
`OkOps` / `OkOps2` / `OkOps3`). -/

/-- **C17.create_table_anywhere_keeps_the_crash_invariant**: a CREATE TABLE that the plain model of the selected
database accepts (with room, `StmtRoom`) is accepted, keeps the crash invariant `SessCrashB` for the plain
model's result, writes no log record, and leaves the selected database CHECKPOINTED - with NO hypothesis about
what the selected database holds unflushed: any number of accepted INSERT / UPDATE / DELETE statements, refused
statements and oversized rows (everything `SessCrashB` allows) may have come since the last flush.  A crash
right after it loses nothing (`C17_crash_invariant_up_to_the_counters`): the rows logged before the CREATE TABLE
and the new table are there. -/
theorem C17_create_table_anywhere_keeps_the_crash_invariant (s : Sess) (w : String → Spec.SDB)
    (h : SessCrashB s w) (n : String) (hc : s.cur = some n) (db : DB) (hg : getDB s n = some db)
    (t : Bytes) (cols : List ColDef)
    (hroom : ∀ pt sch tbls, DbInv db (w n) pt sch tbls → StmtRoom db pt sch tbls (.createTable t cols))
    (sdb' : Spec.SDB) (hspec : Spec.specStmt (w n) (.createTable t cols) = some sdb') :
    (exec s (.createTable t cols)).2 = Out.ok ∧ SessCrashB (exec s (.createTable t cols)).1 (setW w n sdb') ∧
      ∃ db', getDB (exec s (.createTable t cols)).1 n = some db' ∧ db'.wal = db.wal ∧ CkptNS db' sdb' := by
  obtain ⟨h1, h2, h3⟩ := createTable_crashInv crashLikeB h.crashInv ⟨hc, hg, hspec, hroom⟩
  exact ⟨h1, h2.sessCrashB, h3⟩

/-- **C17.histories_with_crashes_create_table_anywhere_from**: from any session that satisfies `SessCrashB s w`,
for every list of operations - statements, `restart`, crash - that meets `OkOps4`: `runOps s ops` is `some s'` -
NO recovery fails - and `s'` satisfies `SessCrashB` (so `SessAbs`) for the plain databases `worldOps s w ops`.
`OkOps4` is `OkOps3` WITHOUT the flag: it asks NOTHING of CREATE DATABASE, USE, SHOW DATABASES, SELECT, `restart`,
crash; a CREATE TABLE / INSERT / UPDATE / DELETE is (1) accepted by the plain model of the selected database with
room (`StmtRoom`) - a CREATE TABLE too, WHEREVER it comes -, or (2) leaves the session as it is and is refused by
the plain model (no database selected), or (3) is refused by the selected database for one of the reasons
`StmtRefusalC` lists, or (4) is an INSERT refused at its first row (`FirstRowRefused`, the size of the row
included).  Every list that meets `OkOps3`, whatever the flag, meets `OkOps4` (`OkOps3.toOkOps4`).  EXCLUDED as
before: statements refused at a later row (false: `C17_crash_loses_rows_of_a_refused_insert`). -/
theorem C17_histories_with_crashes_create_table_anywhere_from (s : Sess) (w : String → Spec.SDB)
    (ops : List SOp) (h : SessCrashB s w) (hok : OkOps4 s w ops) :
    ∃ s', runOps s ops = some s' ∧ SessCrashB s' (worldOps s w ops) ∧ SessAbs s' (worldOps s w ops) := by
  obtain ⟨s', e, h'⟩ := runOps_sessCrashB ops s w h hok
  exact ⟨s', e, h', h'.abs⟩

/-- **C17.histories_with_crashes_create_table_anywhere**: the same from the EMPTY session; one more crash or
restart succeeds too and preserves the plain databases of the acknowledged statements (then `SessCrash'` holds
again). -/
theorem C17_histories_with_crashes_create_table_anywhere (ops : List SOp)
    (hok : OkOps4 {} (fun _ => []) ops) :
    ∃ s', runOps {} ops = some s' ∧ SessCrashB s' (worldOps {} (fun _ => []) ops) ∧
      SessAbs s' (worldOps {} (fun _ => []) ops) ∧
      (∃ s'', crashRestart s' = some s'' ∧ SessCrash' s'' (worldOps {} (fun _ => []) ops) ∧ names s'' = names s') ∧
      (∃ s'', restart s' = some s'' ∧ SessCrash' s'' (worldOps {} (fun _ => []) ops) ∧ names s'' = names s') := by
  obtain ⟨s', e, h'⟩ := runOps_sessCrashB ops {} _ (cinvB_empty _ true).inv hok
  obtain ⟨s1, e1, k1, n1, _⟩ := crashRestart_ok h'.abs h'.crash
  obtain ⟨s2, e2, k2, n2, _⟩ := restart_ok h'.abs h'.crash
  exact ⟨s', e, h', h'.abs, ⟨s1, e1, k1, n1⟩, ⟨s2, e2, k2, n2⟩⟩

/-- the lists of `C17_histories_with_crashes_and_oversized_rows` are covered: `OkOps3`, whatever the flag, implies
`OkOps4`; e.g. the list `oversizedOps3` -/
example : OkOps4 {} (fun _ => []) oversizedOps3 := OkOps3.toOkOps4 _ _ _ _ okOps3_example

/-- **C17.create_table_after_unflushed_insert_example** (computed): CREATE DATABASE d; USE d; CREATE TABLE t
(a INT); INSERT INTO t VALUES (5); CREATE TABLE u (a INT) - issued while the INSERT is logged and not flushed -;
crash.  Outcomes 0 = accepted: all five statements are accepted.  Before the crash the log of `d` holds ONE record
(the INSERT's; neither CREATE TABLE logged anything) and the header in the data file equals the header in memory
(CREATE TABLE u flushed).  Recovery succeeds; nothing is selected; after USE d a reader sees the row `(5)` in `t`,
and `u` is there and empty. -/
theorem C17_create_table_after_unflushed_insert_example :
    (outsOps {} createAnywhereOps).map (·.map outCode) = some [0, 0, 0, 0, 0] ∧
    (runOps {} createAnywhereOps.dropLast).map (fun s' => (getDB s' "d").map fun db =>
        (db.wal.length, decide (db.store.dhdr = db.store.hdr))) = some (some (1, true)) ∧
    (runOps {} createAnywhereOps).map (fun s' => (s'.cur, rowsOfT (exec s' (.use [100])).1 "d" tname,
        rowsOfT (exec s' (.use [100])).1 "d" uname)) = some (none, some [[.int 5]], some []) := by
  simp only [createAnywhereOps, List.dropLast]
  rw [outsOps_dt, runOps_dt, runOps_dt]
  decide +kernel

end Mkdb.Session
