import Mkdb.Proofs.Lock
import Mkdb.Proofs.LockSys
/-!
# C13 — the background flusher only ever sees statement boundaries

Property theorems only.  Quantifier: every schedule (any interleaving of the session
goroutine's steps with the flusher's steps, any number of statements and ticks).  What the
model cannot exhibit — the Go memory model, `sync.RWMutex`, the scheduler — is exercised by the
race-detector run of the check (partial by nature).
-/
namespace Mkdb.Lock
open Mkdb.Generated

/-- **C13.all_bracketed**: according to the facts extracted from the current source, every
statement evaluator takes the shared lock first and releases it last, the log append happens
inside that bracket, CREATE TABLE changes the catalog and flushes it as one section under the exclusive lock, `flushPages` holds the
exclusive lock for its whole body, and the data file is written nowhere else; at start-up the
flusher goroutine is started in one place only - as the last step of `fileStore.open`, after every
read of the header (a flush rewrites the header from the fields `open` fills; a tick before that
destroyed the database) - and no store other than the one `OpenRelation` returns is created with a
flusher (`CreateDB` changes pages under no lock and flushes explicitly). -/
theorem C13_all_bracketed :
    (∀ p ∈ lockBrackets, p.2 = true) ∧ lockCreateTableLocked = true ∧ lockFlushExclusive = true ∧
    lockTxnIsSharedLock = true ∧ lockPageWritesOnlyInFlush = true ∧ lockLogAppendInsideBracket = true ∧
    lockFlusherAfterHeaderRead = true ∧ lockFlusherOnlyAfterOpen = true := by
  decide

/-- **C13.exclusion**: in every state reachable under every schedule of bracketed statements and
timer ticks, the flusher holding the lock (writing pages or the header) and the session being
inside a statement (between its first step and the release after its log append) exclude each other. -/
theorem C13_exclusion (acts : List Act) (hb : AllBracketed acts) :
    ¬ (flusherActive (run {} acts) = true ∧ insideStatement (run {} acts) = true) := by
  obtain ⟨⟨_, h2, h3⟩, hbr⟩ := run_inv {} acts ⟨⟨rfl, rfl, fun h => by cases h⟩, rfl⟩ hb
  rintro ⟨hf, hi⟩
  -- inside a bracketed statement the reader count is 1; while the flusher holds the lock it is 0
  rw [hi, hbr, h3 hf] at h2
  cases h2

/-- **C13.no_write_inside_statement**: a page or header write can only be taken when the session is
between statements. -/
theorem C13_no_write_inside_statement (acts : List Act) (hb : AllBracketed acts) (s' : St)
    (h : step (run {} acts) .flushWrite = some s') : insideStatement (run {} acts) = false := by
  have hex := C13_exclusion acts hb
  have hact : flusherActive (run {} acts) = true := by
    simp only [step] at h
    cases hf : (run {} acts).flush with
    | waiting => simp [hf] at h
    | holding k => simp [flusherActive, hf]
  cases hi : insideStatement (run {} acts) with
  | false => rfl
  | true => exact absurd ⟨hact, hi⟩ hex

/-- the hypothesis is necessary: with an unbracketed statement (CREATE TABLE before the repair) the
flusher can run in the middle of it -/
theorem C13_unbracketed_counterexample :
    flusherActive (run {} [.sessBegin false, .sessChange, .flushBegin, .flushWrite]) = true ∧
    insideStatement (run {} [.sessBegin false, .sessChange, .flushBegin, .flushWrite]) = true := by decide

example : AllBracketed [.sessBegin true, .sessChange, .flushBegin, .sessLog, .sessEnd, .flushBegin, .flushWrite, .flushEnd] := by
  unfold AllBracketed; decide

end Mkdb.Lock

namespace Mkdb.LockSys

/-- **C13.system_safe** (the three goroutines around one open database: the one that opens the store
and runs statements - DML, SELECT and CREATE TABLE -, the page flusher, and `Close` from the signal
handler).  If the synchronisation discipline holds (`Cfg.good`: every evaluator brackets its work in
the shared lock with the log append inside; CREATE TABLE changes the catalog and flushes it as one
exclusive section; `flushPages` is exclusive and the only writer of the data file; `Close` closes the
log only under the exclusive lock; the flusher is started after the header reads; a failed open stops
the flusher it started), then under EVERY schedule of every length none of the bad events happens: no
page or header write by another goroutine while a statement is between its lock and its release (in
particular between its first change and the end of its log append), none while CREATE TABLE is between
its change and the end of its own flush, no statement reaching its log append on a closed log, no flush
before the header was read, no flusher outliving a failed open, no page change while a flush walks the
cache.  What the model cannot exhibit - the Go memory model, `sync.RWMutex`, the scheduler, channel
semantics of `stopFlusher` - is exercised by the race-detector runs of the check. -/
theorem C13_system_safe (c : Cfg) (hc : c.good = true) (acts : List Act) : (run c {} acts).bad = none :=
  no_bad c hc acts

/-- **C13.source_discipline_good**: the discipline is what the extractor finds in the CURRENT source
(`Generated/Locks.lean` is regenerated on every run; a change that drops one of the facts makes this
`decide` fail). -/
theorem C13_source_discipline_good : sourceCfg.good = true := by decide

/-- hence the current source is safe under every schedule of the model -/
theorem C13_current_source_safe (acts : List Act) : (run sourceCfg {} acts).bad = none :=
  no_bad sourceCfg C13_source_discipline_good acts

/-- **C13.each_fact_is_needed**: every single fact of the discipline is necessary - with that one fact
false and all others true some schedule reaches a bad event.  These are the defects of the second
campaign and their relatives, as schedules: an unbracketed evaluator; the log append after the release
(`EvaluateUpdate`'s deferred append, seeded change C13 r2-patch2); CREATE TABLE as two sections (873910e);
a flush that does not take the lock; `Close` closing the log beside a running statement (62bfa73); the
flusher started before the header is read (34a4346); a failed open that leaves its flusher (1b978f2). -/
theorem C13_each_fact_is_needed :
    (run { goodCfg with bracketed := false } {} [.oNew, .oRead, .oOk, .sBegin, .fBegin, .sChange]).bad = some .changeDuringFlush ∧
    (run { goodCfg with logInside := false } {} [.oNew, .oRead, .oOk, .sBegin, .sChange, .sEnd, .fBegin, .fWrite]).bad = some .writeInsideStatement ∧
    (run { goodCfg with createLocked := false } {} [.oNew, .oRead, .oOk, .cBegin, .cChange, .cRelease, .fBegin, .fWrite]).bad = some .writeDuringCreate ∧
    (run { goodCfg with createLocked := false } {} [.oNew, .oRead, .oOk, .cBegin, .cChange, .cRelease, .kStop, .kLock, .kWrite]).bad = some .writeDuringCreate ∧
    (run { goodCfg with flushExclusive := false } {} [.oNew, .oRead, .oOk, .sBegin, .sChange, .fBegin, .fWrite]).bad = some .writeInsideStatement ∧
    (run { goodCfg with closeLogInsideLock := false } {} [.oNew, .oRead, .oOk, .sBegin, .sChange, .kStop, .kCloseLog, .sLog]).bad = some .appendOnClosedLog ∧
    (run { goodCfg with flusherAfterHeader := false } {} [.oNew, .fBegin, .fWrite]).bad = some .writeBeforeHeaderRead ∧
    (run { goodCfg with failedOpenStops := false } {} [.oNew, .oRead, .oFail]).bad = some .flusherLeftBehind := by
  decide

/-- non-vacuity: under the good discipline a whole life cycle is a schedule of the model in which every
action is enabled - open, an INSERT across a timer tick (the tick waits), a flush, CREATE TABLE with
its own flush, a statement that `Close` waits for, `Close` - and it ends closed with no bad event. -/
def lifeCycle : List Act :=
  [.oNew, .oRead, .oOk, .sBegin, .sChange, .fBegin, .sLog, .sEnd, .fBegin, .fWrite, .fWrite, .fEnd,
   .cBegin, .cChange, .cWrite, .cWrite, .cEnd, .sBegin, .sChange, .kStop, .kLock, .sLog, .sEnd, .kLock, .kCloseLog,
   .kWrite, .kEnd]

example :
    (run goodCfg {} lifeCycle).closer = .done ∧ (run goodCfg {} lifeCycle).bad = none ∧
    (run goodCfg {} lifeCycle).sess = .idle ∧ (run goodCfg {} lifeCycle).walOpen = false := by decide +kernel

end Mkdb.LockSys
