import Mkdb.Proofs.Roundtrip
import Mkdb.Proofs.RoundtripRange
import Mkdb.Proofs.OutcomeEq
import Mkdb.Proofs.ScanBuf
/-!
# C10 — parsing is faithful (token level)

Property theorems only.  `C10_cond_roundtrip` is the statement for boolean conditions:
*every* parenthesis-free combination of comparisons with AND / OR — any number of
predicates, any operands — parses to the tree in which AND binds tighter than OR.
`C10_statement_roundtrip` (under "The whole grammar") is the statement for the whole grammar:
every well-formed statement, written as tokens with any choice of the optional spellings,
is read back by `Parser.Parse` unchanged; `C10_wellformed_iff_parseable` says that the well-formed
statements are exactly the statements the parser can return.  Last (namespace `Mkdb.ScanBuf`):
buffered reading of the scanner is invisible.
-/
namespace Mkdb.Sql
open Mkdb.Scan Mkdb.Generated

/-- **C10.cond_roundtrip / C05.precedence**: the token sequence
`p11 AND … AND p1k OR p21 AND … OR …` parses (as WHERE / ON / select-list condition) to
`(p11 ∧ … ∧ p1k) ∨ ((p21 ∧ …) ∨ …)`, consuming exactly those tokens — provided the next
token is not `.`, `AND` or `OR`. -/
theorem C10_cond_roundtrip (litTok : Lit → Token) (g : Group) (gs : List Group)
    (hops : ValidGroup litTok g ∧ ∀ h ∈ gs, ValidGroup litTok h) (rest : List Token)
    (hrest : HeadNot ([t_DOT] ++ [t_AND]) rest) (hor : HeadNot [t_OR] rest)
    (f : Nat) (hf : fuelOr g gs ≤ f) :
    orCond f (tokOr litTok g gs ++ rest) = .ok (orTree g gs) rest :=
  orCond_tok litTok g gs hops rest hrest hor f hf

/-- **C10.where_roundtrip**: the same through `WHERE`. -/
theorem C10_where_roundtrip (litTok : Lit → Token) (g : Group) (gs : List Group)
    (hops : ValidGroup litTok g ∧ ∀ h ∈ gs, ValidGroup litTok h) (rest : List Token)
    (hrest : HeadNot ([t_DOT] ++ [t_AND]) rest) (hor : HeadNot [t_OR] rest)
    (f : Nat) (hf : fuelOr g gs ≤ f) :
    whereClause f ((⟨t_WHERE, []⟩ : Token) :: (tokOr litTok g gs ++ rest)) = .ok (some (orTree g gs)) rest :=
  match_ok rfl (bind_ok (orCond_tok litTok g gs hops rest hrest hor f hf) rfl)

/-- The tree never mixes levels: an AND-term's operands are predicates, and an OR's left
operand is a complete AND-term (so `a AND b OR c` is `(a AND b) OR c`, never `a AND (b OR c)`). -/
theorem C10_and_tighter (p q r : Pred) :
    orTree (p, [q]) [(r, [])] = .or (.and p (.pred q)) (.pred r) ∧
    orTree (p, []) [(q, [r])] = .or (.pred p) (.and q (.pred r)) := ⟨rfl, rfl⟩

/-- **C10.no_silent_cut (GROUP BY)**: a comma separated list of `n` unqualified columns
followed by a token that is neither an identifier, a comma nor a dot yields exactly those
`n` columns. -/
theorem C10_group_by_list (names : List Bytes) (hne : names ≠ []) (rest : List Token)
    (hrest : HeadNot ([t_IDENT] ++ ([t_COMMA] ++ [t_DOT])) rest) (f : Nat) (hf : names.length + 1 ≤ f) :
    groupByLoop f false (tokCols names ++ rest) = .ok (names.map fun n => ⟨[], n⟩) rest :=
  groupByLoop_cols names hne rest hrest false f hf

/-- **C10.no_silent_tail**: `Parser.Parse` returns a statement only if the statement production
consumed the whole input up to closing semicolons and the end: every token of the text is part of
the parsed statement (or a closing semicolon).  In particular no clause behind a token the grammar
does not know is dropped in silence: `DELETE FROM p x WHERE x.id = 1` is refused, not read as `DELETE FROM p`. -/
theorem C10_no_silent_tail (ts : List Token) (s : Stmt) (h : parseTokens ts = .ok s) :
    ∃ rest, parseStmt (ts.length + 2) ts = .ok s rest ∧
      ((rest.dropWhile (fun t => t.ty == t_SEMICOLON)).headD eofToken).ty = t_EOF := by
  obtain ⟨rest, hp, he⟩ := parseTokens_ok h
  rw [atEnd, dropSemis_eq_dropWhile] at he
  exact ⟨rest, hp, by simpa using he⟩

/-- **C10.tail_refused**: conversely, a statement followed by anything but semicolons and the end is a
syntax error, whatever the statement. -/
theorem C10_tail_refused (ts : List Token) (s : Stmt) (rest : List Token)
    (hp : parseStmt (ts.length + 2) ts = .ok s rest) (hne : atEnd rest = false) :
    parseTokens ts = .err .syntax := by
  unfold parseTokens
  rw [hp]
  simp [hne]

/-- the witness: `DELETE FROM p x WHERE x = 1` is refused, `DELETE FROM p ;;`
is the plain DELETE -/
example :
    parseTokens [⟨t_DELETE, []⟩, ⟨t_FROM, []⟩, ⟨t_IDENT, [112]⟩, ⟨t_IDENT, [120]⟩, ⟨t_WHERE, []⟩,
      ⟨t_IDENT, [120]⟩, ⟨t_EQ, []⟩, ⟨t_INT, [49]⟩, ⟨t_EOF, []⟩] = .err .syntax ∧
    parseTokens [⟨t_DELETE, []⟩, ⟨t_FROM, []⟩, ⟨t_IDENT, [112]⟩, ⟨t_SEMICOLON, []⟩, ⟨t_SEMICOLON, []⟩, ⟨t_EOF, []⟩] =
      .ok (.delete [112] none) := by
  decide +kernel

/-! Non-vacuity: concrete literal tokens satisfy `GoodV`. -/
example : GoodV (fun l => match l with
    | .int _ => ⟨t_INT, [49]⟩ | .str s => ⟨t_STR, s⟩ | .bool true => ⟨t_TRUE, []⟩ | .bool false => ⟨t_FALSE, []⟩)
    (.lit (.int 1)) := by
  exact ⟨rfl, rfl⟩

/-! ## The whole grammar: `renderStmt` and `Parser.Parse` -/

/-- **C10.std_literals**: the standard literal tokens - `INT` with the decimal digits of a
non-negative int64, `STR` with the bytes, `TRUE` / `FALSE` - are literal tokens and `Token.Val`
reads the literal back from them.  Excluded: negative integers and integers above 2^63-1 (the
scanner has no signed integer token). -/
theorem C10_std_literals_good (l : Lit) (h : stdLit l = true) : GoodLit stdLitTok l :=
  stdLitTok_good l h

example : stdLit (.int 9223372036854775807) = true ∧ stdLit (.str [39, 0, 255]) = true ∧ stdLit (.bool false) = true := by
  decide

/-- **C10.condition_roundtrip (any shape)**: every condition `OrCondition` can return -
AND-terms joined by OR (nested to the right), an AND-term being comparisons joined by AND whose
last operand may be a bare value - is read back from its tokens, AND grouping tighter than OR,
consuming exactly those tokens.  Hypotheses: the literals are written by good tokens, the next
token is not `.`, a comparison operator, AND or OR, and the fuel is the token count + 2. -/
theorem C10_condition_roundtrip_any_shape (o : ROpts) (ok : Lit → Bool)
    (hlit : ∀ l, ok l = true → GoodLit o.lit l) (c : Cond) (hc : wfCond ok c = true)
    (rest : List Token) (hr : HeadNot condBad rest) (f : Nat) (hf : (tokCond o c).length + 2 ≤ f) :
    orCond f (tokCond o c ++ rest) = .ok c rest :=
  orCond_tokCond o ok hlit c hc rest hr f hf

/-- `a = 1 AND b OR c < 'x'`: the last operand of the AND chain is a bare column -/
example : orCond 20 (tokCond {} (.or (.and ⟨.col ⟨[], [97]⟩, t_EQ, .lit (.int 1)⟩ (.val (.col ⟨[], [98]⟩)))
      (.pred ⟨.col ⟨[], [99]⟩, t_LT, .lit (.str [120])⟩)) ++ [⟨t_SEMICOLON, []⟩]) =
    .ok (.or (.and ⟨.col ⟨[], [97]⟩, t_EQ, .lit (.int 1)⟩ (.val (.col ⟨[], [98]⟩)))
      (.pred ⟨.col ⟨[], [99]⟩, t_LT, .lit (.str [120])⟩)) [⟨t_SEMICOLON, []⟩] :=
  C10_condition_roundtrip_any_shape {} stdLit stdLitTok_good _ (by decide) _ (by decide) 20 (by decide)

/-- **C10.no_list_cut (loops of the shape `for { x; if !match(COMMA) break }`)**: a non-empty comma
separated list is returned whole - every element, in order - whenever the loop body reads one
element back from its tokens and says whether a comma follows (select list, ORDER BY).
Hypotheses: the token behind the list is not a comma (nor one the body would go on reading),
the fuel is at least the number of elements. -/
theorem C10_sep_list_whole {α} (body : P (α × Bool)) (tk : Nat → α → List Token) (comma : Token)
    (hc : comma.ty = t_COMMA) (bad : List Int) (hbad : bad.contains t_COMMA = false)
    (rest : List Token) (hrest : HeadNot (t_COMMA :: bad) rest) (N : Nat) (xs : List α)
    (hbody : ∀ j x r', x ∈ xs → (tk j x).length ≤ N → HeadNot bad r' → body (tk j x ++ r') = withComma x r')
    (hne : xs ≠ []) (i f : Nat) (hf : xs.length ≤ f) (hN : (tokSep tk comma i xs).length ≤ N) :
    sepLoop f body (tokSep tk comma i xs ++ rest) = .ok xs rest :=
  sepLoop_tok body tk comma hc bad hbad rest hrest N xs hbody hne i f hf hN

/-- `ORDER BY` keys `a DESC, t.b`: both come back -/
example : sepLoop 2 sortBody (tokSep (tokSort {}) ⟨t_COMMA, []⟩ 0 [⟨⟨[], [97]⟩, true⟩, ⟨⟨[116], [98]⟩, false⟩] ++ []) =
    .ok [⟨⟨[], [97]⟩, true⟩, ⟨⟨[116], [98]⟩, false⟩] [] :=
  C10_sep_list_whole sortBody (tokSort {}) ⟨t_COMMA, []⟩ rfl [t_DOT, t_ASC, t_DESC] (by decide) [] trivial 100 _
    (fun j x r' _ _ hb => sortBody_tok {} x j r' hb) (by simp) 0 2 (by decide) (by decide)

/-- **C10.no_list_cut (loops of the shape `for match(GUARD) { x; if !match(COMMA) break }`)**: a
possibly empty comma separated list whose elements start with a guard token is returned whole
(column definitions, INSERT column list, VALUES rows and the values of a row, SET assignments).
Hypotheses: the token behind the list is not a comma; behind an empty list it is not the guard;
the fuel is at least the number of elements + 1. -/
theorem C10_guarded_list_whole {α} (tys : List Int) (body : Token → P (α × Bool)) (tk : Nat → α → List Token)
    (comma : Token) (hc : comma.ty = t_COMMA) (bad : List Int) (hbad : bad.contains t_COMMA = false)
    (rest : List Token) (hrest : HeadNot (t_COMMA :: bad) rest) (N : Nat) (xs : List α)
    (hbody : ∀ j x r', x ∈ xs → (tk j x).length ≤ N → HeadNot bad r' →
      ∃ g tl, tk j x = g :: tl ∧ tys.contains g.ty = true ∧ body g (tl ++ r') = withComma x r')
    (hnil : xs = [] → HeadNot tys rest) (i f : Nat) (hf : xs.length + 1 ≤ f)
    (hN : (tokSep tk comma i xs).length ≤ N) :
    guardedLoop f tys body (tokSep tk comma i xs ++ rest) = .ok xs rest :=
  guardedLoop_tok tys body tk comma hc bad hbad rest hrest N xs hbody hnil i f hf hN

/-- the values `1, 'x', TRUE` of a VALUES row, closed by `)` -/
example : guardedLoop 4 literalTys valBody
      (tokSep (tokLitItem {}) ⟨t_COMMA, []⟩ 0 [.int 1, .str [120], .bool true] ++ [⟨t_RPAREN, []⟩]) =
    .ok [.int 1, .str [120], .bool true] [⟨t_RPAREN, []⟩] :=
  C10_guarded_list_whole literalTys valBody (tokLitItem {}) ⟨t_COMMA, []⟩ rfl [] rfl _ (by decide) 100 _
    (fun j x r' hx _ _ =>
      have hg := stdLitTok_good x ((by decide : ∀ x ∈ [Lit.int 1, .str [120], .bool true], stdLit x = true) x hx)
      ⟨stdLitTok x, [], rfl, hg.1, valBody_tok {} x hg _⟩)
    (fun h => by cases h) 0 4 (by decide) (by decide)

/-- **C10.join_chain_roundtrip**: a chain of joins - each LEFT, RIGHT or INNER (the keyword INNER
written or not, per join), with table, optional alias and ON condition - is read back with every
kind mapped to itself, nested to the left.  Hypotheses: well-formed ON conditions, the next token
is not one a condition or the loop would go on reading, fuel = token count + 2. -/
theorem C10_join_chain_roundtrip (o : ROpts) (ok : Lit → Bool) (hlit : ∀ l, ok l = true → GoodLit o.lit l)
    (rest : List Token) (hr : HeadNot joinBad rest) (js : List JoinSpec)
    (hw : (js.all fun j => wfCond ok j.2.2) = true) (lhs : TableRef) (i f : Nat)
    (hf : (tokJoins o i js).length + 2 ≤ f) :
    joinLoop f lhs (tokJoins o i js ++ rest) = .ok (js.foldl mkJoin lhs) rest :=
  joinLoop_tok o ok hlit rest hr js hw lhs i f hf

/-- `t JOIN u ON a = b RIGHT JOIN v w ON c` -/
example : joinLoop 20 (.table ⟨[116], none⟩) (tokJoins {} 0
      [(.inner, ⟨[117], none⟩, .pred ⟨.col ⟨[], [97]⟩, t_EQ, .col ⟨[], [98]⟩⟩),
       (.right, ⟨[118], some [119]⟩, .val (.col ⟨[], [99]⟩))] ++ []) =
    .ok (.join (.join (.table ⟨[116], none⟩) .inner ⟨[117], none⟩ (.pred ⟨.col ⟨[], [97]⟩, t_EQ, .col ⟨[], [98]⟩⟩))
      .right ⟨[118], some [119]⟩ (.val (.col ⟨[], [99]⟩))) [] :=
  C10_join_chain_roundtrip {} stdLit stdLitTok_good [] trivial _ (by decide) _ 0 20 (by decide)

/-! The concrete statements `c10ExSelect`, `c10ExInsert`, `c10ExCreate`, `c10ExUpdate` and the options
`c10ExOpts` of the non-vacuity examples below are defined at the end of `Proofs/RoundtripRange.lean`. -/

/-- **C10.parse_statement_roundtrip**: `parseStatement` reads every well-formed statement back from
`renderStmt o s`, whatever optional spellings `o` chooses, and consumes exactly its tokens.
Hypotheses: the literals `ok` accepts are written by good tokens; the next token is none a
production would go on reading (`stmtBad`: a semicolon or the end is fine); behind a SELECT without
FROM there is at most one token (`p.HasNext()`); fuel = token count + 2. -/
theorem C10_parse_statement_roundtrip (o : ROpts) (ok : Lit → Bool) (hlit : ∀ l, ok l = true → GoodLit o.lit l)
    (s : Stmt) (hw : wfStmt ok s = true) (rest : List Token) (hr : HeadNot stmtBad rest)
    (hshort : needsShortTail s = true → rest.length ≤ 1)
    (f : Nat) (hf : (renderStmt o s).length + 2 ≤ f) :
    parseStmt f (renderStmt o s ++ rest) = .ok s rest :=
  parseStmt_tok o ok hlit s hw rest hr hshort f hf

/-- the UPDATE, followed by a semicolon that is left unread -/
example : parseStmt 40 (renderStmt c10ExOpts c10ExUpdate ++ [⟨t_SEMICOLON, []⟩]) = .ok c10ExUpdate [⟨t_SEMICOLON, []⟩] :=
  C10_parse_statement_roundtrip c10ExOpts stdLit stdLitTok_good c10ExUpdate (by decide) _ (by decide)
    (by decide) 40 (by decide)

/-- **C10.statement_roundtrip (any literal tokens)**: `Parser.Parse` - with its own fuel - returns `s`
for the tokens of `s` followed by `k` closing semicolons and an EOF token or nothing.
Hypotheses: `o.lit` is good on the literals `ok` accepts, `s` is well formed relative to `ok`, and
the closing is one the parser allows (`closingOK`: any, except that a SELECT without FROM takes at
most one token behind it). -/
theorem C10_statement_roundtrip_lit (o : ROpts) (ok : Lit → Bool) (hlit : ∀ l, ok l = true → GoodLit o.lit l)
    (s : Stmt) (hw : wfStmt ok s = true) (k : Nat) (e : Bool) (hc : closingOK s k e = true) :
    parseTokens (renderStmt o s ++ closing o k e) = .ok s :=
  parseTokens_render o ok hlit s hw k e hc

/-- literal tokens other than the standard ones: integers written with a `+` sign -/
example : parseTokens (renderStmt { lit := fun l => match l with
      | .int i => ⟨t_INT, 43 :: natDigits i.toNat⟩ | l => stdLitTok l } c10ExCreate ++ closing {} 1 false) =
    .ok c10ExCreate :=
  C10_statement_roundtrip_lit _ (fun l => decide (l = .int 255)) (fun l hl => by
    simp only [decide_eq_true_eq] at hl; subst hl; exact ⟨rfl, rfl⟩) c10ExCreate (by decide) 1 false (by decide)

/-- **C10.statement_roundtrip** - parsing is faithful, token level, ALL productions.  For every
well-formed statement `s` (`WFStmt`, decidable: the statements the grammar can express) and every
choice `o` of the optional spellings - keyword texts (any case), AS before an alias or not, INNER
before JOIN or not, ASC written or not, commas in GROUP BY or not, `GROUP BY` with an empty list,
LIMIT before OFFSET or after, `()` for an empty INSERT column list, `SHOW DATABASE` or
`SHOW databases` in any case - the token list `renderStmt o s`, closed by any number `k` of
semicolons and an EOF token or nothing, parses to exactly `s`: same kind, names, literals,
operators, clause contents and order.  This contains: AND groups tighter than OR (the shape in
`WFStmt` is the tree with that grouping and it comes back unchanged); LEFT / RIGHT / INNER,
ASC / DESC, LIMIT / OFFSET are mapped to themselves; every element of every comma separated list
comes back (`C10_no_list_cut` spells that out).  Hypotheses: literals are written by the standard
tokens (`o.lit = stdLitTok`, the default); `closingOK`: behind a SELECT without FROM at most one
closing token is accepted by the code (`SELECT 1;;` is refused, see the witness below). -/
theorem C10_statement_roundtrip (o : ROpts) (ho : o.lit = stdLitTok) (s : Stmt) (hw : WFStmt s)
    (k : Nat) (e : Bool) (hc : closingOK s k e = true) :
    parseTokens (renderStmt o s ++ closing o k e) = .ok s :=
  parseTokens_render o stdLit (fun l hl => by rw [ho]; exact stdLitTok_good l hl) s hw k e hc

/-- **C10.no_list_cut**: no clause written in standard form is cut short - the statement parsed
from the tokens of `s` has the same select list, GROUP BY list, ORDER BY list, INSERT column list,
VALUES rows (and values in each row), SET assignments and column definitions as `s`: same elements
in the same order, hence the same lengths.  (This is `C10_statement_roundtrip` read list by list;
the loop-level facts for arbitrary element parsers are `C10_sep_list_whole` and
`C10_guarded_list_whole`; that nothing behind a statement is dropped is `C10_no_silent_tail`.) -/
theorem C10_no_list_cut (o : ROpts) (ho : o.lit = stdLitTok) (s : Stmt) (hw : WFStmt s)
    (k : Nat) (e : Bool) (hc : closingOK s k e = true) :
    (∀ sel, s = .select sel → ∃ sel', parseTokens (renderStmt o s ++ closing o k e) = .ok (.select sel') ∧
      sel'.list = sel.list ∧ sel'.groupBy = sel.groupBy ∧ sel'.orderBy = sel.orderBy ∧
      sel'.list.length = sel.list.length ∧ sel'.groupBy.length = sel.groupBy.length ∧
      sel'.orderBy.length = sel.orderBy.length) ∧
    (∀ t cols rows, s = .insert t cols rows → ∃ cols' rows',
      parseTokens (renderStmt o s ++ closing o k e) = .ok (.insert t cols' rows') ∧ cols' = cols ∧ rows' = rows ∧
      rows'.length = rows.length ∧ rows'.map List.length = rows.map List.length) ∧
    (∀ t sets w, s = .update t sets w → ∃ sets',
      parseTokens (renderStmt o s ++ closing o k e) = .ok (.update t sets' w) ∧ sets' = sets ∧
      sets'.length = sets.length) ∧
    (∀ n cols, s = .createTable n cols → ∃ cols',
      parseTokens (renderStmt o s ++ closing o k e) = .ok (.createTable n cols') ∧ cols' = cols ∧
      cols'.length = cols.length) := by
  have h := C10_statement_roundtrip o ho s hw k e hc
  refine ⟨?_, ?_, ?_, ?_⟩
  · intro sel hs; subst hs; exact ⟨sel, h, rfl, rfl, rfl, rfl, rfl, rfl⟩
  · intro t cols rows hs; subst hs; exact ⟨cols, rows, h, rfl, rfl, rfl, rfl⟩
  · intro t sets w hs; subst hs; exact ⟨sets, h, rfl, rfl⟩
  · intro n cols hs; subst hs; exact ⟨cols, h, rfl, rfl⟩

/-- the three VALUES rows (of 3, 3 and 0 values) of the concrete INSERT come back -/
example : ∃ cols' rows', parseTokens (renderStmt c10ExOpts c10ExInsert ++ closing c10ExOpts 1 false) =
      .ok (.insert [116] cols' rows') ∧ rows'.length = 3 ∧ rows'.map List.length = [3, 3, 0] := by
  obtain ⟨c, r, h, hc, hr, _, _⟩ :=
    (C10_no_list_cut c10ExOpts rfl c10ExInsert (by decide) 1 false (by decide)).2.1 _ _ _ rfl
  exact ⟨c, r, h, by rw [hr]; rfl, by rw [hr]; rfl⟩

/-- **C10.parsed_statements_are_wellformed** (the converse: `wfStmt` is not too narrow): whatever
token list `Parser.Parse` accepts, the statement it returns is well formed relative to the literals
a token can carry (`int64Lit`: strings, booleans, int64 integers).  In particular conditions have
the AND-inside-OR shape, `*` stands alone in a select list, a SELECT without FROM has no other
clause, an absent LIMIT / OFFSET is 0 and a present one is not negative, `validateGroupBy` passed. -/
theorem C10_parsed_statements_are_wellformed (ts : List Token) (s : Stmt) (h : parseTokens ts = .ok s) :
    wfStmt int64Lit s = true :=
  parseTokens_wf h

/-- the hypothesis is met by `SELECT 1;` -/
example : wfStmt int64Lit (.select { list := [⟨.expr (.val (.lit (.int 1))), []⟩] }) = true :=
  C10_parsed_statements_are_wellformed [⟨t_SELECT, []⟩, ⟨t_INT, [49]⟩, ⟨t_SEMICOLON, []⟩] _ rfl

/-- **C10.wellformed_iff_parseable**: `wfStmt` describes exactly the statements the grammar can
express - a statement is well formed relative to `int64Lit` if and only if some token list parses
to it (for "if": its rendering, negative integers written with a minus sign in the INT token).
`WFStmt` is the same predicate relative to the literals the scanner can write (`stdLit`: no
negative integers). -/
theorem C10_wellformed_iff_parseable (s : Stmt) :
    wfStmt int64Lit s = true ↔ ∃ ts, parseTokens ts = .ok s := by
  constructor
  · intro hw
    refine ⟨renderStmt { lit := intLitTok } s ++ closing { lit := intLitTok } 0 false, ?_⟩
    exact parseTokens_render { lit := intLitTok } int64Lit intLitTok_good s hw 0 false (by
      simp only [closingOK, Bool.toNat_false, Nat.add_zero, Nat.zero_le, decide_true, Bool.or_true])
  · rintro ⟨ts, h⟩
    exact parseTokens_wf h

/-- both directions are inhabited: the rich SELECT is well formed, hence parseable -/
example : ∃ ts, parseTokens ts = .ok c10ExSelect := (C10_wellformed_iff_parseable _).mp (by decide)

/-! ### Non-vacuity of `C10_statement_roundtrip`, and the findings -/

example : WFStmt c10ExSelect ∧ WFStmt c10ExInsert ∧ WFStmt c10ExCreate ∧ WFStmt c10ExUpdate := by decide +kernel

example : closingOK c10ExSelect 3 true = true ∧ closingOK (.select { list := [⟨.star, []⟩] }) 1 false = true := by
  decide

/-- the theorem instantiated: default spellings and the non-default ones, three semicolons and EOF -/
example : parseTokens (renderStmt {} c10ExSelect ++ closing {} 3 true) = .ok c10ExSelect ∧
    parseTokens (renderStmt c10ExOpts c10ExSelect ++ closing c10ExOpts 0 false) = .ok c10ExSelect ∧
    parseTokens (renderStmt c10ExOpts c10ExInsert ++ closing c10ExOpts 2 false) = .ok c10ExInsert ∧
    parseTokens (renderStmt {} c10ExCreate ++ closing {} 0 true) = .ok c10ExCreate ∧
    parseTokens (renderStmt c10ExOpts c10ExUpdate ++ closing c10ExOpts 1 true) = .ok c10ExUpdate ∧
    parseTokens (renderStmt c10ExOpts .showDatabases ++ closing c10ExOpts 1 false) = .ok .showDatabases :=
  ⟨C10_statement_roundtrip {} rfl _ (by decide) 3 true (by decide),
   C10_statement_roundtrip c10ExOpts rfl _ (by decide) 0 false (by decide),
   C10_statement_roundtrip c10ExOpts rfl _ (by decide) 2 false (by decide),
   C10_statement_roundtrip {} rfl _ (by decide) 0 true (by decide),
   C10_statement_roundtrip c10ExOpts rfl _ (by decide) 1 true (by decide),
   C10_statement_roundtrip c10ExOpts rfl _ (by decide) 1 false (by decide)⟩

/-- the same by evaluation of the model (independent of the proofs): the 102 tokens of the SELECT
with default spellings, and the spellings of `c10ExOpts` -/
example : parseTokens (renderStmt {} c10ExSelect) = .ok c10ExSelect ∧
    parseTokens (renderStmt c10ExOpts c10ExSelect ++ closing c10ExOpts 2 false) = .ok c10ExSelect ∧
    parseTokens (renderStmt c10ExOpts c10ExInsert) = .ok c10ExInsert ∧
    parseTokens (renderStmt {} c10ExCreate) = .ok c10ExCreate := by
  decide +kernel

/-- the first tokens of the rendering are what one expects: `SELECT t . a AS x , COUNT ( * ) AS …` -/
example : (renderStmt {} c10ExSelect).take 12 =
    [⟨t_SELECT, []⟩, ⟨t_IDENT, [116]⟩, ⟨t_DOT, []⟩, ⟨t_IDENT, [97]⟩, ⟨t_AS, []⟩, ⟨t_IDENT, [120]⟩, ⟨t_COMMA, []⟩,
     ⟨t_COUNT, []⟩, ⟨t_LPAREN, []⟩, ⟨t_ASTRSK, []⟩, ⟨t_RPAREN, []⟩, ⟨t_AS, []⟩] := by decide +kernel

/-- **Finding (closing of a SELECT without FROM)**: `SELECT 1` and `SELECT 1;` parse, `SELECT 1;;`
is refused ("unexpected token ;, expected FROM") although `SELECT * FROM t;;` is accepted: the
test `!hasFromClause && p.HasNext()` of `Parser.Select` counts tokens instead of looking for the
end of the statement.  This is why `closingOK` restricts the closing of such a SELECT. -/
example :
    parseTokens [⟨t_SELECT, []⟩, ⟨t_INT, [49]⟩, ⟨t_SEMICOLON, []⟩] =
      .ok (.select { list := [⟨.expr (.val (.lit (.int 1))), []⟩] }) ∧
    parseTokens [⟨t_SELECT, []⟩, ⟨t_INT, [49]⟩, ⟨t_SEMICOLON, []⟩, ⟨t_SEMICOLON, []⟩] = .err .unexpected ∧
    parseTokens [⟨t_SELECT, []⟩, ⟨t_ASTRSK, []⟩, ⟨t_FROM, []⟩, ⟨t_IDENT, [116]⟩, ⟨t_SEMICOLON, []⟩, ⟨t_SEMICOLON, []⟩] =
      .ok (.select { list := [⟨.star, []⟩], from_ := some (.table ⟨[116], none⟩) }) := by
  decide +kernel

/-- standard spellings outside the grammar are refused, not cut: `FROM t AS x`, `LEFT OUTER JOIN` -/
example :
    parseTokens [⟨t_SELECT, []⟩, ⟨t_ASTRSK, []⟩, ⟨t_FROM, []⟩, ⟨t_IDENT, [116]⟩, ⟨t_AS, []⟩, ⟨t_IDENT, [120]⟩] =
      .err .syntax ∧
    parseTokens [⟨t_SELECT, []⟩, ⟨t_ASTRSK, []⟩, ⟨t_FROM, []⟩, ⟨t_IDENT, [116]⟩, ⟨t_LEFT, []⟩, ⟨t_OUTER, []⟩,
      ⟨t_JOIN, []⟩, ⟨t_IDENT, [117]⟩, ⟨t_ON, []⟩, ⟨t_IDENT, [97]⟩] = .err .unexpected := by
  decide +kernel

end Mkdb.Sql

/-!
# C10 — buffered reading of the SQL scanner is invisible

`Scanner.next` (sql/go_scanner.go) reads runes out of a 1024-byte buffer that it refills
from an `io.Reader`; a reader may return any number of bytes per `Read`.  The statements
below hold for every input and every behaviour of the reader.
-/
namespace Mkdb.ScanBuf

/-- **C10.buffered_reading_is_invisible**: take any input bytes and any reader (any number of
bytes per `Read`, at least one while input remains; EOF reported together with the last bytes
or by a separate empty `Read`).  Calling `next` from `Init` until it returns EOF delivers
exactly the runes that decoding the whole input in one piece gives (`DecodeRune` on what is
left, again and again), and every rune takes up the same number of bytes, so offsets agree;
the widths add up to the length of the input, so nothing is lost or read twice at a refill. -/
theorem C10_buffered_reading_is_invisible (input : Bytes) (sched : Nat → Choice) :
    (nextAll (init input sched)).map (·.1) = decodeRunes input ∧
    (nextAll (init input sched)).map (·.2) = (decodeAll input).map (·.2) ∧
    ((nextAll (init input sched)).map (·.2)).sum = input.length :=
  ⟨nextAll_buffered_eq_unbuffered input sched, nextAll_widths_eq input sched, by
    rw [nextAll_widths_eq]; exact decodeAll_widths_sum _ input rfl⟩

/-- The same from any scanner state (any buffer content, any token in progress): what is still
to come is the decoding of the bytes not yet consumed. -/
theorem C10_buffered_reading_is_invisible_any_state (st : St) :
    nextAll st = decodeAll (pending st) :=
  nextAll_eq_decodeAll st

/-- **C10.token_text_survives_refills**: `Scan` starts a token when `i+1` characters have been
read (the token begins with character `i+1`, the look-ahead) and ends it when `k+1` more
have been read (the last of them is the next look-ahead).  `TokenText()` is then exactly the
`k+1` characters of the input that begin at the byte offset of character `i+1` - however
often the buffer was refilled in between and however the reader cut the input. -/
theorem C10_token_text_survives_refills (input : Bytes) (sched : Nat → Choice) (i k : Nat) :
    tokenText (nexts (k + 1) (startToken (nexts (i + 1) (init input sched)))) =
      (input.drop (consumed i input)).take (consumed (k + 1) (input.drop (consumed i input))) :=
  tokenText_from_init input sched i k

/-- `consumed k p`, the offset used above, is the sum of the first `k` rune widths of `p`. -/
theorem C10_consumed_is_sum_of_widths (k : Nat) (p : Bytes) :
    consumed k p = (((decodeAll p).take k).map (·.2)).sum :=
  consumed_eq_sum k p

/-- The fact the refill loop of `next` rests on: when the bytes in the buffer begin with a full
rune (or there are `UTFMax` of them), `DecodeRune` does not look at what follows. -/
theorem C10_decodeRune_prefix_stable (bs more : Bytes)
    (h : fullRune bs = true ∨ utfMax ≤ bs.length) :
    decodeRune (bs ++ more) = decodeRune bs :=
  decodeRune_prefix_stable bs more h

/-! Computed examples.  The input: 1023 times `a`, then `é` (C3 A9) on the byte positions
1023/1024 - across the end of the first buffer -, `b`, `€` (E2 82 AC), an encoded surrogate
(ED A0 80: three error runes of width 1) and a cut-off 4-byte sequence (F0 9F: two more). -/

def c10BufInput : Bytes :=
  List.replicate 1023 97 ++ [0xC3, 0xA9, 98, 0xE2, 0x82, 0xAC, 0xED, 0xA0, 0x80, 0xF0, 0x9F]
/-- a reader that fills all the free space (`strings.Reader`, `bytes.Reader`) -/
def c10FillAll : Nat → Choice := fun _ => ⟨bufLen, false⟩
/-- a reader that returns 1, 2, 3, 1, 2, 3, ... bytes and reports EOF with the last ones -/
def c10Small : Nat → Choice := fun i => ⟨i % 3 + 1, true⟩

set_option maxRecDepth 100000 in
/-- the direct decoding of the input, evaluated once: its tail and its length -/
theorem c10Buf_decodeAll : (decodeAll c10BufInput).drop 1022 =
      [(97, 1), (233, 2), (98, 1), (8364, 3), (65533, 1), (65533, 1), (65533, 1), (65533, 1), (65533, 1)] ∧
    (decodeAll c10BufInput).length = 1031 := by
  rw [decodeAll_eq_decodeAllF _ c10BufInput (Nat.le_refl _)]
  decide +kernel

set_option maxRecDepth 100000 in
/-- both readers: the tail of the run is `a é b € � � � � �` with widths 1 2 1 3 1 1 1 1 1,
and the run has 1031 runes for 1034 bytes -/
example :
    (nextAll (init c10BufInput c10FillAll)).drop 1022 =
      [(97, 1), (233, 2), (98, 1), (8364, 3), (65533, 1), (65533, 1), (65533, 1), (65533, 1), (65533, 1)] ∧
    (nextAll (init c10BufInput c10Small)).drop 1022 =
      [(97, 1), (233, 2), (98, 1), (8364, 3), (65533, 1), (65533, 1), (65533, 1), (65533, 1), (65533, 1)] ∧
    (nextAll (init c10BufInput c10Small)).length = 1031 ∧ c10BufInput.length = 1034 := by
  -- whatever the reader, the run is the direct decoding of the input
  have hp (s) : pending (init c10BufInput s) = c10BufInput := rfl
  simp only [nextAll_eq_decodeAll, hp]
  exact ⟨c10Buf_decodeAll.1, c10Buf_decodeAll.1, c10Buf_decodeAll.2, by decide +kernel⟩

set_option maxRecDepth 100000 in
/-- ... which is what direct decoding gives -/
example : (decodeAll c10BufInput).drop 1022 =
    [(97, 1), (233, 2), (98, 1), (8364, 3), (65533, 1), (65533, 1), (65533, 1), (65533, 1), (65533, 1)] :=
  c10Buf_decodeAll.1

set_option maxRecDepth 100000 in
/-- the refill really happens inside the character: with the filling reader, after 1023 calls
one `Read` has been made and the buffer holds the lone byte C3; the next call reads again -/
example :
    (nexts 1023 (init c10BufInput c10FillAll)).win = [0xC3] ∧
    (nexts 1023 (init c10BufInput c10FillAll)).reads = 1 ∧
    (nexts 1024 (init c10BufInput c10FillAll)).reads = 2 ∧
    (nexts 1024 (init c10BufInput c10FillAll)).last = [0xC3, 0xA9] ∧
    (nexts 1031 (init c10BufInput c10Small)).reads = 518 := by
  rw [nexts_eq_nextsS c10Small 1031 _ rfl]
  simp only [nexts_eq_nextsF]
  decide +kernel

set_option maxRecDepth 100000 in
/-- token text across the refill: a token that begins with the `a` at offset 1021 and ends
before `b` reads `a a é`; its head `a a` went to `tokBuf` when the buffer was refilled -/
example :
    tokenText (nexts 3 (startToken (nexts 1022 (init c10BufInput c10FillAll)))) = [97, 97, 0xC3, 0xA9] ∧
    (nexts 3 (startToken (nexts 1022 (init c10BufInput c10FillAll)))).tokBuf = [97, 97] ∧
    tokenText (nexts 3 (startToken (nexts 1022 (init c10BufInput c10Small)))) = [97, 97, 0xC3, 0xA9] ∧
    tokenText (nexts 6 (startToken (nexts 1024 (init c10BufInput c10Small)))) =
      [0xC3, 0xA9, 98, 0xE2, 0x82, 0xAC, 0xED, 0xA0, 0x80] := by
  -- the filling reader is run (its `tokBuf` is asked for); `tokenText_from_init` does not mention
  -- the reader, so the first text is the same under the other one, and the second is that part of
  -- the input
  rw [tokenText_from_init c10BufInput c10Small 1021 2, ← tokenText_from_init c10BufInput c10FillAll 1021 2,
    tokenText_from_init c10BufInput c10Small 1023 5]
  simp only [nexts_eq_nextsF, Nat.reduceAdd]
  decide +kernel

end Mkdb.ScanBuf
