import Mkdb.Proofs.ScanLoops
/-!
# The scanner on text in standard form: generic stopping lemmas, gaps

The facts about the helper loops of `Model/Scan.lean` that the round trip
`scanSQL (rendered text) = tokens` needs: each loop (`skipWs`, `scanIdentTail`, `digits`,
`scanNumber`, `scanStringBody`, `lineComment`, `blockComment`) stops exactly where the
rendered token ends.  Nothing here is assumed about the text: the stopping point is proved.
-/
namespace Mkdb.Scan
open Mkdb.Generated

theorem HeadP_nil (p : Rune → Bool) : HeadP p [] = true := rfl

theorem HeadP_append_of_ne (p : Rune → Bool) (A X : Input) (h : A ≠ []) :
    HeadP p (A ++ X) = HeadP p A := by
  cases A with
  | nil => exact absurd rfl h
  | cons a A => rfl

/-! ## The helper loops stop at the end of the token -/

theorem skipWs_not (r : Rune) (X : Input) (h : isWs r.code = false) : skipWs (r :: X) = r :: X := by
  simp only [skipWs, h, Bool.false_eq_true, ↓reduceIte]

theorem skipWs_append (ws X : Input) (h : ∀ r ∈ ws, isWs r.code = true) :
    skipWs (ws ++ X) = skipWs X := by
  rw [skipWs_eq, skipWs_eq, List.dropWhile_append_of_pos h]

theorem scanIdentTail_append (w X : Input) (hw : ∀ r ∈ w, isIdentRune r false = true)
    (hX : HeadP (fun r => !isIdentRune r false) X = true) : scanIdentTail (w ++ X) = X := by
  rw [scanIdentTail_eq]
  exact dropWhile_append_stop w X hw hX

theorem digits_append (w X : Input) (hw : ∀ r ∈ w, isDecimal r.code = true)
    (hX : HeadP (fun r => !(isDecimal r.code || r.code == 95)) X = true) : digits false (w ++ X) = X := by
  rw [digits_eq]
  exact dropWhile_append_stop w X (fun r hr => by simp [isDigitOf, hw r hr]) hX

/-- what may not follow a decimal integer: `.`, an exponent letter (`e E p P`) -/
def notFloatCont (r : Rune) : Bool := !(r.code == 46 || lower r.code == 101 || lower r.code == 112)
/-- what may not follow a lone `0`: a base prefix letter (`x X o O b B`) -/
def notBasePrefix (r : Rune) : Bool := !(lower r.code == 120 || lower r.code == 111 || lower r.code == 98)

/-- behind a decimal digit `z` there is no radix prefix to take: the digits begin at `z`, or (a leading
`0`) behind it -/
theorem numPrefix_dec (z : Rune) (Y : Input) (hY : z.code = 48 → HeadP notBasePrefix Y = true) :
    numPrefix (z :: Y) = (false, z :: Y) ∨ numPrefix (z :: Y) = (false, Y) := by
  by_cases h48 : z.code = 48
  · right
    have hp := hY h48
    cases Y with
    | nil => simp only [numPrefix, h48, beq_self_eq_true, ↓reduceIte]
    | cons p Y =>
      simp only [HeadP, notBasePrefix, Bool.not_eq_true', Bool.or_eq_false_iff] at hp
      simp only [numPrefix, h48, beq_self_eq_true, ↓reduceIte, hp.1.1, hp.1.2, hp.2, Bool.false_eq_true]
  · left
    simp only [numPrefix, beq_iff_eq, h48, ↓reduceIte]

theorem numFrac_numExp_stop (hex isF : Bool) (X : Input) (hX : HeadP notFloatCont X = true) :
    numFrac hex X = (false, X) ∧ numExp isF X = (isF, X) := by
  cases X with
  | nil => exact ⟨rfl, rfl⟩
  | cons x X =>
    simp only [HeadP, notFloatCont, Bool.not_eq_true', Bool.or_eq_false_iff] at hX
    simp only [numFrac, numExp, hX.1.1, hX.1.2, hX.2, Bool.false_eq_true, ↓reduceIte, Bool.or_self, and_self]

theorem scanNumber_int (z : Rune) (Y X : Input) (hz : isDecimal z.code = true)
    (hY : z.code = 48 → HeadP notBasePrefix Y = true) (hd : digits false Y = X)
    (hX : HeadP notFloatCont X = true) : scanNumber (z :: Y) false = (false, X) := by
  have hzd : digits false (z :: Y) = X := by
    simp only [digits, Bool.false_eq_true, ↓reduceIte, hz, Bool.true_or]; exact hd
  obtain ⟨hf, he⟩ := numFrac_numExp_stop false false X hX
  rw [scanNumber_false]
  rcases numPrefix_dec z Y hY with h | h <;> simp only [h, hzd, hd, hf, he]

theorem scanStringBody_ext (q : Nat) (c : Rune) (X : Input) (body : Input) (s : SState)
    (h : scanStringBody q s (body ++ [c]) = (true, [c])) :
    scanStringBody q s (body ++ c :: X) = (true, c :: X) := by
  have := scanStringBody_append q X (body ++ [c]) s (by rw [h]; exact List.cons_ne_nil _ _)
  rwa [h, List.append_assoc] at this

theorem lineComment_append (body : Input) (nl : Rune) (X : Input) (hnl : nl.code = 10)
    (hb : ∀ r ∈ body, (r.code == 10) = false) : lineComment (body ++ nl :: X) = nl :: X := by
  rw [lineComment_eq]
  exact dropWhile_append_stop body (nl :: X) (fun r hr => by rw [hb r hr]; rfl) (by simp [HeadP, hnl])

/-- a `/* */` comment whose body does not contain `*/` ends at the `*/` written behind the body -/
theorem blockComment_append (body : Input) (s sl : Rune) (X : Input) (hs : s.code = 42) (hsl : sl.code = 47) :
    ∀ b, blockComment b body = none → blockComment b (body ++ s :: sl :: X) = some X := by
  induction body with
  | nil =>
    intro b _
    simp only [List.nil_append, blockComment, hs, hsl, beq_self_eq_true, Bool.and_true]
    have : (42 == 47) = false := by decide
    simp [this]
  | cons a body ih =>
    intro b h
    simp only [blockComment] at h
    simp only [List.cons_append, blockComment]
    split
    · rename_i hc; rw [if_pos hc] at h; cases h
    · rename_i hc; rw [if_neg hc] at h; exact ih _ h

/-- the runes `scanTok` gives a token (`done` in the model) when the helper loops stop at `X` in `A ++ X` -/
theorem take_append_sub (A X : Input) : List.take ((A ++ X).length - X.length) (A ++ X) = A := by
  rw [List.length_append, Nat.add_sub_cancel]
  exact List.take_left

/-! ## Gaps: whitespace and comments between tokens -/

theorem scanTok_ws (f : Nat) (w : Rune) (X : Input) (h : isWs w.code = true) :
    scanTok (f + 1) (w :: X) = scanTok (f + 1) X := by
  simp only [scanTok, skipWs, h, ↓reduceIte]

theorem scanTok_lineStart (f : Nat) (Y : Input) :
    scanTok (f + 1) (asciiRune 47 :: asciiRune 47 :: Y) = scanTok f (lineComment Y) := by
  rw [scanTok]
  have h1 : skipWs (asciiRune 47 :: asciiRune 47 :: Y) = asciiRune 47 :: asciiRune 47 :: Y := skipWs_not _ _ rfl
  have h2 : isIdentRune (asciiRune 47) true = false := by decide
  simp only [h1, h2]
  simp [isDecimal]

theorem scanTok_blockStart (f : Nat) (Y Z : Input) (hZ : blockComment false Y = some Z) :
    scanTok (f + 1) (asciiRune 47 :: asciiRune 42 :: Y) = scanTok f Z := by
  rw [scanTok]
  have h1 : skipWs (asciiRune 47 :: asciiRune 42 :: Y) = asciiRune 47 :: asciiRune 42 :: Y := skipWs_not _ _ rfl
  have h2 : isIdentRune (asciiRune 47) true = false := by decide
  simp only [h1, h2, hZ]
  simp [isDecimal]

/-- an element of the space between two tokens -/
inductive GapEl where
  /-- one whitespace rune: tab (9), line feed (10), vertical tab (11), form feed (12), carriage return (13)
  or space (32) -/
  | ws (c : Nat)
  /-- `/* body */` -/
  | block (body : Input)
  /-- `// body` and the line feed that ends it -/
  | line (body : Input)

abbrev Gap := List GapEl

def GapEl.runes : GapEl → Input
  | .ws c => [asciiRune c]
  | .block body => asciiRune 47 :: asciiRune 42 :: body ++ [asciiRune 42, asciiRune 47]
  | .line body => asciiRune 47 :: asciiRune 47 :: body ++ [asciiRune 10]

/-- well-formed: a whitespace code; a block comment body without `*/`; a line comment body without a
line feed -/
def GapEl.ok : GapEl → Bool
  | .ws c => isWs c
  | .block body => (blockComment false body).isNone
  | .line body => body.all fun r => !(r.code == 10)

/-- scanner passes (`goto redo`) the element costs -/
def GapEl.cost : GapEl → Nat
  | .ws _ => 0
  | _ => 1

def Gap.runes (g : Gap) : Input := g.flatMap GapEl.runes
def Gap.ok (g : Gap) : Bool := g.all GapEl.ok
def Gap.cost (g : Gap) : Nat := (g.map GapEl.cost).sum

theorem Gap.runes_cons (e : GapEl) (g : Gap) : Gap.runes (e :: g) = e.runes ++ Gap.runes g := by
  simp [Gap.runes]

/-- The scanner skips a well-formed gap: one extra pass per comment. -/
theorem scanTok_gap (g : Gap) (hg : Gap.ok g = true) (X : Input) :
    ∀ f, scanTok (Gap.cost g + f + 1) (Gap.runes g ++ X) = scanTok (f + 1) X := by
  induction g with
  | nil => intro f; simp [Gap.cost, Gap.runes]
  | cons e g ih =>
    intro f
    simp only [Gap.ok, List.all_cons, Bool.and_eq_true] at hg
    have ih' := ih hg.2
    have hcost : Gap.cost (e :: g) = e.cost + Gap.cost g := by simp [Gap.cost]
    rw [Gap.runes_cons, hcost, List.append_assoc]
    cases e with
    | ws c =>
      have hc : isWs (asciiRune c).code = true := hg.1
      simp only [GapEl.runes, GapEl.cost, Nat.zero_add, List.cons_append, List.nil_append]
      rw [scanTok_ws _ _ _ hc]; exact ih' f
    | block body =>
      have hb : blockComment false body = none := by simpa [GapEl.ok] using hg.1
      have := blockComment_append body (asciiRune 42) (asciiRune 47) (Gap.runes g ++ X) rfl rfl false hb
      simp only [GapEl.runes, GapEl.cost, List.cons_append, List.nil_append, List.append_assoc]
      have e1 : 1 + Gap.cost g + f + 1 = (Gap.cost g + f + 1) + 1 := by omega
      rw [e1, scanTok_blockStart _ _ _ this]; exact ih' f
    | line body =>
      have hb : ∀ r ∈ body, (r.code == 10) = false := by
        intro r hr
        have := hg.1
        simp only [GapEl.ok, List.all_eq_true] at this
        simpa using this r hr
      have := lineComment_append body (asciiRune 10) (Gap.runes g ++ X) rfl hb
      simp only [GapEl.runes, GapEl.cost, List.cons_append, List.nil_append, List.append_assoc]
      have e1 : 1 + Gap.cost g + f + 1 = (Gap.cost g + f + 1) + 1 := by omega
      rw [e1, scanTok_lineStart, this, scanTok_ws _ _ _ (by rfl)]; exact ih' f

end Mkdb.Scan
