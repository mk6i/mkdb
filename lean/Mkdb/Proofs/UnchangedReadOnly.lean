import Mkdb.Spec.Unchanged
import Mkdb.Proofs.Preserves
/-!
C14 ("a refused statement changes nothing"): the read-only framework.

`ReadOnly m`: started in a well-filed store, `m` ends (normally or with an error) in a well-filed
store with the same data.  `fetch` is read-only (the crux: caching a clean copy of the disk image
under the offset the page carries changes neither `pageAt` nor `dirtyAt` anywhere), and so is
everything built from `fetch`, `getS`, `pure`, `throw`, `decodeRow`, `encodeRow` by `bind`,
`if`, `match` and the fuel recursions of the model (`sameData_reads`: the walks of `Preserves`).
The module opens with the lemmas about `assocGet` / `assocSet`, the lists cache and data file are.
-/
set_option autoImplicit false
namespace Mkdb.Store
open Mkdb.Page Mkdb.Tuple Mkdb.Generated

/-! ### the association lists of the store (`assocGet`, `assocSet` of `Model/Store`): every lemma about them -/

theorem assocGet_none {β} {l : List (Nat × β)} {k : Nat} (h : assocGet l k = none) :
    ∀ p ∈ l, p.1 ≠ k := by
  unfold assocGet at h
  rw [Option.map_eq_none_iff] at h
  intro p hp
  simpa using List.find?_eq_none.mp h p hp

theorem assocGet_some {β} {l : List (Nat × β)} {k : Nat} {v : β} (h : assocGet l k = some v) :
    (k, v) ∈ l := by
  unfold assocGet at h
  rw [Option.map_eq_some_iff] at h
  obtain ⟨p, hp, rfl⟩ := h
  have h1 := List.mem_of_find?_eq_some hp
  have h2 : p.1 = k := by simpa using List.find?_some hp
  rw [← h2]; exact h1

theorem any_false_of_assocGet_none {β} {l : List (Nat × β)} {k : Nat} (h : assocGet l k = none) :
    l.any (fun p => p.1 == k) = false := by
  rw [List.any_eq_false]
  intro p hp
  simpa using assocGet_none h p hp

theorem assocSet_of_none {β} {l : List (Nat × β)} {k : Nat} (v : β) (h : assocGet l k = none) :
    assocSet l k v = l ++ [(k, v)] := by
  unfold assocSet
  rw [any_false_of_assocGet_none h]; rfl

theorem assocGet_append_single {β} (l : List (Nat × β)) (k k' : Nat) (v : β) :
    assocGet (l ++ [(k, v)]) k' =
      match assocGet l k' with
      | some x => some x
      | none => if k = k' then some v else none := by
  unfold assocGet
  rw [List.find?_append]
  cases h : List.find? (fun p => p.1 == k') l with
  | some x => simp
  | none =>
    by_cases hk : k = k'
    · simp [hk]
    · simp [hk]

theorem assocSet_same {β} {l : List (Nat × β)} {k : Nat} {v : β}
    (hany : l.any (fun p => p.1 == k) = true) (h : ∀ p ∈ l, p.1 = k → p.2 = v) :
    assocSet l k v = l := by
  unfold assocSet
  rw [hany]
  simp only [if_true]
  conv => rhs; rw [← List.map_id l]
  apply List.map_congr_left
  intro p hp
  by_cases hk : p.1 = k
  · have := h p hp hk
    simp only [hk, beq_self_eq_true, if_true, id]
    rw [← hk, ← this]
  · have : (p.1 == k) = false := by simpa using hk
    simp [this]

theorem assocSet_of_some {β} {l : List (Nat × β)} {k : Nat} {v : β} (v' : β) (h : assocGet l k = some v) :
    assocSet l k v' = l.map (fun p => if p.1 == k then (k, v') else p) := by
  unfold assocSet
  have : l.any (fun p => p.1 == k) = true := by
    rw [List.any_eq_true]; exact ⟨_, assocGet_some h, by simp⟩
  rw [this]; rfl

theorem mem_assocSet {β} {l : List (Nat × β)} {k : Nat} {v : β} {p : Nat × β}
    (h : p ∈ assocSet l k v) : p ∈ l ∨ p = (k, v) := by
  unfold assocSet at h
  split at h
  · rw [List.mem_map] at h
    obtain ⟨q, hq, e⟩ := h
    split at e
    · exact .inr e.symm
    · exact .inl (e ▸ hq)
  · rw [List.mem_append, List.mem_singleton] at h
    exact h

theorem assocGet_cons {β} (p : Nat × β) (ps : List (Nat × β)) (k : Nat) :
    assocGet (p :: ps) k = if p.1 = k then some p.2 else assocGet ps k := by
  unfold assocGet
  rw [List.find?_cons]
  by_cases h : p.1 = k
  · simp [h]
  · have : (p.1 == k) = false := by simpa using h
    simp [this, h]

theorem assocGet_map_set {β} (l : List (Nat × β)) (k k' : Nat) (v : β) :
    assocGet (l.map (fun p => if p.1 == k then (k, v) else p)) k' =
      if k' = k then ((assocGet l k).map fun _ => v) else assocGet l k' := by
  induction l with
  | nil => simp [assocGet]
  | cons p ps ih =>
    rw [List.map_cons, assocGet_cons, assocGet_cons, assocGet_cons, ih]
    by_cases hp : p.1 = k
    · by_cases hk : k' = k
      · simp [hp, hk]
      · have : ¬ k = k' := fun h => hk h.symm
        simp [hp, hk, this]
    · have hpk : (p.1 == k) = false := by simpa using hp
      by_cases hk : k' = k
      · have : ¬ p.1 = k' := by omega
        simp [hp, hk, hpk]
      · simp [hk, hpk]

theorem assocGet_assocSet {β} (l : List (Nat × β)) (k k' : Nat) (v : β) :
    assocGet (assocSet l k v) k' = if k' = k then some v else assocGet l k' := by
  unfold assocSet
  split
  · rename_i hany
    rw [assocGet_map_set]
    by_cases hk : k' = k
    · simp only [hk, if_true]
      cases hf : assocGet l k with
      | none => rw [any_false_of_assocGet_none hf] at hany; cases hany
      | some x => rfl
    · simp [hk]
  · rename_i hany
    have hnone : assocGet l k = none := by
      unfold assocGet
      rw [Option.map_eq_none_iff, List.find?_eq_none]
      intro p hp
      intro hpk
      exact hany (List.any_eq_true.mpr ⟨p, hp, hpk⟩)
    rw [assocGet_append_single]
    by_cases hk : k' = k
    · subst hk
      simp [hnone]
    · have : ¬ k = k' := fun h => hk h.symm
      simp only [this, hk, if_false]
      cases assocGet l k' <;> rfl

theorem SameData.refl (s : Store) : SameData s s :=
  ⟨fun _ => rfl, fun _ => rfl, rfl, rfl, rfl, rfl⟩

theorem SameData.trans {s1 s2 s3 : Store} (h12 : SameData s1 s2) (h23 : SameData s2 s3) :
    SameData s1 s3 :=
  ⟨fun off => (h23.page off).trans (h12.page off),
   fun off => (h23.dirty off).trans (h12.dirty off),
   h23.disk.trans h12.disk, h23.dhdr.trans h12.dhdr,
   h23.ptRoot.trans h12.ptRoot, h23.next.trans h12.next⟩

/-- the key / LSN counters and the ghost counter are not data -/
theorem SameData.counters (s : Store) (lk lsn g : Nat) :
    SameData s { s with hdr := { s.hdr with lastKey := lk, nextLSN := lsn }, ghost := g } :=
  ⟨fun _ => rfl, fun _ => rfl, rfl, rfl, rfl, rfl⟩

theorem Filed.counters {s : Store} (h : Filed s) (lk lsn g : Nat) :
    Filed { s with hdr := { s.hdr with lastKey := lk, nextLSN := lsn }, ghost := g } := h

/-! ### read-only computations -/

def ReadOnly {α} (m : SM α) : Prop :=
  ∀ s, Filed s →
    match m s with
    | .ok _ s' => Filed s' ∧ SameData s s'
    | .err _ s' => Filed s' ∧ SameData s s'
    | _ => True

theorem ReadOnly.ok {α} {m : SM α} (h : ReadOnly m) {s s' : Store} {a : α} (hf : Filed s)
    (e : m s = .ok a s') : Filed s' ∧ SameData s s' := by
  have := h s hf; rw [e] at this; exact this

theorem ReadOnly.err {α} {m : SM α} (h : ReadOnly m) {s s' : Store} {e : SErr} (hf : Filed s)
    (he : m s = .err e s') : Filed s' ∧ SameData s s' := by
  have := h s hf; rw [he] at this; exact this

/-- `ReadOnly` is the invariant `Filed` with the postcondition `SameData`, as a relation -/
theorem readOnly_iff {α} {m : SM α} :
    ReadOnly m ↔ Preserves (fun s s' => Filed s → Filed s' ∧ SameData s s') m := preserves_of_pre.symm

theorem ReadOnly.pure {α} (a : α) : ReadOnly (pure a : SM α) :=
  fun s hf => ⟨hf, SameData.refl s⟩

theorem ReadOnly.throw {α} (e : SErr) : ReadOnly (throw e : SM α) :=
  fun s hf => ⟨hf, SameData.refl s⟩

theorem ReadOnly.getS : ReadOnly getS :=
  fun s hf => ⟨hf, SameData.refl s⟩

theorem ReadOnly.panicS {α} (w : String) : ReadOnly (panicS w : SM α) := fun _ _ => trivial

/-! ### `fetch` is read-only -/

/-- Caching a clean copy of the page the engine already sees at `k`, under `k`
(whether or not something is cached there already): no page, no dirty bit changes; the store stays well filed. -/
theorem cacheClean (s : Store) (k : Nat) (n : Node) (hf : Filed s)
    (hpage : pageAt s k = n) (hoff : nodeOff n = k)
    (h0 : k = 0 → n = zeroPage) :
    Filed { s with mem := s.mem ++ [(k, ⟨n, false⟩)] } ∧
    SameData s { s with mem := s.mem ++ [(k, ⟨n, false⟩)] } := by
  refine ⟨⟨hf.1, ?_⟩, ⟨?_, ?_, rfl, rfl, rfl, rfl⟩⟩
  · intro p hp
    rcases List.mem_append.mp hp with hp | hp
    · exact hf.2 p hp
    · simp only [List.mem_singleton] at hp
      subst hp
      exact ⟨hoff, fun hk => by rw [h0 hk]⟩
  · intro off
    show (match assocGet (s.mem ++ [(k, (⟨n, false⟩ : MNode))]) off with
          | some m => m.node
          | none => (assocGet s.disk off).getD zeroPage) = pageAt s off
    rw [assocGet_append_single]
    cases hm : assocGet s.mem off with
    | some x => simp only [pageAt, hm]
    | none =>
      by_cases hk : k = off
      · subst hk; simp only [if_true]; exact hpage.symm
      · simp only [hk, if_false, pageAt, hm]
  · intro off
    show (match assocGet (s.mem ++ [(k, (⟨n, false⟩ : MNode))]) off with
          | some m => m.dirty
          | none => false) = dirtyAt s off
    rw [assocGet_append_single]
    cases hm : assocGet s.mem off with
    | some x => simp only [dirtyAt, hm]
    | none =>
      by_cases hk : k = off
      · subst hk; simp only [if_true, dirtyAt, hm]
      · simp only [hk, if_false, dirtyAt, hm]

theorem fetch_ok_or (off : Nat) (s : Store) : ∃ n s', fetch off s = .ok n s' := by
  unfold fetch
  cases assocGet s.mem off with
  | some m => exact ⟨_, _, rfl⟩
  | none => exact ⟨_, _, rfl⟩

theorem ReadOnly.fetch (off : Nat) : ReadOnly (fetch off) := by
  intro s hf
  unfold Store.fetch
  cases hm : assocGet s.mem off with
  | some m => exact ⟨hf, SameData.refl s⟩
  | none =>
    simp only
    cases hd : assocGet s.disk off with
    | some n =>
      -- the page is on disk: by `Filed` it carries `off`, and `off ≠ 0`
      have hmem := assocGet_some hd
      obtain ⟨hoff, hne⟩ := hf.1 _ hmem
      simp only at hoff hne
      simp only [Option.getD_some]
      rw [hoff, assocSet_of_none _ hm]
      exact cacheClean s off n hf (by simp only [pageAt, hm, hd, Option.getD_some]) hoff
        (fun h => absurd h hne)
    | none =>
      -- no such page: the zero page, filed under the offset it carries, 0
      simp only [Option.getD_none]
      have hz : nodeOff zeroPage = 0 := rfl
      rw [hz]
      cases h0 : assocGet s.mem 0 with
      | some m0 =>
        have hany : s.mem.any (fun p => p.1 == 0) = true := by
          rw [List.any_eq_true]; exact ⟨_, assocGet_some h0, by simp⟩
        rw [assocSet_same hany (fun p hp hk => (hf.2 p hp).2 hk)]
        exact ⟨hf, SameData.refl s⟩
      | none =>
        rw [assocSet_of_none _ h0]
        have hd0 : assocGet s.disk 0 = none := by
          cases hd0 : assocGet s.disk 0 with
          | none => rfl
          | some x => exact absurd rfl (hf.1 _ (assocGet_some hd0)).2
        exact cacheClean s 0 zeroPage hf (by simp only [pageAt, h0, hd0, Option.getD_none]) rfl
          (fun _ => rfl)

theorem sameData_reads : KeptByReads fun s s' => Filed s → Filed s' ∧ SameData s s' where
  refl s h := ⟨h, SameData.refl s⟩
  trans h1 h2 h := ⟨(h2 (h1 h).1).1, (h1 h).2.trans (h2 (h1 h).1).2⟩
  fetch off := readOnly_iff.mp (ReadOnly.fetch off)

/-! ### the row codec only reads -/

theorem ReadOnly.decodeRow (sch : List FieldDef) (bs : Bytes) : ReadOnly (decodeRow sch bs) :=
  readOnly_iff.mpr (sameData_reads.decodeRow _ _)

theorem ReadOnly.encodeRow (sch : List FieldDef) (m : Vals) : ReadOnly (encodeRow sch m) :=
  readOnly_iff.mpr (sameData_reads.encodeRow _ _)

/-! ### control structure (`bind`: through `readOnly_iff` and `sameData_reads.bind`, as the walks of `Preserves` do) -/

theorem ReadOnly.ite {α} {c : Prop} [Decidable c] {a b : SM α} (ha : ReadOnly a) (hb : ReadOnly b) :
    ReadOnly (if c then a else b) := by
  split <;> assumption

/-! ### the traversals only read -/

theorem ReadOnly.scanLeaves (fuel : Nat) (l : Leaf) : ReadOnly (scanLeaves fuel l) :=
  readOnly_iff.mpr (sameData_reads.scanLeaves _ _)

theorem ReadOnly.scanRight (root : Nat) : ReadOnly (scanRight root) :=
  readOnly_iff.mpr (sameData_reads.scanRight _)

theorem ReadOnly.findLeaf (fuel off key : Nat) : ReadOnly (findLeaf fuel off key) :=
  readOnly_iff.mpr (sameData_reads.findLeaf _ _ _)

theorem ReadOnly.relationOffset (name : Bytes) : ReadOnly (relationOffset name) :=
  readOnly_iff.mpr (sameData_reads.relationOffset _)

theorem ReadOnly.relationSchema (name : Bytes) : ReadOnly (relationSchema name) :=
  readOnly_iff.mpr (sameData_reads.relationSchema _)

theorem ReadOnly.fetchTable (table : Bytes) : ReadOnly (fetchTable table) :=
  readOnly_iff.mpr (sameData_reads.fetchTable _)

theorem ReadOnly.checkAbsent (name : Bytes) : ReadOnly (checkAbsent name) :=
  readOnly_iff.mpr (sameData_reads.checkAbsent name)

end Mkdb.Store
