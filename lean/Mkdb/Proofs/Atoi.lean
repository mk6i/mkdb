import Mkdb.Model.Parse
/-!
The integer reader of the scanner and of the CSV importer, `Sql.atoi`, returns 64-bit values only.
-/
namespace Mkdb.Sql

theorem atoi_core (neg : Bool) (ds : Bytes) (i : Int)
    (h : (if ds.isEmpty then none else
      match digitsVal ds 0 with
      | none => none
      | some n =>
        let v : Int := if neg then -(n : Int) else n
        if v < -9223372036854775808 ∨ v > 9223372036854775807 then none else some v) = some i) :
    -9223372036854775808 ≤ i ∧ i ≤ 9223372036854775807 := by
  split at h
  · cases h
  · split at h
    · cases h
    · rename_i n _
      by_cases hc : (if neg then -(n : Int) else n) < -9223372036854775808 ∨
          (if neg then -(n : Int) else n) > 9223372036854775807
      · simp only [hc, ↓reduceIte] at h; cases h
      · simp only [hc, ↓reduceIte] at h; cases h; omega

theorem atoi_int64 {f : Bytes} {i : Int} (h : atoi f = some i) :
    -9223372036854775808 ≤ i ∧ i ≤ 9223372036854775807 := by
  unfold atoi at h
  split at h <;> exact atoi_core _ _ _ h

end Mkdb.Sql
