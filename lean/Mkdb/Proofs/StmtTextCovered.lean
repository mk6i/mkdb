import Mkdb.Proofs.RenderAll
import Mkdb.Proofs.RoundtripCond
import Mkdb.Proofs.ScanTextTokens
/-!
Statements as SQL text: `TextOK`, and every token of a rendered statement is covered.
-/

section
/-!
## The tokens of a rendered statement that are covered unconditionally

Besides names and string literals `renderStmt` produces three kinds of token, and each is a token the
text level covers (`TokOK`) without a condition on the statement: a keyword, operator or punctuation
token whatever its text, the INT token of any integer literal, and the word `databases` in any letter
case (an identifier, not a keyword).
-/
namespace Mkdb.Sql
open Mkdb.Scan Mkdb.Generated

/-- the token types of the keyword table (reserved words, operators, punctuation) -/
def kwTys : List Int := kwTable.map (·.2)

theorem TokOK_kw (x : Int) (b : Bytes) (h : kwTys.contains x = true) : TokOK ⟨x, b⟩ = true := by
  have hmem : x ∈ kwTys := by simpa using h
  simp only [kwTys, List.mem_map] at hmem
  obtain ⟨e, he, rfl⟩ := hmem
  obtain ⟨h1, h2, h3⟩ := kwTable_ty _ he
  simp only [TokOK, beq_iff_eq, h1, h2, h3, ↓reduceIte, List.any_eq_true]
  exact ⟨e, he, rfl⟩

/-! ## Integer literals: `natDigits` is a non-empty string of decimal digits -/

theorem TokOK_int (n : Nat) : TokOK ⟨t_INT, natDigits n⟩ = true := by
  have e1 : (t_INT == t_IDENT) = false := by decide
  simp only [TokOK, e1, beq_self_eq_true, Bool.false_eq_true, ↓reduceIte, Bool.and_eq_true, Bool.not_eq_true',
    List.isEmpty_eq_false_iff, List.all_eq_true, isDecimal, decide_eq_true_eq]
  exact ⟨natDigitsF_ne_nil n n, natDigitsF_digits n n⟩

/-! ## `SHOW databases` in any case -/

/-- bytes whose lower-casing is a string `l` of lower-case letters are letters, and upper-case to the
upper-casing of `l` -/
theorem asciiLower_letters (l : Bytes) (hl : ∀ d ∈ l, 97 ≤ d.toNat ∧ d.toNat ≤ 122) :
    ∀ b, asciiLower b = l → (∀ c ∈ b, asciiLetter c.toNat = true) ∧
      b.map (fun c => asciiUpper c.toNat) = l.map (fun d => d.toNat - 32) := by
  induction l with
  | nil =>
    intro b h
    cases b with
    | nil => exact ⟨nofun, rfl⟩
    | cons c b => cases h
  | cons d l ih =>
    intro b h
    cases b with
    | nil => cases h
    | cons c b =>
      simp only [asciiLower, List.map_cons, List.cons.injEq] at h
      obtain ⟨h1, h2⟩ := ih (fun x hx => hl x (List.mem_cons_of_mem _ hx)) b h.2
      have hd := hl d (List.mem_cons_self ..)
      have hc : asciiLetter c.toNat = true ∧ asciiUpper c.toNat = d.toNat - 32 := by
        have := h.1
        split at this
        · rename_i hc
          have hd' : d.toNat = c.toNat + 32 := by
            rw [← this, UInt8.toNat_add]
            have : (32 : UInt8).toNat = 32 := rfl
            rw [this]; omega
          have : ¬(97 ≤ c.toNat ∧ c.toNat ≤ 122) := by omega
          simp only [asciiLetter, asciiUpper, this, ↓reduceIte, Bool.or_eq_true, Bool.and_eq_true, decide_eq_true_eq]; omega
        · subst this
          simp only [asciiLetter, asciiUpper, if_pos hd, Bool.or_eq_true, Bool.and_eq_true, decide_eq_true_eq, and_true]
          exact Or.inr hd
      refine ⟨?_, ?_⟩
      · intro x hx
        rcases List.mem_cons.mp hx with rfl | hx
        · exact hc.1
        · exact h1 x hx
      · rw [List.map_cons, List.map_cons, hc.2, h2]

theorem TokOK_databases (b : Bytes) (h : asciiLower b = databasesBytes) : TokOK (I b) = true := by
  obtain ⟨hlet, hup⟩ := asciiLower_letters _ (by decide) b h
  cases b with
  | nil => cases h
  | cons c rest =>
    have hs := fun x hx => asciiLetter_start _ (hlet x hx)
    simp only [TokOK, beq_self_eq_true, ↓reduceIte, hup, Bool.and_eq_true, List.all_eq_true,
      (hs c (List.mem_cons_self ..)).1, true_and]
    refine ⟨fun x hx => (hs x (List.mem_cons_of_mem _ hx)).2, ?_⟩
    rw [keywordOf_eq]
    decide +kernel

end Mkdb.Sql
end

section
namespace Mkdb.Sql
open Mkdb.Scan Mkdb.Generated

/-! ## The predicate -/

/-- an identifier that can be written as a bare word: `[A-Za-z_][A-Za-z0-9_]*`, not a keyword in any case -/
def identOK (b : Bytes) : Bool := TokOK ⟨t_IDENT, b⟩

/-- `identOK` with the keyword looked up in `kwTable` (for evaluation: `keywordOf` goes through strings) -/
theorem identOK_eq (b : Bytes) : identOK b = (match b with
    | [] => false
    | c :: rest => isIdentStart c.toNat && rest.all (fun b => isIdentPart b.toNat) &&
        (kwFind (b.map fun b => asciiUpper b.toNat)).isNone) := by
  simp only [identOK, TokOK, beq_self_eq_true, ↓reduceIte, keywordOf_eq]
  rfl
/-- an optional name (`[]` = absent) -/
def optIdentOK (b : Bytes) : Bool := b.isEmpty || identOK b
def colTextOK (c : ColRef) : Bool := optIdentOK c.qual && identOK c.name
/-- a string literal is ASCII and passes `strBodyOK`; integers and booleans are always fine -/
def litTextOK : Lit → Bool
  | .str b => TokOK ⟨t_STR, b⟩
  | _ => true
def veTextOK : VExpr → Bool
  | .lit l => litTextOK l
  | .col c => colTextOK c
/-- the operator is a token of the keyword table (`WFStmt` says more: one of the six comparisons) -/
def predTextOK (p : Pred) : Bool := kwTys.contains p.op && veTextOK p.lhs && veTextOK p.rhs
def condTextOK : Cond → Bool
  | .val v => veTextOK v
  | .pred p => predTextOK p
  | .and p r => predTextOK p && condTextOK r
  | .or l r => condTextOK l && condTextOK r
def itemTextOK : SelItem → Bool
  | .star => true
  | .count none => true
  | .count (some c) => colTextOK c
  | .avg c => colTextOK c
  | .expr c => condTextOK c
def dcTextOK (d : DerivedCol) : Bool := itemTextOK d.item && optIdentOK d.alias
def tnTextOK (t : TableName) : Bool :=
  identOK t.name && (match t.alias with | none => true | some a => identOK a)
def trTextOK : TableRef → Bool
  | .table t => tnTextOK t
  | .join l _ r on => trTextOK l && tnTextOK r && condTextOK on
def optCondTextOK : Option Cond → Bool
  | none => true
  | some c => condTextOK c
def selectTextOK (s : Select) : Bool :=
  s.list.all dcTextOK && (match s.from_ with | none => true | some tr => trTextOK tr) && optCondTextOK s.where_ &&
    s.groupBy.all colTextOK && s.orderBy.all (fun k => colTextOK k.key)

/-- Every name and string literal of the statement can be written in plain SQL text (decidable). -/
def stmtTextOK : Stmt → Bool
  | .createDatabase n => identOK n
  | .createTable n cols => optIdentOK n && cols.all (fun c => identOK c.name)
  | .select s => selectTextOK s
  | .insert t cols rows => identOK t && cols.all identOK && rows.all (fun r => r.all litTextOK)
  | .update t sets w => identOK t && sets.all (fun a => identOK a.1 && veTextOK a.2) && optCondTextOK w
  | .delete t w => identOK t && optCondTextOK w
  | .use db => identOK db
  | .showDatabases => true

/-- **Text-writable statement.**  Every table, column, database name and alias is a bare identifier
`[A-Za-z_][A-Za-z0-9_]*` (ASCII) that is not a reserved word in any letter case; every string literal is
ASCII text that the scanner reads up to its closing quote and `unquote` accepts (`strBodyOK`: in
particular any ASCII text without `'`, backslash and line feed); comparison operators are tokens of the
keyword table.  Integer and boolean literals need nothing (the standard token of an integer is its
decimal digits; `WFStmt` already excludes negative integers, which have no token).
Excluded: names that need `"delimited identifier"` quoting (spaces, reserved words, empty, leading
digit), non-ASCII names and strings (the scanner accepts them - `C10_scan_roundtrip_pieces` - but
`renderText` writes ASCII only), strings containing a quote, a line feed or a backslash sequence
beyond `strBodyOK` (the scanner keeps escapes raw, so such a value has no faithful spelling). -/
def TextOK (s : Stmt) : Prop := stmtTextOK s = true

instance (s : Stmt) : Decidable (TextOK s) := by unfold TextOK; infer_instance

/-! ## Every rendered token is covered

`TextOK` is `stmtAll` (`Proofs/RenderAll`) with the tests `identOK`, `litTextOK` and "a token of the keyword
table", and `TokOK` holds of the tokens of names, literals and operators that pass them (`tokP_TokOK`). -/

theorem allOK_I (b : Bytes) (h : identOK b = true) : TokOK (I b) = true := h

theorem condTextOK_eq : condTextOK = condAll identOK litTextOK (kwTys.contains ·) := by
  funext c
  induction c with
  | val v => cases v <;> rfl
  | pred p => rfl
  | and p r ih => simp only [condTextOK, condAll, ih]; rfl
  | or l r ihl ihr => simp only [condTextOK, condAll, ihl, ihr]

theorem dcTextOK_eq : dcTextOK = dcAll identOK litTextOK (kwTys.contains ·) := by
  funext d
  simp only [dcTextOK, dcAll]
  cases d.item with
  | expr c => simp only [itemTextOK, itemAll, condTextOK_eq]; rfl
  | count c => cases c <;> rfl
  | _ => rfl

theorem trTextOK_eq : trTextOK = trAll identOK litTextOK (kwTys.contains ·) := by
  funext tr
  induction tr with
  | table t => rfl
  | join l jt r on ih => simp only [trTextOK, trAll, ih, condTextOK_eq]; rfl

theorem optCondTextOK_eq : optCondTextOK = optCondAll identOK litTextOK (kwTys.contains ·) := by
  funext w
  cases w with
  | none => rfl
  | some c => simp only [optCondTextOK, optCondAll, condTextOK_eq]

theorem stmtTextOK_eq (s : Stmt) : stmtTextOK s = stmtAll identOK litTextOK (kwTys.contains ·) s := by
  cases s with
  | select s => simp only [stmtTextOK, stmtAll, selectTextOK, selectAll, dcTextOK_eq, trTextOK_eq, optCondTextOK_eq]; rfl
  | update t sets w => simp only [stmtTextOK, stmtAll, optCondTextOK_eq]; rfl
  | delete t w => simp only [stmtTextOK, stmtAll, optCondTextOK_eq]
  | _ => rfl

theorem allOK_lit (l : Lit) (h : litTextOK l = true) : TokOK (stdLitTok l) = true := by
  cases l with
  | int i => exact TokOK_int _
  | str b => exact h
  | bool b => cases b <;> exact TokOK_kw _ _ (by decide +kernel)

theorem renderKws_kwTys : ∀ x ∈ renderKws, kwTys.contains x = true := by decide +kernel

theorem tokP_TokOK (o : ROpts) (ho : o.lit = stdLitTok) : TokP o TokOK identOK litTextOK (kwTys.contains ·) where
  kw x hx := TokOK_kw x _ (renderKws_kwTys x (by simpa using hx))
  id _ h := h
  lit l h := ho ▸ allOK_lit l h
  op x h := TokOK_kw x _ h
  int _ := ho ▸ TokOK_int _
  dbs := TokOK_databases

end Mkdb.Sql
end
