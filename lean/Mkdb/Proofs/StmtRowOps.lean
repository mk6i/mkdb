import Mkdb.Proofs.CatalogNamed
/-!
# Row operations under the catalog invariant `Cat`

What SELECT reads (`fetchTable_named`: any tree the page table names, scanned from its root or its leftmost leaf;
`fetchTable_cat`: a user table), DELETE of one row id (`markDeleted_cat`: `setDeleted` on the tree of the table),
UPDATE of one row id (`update_cat`: `setVal`), and their refusals: an unknown table, a row id that is not live, a row
that does not decode, a new tuple that does not encode or does not fit a cell.  In every refusal the error is the
model's, and nothing changes but the cache.
-/

section
/-! ## SELECT, and DELETE of one row id -/
set_option autoImplicit false
namespace Mkdb.Store
open Mkdb.Page Mkdb.Tuple Mkdb.Generated Mkdb.Tree

/-! ### SELECT: `fetchTable` -/

/-- the loop body of `RelationService.Fetch` -/
def fetchRow (schema : List FieldDef) (c : LeafCell × Nat) : SM (Nat × List Val) := do
  let m ← decodeRow schema c.1.val
  pure (c.1.key, schema.map fun fd => get m fd.name)

theorem fetchTable_eq (table : Bytes) :
    fetchTable table = (relationOffset table >>= fun off => relationSchema table >>= fun schema =>
      fetch off >>= fun _ => scanRight off >>= fun cells =>
        mapS (fetchRow schema) cells >>= fun rows => pure (rows, schema)) := by rfl

theorem rowOf_eq_some {schema : List FieldDef} {c : LeafCell} {r : Nat × List Val} :
    rowOf schema c = some r ↔
      ∃ m, decRow schema c.val = some m ∧ r = (c.key, schema.map fun fd => get m fd.name) := by
  unfold rowOf
  cases decRow schema c.val with
  | none => simp
  | some m => simp [eq_comm]

theorem fetchRow_spec (schema : List FieldDef) (c : LeafCell × Nat) (r : Nat × List Val) (s : Store)
    (h : rowOf schema c.1 = some r) : fetchRow schema c s = .ok r s := by
  obtain ⟨m, hd, rfl⟩ := rowOf_eq_some.mp h
  unfold fetchRow
  rw [bind_ok (decodeRow_spec _ _ _ s hd)]
  rfl

/-! ### the page a scan starts from: the root, or the leftmost leaf -/

/-- the offset of the leftmost leaf.  A catalog row names the root of its tree, with one exception: the row of
`sys_pages` about the page table itself is written once and never re-pointed (the engine finds the page table through
the header), so once the page table's root leaf has split it names the old root, which stays the leftmost leaf
(`CatSelf`, `PtSelf`); a scan from there sees the same cells. -/
def firstLeafOff (t : Levels) : Nat := (t.leaves.head?.map (·.1.off)).getD 0

/-- **`scanRight` from the leftmost leaf of a held tree** returns the live cells of the whole tree, in
order - as the scan from the root does (`scan_held`): `leftmostLeaf` stops at once, `scanLeaves` walks the
sibling chain. -/
theorem scan_first (s : Store) (t : Levels) (nf : Nat) (hH : Holds s t) (hI : Inv t nf)
    (hlen : t.leaves.length ≤ scanFuel) :
    ∃ s' cs, scanRight (firstLeafOff t) s = .ok cs s' ∧ Same s s' ∧ cs.map (·.1) = live t := by
  match hlv : t.leaves, leaves_ne_nil hI with
  | p :: ps, _ =>
    obtain ⟨s1, hsv1, e1⟩ := Mkdb.Refine.leftmostLeaf_leaf
      (holds_leaf hH (by rw [hlv]; exact List.mem_cons_self) : view s p.1.off = some (Node.leaf p.1, p.2)) 63
    have hf : firstLeafOff t = p.1.off := by unfold firstLeafOff; rw [hlv]; rfl
    obtain ⟨s2, e, hsv⟩ := Mkdb.Refine.scanRight_from (off := firstLeafOff t) hH hI hlv (hf ▸ e1) hsv1 hlen
    exact ⟨s2, _, e, ⟨funext hsv, scanRight_hdr _ _ _ _ e⟩, Mkdb.Refine.map_fst_liveAt t.leaves⟩

theorem first_held (s : Store) (t : Levels) (nf : Nat) (hH : Holds s t) (hI : Inv t nf) :
    ∃ n d, view s (firstLeafOff t) = some (n, d) ∧ nodeOff n = firstLeafOff t := by
  match hlv : t.leaves, leaves_ne_nil hI with
  | p :: ps, _ =>
    have hf : firstLeafOff t = p.1.off := by unfold firstLeafOff; rw [hlv]; rfl
    refine ⟨Node.leaf p.1, p.2, ?_, by rw [hf]; rfl⟩
    rw [hf]
    exact holds_leaf hH (by rw [hlv]; exact List.mem_cons_self)

theorem scan_start {t : Levels} {off : Nat} (ho : off = rootOff t ∨ off = firstLeafOff t) (s : Store) (nf : Nat)
    (hH : Holds s t) (hI : Inv t nf) (hdepth : t.inner.length + 1 ≤ treeFuel) (hlen : t.leaves.length ≤ scanFuel) :
    (∃ n d, view s off = some (n, d) ∧ nodeOff n = off) ∧
      ∃ s' cs, scanRight off s = .ok cs s' ∧ Same s s' ∧ cs.map (·.1) = live t := by
  rcases ho with rfl | rfl
  · obtain ⟨s', cs, e, hs, hcs, _⟩ := scan_held s t nf hH hI hdepth hlen
    exact ⟨root_held s t nf hH hI, s', cs, e, hs, hcs⟩
  · exact ⟨first_held s t nf hH hI, scan_first s t nf hH hI hlen⟩

theorem fetchRows_all (schema : List FieldDef) (cs : List (LeafCell × Nat)) (cells : List LeafCell) (s : Store)
    (hcs : cs.map (·.1) = cells) (hdec : ∀ c ∈ cells, ∃ m, decodeTuple schema c.val [] = .ok m) :
    mapS (fetchRow schema) cs s = .ok (rowsOf schema cells) s := by
  have hne : ∀ c ∈ cells, rowOf schema c ≠ none := by
    intro c hc
    obtain ⟨m, hm⟩ := hdec c hc
    unfold rowOf
    rw [decRow_of_decode hm]
    simp
  apply mapS_pure (fetchRow schema) (fun c => rowOf schema c.1) s cs
  · intro a _ b hb
    exact fetchRow_spec schema a b s hb
  · have := mapO_filterMap (rowOf schema) cells hne
    rw [← hcs, mapO_map] at this
    rw [this, hcs]
    rfl

/-- `Fetch` of a tree the page table names, up to the row loop: the loop then succeeds (`fetchTable_named`) or
fails at a row that does not decode (`fetchTable_cat_undecodable`). -/
theorem fetchTable_scan {s : Store} {pt sch : Levels} {tbls : List (Bytes × Levels)} (h : Cat s pt sch tbls)
    {name : Bytes} {t : Levels} (ht : t ∈ catTrees pt sch tbls) {off : Nat} (hent : (name, off) ∈ ptEntries pt)
    (ho : off = rootOff t ∨ off = firstLeafOff t) {schema : List FieldDef} (hsch : schemaOf sch name = some schema) :
    ∃ s' cs, Same s s' ∧ cs.map (·.1) = live t ∧
      fetchTable name s = (mapS (fetchRow schema) cs >>= fun rows => pure (rows, schema)) s' := by
  obtain ⟨s1, e1, hs1⟩ := relationOffset_entry h name off hent
  obtain ⟨s2, e2, hs2, hc2⟩ := relationSchema_cat (h.of_same hs1) name schema hsch
  obtain ⟨hH2, hI2, hd2, hl2, _⟩ := hc2.tree t ht
  obtain ⟨⟨n, d, hvn, hon⟩, _⟩ := scan_start ho s2 _ hH2 hI2 (by omega) hl2
  obtain ⟨s3, e3, hs3⟩ := fetch_same hvn hon
  obtain ⟨hH3, hI3, hd3, hl3, _⟩ := (hc2.of_same hs3).tree t ht
  obtain ⟨_, s4, cs, e4, hs4, hcs⟩ := scan_start ho s3 _ hH3 hI3 (by omega) hl3
  refine ⟨s4, cs, ((hs1.trans hs2).trans hs3).trans hs4, hcs, ?_⟩
  rw [fetchTable_eq, bind_ok e1, bind_ok e2, bind_ok e3, bind_ok e4]

theorem fetchTable_named {s : Store} {pt sch : Levels} {tbls : List (Bytes × Levels)} (h : Cat s pt sch tbls)
    {name : Bytes} {t : Levels} (ht : t ∈ catTrees pt sch tbls) {off : Nat} (hent : (name, off) ∈ ptEntries pt)
    (ho : off = rootOff t ∨ off = firstLeafOff t) {schema : List FieldDef} (hsch : schemaOf sch name = some schema)
    (hdec : ∀ c ∈ live t, ∃ m, decodeTuple schema c.val [] = .ok m) :
    ∃ s', fetchTable name s = .ok (rowsOf schema (live t), schema) s' ∧ Same s s' := by
  obtain ⟨s', cs, hs, hcs, e⟩ := fetchTable_scan h ht hent ho hsch
  refine ⟨s', ?_, hs⟩
  rw [e, bind_ok (fetchRows_all schema cs (live t) s' hcs hdec)]
  rfl

theorem fetchTable_cat {s : Store} {pt sch : Levels} {tbls : List (Bytes × Levels)} (h : Cat s pt sch tbls)
    (table : Bytes) (t : Levels) (ht : (table, t) ∈ tbls) (schema : List FieldDef)
    (hsch : schemaOf sch table = some schema)
    (hdec : ∀ c ∈ live t, ∃ m, decodeTuple schema c.val [] = .ok m) :
    ∃ s', fetchTable table s = .ok (rowsOf schema (live t), schema) s' ∧ Same s s' ∧
      Cat s' pt sch tbls := by
  obtain ⟨s', e, hs⟩ := fetchTable_named h (Cat.tb_mem ht) (h.etb _ ht) (.inl rfl) hsch hdec
  exact ⟨s', e, hs, h.of_same hs⟩

theorem rowsOf_keys (schema : List FieldDef) (cs : List LeafCell)
    (hdec : ∀ c ∈ cs, ∃ m, decodeTuple schema c.val [] = .ok m) :
    (rowsOf schema cs).map (·.1) = cs.map (·.key) := by
  induction cs with
  | nil => rfl
  | cons c rest ih =>
    obtain ⟨m, hm⟩ := hdec c List.mem_cons_self
    have := ih (fun x hx => hdec x (List.mem_cons_of_mem _ hx))
    simp only [rowsOf, rowOf, List.filterMap_cons, decRow_of_decode hm, Option.map_some, List.map_cons]
    simp only [rowsOf] at this
    rw [this]

theorem fetchTable_unknown_table {s : Store} {pt sch : Levels} {tbls : List (Bytes × Levels)}
    (h : Cat s pt sch tbls) (table : Bytes)
    (h1 : table ≠ sysPages) (h2 : table ≠ sysSchema) (h3 : table ∉ tbls.map (·.1)) :
    ∃ s', fetchTable table s = .err .tableNotExist s' ∧ Same s s' ∧ Cat s' pt sch tbls := by
  obtain ⟨s', e, hs, hc⟩ := relationOffset_cat_unknown h table h1 h2 h3
  exact ⟨s', by rw [fetchTable_eq, bind_err e], hs, hc⟩

/-! ### what DELETE and UPDATE of one row id leave -/

/-- The common end of `markDeleted_cat` and `update_cat`: `s3` is the store the reads leave (lookups, then routing or
scan: the leaf `l` is found), `s5` what `cellWrite_refines` leaves of it, `s'` the store once the LSN counter has
advanced. -/
theorem Cat.cellWritten {s s3 s5 : Store} {pt sch : Levels} {tbls : List (Bytes × Levels)} (h3 : Cat s3 pt sch tbls)
    (hs : Same s s3) {table : Bytes} {t : Levels} (ht : (table, t) ∈ tbls) {f : LeafCell → LeafCell} {key : Nat}
    {l : Leaf} {d : Bool} (hm : (l, d) ∈ t.leaves) (hH5 : Holds s5 (updLeaves f key s3.hdr.nextLSN t))
    (hf : ∀ c, (f c).key = c.key) (hh5 : s5.hdr = s3.hdr)
    (hfr5 : ∀ off, off ≠ l.off → view s5 off = view s3 off) {s' : Store}
    (hs' : s' = { s5 with hdr := { s5.hdr with nextLSN := s5.hdr.nextLSN + 1 } }) :
    Cat s' pt sch (setTable tbls table (updLeaves f key s.hdr.nextLSN t)) ∧
      s'.hdr.nextLSN = s.hdr.nextLSN + 1 ∧ s'.hdr.lastKey = s.hdr.lastKey ∧
      s'.hdr.ptRoot = s.hdr.ptRoot ∧ s'.hdr.nextFree = s.hdr.nextFree ∧
      ∀ off, off ≠ l.off → view s' off = view s off := by
  subst hs'
  rw [hs.2] at hH5
  refine ⟨?_, by show s5.hdr.nextLSN + 1 = _; rw [hh5, hs.2], by show s5.hdr.lastKey = _; rw [hh5, hs.2],
    by show s5.hdr.ptRoot = _; rw [hh5, hs.2], by show s5.hdr.nextFree = _; rw [hh5, hs.2],
    fun off hoff => by show view s5 off = _; rw [hfr5 off hoff, hs.1]⟩
  exact h3.updTable ht f key s.hdr.nextLSN hf hH5 (by show s5.hdr.nextFree = _; rw [hh5])
    (by show s5.hdr.lastKey = _; rw [hh5]) (by show s5.hdr.ptRoot = _; rw [hh5])
    (fun off hoff => hfr5 off fun heq => hoff (heq ▸ leaf_off_mem_offs hm))

/-! ### DELETE of one row id: `markDeleted` -/

theorem markDeleted_eq (table : Bytes) (rowId : Nat) :
    markDeleted table rowId =
      (relationOffset table >>= fun off => fetch off >>= fun _ => findLeaf treeFuel off rowId >>= fun l =>
        match l.cells.find? (fun c => c.key == rowId) with
        | none => throw .cellNotFound
        | some c =>
          if c.deleted then throw .cellNotFound else
          getS >>= fun s => fetch l.off >>= fun pg =>
            match pg with
            | .internal _ => panicS "MarkDeleted: not a leaf"
            | .leaf l1 =>
              putNode (.leaf { l1 with cells := l1.cells.map fun x =>
                  if x.key == rowId then { x with deleted := true } else x }) >>= fun _ =>
              markDirty l.off s.hdr.nextLSN >>= fun _ =>
              modifyS (fun s => { s with hdr := { s.hdr with nextLSN := s.hdr.nextLSN + 1 } }) >>= fun _ =>
              pure [⟨c_OpDelete, s.hdr.nextLSN, l.off, rowId, []⟩]) := by rfl

/-- the common prefix of `markDeleted` on a user table: catalog lookup, root fetch, routing -/
theorem markDeleted_prefix {s : Store} {pt sch : Levels} {tbls : List (Bytes × Levels)} (h : Cat s pt sch tbls)
    (table : Bytes) (t : Levels) (ht : (table, t) ∈ tbls) (rowId : Nat) :
    ∃ s3 l d, (l, d) ∈ t.leaves ∧ Same s s3 ∧ Cat s3 pt sch tbls ∧
      (∀ c ∈ cells t, c.key = rowId → l.cells.find? (fun x => x.key == rowId) = some c) ∧
      ∀ {α} (k : Leaf → SM α), (relationOffset table >>= fun off => fetch off >>= fun (_ : Node) =>
        findLeaf treeFuel off rowId >>= k) s = k l s3 := by
  obtain ⟨s1, e1, hs1, hc1⟩ := relationOffset_cat h table t ht
  obtain ⟨n, s2, e2, hs2, hc2⟩ := hc1.fetch_root (Cat.tb_mem ht)
  obtain ⟨hHt2, hIt2, hd2, _, _⟩ := hc2.tree t (Cat.tb_mem ht)
  obtain ⟨s3, l, d, e3, hm, v3, _, hfind⟩ := findLeaf_key s2 t _ hHt2 hIt2 (by omega) rowId
  have hs3 : Same s2 s3 := ⟨v3, findLeaf_hdr _ _ _ _ _ _ e3⟩
  have hs : Same s s3 := (hs1.trans hs2).trans hs3
  refine ⟨s3, l, d, hm, hs, h.of_same hs, hfind, ?_⟩
  intro α k
  rw [bind_ok e1, bind_ok e2, bind_ok e3]

/-- `RelationService.MarkDeleted` of the row id of a live cell of the user table `table`: `setDeleted` on the tree
of that table, stamped with the next LSN, and one delete record naming the leaf that holds the cell. -/
theorem markDeleted_cat {s : Store} {pt sch : Levels} {tbls : List (Bytes × Levels)} (h : Cat s pt sch tbls)
    (table : Bytes) (t : Levels) (ht : (table, t) ∈ tbls) (rowId : Nat) (c : LeafCell)
    (hc : c ∈ live t) (hk : c.key = rowId) :
    ∃ s' l d, (l, d) ∈ t.leaves ∧ c ∈ l.cells ∧
      markDeleted table rowId s = .ok [⟨c_OpDelete, s.hdr.nextLSN, l.off, rowId, []⟩] s' ∧
      Cat s' pt sch (setTable tbls table (setDeleted t rowId s.hdr.nextLSN)) ∧
      s'.hdr.nextLSN = s.hdr.nextLSN + 1 ∧ s'.hdr.lastKey = s.hdr.lastKey ∧
      s'.hdr.ptRoot = s.hdr.ptRoot ∧ s'.hdr.nextFree = s.hdr.nextFree ∧
      ∀ off, off ≠ l.off → view s' off = view s off := by
  obtain ⟨hcc, hcd⟩ := List.mem_filter.mp hc
  have hdel : c.deleted = false := by simpa using hcd
  obtain ⟨s3, l, d, hm, hs3, hc3, hfind, hrun⟩ := markDeleted_prefix h table t ht rowId
  have hf := hfind c hcc hk
  have hany := any_of_find hf
  obtain ⟨hHt3, hIt3, _, _, _⟩ := hc3.tree t (Cat.tb_mem ht)
  obtain ⟨s4, s5, e4, e5, hH5, hh5, hfr5⟩ := cellWrite_refines (fun c => { c with deleted := true }) rowId
    s3.hdr.nextLSN hHt3 hIt3 hm hany (s1 := s3) rfl rfl
  obtain ⟨u, su, eu, em⟩ := bind_eq_ok e5
  have hlsn : s3.hdr.nextLSN = s.hdr.nextLSN := by rw [hs3.2]
  have hfinal : markDeleted table rowId s = .ok [⟨c_OpDelete, s3.hdr.nextLSN, l.off, rowId, []⟩]
      { s5 with hdr := { s5.hdr with nextLSN := s5.hdr.nextLSN + 1 } } := by
    rw [markDeleted_eq, hrun]
    simp only [hf, hdel, Bool.false_eq_true, if_false]
    rw [bind_ok (show getS s3 = .ok s3 s3 from rfl), bind_ok e4]
    simp only
    rw [bind_ok (show putNode (.leaf { l with cells := l.cells.map fun x =>
      if x.key == rowId then { x with deleted := true } else x }) none s4 = .ok u su from eu), bind_ok em]
    rfl
  rw [hlsn] at hfinal
  refine ⟨_, l, d, hm, List.mem_of_find?_eq_some hf, hfinal, ?_⟩
  rw [setDeleted_eq]
  exact hc3.cellWritten hs3 ht hm hH5 (fun _ => rfl) hh5 hfr5 rfl

/-- **DELETE of a row id that is not live** (no cell has it, or the cell is already a tombstone)
is refused with `cellNotFound`; nothing changes but the cache. -/
theorem markDeleted_cat_absent {s : Store} {pt sch : Levels} {tbls : List (Bytes × Levels)}
    (h : Cat s pt sch tbls) (table : Bytes) (t : Levels) (ht : (table, t) ∈ tbls) (rowId : Nat)
    (habs : ∀ c ∈ live t, c.key ≠ rowId) :
    ∃ s', markDeleted table rowId s = .err .cellNotFound s' ∧ Same s s' ∧ Cat s' pt sch tbls := by
  obtain ⟨s3, l, d, hm, hs3, hc3, hfind, hrun⟩ := markDeleted_prefix h table t ht rowId
  refine ⟨s3, ?_, hs3, hc3⟩
  rw [markDeleted_eq, hrun]
  by_cases hex : ∃ c ∈ cells t, c.key = rowId
  · obtain ⟨c, hc, hck⟩ := hex
    have hdel : c.deleted = true := by
      cases hd : c.deleted with
      | true => rfl
      | false => exact absurd hck (habs c (List.mem_filter.mpr ⟨hc, by simp [hd]⟩))
    simp only [hfind c hc hck, hdel, if_true]
    rfl
  · have hnone : l.cells.find? (fun c => c.key == rowId) = none := by
      rw [List.find?_eq_none]
      intro c hc hck
      exact hex ⟨c, leaf_cells_sub hm c hc, by simpa using hck⟩
    simp only [hnone]
    rfl

theorem markDeleted_unknown_table {s : Store} {pt sch : Levels} {tbls : List (Bytes × Levels)}
    (h : Cat s pt sch tbls) (table : Bytes) (rowId : Nat)
    (h1 : table ≠ sysPages) (h2 : table ≠ sysSchema) (h3 : table ∉ tbls.map (·.1)) :
    ∃ s', markDeleted table rowId s = .err .tableNotExist s' ∧ Same s s' ∧ Cat s' pt sch tbls := by
  obtain ⟨s', e, hs, hc⟩ := relationOffset_cat_unknown h table h1 h2 h3
  exact ⟨s', by rw [markDeleted_eq, bind_err e], hs, hc⟩

end Mkdb.Store
end

section
/-! ## UPDATE of one row id -/
set_option autoImplicit false
namespace Mkdb.Store
open Mkdb.Page Mkdb.Tuple Mkdb.Generated Mkdb.Tree

theorem split_of_keys_asc {α} (key : α → Nat) {l : List α} (h : (l.map key).Pairwise (· < ·)) {x : α}
    (hx : x ∈ l) : ∃ A B, l = A ++ x :: B ∧ (∀ a ∈ A, key a ≠ key x) ∧ ∀ b ∈ B, key b ≠ key x := by
  obtain ⟨A, B, hAB⟩ := List.append_of_mem hx
  rw [hAB, List.map_append, List.map_cons, List.pairwise_append] at h
  obtain ⟨_, hB, hA⟩ := h
  refine ⟨A, B, hAB, fun a ha => ?_, fun b hb => ?_⟩
  · have := hA (key a) (List.mem_map.mpr ⟨a, ha, rfl⟩) (key x) List.mem_cons_self
    omega
  · have := (List.pairwise_cons.mp hB).1 (key b) (List.mem_map.mpr ⟨b, hb, rfl⟩)
    omega

/-! ### `update` -/

/-- the common prefix of `update` on a user table: catalog lookups, root fetch, scan -/
theorem update_prefix {s : Store} {pt sch : Levels} {tbls : List (Bytes × Levels)} (h : Cat s pt sch tbls)
    (table : Bytes) (t : Levels) (ht : (table, t) ∈ tbls) (schema : List FieldDef)
    (hsch : schemaOf sch table = some schema) (rowId : Nat) (cols : List String) (src : List Val)
    (hnames : checkColumns schema cols = none) :
    ∃ s4 cs, Same s s4 ∧ Cat s4 pt sch tbls ∧ cs.map (·.1) = live t ∧
      (cs.map (·.1.key)).Pairwise (· < ·) ∧
      (∀ x ∈ cs, ∃ p ∈ t.leaves, x.2 = p.1.off ∧ x.1 ∈ p.1.cells) ∧
      update table rowId cols src s =
        (mapS (updBody schema rowId cols src) cs >>= fun logs => pure logs.flatten) s4 := by
  obtain ⟨s1, e1, hs1, hc1⟩ := relationOffset_cat h table t ht
  obtain ⟨n, s2, e2, hs2, hc2⟩ := hc1.fetch_root (Cat.tb_mem ht)
  obtain ⟨s3, e3, hs3, hc3⟩ := relationSchema_cat hc2 table schema hsch
  obtain ⟨hHt3, hIt3, hd3, hl3, _⟩ := hc3.tree t (Cat.tb_mem ht)
  obtain ⟨s4, cs, e4, hs4, hcs, hleaf⟩ := scan_held s3 t _ hHt3 hIt3 (by omega) hl3
  have hs : Same s s4 := ((hs1.trans hs2).trans hs3).trans hs4
  have hasc : (cs.map (·.1.key)).Pairwise (· < ·) := by
    have := live_keys_asc hIt3.asc
    rw [← hcs, List.map_map] at this
    exact this
  refine ⟨s4, cs, hs, h.of_same hs, hcs, hasc, hleaf, ?_⟩
  rw [update_eq_stmt, bind_ok e1, bind_ok e2, bind_ok e3]
  simp only [hnames]
  rw [bind_ok e4]

/-- **UPDATE of the row id of a live cell** is the loop body on that cell, as the scan delivers it with the
offset of its leaf, at a store that differs from the first in the cache only: the other cells have other keys -/
theorem update_at_row {s : Store} {pt sch : Levels} {tbls : List (Bytes × Levels)} (h : Cat s pt sch tbls)
    (table : Bytes) (t : Levels) (ht : (table, t) ∈ tbls) (schema : List FieldDef)
    (hsch : schemaOf sch table = some schema) (rowId : Nat) (cols : List String) (src : List Val)
    (hnames : checkColumns schema cols = none) (c : LeafCell) (hc : c ∈ live t) (hk : c.key = rowId) :
    ∃ s4 p, Same s s4 ∧ Cat s4 pt sch tbls ∧ p ∈ t.leaves ∧ c ∈ p.1.cells ∧
      update table rowId cols src s = updBody schema rowId cols src (c, p.1.off) s4 := by
  subst hk
  obtain ⟨s4, cs, hs, hc4, hcs, hasc, hleaf, hrun⟩ :=
    update_prefix h table t ht schema hsch c.key cols src hnames
  rw [← hcs] at hc
  obtain ⟨⟨_, o⟩, hx, rfl⟩ := List.mem_map.mp hc
  obtain ⟨A, B, hAB, hskipA, hskipB⟩ := split_of_keys_asc (·.1.key) hasc hx
  obtain ⟨p, hp, rfl, hcp⟩ := hleaf _ hx
  refine ⟨s4, p, hs, hc4, hp, hcp, ?_⟩
  rw [hrun, hAB]
  exact mapS_flatten_one _ _ B (fun b hb s0 => updBody_skip schema _ cols src b s0 (hskipB b hb)) A s4
    fun a ha s0 => updBody_skip schema _ cols src a s0 (hskipA a ha)

/-- **UPDATE of a row id no live row has** (none at all, or a tombstone, which the scan does not
see): no log record, nothing changes but the cache. -/
theorem update_cat_absent {s : Store} {pt sch : Levels} {tbls : List (Bytes × Levels)} (h : Cat s pt sch tbls)
    (table : Bytes) (t : Levels) (ht : (table, t) ∈ tbls) (schema : List FieldDef)
    (hsch : schemaOf sch table = some schema) (rowId : Nat) (cols : List String) (src : List Val)
    (hnames : checkColumns schema cols = none)
    (habs : ∀ c ∈ live t, c.key ≠ rowId) :
    ∃ s', update table rowId cols src s = .ok [] s' ∧ Same s s' ∧ Cat s' pt sch tbls := by
  obtain ⟨s4, cs, hs, hc, hcs, _, _, hrun⟩ := update_prefix h table t ht schema hsch rowId cols src hnames
  refine ⟨s4, ?_, hs, hc⟩
  have hskip := mapS_skip (updBody schema rowId cols src) s4 cs (fun a ha =>
    updBody_skip schema rowId cols src a s4
      (habs a.1 (by rw [← hcs]; exact List.mem_map.mpr ⟨a, ha, rfl⟩)))
  rw [hrun, bind_ok hskip]
  show SRes.ok _ s4 = _
  rw [flatten_map_nil]

/-- `RelationService.Update` of the row id of the live cell `c` of the user table `table`, whose value decodes to `m`
and for which the overridden tuple encodes to `buf`, which fits a cell: `setVal` on the tree of the table, stamped
with the next LSN, and one update record naming the leaf that holds the cell. -/
theorem update_cat {s : Store} {pt sch : Levels} {tbls : List (Bytes × Levels)} (h : Cat s pt sch tbls)
    (table : Bytes) (t : Levels) (ht : (table, t) ∈ tbls) (schema : List FieldDef)
    (hsch : schemaOf sch table = some schema) (rowId : Nat) (cols : List String) (src : List Val)
    (hnames : checkColumns schema cols = none)
    (c : LeafCell) (hc : c ∈ live t) (hk : c.key = rowId) (m : Vals) (buf : Bytes)
    (hdec : decodeTuple schema c.val [] = .ok m)
    (henc : encodeTuple schema ((cols.zip src).reverse ++ m) = .ok buf)
    (hlen : buf.length ≤ c_maxValueSize) :
    ∃ s' l d, (l, d) ∈ t.leaves ∧ c ∈ l.cells ∧
      update table rowId cols src s = .ok [⟨c_OpUpdate, s.hdr.nextLSN, l.off, rowId, buf⟩] s' ∧
      Cat s' pt sch (setTable tbls table (setVal t rowId s.hdr.nextLSN buf)) ∧
      s'.hdr.nextLSN = s.hdr.nextLSN + 1 ∧ s'.hdr.lastKey = s.hdr.lastKey ∧
      s'.hdr.ptRoot = s.hdr.ptRoot ∧ s'.hdr.nextFree = s.hdr.nextFree ∧
      ∀ off, off ≠ l.off → view s' off = view s off := by
  subst hk
  obtain ⟨s4, p, hs, hc4, hp, hcp, hrun⟩ :=
    update_at_row h table t ht schema hsch _ cols src hnames c hc rfl
  obtain ⟨hHt4, hIt4, _, _, _⟩ := hc4.tree t (Cat.tb_mem ht)
  have hany : p.1.cells.any (fun y => y.key == c.key) = true := by
    rw [List.any_eq_true]; exact ⟨c, hcp, by simp⟩
  obtain ⟨s5, e5, hH5, hh5, hfr5⟩ := updateCellAt_refines s4 t c.key s4.hdr.nextLSN buf hHt4 hIt4
    p.1 p.2 hp hany hlen
  have hfinal : update table c.key cols src s =
      .ok [⟨c_OpUpdate, s4.hdr.nextLSN, p.1.off, c.key, buf⟩]
        { s5 with hdr := { s5.hdr with nextLSN := s5.hdr.nextLSN + 1 } } := by
    rw [hrun, updBody_hit, bind_ok (decodeRow_spec _ _ _ _ (decRow_of_decode hdec)), bind_ok (encodeRow_ok henc s4),
      bind_ok (show getS s4 = .ok s4 s4 from rfl), bind_ok e5]
    rfl
  rw [hs.2] at hfinal
  refine ⟨_, p.1, p.2, hp, hcp, hfinal, ?_⟩
  rw [setVal_eq] at hH5 ⊢
  exact hc4.cellWritten hs ht (d := p.2) hp hH5 (fun _ => rfl) hh5 hfr5 rfl

/-- A column list naming a column the table does not have, or one column twice, is refused
with the error `checkColumns` reports, before the scan; nothing changes but the cache. -/
theorem update_names_refused {s : Store} {pt sch : Levels} {tbls : List (Bytes × Levels)} (h : Cat s pt sch tbls)
    (table : Bytes) (t : Levels) (ht : (table, t) ∈ tbls) (schema : List FieldDef)
    (hsch : schemaOf sch table = some schema) (rowId : Nat) (cols : List String) (src : List Val)
    (e : SErr) (hnames : checkColumns schema cols = some e) :
    ∃ s', update table rowId cols src s = .err e s' ∧ Same s s' ∧ Cat s' pt sch tbls := by
  obtain ⟨s1, e1, hs1, hc1⟩ := relationOffset_cat h table t ht
  obtain ⟨n, s2, e2, hs2, hc2⟩ := hc1.fetch_root (Cat.tb_mem ht)
  obtain ⟨s3, e3, hs3, hc3⟩ := relationSchema_cat hc2 table schema hsch
  refine ⟨s3, ?_, (hs1.trans hs2).trans hs3, hc3⟩
  rw [update_eq_stmt, bind_ok e1, bind_ok e2, bind_ok e3]
  simp only [hnames]
  rfl

theorem update_ok_names {s s1 : Store} {pt sch : Levels} {tbls : List (Bytes × Levels)} (h : Cat s pt sch tbls)
    {table : Bytes} {t : Levels} (ht : (table, t) ∈ tbls) {schema : List FieldDef}
    (hsch : schemaOf sch table = some schema) {rowId : Nat} {cols : List String} {src : List Val}
    {logs : List WalRec} (hrun : update table rowId cols src s = .ok logs s1) :
    checkColumns schema cols = none := by
  cases hcc : checkColumns schema cols with
  | none => rfl
  | some e =>
    obtain ⟨s', he, _⟩ := update_names_refused h table t ht schema hsch rowId cols src e hcc
    rw [hrun] at he
    cases he

theorem update_unknown_table {s : Store} {pt sch : Levels} {tbls : List (Bytes × Levels)}
    (h : Cat s pt sch tbls) (table : Bytes) (rowId : Nat) (cols : List String) (src : List Val)
    (h1 : table ≠ sysPages) (h2 : table ≠ sysSchema) (h3 : table ∉ tbls.map (·.1)) :
    ∃ s', update table rowId cols src s = .err .tableNotExist s' ∧ Same s s' ∧ Cat s' pt sch tbls := by
  obtain ⟨s', e, hs, hc⟩ := relationOffset_cat_unknown h table h1 h2 h3
  exact ⟨s', by rw [update_eq_stmt, bind_err e], hs, hc⟩

end Mkdb.Store
end

section
/-! ## Refusals of SELECT and UPDATE at a row -/
set_option autoImplicit false
namespace Mkdb.Store
open Mkdb.Page Mkdb.Tuple Mkdb.Generated Mkdb.Tree

/-! ### SELECT of a table with a row that does not decode -/

theorem fetchTable_cat_undecodable {s : Store} {pt sch : Levels} {tbls : List (Bytes × Levels)}
    (h : Cat s pt sch tbls) (table : Bytes) (t : Levels) (ht : (table, t) ∈ tbls) (schema : List FieldDef)
    (hsch : schemaOf sch table = some schema)
    (hbad : ∃ c ∈ live t, decRow schema c.val = none) :
    ∃ s', fetchTable table s = .err .decode s' ∧ Same s s' ∧ Cat s' pt sch tbls := by
  obtain ⟨s4, cs, hs, hcs, e⟩ := fetchTable_scan h (Cat.tb_mem ht) (h.etb _ ht) (.inl rfl) hsch
  obtain ⟨A, x, B, hAB, hA, hxn⟩ := cut_first_none_of_mem (fun a : LeafCell × Nat => decRow schema a.1.val) cs (by
    obtain ⟨c, hc, hcn⟩ := hbad
    rw [← hcs] at hc
    obtain ⟨a, ha, rfl⟩ := List.mem_map.mp hc
    exact ⟨a, ha, hcn⟩)
  have eA := fetchRows_all schema A (A.map (·.1)) s4 rfl fun c hc => by
    obtain ⟨a, ha, rfl⟩ := List.mem_map.mp hc
    obtain ⟨m, hd⟩ := Option.ne_none_iff_exists'.mp (hA a ha)
    exact ⟨m, decRow_eq_some.mp hd⟩
  have ex : fetchRow schema x s4 = .err .decode s4 := by
    unfold fetchRow
    rw [bind_err (decodeRow_fail schema x.1.val s4 hxn)]
  have eall := mapS_append_err (fetchRow schema) A (x :: B) s4 s4 s4 _ _ eA (mapS_cons_err _ x B s4 s4 _ ex)
  rw [← hAB] at eall
  refine ⟨s4, ?_, hs, h.of_same hs⟩
  rw [e, bind_err eall]

/-! ### UPDATE of a live row that is refused -/

theorem update_cat_fail {s : Store} {pt sch : Levels} {tbls : List (Bytes × Levels)} (h : Cat s pt sch tbls)
    (table : Bytes) (t : Levels) (ht : (table, t) ∈ tbls) (schema : List FieldDef)
    (hsch : schemaOf sch table = some schema) (rowId : Nat) (cols : List String) (src : List Val)
    (hnames : checkColumns schema cols = none)
    (c : LeafCell) (hc : c ∈ live t) (hk : c.key = rowId) (e : SErr)
    (hbody : ∀ (o : Nat) (s : Store), updBody schema rowId cols src (c, o) s = .err e s) :
    ∃ s', update table rowId cols src s = .err e s' ∧ Same s s' ∧ Cat s' pt sch tbls := by
  obtain ⟨s4, p, hs, hc4, _, _, hrun⟩ := update_at_row h table t ht schema hsch rowId cols src hnames c hc hk
  exact ⟨s4, hrun.trans (hbody _ _), hs, hc4⟩

theorem update_cat_undecodable {s : Store} {pt sch : Levels} {tbls : List (Bytes × Levels)}
    (h : Cat s pt sch tbls) (table : Bytes) (t : Levels) (ht : (table, t) ∈ tbls) (schema : List FieldDef)
    (hsch : schemaOf sch table = some schema) (rowId : Nat) (cols : List String) (src : List Val)
    (hnames : checkColumns schema cols = none)
    (c : LeafCell) (hc : c ∈ live t) (hk : c.key = rowId) (hdec : decRow schema c.val = none) :
    ∃ s', update table rowId cols src s = .err .decode s' ∧ Same s s' ∧ Cat s' pt sch tbls := by
  subst hk
  refine update_cat_fail h table t ht schema hsch _ cols src hnames c hc rfl _ fun o s0 => ?_
  rw [updBody_hit, bind_err (decodeRow_fail schema c.val s0 hdec)]

theorem update_cat_encode_error {s : Store} {pt sch : Levels} {tbls : List (Bytes × Levels)}
    (h : Cat s pt sch tbls) (table : Bytes) (t : Levels) (ht : (table, t) ∈ tbls) (schema : List FieldDef)
    (hsch : schemaOf sch table = some schema) (rowId : Nat) (cols : List String) (src : List Val)
    (hnames : checkColumns schema cols = none)
    (c : LeafCell) (hc : c ∈ live t) (hk : c.key = rowId) (m : Vals) (err : TErr)
    (hdec : decodeTuple schema c.val [] = .ok m)
    (henc : encodeTuple schema ((cols.zip src).reverse ++ m) = .error err) :
    ∃ s', update table rowId cols src s = .err (serrOf err) s' ∧ Same s s' ∧ Cat s' pt sch tbls := by
  subst hk
  refine update_cat_fail h table t ht schema hsch _ cols src hnames c hc rfl _ fun o s0 => ?_
  rw [updBody_hit, bind_ok (decodeRow_spec _ _ _ s0 (decRow_of_decode hdec)), bind_err (encodeRow_err henc s0)]

theorem update_cat_too_large {s : Store} {pt sch : Levels} {tbls : List (Bytes × Levels)}
    (h : Cat s pt sch tbls) (table : Bytes) (t : Levels) (ht : (table, t) ∈ tbls) (schema : List FieldDef)
    (hsch : schemaOf sch table = some schema) (rowId : Nat) (cols : List String) (src : List Val)
    (hnames : checkColumns schema cols = none)
    (c : LeafCell) (hc : c ∈ live t) (hk : c.key = rowId) (m : Vals) (buf : Bytes)
    (hdec : decodeTuple schema c.val [] = .ok m)
    (henc : encodeTuple schema ((cols.zip src).reverse ++ m) = .ok buf)
    (hlen : buf.length > c_maxValueSize) :
    ∃ s', update table rowId cols src s = .err .rowTooLarge s' ∧ Same s s' ∧ Cat s' pt sch tbls := by
  subst hk
  refine update_cat_fail h table t ht schema hsch _ cols src hnames c hc rfl _ fun o s0 => ?_
  have hu : updateCellAt o c.key buf s0.hdr.nextLSN s0 = .err .rowTooLarge s0 := by
    unfold updateCellAt
    simp only [hlen, if_true]
    rfl
  rw [updBody_hit, bind_ok (decodeRow_spec _ _ _ s0 (decRow_of_decode hdec)), bind_ok (encodeRow_ok henc s0),
    bind_ok (show getS s0 = .ok s0 s0 from rfl), bind_err hu]

end Mkdb.Store
end
