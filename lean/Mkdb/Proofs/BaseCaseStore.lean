import Mkdb.Model.Session
import Mkdb.Proofs.StoreDecEq
/-!
# The base case: the store `CREATE DATABASE` produces, computed

`Store.createDB` is the model of `storage.CreateDB`; the session (`Session.exec … (.createDatabase n)`)
runs `createDB [] {}` and installs `{ store := reopen st, wal := [] }`.  Here that store is computed:
`createDB_eq` (an explicit value `newStore`, checked by kernel evaluation of the model), and `newDB` is
the database a fresh `CREATE DATABASE` leaves (`exec_createDatabase_newDB`).  Only the model is
imported (and `StoreDecEq`), so that this file can be used beside any of the proof developments.
-/
set_option autoImplicit false
namespace Mkdb.Store
open Mkdb.Page Mkdb.Tuple Mkdb.Generated

/-- the page table of a new database: the rows of `sys_pages` (root 4096) and `sys_schema` (root 8192) -/
def ptLeafNew : Leaf := ⟨4096, 1, false, false, 0, 0,
  [⟨1, false, [0, 9, 0, 0, 0, 115, 121, 115, 95, 112, 97, 103, 101, 115, 0, 0, 16, 0, 0, 0, 0, 0, 0]⟩,
   ⟨2, false, [0, 10, 0, 0, 0, 115, 121, 115, 95, 115, 99, 104, 101, 109, 97, 0, 0, 32, 0, 0, 0, 0, 0, 0]⟩]⟩

/-- `sys_schema` of a new database: the two columns of `sys_pages`, the four columns of `sys_schema` -/
def schLeafNew : Leaf := ⟨8192, 7, false, false, 0, 0,
  [⟨3, false, [0, 9, 0, 0, 0, 115, 121, 115, 95, 112, 97, 103, 101, 115, 0, 10, 0, 0, 0, 116, 97, 98, 108, 101,
      95, 110, 97, 109, 101, 0, 1, 0, 0, 0, 0, 255, 0, 0, 0]⟩,
   ⟨4, false, [0, 9, 0, 0, 0, 115, 121, 115, 95, 112, 97, 103, 101, 115, 0, 11, 0, 0, 0, 102, 105, 108, 101, 95,
      111, 102, 102, 115, 101, 116, 0, 3, 0, 0, 0, 0, 0, 0, 0, 0]⟩,
   ⟨5, false, [0, 10, 0, 0, 0, 115, 121, 115, 95, 115, 99, 104, 101, 109, 97, 0, 10, 0, 0, 0, 116, 97, 98, 108,
      101, 95, 110, 97, 109, 101, 0, 1, 0, 0, 0, 0, 255, 0, 0, 0]⟩,
   ⟨6, false, [0, 10, 0, 0, 0, 115, 121, 115, 95, 115, 99, 104, 101, 109, 97, 0, 10, 0, 0, 0, 102, 105, 101, 108,
      100, 95, 110, 97, 109, 101, 0, 1, 0, 0, 0, 0, 255, 0, 0, 0]⟩,
   ⟨7, false, [0, 10, 0, 0, 0, 115, 121, 115, 95, 115, 99, 104, 101, 109, 97, 0, 10, 0, 0, 0, 102, 105, 101, 108,
      100, 95, 116, 121, 112, 101, 0, 0, 0, 0, 0, 0, 0, 0, 0, 0]⟩,
   ⟨8, false, [0, 10, 0, 0, 0, 115, 121, 115, 95, 115, 99, 104, 101, 109, 97, 0, 12, 0, 0, 0, 102, 105, 101, 108,
      100, 95, 108, 101, 110, 103, 116, 104, 0, 0, 0, 0, 0, 0, 255, 0, 0, 0]⟩]⟩

/-- the header of a new database: eight row ids and eight LSNs are used, two pages are allocated -/
def hdrNew : Header := { lastKey := 8, ptRoot := 4096, nextFree := 12288, nextLSN := 8 }

/-- **The store `CreateDB` leaves**: both catalog pages cached clean and in the data file, the header
in the data file. -/
def newStore : Store :=
  { hdr := hdrNew,
    mem := [(4096, ⟨.leaf ptLeafNew, false⟩), (8192, ⟨.leaf schLeafNew, false⟩)],
    disk := [(4096, .leaf ptLeafNew), (8192, .leaf schLeafNew)],
    dhdr := hdrNew, ghost := 0 }

/-- **`CreateDB` computed.**  `createDB` with the write order `[]` (pages in cache order), from the
empty store, succeeds with the store `newStore` (kernel evaluation of the model, B-tree inserts, catalog
scans, row codec and flush included; the levels model agreed with every insert: `ghost = 0`). -/
theorem createDB_eq : createDB [] {} = .ok () newStore := by decide +kernel

/-- the write order of the flush does not matter for the pages and the header, only for the order in
which the two pages are listed: the other order -/
theorem createDB_eq_rev : createDB [8192, 4096] {} =
    .ok () { newStore with disk := [(8192, .leaf schLeafNew), (4096, .leaf ptLeafNew)] } := by
  decide +kernel

/-- **The database a fresh `CREATE DATABASE` leaves** (`Session.exec`: the data file re-opened, an
empty log). -/
def newDB : Engine.DB := { store := reopen newStore, wal := [] }

theorem newDB_store : newDB.store =
    { hdr := hdrNew, mem := [], disk := [(4096, .leaf ptLeafNew), (8192, .leaf schLeafNew)], dhdr := hdrNew,
      ghost := 0 } := rfl

theorem exec_createDatabase_newDB (s : Session.Sess) (name : Bytes) (s' : Session.Sess)
    (h : Session.exec s (.createDatabase name) = (s', Session.Out.ok)) :
    s' = Session.setDB s (Session.canon name) newDB := by
  unfold Session.exec at h
  simp only [createDB_eq] at h
  split at h
  · cases h
  · split at h
    · cases h
    · split at h
      · cases h
      · simp only [Prod.mk.injEq, and_true] at h
        exact h.symm

end Mkdb.Store
