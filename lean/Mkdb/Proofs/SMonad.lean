import Mkdb.Model.Store
/-!
The store monad `SM`, pointwise: what `bind` does on each outcome, how a `bind` that ended in `.ok` or
`.err` came about (`bind_eq_ok`, `bind_eq_err`), and the loops `mapS` and `findFirstM` on lists whose
iterations succeed, fail, or do nothing.  Then what is known of the result of a store program, whatever
program it is: the two styles of postcondition.
-/

section
set_option autoImplicit false
namespace Mkdb.Store

/-! ### the monad, pointwise -/

theorem bind_def {α β} (m : SM α) (f : α → SM β) (s : Store) :
    (m >>= f) s = match m s with
      | .ok a s' => f a s'
      | .err e s' => .err e s'
      | .panic p => .panic p
      | .unmodelled w => .unmodelled w
      | .fuel => .fuel := rfl

theorem bind_ok {α β} {m : SM α} {f : α → SM β} {s s' : Store} {a : α} (h : m s = .ok a s') :
    (m >>= f) s = f a s' := by rw [bind_def, h]

theorem bind_err {α β} {m : SM α} {f : α → SM β} {s s' : Store} {e : SErr} (h : m s = .err e s') :
    (m >>= f) s = .err e s' := by rw [bind_def, h]

theorem bind_eq_err {α β} {m : SM α} {f : α → SM β} {s s' : Store} {e : SErr}
    (h : (m >>= f) s = .err e s') :
    m s = .err e s' ∨ ∃ a s1, m s = .ok a s1 ∧ f a s1 = .err e s' := by
  rw [bind_def] at h
  cases hm : m s with
  | ok a s1 => rw [hm] at h; exact .inr ⟨a, s1, rfl, h⟩
  | err e1 s1 => rw [hm] at h; simp only [SRes.err.injEq] at h; rw [h.1, h.2]; exact .inl rfl
  | panic p => rw [hm] at h; cases h
  | unmodelled w => rw [hm] at h; cases h
  | fuel => rw [hm] at h; cases h

theorem bind_eq_ok {α β} {m : SM α} {f : α → SM β} {s s' : Store} {b : β}
    (h : (m >>= f) s = .ok b s') : ∃ a s1, m s = .ok a s1 ∧ f a s1 = .ok b s' := by
  rw [bind_def] at h
  cases hm : m s with
  | ok a s1 => rw [hm] at h; exact ⟨a, s1, rfl, h⟩
  | err e1 s1 => rw [hm] at h; cases h
  | panic p => rw [hm] at h; cases h
  | unmodelled w => rw [hm] at h; cases h
  | fuel => rw [hm] at h; cases h

theorem bind_assoc' {α β γ} (m : SM α) (f : α → SM β) (g : β → SM γ) :
    (m >>= f) >>= g = m >>= fun a => f a >>= g := by
  funext s
  simp only [bind_def]
  cases m s <;> rfl

theorem throw_bind {α β} (e : SErr) (f : α → SM β) : (throw e : SM α) >>= f = throw e := rfl

theorem pure_bind' {α β} (a : α) (f : α → SM β) : (pure a : SM α) >>= f = f a := rfl

theorem ite_bind {α β} (c : Prop) [Decidable c] (a b : SM α) (f : α → SM β) :
    (if c then a else b) >>= f = if c then a >>= f else b >>= f := by
  split <;> rfl

theorem pure_apply {α} (a : α) (s : Store) : (pure a : SM α) s = .ok a s := rfl

/-! ### `mapS`, iteration by iteration -/

theorem mapS_cons_ok {α β} (f : α → SM β) (a : α) (rest : List α) (s s1 s2 : Store) (b : β) (bs : List β)
    (h1 : f a s = .ok b s1) (h2 : mapS f rest s1 = .ok bs s2) : mapS f (a :: rest) s = .ok (b :: bs) s2 := by
  rw [mapS, bind_ok h1, bind_ok h2]
  rfl

theorem mapS_cons_err {α β} (f : α → SM β) (a : α) (rest : List α) (s s1 : Store) (e : SErr)
    (h : f a s = .err e s1) : mapS f (a :: rest) s = .err e s1 := by
  rw [mapS, bind_err h]

theorem mapS_append_err {α β} (f : α → SM β) : ∀ (A B : List α) (s s1 s2 : Store) (as : List β) (e : SErr),
    mapS f A s = .ok as s1 → mapS f B s1 = .err e s2 → mapS f (A ++ B) s = .err e s2
  | [], B, s, s1, s2, as, e, h1, h2 => by
    simp only [mapS, pure, Pure.pure, SRes.ok.injEq] at h1
    obtain ⟨_, rfl⟩ := h1
    exact h2
  | a :: A, B, s, s1, s2, as, e, h1, h2 => by
    rw [mapS] at h1
    obtain ⟨b, sa, ea, h1⟩ := bind_eq_ok h1
    obtain ⟨tl, sb, eb, h1⟩ := bind_eq_ok h1
    simp only [pure, Pure.pure, SRes.ok.injEq] at h1
    obtain ⟨_, rfl⟩ := h1
    show mapS f (a :: (A ++ B)) s = _
    rw [mapS, bind_ok ea, bind_err (mapS_append_err f A B sa sb s2 tl e eb h2)]

theorem mapS_skip {α β} (f : α → SM (List β)) (s : Store) : ∀ (l : List α),
    (∀ a ∈ l, f a s = .ok [] s) → mapS f l s = .ok (l.map fun _ => []) s
  | [], _ => rfl
  | a :: rest, h =>
    mapS_cons_ok f a rest s s s [] _ (h a List.mem_cons_self)
      (mapS_skip f s rest (fun x hx => h x (List.mem_cons_of_mem _ hx)))

theorem flatten_map_nil {α β} (l : List α) : (l.map fun _ => ([] : List β)).flatten = [] := by
  induction l with
  | nil => rfl
  | cons a rest ih => simp only [List.map_cons, List.flatten_cons, ih, List.append_nil]

/-- a loop in which only the iteration for `x` does anything: it ends as that iteration ends, and
the flattened log is the log of `x` -/
theorem mapS_flatten_one {α β} (f : α → SM (List β)) (x : α) (B : List α)
    (hB : ∀ b ∈ B, ∀ s, f b s = .ok [] s) : ∀ (A : List α) (s : Store), (∀ a ∈ A, ∀ s, f a s = .ok [] s) →
    (mapS f (A ++ x :: B) >>= fun logs => pure logs.flatten) s = f x s
  | [], s, _ => by
    rw [List.nil_append, mapS, bind_def, bind_def]
    cases f x s with
    | ok b s1 =>
      simp only
      rw [bind_ok (mapS_skip f s1 B fun b hb => hB b hb s1)]
      show SRes.ok (b ++ (B.map fun _ => []).flatten) s1 = _
      rw [flatten_map_nil, List.append_nil]
    | err e s1 => rfl
    | panic p => rfl
    | unmodelled w => rfl
    | fuel => rfl
  | a :: A, s, hA => by
    rw [List.cons_append, mapS, bind_def, bind_ok (hA a List.mem_cons_self s),
      ← mapS_flatten_one f x B hB A s fun a' h' => hA a' (List.mem_cons_of_mem _ h'), bind_def, bind_def]
    cases mapS f (A ++ x :: B) s <;> rfl

theorem mapS_length {α β} {op : α → SM β} : ∀ {l : List α} {s s' : Store} {bs : List β},
    mapS op l s = .ok bs s' → bs.length = l.length
  | [], _, _, _, h => by cases h; rfl
  | a :: rest, s, s', bs, h => by
    rw [mapS] at h
    obtain ⟨b, s1, _, h2⟩ := bind_eq_ok h
    obtain ⟨tl, s2, h3, h4⟩ := bind_eq_ok h2
    cases h4
    rw [List.length_cons, List.length_cons, mapS_length h3]

theorem mapS_take {α β} {op : α → SM β} : ∀ {l : List α} {s s' : Store} {bs : List β} (j : Nat),
    mapS op l s = .ok bs s' →
    ∃ sJ, mapS op (l.take j) s = .ok (bs.take j) sJ ∧ mapS op (l.drop j) sJ = .ok (bs.drop j) s'
  | l, s, s', bs, 0, h => ⟨s, rfl, h⟩
  | [], s, s', bs, j+1, h => by cases h; exact ⟨s, rfl, rfl⟩
  | a :: rest, s, s', bs, j+1, h => by
    rw [mapS] at h
    obtain ⟨b, s1, h1, h2⟩ := bind_eq_ok h
    obtain ⟨tl, s2, h3, h4⟩ := bind_eq_ok h2
    cases h4
    obtain ⟨sJ, e1, e2⟩ := mapS_take j h3
    refine ⟨sJ, ?_, e2⟩
    rw [List.take_succ_cons, mapS, bind_ok h1, bind_ok e1]
    rfl

theorem split_at_most_one {α} (p : α → Bool) : ∀ (l : List α), (l.filter p).length ≤ 1 →
    (∀ a ∈ l, p a = false) ∨ ∃ A x B, l = A ++ x :: B ∧ (∀ a ∈ A, p a = false) ∧ ∀ b ∈ B, p b = false
  | [], _ => .inl fun _ h => absurd h List.not_mem_nil
  | a :: rest, h => by
    cases hp : p a with
    | true =>
      rw [List.filter_cons_of_pos hp, List.length_cons] at h
      have hnil : rest.filter p = [] := List.eq_nil_of_length_eq_zero (by omega)
      exact .inr ⟨[], a, rest, rfl, fun _ h => absurd h List.not_mem_nil, fun b hb => by
        simpa using List.filter_eq_nil_iff.mp hnil b hb⟩
    | false =>
      rw [List.filter_cons_of_neg (by simp [hp])] at h
      rcases split_at_most_one p rest h with h1 | ⟨A, x, B, rfl, hA, hB⟩
      · exact .inl fun b hb => (List.mem_cons.mp hb).elim (fun e => e ▸ hp) (h1 b)
      · exact .inr ⟨a :: A, x, B, rfl, fun b hb => (List.mem_cons.mp hb).elim (fun e => e ▸ hp) (hA b), hB⟩

/-! ### loops whose body does not touch the state -/

theorem findFirstM_pure {α β} (f : α → SM (Option β)) (g : α → Option β) (s : Store) :
    ∀ (l : List α), (∀ a ∈ l, f a s = .ok (g a) s) → findFirstM f l s = .ok (l.findSome? g) s
  | [], _ => rfl
  | a :: rest, h => by
    rw [findFirstM, bind_ok (h a List.mem_cons_self)]
    cases hg : g a with
    | some b => simp [hg]; rfl
    | none =>
      simp only [List.findSome?_cons, hg]
      exact findFirstM_pure f g s rest (fun x hx => h x (List.mem_cons_of_mem _ hx))

def mapO {α β} (g : α → Option β) : List α → Option (List β)
  | [] => some []
  | a :: l =>
    match g a, mapO g l with
    | some b, some bs => some (b :: bs)
    | _, _ => none

theorem mapO_map {α β γ} (g : β → Option γ) (h : α → β) : ∀ (l : List α),
    mapO g (l.map h) = mapO (fun a => g (h a)) l
  | [] => rfl
  | a :: rest => by simp only [List.map_cons, mapO, mapO_map g h rest]

theorem mapO_filterMap {α β} (g : α → Option β) : ∀ (l : List α), (∀ a ∈ l, g a ≠ none) →
    mapO g l = some (l.filterMap g)
  | [], _ => rfl
  | a :: rest, h => by
    have ih := mapO_filterMap g rest (fun x hx => h x (List.mem_cons_of_mem _ hx))
    cases hg : g a with
    | none => exact absurd hg (h a List.mem_cons_self)
    | some b => simp only [mapO, hg, ih, List.filterMap_cons]

theorem mapO_append {α β} (g : α → Option β) : ∀ (l1 l2 : List α),
    mapO g (l1 ++ l2) = match mapO g l1, mapO g l2 with
      | some a, some b => some (a ++ b)
      | _, _ => none
  | [], l2 => by
    simp only [List.nil_append, mapO]
    cases mapO g l2 <;> rfl
  | a :: l1, l2 => by
    simp only [List.cons_append, mapO, mapO_append g l1 l2]
    cases g a <;> cases mapO g l1 <;> cases mapO g l2 <;> rfl

theorem mapS_pure {α β} (f : α → SM β) (g : α → Option β) (s : Store) :
    ∀ (l : List α) (bs : List β), (∀ a ∈ l, ∀ b, g a = some b → f a s = .ok b s) → mapO g l = some bs →
      mapS f l s = .ok bs s
  | [], bs, _, h => by simp only [mapO, Option.some.injEq] at h; subst h; rfl
  | a :: rest, bs, hf, h => by
    simp only [mapO] at h
    cases hg : g a with
    | none => rw [hg] at h; cases h
    | some b =>
      cases hr : mapO g rest with
      | none => rw [hg, hr] at h; cases h
      | some tl =>
        rw [hg, hr] at h
        simp only [Option.some.injEq] at h
        subst h
        rw [mapS, bind_ok (hf a List.mem_cons_self b hg),
          bind_ok (mapS_pure f g s rest tl (fun x hx => hf x (List.mem_cons_of_mem _ hx)) hr)]
        rfl

end Mkdb.Store
end

section
/-!
Two styles of postcondition are in use in the modules above this one.

* **Match style**: a predicate on the result that is `True` of a panic, an unmodelled branch and an
  exhausted fuel: `SRes.Post Q E` (`Q` of the value and store of an `.ok`, `E` of the store an `.err`
  leaves - the Go code mutates in place, an error keeps the state reached), and its case
  `SRes.After Q` (the same `Q` of either store).  `Preserves R m`, `Keeps`, `KeepsDisk`, `KeepsFiled`,
  `ReadOnly`, `Grows`, `ResL` … are of this form: "whatever the outcome, the store is related".  They
  compose by `SRes.Post.bind` / `Preserves.seq` and need no inversion of `bind`.
* **Equation style**: `∀ s e s', m s = .err e s' → …` (`ErrIn`, `ErrRO`, `Refuses`, `OkPost`): "if it
  refuses, why, and what is left".  These see the error code, are not closed under `bind` without a
  reason (a write, then a refusal), and are used with the inversion lemmas `bind_eq_err`, `bind_eq_ok`.

`SRes.map` is for the operations that inspect a result instead of binding it.
-/
set_option autoImplicit false
namespace Mkdb.Store

/-- what is known of a result: `Q` of an accepted one, `E` of the state an error leaves -/
def SRes.Post {α} (Q : α → Store → Prop) (E : Store → Prop) : SRes α → Prop
  | .ok a s => Q a s
  | .err _ s => E s
  | _ => True

theorem SRes.Post.mono {α} {Q Q' : α → Store → Prop} {E E' : Store → Prop} {r : SRes α} (h : r.Post Q E)
    (hq : ∀ a s, Q a s → Q' a s) (he : ∀ s, E s → E' s) : r.Post Q' E' := by
  cases r with
  | ok a s => exact hq a s h
  | err x s => exact he s h
  | _ => trivial

theorem SRes.Post.bind {α β} {m : SM α} {f : α → SM β} {s : Store} {Q1 : α → Store → Prop} {E1 : Store → Prop}
    {Q : β → Store → Prop} {E : Store → Prop} (hm : (m s).Post Q1 E1) (he : ∀ s1, E1 s1 → E s1)
    (hf : ∀ a s1, Q1 a s1 → (f a s1).Post Q E) : ((m >>= f) s).Post Q E := by
  rw [bind_def]
  cases e : m s with
  | ok a s1 => rw [e] at hm; exact hf a s1 hm
  | err x s1 => rw [e] at hm; exact he s1 hm
  | _ => trivial

/-- `Q` of the store of either outcome -/
def SRes.After {α} (Q : Store → Prop) : SRes α → Prop := SRes.Post (fun _ => Q) Q

theorem SRes.After.mono {α} {Q Q' : Store → Prop} (hq : ∀ s', Q s' → Q' s') {r : SRes α}
    (h : r.After Q) : r.After Q' := SRes.Post.mono h (fun _ => hq) hq

/-! ### results mapped -/

def SRes.map {α β} (f : α → β) (g : Store → Store) : SRes α → SRes β
  | .ok a s => .ok (f a) (g s)
  | .err e s => .err e (g s)
  | .panic p => .panic p
  | .unmodelled w => .unmodelled w
  | .fuel => .fuel

theorem SRes.map_eq_err {α β} {f : α → β} {g : Store → Store} {r : SRes α} {e : SErr} {s' : Store}
    (h : r.map f g = .err e s') : ∃ s1, r = .err e s1 ∧ s' = g s1 := by
  cases r <;> cases h
  exact ⟨_, rfl, rfl⟩

theorem SRes.Post.map {α β} {f : α → β} {g : Store → Store} {Q : α → Store → Prop} {E : Store → Prop}
    {Q' : β → Store → Prop} {E' : Store → Prop} {r : SRes α} (h : r.Post Q E)
    (hq : ∀ a s, Q a s → Q' (f a) (g s)) (he : ∀ s, E s → E' (g s)) : (r.map f g).Post Q' E' := by
  cases r with
  | ok a s => exact hq a s h
  | err x s => exact he s h
  | _ => trivial

theorem SRes.After.map {α β} {f : α → β} {g : Store → Store} {Q Q' : Store → Prop} {r : SRes α}
    (h : r.After Q) (hg : ∀ s, Q s → Q' (g s)) : (r.map f g).After Q' := SRes.Post.map h (fun _ => hg) hg

end Mkdb.Store
end
