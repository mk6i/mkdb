import Mkdb.Proofs.ListOption
/-!
A recency list: entries with a key and a dirty bit, most recently used first; lookup is `List.find?` on
the key, removal `List.filter`, eviction drops the coldest clean entry, insertion puts an entry in front and
evicts when the list is full.  The LRU model (`Model/LRU.lean`, C15) and the page-cache model
(`Model/PageCache.lean`, C16) each define these on an entry type of their own; what does not depend on the
entry type is proved here, for any type with projections `key` and `dirty`, and used by both.  What an
insertion does to the lookup of another key: `insert_some` (the rest of the new list is a sublist of the old
one that keeps every dirty entry) with `find?_sublist` (under distinct keys a sublist finds the same entry or
nothing).
-/
namespace Mkdb.Recency

variable {β : Type} {key : β → Nat} {dirty : β → Bool}

/-! ### lookup and removal -/

theorem find?_some {l : List β} {k : Nat} {e : β} (h : l.find? (fun x => key x == k) = some e) :
    e ∈ l ∧ key e = k :=
  ⟨List.mem_of_find?_eq_some h, by simpa using List.find?_some h⟩

theorem find?_eq_none {l : List β} {k : Nat} :
    l.find? (fun x => key x == k) = none ↔ ∀ e ∈ l, key e ≠ k := by
  simp [List.find?_eq_none]

theorem find?_cons (e : β) (l : List β) (k : Nat) :
    (e :: l).find? (fun x => key x == k) = if key e = k then some e else l.find? (fun x => key x == k) := by
  by_cases h : key e = k <;> simp [h]

theorem find?_remove_ne (l : List β) {k k' : Nat} (h : k ≠ k') :
    (l.filter fun x => !(key x == k')).find? (fun x => key x == k) = l.find? (fun x => key x == k) := by
  rw [List.find?_filter]
  congr 1
  funext a
  by_cases hak : key a = k
  · have : ¬ key a = k' := fun h' => h (hak.symm.trans h')
    simp [hak, h]
  · simp [hak]

theorem remove_length_lt {l : List β} {k : Nat} {e : β} (h : l.find? (fun x => key x == k) = some e) :
    (l.filter fun x => !(key x == k)).length + 1 ≤ l.length := by
  obtain ⟨hm, hk⟩ := find?_some h
  have hle := List.length_filter_le (fun x => !(key x == k)) l
  have hne : (l.filter fun x => !(key x == k)).length ≠ l.length := fun heq => by
    simpa [hk] using List.length_filter_eq_length_iff.mp heq e hm
  omega

theorem key_ne_of_mem_remove {l : List β} {k : Nat} {x : β} (h : x ∈ l.filter fun x => !(key x == k)) :
    key x ≠ k := by
  simpa using (List.mem_filter.mp h).2

/-- an entry with a fresh key in front of a part of the list: still one entry per key.  The three ways the
models put an entry in front are of this form: in front of the list without its key, of the list after an
eviction, and of the whole list. -/
theorem nodup_cons_of_sublist {l l' : List β} (hnd : (l.map key).Nodup) (hs : l'.Sublist l) {e : β}
    (he : ∀ x ∈ l', key x ≠ key e) : ((e :: l').map key).Nodup := by
  rw [List.map_cons, List.nodup_cons, List.mem_map]
  exact ⟨fun ⟨x, hx, hk⟩ => he x hx hk, (hs.map key).nodup hnd⟩

theorem find?_sublist {l l' : List β} (hnd : (l.map key).Nodup) (hs : l'.Sublist l) (k : Nat) :
    l'.find? (fun x => key x == k) = none ∨ l'.find? (fun x => key x == k) = l.find? (fun x => key x == k) := by
  cases h : l'.find? (fun x => key x == k) with
  | none => exact .inl rfl
  | some e =>
    obtain ⟨hm, rfl⟩ := find?_some h
    exact .inr (find?_of_mem hnd (hs.subset hm)).symm

/-! ### the list up to order -/

theorem perm_cons_remove {l : List β} (hnd : (l.map key).Nodup) {k : Nat} {e : β}
    (h : l.find? (fun x => key x == k) = some e) : l.Perm (e :: l.filter fun x => !(key x == k)) := by
  induction l with
  | nil => cases h
  | cons x t ih =>
    simp only [List.map_cons, List.nodup_cons, List.mem_map, not_exists, not_and] at hnd
    rw [find?_cons] at h
    by_cases hx : key x = k
    · rw [if_pos hx] at h
      cases h
      have ht : (t.filter fun y => !(key y == k)) = t :=
        List.filter_eq_self.mpr fun y hy => by simpa using fun hyk => hnd.1 y hy (hyk.trans hx.symm)
      simp [hx, ht]
    · rw [if_neg hx] at h
      have : ((x :: t).filter fun y => !(key y == k)) = x :: t.filter fun y => !(key y == k) := by
        simp [hx]
      rw [this]
      exact ((ih hnd.2 h).cons x).trans (List.Perm.swap e x _)

theorem find?_perm {l1 l2 : List β} (hp : l1.Perm l2) (hnd : (l1.map key).Nodup) (k : Nat) :
    l1.find? (fun x => key x == k) = l2.find? (fun x => key x == k) := by
  have hnd2 : (l2.map key).Nodup := (hp.map _).nodup_iff.mp hnd
  cases h : l1.find? (fun x => key x == k) with
  | some e =>
    obtain ⟨hm, rfl⟩ := find?_some h
    exact (find?_of_mem hnd2 (hp.subset hm)).symm
  | none =>
    exact (find?_eq_none.mpr fun e he => find?_eq_none.mp h e (hp.symm.subset he)).symm

/-! ### a change of the entries in place that keeps their keys -/

theorem find?_map {g : β → β} (hg : ∀ e, key (g e) = key e) (l : List β) (k : Nat) :
    (l.map g).find? (fun x => key x == k) = (l.find? fun x => key x == k).map g := by
  rw [List.find?_map]
  congr 2
  funext e
  simp only [Function.comp, hg]

theorem keys_map {g : β → β} (hg : ∀ e, key (g e) = key e) (l : List β) : (l.map g).map key = l.map key := by
  rw [List.map_map]
  exact List.map_congr_left fun e _ => hg e

/-! ### eviction -/

variable (dirty) in
/-- remove the coldest (last) clean entry; `none` when all are dirty -/
def evict : List β → Option (List β)
  | [] => none
  | e :: rest =>
    match evict rest with
    | some rest' => some (e :: rest')
    | none => if dirty e then none else some rest

theorem evict_none_iff {l : List β} : evict dirty l = none ↔ ∀ e ∈ l, dirty e = true := by
  induction l with
  | nil => simp [evict]
  | cons a t ih =>
    simp only [evict, List.mem_cons, forall_eq_or_imp]
    cases ht : evict dirty t with
    | some t' =>
      simp only [reduceCtorEq, false_iff, not_and]
      intro _ hall
      have := ih.mpr hall
      rw [ht] at this; cases this
    | none =>
      have hall := ih.mp ht
      cases hd : dirty a with
      | false => simp
      | true => simpa using hall

theorem evict_some {l l' : List β} (h : evict dirty l = some l') :
    ∃ pre v post, l = pre ++ v :: post ∧ l' = pre ++ post ∧ dirty v = false ∧
      ∀ e ∈ post, dirty e = true := by
  induction l generalizing l' with
  | nil => simp [evict] at h
  | cons e rest ih =>
    simp only [evict] at h
    cases hr : evict dirty rest with
    | some rest' =>
      rw [hr] at h
      obtain ⟨pre, v, post, h1, h2, h3, h4⟩ := ih hr
      cases h
      exact ⟨e :: pre, v, post, by simp [h1], by simp [h2], h3, h4⟩
    | none =>
      rw [hr] at h
      cases hd : dirty e with
      | true => simp [hd] at h
      | false =>
        simp only [hd, Bool.false_eq_true, ↓reduceIte, Option.some.injEq] at h
        subst h
        exact ⟨[], e, rest, by simp, by simp, hd, evict_none_iff.mp hr⟩

theorem evict_length {l l' : List β} (h : evict dirty l = some l') : l'.length + 1 = l.length := by
  obtain ⟨pre, v, post, rfl, rfl, _, _⟩ := evict_some h
  simp; omega

theorem evict_sublist {l l' : List β} (h : evict dirty l = some l') : l'.Sublist l := by
  obtain ⟨pre, v, post, rfl, rfl, _, _⟩ := evict_some h
  exact List.Sublist.append_left (List.sublist_cons_self v post) pre

theorem mem_evict_of_dirty {l l' : List β} (h : evict dirty l = some l') {e : β} (he : e ∈ l)
    (hd : dirty e = true) : e ∈ l' := by
  obtain ⟨pre, v, post, rfl, rfl, hv, _⟩ := evict_some h
  rcases List.mem_append.mp he with h1 | h1
  · exact List.mem_append_left _ h1
  · rcases List.mem_cons.mp h1 with rfl | h2
    · rw [hv] at hd; cases hd
    · exact List.mem_append_right _ h2

theorem evict_map {γ : Type} {dirty' : γ → Bool} {g : β → γ} (hg : ∀ e, dirty' (g e) = dirty e) (l : List β) :
    evict dirty' (l.map g) = (evict dirty l).map (List.map g) := by
  induction l with
  | nil => rfl
  | cons e rest ih =>
    simp only [List.map_cons, evict, ih, hg]
    cases evict dirty rest with
    | some rest' => rfl
    | none => cases dirty e <;> rfl

/-! ### insertion -/

variable (dirty) in
/-- put `e` in front of a list of capacity `cap`: when the list is full the coldest clean entry makes room, and
when there is none the insertion is refused (`LRUCache.set` of a key that is not resident) -/
def insert (cap : Nat) (e : β) (l : List β) : Option (List β) :=
  if l.length = cap then (evict dirty l).map (e :: ·) else some (e :: l)

theorem insert_some {cap : Nat} {e : β} {l l' : List β} (h : insert dirty cap e l = some l') :
    ∃ t, l' = e :: t ∧ t.Sublist l ∧ (∀ x ∈ l, dirty x = true → x ∈ t) ∧
      (l.length ≠ cap ∧ t = l ∨ l.length = cap ∧ evict dirty l = some t) := by
  unfold insert at h
  by_cases hfull : l.length = cap
  · rw [if_pos hfull] at h
    obtain ⟨t, ht, rfl⟩ := Option.map_eq_some_iff.mp h
    exact ⟨t, rfl, evict_sublist ht, fun x hx hd => mem_evict_of_dirty ht hx hd, .inr ⟨hfull, ht⟩⟩
  · rw [if_neg hfull] at h
    cases h
    exact ⟨l, rfl, .refl l, fun _ hx _ => hx, .inl ⟨hfull, rfl⟩⟩

theorem insert_length {cap : Nat} {e : β} {l l' : List β} (h : insert dirty cap e l = some l')
    (hl : l.length ≤ cap) : l'.length ≤ cap := by
  obtain ⟨t, rfl, _, _, ⟨hne, rfl⟩ | ⟨hfull, ht⟩⟩ := insert_some h
  · simp only [List.length_cons]; omega
  · have := evict_length ht
    simp only [List.length_cons]; omega

theorem insert_none_iff {cap : Nat} {e : β} {l : List β} :
    insert dirty cap e l = none ↔ l.length = cap ∧ ∀ x ∈ l, dirty x = true := by
  unfold insert
  by_cases hfull : l.length = cap
  · rw [if_pos hfull, Option.map_eq_none_iff, evict_none_iff]
    exact ⟨fun h => ⟨hfull, h⟩, fun h => h.2⟩
  · rw [if_neg hfull]
    exact ⟨fun h => (nomatch h), fun h => absurd h.1 hfull⟩

end Mkdb.Recency
