import Mkdb.Proofs.RoundtripRender
/-!
What the well-formedness predicates of `Mkdb/Proofs/RoundtripRender.lean` say of each constructor
and of the values the select-list and join loops build.
-/
namespace Mkdb.Sql
open Mkdb.Scan Mkdb.Generated

/-- the literals a token can carry: every string and boolean, the int64 integers -/
def int64Lit : Lit → Bool
  | .int i => decide (-9223372036854775808 ≤ i) && decide (i ≤ 9223372036854775807)
  | _ => true

section
variable (ok : Lit → Bool)

theorem wfV_lit (l : Lit) : wfV ok (.lit l) = ok l := rfl
theorem wfV_col (c : ColRef) : wfV ok (.col c) = true := rfl
theorem wfItem_count (c : Option ColRef) : wfItem ok (.count c) = true := rfl
theorem wfItem_avg (c : ColRef) : wfItem ok (.avg c) = true := rfl
theorem wfItem_expr (c : Cond) : wfItem ok (.expr c) = wfCond ok c := rfl
theorem wfOptCond_none : wfOptCond ok none = true := rfl
theorem wfOptCond_some (c : Cond) : wfOptCond ok (some c) = wfCond ok c := rfl
theorem wfColType_int : wfColType ok .int = true := rfl
theorem wfColType_bigint : wfColType ok .bigint = true := rfl
theorem wfColType_varchar (n : Int) : wfColType ok (.varchar n) = ok (.int n) := rfl
theorem wfColType_boolean : wfColType ok .boolean = true := rfl
theorem wfStmt_createDatabase (n : Bytes) : wfStmt ok (.createDatabase n) = true := rfl
theorem wfStmt_select (s : Select) : wfStmt ok (.select s) = wfSelect ok s := rfl
theorem wfStmt_update (t : Bytes) (sets : List (Bytes × VExpr)) (w : Option Cond) :
    wfStmt ok (.update t sets w) = ((sets.all fun a => wfV ok a.2) && wfOptCond ok w) := rfl
theorem wfStmt_delete (t : Bytes) (w : Option Cond) : wfStmt ok (.delete t w) = wfOptCond ok w := rfl
theorem wfStmt_use (db : Bytes) : wfStmt ok (.use db) = true := rfl
theorem wfStmt_showDatabases : wfStmt ok .showDatabases = true := rfl

theorem wfCond_of_wfAnd (c : Cond) (h : wfAnd ok c = true) : wfCond ok c = true := by
  cases c <;> simp_all [wfAnd, wfCond]

theorem wfSelList_of {sl : List DerivedCol} (hne : sl ≠ []) (h : ∀ d ∈ sl, wfItem ok d.item = true) :
    wfSelList ok sl = true := by
  simp only [wfSelList, Bool.or_eq_true, decide_eq_true_eq, Bool.and_eq_true, Bool.not_eq_eq_eq_not,
    Bool.not_true, List.isEmpty_eq_false_iff, List.all_eq_true]
  exact Or.inr ⟨hne, h⟩

def wfTR (tr : TableRef) : Bool := tr.joins.all fun j => wfCond ok j.2.2

theorem wfTR_join (l : TableRef) (jt : JoinType) (r : TableName) (on : Cond) :
    wfTR ok (.join l jt r on) = (wfTR ok l && wfCond ok on) := by
  simp only [wfTR, TableRef.joins, List.all_append, List.all_cons, List.all_nil, Bool.and_true]

end

end Mkdb.Sql
