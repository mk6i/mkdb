import Mkdb.Proofs.ParserSteps
/-!
Token-level round trip of conditions made of comparisons only (C10 / C05.precedence): `tokOr litTok g gs`,
the tokens of `p11 AND … OR p21 AND …`, parse to `orTree g gs` (`orCond_tok`), and the column list of a
GROUP BY (`tokCols`).  This is the rendering the statements `C10_cond_roundtrip`, `C10_where_roundtrip`,
`C10_group_by_list` and `C05_or_of_and` are written in.  The rendering of the WHOLE grammar - the one to
build on - is `tokCond` / `renderStmt` in `RoundtripRender`, with `orCond_tokCond` (`RoundtripCond`) for
every condition the parser can return.
-/
namespace Mkdb.Sql
open Mkdb.Scan Mkdb.Generated

/-- Tokens of a value expression.  `litTok` renders literals; its only required property
is that `Token.Val` reads the literal back (`GoodV`). -/
def tokV (litTok : Lit → Token) : VExpr → List Token
  | .lit l => [litTok l]
  | .col c => if c.qual.isEmpty then [⟨t_IDENT, c.name⟩]
              else [⟨t_IDENT, c.qual⟩, ⟨t_DOT, [46]⟩, ⟨t_IDENT, c.name⟩]

/-- `litTok` renders this value expression's literal (if any) so that `Token.Val` reads it back. -/
def GoodV (litTok : Lit → Token) : VExpr → Prop
  | .lit l => literalTys.contains (litTok l).ty = true ∧ tokenVal (litTok l) = .ok l
  | .col _ => True

/-- a comparison operator between two renderable value expressions -/
def GoodPred (litTok : Lit → Token) (p : Pred) : Prop :=
  compOps.contains p.op = true ∧ GoodV litTok p.lhs ∧ GoodV litTok p.rhs

theorem valueExpression_tok (litTok : Lit → Token) (v : VExpr) (hl : GoodV litTok v) (rest : List Token)
    (hrest : HeadNot [t_DOT] rest) :
    valueExpression (tokV litTok v ++ rest) = .ok v rest := by
  cases v with
  | lit l => exact valueExpression_lit hl.1 hl.2 rest
  | col c =>
    obtain ⟨q, n⟩ := c
    have hid : literalTys.contains t_IDENT = false := by rw [literalTys_eq]; rfl
    cases q with
    | nil =>
      exact miss_ok (headNot_cons hid) (bind_ok (match_ok rfl
        (bind_ok (curIs_dot_headNot rest hrest) rfl)) rfl)
    | cons a t =>
      exact miss_ok (headNot_cons hid) (bind_ok (match_ok rfl
        (bind_ok (curIs_cons _ _ _) (bind_ok (advance_cons _ _) (require_ok rfl rfl)))) rfl)

def tokPred (litTok : Lit → Token) (p : Pred) : List Token :=
  tokV litTok p.lhs ++ [(⟨p.op, []⟩ : Token)] ++ tokV litTok p.rhs

theorem tokV_ne_nil (litTok : Lit → Token) (v : VExpr) : tokV litTok v ≠ [] := by
  cases v with
  | lit l => simp [tokV]
  | col c => simp only [tokV]; split <;> simp

theorem predicate_tok (litTok : Lit → Token) (p : Pred) (hp : GoodPred litTok p)
    (rest : List Token) (hrest : HeadNot [t_DOT] rest) :
    predicate (tokPred litTok p ++ rest) = .ok (.pred p) rest := by
  obtain ⟨hop, hlhs, hrhs⟩ := hp
  have hopNotDot : HeadNot [t_DOT] ((⟨p.op, []⟩ : Token) :: (tokV litTok p.rhs ++ rest)) := by
    show [t_DOT].contains p.op = false
    generalize p.op = x at hop ⊢
    revert hop
    simp only [compOps, List.contains_cons, List.contains_nil, Bool.or_false, Bool.or_eq_true, beq_iff_eq,
      beq_eq_false_iff_ne]
    rintro (h | h | h | h | h | h) <;> subst h <;> decide
  rw [tokPred, List.append_assoc, List.append_assoc]
  exact bind_ok (valueExpression_tok litTok p.lhs hlhs _ hopNotDot) (match_ok hop
    (bind_ok (valueExpression_tok litTok p.rhs hrhs rest hrest) rfl))

/-- `p1 AND p2 AND …` -/
def tokAnd (litTok : Lit → Token) : Pred → List Pred → List Token
  | p, [] => tokPred litTok p
  | p, q :: rest => tokPred litTok p ++ (⟨t_AND, []⟩ : Token) :: tokAnd litTok q rest

/-- the tree `AndCondition` builds: right-nested `BooleanTerm`s -/
def andTree : Pred → List Pred → Cond
  | p, [] => .pred p
  | p, q :: rest => .and p (andTree q rest)

def ValidOps (litTok : Lit → Token) (p : Pred) (ps : List Pred) : Prop :=
  GoodPred litTok p ∧ ∀ q ∈ ps, GoodPred litTok q

theorem andCond_tok (litTok : Lit → Token) (p : Pred) (ps : List Pred)
    (hops : ValidOps litTok p ps) (rest : List Token) (hrest : HeadNot ([t_DOT] ++ [t_AND]) rest)
    (f : Nat) (hf : 2 * ps.length + 2 ≤ f) :
    andCond f (tokAnd litTok p ps ++ rest) = .ok (andTree p ps) rest := by
  obtain ⟨hdot, hand⟩ := headNot_weaken hrest
  induction ps generalizing p f with
  | nil =>
    obtain ⟨f, rfl⟩ := fuel_split hf
    exact bind_ok (predicate_tok litTok p hops.1 rest hdot) (andLoop_miss _ _ _ hand)
  | cons q ps ih =>
    simp only [List.length_cons] at hf
    obtain ⟨f, rfl⟩ : ∃ f3, f = f3 + 3 := ⟨f - 3, by omega⟩
    have hq : ValidOps litTok q ps := ⟨hops.2 q List.mem_cons_self, fun x hx => hops.2 x (List.mem_cons_of_mem _ hx)⟩
    rw [tokAnd, List.append_assoc, List.cons_append]
    refine bind_ok (predicate_tok litTok p hops.1 _ (headNot_cons rfl)) ?_
    rw [andLoop_hit _ _ _ _ rfl]
    exact bind_ok (ih q hq (f + 1) (by omega)) (andLoop_miss _ _ _ hand)

/-- A parenthesis-free condition: groups of predicates joined by AND, groups joined by OR. -/
abbrev Group := Pred × List Pred

def tokOr (litTok : Lit → Token) : Group → List Group → List Token
  | g, [] => tokAnd litTok g.1 g.2
  | g, h :: rest => tokAnd litTok g.1 g.2 ++ (⟨t_OR, []⟩ : Token) :: tokOr litTok h rest

/-- the tree `OrCondition` builds -/
def orTree : Group → List Group → Cond
  | g, [] => andTree g.1 g.2
  | g, h :: rest => .or (andTree g.1 g.2) (orTree h rest)

/-- fuel that is certainly enough for `orCond` on `tokOr g gs` -/
def fuelOr : Group → List Group → Nat
  | g, [] => 2 * g.2.length + 4
  | g, h :: rest => max (2 * g.2.length + 2) (fuelOr h rest + 1) + 1

def ValidGroup (litTok : Lit → Token) (g : Group) : Prop := ValidOps litTok g.1 g.2

theorem orCond_tok (litTok : Lit → Token) (g : Group) (gs : List Group)
    (hops : ValidGroup litTok g ∧ ∀ h ∈ gs, ValidGroup litTok h) (rest : List Token)
    (hrest : HeadNot ([t_DOT] ++ [t_AND]) rest) (hor : HeadNot [t_OR] rest)
    (f : Nat) (hf : fuelOr g gs ≤ f) :
    orCond f (tokOr litTok g gs ++ rest) = .ok (orTree g gs) rest := by
  induction gs generalizing g f with
  | nil =>
    simp only [fuelOr] at hf
    obtain ⟨f, rfl⟩ : ∃ f2, f = f2 + 2 := ⟨f - 2, by omega⟩
    exact bind_ok (andCond_tok litTok g.1 g.2 hops.1 rest hrest (f + 1) (by omega)) (orLoop_miss _ _ _ hor)
  | cons h gs ih =>
    have hfa := Nat.le_trans (Nat.add_le_add_right (Nat.le_max_left _ _) 1) hf
    have hfo := Nat.le_trans (Nat.add_le_add_right (Nat.le_max_right _ _) 1) hf
    clear hf
    have h1 : 1 ≤ fuelOr h gs := by cases gs <;> exact Nat.le_add_left 1 _
    obtain ⟨f, rfl⟩ : ∃ f3, f = f3 + 3 := ⟨f - 3, by omega⟩
    have hh : ValidGroup litTok h ∧ ∀ x ∈ gs, ValidGroup litTok x :=
      ⟨hops.2 h List.mem_cons_self, fun x hx => hops.2 x (List.mem_cons_of_mem _ hx)⟩
    rw [tokOr, List.append_assoc, List.cons_append]
    refine bind_ok (andCond_tok litTok g.1 g.2 hops.1 _ (headNot_cons rfl)
      (f + 2) (by omega)) ?_
    rw [orLoop_hit _ _ _ _ rfl]
    exact bind_ok (ih h hh (f + 1) (by omega)) (orLoop_miss _ _ _ hor)

/-- `c1 , c2 , … , cn` (unqualified columns) -/
def tokCols : List Bytes → List Token
  | [] => []
  | [n] => [⟨t_IDENT, n⟩]
  | n :: m :: rest => ⟨t_IDENT, n⟩ :: ⟨t_COMMA, []⟩ :: tokCols (m :: rest)

end Mkdb.Sql
