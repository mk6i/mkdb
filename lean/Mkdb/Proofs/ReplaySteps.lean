import Mkdb.Proofs.ReplayInsert
import Mkdb.Proofs.ReplayMixedHistory
/-!
One row statement as a step on the catalogue description, and the replay of its log.

`RowStep s pt tbls s1 pt1 tbls1 logs` says what a row statement of the storage layer did to a store `s`
with catalogue description `(pt, tbls)`, in terms of that description only: nothing (`quiet`: a read, an
UPDATE that matches no row), one cell of one leaf of a user table changed and its UPDATE / DELETE record
(`cell`), or a row appended to a user table and its INSERT record, followed by the record of the catalogue
row when the root moved (`ins`).  `RowStep.of_insert`, `.of_update`, `.of_update_absent`, `.of_markDeleted`
say that the four statements are such steps; `LiveRunM.induct` is induction along a live run step by step,
`LiveRunM.keeps` its everyday form: an invariant that every step keeps holds at the end.

`Behind sch s r pt tbls`: the store `r` a log is replayed on has the catalogue description of the live
store `s` and is not ahead of it.  One lemma per kind of step (`Behind.quiet`, `.cell`, `.ins`) says that
replaying the log of the step on `r` keeps `r` behind; `replay_run` is the induction: **replaying the log
of a live run on a store that is behind its start ends behind its end.**
-/
set_option autoImplicit false
namespace Mkdb.Store
open Mkdb.Page Mkdb.Tuple Mkdb.Generated Mkdb.Tree Mkdb.Engine

/-! ### a step -/

/-- The page table and the log after `buf` was appended to the tree `t` of `table` (now `t'`), as
`insert_refines'` gives them: the row's INSERT record; when the root moved, the catalogue row `a` (in
the leaf `p` of the page table) is rewritten one LSN later and its UPDATE record follows. -/
def RootCase (s s' : Store) (pt ptF : Levels) (table : Bytes) (t t' : Levels) (buf : Bytes)
    (logs : List WalRec) : Prop :=
  (rootOff t' = rootOff t ∧ ptF = pt ∧ s'.hdr.nextLSN = s.hdr.nextLSN + 1 ∧
      logs = [⟨c_OpInsert, s.hdr.nextLSN, rootOff t, s.hdr.lastKey + 1, buf⟩]) ∨
  (rootOff t' ≠ rootOff t ∧ s'.hdr.nextLSN = s.hdr.nextLSN + 2 ∧
    ∃ a p, a ∈ live pt ∧ ptEntry a = some (table, rootOff t) ∧ p ∈ pt.leaves ∧ a ∈ p.1.cells ∧
      ptF = setVal pt a.key (s.hdr.nextLSN + 1) (ptRow table (rootOff t')) ∧
      logs = [⟨c_OpInsert, s.hdr.nextLSN, rootOff t, s.hdr.lastKey + 1, buf⟩,
              ⟨c_OpUpdate, s.hdr.nextLSN + 1, p.1.off, a.key, ptRow table (rootOff t')⟩])

section
variable {s s' : Store} {pt ptF : Levels} {table : Bytes} {t t' : Levels} {buf : Bytes} {logs : List WalRec}

theorem RootCase.lsn_lt (h : RootCase s s' pt ptF table t t' buf logs) : s.hdr.nextLSN < s'.hdr.nextLSN := by
  rcases h with ⟨_, _, h2, _⟩ | ⟨_, h2, _⟩ <;> rw [h2] <;> exact Nat.lt_add_of_pos_right (by decide)

theorem RootCase.offs (h : RootCase s s' pt ptF table t t' buf logs) : offs ptF = offs pt := by
  rcases h with ⟨_, rfl, _⟩ | ⟨_, _, a, p, _, _, _, _, rfl, _⟩
  · rfl
  · exact offs_setVal _ _ _ _

end

/-- what a row statement did to a store with catalogue description `(pt, tbls)`.  (`hdel` of `cell`: a DELETE
record carries no value.  The replay does not read it; it is used where the records themselves are described:
`LiveRunM.recs_in` (value lengths), `live_run_hist_gen` (`StepKind.cell`: the record of `StepKind.del`).) -/
inductive RowStep (s : Store) (pt : Levels) (tbls : List (Bytes × Levels)) :
    Store → Levels → List (Bytes × Levels) → List WalRec → Prop
  | quiet {s1 : Store} (hs : Same s s1) : RowStep s pt tbls s1 pt tbls []
  | cell {s1 : Store} (table : Bytes) (t : Levels) (l : Leaf) (d : Bool) (r : WalRec) (f : LeafCell → LeafCell)
      (ht : (table, t) ∈ tbls) (hm : (l, d) ∈ t.leaves) (hr : RedoLink.CellRec r f) (hpage : r.page = l.off)
      (hany : l.cells.any (fun c => c.key == r.cell) = true) (hrl : r.lsn = s.hdr.nextLSN)
      (hlsn : s1.hdr.nextLSN = s.hdr.nextLSN + 1) (hlk : s1.hdr.lastKey = s.hdr.lastKey)
      (hnf : s1.hdr.nextFree = s.hdr.nextFree) (hdel : r.op = c_OpDelete → r.val = []) :
      RowStep s pt tbls s1 pt (setTable tbls table (updLeaves f r.cell r.lsn t)) [r]
  | ins {s1 : Store} {ptF : Levels} {logs : List WalRec} (table : Bytes) (t t' : Levels) (nf' : Nat) (buf : Bytes)
      (ht : (table, t) ∈ tbls) (hlen : buf.length ≤ c_maxValueSize)
      (hins : insertAppend t (s.hdr.lastKey + 1) s.hdr.nextLSN buf s.hdr.nextFree = .ok (t', nf'))
      (hd' : t'.inner.length + 2 ≤ treeFuel) (hl' : t'.leaves.length ≤ scanFuel)
      (hbig : (nf' : Int) ≤ 9223372036854775807)
      (hlk : s1.hdr.lastKey = s.hdr.lastKey + 1) (hnf : s1.hdr.nextFree = nf')
      (hroot : RootCase s s1 pt ptF table t t' buf logs)
      (hent : ptEntries ptF = (ptEntries pt).map (repoint table (rootOff t'))) :
      RowStep s pt tbls s1 ptF (setTable tbls table t') logs

section
variable {sch : Levels} {s s1 : Store} {pt pt1 : Levels} {tbls tbls1 : List (Bytes × Levels)} {l1 : List WalRec}

/-! ### the four statements are steps -/

theorem RowStep.of_insert (h : Cat s pt sch tbls)
    {table : Bytes} {cols : List String} {vals : List Val} {t : Levels} {schema : List FieldDef} {buf : Bytes}
    {t' : Levels} {nf' : Nat} (ht : (table, t) ∈ tbls) (hsch : schemaOf sch table = some schema)
    (hcols : (colsOf schema cols).length = vals.length)
    (hnames : checkColumns schema (colsOf schema cols) = none)
    (henc : encodeTuple schema ((colsOf schema cols).zip vals).reverse = .ok buf)
    (hlen : buf.length ≤ c_maxValueSize)
    (hins : insertAppend t (s.hdr.lastKey + 1) s.hdr.nextLSN buf s.hdr.nextFree = .ok (t', nf'))
    (hd' : t'.inner.length + 2 ≤ treeFuel) (hl' : t'.leaves.length ≤ scanFuel)
    (hbig : (nf' : Int) ≤ 9223372036854775807)
    (hrun : insert table cols vals s = .ok l1 s1) :
    ∃ ptF, Cat s1 ptF sch (setTable tbls table t') ∧ RowStep s pt tbls s1 ptF (setTable tbls table t') l1 := by
  obtain ⟨s', ptF, logs', erun, hc', hlk', hnf', hcase, hent⟩ := insert_refines' s pt sch tbls h table t ht cols vals
    schema buf hsch hcols hnames henc hlen t' nf' hins hd' hl' hbig
  obtain ⟨rfl, rfl⟩ := SRes.ok.inj (hrun.symm.trans erun)
  exact ⟨ptF, hc', .ins table t t' nf' buf ht hlen hins hd' hl' hbig hlk' hnf' hcase hent⟩

theorem RowStep.of_update (h : Cat s pt sch tbls)
    {table : Bytes} {rowId : Nat} {cols : List String} {src : List Val} {t : Levels} {schema : List FieldDef}
    {c : LeafCell} {m : Vals} {buf : Bytes}
    (ht : (table, t) ∈ tbls) (hsch : schemaOf sch table = some schema) (hc : c ∈ live t) (hk : c.key = rowId)
    (hdec : decodeTuple schema c.val [] = .ok m)
    (henc : encodeTuple schema ((cols.zip src).reverse ++ m) = .ok buf) (hlen : buf.length ≤ c_maxValueSize)
    (hrun : update table rowId cols src s = .ok l1 s1) :
    Cat s1 pt sch (setTable tbls table (setVal t rowId s.hdr.nextLSN buf)) ∧
      RowStep s pt tbls s1 pt (setTable tbls table (setVal t rowId s.hdr.nextLSN buf)) l1 ∧
      ∃ page, l1 = [⟨c_OpUpdate, s.hdr.nextLSN, page, rowId, buf⟩] := by
  obtain ⟨s', l, d, hm, hcl, erun, hc', hlsn', hlk', _, hnf', _⟩ := update_cat h table t ht schema hsch rowId
    cols src (update_ok_names h ht hsch hrun) c hc hk m buf hdec henc hlen
  obtain ⟨rfl, rfl⟩ := SRes.ok.inj (hrun.symm.trans erun)
  refine ⟨hc', ?_, _, rfl⟩
  rw [setVal_eq]
  exact .cell table t l d ⟨c_OpUpdate, s.hdr.nextLSN, l.off, rowId, buf⟩ _ ht hm (.inl ⟨rfl, hlen, rfl⟩) rfl
    (List.any_eq_true.mpr ⟨c, hcl, beq_iff_eq.mpr hk⟩) rfl hlsn' hlk' hnf'
    (fun h => absurd h (show ¬ c_OpUpdate = c_OpDelete by decide))

theorem RowStep.of_update_absent (h : Cat s pt sch tbls)
    {table : Bytes} {rowId : Nat} {cols : List String} {src : List Val} {t : Levels} {schema : List FieldDef}
    (ht : (table, t) ∈ tbls) (hsch : schemaOf sch table = some schema)
    (habs : ∀ c ∈ live t, c.key ≠ rowId) (hrun : update table rowId cols src s = .ok l1 s1) :
    Cat s1 pt sch tbls ∧ RowStep s pt tbls s1 pt tbls l1 ∧ l1 = [] := by
  obtain ⟨s', erun, hs, hc'⟩ := update_cat_absent h table t ht schema hsch rowId cols src
    (update_ok_names h ht hsch hrun) habs
  obtain ⟨rfl, rfl⟩ := SRes.ok.inj (hrun.symm.trans erun)
  exact ⟨hc', .quiet hs, rfl⟩

theorem RowStep.of_markDeleted (h : Cat s pt sch tbls)
    {table : Bytes} {rowId : Nat} {t : Levels} {c : LeafCell}
    (ht : (table, t) ∈ tbls) (hc : c ∈ live t) (hk : c.key = rowId)
    (hrun : markDeleted table rowId s = .ok l1 s1) :
    Cat s1 pt sch (setTable tbls table (setDeleted t rowId s.hdr.nextLSN)) ∧
      RowStep s pt tbls s1 pt (setTable tbls table (setDeleted t rowId s.hdr.nextLSN)) l1 ∧
      ∃ page, l1 = [⟨c_OpDelete, s.hdr.nextLSN, page, rowId, []⟩] := by
  obtain ⟨s', l, d, hm, hcl, erun, hc', hlsn', hlk', _, hnf', _⟩ := markDeleted_cat h table t ht rowId c hc hk
  obtain ⟨rfl, rfl⟩ := SRes.ok.inj (hrun.symm.trans erun)
  refine ⟨hc', ?_, _, rfl⟩
  rw [setDeleted_eq]
  exact .cell table t l d ⟨c_OpDelete, s.hdr.nextLSN, l.off, rowId, []⟩ _ ht hm (.inr ⟨rfl, rfl⟩) rfl
    (List.any_eq_true.mpr ⟨c, hcl, beq_iff_eq.mpr hk⟩) rfl hlsn' hlk' hnf' (fun _ => rfl)

/-! ### what every step does to the counters -/

theorem RowStep.nextFree_le (st : RowStep s pt tbls s1 pt1 tbls1 l1) : s.hdr.nextFree ≤ s1.hdr.nextFree := by
  cases st with
  | quiet hs => rw [hs.2]; exact Nat.le_refl _
  | cell table t l d r f ht hm hr hpage hany hrl hlsn hlk hnf => rw [hnf]; exact Nat.le_refl _
  | ins table t t' nf' buf ht hlen hins hd' hl' hbig hlk hnf hroot hent =>
    rw [hnf]; exact insertAppend_nextFree t t' _ _ _ nf' buf hins

theorem RowStep.lastKey_le (st : RowStep s pt tbls s1 pt1 tbls1 l1) : s.hdr.lastKey ≤ s1.hdr.lastKey := by
  cases st with
  | quiet hs => rw [hs.2]; exact Nat.le_refl _
  | cell table t l d r f ht hm hr hpage hany hrl hlsn hlk hnf => rw [hlk]; exact Nat.le_refl _
  | ins table t t' nf' buf ht hlen hins hd' hl' hbig hlk hnf hroot hent => rw [hlk]; exact Nat.le_succ _

theorem RowStep.nextLSN_le (st : RowStep s pt tbls s1 pt1 tbls1 l1) : s.hdr.nextLSN ≤ s1.hdr.nextLSN := by
  cases st with
  | quiet hs => rw [hs.2]; exact Nat.le_refl _
  | cell table t l d r f ht hm hr hpage hany hrl hlsn hlk hnf => rw [hlsn]; exact Nat.le_succ _
  | ins table t t' nf' buf ht hlen hins hd' hl' hbig hlk hnf hroot hent => exact Nat.le_of_lt hroot.lsn_lt

theorem RowStep.lsn_logged (st : RowStep s pt tbls s1 pt1 tbls1 l1) :
    s1.hdr.nextLSN = s.hdr.nextLSN ∨ ∃ r ∈ l1, s1.hdr.nextLSN = r.lsn + 1 := by
  cases st with
  | quiet hs => exact .inl (by rw [hs.2])
  | cell table t l d r f ht hm hr hpage hany hrl hlsn hlk hnf =>
    exact .inr ⟨r, List.mem_singleton.mpr rfl, by rw [hlsn, hrl]⟩
  | ins table t t' nf' buf ht hlen hins hd' hl' hbig hlk hnf hroot hent =>
    rcases hroot with ⟨_, _, h2, rfl⟩ | ⟨_, h2, _, _, _, _, _, _, _, rfl⟩
    · exact .inr ⟨_, List.mem_singleton.mpr rfl, h2⟩
    · exact .inr ⟨_, List.mem_cons_of_mem _ (List.mem_singleton.mpr rfl), h2⟩

theorem RowStep.keys (st : RowStep s pt tbls s1 pt1 tbls1 l1) :
    ∀ r ∈ l1, r.op = c_OpInsert → r.cell ≤ s1.hdr.lastKey := by
  cases st with
  | quiet hs => exact fun _ h => nomatch h
  | cell table t l d r f ht hm hr hpage hany hrl hlsn hlk hnf =>
    refine List.forall_mem_singleton.mpr fun hop => ?_
    rcases hr with ⟨h, _⟩ | ⟨h, _⟩ <;> rw [h] at hop <;> exact absurd hop (by decide)
  | ins table t t' nf' buf ht hlen hins hd' hl' hbig hlk hnf hroot hent =>
    rw [hlk]
    rcases hroot with ⟨_, _, _, rfl⟩ | ⟨_, _, a, p, _, _, _, _, _, rfl⟩
    · exact List.forall_mem_singleton.mpr fun _ => Nat.le_refl _
    · exact List.forall_mem_cons.mpr ⟨fun _ => Nat.le_refl _,
        List.forall_mem_singleton.mpr fun hop => absurd hop (show ¬ c_OpUpdate = c_OpInsert by decide)⟩

theorem RowStep.freshM (st : RowStep s pt tbls s1 pt1 tbls1 l1) (hf : FreshM s tbls) : FreshM s1 tbls1 := by
  cases st with
  | quiet hs => exact hf.of_hdr (by rw [hs.2]; exact Nat.le_refl _) (by rw [hs.2]; exact Nat.le_refl _)
  | cell table t l d r f ht hm hr hpage hany hrl hlsn hlk hnf =>
    rw [hrl]
    exact hf.upd_step ht f r.cell (by rw [hlsn]; exact Nat.lt_succ_self _) hnf
  | ins table t t' nf' buf ht hlen hins hd' hl' hbig hlk hnf hroot hent =>
    exact hf.ins_step ht hins hroot.lsn_lt hnf

/-- a root move re-points the row of a user table; the row of `sys_pages` stays where it is -/
theorem RowStep.ptSelf (st : RowStep s pt tbls s1 pt1 tbls1 l1) (h : Cat s pt sch tbls) (hs : PtSelf pt) :
    PtSelf pt1 := by
  cases st with
  | quiet hs' => exact hs
  | cell table t l d r f ht hm hr hpage hany hrl hlsn hlk hnf => exact hs
  | ins table t t' nf' buf ht hlen hins hd' hl' hbig hlk hnf hroot hent =>
    exact hs.repoint hent (fun he => h.tsys.1 (he ▸ List.mem_map.mpr ⟨(table, t), ht, rfl⟩)) hroot.offs

end

/-! ### induction along a live run, step by step -/

/-- The place where the catalogue description is threaded through the constructors of `LiveRunM` (proofs that need no
`Cat` - `LiveRunM.append`, `.split`, `.names`, `.logged` - are plain inductions).  `x` is the statement of the step
(none for a read); the fourth premise of `step` puts it back in front of a run; only an INSERT statement writes
an INSERT record. -/
theorem LiveRunM.induct {sch : Levels} {sN : Store} {tblsN : List (Bytes × Levels)}
    {motive : Store → Levels → List (Bytes × Levels) → List RStmt → List WalRec → Prop}
    (nil : ∀ pt, Cat sN pt sch tblsN → motive sN pt tblsN [] [])
    (step : ∀ {s pt tbls s1 pt1 tbls1 x rest l1 l2}, Cat s pt sch tbls → RowStep s pt tbls s1 pt1 tbls1 l1 →
      Cat s1 pt1 sch tbls1 →
      (∀ {st' sK tblsK lK}, LiveRunM sch s1 tbls1 st' sK tblsK lK →
        LiveRunM sch s tbls (x ++ st') sK tblsK (l1 ++ lK)) →
      (∀ r ∈ l1, r.op = c_OpInsert → ∃ table cols vals, x = [.ins table cols vals]) →
      LiveRunM sch s1 tbls1 rest sN tblsN l2 →
      motive s1 pt1 tbls1 rest l2 → motive s pt tbls (x ++ rest) (l1 ++ l2))
    {s0 : Store} {tbls0 : List (Bytes × Levels)} {stmts : List RStmt} {logs : List WalRec}
    (run : LiveRunM sch s0 tbls0 stmts sN tblsN logs) :
    ∀ pt, Cat s0 pt sch tbls0 → motive s0 pt tbls0 stmts logs := by
  induction run with
  | nil s tbls => exact nil
  | @same s s1 s2 tbls tbls2 stmts logs hs hrest ih =>
    intro pt h
    exact step (x := []) (l1 := []) h (.quiet hs) (h.of_same hs) (fun r => .same hs r) (fun _ h => nomatch h) hrest
      (ih nil step pt (h.of_same hs))
  | @ins s s1 s2 tbls tbls2 rest logs logs2 table cols vals t schema buf t' nf' ht hsch hcols hnames henc hlen hins
      hd' hl' hbig hrun hrest ih =>
    intro pt h
    obtain ⟨ptF, hc', st⟩ := RowStep.of_insert h ht hsch hcols hnames henc hlen hins hd' hl' hbig hrun
    exact step (x := [.ins table cols vals]) h st hc'
      (fun r => .ins table cols vals t schema buf t' nf' ht hsch hcols hnames henc hlen hins hd' hl' hbig hrun r)
      (fun _ _ _ => ⟨table, cols, vals, rfl⟩) hrest (ih nil step ptF hc')
  | @upd s s1 s2 tbls tbls2 rest logs logs2 table rowId cols src t schema c m buf ht hsch hc hk hdec henc hlen
      hrun hrest ih =>
    intro pt h
    obtain ⟨hc', st, _, rfl⟩ := RowStep.of_update h ht hsch hc hk hdec henc hlen hrun
    exact step (x := [.upd table rowId cols src]) h st hc'
      (fun r => .upd table rowId cols src t schema c m buf ht hsch hc hk hdec henc hlen hrun r)
      (List.forall_mem_singleton.mpr fun hop => absurd hop (show ¬ c_OpUpdate = c_OpInsert by decide)) hrest
      (ih nil step pt hc')
  | @updAbsent s s1 s2 tbls tbls2 rest logs logs2 table rowId cols src t schema ht hsch habs hrun hrest ih =>
    intro pt h
    obtain ⟨hc', st, rfl⟩ := RowStep.of_update_absent h ht hsch habs hrun
    exact step (x := [.upd table rowId cols src]) h st hc'
      (fun r => .updAbsent table rowId cols src t schema ht hsch habs hrun r) (fun _ h => nomatch h) hrest
      (ih nil step pt hc')
  | @del s s1 s2 tbls tbls2 rest logs logs2 table rowId t c ht hc hk hrun hrest ih =>
    intro pt h
    obtain ⟨hc', st, _, rfl⟩ := RowStep.of_markDeleted h ht hc hk hrun
    exact step (x := [.del table rowId]) h st hc' (fun r => .del table rowId t c ht hc hk hrun r)
      (List.forall_mem_singleton.mpr fun hop => absurd hop (show ¬ c_OpDelete = c_OpInsert by decide)) hrest
      (ih nil step pt hc')

theorem LiveRunM.keeps {sch : Levels} {J : Store → Levels → List (Bytes × Levels) → List WalRec → Prop}
    (hstep : ∀ {s pt tbls s1 pt1 tbls1 l1 old}, Cat s pt sch tbls → RowStep s pt tbls s1 pt1 tbls1 l1 →
      Cat s1 pt1 sch tbls1 → J s pt tbls old → J s1 pt1 tbls1 (old ++ l1))
    {s0 sN : Store} {tbls tblsN : List (Bytes × Levels)} {stmts : List RStmt} {logs : List WalRec}
    (run : LiveRunM sch s0 tbls stmts sN tblsN logs) {pt : Levels} (h : Cat s0 pt sch tbls) {old : List WalRec}
    (hJ : J s0 pt tbls old) : ∃ ptN, Cat sN ptN sch tblsN ∧ J sN ptN tblsN (old ++ logs) := by
  refine run.induct (motive := fun s pt tbls _ logs => ∀ old, J s pt tbls old →
    ∃ ptN, Cat sN ptN sch tblsN ∧ J sN ptN tblsN (old ++ logs)) ?_ ?_ pt h old hJ
  · intro pt h old hJ
    exact ⟨pt, h, by rw [List.append_nil]; exact hJ⟩
  · intro s pt tbls s1 pt1 tbls1 x rest l1 l2 h st hc1 _ _ _ ih old hJ
    obtain ⟨ptN, c, a⟩ := ih (old ++ l1) (hstep h st hc1 hJ)
    exact ⟨ptN, c, by rw [← List.append_assoc]; exact a⟩

/-! ### the store the log is replayed on -/

/-- The store `r` a log is replayed on, against the live store `s` that wrote it: `r` satisfies the
catalogue description of `s` (so both show the same trees, page for page), has the same allocation
frontier, and its row-id and LSN counters are not ahead (`r = s`: redo on the state before the
statements; a re-opened data file: crash after a checkpoint; counters behind: the live ones advanced
without a log record, `Drift` of `ReplayHistories`).  Replaying the log of each further statement of `s` keeps `r`
behind; who needs the row-id counters equal says so beside `Behind`, and `replay_run` hands the equation on. -/
structure Behind (sch : Levels) (s r : Store) (pt : Levels) (tbls : List (Bytes × Levels)) : Prop where
  live : Cat s pt sch tbls
  redo : Cat r pt sch tbls
  self : PtSelf pt
  nf : r.hdr.nextFree = s.hdr.nextFree
  lk : r.hdr.lastKey ≤ s.hdr.lastKey
  lsn : r.hdr.nextLSN ≤ s.hdr.nextLSN

section
variable {sch : Levels} {s s1 r : Store} {pt : Levels} {tbls : List (Bytes × Levels)}

/-- the live store moved on without logging: same description and frontier, counters not lower -/
theorem Behind.ahead (hb : Behind sch s r pt tbls) (hc : Cat s1 pt sch tbls)
    (hnf : s1.hdr.nextFree = s.hdr.nextFree) (hlk : s.hdr.lastKey ≤ s1.hdr.lastKey)
    (hlsn : s.hdr.nextLSN ≤ s1.hdr.nextLSN) : Behind sch s1 r pt tbls :=
  ⟨hc, hb.redo, hb.self, by rw [hnf]; exact hb.nf, Nat.le_trans hb.lk hlk, Nat.le_trans hb.lsn hlsn⟩

theorem Behind.quiet (hb : Behind sch s r pt tbls) (hs : Same s s1) : Behind sch s1 r pt tbls :=
  hb.ahead (hb.live.of_same hs) (by rw [hs.2]) (by rw [hs.2]; exact Nat.le_refl _)
    (by rw [hs.2]; exact Nat.le_refl _)

/-- **Replay of the record of a cell change** (UPDATE or DELETE) on a store that is behind; the leaf the
record names is older than the record -/
theorem Behind.cell (hb : Behind sch s r pt tbls) {table : Bytes} {t : Levels} {l : Leaf} {d : Bool}
    {rec : WalRec} {f : LeafCell → LeafCell} (ht : (table, t) ∈ tbls) (hm : (l, d) ∈ t.leaves)
    (hr : RedoLink.CellRec rec f) (hpage : rec.page = l.off)
    (hany : l.cells.any (fun c => c.key == rec.cell) = true)
    (hrl : rec.lsn = s.hdr.nextLSN) (hlsn : s1.hdr.nextLSN = s.hdr.nextLSN + 1)
    (hlk : s1.hdr.lastKey = s.hdr.lastKey) (hnf : s1.hdr.nextFree = s.hdr.nextFree)
    (hc1 : Cat s1 pt sch (setTable tbls table (updLeaves f rec.cell rec.lsn t)))
    (hold : l.lsn < s.hdr.nextLSN) :
    ∃ r1, replayAll [rec] r = (r1, none, false) ∧
      Behind sch s1 r1 pt (setTable tbls table (updLeaves f rec.cell rec.lsn t)) ∧
      r1.hdr.lastKey = r.hdr.lastKey ∧ r1.hdr.nextLSN + 1 = s1.hdr.nextLSN := by
  obtain ⟨r1, e, hcr, hh, _⟩ := replay_cell_record r pt sch tbls hb.redo table t ht l d hm rec f hr hpage hany
    (hrl ▸ hold)
  have hl1 : r1.hdr.nextLSN = s.hdr.nextLSN := by
    rw [hh, hrl]; exact Nat.max_eq_right hb.lsn
  exact ⟨r1, by rw [replayAll_cons_ok' e]; rfl,
    ⟨hc1, hcr, hb.self, by rw [hh, hnf]; exact hb.nf, by rw [hh, hlk]; exact hb.lk,
      by rw [hl1, hlsn]; exact Nat.le_succ _⟩,
    by rw [hh], by rw [hl1, hlsn]⟩

/-- **Replay of the log of one insert, and of its first record alone**, on a store that is behind; the
root page the INSERT record names is older than the record and not at offset 0.  The replay succeeds
and stays behind the live post-state `s1`: same page table, same trees; frontier and row-id counter
agree, the replayed LSN counter is one short (recovery adds the final bump itself).  When the root moved,
redo of the INSERT record repoints the page table itself, stamping the leaf with the record's LSN; the
catalogue record stamps it once more (`replay_catalog_record`).  So after the first of the two records the
row is completely in the tree and the replayed page table `ptM` is the live one up to that stamp
(`PtRestamp`). -/
theorem Behind.ins {ptF : Levels} {logs : List WalRec} (hb : Behind sch s r pt tbls) {table : Bytes}
    {t t' : Levels} {nf' : Nat} {buf : Bytes} (ht : (table, t) ∈ tbls)
    (hins : insertAppend t (s.hdr.lastKey + 1) s.hdr.nextLSN buf s.hdr.nextFree = .ok (t', nf'))
    (hd' : t'.inner.length + 2 ≤ treeFuel) (hl' : t'.leaves.length ≤ scanFuel)
    (hbig : (nf' : Int) ≤ 9223372036854775807)
    (hlk : s1.hdr.lastKey = s.hdr.lastKey + 1) (hnf : s1.hdr.nextFree = nf')
    (hcase : RootCase s s1 pt ptF table t t' buf logs)
    (hent : ptEntries ptF = (ptEntries pt).map (repoint table (rootOff t')))
    (hc1 : Cat s1 ptF sch (setTable tbls table t'))
    (hold : rootLSN t < s.hdr.nextLSN) (hpos : 0 < rootOff t) :
    ∃ r', replayAll logs r = (r', none, false) ∧ Behind sch s1 r' ptF (setTable tbls table t') ∧
      r'.hdr.lastKey = s1.hdr.lastKey ∧ r'.hdr.nextLSN + 1 = s1.hdr.nextLSN ∧
      (logs.length = 1 ∨ logs.length = 2 ∧
        ∃ r1 ptM, replayAll (logs.take 1) r = (r1, none, false) ∧
          Cat r1 ptM sch (setTable tbls table t') ∧ PtRestamp ptM ptF ∧
          r1.hdr.nextFree = s1.hdr.nextFree ∧ r1.hdr.lastKey = s1.hdr.lastKey ∧
          r1.hdr.nextLSN ≤ s1.hdr.nextLSN) := by
  have h := hb.live
  obtain ⟨r1, ptF1, hrun1, hcr1, _, hnf1, hlk1, hlsn1, _, _, hcase1, _⟩ :=
    replay_insert_record r pt sch tbls hb.redo hb.self table t ht (s.hdr.lastKey + 1) s.hdr.nextLSN buf hold hpos
      t' nf' (by rw [hb.nf]; exact hins) hd' hl' hbig
  have hselfF : PtSelf ptF :=
    hb.self.repoint hent (fun he => h.tsys.1 (he ▸ List.mem_map.mpr ⟨(table, t), ht, rfl⟩)) hcase.offs
  have hnf1' : r1.hdr.nextFree = s1.hdr.nextFree := by rw [hnf1, hnf]
  have hlk1' : r1.hdr.lastKey = s1.hdr.lastKey := by
    rw [hlk1, hlk]; exact Nat.max_eq_right (Nat.le_succ_of_le hb.lk)
  have hlsn1' : r1.hdr.nextLSN = s.hdr.nextLSN := by rw [hlsn1]; exact Nat.max_eq_right hb.lsn
  -- live insert and redo ran the same `insertAppend`: the root moved for both or for neither
  rcases hcase with ⟨hmove, rfl, hlsn', rfl⟩ | ⟨hmove, hlsn', a, p, hal, hpa, hp, hap, rfl, rfl⟩
  · obtain ⟨_, rfl⟩ := hcase1.resolve_right fun h1 => h1.1 hmove
    exact ⟨r1, by rw [replayAll_cons_ok' hrun1]; rfl,
      ⟨hc1, hcr1, hselfF, hnf1', Nat.le_of_eq hlk1', by rw [hlsn1', hlsn']; exact Nat.le_succ _⟩,
      hlk1', by rw [hlsn1', hlsn'], .inl rfl⟩
  · obtain ⟨_, a1, _, hal1, hpa1, _, _, rfl⟩ := hcase1.resolve_left fun h1 => hmove h1.1
    obtain rfl : a1 = a := row_unique pt h.names a1 a hal1 hal table _ _ hpa1 hpa
    -- the catalogue record: an UPDATE of the row `a1` in the leaf `p`, which the redo of the INSERT record has stamped
    obtain ⟨r2, hrun2, hc2, hh2⟩ := replay_catalog_record hcr1 hp (List.any_eq_true.mpr ⟨a1, hap, by simp⟩)
      (by rw [ptRow_length]; exact h.tlen (table, t) ht) (Nat.lt_succ_self s.hdr.nextLSN)
    have hl2 : r2.hdr.nextLSN + 1 = s1.hdr.nextLSN := by
      rw [hh2, hlsn']
      show max r1.hdr.nextLSN (s.hdr.nextLSN + 1) + 1 = _
      rw [hlsn1', Nat.max_eq_right (Nat.le_succ _)]
    -- both records: behind `s1`; the first record alone: `r1`, whose page table is the live one up to the stamp
    exact ⟨r2, by rw [replayAll_cons_ok' hrun1, replayAll_cons_ok' hrun2]; rfl,
      ⟨hc1, hc2, hselfF, by rw [hh2]; exact hnf1', by rw [hh2]; exact Nat.le_of_eq hlk1',
        by rw [← hl2]; exact Nat.le_succ _⟩,
      by rw [hh2]; exact hlk1', hl2,
      .inr ⟨rfl, r1, _, by show replayAll [_] r = _; rw [replayAll_cons_ok' hrun1]; rfl, hcr1,
        PtRestamp.setVal pt a1.key _ _ _, hnf1', hlk1', by rw [hlsn1', hlsn']; exact Nat.le_add_right _ _⟩⟩

end

/-! ### the replay of a run -/

/-- Replaying the log of a step on a store that is behind keeps it behind.  The replayed row-id counter
catches up at an insert; the replayed LSN counter is one short of the live one after any record; a cut
inside the log of a step is the cut between the two records of an insert that moved the root. -/
theorem RowStep.replay {sch : Levels} {s s1 r : Store} {pt pt1 : Levels} {tbls tbls1 : List (Bytes × Levels)}
    {l1 : List WalRec} (st : RowStep s pt tbls s1 pt1 tbls1 l1) (hc1 : Cat s1 pt1 sch tbls1)
    (hb : Behind sch s r pt tbls) (hf : FreshM s tbls) :
    ∃ r1, replayAll l1 r = (r1, none, false) ∧ Behind sch s1 r1 pt1 tbls1 ∧
      (r.hdr.lastKey = s.hdr.lastKey → r1.hdr.lastKey = s1.hdr.lastKey) ∧
      (l1 = [] ∧ r1 = r ∧ s1.hdr = s.hdr ∧ tbls1 = tbls ∨ r1.hdr.nextLSN + 1 = s1.hdr.nextLSN) ∧
      (l1.length ≤ 1 ∨ l1.length = 2 ∧
        ∃ rM ptM, replayAll (l1.take 1) r = (rM, none, false) ∧ Cat rM ptM sch tbls1 ∧ PtRestamp ptM pt1 ∧
          rM.hdr.nextFree = s1.hdr.nextFree ∧ rM.hdr.lastKey = s1.hdr.lastKey ∧
          rM.hdr.nextLSN ≤ s1.hdr.nextLSN) := by
  cases st with
  | quiet hs =>
    exact ⟨r, rfl, hb.quiet hs, fun e => by rw [hs.2]; exact e, .inl ⟨rfl, rfl, hs.2, rfl⟩, .inl (Nat.zero_le _)⟩
  | cell table t l d rec f ht hm hr hpage hany hrl hlsn hlk hnf =>
    obtain ⟨r1, e, hb1, a1, a2⟩ := hb.cell ht hm hr hpage hany hrl hlsn hlk hnf hc1 (hf.leaf ht hm)
    exact ⟨r1, e, hb1, fun e => by rw [a1, hlk]; exact e, .inr a2, .inl (Nat.le_refl _)⟩
  | ins table t t' nf' buf ht hlen hins hd' hl' hbig hlk hnf hroot hent =>
    obtain ⟨_, hIt, _, _, _⟩ := hb.live.tree t (Cat.tb_mem ht)
    obtain ⟨r1, e, hb1, a1, a2, a3⟩ := hb.ins ht hins hd' hl' hbig hlk hnf hroot hent hc1 (hf.root ht hIt)
      (hf.pos _ ht _ (rootOff_mem_offs t _ hIt))
    exact ⟨r1, e, hb1, fun _ => a1, .inr a2, a3.imp Nat.le_of_eq id⟩

/-- **Crash with nothing flushed since the checkpoint.**  The log of a live run from `s0`, replayed on a
store `r0` that is behind `s0`, ends in a store that is behind the live final store: the same catalogue
description - the same page table and trees, page for page -, the same allocation frontier, counters not
ahead.  The row-id counters agree if they did at the start; the replayed LSN counter is one short of the
live one unless nothing was logged. -/
theorem replay_run (sch : Levels) {s0 sN : Store} {tbls tblsN : List (Bytes × Levels)}
    {stmts : List RStmt} {logs : List WalRec} (run : LiveRunM sch s0 tbls stmts sN tblsN logs)
    {pt : Levels} {r0 : Store} (hb : Behind sch s0 r0 pt tbls) (hf : FreshM s0 tbls) :
    ∃ ptN rN, replayAll logs r0 = (rN, none, false) ∧ Behind sch sN rN ptN tblsN ∧ FreshM sN tblsN ∧
      (r0.hdr.lastKey = s0.hdr.lastKey → rN.hdr.lastKey = sN.hdr.lastKey) ∧
      (logs = [] ∧ rN = r0 ∧ sN.hdr = s0.hdr ∧ tblsN = tbls ∨ rN.hdr.nextLSN + 1 = sN.hdr.nextLSN) := by
  refine run.induct (motive := fun s pt tbls _ logs => ∀ r0, Behind sch s r0 pt tbls → FreshM s tbls →
    ∃ ptN rN, replayAll logs r0 = (rN, none, false) ∧ Behind sch sN rN ptN tblsN ∧ FreshM sN tblsN ∧
      (r0.hdr.lastKey = s.hdr.lastKey → rN.hdr.lastKey = sN.hdr.lastKey) ∧
      (logs = [] ∧ rN = r0 ∧ sN.hdr = s.hdr ∧ tblsN = tbls ∨ rN.hdr.nextLSN + 1 = sN.hdr.nextLSN))
    ?_ ?_ pt hb.live r0 hb hf
  · intro pt _ r0 hb hf
    exact ⟨pt, r0, rfl, hb, hf, id, .inl ⟨rfl, rfl, rfl, rfl⟩⟩
  · intro s pt tbls s1 pt1 tbls1 x rest l1 l2 _ st hc1 _ _ _ ih r0 hb hf
    obtain ⟨r1, e1, hb1, k1, n1, _⟩ := st.replay hc1 hb hf
    obtain ⟨ptN, rN, e, hbN, hfN, k, n⟩ := ih r1 hb1 (st.freshM hf)
    refine ⟨ptN, rN, by rw [replayAll_append e1]; exact e, hbN, hfN, fun e0 => k (k1 e0), ?_⟩
    rcases n with ⟨rfl, rfl, hN, rfl⟩ | n
    · rw [List.append_nil, hN]
      exact n1
    · exact .inr n

end Mkdb.Store
