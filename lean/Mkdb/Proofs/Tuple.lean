import Mkdb.Proofs.Page
import Mkdb.Proofs.ListOption
/-!
The row codec: what `encodeTuple` accepts, `decodeTuple` reads back as a map with the same value under
every column name (a NULL column leaves no entry).
-/
namespace Mkdb.Tuple
open Mkdb.Bin Mkdb.Page

theorem decField_encField (fd : FieldDef) (v : Val) (hv : ValidVal v) (b rest : Bytes)
    (h : encField fd v = .ok b) :
    decField fd (b ++ rest) = .ok ((if v = .null then none else some v), rest) := by
  cases v with
  | null =>
    cases h
    simp only [decField, decBool_enc, ↓reduceIte]
  | int i =>
    simp only [encField, validate] at h
    cases hty : fd.ty <;> simp only [hty] at h
    ·
      by_cases hr : i > 2147483647 ∨ i < -2147483648
      · simp only [hr, ↓reduceIte] at h; cases h
      · simp only [hr, ↓reduceIte] at h; cases h
        simp only [decField, List.append_assoc, decBool_enc, hty, decI_encI 3 i rest (by omega) (by omega),
          reduceCtorEq, ↓reduceIte]
    · cases h
    · cases h
    · cases h
      simp only [decField, List.append_assoc, decBool_enc, hty, decI_encI 7 i rest (by exact hv.1) (by have := hv.2; omega),
        reduceCtorEq, ↓reduceIte]
  | str s =>
    simp only [encField, validate] at h
    cases hty : fd.ty <;> simp only [hty] at h <;> cases h
    simp only [decField, List.append_assoc, decBool_enc, hty, decU32_enc _ _ hv, readN_append,
      reduceCtorEq, ↓reduceIte]
  | bool bb =>
    simp only [encField, validate] at h
    cases hty : fd.ty <;> simp only [hty] at h <;> cases h
    simp only [decField, List.append_assoc, decBool_enc, hty, reduceCtorEq, ↓reduceIte]

theorem encField_ok_iff (fd : FieldDef) (v : Val) :
    (∃ b, encField fd v = .ok b) ↔ v = .null ∨ validate fd v = .ok () := by
  cases v with
  | null => simp [encField]
  | int i =>
    cases hty : fd.ty
    · by_cases hc : i > 2147483647 ∨ i < -2147483648 <;> simp [encField, validate, hty, hc]
    all_goals simp [encField, validate, hty]
  | str s => cases hty : fd.ty <;> simp [encField, validate, hty]
  | bool b => cases hty : fd.ty <;> simp [encField, validate, hty]

theorem get_cons_ne (m : Vals) (k k' : String) (v : Val) (h : k' ≠ k) :
    get ((k', v) :: m) k = get m k := by
  simp [get, h]

theorem get_cons_eq (m : Vals) (k : String) (v : Val) : get ((k, v) :: m) k = v := by
  simp [get]

/-- Round trip, generalised over the map accumulated so far and trailing bytes; column names may
repeat (columns of one name hold the one value the map has for that name). -/
theorem decode_encode_any (sch : List FieldDef) (vals : Vals)
    (hvals : ∀ fd ∈ sch, ValidVal (get vals fd.name)) (bs rest : Bytes) (m0 : Vals)
    (h : encodeTuple sch vals = .ok bs) :
    ∃ m, decodeTuple sch (bs ++ rest) m0 = .ok m ∧
      ∀ k, get m k = if (∃ fd ∈ sch, fd.name = k) ∧ get vals k ≠ .null then get vals k else get m0 k := by
  induction sch generalizing bs m0 with
  | nil =>
    simp only [encodeTuple] at h
    cases h
    exact ⟨m0, rfl, by simp⟩
  | cons fd t ih =>
    simp only [encodeTuple] at h
    cases hb : encField fd (get vals fd.name) with
    | error e => simp [hb] at h
    | ok b =>
      simp only [hb] at h
      cases ht : encodeTuple t vals with
      | error e => simp [ht] at h
      | ok bt =>
        simp only [ht] at h
        cases h
        have hdec := decField_encField fd (get vals fd.name) (hvals fd List.mem_cons_self) b (bt ++ rest) hb
        have hvt : ∀ fd' ∈ t, ValidVal (get vals fd'.name) := fun fd' h' => hvals fd' (List.mem_cons_of_mem _ h')
        simp only [decodeTuple, List.append_assoc, hdec]
        by_cases hnull : get vals fd.name = .null
        · simp only [hnull, ↓reduceIte]
          obtain ⟨m, hm1, hm2⟩ := ih hvt bt m0 ht
          refine ⟨m, hm1, ?_⟩
          intro k
          rw [hm2 k]
          by_cases hk : fd.name = k
          · subst hk
            simp [hnull]
          · simp [hk]
        · simp only [hnull, ↓reduceIte]
          obtain ⟨m, hm1, hm2⟩ := ih hvt bt ((fd.name, get vals fd.name) :: m0) ht
          refine ⟨m, hm1, ?_⟩
          intro k
          rw [hm2 k]
          by_cases hk : fd.name = k
          · subst hk
            simp [hnull, get_cons_eq]
          · simp [hk, get_cons_ne _ _ _ _ hk]

theorem decode_encode_aux (sch : List FieldDef) (vals : Vals) (hvals : ∀ k, ValidVal (get vals k))
    (_hnd : (sch.map (·.name)).Nodup) (bs rest : Bytes) (m0 : Vals)
    (hfresh : ∀ fd ∈ sch, get m0 fd.name = .null)
    (h : encodeTuple sch vals = .ok bs) :
    ∃ m, decodeTuple sch (bs ++ rest) m0 = .ok m ∧
      (∀ fd ∈ sch, get m fd.name = get vals fd.name) ∧
      (∀ k, k ∉ sch.map (·.name) → get m k = get m0 k) := by
  obtain ⟨m, hm1, hm2⟩ := decode_encode_any sch vals (fun fd _ => hvals fd.name) bs rest m0 h
  refine ⟨m, hm1, fun fd hfd => ?_, fun k hk => ?_⟩
  · rw [hm2, hfresh fd hfd]
    by_cases hnull : get vals fd.name = .null
    · rw [if_neg fun hh => hh.2 hnull, hnull]
    · rw [if_pos ⟨⟨fd, hfd, rfl⟩, hnull⟩]
  · rw [hm2, if_neg fun hh => hk (by obtain ⟨⟨fd, hfd, rfl⟩, _⟩ := hh; exact List.mem_map_of_mem hfd)]

theorem get_valid (m : Vals) (h : ∀ p ∈ m, ValidVal p.2) (k : String) : ValidVal (get m k) := by
  unfold get
  split
  · rename_i a v hf
    exact h _ (List.mem_of_find?_eq_some hf)
  · trivial

theorem get_zip_valid (cs : List String) (vals : List Val) (h : ∀ v ∈ vals, ValidVal v) (k : String) :
    ValidVal (get (cs.zip vals).reverse k) := by
  apply get_valid
  intro p hp
  rw [List.mem_reverse] at hp
  exact h _ (List.of_mem_zip (a := p.1) (b := p.2) hp).2

theorem get_of_mem_nodup (l : Vals) (c : String) (v : Val)
    (hnd : (l.map Prod.fst).Nodup) (hm : (c, v) ∈ l) : get l c = v := by
  induction l with
  | nil => cases hm
  | cons p t ih =>
    obtain ⟨k, w⟩ := p
    simp only [List.map_cons, List.nodup_cons] at hnd
    rcases List.mem_cons.mp hm with heq | hm'
    · cases heq; exact get_cons_eq _ _ _
    · have hne : k ≠ c := by
        intro e; subst e
        exact hnd.1 (List.mem_map_of_mem (f := Prod.fst) hm')
      rw [get_cons_ne _ _ _ _ hne]; exact ih hnd.2 hm'

theorem get_of_not_mem (l : Vals) (c : String) (h : c ∉ l.map Prod.fst) : get l c = .null := by
  have : l.find? (fun p => p.1 == c) = none := by
    rw [List.find?_eq_none]
    intro p hp hpc
    apply h
    have : p.1 = c := by simpa using hpc
    rw [← this]; exact List.mem_map_of_mem hp
  simp [Tuple.get, this]

theorem get_zip_unnamed (names : List String) (vals : List Val) (k : String) (hk : k ∉ names) :
    get (names.zip vals).reverse k = .null :=
  get_of_not_mem _ k fun hm => by
    obtain ⟨p, hp, rfl⟩ := List.mem_map.mp hm
    exact hk (List.of_mem_zip (List.mem_reverse.mp hp)).1

/-- under distinct names the association list of an INSERT holds for each name the value at its position
(the list is searched from its end: with distinct names the order does not matter) -/
theorem get_zip_named (names : List String) (vals : List Val) (hnd : names.Nodup)
    (i : Nat) (k : String) (v : Val) (hk : names[i]? = some k) (hv : vals[i]? = some v) :
    get (names.zip vals).reverse k = v := by
  refine get_of_mem_nodup _ k v ?_ ?_
  · rw [List.map_reverse, List.Nodup, List.pairwise_reverse]
    exact ((map_fst_zip_sublist names vals).nodup hnd).imp Ne.symm
  · exact List.mem_reverse.mpr (List.mem_of_getElem? (List.getElem?_zip_eq_some.mpr ⟨hk, hv⟩))

/-- the row an INSERT with a column list stores (`Csv.insertRow`, `Spec.rowOf`) holds, at the position of a
column, the `i`-th value if the column is the `i`-th name of the list, and NULL if it is not named -/
theorem namedRow_getElem? (schema : List FieldDef) (names : List String) (vals : List Val)
    (hnd : names.Nodup) (j : Nat) (fd : FieldDef) (hj : schema[j]? = some fd) :
    (∀ (i : Nat) (v : Val), names[i]? = some fd.name → vals[i]? = some v →
      (schema.map fun fd => get (names.zip vals).reverse fd.name)[j]? = some v) ∧
    (fd.name ∉ names →
      (schema.map fun fd => get (names.zip vals).reverse fd.name)[j]? = some .null) := by
  rw [List.getElem?_map, hj]
  exact ⟨fun i v hi hv => congrArg some (get_zip_named _ _ hnd i _ v hi hv),
    fun hnot => congrArg some (get_zip_unnamed _ _ _ hnot)⟩

end Mkdb.Tuple
