import Mkdb.Proofs.ConsoleBytes
import Mkdb.Proofs.ConsoleEdit
/-!
The byte stream of the console read as keys, in three parts: the loop of `ReadLine` calls is a machine that takes
one key at a time from the stream (`sess`); the bytes `B` are read as the keys `ks` (`Reads`), which goes from one
key up to typed text, editing keys and a bracketed paste; and the byte ^D in the loop of `readLine`.
-/

section
/-!
The loop of `ReadLine` calls on ANY byte stream: `bytesToKey` consumes at least one byte, so the
console is a machine that takes one key at a time from the stream (`sess`, defined by recursion on the bytes
left; `sess_some`: what it does with the next key).  The fuel of `keyLoop` / `sessionFrom` does not matter once
it exceeds the number of bytes, the flag `lineIsPasted` changes nothing but the tag (`.line` / `.pasted`) of the
outcome, which `sessionFrom` does not look at, and where one `ReadLine` ends and the next begins does not show:
`sessionFrom` with enough fuel is `sess` (`keyLoop_sess`, `sessionFrom_sess`).
-/
namespace Mkdb.Console

/-- a result of `decodeRune` or `bytesToKey` that, when there is one, leaves fewer than `n` bytes; the
lemmas below carry it through the `if`s of the two functions, down to the results at the leaves -/
def Shorter (n : Nat) (o : Option (Nat × List Nat)) : Prop := ∀ k r, o = some (k, r) → r.length < n

theorem Shorter.none {n : Nat} : Shorter n none := fun _ _ h => nomatch h

theorem Shorter.some {n k : Nat} {r : List Nat} (h : r.length < n) : Shorter n (some (k, r)) :=
  fun _ _ e => by cases e; exact h

theorem Shorter.ite {n : Nat} {c : Prop} [Decidable c] {x y : Option (Nat × List Nat)}
    (hx : Shorter n x) (hy : Shorter n y) : Shorter n (if c then x else y) := ite_both hx hy

theorem Shorter.map {n : Nat} {o : Option (List Nat)} {k : Nat} (h : ∀ r, o = Option.some r → r.length < n) :
    Shorter n (o.map fun r => (k, r)) := by
  cases o with
  | none => exact Shorter.none
  | some r => exact Shorter.some (h r rfl)

theorem decodeRune_shorter : ∀ b : List Nat, Shorter b.length (decodeRune b)
  | [] => .none
  | b0 :: r => by
    simp only [decodeRune]
    generalize utf8Class b0 = c
    obtain ⟨sz, lo, hi⟩ := c
    refine .ite (.some (Nat.lt_succ_self _)) (.ite (.some (Nat.lt_succ_self _)) ?_)
    cases r with
    | nil => exact .none
    | cons b1 r1 =>
      have h1 : r1.length < (b0 :: b1 :: r1).length := Nat.lt_succ_of_lt (Nat.lt_succ_self _)
      refine .ite (.some (Nat.lt_succ_self _)) (.ite (.some h1) ?_)
      cases r1 with
      | nil => exact .none
      | cons b2 r2 =>
        have h2 : r2.length < (b0 :: b1 :: b2 :: r2).length := Nat.lt_trans (Nat.lt_succ_self _) h1
        refine .ite (.some (Nat.lt_succ_self _)) (.ite (.some h2) ?_)
        cases r2 with
        | nil => exact .none
        | cons b3 r3 => exact .ite (.some (Nat.lt_succ_self _)) (.some (Nat.lt_trans (Nat.lt_succ_self _) h2))

theorem afterSeqEnd_shorter : ∀ {b r : List Nat}, afterSeqEnd b = some r → r.length < b.length
  | [], _, h => by cases h
  | c :: b, r, h => by
    simp only [afterSeqEnd] at h
    split at h
    · cases h; exact Nat.lt_succ_self _
    · exact Nat.lt_succ_of_lt (afterSeqEnd_shorter h)

theorem bytesToKey_shorter {b : List Nat} {p : Bool} {k : Nat} {r : List Nat}
    (h : bytesToKey b p = some (k, r)) : r.length < b.length := by
  revert k r
  show Shorter b.length (bytesToKey b p)
  cases b with
  | nil => exact .none
  | cons b0 r =>
    unfold bytesToKey
    simp only
    split
    · exact .some (Nat.lt_succ_self _)
    refine .ite (decodeRune_shorter _) ?_
    split
    · rename_i x hx
      split at hx
      · cases hx
      split at hx
      · rename_i c r'
        cases hc : csiKey c <;> rw [hc] at hx <;> cases hx
        exact .some (Nat.lt_succ_of_lt (Nat.lt_succ_of_lt (Nat.lt_succ_self _)))
      · cases hx
    · have hdrop : ((b0 :: r).drop 6).length < (b0 :: r).length := by
        rw [List.length_drop, List.length_cons]; omega
      exact .ite (.some hdrop) (.ite (.some hdrop) (.ite (.some hdrop) (.ite (.some hdrop)
        (.map fun _ => afterSeqEnd_shorter))))

def Outcome.stmts : Outcome → Option (List (List Nat))
  | .line s => some s
  | .pasted s => some s
  | .eof => none

def Same (x y : Term × List Nat × Outcome) : Prop :=
  x.1 = y.1 ∧ x.2.1 = y.2.1 ∧ x.2.2.stmts = y.2.2.stmts

theorem Same.rfl' (x : Term × List Nat × Outcome) : Same x x := ⟨rfl, rfl, rfl⟩

theorem sessionFrom_succ (F : Nat) (t : Term) (bytes : List Nat) :
    sessionFrom (F + 1) t bytes =
      match (readLine t bytes).2.2.stmts with
      | some s => s :: sessionFrom F (readLine t bytes).1 (readLine t bytes).2.1
      | none => [] := by
  rw [sessionFrom]
  generalize readLine t bytes = x
  obtain ⟨t', rest, o⟩ := x
  cases o <;> rfl

/-- What the loop of `readLine` does with a key: the console ends (^C, ^D on an empty line: `none`), paste mode is
switched (the two paste sequences), or the key goes to `step`. -/
def keyAct (t : Term) (key : Nat) : Option (Term × Option (List (List Nat))) :=
  if !t.pasteActive then
    if key == keyCtrlD && t.line.isEmpty then none else if key == keyCtrlC then none
    else if key == keyPasteStart then some ({ t with pasteActive := true }, none)
    else some (step t key)
  else if key == keyPasteEnd then some ({ t with pasteActive := false }, none)
  else some (step t key)

/-- The console as a machine that takes one key at a time from the byte stream: what the loop of `ReadLine`
calls hands over, with no fuel, no `lineIsPasted` and no boundaries between the calls. -/
def sess (t : Term) (bytes : List Nat) : List (List (List Nat)) :=
  match h : bytesToKey bytes t.pasteActive with
  | none => []
  | some (key, after) =>
    have : after.length < bytes.length := bytesToKey_shorter h
    match keyAct t key with
    | none => []
    | some (t', o) => subs o ++ sess t' after
termination_by bytes.length

theorem sess_none {t : Term} {bytes : List Nat} (h : bytesToKey bytes t.pasteActive = none) : sess t bytes = [] := by
  rw [sess]
  split
  · rfl
  · rename_i h'; rw [h] at h'; cases h'

theorem sess_some {t : Term} {bytes after : List Nat} {key : Nat}
    (h : bytesToKey bytes t.pasteActive = some (key, after)) :
    sess t bytes = match keyAct t key with
      | none => []
      | some (t', o) => subs o ++ sess t' after := by
  rw [sess]
  split
  · rename_i h'; rw [h] at h'; cases h'
  · rename_i k a h'
    rw [h] at h'
    cases h'
    rfl

/-- what the session makes of the result of a `keyLoop` -/
def contin (x : Term × List Nat × Outcome) : List (List (List Nat)) :=
  match x.2.2.stmts with
  | some s => s :: sess x.1 x.2.1
  | none => []

/-- With enough fuel a `keyLoop`, whatever its flag `lineIsPasted`, and the session behind it are the machine
`sess`; a `keyLoop` that hands over a line has consumed bytes. -/
theorem keyLoop_sess : ∀ (f : Nat) (t : Term) (lip : Bool) (bytes : List Nat), bytes.length < f →
    contin (keyLoop f t lip bytes) = sess t bytes ∧
      ((keyLoop f t lip bytes).2.2.stmts ≠ none → (keyLoop f t lip bytes).2.1.length < bytes.length) := by
  intro f
  induction f with
  | zero => intro t lip bytes h; cases h
  | succ f ih =>
    intro t lip bytes h
    rw [keyLoop]
    cases hb : bytesToKey bytes t.pasteActive with
    | none => exact ⟨(sess_none hb).symm, fun h => absurd rfl h⟩
    | some x =>
      obtain ⟨key, after⟩ := x
      have hl := bytesToKey_shorter hb
      have go : ∀ t' l, contin (keyLoop f t' l after) = sess t' after ∧
          ((keyLoop f t' l after).2.2.stmts ≠ none → (keyLoop f t' l after).2.1.length < bytes.length) :=
        fun t' l => ⟨(ih t' l after (by omega)).1, fun hne => Nat.lt_trans ((ih t' l after (by omega)).2 hne) hl⟩
      have stop : ∀ (t' : Term) (o : Outcome) (r : List (List (List Nat))), contin (t', after, o) = r →
          contin (t', after, o) = r ∧ (o.stmts ≠ none → after.length < bytes.length) := fun _ _ _ e => ⟨e, fun _ => hl⟩
      rw [sess_some hb, keyAct]
      simp only
      cases hs : step t key with
      | mk t' o =>
        cases hpa : t.pasteActive
        · simp only [Bool.not_false, if_true]
          by_cases c1 : (key == keyCtrlD && t.line.isEmpty) = true
          · simp only [c1, if_true]; exact stop _ _ _ rfl
          · simp only [c1]
            by_cases c2 : (key == keyCtrlC) = true
            · simp only [c2, if_true]; exact stop _ _ _ rfl
            · simp only [c2]
              by_cases c3 : (key == keyPasteStart) = true
              · simp only [c3, if_true]; exact go _ _
              · simp only [c3]
                cases o with
                | none => exact go _ _
                | some s => exact stop _ _ _ rfl
        · simp only [Bool.not_true, Bool.false_eq_true, if_false]
          by_cases c1 : (key == keyPasteEnd) = true
          · simp only [c1, if_true]; exact go _ _
          · simp only [c1]
            cases o with
            | none => exact go _ _
            | some s => exact stop _ _ _ (by cases lip <;> rfl)

theorem sessionFrom_sess : ∀ (F : Nat) (t : Term) (bytes : List Nat), bytes.length < F →
    sessionFrom F t bytes = sess t bytes := by
  intro F
  induction F with
  | zero => intro t bytes h; cases h
  | succ F ih =>
    intro t bytes h
    obtain ⟨h1, h2⟩ := keyLoop_sess (bytes.length + 1) t t.pasteActive bytes (Nat.lt_succ_self _)
    rw [sessionFrom_succ, readLine, ← h1, contin]
    cases hs : (keyLoop (bytes.length + 1) t t.pasteActive bytes).2.2.stmts with
    | none => rfl
    | some s => exact congrArg _ (ih _ _ (by have := h2 (by rw [hs]; exact fun e => nomatch e); omega))

end Mkdb.Console
end

section
/-!
The byte stream read as keys.  `Reads p B ks`: in paste mode `p` the bytes `B`, whatever follows
them, are read as the keys `ks` - the lines handed over are those of the keys, and what follows is read from the
state the keys leave (about the machine `sess`; `Reads.from`: about `sessionFrom`, any fuel).  It holds of the
bytes of one key (`Reads.one`, from `sess_some`), is closed under append, and so holds of the bytes of typed and
editing keys (`Reads.keys`, `Reads.typed`) and of a bracketed paste `ESC[200~` text `ESC[201~` (`Reads.paste`);
`session` on such bytes is `run` on the keys (`Reads.session`).
-/
namespace Mkdb.Console

def Reads (p : Bool) (B ks : List Nat) : Prop :=
  ∀ (t : Term) (rest : List Nat), t.pasteActive = p → sess t (B ++ rest) = run t ks ++ sess (final t ks) rest

theorem Reads.nil (p : Bool) : Reads p [] [] := fun _ _ _ => rfl

theorem Reads.append {p : Bool} {B B' ks ks' : List Nat} (h : Reads p B ks) (h' : Reads p B' ks') :
    Reads p (B ++ B') (ks ++ ks') := by
  intro t rest hpa
  rw [List.append_assoc, h t _ hpa, h' _ rest (by rw [final_paste_same]; exact hpa), run_append, final_append,
    List.append_assoc]

/-- a key that `readLine` does not take for itself goes to `step` -/
theorem keyAct_step {p : Bool} {t : Term} {k : Nat} (hpa : t.pasteActive = p)
    (hk : if p then k ≠ keyPasteEnd else k ≠ keyCtrlD ∧ k ≠ keyCtrlC ∧ k ≠ keyPasteStart) :
    keyAct t k = some (step t k) := by
  rw [keyAct, hpa]
  cases p with
  | true => simp only [Bool.not_true, Bool.false_eq_true, if_false, beq_false_of_ne hk]
  | false =>
    simp only [Bool.not_false, if_true, beq_false_of_ne hk.1, beq_false_of_ne hk.2.1, beq_false_of_ne hk.2.2,
      Bool.false_and, Bool.false_eq_true, if_false]

theorem Reads.one {p : Bool} {B : List Nat} {k : Nat} (hb : ∀ rest, bytesToKey (B ++ rest) p = some (k, rest))
    (hk : if p then k ≠ keyPasteEnd else k ≠ keyCtrlD ∧ k ≠ keyCtrlC ∧ k ≠ keyPasteStart) : Reads p B [k] := by
  intro t rest hpa
  rw [sess_some (by rw [hpa]; exact hb rest), keyAct_step hpa hk, run_cons_subs]
  exact congrArg (· ++ _) (List.append_nil _).symm

theorem Reads.from {p : Bool} {B ks : List Nat} (h : Reads p B ks) (F F' : Nat) (t : Term) (rest : List Nat)
    (hpa : t.pasteActive = p) (hF : (B ++ rest).length < F) (hF' : rest.length < F') :
    sessionFrom F t (B ++ rest) = run t ks ++ sessionFrom F' (final t ks) rest := by
  rw [sessionFrom_sess F _ _ hF, sessionFrom_sess F' _ _ hF', h t rest hpa]

theorem Reads.key {k : Nat} (h : EditKey k) : Reads false (keyBytes k) [k] :=
  .one (fun rest => (key_bytes h rest).1) (key_bytes h []).2

theorem Reads.keys : ∀ {ks : List Nat}, (∀ k ∈ ks, EditKey k) → Reads false (keysBytes ks) ks
  | [], _ => .nil _
  | k :: _, hv => (Reads.key (hv k List.mem_cons_self)).append (Reads.keys fun x hx => hv x (List.mem_cons_of_mem _ hx))

theorem Reads.typed (p : Bool) : ∀ {ks : List Nat}, (∀ k ∈ ks, TypedKey k) → Reads p (encodeKeys ks) ks
  | [], _ => .nil _
  | k :: ks, hv => by
    have hk := hv k List.mem_cons_self
    obtain ⟨h1, h2, h3, h4⟩ := typedKey_facts hk
    have hne : if p then k ≠ keyPasteEnd else k ≠ keyCtrlD ∧ k ≠ keyCtrlC ∧ k ≠ keyPasteStart := by
      cases p
      · exact ⟨h1, h2, h3⟩
      · exact h4
    have one : Reads p (encodeRune k) [k] :=
      .one (fun rest => bytesToKey_encode (hk.1.elim Or.inl fun h => Or.inr h.1) hk.2 rest p) hne
    exact one.append (Reads.typed p fun x hx => hv x (List.mem_cons_of_mem _ hx))

theorem bytesToKey_pasteStart (r : List Nat) : bytesToKey (pasteStartSeq ++ r) false = some (keyPasteStart, r) := by
  simp [pasteStartSeq, bytesToKey, ctrlKey, csiKey, keyEscape]

theorem bytesToKey_pasteEnd (r : List Nat) : bytesToKey (pasteEndSeq ++ r) true = some (keyPasteEnd, r) := by
  simp [pasteEndSeq, bytesToKey, keyEscape]

theorem sess_nil (t : Term) : sess t [] = [] := sess_none rfl

theorem sess_pasteStart (t : Term) (r : List Nat) (hpa : t.pasteActive = false) :
    sess t (pasteStartSeq ++ r) = sess (setPaste true t) r := by
  rw [sess_some (by rw [hpa]; exact bytesToKey_pasteStart r), keyAct, hpa]
  rfl

theorem sess_pasteEnd (t : Term) (r : List Nat) (hpa : t.pasteActive = true) :
    sess t (pasteEndSeq ++ r) = sess (setPaste false t) r := by
  rw [sess_some (by rw [hpa]; exact bytesToKey_pasteEnd r), keyAct, hpa]
  rfl

/-- **A paste at the byte level**: `ESC[200~`, the UTF-8 text of printable keys and Enters, `ESC[201~` is read as
the text typed: in paste mode the text is read as its keys (`Reads.typed true`), and these do the same in and
outside paste mode (`Runs.setPaste`). -/
theorem Reads.paste {ks : List Nat} (hv : ∀ k ∈ ks, TypedKey k) :
    Reads false (pasteStartSeq ++ encodeKeys ks ++ pasteEndSeq) ks := by
  intro t rest hpa
  obtain ⟨r, f⟩ := Runs.setPaste true ks t fun k hk => (hv k hk).1
  have hoff : setPaste false (setPaste true (final t ks)) = final t ks := by
    have hp := final_paste_same ks t
    rw [hpa] at hp
    generalize final t ks = x at hp
    cases x
    simp only at hp
    subst hp
    rfl
  simp only [List.append_assoc]
  rw [sess_pasteStart t _ hpa, Reads.typed true hv (setPaste true t) _ rfl, r, f, sess_pasteEnd _ rest rfl, hoff]

theorem Reads.session {B ks : List Nat} (h : Reads false B ks) : session B = run {} ks := by
  have := h {} [] rfl
  rw [List.append_nil, sess_nil, List.append_nil] at this
  exact (sessionFrom_sess _ _ _ (Nat.lt_succ_self _)).trans this

end Mkdb.Console
end

section
namespace Mkdb.Console

theorem bytesToKey_ctrlD (r : List Nat) : bytesToKey (4 :: r) false = some (keyCtrlD, r) := by
  simp [bytesToKey, ctrlKey, keyEscape, keyCtrlD, decode1]

theorem sess_ctrlD_empty (F : Nat) (t : Term) (rest : List Nat) (hpa : t.pasteActive = false)
    (hl : t.line = []) (hF : (4 :: rest).length < F) : sessionFrom F t (4 :: rest) = [] := by
  rw [sessionFrom_sess F _ _ hF, sess_some (by rw [hpa]; exact bytesToKey_ctrlD rest), keyAct, hpa, hl]
  rfl

theorem sess_ctrlD_nonempty (F F' : Nat) (t : Term) (rest : List Nat) (hpa : t.pasteActive = false)
    (hl : t.line ≠ []) (hend : t.line.length ≤ t.pos) (hF : (4 :: rest).length < F) (hF' : rest.length < F') :
    sessionFrom F t (4 :: rest) = sessionFrom F' t rest := by
  have he : t.line.isEmpty = false := by simpa using hl
  rw [sessionFrom_sess F _ _ hF, sessionFrom_sess F' _ _ hF', sess_some (by rw [hpa]; exact bytesToKey_ctrlD rest), keyAct,
    hpa, he, step_ctrlD_atEnd t hpa hend]
  rfl

end Mkdb.Console
end
