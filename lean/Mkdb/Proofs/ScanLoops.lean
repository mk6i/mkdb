import Mkdb.Model.Scan
/-!
# The loops of the scanner

First the runes that texts written out in proofs and examples are made of (`asciiRune`), and the bytes of
a rune list (`textOf_append`).  Five of the helper loops of `Model/Scan.lean` drop the longest prefix of runes with a property
(`List.dropWhile`); what they return is a suffix of the input (`List.dropWhile_suffix`) and, on a text
`w ++ X` whose `w` has the property and whose `X` does not begin with it, exactly `X`
(`dropWhile_append_stop`).  `scanStringBody` is the run of an automaton whose single step is `strStep`
(`scanStringBody_cons`): it stops at the rune it looks at, or goes on behind it in another state.
`scanNumber` is cut into its parts (`numPrefix`, `numFrac`, `numExp`: the exponent stands twice in the model).
Last, the token loop: `scanLoop` is `scanAll` for any keyword lookup.  `keywordOf` reads the strings of the
generated token table, which the kernel evaluates slowly; `kwFind` (`Proofs/ScanTextKeywords`) is the same
lookup in a table of code points, and `scanSQL_eq` there runs the loop with it.  What holds for any lookup
(the scanner ends, its output is bounded: `Proofs/ScanSize`) is proved once for `scanLoop`.
-/
namespace Mkdb.Scan
open Mkdb.Generated

/-! ## ASCII runes, and the text of runes -/

/-- `unicode.ToUpper` on ASCII -/
def asciiUpper (c : Nat) : Nat := if 97 ≤ c ∧ c ≤ 122 then c - 32 else c
/-- `unicode.IsLetter` on ASCII -/
def asciiLetter (c : Nat) : Bool := (65 ≤ c && c ≤ 90) || (97 ≤ c && c ≤ 122)

/-- The rune `Scanner.next` delivers for the ASCII byte `c` (`c < 128`): code `c`, the one byte `c`,
and the Unicode facts as Go's tables give them for ASCII (letters `A-Z a-z`, digits `0-9`, `ToUpper`
maps `a-z` to `A-Z`). -/
def asciiRune (c : Nat) : Rune := ⟨c, [UInt8.ofNat c], asciiLetter c, isDecimal c, asciiUpper c⟩

@[simp] theorem asciiRune_code (c : Nat) : (asciiRune c).code = c := rfl
@[simp] theorem asciiRune_bytes (c : Nat) : (asciiRune c).bytes = [UInt8.ofNat c] := rfl
@[simp] theorem asciiRune_upper (c : Nat) : (asciiRune c).upper = asciiUpper c := rfl
@[simp] theorem asciiRune_letter (c : Nat) : (asciiRune c).letter = asciiLetter c := rfl
@[simp] theorem asciiRune_digit (c : Nat) : (asciiRune c).digit = isDecimal c := rfl

theorem textOf_append (a b : Input) : textOf (a ++ b) = textOf a ++ textOf b := by
  simp [textOf]

theorem textOf_cons (r : Rune) (b : Input) : textOf (r :: b) = r.bytes ++ textOf b := by
  simp [textOf]

theorem textOf_ascii (ds : List Nat) : textOf (ds.map asciiRune) = ds.map UInt8.ofNat := by
  rw [textOf, List.flatMap_map, List.map_eq_flatMap]; rfl

theorem upperCodes_ascii (ds : List Nat) : upperCodes (ds.map asciiRune) = ds.map asciiUpper := by
  rw [upperCodes, List.map_map]; rfl

theorem textOf_bytes (bs : Bytes) : textOf (bs.map fun b => asciiRune b.toNat) = bs := by
  simp only [textOf, List.flatMap_map, asciiRune_bytes, UInt8.ofNat_toNat, List.flatMap_singleton']

theorem upperCodes_bytes (bs : Bytes) :
    upperCodes (bs.map fun b => asciiRune b.toNat) = bs.map fun b => asciiUpper b.toNat := by
  rw [upperCodes, List.map_map]; rfl

/-! ## What a rune list begins with -/

def HeadP (p : Rune → Bool) : Input → Bool
  | [] => true
  | r :: _ => p r

theorem HeadP_cons (p : Rune → Bool) (r : Rune) (X : Input) : HeadP p (r :: X) = p r := rfl

theorem HeadP_mono {p q : Rune → Bool} (h : ∀ r, p r = true → q r = true) {X : Input} (hX : HeadP p X = true) :
    HeadP q X = true := by
  cases X with
  | nil => rfl
  | cons x X => exact h x hX

/-! ## The loops that are `dropWhile` -/

theorem skipWs_eq (l : Input) : skipWs l = l.dropWhile fun r => isWs r.code := by
  induction l with
  | nil => rfl
  | cons r rest ih => rw [skipWs, List.dropWhile_cons, ih]

theorem scanIdentTail_eq (l : Input) : scanIdentTail l = l.dropWhile fun r => isIdentRune r false := by
  induction l with
  | nil => rfl
  | cons r rest ih => rw [scanIdentTail, List.dropWhile_cons, ih]

/-- what `digits` passes over: digits of the base and `_` -/
def isDigitOf (hex : Bool) (r : Rune) : Bool := (if hex then isHex r.code else isDecimal r.code) || r.code == 95

theorem digits_eq (hex : Bool) (l : Input) : digits hex l = l.dropWhile (isDigitOf hex) := by
  induction l with
  | nil => rfl
  | cons r rest ih => rw [digits, List.dropWhile_cons, ih]; rfl

theorem scanRawBody_eq (l : Input) : scanRawBody l = l.dropWhile fun r => !(r.code == 96) := by
  induction l with
  | nil => rfl
  | cons r rest ih =>
    rw [scanRawBody, List.dropWhile_cons, ih]
    cases r.code == 96 <;> rfl

theorem lineComment_eq (l : Input) : lineComment l = l.dropWhile fun r => !(r.code == 10) := by
  induction l with
  | nil => rfl
  | cons r rest ih =>
    rw [lineComment, List.dropWhile_cons, ih]
    cases r.code == 10 <;> rfl

theorem dropWhile_append_stop {p : Rune → Bool} (w X : Input) (hw : ∀ r ∈ w, p r = true)
    (hX : HeadP (fun r => !p r) X = true) : (w ++ X).dropWhile p = X := by
  rw [List.dropWhile_append_of_pos hw]
  cases X with
  | nil => rfl
  | cons x X => exact List.dropWhile_cons_of_neg (by simpa [HeadP] using hX)

/-! ## Every loop returns a suffix of its input -/

theorem skipWs_suffix (l : Input) : skipWs l <:+ l := skipWs_eq l ▸ List.dropWhile_suffix _

theorem scanIdentTail_suffix (l : Input) : scanIdentTail l <:+ l := scanIdentTail_eq l ▸ List.dropWhile_suffix _

theorem digits_suffix (hex : Bool) (l : Input) : digits hex l <:+ l := digits_eq hex l ▸ List.dropWhile_suffix _

theorem scanRawBody_suffix (l : Input) : scanRawBody l <:+ l := scanRawBody_eq l ▸ List.dropWhile_suffix _

theorem lineComment_suffix (l : Input) : lineComment l <:+ l := lineComment_eq l ▸ List.dropWhile_suffix _

theorem blockComment_suffix (l : Input) : ∀ b r', blockComment b l = some r' → r' <:+ l := by
  induction l with
  | nil => intro b r' h; simp [blockComment] at h
  | cons r rest ih =>
    intro b r' h
    unfold blockComment at h
    split at h
    · cases h; exact List.suffix_cons _ _
    · exact List.IsSuffix.trans (ih _ _ h) (List.suffix_cons _ _)

/-! ## `scanString` -/

/-- what the loop of `scanString` does with a rune that belongs to no escape: it stops at the quote
(`inl true`) and at a line feed (`inl false`); a backslash begins an escape -/
def strPlain (quote : Nat) (r : Rune) : Bool ⊕ SState :=
  if r.code == quote then .inl true
  else if r.code == 10 then .inl false
  else if r.code == 92 then .inr .afterBackslash
  else .inr .normal

/-- One step of `scanString` in the state `s` at the rune `r`: stop at `r` with the flag `b` (`inl b`),
or consume `r` and go on in the state `s'` (`inr s'`). -/
def strStep (quote : Nat) : SState → Rune → Bool ⊕ SState
  | .normal, r => strPlain quote r
  | .afterBackslash, r =>
    let c := r.code
    if c == 97 || c == 98 || c == 102 || c == 110 || c == 114 || c == 116 || c == 118 || c == 92 || c == quote then
      .inr .normal
    else if 48 ≤ c && c ≤ 55 then .inr (.escDigits 2 8)
    else if c == 120 then .inr (.escDigits 2 16)
    else if c == 117 then .inr (.escDigits 4 16)
    else if c == 85 then .inr (.escDigits 8 16)
    else strPlain quote r
  | .escDigits n base, r =>
    if n > 0 && digitVal r.code < base then .inr (.escDigits (n - 1) base) else strPlain quote r

/-- the scan behind the step `k` made at the rune `r` in front of `rest` -/
def strGo (quote : Nat) (r : Rune) (rest : Input) : Bool ⊕ SState → Bool × Input
  | .inl b => (b, r :: rest)
  | .inr s => scanStringBody quote s rest

theorem scanStringBody_cons (q : Nat) (s : SState) (r : Rune) (rest : Input) :
    scanStringBody q s (r :: rest) = strGo q r rest (strStep q s r) := by
  cases s <;> rw [scanStringBody] <;> simp only [strStep, strPlain, apply_ite (strGo q r rest)] <;> rfl

theorem scanStringBody_nil (q : Nat) (s : SState) : scanStringBody q s [] = (false, []) := by
  cases s <;> rfl

theorem scanStringBody_suffix (q : Nat) (l : Input) : ∀ s, (scanStringBody q s l).2 <:+ l := by
  induction l with
  | nil => intro s; rw [scanStringBody_nil]; exact List.suffix_refl _
  | cons r rest ih =>
    intro s
    rw [scanStringBody_cons]
    cases strStep q s r with
    | inl b => exact List.suffix_refl _
    | inr s' => exact (ih s').trans (List.suffix_cons r rest)

/-- `scanString` looks at the text only up to the rune where it stops: when it stops inside `A` (at a
quote or line feed of `A`), it stops at the same rune whatever follows `A`. -/
theorem scanStringBody_append (q : Nat) (X A : Input) : ∀ s, (scanStringBody q s A).2 ≠ [] →
    scanStringBody q s (A ++ X) = ((scanStringBody q s A).1, (scanStringBody q s A).2 ++ X) := by
  induction A with
  | nil => intro s h; rw [scanStringBody_nil] at h; exact absurd rfl h
  | cons r rest ih =>
    intro s
    rw [List.cons_append, scanStringBody_cons, scanStringBody_cons]
    cases strStep q s r with
    | inl b => exact fun _ => rfl
    | inr s' => exact ih s'

theorem strStep_normal_plain (q : Nat) (r : Rune) (h : (r.code == q || r.code == 10 || r.code == 92) = false) :
    strStep q .normal r = .inr .normal := by
  simp only [Bool.or_eq_false_iff] at h
  simp only [strStep, strPlain, h.1.1, h.1.2, h.2, Bool.false_eq_true, ↓reduceIte]

theorem scanStringBody_plain (q : Nat) (body : Input) (c : Rune) (X : Input) (hc : c.code = q)
    (hb : ∀ r ∈ body, (r.code == q || r.code == 10 || r.code == 92) = false) :
    scanStringBody q .normal (body ++ c :: X) = (true, c :: X) := by
  induction body with
  | nil => simp only [List.nil_append, scanStringBody_cons, strStep, strPlain, hc, beq_self_eq_true, ↓reduceIte, strGo]
  | cons a body ih =>
    rw [List.cons_append, scanStringBody_cons, strStep_normal_plain q a (hb a (List.mem_cons_self ..))]
    exact ih fun r hr => hb r (List.mem_cons_of_mem _ hr)

/-! ## `scanNumber` in its parts: radix prefix, digits, fraction, exponent -/

/-- the radix prefix `0x` / `0o` / `0b` (a lone leading `0` is passed over as well) -/
def numPrefix (l : Input) : Bool × Input :=
  match l with
  | z :: rest =>
    if z.code == 48 then
      match rest with
      | p :: rest' =>
        if lower p.code == 120 then (true, rest')
        else if lower p.code == 111 then (false, rest')
        else if lower p.code == 98 then (false, rest')
        else (false, rest)
      | [] => (false, rest)
    else (false, l)
  | [] => (false, l)

/-- the fraction behind the integer part: `.` and digits -/
def numFrac (hex : Bool) (l1 : Input) : Bool × Input :=
  match l1 with
  | d :: rest => if d.code == 46 then (true, digits hex rest) else (false, l1)
  | [] => (false, l1)

/-- the exponent: `e` / `p`, an optional sign, digits; `isF` says whether the number was a float before -/
def numExp (isF : Bool) (l2 : Input) : Bool × Input :=
  match l2 with
  | r :: rest =>
    if lower r.code == 101 || lower r.code == 112 then
      let l3 := match rest with
        | s :: rest' => if s.code == 43 || s.code == 45 then rest' else rest
        | [] => rest
      (true, digits false l3)
    else (isF, l2)
  | [] => (isF, l2)

theorem scanNumber_true (l : Input) : scanNumber l true = numExp true (digits false l) := rfl

theorem scanNumber_false (l : Input) :
    scanNumber l false =
      let (hex, l0) := numPrefix l
      let (isF1, l2) := numFrac hex (digits hex l0)
      numExp isF1 l2 := rfl

theorem numPrefix_suffix (l : Input) : (numPrefix l).2 <:+ l := by
  unfold numPrefix
  repeat' split
  all_goals first
    | exact List.suffix_refl _
    | exact List.suffix_cons _ _
    | exact List.IsSuffix.trans (List.suffix_cons _ _) (List.suffix_cons _ _)

theorem numFrac_suffix (hex : Bool) (l1 : Input) : (numFrac hex l1).2 <:+ l1 := by
  unfold numFrac
  split
  · split
    · exact (digits_suffix _ _).trans (List.suffix_cons _ _)
    · exact List.suffix_refl _
  · exact List.suffix_refl _

theorem numExp_suffix (isF : Bool) (l2 : Input) : (numExp isF l2).2 <:+ l2 := by
  unfold numExp
  split
  · split
    · refine ((digits_suffix _ _).trans ?_).trans (List.suffix_cons _ _)
      split
      · split
        · exact List.suffix_cons _ _
        · exact List.suffix_refl _
      · exact List.suffix_refl _
    · exact List.suffix_refl _
  · exact List.suffix_refl _

theorem scanNumber_suffix_digits (l : Input) :
    (scanNumber l false).2 <:+ digits (numPrefix l).1 (numPrefix l).2 :=
  (numExp_suffix _ _).trans (numFrac_suffix _ _)

theorem scanNumber_suffix (l : Input) : ∀ b, (scanNumber l b).2 <:+ l
  | true => (numExp_suffix _ _).trans (digits_suffix _ _)
  | false => ((scanNumber_suffix_digits l).trans (digits_suffix _ _)).trans (numPrefix_suffix l)

/-- a number that begins with a decimal digit ends behind that digit -/
theorem scanNumber_lt (r : Rune) (rest : Input) (h : isDecimal r.code = true) :
    (scanNumber (r :: rest) false).2.length ≤ rest.length := by
  refine Nat.le_trans (scanNumber_suffix_digits _).length_le ?_
  have hd : ∀ hex l, l <:+ rest → (digits hex l).length ≤ rest.length :=
    fun hex l hl => ((digits_suffix hex l).trans hl).length_le
  simp only [numPrefix]
  split
  · split
    · repeat' split
      all_goals exact hd _ _ (by first | exact List.suffix_cons _ _ | exact List.suffix_refl _)
    · exact hd _ _ (List.suffix_refl _)
  · simp only [digits, h, Bool.true_or, ↓reduceIte, Bool.false_eq_true]
    exact (digits_suffix _ _).length_le

/-! ## The token loop

The body of `scanAll` is: scan one token; stop at the end of the input or in an open comment; else make
the SQL token (`tokenOf`), take the `=` behind `!`, `<`, `>` with it, go on.  `scanLoop` is that loop for
any keyword lookup, `scanAll` the loop for `keywordOf` (`scanAll_eq_loop`, the one place where the body of
the model is gone through); everything about the loop is said of `scanLoop` through `scanLoop_cases`. -/

/-- a quoted token without its quotes, of the type `ty`; ILLEGAL when `unquote` refuses it -/
def unquoted (ty : Int) (b : Bytes) : Token :=
  match stripQuotes b with
  | none => ⟨t_ILLEGAL, b⟩
  | some t => ⟨ty, t⟩

theorem unquoted_text (ty : Int) (b : Bytes) :
    (unquoted ty b).text = b ∨ stripQuotes b = some (unquoted ty b).text := by
  unfold unquoted
  cases stripQuotes b with
  | none => exact .inl rfl
  | some t => exact .inr rfl

/-- `ts.s.Peek() == '='`: the very next rune is `=` -/
def nextIsEq : Input → Bool
  | r :: _ => r.code == 61
  | [] => false

/-- What the token loop makes of one scanner token of kind `k` (not `eof`, `openComment`) with the runes
`rs` in front of `rest`: the SQL token, and whether the `=` behind it is taken with it (`!=`, `<=`, `>=`).
`kw` is the keyword lookup. -/
def tokenOf (kw : List Nat → Option Int) (k : Kind) (rs rest : Input) : Token × Bool :=
  match k with
  | .ident => (⟨match kw (upperCodes rs) with | some k => k | none => t_IDENT, textOf rs⟩, false)
  | .int => (⟨t_INT, textOf rs⟩, false)
  | .delimIdent => (unquoted t_IDENT (textOf rs), false)
  | k =>
    match kw (upperCodes rs) with
    | some ty =>
      if (ty == t_BANG || ty == t_GT || ty == t_LT) && nextIsEq rest then
        (⟨if ty == t_BANG then t_NEQ else if ty == t_GT then t_GTE else t_LTE, textOf rs⟩, true)
      else (⟨ty, textOf rs⟩, false)
    | none =>
      if k == .string then (unquoted t_STR (textOf rs), false)
      else (⟨t_STR, textOf rs⟩, false)

/-- go on behind the token that follows (the `=` of a two-character operator, scanned and dropped) -/
def behindNext (fuel : Nat) (rest : Input) (go : Input → ScanRes) : ScanRes :=
  match scanTok fuel rest with
  | none => .fuel
  | some (_, _, rest') => go rest'

def scanLoop (kw : List Nat → Option Int) : Nat → Input → List Token → ScanRes
  | 0, _, _ => .fuel
  | fuel+1, l, acc =>
    match scanTok (fuel+1) l with
    | none => .fuel
    | some (.eof, _, _) => .ok acc.reverse
    | some (.openComment, _, _) => .ok ((⟨t_ILLEGAL, [47, 42]⟩ :: acc).reverse)
    | some (k, rs, rest) =>
      if (tokenOf kw k rs rest).2 then
        behindNext (fuel+1) rest fun rest' => scanLoop kw fuel rest' ((tokenOf kw k rs rest).1 :: acc)
      else scanLoop kw fuel rest ((tokenOf kw k rs rest).1 :: acc)

theorem scanAll_eq_loop (fuel : Nat) : ∀ l acc, scanAll fuel l acc = scanLoop keywordOf fuel l acc := by
  induction fuel with
  | zero => intro l acc; rfl
  | succ n ih =>
    intro l acc
    unfold scanAll scanLoop
    simp only [ih]
    cases scanTok (n + 1) l with
    | none => rfl
    | some x =>
      obtain ⟨k, rs, rest⟩ := x
      cases k with
      | eof | openComment | ident | int => rfl
      | delimIdent =>
        simp only [tokenOf, unquoted]
        cases stripQuotes (textOf rs) <;> rfl
      | float | string | rawString | char _ =>
        -- the kinds the model treats alike: a keyword (an operator, with or without `=`), or a literal
        simp only [tokenOf]
        split
        · rename_i kw hkw
          simp only [hkw]
          cases rest with
          | nil => simp only [nextIsEq, Bool.and_false, Bool.false_eq_true, ↓reduceIte]
          | cons r rest' =>
            simp only [nextIsEq]
            by_cases hc : ((kw == t_BANG || kw == t_GT || kw == t_LT) && r.code == 61) = true
            · simp only [hc, ↓reduceIte]
              rfl
            · simp only [hc, ↓reduceIte, Bool.false_eq_true]
        · rename_i hkw
          simp only [hkw]
          split
          · simp only [unquoted]
            cases stripQuotes (textOf rs) <;> rfl
          · rfl

theorem scanLoop_cases (kw : List Nat → Option Int) {F : Nat} {l : Input} (acc : List Token) {k : Kind}
    {rs rest : Input} (h : scanTok (F + 1) l = some (k, rs, rest)) :
    (k = .eof ∧ scanLoop kw (F + 1) l acc = .ok acc.reverse) ∨
    (k = .openComment ∧ scanLoop kw (F + 1) l acc = .ok ((⟨t_ILLEGAL, [47, 42]⟩ :: acc).reverse)) ∨
    (k ≠ .eof ∧ scanLoop kw (F + 1) l acc =
      if (tokenOf kw k rs rest).2 then
        behindNext (F + 1) rest fun rest' => scanLoop kw F rest' ((tokenOf kw k rs rest).1 :: acc)
      else scanLoop kw F rest ((tokenOf kw k rs rest).1 :: acc)) := by
  rw [scanLoop, h]
  cases k with
  | eof => exact .inl ⟨rfl, rfl⟩
  | openComment => exact .inr (.inl ⟨rfl, rfl⟩)
  | _ => exact .inr (.inr ⟨nofun, rfl⟩)

theorem tokenOf_text (kw : List Nat → Option Int) (k : Kind) (rs rest : Input) :
    (tokenOf kw k rs rest).1.text = textOf rs ∨ stripQuotes (textOf rs) = some (tokenOf kw k rs rest).1.text := by
  cases k with
  | ident | int => exact .inl rfl
  | delimIdent => exact unquoted_text _ _
  | eof | openComment | float | string | rawString | char _ =>
    simp only [tokenOf]
    cases kw (upperCodes rs) with
    | some ty => exact .inl (by simp only [apply_ite Prod.fst, apply_ite Token.text, ite_self])
    | none =>
      simp only []
      split
      · exact unquoted_text _ _
      · exact .inl rfl

theorem tokenOf_string (kw : List Nat → Option Int) (rs rest : Input) (inner : Bytes) (hkw : kw (upperCodes rs) = none)
    (hq : stripQuotes (textOf rs) = some inner) : tokenOf kw .string rs rest = (⟨t_STR, inner⟩, false) := by
  simp only [tokenOf, hkw, unquoted, hq, beq_self_eq_true, ↓reduceIte]

end Mkdb.Scan
