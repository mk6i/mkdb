import Mkdb.Proofs.TreeSplit
/-!
What `bubble` does to the internal levels: which nodes it leaves (`bubble_pages_new`,
`bubble_page_kept`), then clause by clause of the invariant (capacity, linking, separators, offsets),
each along `bubble_induct`.
-/
set_option autoImplicit false
namespace Mkdb.Tree
open Mkdb.Page Mkdb.Generated

/-- Induction along `bubble`: the four ways a call ends or continues, with the last node of the level
made explicit.  `motive` relates the arguments to the result. -/
theorem bubble_induct (lsn : Nat)
    {motive : List (List (Internal × Bool)) → Nat → Nat → Nat → Nat → List (List (Internal × Bool)) × Nat → Prop}
    (root : ∀ sep l nc nf, motive [] sep l nc nf ([[(⟨nf, lsn, nc, [⟨sep, l⟩]⟩, true)]], nf + c_pageSize))
    (bad : ∀ rest sep l nc nf, motive ([] :: rest) sep l nc nf ([], nf))
    (fit : ∀ pre p d rest sep l nc nf, (intApp p sep nc lsn).cells.length < c_maxInternalNodeCells →
      motive ((pre ++ [(p, d)]) :: rest) sep l nc nf ((pre ++ [(intApp p sep nc lsn, true)]) :: rest, nf))
    (split : ∀ pre p d rest sep l nc nf, ¬ (intApp p sep nc lsn).cells.length < c_maxInternalNodeCells →
      ∀ r, motive rest (midCell (intApp p sep nc lsn)).key p.off nf (nf + c_pageSize) r →
      motive ((pre ++ [(p, d)]) :: rest) sep l nc nf
        ((pre ++ [(intL (intApp p sep nc lsn), true), (intR (intApp p sep nc lsn) lsn nf, true)]) :: r.1, r.2)) :
    ∀ lvls sep l nc nf, motive lvls sep l nc nf (bubble lsn lvls sep l nc nf) := by
  intro lvls
  induction lvls with
  | nil => exact root
  | cons lvl rest ih =>
    intro sep l nc nf
    rcases eq_nil_or_snoc lvl with rfl | ⟨pre, ⟨p, d⟩, rfl⟩
    · exact bad rest sep l nc nf
    · rw [bubble_cons_snoc]
      split
      next h => exact fit pre p d rest sep l nc nf h
      next h => exact split pre p d rest sep l nc nf h _ (ih ..)

/-! ### pages -/

theorem bubble_pages_new (lsn : Nat) (lvls : List (List (Internal × Bool))) (sep l nc nf : Nat) :
    ∀ lvl' ∈ (bubble lsn lvls sep l nc nf).1, ∀ p ∈ lvl',
      (∃ lvl ∈ lvls, p ∈ lvl) ∨ (p.1.lsn = lsn ∧ p.2 = true) := by
  refine bubble_induct lsn (motive := fun lvls _ _ _ _ r => ∀ lvl' ∈ r.1, ∀ p ∈ lvl',
    (∃ lvl ∈ lvls, p ∈ lvl) ∨ (p.1.lsn = lsn ∧ p.2 = true)) ?_ ?_ ?_ ?_ lvls sep l nc nf
  · intro sep l nc nf lvl' h p hp
    obtain rfl := List.mem_singleton.mp h
    obtain rfl := List.mem_singleton.mp hp
    exact .inr ⟨rfl, rfl⟩
  · intro rest sep l nc nf lvl' h
    cases h
  · intro pre p0 d0 rest sep l nc nf _ lvl' h p hp
    rcases List.mem_cons.mp h with rfl | h
    · rcases List.mem_append.mp hp with hp | hp
      · exact .inl ⟨_, List.mem_cons_self, List.mem_append_left _ hp⟩
      · obtain rfl := List.mem_singleton.mp hp
        exact .inr ⟨rfl, rfl⟩
    · exact .inl ⟨lvl', List.mem_cons_of_mem _ h, hp⟩
  · intro pre p0 d0 rest sep l nc nf _ r ih lvl' h p hp
    rcases List.mem_cons.mp h with rfl | h
    · rcases List.mem_append.mp hp with hp | hp
      · exact .inl ⟨_, List.mem_cons_self, List.mem_append_left _ hp⟩
      · simp only [List.mem_cons, List.not_mem_nil, or_false] at hp
        rcases hp with rfl | rfl <;> exact .inr ⟨rfl, rfl⟩
    · exact (ih lvl' h p hp).imp (fun ⟨lv, hlv, hp'⟩ => ⟨lv, List.mem_cons_of_mem _ hlv, hp'⟩) id

theorem bubble_page_kept (lsn : Nat) (lvls : List (List (Internal × Bool))) (sep l nc nf : Nat)
    (hne : ∀ lvl ∈ lvls, lvl ≠ []) :
    ∀ lvl ∈ lvls, ∀ p ∈ lvl, ∃ lvl' ∈ (bubble lsn lvls sep l nc nf).1, ∃ p' ∈ lvl',
      p'.1.off = p.1.off ∧ (p' = p ∨ (p'.1.lsn = lsn ∧ p'.2 = true)) := by
  refine bubble_induct lsn (motive := fun lvls _ _ _ _ r => (∀ lvl ∈ lvls, lvl ≠ []) →
    ∀ lvl ∈ lvls, ∀ p ∈ lvl, ∃ lvl' ∈ r.1, ∃ p' ∈ lvl',
      p'.1.off = p.1.off ∧ (p' = p ∨ (p'.1.lsn = lsn ∧ p'.2 = true))) ?_ ?_ ?_ ?_ lvls sep l nc nf hne
  · intro sep l nc nf _ lvl h
    cases h
  · intro rest sep l nc nf hne
    exact absurd rfl (hne [] List.mem_cons_self)
  · intro pre p0 d0 rest sep l nc nf _ _ lvl hl p hp
    rcases List.mem_cons.mp hl with rfl | hl
    · rcases List.mem_append.mp hp with hp | hp
      · exact ⟨_, List.mem_cons_self, p, List.mem_append_left _ hp, rfl, .inl rfl⟩
      · obtain rfl := List.mem_singleton.mp hp
        exact ⟨_, List.mem_cons_self, (intApp p0 sep nc lsn, true),
          List.mem_append_right _ List.mem_cons_self, rfl, .inr ⟨rfl, rfl⟩⟩
    · exact ⟨lvl, List.mem_cons_of_mem _ hl, p, hp, rfl, .inl rfl⟩
  · intro pre p0 d0 rest sep l nc nf _ r ih hne lvl hl p hp
    rcases List.mem_cons.mp hl with rfl | hl
    · rcases List.mem_append.mp hp with hp | hp
      · exact ⟨_, List.mem_cons_self, p, List.mem_append_left _ hp, rfl, .inl rfl⟩
      · obtain rfl := List.mem_singleton.mp hp
        exact ⟨_, List.mem_cons_self, (intL (intApp p0 sep nc lsn), true),
          List.mem_append_right _ List.mem_cons_self, rfl, .inr ⟨rfl, rfl⟩⟩
    · obtain ⟨lvl', hl', p', hp', h1, h2⟩ :=
        ih (fun x hx => hne x (List.mem_cons_of_mem _ hx)) lvl hl p hp
      exact ⟨lvl', List.mem_cons_of_mem _ hl', p', hp', h1, h2⟩

/-! ### capacity -/

def CapInner (lvls : List (List (Internal × Bool))) : Prop :=
  ∀ lvl ∈ lvls, ∀ p ∈ lvl, 1 ≤ p.1.cells.length ∧ p.1.cells.length < c_maxInternalNodeCells

theorem bubble_cap (h3 : 3 ≤ c_maxInternalNodeCells) (lsn : Nat) (lvls : List (List (Internal × Bool))) :
    ∀ (sep l nc nf : Nat), CapInner lvls → CapInner (bubble lsn lvls sep l nc nf).1 := by
  refine bubble_induct lsn (motive := fun lvls _ _ _ _ r => CapInner lvls → CapInner r.1) ?_ ?_ ?_ ?_ lvls
  · intro sep l nc nf _
    simp only [CapInner, List.forall_mem_singleton, List.length_singleton]
    omega
  · intro rest sep l nc nf _ lvl hlvl
    cases hlvl
  · intro pre p d rest sep l nc nf hlt
    simp only [CapInner, List.forall_mem_cons, List.forall_mem_append, List.not_mem_nil, false_imp_iff,
      implies_true, and_true]
    exact fun h => ⟨⟨h.1.1, by simp [intApp], hlt⟩, h.2⟩
  · intro pre p d rest sep l nc nf hge r ih
    simp only [CapInner, List.forall_mem_cons, List.forall_mem_append, List.not_mem_nil, false_imp_iff,
      implies_true, and_true]
    intro h
    have hlen : (intApp p sep nc lsn).cells.length = p.cells.length + 1 := by simp [intApp]
    have := int_split_len (intApp p sep nc lsn) lsn nf (by omega)
    exact ⟨⟨h.1.1, ⟨this.1.1, by omega⟩, this.2.1, by omega⟩, ih h.2⟩

/-! ### linking -/

theorem split_at_mid {α} (xs : List α) (m : Nat) (d : α) (h : m < xs.length) :
    xs.take m ++ [(xs[m]?).getD d] ++ xs.drop (m + 1) = xs := by
  rw [List.getElem?_eq_getElem h, Option.getD_some, List.append_assoc, List.singleton_append,
    List.getElem_cons_drop, List.take_append_drop]

theorem childOffs_split (p1 : Internal) (lsn nf : Nat) (d1 d2 : Bool) (h : 1 ≤ p1.cells.length) :
    childOffs [(intL p1, d1), (intR p1 lsn nf, d2)] = p1.cells.map (·.child) ++ [p1.right] := by
  have hm : p1.cells.length / 2 < p1.cells.length := by omega
  have := split_at_mid p1.cells (p1.cells.length / 2) ⟨0, 0⟩ hm
  simp only [childOffs_cons, childOffs_nil, intL, intR, midCell, List.append_nil]
  conv => rhs; rw [← this]
  simp only [List.map_append, List.map_cons, List.map_nil, List.append_assoc]

theorem bubble_link (lsn : Nat) (lvls : List (List (Internal × Bool))) :
    ∀ (sep l nc nf : Nat) (below : List Nat), linked below lvls → below.getLast? = some l →
      linked (below ++ [nc]) (bubble lsn lvls sep l nc nf).1 := by
  refine bubble_induct lsn (motive := fun lvls _ l nc _ r => ∀ below, linked below lvls →
    below.getLast? = some l → linked (below ++ [nc]) r.1) ?_ ?_ ?_ ?_ lvls
  · intro sep l nc nf below h hl
    obtain ⟨ys, rfl⟩ := List.getLast?_eq_some_iff.mp hl
    simp only [linked, List.length_append, List.length_cons, List.length_nil] at h
    have : ys = [] := List.eq_nil_of_length_eq_zero (by omega)
    subst this
    simp [linked, childOffs]
  · intro rest sep l nc nf below h hl
    rw [← h.1] at hl
    cases hl
  · intro pre p d rest sep l nc nf _ below ⟨hc, hrest⟩ _
    rw [childOffs_append, childOffs_cons, childOffs_nil] at hc
    refine ⟨?_, ?_⟩
    · rw [childOffs_append, childOffs_cons, childOffs_nil, ← hc]
      simp [intApp]
    · simpa [intApp] using hrest
  · intro pre p d rest sep l nc nf _ r ih below ⟨hc, hrest⟩ _
    rw [childOffs_append, childOffs_cons, childOffs_nil] at hc
    refine ⟨?_, ?_⟩
    · rw [childOffs_append, childOffs_split _ _ _ _ _ (by simp [intApp]), ← hc]
      simp [intApp]
    · simpa [intL, intR, intApp] using ih ((pre ++ [(p, d)]).map (·.1.off)) hrest (by simp)

/-! ### separators -/

theorem sepsOK_singleton (p : Internal × Bool) (los : List Nat) :
    sepsOK los [p] ↔ ∃ x, los = x :: p.1.cells.map (·.key) := by
  simp only [sepsOK]
  constructor
  · rintro ⟨h1, h2, h3⟩
    have hlen : los.length = p.1.cells.length + 1 := by
      have := List.drop_eq_nil_iff.mp h3
      omega
    rw [List.take_of_length_le (by omega)] at h2
    cases los with
    | nil => simp at hlen
    | cons x xs => exact ⟨x, by simpa using h2⟩
  · rintro ⟨x, rfl⟩
    simp [List.take_of_length_le]

/-- Replace the tail `tl` of a level by `tl'`, which takes `ext` more entries of the level below and
hands `extra` more lowest keys to the level above: both facts are transported to the whole level. -/
theorem seps_tail_congr (tl tl' : List (Internal × Bool)) (ext extra : List Nat)
    (H : ∀ los', sepsOK los' tl →
      sepsOK (los' ++ ext) tl' ∧ levelLos (los' ++ ext) tl' = levelLos los' tl ++ extra)
    (pre : List (Internal × Bool)) :
    ∀ los, sepsOK los (pre ++ tl) →
      sepsOK (los ++ ext) (pre ++ tl') ∧ levelLos (los ++ ext) (pre ++ tl') = levelLos los (pre ++ tl) ++ extra := by
  induction pre with
  | nil => exact H
  | cons p ps ih =>
    intro los ⟨h1, h2, h3⟩
    obtain ⟨i1, i2⟩ := ih _ h3
    refine ⟨⟨?_, ?_, ?_⟩, ?_⟩
    · simp only [List.length_append]; omega
    · rw [List.take_append_of_le_length h1]; exact h2
    · rw [List.drop_append_of_le_length h1]; exact i1
    · simp only [List.cons_append, levelLos]
      rw [List.drop_append_of_le_length h1, i2]
      cases los with
      | nil => simp at h1
      | cons x xs => rfl

theorem seps_app (p : Internal) (d d' : Bool) (sep nc lsn : Nat) (los' : List Nat)
    (h : sepsOK los' [(p, d)]) :
    sepsOK (los' ++ [sep]) [(intApp p sep nc lsn, d')] ∧
      levelLos (los' ++ [sep]) [(intApp p sep nc lsn, d')] = levelLos los' [(p, d)] ++ [] := by
  obtain ⟨x, rfl⟩ := (sepsOK_singleton _ _).mp h
  exact ⟨(sepsOK_singleton _ _).mpr ⟨x, by simp [intApp]⟩, by simp [levelLos]⟩

/-- splitting the last node of a level: the middle separator becomes a lowest key for the level above -/
theorem seps_split (p1 : Internal) (d d1 d2 : Bool) (lsn nf : Nat) (hp : 1 ≤ p1.cells.length)
    (los' : List Nat) (h : sepsOK los' [(p1, d)]) :
    sepsOK (los' ++ []) [(intL p1, d1), (intR p1 lsn nf, d2)] ∧
      levelLos (los' ++ []) [(intL p1, d1), (intR p1 lsn nf, d2)] =
        levelLos los' [(p1, d)] ++ [(midCell p1).key] := by
  obtain ⟨x, rfl⟩ := (sepsOK_singleton _ _).mp h
  have hm : p1.cells.length / 2 < p1.cells.length := by omega
  have hm' : p1.cells.length / 2 < (p1.cells.map (·.key)).length := by simpa using hm
  have hmid : (p1.cells.map (·.key)).drop (p1.cells.length / 2) =
      (midCell p1).key :: (p1.cells.drop (p1.cells.length / 2 + 1)).map (·.key) := by
    rw [List.drop_eq_getElem_cons hm']
    simp [midCell, List.getElem?_eq_getElem hm]
  rw [List.append_nil]
  refine ⟨⟨?_, ?_, ?_⟩, ?_⟩
  · simp only [intL, List.length_take, List.length_cons, List.length_map]; omega
  · simp only [intL, List.length_take, Nat.min_eq_left (Nat.le_of_lt hm), List.take_succ_cons,
      List.tail_cons, List.map_take]
  · apply (sepsOK_singleton _ _).mpr
    simp only [intL, List.length_take, Nat.min_eq_left (Nat.le_of_lt hm), List.drop_succ_cons, intR]
    exact ⟨_, hmid⟩
  · simp only [levelLos, List.headD_cons, intL, List.length_take, Nat.min_eq_left (Nat.le_of_lt hm),
      List.drop_succ_cons, hmid, List.cons_append, List.nil_append]

theorem bubble_seps (lsn : Nat) (lvls : List (List (Internal × Bool))) :
    ∀ (sep l nc nf : Nat) (below los : List Nat), linked below lvls → sepsAll los lvls →
      los.length = below.length → sepsAll (los ++ [sep]) (bubble lsn lvls sep l nc nf).1 := by
  refine bubble_induct lsn (motive := fun lvls sep _ _ _ r => ∀ below los, linked below lvls →
    sepsAll los lvls → los.length = below.length → sepsAll (los ++ [sep]) r.1) ?_ ?_ ?_ ?_ lvls
  · intro sep l nc nf below los hlink _ hlen
    simp only [linked] at hlink
    match los, hlen with
    | [x], _ => simp [sepsAll, sepsOK]
    | [], hlen => simp at hlen; omega
    | _ :: _ :: _, hlen => simp at hlen; omega
  · intros
    trivial
  · intro pre p d rest sep l nc nf _ below los _ ⟨hs1, hs2⟩ _
    obtain ⟨a1, a2⟩ := seps_tail_congr _ _ _ _ (seps_app p d true sep nc lsn) pre los hs1
    rw [List.append_nil] at a2
    exact ⟨a1, a2 ▸ hs2⟩
  · intro pre p d rest sep l nc nf _ r ih below los ⟨_, hrest⟩ ⟨hs1, hs2⟩ _
    obtain ⟨a1, a2⟩ := seps_tail_congr _ _ _ _ (seps_app p d true sep nc lsn) pre los hs1
    obtain ⟨b1, b2⟩ := seps_tail_congr _ _ _ _
      (seps_split (intApp p sep nc lsn) true true true lsn nf (by simp [intApp])) pre _ a1
    rw [List.append_nil] at a2 b1 b2
    refine ⟨b1, ?_⟩
    rw [b2, a2]
    exact ih ((pre ++ [(p, d)]).map (·.1.off)) _ hrest hs2 (by simp [Lookup.levelLos_length])

/-! ### offsets -/

def innerOffs (lvls : List (List (Internal × Bool))) : List Nat :=
  lvls.flatMap fun lvl => lvl.map (·.1.off)

theorem offs_eq (t : Levels) : offs t = t.leaves.map (·.1.off) ++ innerOffs t.inner := by
  simp only [offs, flatten, innerOffs, List.map_flatMap, List.map_append, List.map_map]
  rfl

theorem innerOffs_cons (lvl) (rest) : innerOffs (lvl :: rest) = lvl.map (·.1.off) ++ innerOffs rest := by
  simp [innerOffs]

theorem nodup_aux (A R R' : List Nat) (nf ps nf' : Nat) (hps : 0 < ps)
    (hnd : (A ++ R).Nodup) (hlt : ∀ o ∈ A ++ R, o < nf)
    (hR' : R.Nodup → (∀ o ∈ R, o < nf + ps) → R'.Nodup)
    (hmem : ∀ o ∈ R', o ∈ R ∨ (nf + ps ≤ o ∧ o < nf')) :
    (A ++ [nf] ++ R').Nodup := by
  have ⟨hA, hR, hAR⟩ := List.nodup_append.mp hnd
  have hltA : ∀ o ∈ A, o < nf := fun o ho => hlt o (List.mem_append_left _ ho)
  have hltR : ∀ o ∈ R, o < nf := fun o ho => hlt o (List.mem_append_right _ ho)
  have hR'nd := hR' hR (fun o ho => by have := hltR o ho; omega)
  rw [List.append_assoc, List.nodup_append]
  refine ⟨hA, ?_, ?_⟩
  · rw [List.singleton_append, List.nodup_cons]
    refine ⟨?_, hR'nd⟩
    intro hmem'
    rcases hmem _ hmem' with h | h
    · have := hltR _ h; omega
    · omega
  · intro a ha b hb
    have := hltA a ha
    simp only [List.singleton_append, List.mem_cons] at hb
    rcases hb with rfl | hb
    · omega
    · rcases hmem b hb with h | h
      · exact hAR a ha b h
      · omega

theorem bubble_offs (hps : 0 < c_pageSize) (lsn : Nat) (lvls : List (List (Internal × Bool))) :
    ∀ (sep l nc nf : Nat),
      nf ≤ (bubble lsn lvls sep l nc nf).2 ∧
      (∀ o ∈ innerOffs (bubble lsn lvls sep l nc nf).1,
        o ∈ innerOffs lvls ∨ (nf ≤ o ∧ o < (bubble lsn lvls sep l nc nf).2)) ∧
      ((innerOffs lvls).Nodup → (∀ o ∈ innerOffs lvls, o < nf) →
        (innerOffs (bubble lsn lvls sep l nc nf).1).Nodup) := by
  refine bubble_induct lsn (motive := fun lvls _ _ _ nf r => nf ≤ r.2 ∧
    (∀ o ∈ innerOffs r.1, o ∈ innerOffs lvls ∨ (nf ≤ o ∧ o < r.2)) ∧
    ((innerOffs lvls).Nodup → (∀ o ∈ innerOffs lvls, o < nf) → (innerOffs r.1).Nodup)) ?_ ?_ ?_ ?_ lvls
  · intro sep l nc nf
    simp [innerOffs]
    omega
  · intro rest sep l nc nf
    exact ⟨Nat.le_refl _, fun o ho => absurd ho List.not_mem_nil, fun _ _ => List.nodup_nil⟩
  · intro pre p d rest sep l nc nf _
    have : innerOffs ((pre ++ [(intApp p sep nc lsn, true)]) :: rest) =
        innerOffs ((pre ++ [(p, d)]) :: rest) := by simp [innerOffs, intApp]
    rw [this]
    exact ⟨Nat.le_refl _, fun o ho => .inl ho, fun h _ => h⟩
  · intro pre p d rest sep l nc nf _ r ⟨ih1, ih2, ih3⟩
    have : ∀ R', innerOffs ((pre ++ [(intL (intApp p sep nc lsn), true),
          (intR (intApp p sep nc lsn) lsn nf, true)]) :: R') =
        (pre ++ [(p, d)]).map (·.1.off) ++ [nf] ++ innerOffs R' := by
      intro R'; simp [innerOffs, intApp, intL, intR]
    simp only [this, innerOffs_cons]
    refine ⟨by omega, ?_, fun hnd hlt => nodup_aux _ _ _ nf c_pageSize _ hps hnd hlt ih3 ih2⟩
    intro o ho
    rcases List.mem_append.mp ho with ho | ho
    · rcases List.mem_append.mp ho with ho | ho
      · exact .inl (List.mem_append_left _ ho)
      · simp only [List.mem_singleton] at ho
        subst ho
        exact .inr ⟨Nat.le_refl _, by omega⟩
    · rcases ih2 o ho with h | h
      · exact .inl (List.mem_append_right _ h)
      · exact .inr ⟨by omega, h.2⟩

end Mkdb.Tree
