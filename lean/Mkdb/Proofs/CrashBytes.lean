import Mkdb.Proofs.ReplayMixed
import Mkdb.Proofs.Wal
/-!
A crash at an arbitrary byte of a statement's log append, the byte-level half of C03, in two parts: the records
the storage layer logs fit the wire types of `WALEntry` (`RecIn`, `toRec_wf`, `LiveRunM.recs_in`); the facts
about `Wal.readLog` on a cut file, carried over to the records of the storage model (`ByteCut`, `stmt_byte_cut`).
-/

section
/-!
Every record a run logs lies within the counters of the store the run ends in (`RecIn`): no counter goes down
along a run (`RecIn.mono`), and what a step logs (`RowStep`) lies within the header the step leaves - page
offsets and row ids by the catalog invariant `Cat` (pages of a tree lie below the frontier, keys are issued
row ids), value lengths by the size check of `insertLeaf` / `updateCellAt`.  With counters that fit the Go
field types, such a record fits the wire types of `WALEntry`.
-/
set_option autoImplicit false
namespace Mkdb.Store
open Mkdb.Page Mkdb.Tuple Mkdb.Generated Mkdb.Tree Mkdb.Engine

/-- a record of the storage model (`Store.WalRec`) as a record of the log-file model (`Wal.Rec`), field
by field - the conversion `crashImage` of the differential driver uses -/
def toRec (r : WalRec) : Wal.Rec := ⟨r.op, r.lsn, r.page, r.cell, r.val⟩

def ofRec (r : Wal.Rec) : WalRec := ⟨r.op, r.lsn, r.page, r.cell, r.val⟩

@[simp] theorem ofRec_toRec (r : WalRec) : ofRec (toRec r) = r := rfl
@[simp] theorem toRec_ofRec (r : Wal.Rec) : toRec (ofRec r) = r := rfl

theorem map_ofRec_toRec (l : List WalRec) : (l.map toRec).map ofRec = l := by
  rw [List.map_map]
  exact List.map_id'' (fun r => rfl) l

/-- the record lies within the counters of the header -/
def RecIn (r : WalRec) (h : Header) : Prop :=
  r.op ≤ 2 ∧ r.lsn < h.nextLSN ∧ r.page < h.nextFree ∧ r.cell ≤ h.lastKey ∧ r.val.length ≤ c_maxValueSize

theorem RecIn.mono {r : WalRec} {h h' : Header} (hr : RecIn r h) (hlsn : h.nextLSN ≤ h'.nextLSN)
    (hnf : h.nextFree ≤ h'.nextFree) (hlk : h.lastKey ≤ h'.lastKey) : RecIn r h' :=
  ⟨hr.1, Nat.lt_of_lt_of_le hr.2.1 hlsn, Nat.lt_of_lt_of_le hr.2.2.1 hnf, Nat.le_trans hr.2.2.2.1 hlk, hr.2.2.2.2⟩

/-- **Well-formedness of the engine's records**: within counters that fit the Go field types
(`_nextLSN uint64`, `nextFreeOffset uint64`, `lastKey uint32`), a record fits `WALEntry`'s wire types. -/
theorem toRec_wf {r : WalRec} {h : Header} (hr : RecIn r h) (hlsn : h.nextLSN ≤ 2 ^ 64)
    (hnf : h.nextFree ≤ 2 ^ 64) (hlk : h.lastKey < 2 ^ 32) : (toRec r).wf := by
  obtain ⟨a, b, c, d, e⟩ := hr
  have hm : c_maxValueSize = 400 := rfl
  refine ⟨?_, ?_, ?_, ?_, ?_⟩
  · show r.op < 256; omega
  · show r.lsn < 2 ^ 64; omega
  · show r.page < 2 ^ 64; omega
  · show r.cell < 2 ^ 32; omega
  · show r.val.length < 2 ^ 32 - 25; omega

theorem live_key_le {s : Store} {pt sch : Levels} {tbls : List (Bytes × Levels)} (h : Cat s pt sch tbls)
    {x : Levels} (hx : x ∈ catTrees pt sch tbls) {c : LeafCell} (hc : c ∈ live x) : c.key ≤ s.hdr.lastKey := by
  obtain ⟨_, _, _, _, hk⟩ := h.tree x hx
  apply hk
  unfold keys
  unfold live at hc
  exact List.mem_map.mpr ⟨c, (List.mem_filter.mp hc).1, rfl⟩

theorem leaf_off_lt {s : Store} {pt sch : Levels} {tbls : List (Bytes × Levels)} (h : Cat s pt sch tbls)
    {x : Levels} (hx : x ∈ catTrees pt sch tbls) {l : Leaf} {d : Bool} (hm : (l, d) ∈ x.leaves) :
    l.off < s.hdr.nextFree := by
  obtain ⟨_, hI, _, _, _⟩ := h.tree x hx
  exact hI.offs.2 _ (leaf_off_mem_offs hm)

/-- **Every record a live run logs lies within the header the run ends with**: a step keeps the records so far
within the header (no counter goes down, `RowStep.nextLSN_le` …) and its own records are within the header it
leaves - the leaf of a cell record and the root an INSERT record names are pages of the description, the
cell a key in use, the key of an INSERT record the new row id. -/
theorem LiveRunM.recs_in {sch : Levels} {s0 sN : Store} {tbls tblsN : List (Bytes × Levels)}
    {stmts : List RStmt} {logs : List WalRec} (run : LiveRunM sch s0 tbls stmts sN tblsN logs) {pt : Levels}
    (h : Cat s0 pt sch tbls) : ∃ ptN, Cat sN ptN sch tblsN ∧ ∀ r ∈ logs, RecIn r sN.hdr := by
  refine run.keeps (J := fun s _ _ old => ∀ r ∈ old, RecIn r s.hdr) (old := []) ?_ h (fun _ hr => nomatch hr)
  intro s pt tbls s1 pt1 tbls1 l1 old h st _ hJ r hr
  rcases List.mem_append.mp hr with hr | hr
  · exact (hJ r hr).mono st.nextLSN_le st.nextFree_le st.lastKey_le
  cases st with
  | quiet => cases hr
  | cell table t l d r0 f ht hm hcr hpage hany hrl hlsn hlk hnf hdel =>
    obtain rfl := List.mem_singleton.mp hr
    obtain ⟨c, hc, hck⟩ := List.any_eq_true.mp hany
    obtain ⟨_, _, _, _, hkeys⟩ := h.tree t (Cat.tb_mem ht)
    refine ⟨?_, by rw [hrl, hlsn]; exact Nat.lt_succ_self _, by rw [hpage, hnf]; exact leaf_off_lt h (Cat.tb_mem ht) hm,
      ?_, ?_⟩
    · rcases hcr with ⟨e, _⟩ | ⟨e, _⟩ <;> rw [e] <;> decide
    · rw [hlk, ← beq_iff_eq.mp hck]
      exact hkeys _ (List.mem_map.mpr ⟨c, leaf_cells_sub hm c hc, rfl⟩)
    · rcases hcr with ⟨_, hl, _⟩ | ⟨e, _⟩
      · exact hl
      · rw [hdel e]; exact Nat.zero_le _
  | ins table t t' nf' buf ht hlen hins _ _ _ hlk hnf hroot _ =>
    obtain ⟨_, hIt, _, _, _⟩ := h.tree t (Cat.tb_mem ht)
    have hnfle : s.hdr.nextFree ≤ s1.hdr.nextFree := hnf ▸ insertAppend_nextFree t t' _ _ _ nf' buf hins
    have hrec1 : ∀ lsn, lsn < s1.hdr.nextLSN →
        RecIn ⟨c_OpInsert, lsn, rootOff t, s.hdr.lastKey + 1, buf⟩ s1.hdr := fun lsn hl =>
      ⟨(by decide : c_OpInsert ≤ 2), hl, Nat.lt_of_lt_of_le (hIt.offs.2 _ (rootOff_mem_offs t _ hIt)) hnfle,
        Nat.le_of_eq hlk.symm, hlen⟩
    rcases hroot with ⟨_, _, hl1, rfl⟩ | ⟨_, hl2, a, p, hal, _, hp, _, _, rfl⟩
    · obtain rfl := List.mem_singleton.mp hr
      exact hrec1 _ (by rw [hl1]; exact Nat.lt_succ_self _)
    · simp only [List.mem_cons, List.not_mem_nil, or_false] at hr
      rcases hr with rfl | rfl
      · exact hrec1 _ (by rw [hl2]; omega)
      · exact ⟨(by decide : c_OpUpdate ≤ 2), by rw [hl2]; exact Nat.lt_succ_self _,
          Nat.lt_of_lt_of_le (leaf_off_lt h Cat.pt_mem (d := p.2) hp) hnfle,
          Nat.le_trans (live_key_le h Cat.pt_mem hal) (hlk ▸ Nat.le_succ _), by
            show (ptRow table (rootOff t')).length ≤ _
            rw [ptRow_length]
            exact h.tlen (table, t) ht⟩

theorem spec_run_recs_in (sch : Levels) {db dbN : Engine.DB} {sdb sdbN : Spec.SDB} {stmts : List EStmt}
    (run : SpecRun sch db sdb stmts dbN sdbN) (pt : Levels) (tbls : List (Bytes × Levels))
    (hA : AbsV db.store pt sch tbls sdb) :
    ∃ logs, dbN.wal = db.wal ++ logs ∧ ∀ r ∈ logs, RecIn r dbN.store.hdr := by
  obtain ⟨_, tblsN, stmtsM, logs, hrun, hw, _⟩ := spec_run_live sch run pt tbls hA
  obtain ⟨_, habs, _⟩ := hA
  obtain ⟨_, _, hrec⟩ := hrun.recs_in habs.cat
  exact ⟨logs, hw, hrec⟩

end Mkdb.Store
end

section
/-!
The facts about `Wal.readLog` on a cut file (`Wal.readLog_old_take`, `Wal.append_after_old_cut`) are carried
over to the records of the storage model: for every byte position inside (or beyond) what a statement appends,
`wal.read` of the cut file returns the acknowledged records and the first `k` records of the statement, and
the truncated file is the file of exactly these records (`stmt_byte_cut`).  What replaying them recovers is
the record-level half; the two are composed in `Props/C03`.
-/
set_option autoImplicit false
namespace Mkdb.Store
open Mkdb.Page Mkdb.Tuple Mkdb.Generated Mkdb.Tree Mkdb.Engine

/-- the log file that holds these records -/
def walFile (recs : List WalRec) : Bytes := Wal.encodeLog (recs.map toRec)

theorem walFile_append (a b : List WalRec) : walFile (a ++ b) = walFile a ++ walFile b := by
  unfold walFile
  rw [List.map_append, Wal.encodeLog_append]

theorem walFile_take_mono (l : List WalRec) {a b : Nat} (h : a ≤ b) :
    (walFile (l.take a)).length ≤ (walFile (l.take b)).length := by
  have e : l.take b = l.take a ++ (l.drop a).take (b - a) := by
    rw [← List.take_add, Nat.add_sub_cancel' h]
  rw [e, walFile_append, List.length_append]
  exact Nat.le_add_right _ _

theorem stmt_wal_wf (sch : Levels) {db0 dbN dbC : Engine.DB} {sdb0 sdbN sdbC : Spec.SDB}
    {stmts : List EStmt} {e : EStmt}
    (run : SpecRun sch db0 sdb0 stmts dbN sdbN) (step : SpecRun sch dbN sdbN [e] dbC sdbC)
    (hwal : db0.wal = [])
    (pt : Levels) (tbls : List (Bytes × Levels)) (hA : AbsV db0.store pt sch tbls sdb0)
    (hlsn : dbC.store.hdr.nextLSN ≤ 2 ^ 64) (hnf : dbC.store.hdr.nextFree ≤ 2 ^ 64)
    (hlk : dbC.store.hdr.lastKey < 2 ^ 32) :
    dbC.wal = dbN.wal ++ dbC.wal.drop dbN.wal.length ∧ ∀ r ∈ dbC.wal, (toRec r).wf := by
  obtain ⟨ptN, tblsN, _, _, _, _, hAN⟩ := spec_run_live sch run pt tbls hA
  obtain ⟨logs, hw, _⟩ := spec_run_recs_in sch step ptN tblsN hAN
  obtain ⟨all, hwall, hrec⟩ := spec_run_recs_in sch (run.append step) pt tbls hA
  rw [hwal, List.nil_append] at hwall
  refine ⟨by rw [hw, List.drop_left], ?_⟩
  intro r hr
  rw [hwall] at hr
  exact toRec_wf (hrec r hr) hlsn hnf hlk

/-- the byte-level facts about the log file of `dbC` cut `n` bytes behind the log file of `dbN`: what
`wal.read` returns, where the cut lies relative to the frames of the batch, what the file is after the
reader truncated it, and that later appends are read back behind the surviving records -/
def ByteCut (oldW allW : List WalRec) (n k : Nat) (torn : Bool) : Prop :=
  k ≤ (allW.drop oldW.length).length ∧
  Wal.readLog ((walFile allW).take ((walFile oldW).length + n))
    = .ok ((oldW ++ (allW.drop oldW.length).take k).map toRec)
        (walFile (oldW ++ (allW.drop oldW.length).take k)).length torn ∧
  (walFile ((allW.drop oldW.length).take k)).length ≤ n ∧
  (k < (allW.drop oldW.length).length → n < (walFile ((allW.drop oldW.length).take (k+1))).length) ∧
  (torn = true ↔
    (walFile ((allW.drop oldW.length).take k)).length < min n (walFile (allW.drop oldW.length)).length) ∧
  Wal.afterRead ((walFile allW).take ((walFile oldW).length + n))
    = walFile (oldW ++ (allW.drop oldW.length).take k) ∧
  ∀ more : List Wal.Rec, (∀ r ∈ more, r.wf) →
    Wal.readLog (Wal.afterRead ((walFile allW).take ((walFile oldW).length + n)) ++ Wal.encodeLog more)
      = .ok ((oldW ++ (allW.drop oldW.length).take k).map toRec ++ more)
          (Wal.encodeLog ((oldW ++ (allW.drop oldW.length).take k).map toRec ++ more)).length false

/-- the cut determines how many whole records survive: `k` is the number of frames of the batch that end
within the first `n` bytes -/
theorem ByteCut.k_eq {oldW allW : List WalRec} {n k : Nat} {torn : Bool} (h : ByteCut oldW allW n k torn) {k' : Nat}
    (hle : (walFile ((allW.drop oldW.length).take k')).length ≤ n)
    (hnext : k' < (allW.drop oldW.length).length → n < (walFile ((allW.drop oldW.length).take (k' + 1))).length)
    (hk' : k' ≤ (allW.drop oldW.length).length) : k = k' := by
  obtain ⟨hk, _, hle0, hnext0, _⟩ := h
  rcases Nat.lt_trichotomy k k' with hlt | heq | hgt
  · have := walFile_take_mono (allW.drop oldW.length) (show k + 1 ≤ k' by omega)
    have := hnext0 (Nat.lt_of_lt_of_le hlt hk')
    omega
  · exact heq
  · have := walFile_take_mono (allW.drop oldW.length) (show k' + 1 ≤ k by omega)
    have := hnext (Nat.lt_of_lt_of_le hgt hk)
    omega

/-- **A log file cut at an arbitrary byte of the batch a statement appends** (`oldW`: the records of the
acknowledged statements; `allW`: these and the records of the statement; `n`: how many bytes of the batch
reached the file): `Wal.readLog_old_take` and `Wal.append_after_old_cut`, carried over to the records of the
storage model. -/
theorem byteCut_of_wf (oldW allW : List WalRec) (hsplit : allW = oldW ++ allW.drop oldW.length)
    (hwf : ∀ r ∈ allW, (toRec r).wf) (n : Nat) : ∃ k torn, ByteCut oldW allW n k torn := by
  generalize allW.drop oldW.length = batch at hsplit
  subst hsplit
  have hold : ∀ r ∈ oldW.map toRec, r.wf := fun r hr => by
    obtain ⟨x, hx, rfl⟩ := List.mem_map.mp hr
    exact hwf x (List.mem_append_left _ hx)
  have hb : ∀ r ∈ batch.map toRec, r.wf := fun r hr => by
    obtain ⟨x, hx, rfl⟩ := List.mem_map.mp hr
    exact hwf x (List.mem_append_right _ hx)
  obtain ⟨k, torn, hk, hread, hle, hnext, htorn, hafter⟩ :=
    Wal.readLog_old_take (oldW.map toRec) (batch.map toRec) hold hb n
  have hmore := fun more hm => Wal.append_after_old_cut (oldW.map toRec) (batch.map toRec) more hold hb hm n k hafter
  rw [List.length_map] at hk hnext
  simp only [← List.map_take, ← List.map_append] at hread hle hnext htorn hafter hmore
  unfold ByteCut
  rw [List.drop_left]
  exact ⟨k, torn, hk, hread, hle, hnext, htorn, hafter, hmore⟩

/-- **Every byte position of a statement's log append** (any statement `e` of a run): the three counters
of the store the statement leaves in memory fit their Go types; then all records of the log are well
formed, and for every `cut` the log file of `dbC` cut `cut` bytes behind the log file of `dbN` is read as
the records of `dbN` plus the first `k` records of the statement (`ByteCut`).  What replaying exactly
these records recovers is the record-level theorem of the statement (`insert_crash_rowPrefixState`,
`delete_crash_rowPrefixState`, `update_crash_rowPrefixState`), for that `k`. -/
theorem stmt_byte_cut (sch : Levels) {db0 dbN dbC : Engine.DB} {sdb0 sdbN sdbC : Spec.SDB}
    {stmts : List EStmt} {e : EStmt}
    (run : SpecRun sch db0 sdb0 stmts dbN sdbN) (step : SpecRun sch dbN sdbN [e] dbC sdbC)
    (hwal : db0.wal = [])
    (pt : Levels) (tbls : List (Bytes × Levels)) (hA : AbsV db0.store pt sch tbls sdb0)
    (hlsn : dbC.store.hdr.nextLSN ≤ 2 ^ 64) (hnf : dbC.store.hdr.nextFree ≤ 2 ^ 64)
    (hlk : dbC.store.hdr.lastKey < 2 ^ 32) (cut : Nat) :
    (∀ r ∈ dbC.wal, (toRec r).wf) ∧ ∃ k torn, ByteCut dbN.wal dbC.wal cut k torn := by
  obtain ⟨hsplit, hwf⟩ := stmt_wal_wf sch run step hwal pt tbls hA hlsn hnf hlk
  exact ⟨hwf, byteCut_of_wf dbN.wal dbC.wal hsplit hwf cut⟩

end Mkdb.Store
end
