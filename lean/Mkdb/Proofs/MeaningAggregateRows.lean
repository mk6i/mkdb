import Mkdb.Proofs.MeaningAggCells
/-!
`aggregateRows` on the projected rows against the grouping part of `Spec.meaning` (C07): on the source
rows themselves (`aggregate_agree`, through `specAgg_groups`: the grouping part as one comprehension over
the distinct keys), then on source rows in any order, as a join delivers them (`specAgg_perm`).
-/

section
namespace Mkdb.Exec.MeaningP
open Mkdb.Sql Mkdb.Tuple Mkdb.Spec Mkdb.Exec.SelectP Mkdb.Exec.AggP

theorem specTail_nostar_iff {q : Select} {fields : List Field} {src w : List Row}
    (hs : isStar q.list = false) :
    specTail q fields src = some w ↔
      ColumnsResolve q.list fields ∧
      (if groups q then specAgg q fields src = some w
        else src.mapM (fun r => q.list.mapM fun d => itemVal d.item fields r) = some w) := by
  rw [specTail_iff, hs, if_neg Bool.false_ne_true]

/-- a select list that starts with `*` has no meaning in a query that groups (an aggregate in the
list or a GROUP BY) -/
theorem specTail_groups_nostar {q : Select} {fields : List Field} {src w : List Row}
    (hg : groups q = true) (h : specTail q fields src = some w) : isStar q.list = false := by
  cases hs : isStar q.list with
  | false => rfl
  | true =>
    rw [specTail_iff, hs, if_pos rfl, hg] at h
    cases h.1

/-! ### the key at the GROUP BY positions (`GroupNoAggP.groupIdxs_iff`, `mapM_groupIdx_lt`: `Aggregate`) -/

/-- the key the executor groups by, on a projected row -/
def keyAt (idxs : List Nat) (pr : Row) : List Val := idxs.map fun i => (pr[i]?).getD .null

/-- everything in the select list but the COUNTs is constant on each group of `src` -/
def ConstOnGroups (q : Select) (fields : List Field) (src : List Row) : Prop :=
  ∀ idxs, q.groupBy.mapM (groupIdx q.list) = some idxs → GroupConst q.list fields (keyAt idxs) src

theorem ConstOnGroups.sublist {q : Select} {fields : List Field} {src src' : List Row}
    (h : ConstOnGroups q fields src) (hs : ∀ r ∈ src', r ∈ src) : ConstOnGroups q fields src' :=
  fun idxs hi => (h idxs hi).sublist hs

/-- the values an AVG averages are equal in each group of `src` -/
def AvgOnGroups (q : Select) (fields : List Field) (src : List Row) : Prop :=
  ∀ idxs, q.groupBy.mapM (groupIdx q.list) = some idxs → AvgConst q.list fields (keyAt idxs) src

theorem AvgOnGroups.sublist {q : Select} {fields : List Field} {src src' : List Row}
    (h : AvgOnGroups q fields src) (hs : ∀ r ∈ src', r ∈ src) : AvgOnGroups q fields src' :=
  fun idxs hi => (h idxs hi).sublist hs

/-- the grouping key of the specification on a source row is the executor's key on the projected
row -/
theorem keyOf_eq {sl : List DerivedCol} {fields : List Field} {idxs : List Nat} {r : Row}
    (hlt : ∀ i ∈ idxs, i < sl.length)
    (hproj : ∀ d ∈ idxs.filterMap (fun i => sl[i]?), itemVal d.item fields r = some (pv fields d r)) :
    (idxs.filterMap fun i => sl[i]?).mapM (fun d => itemVal d.item fields r) =
      some (keyAt idxs (projRow sl fields r)) := by
  induction idxs with
  | nil => rfl
  | cons i rest ih =>
    have hi : i < sl.length := hlt i List.mem_cons_self
    have hget : sl[i]? = some sl[i] := List.getElem?_eq_getElem hi
    rw [List.filterMap_cons_some hget] at hproj ⊢
    refine mapM_cons_some.2 ⟨pv fields sl[i] r, keyAt rest (projRow sl fields r),
      hproj _ List.mem_cons_self, ih (fun j hj => hlt j (List.mem_cons_of_mem _ hj))
        (fun d hd => hproj d (List.mem_cons_of_mem _ hd)), ?_⟩
    unfold keyAt
    rw [List.map_cons, projRow_getElem? hget]
    rfl

theorem keyOf_some {sl : List DerivedCol} {fields : List Field} {idxs : List Nat} {r : Row}
    {k : List Val} (hlt : ∀ i ∈ idxs, i < sl.length)
    (h : (idxs.filterMap fun i => sl[i]?).mapM (fun d => itemVal d.item fields r) = some k) :
    k = keyAt idxs (projRow sl fields r) := by
  have := keyOf_eq (fields := fields) (r := r) hlt (fun d hd => by
    obtain ⟨v, hv⟩ := mapM_some_forall h d hd
    simp only [pv, hv, Option.getD_some])
  rw [h] at this
  exact Option.some.inj this

/-! ### the empty input without GROUP BY -/

/-- the cells of the one row of zeros -/
def zeroCell (d : DerivedCol) : X Val :=
  match d.item with
  | .count _ => pure (Val.int 0)
  | .avg _ => pure (Val.int 0)
  | .expr c => evaluate c [] []
  | .star => X.err .nothingToEvaluate

theorem okOf_zeroCell (d : DerivedCol) :
    okOf (zeroCell d) = if isAgg d.item then some (Val.int 0) else itemVal d.item [] [] := by
  unfold zeroCell
  rw [itemVal_eq_okOf]
  cases d.item with
  | count c => rfl
  | avg c => rfl
  | star => rfl
  | expr e =>
    cases e with
    | val w =>
      cases w with
      | lit l => rfl
      | col c =>
        -- `evaluate` answers no bare column, and `projectItem` finds none in the empty header
        simp only [evaluate, projectItem, okOf_bind, NoPanicP.okOf_findColumn_nil, Option.bind_none]
        rfl
    | pred p => rfl
    | and p r => rfl
    | or l r => rfl

theorem specAgg_zero {q : Select} {fields : List Field} (hgb : q.groupBy = []) :
    specAgg q fields [] =
      (q.list.mapM fun d => if isAgg d.item then some (Val.int 0) else itemVal d.item [] []).bind
        fun row => some [row] := by
  unfold specAgg
  rw [hgb]
  rfl

theorem eraseDups_const {α : Type} (c : List Val) (l : List α) (h : l ≠ []) :
    (l.map fun _ => c).eraseDups = [c] := by
  cases l with
  | nil => exact absurd rfl h
  | cons a t =>
    rw [List.map_cons, List.eraseDups_cons]
    have : (List.filter (fun b => !b == c) (t.map fun _ => c)) = [] := by
      rw [List.filter_eq_nil_iff]
      intro b hb
      obtain ⟨_, _, rfl⟩ := List.mem_map.1 hb
      simp
    rw [this]
    rfl

/-! ### `aggregateRows`, unfolded -/

theorem aggregateRows_zero {sl : List DerivedCol} {gb : List ColRef}
    (hnp : (!hasAggr sl && gb.isEmpty) = false) (hgb : gb = []) :
    aggregateRows sl gb [] = (mapX zeroCell sl >>= fun r => pure [r]) := by
  subst hgb
  simp only [List.isEmpty_nil] at hnp
  unfold aggregateRows
  simp only [List.isEmpty_nil, hnp, Bool.and_self, Bool.false_eq_true, if_false, if_true]
  rfl

/-- (after a select list that starts with `*` the rows are not projected and `aggregateStar` runs
instead: the same on no rows) -/
theorem aggregateRows_grouped {sl : List DerivedCol} {gb : List ColRef} {rows : List Row}
    (hnp : (!hasAggr sl && gb.isEmpty) = false) (hne : (gb.isEmpty && rows.isEmpty) = false)
    (hs : isStar sl = false ∨ rows = []) :
    aggregateRows sl gb rows = (NoPanicP.groupIdxs sl gb >>= fun idxs =>
      mapX (fun g => mapX (fun (p : Nat × DerivedCol) => aggCell p.2.item p.1 g)
        ((List.range sl.length).zip sl)) (groupsOf (keyAt idxs) rows)) := by
  rw [GroupNoAggP.aggregateRows_grouping hnp hne]
  refine congrArg (NoPanicP.groupIdxs sl gb >>= ·) (funext fun idxs => ?_)
  rcases hs with hs | rfl
  · rw [hs]; rfl
  · cases isStar sl <;> rfl

/-- a select list that starts with `*` has no value on any row: `Projects` of it is of no rows -/
theorem projects_star_nil {sl : List DerivedCol} {fields : List Field} {src : List Row}
    (hproj : Projects sl fields src) : isStar sl = false ∨ src = [] := by
  cases hs : isStar sl with
  | false => exact .inl rfl
  | true =>
    right
    cases src with
    | nil => rfl
    | cons r rs =>
      exfalso
      cases sl with
      | nil => cases hs
      | cons d rest =>
        have hd : d.item = SelItem.star := by simpa [isStar] using hs
        have h := hproj r (List.mem_cons_self ..) d (List.mem_cons_self ..)
        rw [hd] at h
        cases h

/-! ### the grouping part of the meaning as one comprehension over the distinct keys -/

/-- the row of the meaning for the group with key `k` -/
def rowS (sl : List DerivedCol) (fields : List Field) (idxs : List Nat) (src : List Row)
    (k : List Val) : Option Row :=
  sl.mapM fun d => aggVal d.item fields
    (src.filter fun r => keyAt idxs (projRow sl fields r) == k)

theorem specAgg_groups' {q : Select} {fields : List Field} {src : List Row} {idxs : List Nat}
    {ks : List (List Val)}
    (hgi : q.groupBy.mapM (groupIdx q.list) = some idxs)
    (hks : src.mapM (fun r => (idxs.filterMap fun i => q.list[i]?).mapM
      (fun d => itemVal d.item fields r)) = some ks)
    (hz : ¬(q.groupBy = [] ∧ src = [])) :
    specAgg q fields src =
      (distinctKeys (src.map fun r => keyAt idxs (projRow q.list fields r))).mapM
        (rowS q.list fields idxs src) := by
  have hkeys : src.mapM (fun r => (idxs.filterMap fun i => q.list[i]?).mapM
      (fun d => itemVal d.item fields r)) = some (src.map fun r => keyAt idxs (projRow q.list fields r)) := by
    obtain ⟨e, _⟩ := mapM_some_eq_map (g := fun r => keyAt idxs (projRow q.list fields r)) hks
      (fun r _ k hk => keyOf_some (GroupNoAggP.mapM_groupIdx_lt hgi) hk)
    rw [hks, e]
  unfold specAgg rowS
  simp only [hgi, Option.bind_eq_bind, Option.bind_some, hkeys]
  cases hg : q.groupBy with
  | cons g gs =>
    simp only [List.isEmpty_cons, Bool.false_eq_true, if_false, zip_map_filterMap_key]
  | nil =>
    have hsrc : src ≠ [] := fun e => hz ⟨hg, e⟩
    rw [hg] at hgi
    simp only [List.mapM_nil, Option.pure_def, Option.some.injEq] at hgi
    subst hgi
    have hk : (fun r => keyAt [] (projRow q.list fields r)) = fun (_ : Row) => ([] : List Val) := rfl
    have hsi : src.isEmpty = false := List.isEmpty_eq_false_iff.2 hsrc
    have hfs : src.filter (fun r => keyAt [] (projRow q.list fields r) == []) = src :=
      List.filter_eq_self.2 (fun _ _ => rfl)
    simp only [List.isEmpty_nil, if_true, hsi, Bool.false_eq_true, if_false]
    rw [hk]
    unfold distinctKeys
    rw [eraseDups_const [] src hsrc]
    simp only [List.mapM_cons, List.mapM_nil, Option.pure_def, Option.bind_eq_bind]
    rw [hfs]
    cases List.mapM (fun d => aggVal d.item fields src) q.list <;> rfl

theorem specAgg_groups {q : Select} {fields : List Field} {src : List Row} {idxs : List Nat}
    (hgi : q.groupBy.mapM (groupIdx q.list) = some idxs) (hproj : Projects q.list fields src)
    (hz : ¬(q.groupBy = [] ∧ src = [])) :
    specAgg q fields src =
      (distinctKeys (src.map fun r => keyAt idxs (projRow q.list fields r))).mapM
        (rowS q.list fields idxs src) :=
  specAgg_groups' hgi
    (mapM_eq_some_map (fun r hr => keyOf_eq (GroupNoAggP.mapM_groupIdx_lt hgi)
      (fun d hd => by
        obtain ⟨_, _, hi⟩ := List.mem_filterMap.1 hd
        exact hproj r hr d (List.mem_of_getElem? hi)))) hz

/-- **GROUP BY / aggregates, executor = specification**: on the projected rows of `src`,
`aggregateRows` answers `out` exactly when the grouping part of the meaning of the query on `src`
is `out` - same groups in the same (first-occurrence) order, same counts, same representative for
the non-aggregate elements, the one row of zeros for an empty input without GROUP BY.  (Hypotheses:
the select list or the GROUP BY asks for grouping, `hg`; every select-list element has a value on
every row, `hproj`; everything but the COUNTs is constant on each group, `hconst`: the reference
meaning demands it of the non-aggregate elements, and for an `AVG` it is the case in which the
code's cumulative average is the mean.) -/
theorem aggregate_agree {q : Select} {fields : List Field} {src out : List Row}
    (hg : groups q = true)
    (hres : ColumnsResolve q.list fields) (hproj : Projects q.list fields src)
    (hconst : ConstOnGroups q fields src) :
    aggregateRows q.list q.groupBy (src.map (projRow q.list fields)) = .ok out ↔
      specAgg q fields src = some out := by
  suffices h : okOf (aggregateRows q.list q.groupBy (src.map (projRow q.list fields))) =
      specAgg q fields src by rw [okOf_eq_some, h]
  have hnp := (groups_iff q).1 hg
  by_cases hz : q.groupBy = [] ∧ src = []
  · obtain ⟨hgb, rfl⟩ := hz
    rw [List.map_nil, aggregateRows_zero hnp hgb, okOf_bind, okOf_mapX, specAgg_zero hgb]
    simp only [okOf_zeroCell]
    rfl
  · have hne : (q.groupBy.isEmpty && (src.map (projRow q.list fields)).isEmpty) = false := by
      rw [List.isEmpty_map, Bool.eq_false_iff, Ne, Bool.and_eq_true, List.isEmpty_iff,
        List.isEmpty_iff]
      exact hz
    rw [aggregateRows_grouped hnp hne ((projects_star_nil hproj).imp id (fun e => by rw [e]; rfl)),
      okOf_bind, okOf_eq_of_iff fun _ => GroupNoAggP.groupIdxs_iff]
    cases hgi : q.groupBy.mapM (groupIdx q.list) with
    | none => unfold specAgg; rw [hgi]; rfl
    | some idxs =>
      obtain ⟨out0, hM, hS⟩ := groups_agree (keyAt idxs) hproj hres (hconst idxs hgi)
      rw [Option.bind_some, hM, specAgg_groups hgi hproj hz]
      exact hS.symm

end Mkdb.Exec.MeaningP
end

section
/-!
Aggregates and GROUP BY over
any FROM clause (C07 on top of C06).

The nested loops deliver the rows of a join in another order than the relational definition
lists them, so executor and reference meaning group two permutations of one list.  The groups and
the counts do not depend on the order; the *first row* of a group does, which is where the executor
takes a select-list element that is not a COUNT from.  The reference meaning gives such an element
a value only if it is constant on the group (`specAgg_inv`: what a defined meaning says about the
source rows); `GroupConst` is that hypothesis for the executor's side, `groupConst_of_grouped`: it
holds when every other element is a literal or a GROUP BY column.
-/
namespace Mkdb.Exec.MeaningP
open Mkdb.Sql Mkdb.Tuple Mkdb.Spec Mkdb.Exec.SelectP Mkdb.Exec.AggP

/-- **one aggregate does not depend on the order of the rows of the group**: a COUNT always, any
other element when it is constant on the group -/
theorem aggVal_perm {sl : List DerivedCol} {fields : List Field} {grp grp' : List Row}
    {d : DerivedCol} (hp : grp'.Perm grp) (hd : d ∈ sl) (hproj : Projects sl fields grp)
    (hres : ∀ c ∈ itemColumns d.item, ∃ j, findColumn c fields = .ok j)
    (hconst : (∀ c, d.item ≠ .count c) → ∀ r ∈ grp, ∀ r' ∈ grp, pv fields d r = pv fields d r') :
    aggVal d.item fields grp' = aggVal d.item fields grp := by
  rw [aggVal_eq_aggOf hd (hproj.sublist fun r hr => hp.mem_iff.1 hr) hres,
    aggVal_eq_aggOf hd hproj hres]
  refine aggOf_perm (hp.map _) fun hc v hv w hw => ?_
  obtain ⟨r, hr, rfl⟩ := List.mem_map.1 hv
  obtain ⟨r', hr', rfl⟩ := List.mem_map.1 hw
  exact hconst hc r hr r' hr'

theorem distinctKeys_perm {ks ks' : List (List Val)} (hp : ks'.Perm ks) :
    (distinctKeys ks').Perm (distinctKeys ks) := by
  unfold distinctKeys
  rw [List.perm_ext_iff_of_nodup (nodup_eraseDups _) (nodup_eraseDups _)]
  intro a
  rw [List.mem_eraseDups, List.mem_eraseDups]
  exact hp.mem_iff

/-- **the grouping part of the meaning does not depend on the order of the source rows**, as a
multiset of result rows, when everything but the COUNTs is constant on each group -/
theorem specAgg_perm {q : Select} {fields : List Field} {src src' out' : List Row} {idxs : List Nat}
    (hp : src'.Perm src) (hgi : q.groupBy.mapM (groupIdx q.list) = some idxs)
    (hres : ColumnsResolve q.list fields) (hproj : Projects q.list fields src)
    (hconst : GroupConst q.list fields (keyAt idxs) src)
    (h : specAgg q fields src' = some out') :
    ∃ out, specAgg q fields src = some out ∧ out'.Perm out := by
  by_cases hz : q.groupBy = [] ∧ src = []
  · obtain ⟨_, rfl⟩ := hz
    have : src' = [] := List.Perm.eq_nil hp
    subst this
    exact ⟨out', h, .refl _⟩
  · have hz' : ¬(q.groupBy = [] ∧ src' = []) := by
      rintro ⟨hg, rfl⟩
      exact hz ⟨hg, (List.Perm.nil_eq hp).symm⟩
    have hproj' : Projects q.list fields src' := hproj.sublist (fun r hr => hp.mem_iff.1 hr)
    rw [specAgg_groups hgi hproj' hz'] at h
    rw [specAgg_groups hgi hproj hz]
    -- the rows of the two comprehensions agree key by key
    have hrow : ∀ k, rowS q.list fields idxs src' k = rowS q.list fields idxs src k := fun k => by
      unfold rowS
      refine mapM_congr fun d hd => aggVal_perm (hp.filter _) hd
        (hproj.sublist (fun r hr => (List.mem_filter.1 hr).1)) (hres d hd) ?_
      intro hcnt r1 hr1 r2 hr2
      obtain ⟨h1, k1⟩ := List.mem_filter.1 hr1
      obtain ⟨h2, k2⟩ := List.mem_filter.1 hr2
      exact hconst d hd hcnt r1 h1 r2 h2 ((beq_iff_eq.1 k1).trans (beq_iff_eq.1 k2).symm)
    rw [mapM_congr fun k _ => hrow k] at h
    have hdk := distinctKeys_perm (hp.map fun r => keyAt idxs (projRow q.list fields r))
    obtain ⟨out, hout, hperm⟩ := mapM_perm hdk.symm h
    exact ⟨out, hout, hperm.symm⟩

/-! ### what a defined grouping part of the meaning says about the source rows -/

theorem specAgg_some_keys {q : Select} {fields : List Field} {src out : List Row}
    (h : specAgg q fields src = some out) :
    ∃ idxs ks, q.groupBy.mapM (groupIdx q.list) = some idxs ∧
      src.mapM (fun r => (idxs.filterMap fun i => q.list[i]?).mapM
        (fun d => itemVal d.item fields r)) = some ks := by
  unfold specAgg at h
  cases hgi : q.groupBy.mapM (groupIdx q.list) with
  | none => simp only [hgi, Option.bind_eq_bind, Option.bind_none] at h; cases h
  | some idxs =>
    simp only [hgi, Option.bind_eq_bind, Option.bind_some] at h
    cases hks : src.mapM (fun r => (idxs.filterMap fun i => q.list[i]?).mapM
        (fun d => itemVal d.item fields r)) with
    | none => simp only [hks, Option.bind_none] at h; cases h
    | some ks => exact ⟨idxs, ks, rfl, hks⟩

/-- an aggregate that is defined on a group is computed from values every row of the group has:
the select-list element evaluates on each of them (a `COUNT(col)` on rows that are long enough), to
the aggregate itself when it is neither a COUNT nor an AVG -/
theorem itemVal_of_aggVal {fields : List Field} {grp : List Row} {d : DerivedCol} {v : Val}
    (hres : ∀ c ∈ itemColumns d.item, ∃ j, findColumn c fields = .ok j)
    (hlen : ∀ r ∈ grp, r.length = fields.length) (h : aggVal d.item fields grp = some v) :
    ∀ r ∈ grp, ∃ w, itemVal d.item fields r = some w ∧
      ((∀ c, d.item ≠ .count c) → (∀ c, d.item ≠ .avg c) → w = v) := by
  rw [aggVal_eq_bind hres fun c hc r hr => by
    obtain ⟨j, hj⟩ := hres c (by rw [hc]; exact List.mem_cons_self)
    have hlt : j < r.length := by rw [hlen r hr]; exact NoPanicP.findColumn_lt hj
    refine ⟨if r[j] = .null then .int 0 else .int 1, ?_⟩
    rw [hc, itemVal_some_iff]
    simp only [projectItem, hj, bind_ok, List.getElem?_eq_getElem hlt]
    cases r[j] <;> rfl] at h
  obtain ⟨vs, hvs, hagg⟩ := Option.bind_eq_some_iff.1 h
  intro r hr
  obtain ⟨w, hwm, hw⟩ := mapM_some_mem hvs r hr
  refine ⟨w, hw, fun h1 h2 => ?_⟩
  have hc : constAll (some vs) = some v := by
    cases hi : d.item with
    | count c => exact absurd hi (h1 c)
    | avg c => exact absurd hi (h2 c)
    | star => rw [hi] at hagg; exact hagg
    | expr e => rw [hi] at hagg; exact hagg
  obtain ⟨rest, rfl, hall⟩ := constAll_some_iff.1 hc
  rcases List.mem_cons.1 hwm with e | hm
  · exact e
  · exact hall w hm

/-- **a defined grouping part of the meaning**: every select-list element has a value on every
source row (rows as long as the header), and every element that is neither a COUNT nor an AVG is
constant on each group -/
theorem specAgg_inv {q : Select} {fields : List Field} {src out : List Row} {idxs : List Nat}
    (hgi : q.groupBy.mapM (groupIdx q.list) = some idxs) (hz : ¬(q.groupBy = [] ∧ src = []))
    (hres : ColumnsResolve q.list fields) (hlen : ∀ r ∈ src, r.length = fields.length)
    (h : specAgg q fields src = some out) :
    Projects q.list fields src ∧ PlainConst q.list fields (keyAt idxs) src := by
  obtain ⟨idxs', ks, hgi', hks⟩ := specAgg_some_keys h
  rw [hgi] at hgi'
  cases hgi'
  rw [specAgg_groups' hgi hks hz] at h
  have hcell : ∀ r ∈ src, ∀ d ∈ q.list, ∃ v, aggVal d.item fields
      (src.filter fun r' => keyAt idxs (projRow q.list fields r') ==
        keyAt idxs (projRow q.list fields r)) = some v := by
    intro r hr d hd
    have hk : keyAt idxs (projRow q.list fields r) ∈
        distinctKeys (src.map fun r => keyAt idxs (projRow q.list fields r)) := by
      unfold distinctKeys
      rw [List.mem_eraseDups]
      exact List.mem_map.2 ⟨r, hr, rfl⟩
    obtain ⟨row, hrow⟩ := mapM_some_forall h _ hk
    exact mapM_some_forall hrow d hd
  have hlenf : ∀ {k : List Val}, ∀ r ∈ src.filter fun r' => keyAt idxs (projRow q.list fields r') == k,
      r.length = fields.length := fun r hr => hlen r (List.mem_filter.1 hr).1
  have hself : ∀ r ∈ src, r ∈ src.filter fun r' => keyAt idxs (projRow q.list fields r') ==
      keyAt idxs (projRow q.list fields r) :=
    fun r hr => List.mem_filter.2 ⟨hr, beq_self_eq_true _⟩
  constructor
  · intro r hr d hd
    obtain ⟨v, hv⟩ := hcell r hr d hd
    obtain ⟨w, hw, _⟩ := itemVal_of_aggVal (hres d hd) hlenf hv r (hself r hr)
    simp only [pv, hw, Option.getD_some]
  · intro d hd h1 h2 r hr r' hr' hk
    obtain ⟨v, hv⟩ := hcell r hr d hd
    obtain ⟨w, hw, hwv⟩ := itemVal_of_aggVal (hres d hd) hlenf hv r (hself r hr)
    have hr'g : r' ∈ src.filter fun r'' => keyAt idxs (projRow q.list fields r'') ==
        keyAt idxs (projRow q.list fields r) :=
      List.mem_filter.2 ⟨hr', by rw [hk]; exact beq_self_eq_true _⟩
    obtain ⟨w', hw', hwv'⟩ := itemVal_of_aggVal (hres d hd) hlenf hv r' hr'g
    simp only [pv, hw, hw', Option.getD_some]
    rw [hwv h1 h2, hwv' h1 h2]

/-! ### when is everything but the COUNTs constant on each group? -/

/-- every select-list element is a COUNT, a literal, or the column a GROUP BY reference designates -/
def groupedItems (sl : List DerivedCol) (idxs : List Nat) : Bool :=
  (List.range sl.length).all fun i => match sl[i]? with
    | some d => (match d.item with
        | .count _ => true
        | .expr (.val (.lit _)) => true
        | _ => idxs.contains i)
    | none => true

theorem keyAt_eq_at {idxs : List Nat} {pr pr' : Row} (h : keyAt idxs pr = keyAt idxs pr') {i : Nat}
    (hi : i ∈ idxs) : (pr[i]?).getD .null = (pr'[i]?).getD .null := by
  unfold keyAt at h
  exact List.map_inj_left.1 h i hi

theorem groupConst_of_grouped {sl : List DerivedCol} {idxs : List Nat}
    (h : groupedItems sl idxs = true) (fields : List Field) (src : List Row) :
    GroupConst sl fields (keyAt idxs) src := by
  intro d hd hcnt r _ r' _ hk
  obtain ⟨i, hi, hget⟩ := List.mem_iff_getElem.1 hd
  have hget' : sl[i]? = some d := by rw [List.getElem?_eq_getElem hi, hget]
  unfold groupedItems at h
  rw [List.all_eq_true] at h
  have hdi := h i (List.mem_range.2 hi)
  rw [hget'] at hdi
  dsimp only at hdi
  have hkey : idxs.contains i = true → pv fields d r = pv fields d r' := by
    intro hc
    have hmem : i ∈ idxs := by simpa using hc
    have := keyAt_eq_at hk hmem
    rw [projRow_getElem? hget', projRow_getElem? hget'] at this
    exact this
  cases hitem : d.item with
  | count c => exact absurd hitem (hcnt c)
  | star => rw [hitem] at hdi; exact hkey hdi
  | avg c => rw [hitem] at hdi; exact hkey hdi
  | expr e =>
    rw [hitem] at hdi
    cases e with
    | val w =>
      cases w with
      | lit l => simp only [pv, hitem]; rfl
      | col c => exact hkey hdi
    | pred p => exact hkey hdi
    | and p r => exact hkey hdi
    | or l r => exact hkey hdi

end Mkdb.Exec.MeaningP
end
