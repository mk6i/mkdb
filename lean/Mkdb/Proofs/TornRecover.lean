import Mkdb.Proofs.CkptRounds
import Mkdb.Proofs.TornLiveRun
import Mkdb.Proofs.TornReplay
/-!
`Engine.recover` on a data file whose pages are, each, the page some boundary database of a run
without allocation showed - several flushes, torn anywhere; as in `Redo.Image`, for the concrete
recovery model and real logs (`Ckpt.image_round`).  The data file a single torn flush leaves
(`tornFlush`) is such a file (`Ckpt.torn_flush_round`), and rounds with torn flushes keep the
checkpoint invariant (`RoundsT`).

`SameNodes`: two trees with the same page objects, dirty bits aside - what the replayed store holds
against what the live store holds; everything read off a description without the dirty bits carries
over.
-/
set_option autoImplicit false
namespace Mkdb.Store
open Mkdb.Page Mkdb.Tuple Mkdb.Generated Mkdb.Tree Mkdb.Engine

/-! ### the same page objects, dirty bits aside -/

/-- the same pages in the same places; the dirty bits of the leaves may differ -/
def SameNodes (t t' : Levels) : Prop := t'.inner = t.inner ∧ t'.leaves.map (·.1) = t.leaves.map (·.1)

/-- the same tree once the dirty bits are cleared: what `FlushPagesCat` says of `clean` carries over -/
theorem clean_sameNodes {t t' : Levels} (h : SameNodes t t') : clean t' = clean t := by
  unfold clean
  have hl : t'.leaves.map (fun p => (p.1, false)) = t.leaves.map (fun p => (p.1, false)) := by
    have := congrArg (List.map (fun l : Leaf => (l, false))) h.2
    simp only [List.map_map] at this
    exact this
  rw [hl, h.1]

theorem SameNodes.cells {t t' : Levels} (h : SameNodes t t') : Tree.cells t' = Tree.cells t := by
  rw [← cells_clean t', clean_sameNodes h, cells_clean]

theorem SameNodes.keys {t t' : Levels} (h : SameNodes t t') : Tree.keys t' = Tree.keys t := by
  rw [← keys_clean t', clean_sameNodes h, keys_clean]

theorem SameNodes.flatten {t t' : Levels} (h : SameNodes t t') :
    (Tree.flatten t').map (fun x => (x.1, x.2.1)) = (Tree.flatten t).map (fun x => (x.1, x.2.1)) := by
  have e : ∀ u : Levels, (Tree.flatten u).map (fun x => (x.1, x.2.1)) =
      (Tree.flatten (clean u)).map (fun x => (x.1, x.2.1)) := fun u => by
    rw [flatten_clean, List.map_map]; rfl
  rw [e t', e t, clean_sameNodes h]

theorem SameNodes.mem_flatten {t t' : Levels} (h : SameNodes t t') {x : Nat × Node × Bool} (hx : x ∈ Tree.flatten t') :
    ∃ y ∈ Tree.flatten t, y.1 = x.1 ∧ y.2.1 = x.2.1 := by
  have : (x.1, x.2.1) ∈ (Tree.flatten t).map (fun x => (x.1, x.2.1)) := by
    rw [← SameNodes.flatten h]
    exact List.mem_map.mpr ⟨x, hx, rfl⟩
  obtain ⟨y, hy, e⟩ := List.mem_map.mp this
  simp only [Prod.mk.injEq] at e
  exact ⟨y, hy, e.1, e.2⟩

theorem SameNodes.offs {t t' : Levels} (h : SameNodes t t') : Tree.offs t' = Tree.offs t := by
  rw [← offs_clean t', clean_sameNodes h, offs_clean]

theorem SameNodes.rootOff {t t' : Levels} (h : SameNodes t t') : Tree.rootOff t' = Tree.rootOff t := by
  rw [← rootOff_clean t', clean_sameNodes h, rootOff_clean]

theorem SameNodes.symm {t t' : Levels} (h : SameNodes t t') : SameNodes t' t := ⟨h.1.symm, h.2.symm⟩

theorem sameNodes_fill {cA cB : Pages} {t : Levels} (h : ∀ o ∈ leafOffs t, (cB o).1 = (cA o).1) :
    SameNodes (fill cA t) (fill cB t) := by
  refine ⟨rfl, ?_⟩
  rw [fill_leaves, fill_leaves, List.map_map, List.map_map]
  apply List.map_congr_left
  intro p hp
  exact h _ (mem_leafOffs hp)

/-- the abstraction to the plain database does not look at the dirty bits -/
theorem AbsTables.sameC {sch : Levels} {cA cB : Pages} (hc : ∀ o, (cB o).1 = (cA o).1) :
    ∀ {D0 : List (Bytes × Levels)} {sdb : Spec.SDB}, AbsTables sch (fillT cA D0) sdb → AbsTables sch (fillT cB D0) sdb
  | [], _, h => h
  | e :: D, _, .cons hx hrest =>
    .cons (hx.of_live rfl (by unfold live; rw [SameNodes.cells (sameNodes_fill (t := e.2) fun o _ => hc o)]))
      (AbsTables.sameC hc hrest)

/-! ### the data file a torn flush leaves -/

/-- one page write of the flush -/
def tornStep (s : Store) (d : List (Nat × Node)) (off : Nat) : List (Nat × Node) :=
  match assocGet s.mem off with
  | some m => assocSet d (nodeOff m.node) m.node
  | none => d

theorem tornFlush_disk (s : Store) (order : List Nat) (j : Nat) :
    (tornFlush s order j).disk = (order.take j).foldl (tornStep s) s.disk := rfl

theorem tornFold_get (s : Store) (hmf : MemFiled s) (o : Nat) : ∀ (ws : List Nat) (d0 : List (Nat × Node)),
    assocGet (ws.foldl (tornStep s) d0) o =
      if o ∈ ws ∧ (assocGet s.mem o).isSome = true then (assocGet s.mem o).map (·.node) else assocGet d0 o
  | [], d0 => by simp
  | w :: ws, d0 => by
    rw [List.foldl_cons, tornFold_get s hmf o ws]
    by_cases h1 : o ∈ ws ∧ (assocGet s.mem o).isSome = true
    · rw [if_pos h1, if_pos ⟨List.mem_cons_of_mem _ h1.1, h1.2⟩]
    · rw [if_neg h1]
      unfold tornStep
      cases hw : assocGet s.mem w with
      | none =>
        simp only
        have : ¬ (o ∈ w :: ws ∧ (assocGet s.mem o).isSome = true) := by
          rintro ⟨h2, h3⟩
          rcases List.mem_cons.mp h2 with rfl | h2
          · rw [hw] at h3; cases h3
          · exact h1 ⟨h2, h3⟩
        rw [if_neg this]
      | some m =>
        simp only
        rw [hmf.get hw, assocGet_assocSet]
        by_cases e : o = w
        · subst e
          rw [if_pos rfl, if_pos ⟨List.mem_cons_self, by rw [hw]; rfl⟩, hw]
          rfl
        · rw [if_neg e]
          have : ¬ (o ∈ w :: ws ∧ (assocGet s.mem o).isSome = true) := by
            rintro ⟨h2, h3⟩
            rcases List.mem_cons.mp h2 with h2 | h2
            · exact e h2
            · exact h1 ⟨h2, h3⟩
          rw [if_neg this]

theorem torn_disk_written {s : Store} (hmf : MemFiled s) {order : List Nat} {j o : Nat} {m : MNode}
    (hw : o ∈ order.take j) (hm : assocGet s.mem o = some m) :
    assocGet (tornFlush s order j).disk o = some m.node := by
  rw [tornFlush_disk, tornFold_get s hmf, if_pos ⟨hw, by rw [hm]; rfl⟩, hm]
  rfl

theorem torn_disk_unwritten {s : Store} (hmf : MemFiled s) {order : List Nat} {j o : Nat}
    (h : ¬ (o ∈ order.take j ∧ (assocGet s.mem o).isSome = true)) :
    assocGet (tornFlush s order j).disk o = assocGet s.disk o := by
  rw [tornFlush_disk, tornFold_get s hmf, if_neg h]

theorem reopen_tornFlush (s : Store) (order : List Nat) (j : Nat) :
    reopen (tornFlush s order j) = tornFlush s order j := rfl

theorem cleanT_fillT_sameC {cA cB : Pages} {D0 : List (Bytes × Levels)} (h : ∀ o, (cB o).1 = (cA o).1) :
    cleanT (fillT cB D0) = cleanT (fillT cA D0) := by
  unfold cleanT fillT
  simp only [List.map_map]
  apply List.map_congr_left
  intro e _
  simp only [Function.comp]
  rw [clean_sameNodes (sameNodes_fill (t := e.2) fun o _ => h o)]

/-- **Recovery from any mixture of boundary pages.**  `h`: `db` is checkpointed; `runs`: statements take it
through the boundary databases `mids` to `dbN`, allocating no page; `r0`: a data file - `himg`: at every page
offset of the catalog (page table, `sys_schema`, every page of every user table) it holds the page object
that some database among `db :: mids` showed at that offset, a different one for each offset if need be
(pages flushed at different moments, flushes torn anywhere); its header has the allocation frontier and
catalog root of `db` and counters not behind `db`'s.  `Engine.recover` on `r0` with the log of `dbN`
succeeds, keeps the log, and ends checkpointed for the plain database `sdbN` of all acknowledged
statements. -/
theorem Ckpt.image_round {sch : Levels} {db dbN : Engine.DB} {sdb sdbN : Spec.SDB} {mids : List Engine.DB}
    {pt : Levels} {tbls : List (Bytes × Levels)} (h : Ckpt sch db sdb pt tbls)
    (runs : SpecRunsNA sch db sdb mids dbN sdbN) (r0 : Store)
    (hnf0 : r0.dhdr.nextFree = db.store.hdr.nextFree) (hpr0 : r0.dhdr.ptRoot = db.store.hdr.ptRoot)
    (hlk0 : db.store.hdr.lastKey ≤ r0.dhdr.lastKey) (hls0 : db.store.hdr.nextLSN ≤ r0.dhdr.nextLSN)
    (himg : ∀ x ∈ catTrees pt sch tbls, ∀ e ∈ flatten x, ∃ dbm ∈ db :: mids, ∃ n d,
      view dbm.store e.1 = some (n, d) ∧ assocGet r0.disk e.1 = some n)
    (o1 o2 : List Nat) :
    ∃ db' tblsL, Engine.recover { store := r0, wal := dbN.wal } o1 o2 = .ok db' ∧
      db'.wal = dbN.wal ∧ AbsV dbN.store pt sch tblsL sdbN ∧ Ckpt sch db' sdbN (clean pt) (cleanT tblsL) ∧
      db'.store.hdr.nextFree = dbN.store.hdr.nextFree ∧ dbN.store.hdr.lastKey ≤ db'.store.hdr.lastKey ∧
      db'.store.hdr.ptRoot = dbN.store.hdr.ptRoot ∧ dbN.store.hdr.nextLSN ≤ db'.store.hdr.nextLSN := by
  obtain ⟨_, hcs, _⟩ := h.disk.clean_eq
  obtain ⟨_, habs0, _⟩ := h.abs
  have hsk := habs0.cat.skel h.fresh
  have hfill := fillT_pageOf hsk.disj hsk.lnd
  obtain ⟨c, logs, _, a0, H, hw, rfl, hAN, hfN, hlk, _, hbd, hlogN, _, hnext, hnfN⟩ :=
    spec_runs_hist sch runs pt tbls (pageOf tbls) tbls hfill.symm (pFiled_pageOf hsk.disj hsk.lnd) hsk
      h.abs h.fresh h.log h.lsn
  have hc0 : fillT (c 0) tbls = tbls := by rw [a0]; exact hfill
  obtain ⟨sdbF, habsF, hvF⟩ := hAN
  -- at the offset of a catalog page the data file holds what the description of some moment has there: the
  -- boundary database `himg` took the page from holds the catalog of a moment (`hbd`)
  obtain ⟨k, hk, hdisk⟩ := H.image_onDisk r0 (by
    rw [hc0]
    intro x hx e he
    obtain ⟨dbm, hm, n, d, hv, hd⟩ := himg x hx e he
    obtain ⟨j, hj, hcj⟩ := hbd dbm hm
    refine ⟨(h.disk x hx e he).2, j, hj, fun xj hxj ej hej heq => ?_⟩
    have := (hcj.tree xj hxj).1 ej hej
    rw [heq, hv] at this
    rw [heq, hd, (Prod.mk.inj (Option.some.inj this)).1])
  -- the replay of the whole log
  obtain ⟨rN, ρ, eall, hcN, hnN, hcl, hdk, _, _, hlsnR, hkeysR, hmonoR, hlsnT⟩ :=
    torn_image_replay H h.self k hk db.wal (by rw [hc0]; exact h.log) (reopen r0) rfl hdisk
      hnf0 (by show _ = r0.dhdr.ptRoot; rw [hpr0]; exact habs0.cat.root)
      (by
        rcases hlk with e | ⟨r, hr, hop, hcell⟩
        · left; rw [e]; exact hlk0
        · exact .inr ⟨r, List.mem_append_right _ hr, hop, hcell⟩)
  rw [← hw] at eall hlsnR hkeysR
  have hsameC : ∀ o, ((c logs.length o).1, ρ o).1 = (c logs.length o).1 := fun _ => rfl
  have htabs : AbsTables sch (fillT (fun o => ((c logs.length o).1, ρ o)) tbls) sdbF :=
    AbsTables.sameC hsameC habsF.tabs
  have hlsnT' : r0.dhdr.nextLSN ≤ rN.hdr.nextLSN := hlsnT
  have hnx : dbN.store.hdr.nextLSN ≤ rN.hdr.nextLSN + 1 := by
    rcases hnext with h1 | ⟨r, hr, h1⟩
    · rw [h1]; omega
    · have := hlsnR r (by rw [hw]; exact List.mem_append_right _ hr); omega
  have hsy : Synced rN pt sch (fillT (fun o => ((c logs.length o).1, ρ o)) tbls) := hdisk.synced_fillT hdk hcl
  -- the bump and the two flushes.  The replayed description and the live one differ in dirty bits only, so they
  -- are one description once cleaned (`cleanT_fillT_sameC`): `FreshM` and `AppliedC` come from the live one
  obtain ⟨s', erec, hA', hm, hdh, hd, hh, hl, hkk⟩ := recover_of_replayed_core
    (db := { store := r0, wal := dbN.wal }) eall ⟨sdbF, ⟨hcN, htabs⟩, hvF⟩ hsy o1 o2
  rw [hcs, cleanT_fillT_sameC (cA := c logs.length) hsameC] at hA' hd
  have hnfR : s'.hdr.nextFree = dbN.store.hdr.nextFree := by rw [hh]; show rN.hdr.nextFree = _; rw [hnN, hnfN]
  refine ⟨_, _, erec, rfl, ⟨sdbF, habsF, hvF⟩,
    ⟨hA', h.self.clean, hfN.clean (by rw [hh]; exact hnx) (Nat.le_of_eq hnfR.symm), hm,
      fun r hr => hcs ▸ (hlogN r hr).clean, hl, hkk, hdh, hd⟩, hnfR, ?_, ?_, by rw [hh]; exact hnx⟩
  · rw [hh]; show _ ≤ rN.hdr.lastKey
    rcases hlk with e | ⟨r, hr, hop, hcell⟩
    · rw [e]; exact Nat.le_trans hlk0 hmonoR
    · rw [← hcell]; exact hkeysR r (by rw [hw]; exact List.mem_append_right _ hr) hop
  · rw [hh]; show rN.hdr.ptRoot = _
    rw [← hcN.root, ← habsF.cat.root]

/-- **A flush torn between two page writes, no page allocated since the checkpoint: recovery succeeds
and restores every acknowledged statement** (`C04_torn_flush_without_allocation_recovers`, where the statement
is read out).  The data file `tornFlush dbN.store order j` is a mixture of boundary pages: the case
`mids = [dbN]` of `Ckpt.image_round`. -/
theorem Ckpt.torn_flush_round {sch : Levels} {db dbN : Engine.DB} {sdb sdbN : Spec.SDB} {stmts : List EStmt}
    {pt : Levels} {tbls : List (Bytes × Levels)} (h : Ckpt sch db sdb pt tbls)
    (run : SpecRun sch db sdb stmts dbN sdbN) (hnf : dbN.store.hdr.nextFree = db.store.hdr.nextFree)
    (order : List Nat) (j : Nat) (o1 o2 : List Nat) :
    ∃ db' tblsL, Engine.recover { store := tornFlush dbN.store order j, wal := dbN.wal } o1 o2 = .ok db' ∧
      db'.wal = dbN.wal ∧ AbsV dbN.store pt sch tblsL sdbN ∧ Ckpt sch db' sdbN (clean pt) (cleanT tblsL) ∧
      db'.store.hdr.nextFree = dbN.store.hdr.nextFree ∧ dbN.store.hdr.lastKey ≤ db'.store.hdr.lastKey ∧
      db'.store.hdr.ptRoot = dbN.store.hdr.ptRoot ∧ dbN.store.hdr.nextLSN ≤ db'.store.hdr.nextLSN := by
  obtain ⟨_, habs0, _⟩ := h.abs
  obtain ⟨hd1, hd2, _⟩ := specRun_disk run
  have hmfN := specRun_memFiled run h.filed
  have hhT : (tornFlush dbN.store order j).dhdr = db.store.hdr := hd2.trans h.dhdr
  refine h.image_round (.cons run hnf (.nil dbN sdbN)) (tornFlush dbN.store order j) (by rw [hhT]) (by rw [hhT])
    (by rw [hhT]; exact Nat.le_refl _) (by rw [hhT]; exact Nat.le_refl _) ?_ o1 o2
  -- a page written by the torn flush is the page `dbN` shows, any other is the page of the checkpoint
  intro x hx e he
  by_cases hW : e.1 ∈ order.take j ∧ (assocGet dbN.store.mem e.1).isSome = true
  · obtain ⟨m, hm⟩ := Option.isSome_iff_exists.mp hW.2
    exact ⟨dbN, List.mem_cons_of_mem _ List.mem_cons_self, m.node, m.dirty, by unfold view; rw [hm],
      torn_disk_written hmfN hW.1 hm⟩
  · exact ⟨db, List.mem_cons_self, e.2.1, e.2.2, (habs0.cat.tree x hx).1 e he,
      by rw [torn_disk_unwritten hmfN hW, hd1]; exact (h.disk x hx e he).1⟩

/-- a history of rounds: statements, then a complete flush, or a crash with nothing flushed, or - if
the statements allocated no page - a flush torn before its `j`-th page write; a crash is followed by
start-up recovery -/
inductive RoundsT (sch : Levels) (db : Engine.DB) (sdb : Spec.SDB) : Engine.DB → Spec.SDB → Prop
  | nil : RoundsT sch db sdb db sdb
  | flush {db1 dbN db2 : Engine.DB} {sdb1 sdbN : Spec.SDB} {stmts : List EStmt} {order : List Nat}
      (hist : RoundsT sch db sdb db1 sdb1) (run : SpecRun sch db1 sdb1 stmts dbN sdbN)
      (hfl : Engine.flush dbN order = .ok () db2) : RoundsT sch db sdb db2 sdbN
  | crash {db1 dbN db2 : Engine.DB} {sdb1 sdbN : Spec.SDB} {stmts : List EStmt} {o1 o2 : List Nat}
      (hist : RoundsT sch db sdb db1 sdb1) (run : SpecRun sch db1 sdb1 stmts dbN sdbN)
      (hrec : Engine.recover dbN o1 o2 = .ok db2) : RoundsT sch db sdb db2 sdbN
  | torn {db1 dbN db2 : Engine.DB} {sdb1 sdbN : Spec.SDB} {stmts : List EStmt} {order o1 o2 : List Nat} {j : Nat}
      (hist : RoundsT sch db sdb db1 sdb1) (run : SpecRun sch db1 sdb1 stmts dbN sdbN)
      (hnf : dbN.store.hdr.nextFree = db1.store.hdr.nextFree)
      (hrec : Engine.recover { store := tornFlush dbN.store order j, wal := dbN.wal } o1 o2 = .ok db2) :
      RoundsT sch db sdb db2 sdbN

theorem roundsT_ckpt {sch : Levels} {db db' : Engine.DB} {sdb sdb' : Spec.SDB}
    (hist : RoundsT sch db sdb db' sdb') {pt : Levels} {tbls : List (Bytes × Levels)}
    (h : Ckpt sch db sdb pt tbls) : ∃ pt' tbls', Ckpt sch db' sdb' pt' tbls' := by
  induction hist with
  | nil => exact ⟨pt, tbls, h⟩
  | flush _ run hfl ih =>
    obtain ⟨_, _, h1⟩ := ih
    obtain ⟨_, _, _, _, hk, _⟩ := h1.flush_step run hfl
    exact ⟨_, _, hk⟩
  | crash _ run hrec ih =>
    obtain ⟨_, _, h1⟩ := ih
    obtain ⟨_, _, _, _, hk, _⟩ := h1.recover_step run hrec
    exact ⟨_, _, hk⟩
  | torn _ run hnf hrec ih =>
    obtain ⟨_, _, h1⟩ := ih
    obtain ⟨_, _, e, _, _, hk, _⟩ := h1.torn_flush_round run hnf _ _ _ _
    obtain rfl := Engine.RecRes.ok.inj (e.symm.trans hrec)
    exact ⟨_, _, hk⟩

/-- in such a history no recovery fails - not the recovery from a torn flush either -/
theorem roundsT_torn_recovers {sch : Levels} {db db1 dbN : Engine.DB} {sdb sdb1 sdbN : Spec.SDB} {stmts : List EStmt}
    {pt : Levels} {tbls : List (Bytes × Levels)} (h : Ckpt sch db sdb pt tbls)
    (hist : RoundsT sch db sdb db1 sdb1) (run : SpecRun sch db1 sdb1 stmts dbN sdbN)
    (hnf : dbN.store.hdr.nextFree = db1.store.hdr.nextFree) (order : List Nat) (j : Nat) (o1 o2 : List Nat) :
    ∃ db2, Engine.recover { store := tornFlush dbN.store order j, wal := dbN.wal } o1 o2 = .ok db2 ∧
      RoundsT sch db sdb db2 sdbN ∧ ∃ pt2 tbls2, Ckpt sch db2 sdbN pt2 tbls2 := by
  obtain ⟨pt1, tbls1, h1⟩ := roundsT_ckpt hist h
  obtain ⟨db2, tblsL, e, _, _, hk, _⟩ := h1.torn_flush_round run hnf order j o1 o2
  exact ⟨db2, e, .torn hist run hnf e, _, _, hk⟩

end Mkdb.Store
