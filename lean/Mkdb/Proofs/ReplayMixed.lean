import Mkdb.Proofs.CatUnique
import Mkdb.Proofs.ReplayHistories
import Mkdb.Proofs.SpecRefine
/-!
Crash with nothing flushed since the checkpoint, up to the plain model.  `SpecRun`: a list of engine
statements (`EStmt`) run from `db0`, each accepted by the plain model `Mkdb.Spec`.  Such a run is a live run
of row statements (`spec_run_live`: the `…_refines_specV` theorems say that the per-row calls an evaluator
makes form a `LiveRunM`), so replaying the log it wrote on a store behind its start ends in a store that
abstracts (`AbsV`) to the plain-model state of all acknowledged statements (`crash_recovery_ckpt_gen` and
its cases).  Then one accepted statement as a `SpecRun`.  A `SpecRun` holds accepted statements only; refused
statements between crashes are the subject of `DbCrash` (a refusal is a step in which only the cache grows, or
counters that ran ahead: `Drift`).
-/

section
/-!
The real system only ever appends to its log: after a checkpoint (a flush of all dirty pages and the
header) the log still holds every earlier record, and start-up recovery replays the whole log on the data
file.  So the general theorem, `crash_recovery_ckpt_gen`, replays `old ++ new` on any store `r0` that is
behind the store the statements started from: `old` is fully applied (`Applied`) on `r0` and changes
nothing visible - nor the header, once both counters have passed it (`replay_clean_hdr`) -, then `new`,
written by a `SpecRun`, is redone (`replay_run`).  `crash_recovery_ckpt` is the case `r0 = db0.store`,
`crash_recovery_spec` the case of an empty old log, `crash_recoverPre` the same about `Engine.recoverPre`.
-/
set_option autoImplicit false
namespace Mkdb.Store
open Mkdb.Page Mkdb.Tuple Mkdb.Generated Mkdb.Tree Mkdb.Engine

theorem evalUpdate_ok_set {db db1 : Engine.DB} {pt sch : Levels} {tbls : List (Bytes × Levels)}
    (h : Cat db.store pt sch tbls) (table : Bytes) (t : Levels) (ht : (table, t) ∈ tbls)
    (schema : List FieldDef) (hsch : schemaOf sch table = some schema)
    (hdec : ∀ c ∈ live t, ∃ m, decodeTuple schema c.val [] = .ok m)
    (sets : List (Bytes × Sql.VExpr)) (w : Option Sql.Cond)
    (heval : Engine.evalUpdate db table sets w = .ok () db1) :
    Engine.checkSetColumns (schema.map fun fd => (⟨[], fd.name.toUTF8.toList⟩ : Exec.Field)) []
      (sets.map (·.1)) = none := by
  obtain ⟨s1, efetch, _, _⟩ := fetchTable_cat h table t ht schema hsch hdec
  unfold Engine.evalUpdate at heval
  split at heval
  · cases heval
  simp only [Engine.fetchForExec, Engine.liftS, efetch] at heval
  cases hcs : Engine.checkSetColumns (schema.map fun fd => (⟨[], fd.name.toUTF8.toList⟩ : Exec.Field)) []
      (sets.map (·.1)) with
  | none => rfl
  | some e => rw [hcs] at heval; cases heval

/-- a row statement of the engine (`EvaluateInsert` with several rows, `EvaluateDelete`,
`EvaluateUpdate`) -/
inductive EStmt where
  | insert (table : Bytes) (cols : List Bytes) (rows : List (List Val))
  | delete (table : Bytes) (w : Option Sql.Cond)
  | update (table : Bytes) (sets : List (Bytes × Sql.VExpr)) (w : Option Sql.Cond)

/-- A list of engine statements run from the database `db` (plain-model state `sdb`) to `db'`
(plain-model state `sdb'`): every statement is accepted by the plain model (`specInsert` /
`specDelete` / `specUpdate` return the next state), the engine's evaluator returns `.ok` with the next
database; the values are values a Go program can hold; for INSERT the fuel / size side conditions
`InsRunOK` hold for whatever tree the store holds for the table (`hrunok` speaks of every description `pt tbls t
schema` of the store because the run does not name one; all descriptions name the same tree and schema,
so one instance is all of them: `insRunOK_any`). -/
inductive SpecRun (sch : Levels) : Engine.DB → Spec.SDB → List EStmt → Engine.DB → Spec.SDB → Prop
  | nil (db : Engine.DB) (sdb : Spec.SDB) : SpecRun sch db sdb [] db sdb
  | insert {db db1 db2 : Engine.DB} {sdb sdb1 sdb2 : Spec.SDB} {rest : List EStmt} {n : Nat}
      (table : Bytes) (cols : List Bytes) (rows : List (List Val))
      (hvalid : ∀ r ∈ rows, ∀ v ∈ r, ValidVal v)
      (hspec : Spec.specInsert sdb table cols rows = some sdb1)
      (hrunok : ∀ pt tbls t schema, AbsV db.store pt sch tbls sdb → (table, t) ∈ tbls →
        schemaOf sch table = some schema →
        InsRunOK schema (cols.map Engine.bytesToName) t db.store.hdr.lastKey db.store.hdr.nextLSN
          db.store.hdr.nextFree rows)
      (heval : Engine.evalInsert db table cols rows = .ok n db1)
      (hrest : SpecRun sch db1 sdb1 rest db2 sdb2) :
      SpecRun sch db sdb (.insert table cols rows :: rest) db2 sdb2
  | delete {db db1 db2 : Engine.DB} {sdb sdb1 sdb2 : Spec.SDB} {rest : List EStmt} {n : Nat}
      (table : Bytes) (w : Option Sql.Cond)
      (hspec : Spec.specDelete sdb table w = some sdb1)
      (heval : Engine.evalDelete db table w = .ok n db1)
      (hrest : SpecRun sch db1 sdb1 rest db2 sdb2) :
      SpecRun sch db sdb (.delete table w :: rest) db2 sdb2
  | update {db db1 db2 : Engine.DB} {sdb sdb1 sdb2 : Spec.SDB} {rest : List EStmt}
      (table : Bytes) (sets : List (Bytes × Sql.VExpr)) (w : Option Sql.Cond)
      (hvalid : ∀ p ∈ sets, ∀ l, p.2 = .lit l → ValidVal (Engine.litToVal l))
      (hspec : Spec.specUpdate sdb table sets w = some sdb1)
      (heval : Engine.evalUpdate db table sets w = .ok () db1)
      (hrest : SpecRun sch db1 sdb1 rest db2 sdb2) :
      SpecRun sch db sdb (.update table sets w :: rest) db2 sdb2

/-- the room one description of the store gives for an INSERT is the room every description gives: all name the same
tree (`Cat.tree_unique`) and the same schema (the form of `hrunok` in `SpecRun.insert`) -/
theorem insRunOK_any {sch : Levels} {s : Store} {sdb : Spec.SDB} {pt0 : Levels} {tbls0 : List (Bytes × Levels)}
    (hc0 : Cat s pt0 sch tbls0) {table : Bytes} {t0 : Levels} (ht0 : (table, t0) ∈ tbls0)
    {schema0 : List FieldDef} (hs0 : schemaOf sch table = some schema0) {cols : List String} {lk lsn nf : Nat}
    {rows : List (List Val)} (hrun : InsRunOK schema0 cols t0 lk lsn nf rows) :
    ∀ pt tbls t schema, AbsV s pt sch tbls sdb → (table, t) ∈ tbls → schemaOf sch table = some schema →
      InsRunOK schema cols t lk lsn nf rows := by
  intro pt tbls t schema hA ht hs
  obtain rfl : t = t0 := hA.cat.tree_unique hc0 ht ht0
  obtain rfl : schema0 = schema := Option.some.inj (hs0.symm.trans hs)
  exact hrun

/-- **A run of engine statements is a live run of row statements**: the stores are linked by a
`LiveRunM`, the log grew by exactly its records, and the final store abstracts to the plain-model
state, with the table list the live run ends in. -/
theorem spec_run_live (sch : Levels) {db dbN : Engine.DB} {sdb sdbN : Spec.SDB} {stmts : List EStmt}
    (run : SpecRun sch db sdb stmts dbN sdbN) :
    ∀ (pt : Levels) (tbls : List (Bytes × Levels)), AbsV db.store pt sch tbls sdb →
      ∃ ptN tblsN stmtsM logs, LiveRunM sch db.store tbls stmtsM dbN.store tblsN logs ∧
        dbN.wal = db.wal ++ logs ∧ AbsV dbN.store ptN sch tblsN sdbN := by
  induction run with
  | nil db sdb =>
    intro pt tbls hA
    exact ⟨pt, tbls, [], [], .nil _ _, by simp, hA⟩
  | @insert db db1 db2 sdb sdb1 sdb2 rest n table cols rows hvalid hspec hrunok heval _ ih =>
    intro pt tbls hA
    obtain ⟨st, _, hfind, _⟩ := specInsert_some_iff.mp hspec
    obtain ⟨t, schema, ht, hsch, _⟩ := hA.find hfind
    obtain ⟨db', ptF, t', logs, e, hw, _, hlive, hA', _⟩ := evalInsert_refines_specV db pt sch tbls sdb sdb1 hA
      table t ht schema hsch cols rows hvalid hspec (hrunok pt tbls t schema hA ht hsch)
    rw [e] at heval
    simp only [Engine.Res.ok.injEq] at heval
    obtain ⟨_, rfl⟩ := heval
    obtain ⟨ptN, tblsN, stmtsM, logs2, hrun2, hw2, hA2⟩ := ih ptF _ hA'
    exact ⟨ptN, tblsN, _, _, hlive.append hrun2, by rw [hw2, hw, List.append_assoc], hA2⟩
  | @delete db db1 db2 sdb sdb1 sdb2 rest n table w hspec heval _ ih =>
    intro pt tbls hA
    obtain ⟨n', db', t', logs, stmts1, e, hw, _, hlive, hA', _⟩ := evalDelete_refines_specV db pt sch tbls sdb sdb1 hA
      table w hspec
    rw [e] at heval
    simp only [Engine.Res.ok.injEq] at heval
    obtain ⟨_, rfl⟩ := heval
    obtain ⟨ptN, tblsN, stmtsM, logs2, hrun2, hw2, hA2⟩ := ih pt _ hA'
    exact ⟨ptN, tblsN, _, _, hlive.append hrun2, by rw [hw2, hw, List.append_assoc], hA2⟩
  | @update db db1 db2 sdb sdb1 sdb2 rest table sets w hvalid hspec heval _ ih =>
    intro pt tbls hA
    -- the engine accepted the statement, so its test of the SET columns passed
    have hset : ∀ schema, schemaOf sch table = some schema →
        Engine.checkSetColumns (schema.map fun fd => (⟨[], fd.name.toUTF8.toList⟩ : Exec.Field)) []
          (sets.map (·.1)) = none := by
      intro schema hsch
      obtain ⟨st, _, _, hfind, _⟩ := specUpdate_some_iff.mp hspec
      obtain ⟨t, schema', ht, hsch', hdec, _⟩ := hA.find hfind
      obtain rfl : schema = schema' := Option.some.inj (hsch.symm.trans hsch')
      exact evalUpdate_ok_set hA.cat table t ht schema hsch hdec sets w heval
    obtain ⟨db', t', logs, stmts1, e, hw, hlive, hA', _⟩ := evalUpdate_refines_specV_set db pt sch tbls sdb sdb1 hA
      table sets w hvalid hset hspec
    rw [e] at heval
    simp only [Engine.Res.ok.injEq] at heval
    obtain ⟨_, rfl⟩ := heval
    obtain ⟨ptN, tblsN, stmtsM, logs2, hrun2, hw2, hA2⟩ := ih pt _ hA'
    exact ⟨ptN, tblsN, _, _, hlive.append hrun2, by rw [hw2, hw, List.append_assoc], hA2⟩

/-! ### the log is never truncated -/

theorem foldl_max_ge (log : List WalRec) (m : Nat) : m ≤ log.foldl (fun m r => max m r.lsn) m := by
  induction log generalizing m with
  | nil => exact Nat.le_refl _
  | cons r rest ih => exact Nat.le_trans (Nat.le_max_left _ _) (ih _)

theorem foldl_max_le (log : List WalRec) (m : Nat) (h : ∀ r ∈ log, r.lsn ≤ m) :
    log.foldl (fun m r => max m r.lsn) m = m := by
  induction log generalizing m with
  | nil => rfl
  | cons r rest ih =>
    rw [List.foldl_cons, Nat.max_eq_left (h r List.mem_cons_self)]
    exact ih m (fun r' hr' => h r' (List.mem_cons_of_mem _ hr'))

/-- the LSN counter after the replay of a log is at least every LSN in it -/
theorem foldl_max_mem (log : List WalRec) (m : Nat) : ∀ r ∈ log, r.lsn ≤ log.foldl (fun m r => max m r.lsn) m := by
  induction log generalizing m with
  | nil => intro r hr; cases hr
  | cons a rest ih =>
    intro r hr
    rw [List.foldl_cons]
    rcases List.mem_cons.mp hr with rfl | hr
    · exact Nat.le_trans (Nat.le_max_right _ _) (foldl_max_ge rest _)
    · exact ih _ r hr

/-- **Replay of an applied log both counters have passed** (the LSN counter every LSN, the row-id
counter every INSERT key): no visible change, and the header is the header before - the store
differs from the one before at most in what the cache holds. -/
theorem replay_clean_hdr (log : List WalRec) (s : Store) (pt sch : Levels) (tbls : List (Bytes × Levels))
    (h : Cat s pt sch tbls) (hall : ∀ r ∈ log, Applied tbls s r) (hlsn : ∀ r ∈ log, r.lsn ≤ s.hdr.nextLSN)
    (hkeys : ∀ r ∈ log, r.op = c_OpInsert → r.cell ≤ s.hdr.lastKey) :
    ∃ s', replayAll log s = (s', none, false) ∧ view s' = view s ∧ Cat s' pt sch tbls ∧ s'.hdr = s.hdr := by
  obtain ⟨s', e, v, c, hh⟩ := replay_clean log s pt sch tbls h hall hkeys
  refine ⟨s', e, v, c, ?_⟩
  rw [hh, foldl_max_le log _ hlsn]

/-- **Crash after a checkpoint, nothing flushed since** (general form).  The database `db0` has the
log `db0.wal` (the records of everything that happened before the checkpoint); the statements `stmts`
are run by the engine from `db0` and end in `dbN`, whose log is `db0.wal` followed by their records.
The whole log `dbN.wal` is replayed on a store `r0` that is behind `db0.store` (`Behind`:
`r0 = db0.store`, or the re-opened data file), has its row-id counter, and on which every old record is
already applied and whose counters no old record is ahead of (the LSN counter of no LSN, the row-id counter
of no INSERT key).  The replay succeeds; the resulting store is behind the live final store, has its
row-id counter, and abstracts to the plain-model state of all acknowledged statements, as the live final
store does. -/
theorem crash_recovery_ckpt_gen (sch : Levels) {db0 dbN : Engine.DB} {sdb0 sdbN : Spec.SDB} {stmts : List EStmt}
    (run : SpecRun sch db0 sdb0 stmts dbN sdbN)
    (pt : Levels) (tbls : List (Bytes × Levels)) (hA : AbsV db0.store pt sch tbls sdb0)
    (hf : FreshM db0.store tbls) (r0 : Store) (hb : Behind sch db0.store r0 pt tbls)
    (hlk : r0.hdr.lastKey = db0.store.hdr.lastKey)
    (hold : ∀ r ∈ db0.wal, Applied tbls r0 r) (hlsn : ∀ r ∈ db0.wal, r.lsn ≤ r0.hdr.nextLSN)
    (hkeys : ∀ r ∈ db0.wal, r.op = c_OpInsert → r.cell ≤ r0.hdr.lastKey) :
    ∃ ptN tblsN rN, replayAll dbN.wal r0 = (rN, none, false) ∧
      AbsV dbN.store ptN sch tblsN sdbN ∧ AbsV rN ptN sch tblsN sdbN ∧ Behind sch dbN.store rN ptN tblsN ∧
      rN.hdr.lastKey = dbN.store.hdr.lastKey := by
  obtain ⟨_, tblsN, stmtsM, logs, hrun, hw, ⟨sdbF, habsF, hvF⟩⟩ := spec_run_live sch run pt tbls hA
  -- the old records change nothing, the new ones are redone
  obtain ⟨r1, e1, _, hc1, hh1⟩ := replay_clean_hdr db0.wal r0 pt sch tbls hb.redo hold hlsn hkeys
  obtain ⟨ptN, rN, e, hbN, _, hk, _⟩ := replay_run sch hrun
    ⟨hb.live, hc1, hb.self, by rw [hh1]; exact hb.nf, by rw [hh1]; exact hb.lk, by rw [hh1]; exact hb.lsn⟩ hf
  exact ⟨ptN, tblsN, rN, by rw [hw, replayAll_append e1]; exact e, ⟨sdbF, ⟨hbN.live, habsF.tabs⟩, hvF⟩,
    ⟨sdbF, ⟨hbN.redo, habsF.tabs⟩, hvF⟩, hbN, hk (by rw [hh1]; exact hlk)⟩

/-- **After a crash in which nothing was flushed since the checkpoint, recovery restores the
plain-model state of all acknowledged statements - with a log that was never truncated.**  As
`crash_recovery_spec`, but the log of `db0` need not be empty: it may hold any records that are
already applied on `db0.store` (`Applied`: the page of the record carries an LSN at least the
record's, or the record is the INSERT of a key its table holds) and that the counters have passed:
no LSN is beyond the LSN counter, no INSERT key beyond the row-id counter (`hkeys`; recovery raises the
row-id counter to the key of every INSERT record, skipped or not, so an old record with a key beyond
the counter would leave the replayed counter ahead of the live one).
The whole log of `dbN` - the old records, then the records of the statements - is replayed on the
store the statements started from. -/
theorem crash_recovery_ckpt (sch : Levels) {db0 dbN : Engine.DB} {sdb0 sdbN : Spec.SDB} {stmts : List EStmt}
    (run : SpecRun sch db0 sdb0 stmts dbN sdbN)
    (pt : Levels) (tbls : List (Bytes × Levels)) (hA : AbsV db0.store pt sch tbls sdb0)
    (hself : PtSelf pt) (hf : FreshM db0.store tbls)
    (hold : ∀ r ∈ db0.wal, Applied tbls db0.store r)
    (hlsn : ∀ r ∈ db0.wal, r.lsn ≤ db0.store.hdr.nextLSN)
    (hkeys : ∀ r ∈ db0.wal, r.op = c_OpInsert → r.cell ≤ db0.store.hdr.lastKey) :
    ∃ ptN tblsN rN, replayAll dbN.wal db0.store = (rN, none, false) ∧
      AbsV dbN.store ptN sch tblsN sdbN ∧ AbsV rN ptN sch tblsN sdbN ∧
      (∀ x ∈ catTrees ptN sch tblsN, ∀ o ∈ offs x, view rN o = view dbN.store o) ∧
      rN.hdr.nextFree = dbN.store.hdr.nextFree ∧ rN.hdr.lastKey = dbN.store.hdr.lastKey ∧
      rN.hdr.ptRoot = dbN.store.hdr.ptRoot ∧ rN.hdr.nextLSN ≤ dbN.store.hdr.nextLSN := by
  obtain ⟨_, habs0, _⟩ := id hA
  obtain ⟨ptN, tblsN, rN, e, hAN, hAR, hb, hk⟩ := crash_recovery_ckpt_gen sch run pt tbls hA hf db0.store
    ⟨habs0.cat, habs0.cat, hself, rfl, Nat.le_refl _, Nat.le_refl _⟩ rfl hold hlsn hkeys
  exact ⟨ptN, tblsN, rN, e, hAN, hAR, hb.live.same_pages hb.redo, hb.nf, hk,
    by rw [← hb.live.root, ← hb.redo.root], hb.lsn⟩

/-- **After a crash in which nothing was flushed since the checkpoint, recovery restores the
plain-model state of all acknowledged statements.**  The statements `stmts` are run by the engine
from the database `db0`, whose log is empty and whose store abstracts (up to row ids) to the
plain-model state `sdb0`; they end in `dbN`, the plain model in `sdbN`.  Replaying the log `dbN.wal`
on the store `db0.store` the statements started from succeeds, and the resulting store abstracts to
`sdbN`, as the live final store does - with the same catalog description, i.e. the same page table and
the same trees for all tables, page for page. -/
theorem crash_recovery_spec (sch : Levels) {db0 dbN : Engine.DB} {sdb0 sdbN : Spec.SDB} {stmts : List EStmt}
    (run : SpecRun sch db0 sdb0 stmts dbN sdbN) (hwal : db0.wal = [])
    (pt : Levels) (tbls : List (Bytes × Levels)) (hA : AbsV db0.store pt sch tbls sdb0)
    (hself : PtSelf pt) (hf : FreshM db0.store tbls) :
    ∃ ptN tblsN rN, replayAll dbN.wal db0.store = (rN, none, false) ∧
      AbsV dbN.store ptN sch tblsN sdbN ∧ AbsV rN ptN sch tblsN sdbN ∧
      (∀ x ∈ catTrees ptN sch tblsN, ∀ o ∈ offs x, view rN o = view dbN.store o) ∧
      rN.hdr.nextFree = dbN.store.hdr.nextFree ∧ rN.hdr.lastKey = dbN.store.hdr.lastKey ∧
      rN.hdr.ptRoot = dbN.store.hdr.ptRoot ∧ rN.hdr.nextLSN ≤ dbN.store.hdr.nextLSN :=
  crash_recovery_ckpt sch run pt tbls hA hself hf (by rw [hwal]; exact fun _ h => nomatch h)
    (by rw [hwal]; exact fun _ h => nomatch h) (by rw [hwal]; exact fun _ h => nomatch h)

theorem crash_recovery_spec' (sch : Levels) {db0 dbN : Engine.DB} {sdb0 sdbN : Spec.SDB} {stmts : List EStmt}
    (run : SpecRun sch db0 sdb0 stmts dbN sdbN) (hwal : db0.wal = [])
    (pt : Levels) (tbls : List (Bytes × Levels)) (hA : AbsV db0.store pt sch tbls sdb0)
    (hself : PtSelf pt) (hf : FreshM db0.store tbls) :
    ∃ ptN tblsN rN, replayAll dbN.wal db0.store = (rN, none, false) ∧
      AbsV dbN.store ptN sch tblsN sdbN ∧ AbsV rN ptN sch tblsN sdbN :=
  let ⟨ptN, tblsN, rN, e, a, b, _⟩ := crash_recovery_spec sch run hwal pt tbls hA hself hf
  ⟨ptN, tblsN, rN, e, a, b⟩

/-- the same about the model of start-up recovery: if the crashed database `dbN` (data file and log as
the statements left them) re-opens to the store the statements started from - nothing was flushed
since, and that store was a freshly opened one - then the cache `Engine.recoverPre` describes (the
replayed store with the final LSN bump, right before recovery's own flush) abstracts to `sdbN`. -/
theorem crash_recoverPre (sch : Levels) {db0 dbN : Engine.DB} {sdb0 sdbN : Spec.SDB} {stmts : List EStmt}
    (run : SpecRun sch db0 sdb0 stmts dbN sdbN) (hwal : db0.wal = [])
    (pt : Levels) (tbls : List (Bytes × Levels)) (hA : AbsV db0.store pt sch tbls sdb0)
    (hself : PtSelf pt) (hf : FreshM db0.store tbls) (hck : reopen dbN.store = db0.store) :
    ∃ ptN tblsN rN, Engine.recoverPre dbN = some rN ∧
      AbsV dbN.store ptN sch tblsN sdbN ∧ AbsV rN ptN sch tblsN sdbN := by
  obtain ⟨ptN, tblsN, rN, e, hAN, ⟨sdbF, habsR, hvF⟩, _⟩ := crash_recovery_spec sch run hwal pt tbls hA hself hf
  refine ⟨ptN, tblsN, { rN with hdr := { rN.hdr with nextLSN := rN.hdr.nextLSN + 1 } }, ?_, hAN,
    ⟨sdbF, ⟨habsR.cat.raise rfl rfl rfl (Nat.le_refl _), habsR.tabs⟩, hvF⟩⟩
  unfold Engine.recoverPre
  rw [hck, e]

/-! ### non-vacuity: the three statements of `chain_example`, then the crash -/

theorem freshM_st1 : FreshM st1 [(tname, t0)] :=
  ⟨by intro e he; simp at he; subst he; decide, by decide, by intro e he; simp at he; subst he; decide⟩

/-- `INSERT INTO t VALUES (5), (6)`, `UPDATE t SET a = 7 WHERE a = 5`, `DELETE FROM t WHERE a = 6` run
by the engine from `dbA` (store `st1`, empty log); the log they wrote, replayed on `st1`, gives a
store that abstracts to the plain-model state `sdbA3`: the table holds the single row `(7)`. -/
theorem crash_example : ∃ db3 ptN tblsN rN,
    SpecRun sch1 dbA sdbA0
      [.insert tname [] [[.int 5], [.int 6]], .update tname [([97], .lit (.int 7))] (some (condEq 5)),
       .delete tname (some (condEq 6))] db3 sdbA3 ∧
    replayAll db3.wal st1 = (rN, none, false) ∧
    AbsV db3.store ptN sch1 tblsN sdbA3 ∧ AbsV rN ptN sch1 tblsN sdbA3 := by
  obtain ⟨db1, db2, db3, _, _, e1, e2, e3, _, _⟩ := chain_example
  have run : SpecRun sch1 dbA sdbA0
      [.insert tname [] [[.int 5], [.int 6]], .update tname [([97], .lit (.int 7))] (some (condEq 5)),
       .delete tname (some (condEq 6))] db3 sdbA3 :=
    .insert tname [] [[.int 5], [.int 6]]
      (by
        intro r hr v hv
        simp only [List.mem_cons, List.not_mem_nil, or_false] at hr
        rcases hr with rfl | rfl
        · simp only [List.mem_singleton] at hv; subst hv; exact ⟨by decide, by decide⟩
        · simp only [List.mem_singleton] at hv; subst hv; exact ⟨by decide, by decide⟩)
      specA1
      (insRunOK_any cat1 (List.mem_singleton.mpr rfl) sch1_t runA)
      e1
      (.update tname [([97], .lit (.int 7))] (some (condEq 5))
        (by
          intro p hp l hl
          simp only [List.mem_singleton] at hp
          subst hp
          simp only [Sql.VExpr.lit.injEq] at hl
          subst hl
          exact ⟨by decide, by decide⟩)
        specA2 e2
        (.delete tname (some (condEq 6)) specA3 e3 (.nil db3 sdbA3)))
  obtain ⟨ptN, tblsN, rN, e, hA1, hA2, _⟩ := crash_recovery_spec sch1 run rfl pt0 [(tname, t0)] abs1.toV pt0_self
    freshM_st1
  exact ⟨db3, ptN, tblsN, rN, run, e, hA1, hA2⟩

end Mkdb.Store
end

section
/-!
One accepted statement as a `SpecRun`.  The side condition `hrunok` of `SpecRun.insert` speaks of every
description of the store; all descriptions name the same tree and the same schema, so one description is enough
(`insRunOK_any`, beside `SpecRun`).
-/
set_option autoImplicit false
namespace Mkdb.Store
open Mkdb.Page Mkdb.Tuple Mkdb.Generated Mkdb.Tree Mkdb.Engine

/-- an INSERT the plain model accepts, with room in the tree one description of the store names -/
theorem SpecRun.insert_one {sch : Levels} {db : Engine.DB} {sdb sdb1 : Spec.SDB} {pt : Levels}
    {tbls : List (Bytes × Levels)} (hA : AbsV db.store pt sch tbls sdb) {table : Bytes} {t : Levels}
    (ht : (table, t) ∈ tbls) {schema : List FieldDef} (hs : schemaOf sch table = some schema)
    {cols : List Bytes} {rows : List (List Val)} (hvalid : ∀ r ∈ rows, ∀ v ∈ r, ValidVal v)
    (hspec : Spec.specInsert sdb table cols rows = some sdb1)
    (hrun : InsRunOK schema (cols.map Engine.bytesToName) t db.store.hdr.lastKey db.store.hdr.nextLSN
      db.store.hdr.nextFree rows) :
    ∃ db1 ptF t' logs, SpecRun sch db sdb [.insert table cols rows] db1 sdb1 ∧
      Engine.evalInsert db table cols rows = .ok rows.length db1 ∧ db1.wal = db.wal ++ logs ∧
      AbsV db1.store ptF sch (setTable tbls table t') sdb1 := by
  obtain ⟨db1, ptF, t', logs, e, hw, _, _, hA1, _⟩ := evalInsert_refines_specV db pt sch tbls sdb sdb1 hA table t ht schema hs
    cols rows hvalid hspec hrun
  exact ⟨db1, ptF, t', logs, .insert table cols rows hvalid hspec (insRunOK_any hA.cat ht hs hrun) e (.nil db1 sdb1), e,
    hw, hA1⟩

theorem SpecRun.update_one {sch : Levels} {db : Engine.DB} {sdb sdb1 : Spec.SDB} {pt : Levels}
    {tbls : List (Bytes × Levels)} (hA : AbsV db.store pt sch tbls sdb) {table : Bytes}
    {sets : List (Bytes × Sql.VExpr)} {w : Option Sql.Cond}
    (hvalid : ∀ p ∈ sets, ∀ l, p.2 = .lit l → ValidVal (Engine.litToVal l))
    (hutf : ∀ p ∈ sets, (Spec.nameStr p.1).toUTF8.toList = p.1)
    (hspec : Spec.specUpdate sdb table sets w = some sdb1) :
    ∃ db1 t', SpecRun sch db sdb [.update table sets w] db1 sdb1 ∧ Engine.evalUpdate db table sets w = .ok () db1 ∧
      AbsV db1.store pt sch (setTable tbls table t') sdb1 := by
  obtain ⟨db1, t', _, _, e, _, _, hA1, _⟩ := evalUpdate_refines_specV db pt sch tbls sdb sdb1 hA table sets w hvalid hutf hspec
  exact ⟨db1, t', .update table sets w hvalid hspec e (.nil db1 sdb1), e, hA1⟩

theorem SpecRun.append {sch : Levels} {db db1 db2 : Engine.DB} {sdb sdb1 sdb2 : Spec.SDB}
    {A B : List EStmt} (h1 : SpecRun sch db sdb A db1 sdb1) (h2 : SpecRun sch db1 sdb1 B db2 sdb2) :
    SpecRun sch db sdb (A ++ B) db2 sdb2 := by
  induction h1 with
  | nil db sdb => exact h2
  | insert table cols rows hvalid hspec hrunok heval _ ih =>
    exact .insert table cols rows hvalid hspec hrunok heval (ih h2)
  | delete table w hspec heval _ ih => exact .delete table w hspec heval (ih h2)
  | update table sets w hvalid hspec heval _ ih => exact .update table sets w hvalid hspec heval (ih h2)

end Mkdb.Store
end
