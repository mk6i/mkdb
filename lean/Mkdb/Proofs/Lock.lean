import Mkdb.Model.Lock
/-! The invariant of the two-thread lock model is kept by every step (C13).  `Model/LockSys` models the
same two goroutines with `Close` as a third and the discipline as a parameter read off the source
(`LockSys.sourceCfg`); here the discipline is the hypothesis `AllBracketed`, and no theorem relates the two. -/
namespace Mkdb.Lock

/-- every statement of a schedule is bracketed (what `C13_all_bracketed` establishes for the code) -/
def AllBracketed (acts : List Act) : Prop := ∀ a ∈ acts, ∀ b, a = .sessBegin b → b = true

/-- `Inv` sees the two program counters only through `insideStatement` and `flusherActive` -/
theorem Inv.congr {s t : St} (h : Inv s) (hr : t.readers = s.readers) (hw : t.writer = s.writer)
    (hb : t.bracketed = s.bracketed) (hi : insideStatement t = insideStatement s)
    (hf : flusherActive t = flusherActive s) : Inv t := by
  unfold Inv at *; rw [hr, hw, hb, hi, hf]; exact h

theorem step_inv (s : St) (a : Act) (h : Inv s ∧ s.bracketed = true) (hb : ∀ b, a = .sessBegin b → b = true) :
    Inv ((step s a).getD s) ∧ ((step s a).getD s).bracketed = true := by
  cases hst : step s a with
  | none => exact h
  | some t =>
    obtain ⟨r, w, p, f, b⟩ := s
    obtain ⟨h, rfl⟩ := h
    -- In each case `hst` gives the guard under which the action is enabled, and `t`.  Only
    -- `sessBegin` writes `bracketed`, so the second part is `rfl` throughout.
    cases a with
    | sessBegin b' =>
      cases hb b' rfl
      simp only [step, if_true] at hst
      split at hst; · cases hst
      split at hst <;> cases hst
      rename_i hp hw
      -- idle, so nobody reads; the writer bit is clear, so the flusher waits
      obtain ⟨h1, h2, _⟩ := h
      have hp' : p = .idle := by cases p <;> first | rfl | exact absurd rfl hp
      subst hp'
      have hr : r = 0 := h2
      exact ⟨⟨h1, by rw [hr]; rfl, fun hf => absurd (h1.trans hf) hw⟩, rfl⟩
    | sessChange =>
      simp only [step] at hst
      split at hst <;> cases hst
      rename_i hg
      refine ⟨h.congr rfl rfl rfl (?_ : (SessPc.changed != .idle) = (p != .idle)) rfl, rfl⟩
      revert hg; cases p <;> decide
    | sessLog =>
      simp only [step] at hst
      split at hst <;> cases hst
      rename_i hg
      refine ⟨h.congr rfl rfl rfl (?_ : (SessPc.logged != .idle) = (p != .idle)) rfl, rfl⟩
      revert hg; cases p <;> decide
    | sessEnd =>
      simp only [step] at hst
      split at hst <;> cases hst
      rename_i hg
      -- inside a bracketed statement the count is 1
      obtain ⟨h1, h2, _⟩ := h
      have hr : r = 1 := h2.trans (by cases p <;> first | rfl | exact absurd rfl hg)
      exact ⟨⟨h1, by rw [hr]; rfl, fun _ => by rw [hr]; rfl⟩, rfl⟩
    | flushBegin =>
      simp only [step] at hst
      split at hst; · cases hst
      split at hst <;> cases hst
      rename_i _ hg
      -- enabled only with no reader
      obtain ⟨_, h2, _⟩ := h
      have hr : r = 0 := Nat.eq_zero_of_not_pos fun hpos => hg (by rw [decide_eq_true hpos, Bool.or_true])
      exact ⟨⟨rfl, h2, fun _ => hr⟩, rfl⟩
    | flushWrite =>
      simp only [step] at hst
      split at hst <;> cases hst
      exact ⟨h.congr rfl rfl rfl rfl rfl, rfl⟩
    | flushEnd =>
      simp only [step] at hst
      split at hst <;> cases hst
      exact ⟨⟨rfl, h.2.1, fun hf => by cases hf⟩, rfl⟩

theorem run_inv (s : St) (acts : List Act) (h : Inv s ∧ s.bracketed = true) (hb : AllBracketed acts) :
    Inv (run s acts) ∧ (run s acts).bracketed = true := by
  induction acts generalizing s with
  | nil => exact h
  | cons a rest ih =>
    exact ih _ (step_inv s a h (hb a List.mem_cons_self)) (fun x hx => hb x (List.mem_cons_of_mem _ hx))

end Mkdb.Lock
