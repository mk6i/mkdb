import Mkdb.Proofs.ReplayMixedHistory
import Mkdb.Proofs.SpecRefineAbs
import Mkdb.Proofs.StmtRowOps
import Mkdb.Proofs.StmtRows
/-!
# UPDATE against the spec: the rows

The spec's per-row assignment (override the stored values, re-encode,
size check) is the model's on the map `(cols.zip src).reverse ++ decoded map` (`specAssign_eq`); what
`Tuple.Decode` returns are values a Go program can hold (`decodeTuple_valid`).  `update_rows` is the run
of the rewrites (`rowsM`: the loop of `evalUpdate`) through distinct live row ids that can be rewritten; the
outcome of the statement, whatever it is, goes through it (`evalUpdate_outcome`, `SpecRefineUpdateStmt`).
-/
set_option autoImplicit false
namespace Mkdb.Store
open Mkdb.Page Mkdb.Tuple Mkdb.Generated Mkdb.Tree Mkdb.Bin

/-! ### what decoding delivers; decoded values are valid -/

theorem decLE_lt : ∀ (k : Nat) (bs : Bytes) (v : Nat) (rest : Bytes), decLE k bs = some (v, rest) → v < 256 ^ k
  | 0, bs, v, rest, h => by
    simp only [decLE, Option.some.injEq, Prod.mk.injEq] at h
    omega
  | k+1, [], v, rest, h => by simp [decLE] at h
  | k+1, b :: bs, v, rest, h => by
    simp only [decLE] at h
    cases hd : decLE k bs with
    | none => rw [hd] at h; cases h
    | some p =>
      obtain ⟨v', r'⟩ := p
      rw [hd] at h
      simp only [Option.some.injEq, Prod.mk.injEq] at h
      have := decLE_lt k bs v' r' hd
      have hb : b.toNat < 256 := b.toNat_lt
      rw [Nat.pow_succ]
      omega

theorem decI_range (k H : Nat) (hH : 256 ^ k = 2 * H) (bs : Bytes) (i : Int) (rest : Bytes)
    (h : decI k bs = some (i, rest)) : -(H : Int) ≤ i ∧ i < (H : Int) := by
  unfold decI at h
  cases hd : decLE k bs with
  | none => rw [hd] at h; cases h
  | some p =>
    obtain ⟨v, r⟩ := p
    rw [hd] at h
    simp only [Option.some.injEq, Prod.mk.injEq] at h
    have hlt := decLE_lt k bs v r hd
    obtain ⟨h1, _⟩ := h
    rw [hH] at h1 hlt
    rw [Nat.mul_div_cancel_left H (by decide : 0 < 2)] at h1
    split at h1 <;> omega

theorem decField_some {fd : FieldDef} {bs rest : Bytes} {v : Val} (h : decField fd bs = .ok (some v, rest)) :
    ∃ r0, decBool bs = some (false, r0) ∧
      ((fd.ty = .int ∧ ∃ i, v = .int i ∧ decI 4 r0 = some (i, rest)) ∨
       (fd.ty = .bigint ∧ ∃ i, v = .int i ∧ decI 8 r0 = some (i, rest)) ∨
       (fd.ty = .boolean ∧ ∃ b, v = .bool b ∧ decBool r0 = some (b, rest)) ∨
       (fd.ty = .varchar ∧ ∃ s n r, v = .str s ∧ decU32 r0 = some (n, r) ∧ readN n r = some (s, rest))) := by
  unfold decField at h
  split at h
  · cases h
  · cases h
  · rename_i r0 hb
    refine ⟨r0, hb, ?_⟩
    split at h
    · rename_i hty
      split at h
      · rename_i i r hd
        cases h
        exact .inl ⟨hty, i, rfl, hd⟩
      · cases h
    · rename_i hty
      split at h
      · rename_i i r hd
        cases h
        exact .inr (.inl ⟨hty, i, rfl, hd⟩)
      · cases h
    · rename_i hty
      split at h
      · rename_i b r hd
        cases h
        exact .inr (.inr (.inl ⟨hty, b, rfl, hd⟩))
      · cases h
    · rename_i hty
      split at h
      · cases h
      · rename_i n r hd
        split at h
        · rename_i s r' hr
          cases h
          exact .inr (.inr (.inr ⟨hty, s, n, r, rfl, hd, hr⟩))
        · cases h

theorem decField_valid (fd : FieldDef) (bs : Bytes) (v : Val) (rest : Bytes)
    (h : decField fd bs = .ok (some v, rest)) : ValidVal v := by
  obtain ⟨r0, _, h⟩ := decField_some h
  rcases h with ⟨_, i, rfl, hd⟩ | ⟨_, i, rfl, hd⟩ | ⟨_, b, rfl, _⟩ | ⟨_, s, n, r, rfl, hd, hr⟩
  · have := decI_range 4 2147483648 (by decide) r0 i rest hd
    simp only [ValidVal]
    omega
  · have := decI_range 8 9223372036854775808 (by decide) r0 i rest hd
    simp only [ValidVal]
    omega
  · trivial
  · have hn := decLE_lt 4 r0 n r hd
    have hp : (256 : Nat) ^ 4 = 4294967296 := by decide
    rw [hp] at hn
    simp only [ValidVal]
    unfold readN at hr
    split at hr
    · simp only [Option.some.injEq, Prod.mk.injEq] at hr
      rw [← hr.1]
      simp
    · split at hr
      · cases hr
      · simp only [Option.some.injEq, Prod.mk.injEq] at hr
        rw [← hr.1, List.length_take]
        omega

theorem decodeTuple_mem : ∀ (sch : List FieldDef) (bs : Bytes) (m0 m : Vals), decodeTuple sch bs m0 = .ok m →
    ∀ p ∈ m, p ∈ m0 ∨ ∃ fd ∈ sch, ∃ bs1 rest, p.1 = fd.name ∧ decField fd bs1 = .ok (some p.2, rest)
  | [], _, m0, m, h, p, hp => by
    simp only [decodeTuple, Except.ok.injEq] at h
    subst h
    exact .inl hp
  | fd :: rest, bs, m0, m, h, p, hp => by
    unfold decodeTuple at h
    split at h
    · cases h
    · exact (decodeTuple_mem rest _ m0 m h p hp).imp id fun ⟨fd', hfd', x⟩ => ⟨fd', List.mem_cons_of_mem _ hfd', x⟩
    · rename_i v bs' hdec
      rcases decodeTuple_mem rest _ _ m h p hp with h1 | ⟨fd', hfd', x⟩
      · rcases List.mem_cons.mp h1 with rfl | h1
        · exact .inr ⟨fd, List.mem_cons_self, bs, bs', rfl, hdec⟩
        · exact .inl h1
      · exact .inr ⟨fd', List.mem_cons_of_mem _ hfd', x⟩

theorem decodeTuple_valid (sch : List FieldDef) (bs : Bytes) (m0 m : Vals)
    (h0 : ∀ p ∈ m0, ValidVal p.2) (h : decodeTuple sch bs m0 = .ok m) : ∀ p ∈ m, ValidVal p.2 := fun p hp => by
  rcases decodeTuple_mem sch bs m0 m h p hp with h1 | ⟨fd, _, bs1, rest, _, hd⟩
  · exact h0 p h1
  · exact decField_valid fd bs1 p.2 rest hd

/-! ### `get` on an appended map -/

theorem get_append_none (A B : Vals) (k : String) (h : A.find? (fun p => p.1 == k) = none) :
    get (A ++ B) k = get B k := by
  unfold Tuple.get
  rw [List.find?_append, h]
  rfl

theorem get_append_some (A B : Vals) (k : String) (x : String × Val) (h : A.find? (fun p => p.1 == k) = some x) :
    get (A ++ B) k = get A k := by
  unfold Tuple.get
  rw [List.find?_append, h]
  rfl

theorem get_append_congr (A B B' : Vals) (k : String) (h : get B k = get B' k) :
    get (A ++ B) k = get (A ++ B') k := by
  cases hA : A.find? (fun p => p.1 == k) with
  | none => rw [get_append_none A B k hA, get_append_none A B' k hA, h]
  | some x => rw [get_append_some A B k x hA, get_append_some A B' k x hA]

theorem get_schema_zip (m : Vals) : ∀ (schema : List FieldDef) (fd : FieldDef), fd ∈ schema →
    get (schema.map fun fd => (fd.name, get m fd.name)) fd.name = get m fd.name
  | [], _, h => by cases h
  | fd0 :: rest, fd, h => by
    rw [List.map_cons]
    by_cases hn : fd0.name = fd.name
    · rw [hn, get_cons_eq]
    · rw [get_cons_ne _ _ _ _ hn]
      rcases List.mem_cons.mp h with rfl | h'
      · exact absurd rfl hn
      · exact get_schema_zip m rest fd h'

/-! ### the spec's assignment against the model's -/

/-- the override part of the map UPDATE encodes: the SET list, last assignment first -/
def setMap (sets : List (Bytes × Sql.VExpr)) : Vals :=
  ((sets.map fun p => Engine.bytesToName p.1).zip
    (sets.map fun p => match p.2 with | .lit l => Engine.litToVal l | .col _ => Val.null)).reverse

/-- the spec's `assign` of `specUpdate` -/
def specAssign (cols : List FieldDef) (sets : List (Bytes × Sql.VExpr)) (vals : List Val) : Option (List Val) :=
  let m : Vals := (sets.map fun p => (Spec.nameStr p.1, match p.2 with | .lit l => Spec.litVal l | .col _ => Val.null)).reverse ++
    (cols.map (·.name)).zip vals
  match encodeTuple cols m with
  | .error _ => none
  | .ok bs => if bs.length > c_maxValueSize then none else some (cols.map fun fd => get m fd.name)

/-- one step of the spec's `mapM` in `specUpdate` -/
def specUpdRow (cols : List FieldDef) (sets : List (Bytes × Sql.VExpr)) (p : Spec.SRow × Bool) : Option Spec.SRow :=
  if p.2 then (specAssign cols sets p.1.vals).map (fun v => { p.1 with vals := v }) else some p.1

theorem specUpdate_eq (sdb : Spec.SDB) (table : Bytes) (sets : List (Bytes × Sql.VExpr)) (w : Option Sql.Cond) :
    Spec.specUpdate sdb table sets w =
      (Spec.findTable sdb table).bind fun t =>
        if sets.any (fun p => match p.2 with | .col _ => true | _ => false) then none else
        if !Spec.namesOK t (sets.map fun p => Spec.nameStr p.1) then none else
        (Spec.selects t w).bind fun sel =>
          ((t.rows.zip sel).mapM (specUpdRow t.cols sets)).bind fun rows' =>
            some (sdb.map fun x => if x.name == table then { x with rows := rows' } else x) := rfl

theorem specUpdate_some_iff {sdb sdb' : Spec.SDB} {table : Bytes} {sets : List (Bytes × Sql.VExpr)}
    {w : Option Sql.Cond} :
    Spec.specUpdate sdb table sets w = some sdb' ↔
      ∃ st sel rows', Spec.findTable sdb table = some st ∧ (∀ p ∈ sets, ∀ c, p.2 ≠ .col c) ∧
        Spec.namesOK st (sets.map fun p => Spec.nameStr p.1) = true ∧ Spec.selects st w = some sel ∧
        (st.rows.zip sel).mapM (specUpdRow st.cols sets) = some rows' ∧
        sdb' = sdb.map (updRows table fun _ => rows') := by
  rw [specUpdate_eq]
  simp only [Option.bind_eq_some_iff, Option.ite_none_left_eq_some, Option.some.injEq]
  constructor
  · rintro ⟨st, hf, hany, hnm, sel, hs, rows', hr, rfl⟩
    exact ⟨st, sel, rows', hf, fun p hp c hpc => hany ((any_col_iff sets).mpr ⟨p, hp, c, hpc⟩), by simpa using hnm,
      hs, hr, rfl⟩
  · rintro ⟨st, sel, rows', hf, hnocol, hnm, hs, hr, rfl⟩
    refine ⟨st, hf, fun hany => ?_, by simp [hnm], sel, hs, rows', hr, rfl⟩
    obtain ⟨p, hp, c, hpc⟩ := (any_col_iff sets).mp hany
    exact hnocol p hp c hpc

theorem specUpdate_eq_none {sdb : Spec.SDB} {table : Bytes} {sets : List (Bytes × Sql.VExpr)} {w : Option Sql.Cond}
    (h : ∀ st sel rows', Spec.findTable sdb table = some st → (∀ p ∈ sets, ∀ c, p.2 ≠ .col c) →
      Spec.namesOK st (sets.map fun p => Spec.nameStr p.1) = true → Spec.selects st w = some sel →
      (st.rows.zip sel).mapM (specUpdRow st.cols sets) = some rows' → False) :
    Spec.specUpdate sdb table sets w = none := by
  cases hs : Spec.specUpdate sdb table sets w with
  | none => rfl
  | some sdb' =>
    obtain ⟨st, sel, rows', h1, h2, h3, h4, h5, _⟩ := specUpdate_some_iff.mp hs
    exact (h st sel rows' h1 h2 h3 h4 h5).elim

/-! ### the spec's UPDATE does not look at the row ids -/

theorem specUpdRows_congr (cols : List FieldDef) (sets : List (Bytes × Sql.VExpr)) :
    ∀ (rows0 rows : List Spec.SRow) (sel : List Bool) (rows' : List Spec.SRow),
      rows0.map (·.vals) = rows.map (·.vals) →
      (rows.zip sel).mapM (specUpdRow cols sets) = some rows' →
      ∃ rows0', (rows0.zip sel).mapM (specUpdRow cols sets) = some rows0' ∧
        rows0'.map (·.vals) = rows'.map (·.vals)
  | [], [], sel, rows', _, h => ⟨rows', h, rfl⟩
  | [], _ :: _, _, _, hv, _ => by simp at hv
  | _ :: _, [], _, _, hv, _ => by simp at hv
  | a :: rows0, b :: rows, [], rows', _, h => by
    simp only [List.zip_nil_right] at h ⊢
    exact ⟨rows', h, rfl⟩
  | a :: rows0, b :: rows, s :: sel, rows', hv, h => by
    simp only [List.map_cons, List.cons.injEq] at hv
    obtain ⟨hab, hrest⟩ := hv
    rw [List.zip_cons_cons, mapM_cons_some] at h
    obtain ⟨r', rs', hr', hrs', rfl⟩ := h
    obtain ⟨rs0', hrs0', hvrs⟩ := specUpdRows_congr cols sets rows0 rows sel rs' hrest hrs'
    rw [List.zip_cons_cons]
    cases s
    · simp only [specUpdRow, Bool.false_eq_true, if_false, Option.some.injEq] at hr'
      subst hr'
      refine ⟨a :: rs0', mapM_cons_some.mpr ⟨a, rs0', by simp [specUpdRow], hrs0', rfl⟩, ?_⟩
      simp only [List.map_cons, hab, hvrs]
    · simp only [specUpdRow, if_true] at hr'
      obtain ⟨v, hv', hr'⟩ := Option.map_eq_some_iff.mp hr'
      subst hr'
      refine ⟨{ a with vals := v } :: rs0', mapM_cons_some.mpr
        ⟨{ a with vals := v }, rs0', by simp [specUpdRow, hab, hv'], hrs0', rfl⟩, ?_⟩
      simp only [List.map_cons, hvrs]

theorem specUpdate_congr {sdb0 sdb sdb' : Spec.SDB} (hv : valsOf sdb0 = valsOf sdb) (table : Bytes)
    (sets : List (Bytes × Sql.VExpr)) (w : Option Sql.Cond) (h : Spec.specUpdate sdb table sets w = some sdb') :
    ∃ sdb0', Spec.specUpdate sdb0 table sets w = some sdb0' ∧ valsOf sdb0' = valsOf sdb' := by
  obtain ⟨t, sel, rows', hfind, hnocol, hnm, hsel, hrows, rfl⟩ := specUpdate_some_iff.mp h
  obtain ⟨t0, hfind0, htv⟩ := findTable_congr_some hv hfind
  obtain ⟨rows0', hrows0, hvr⟩ := specUpdRows_congr t.cols sets t0.rows t.rows sel rows' (tv_rows htv) hrows
  refine ⟨_, specUpdate_some_iff.mpr ⟨t0, sel, rows0', hfind0, hnocol, ?_, (selects_congr htv w).trans hsel, ?_, rfl⟩,
    valsOf_map_congr table _ _ sdb0 sdb hv fun _ _ _ => hvr⟩
  · rwa [namesOK_congr (tv_cols htv)]
  · rwa [tv_cols htv]

/-! ### the SET map -/

theorem setMap_eq (sets : List (Bytes × Sql.VExpr)) :
    (sets.map fun p => (Spec.nameStr p.1, match p.2 with | .lit l => Spec.litVal l | .col _ => Val.null)).reverse =
      setMap sets := by
  unfold setMap
  rw [List.zip_map']
  congr 1

theorem encFit_congr (schema : List FieldDef) (m1 m2 : Vals)
    (h : ∀ fd ∈ schema, get m1 fd.name = get m2 fd.name) : encFit schema m1 = encFit schema m2 := by
  unfold encFit
  rw [encodeTuple_congr schema m1 m2 h, List.map_congr_left h]

theorem specAssign_eq (schema : List FieldDef) (sets : List (Bytes × Sql.VExpr)) (m : Vals) :
    specAssign schema sets (schema.map fun fd => get m fd.name) = encFit schema (setMap sets ++ m) := by
  unfold specAssign
  simp only [setMap_eq, List.zip_map']
  exact encFit_congr schema _ _ fun fd hfd => get_append_congr _ _ _ _ (get_schema_zip m schema fd hfd)

theorem specAssign_some_iff (schema : List FieldDef) (sets : List (Bytes × Sql.VExpr)) (m : Vals) (v : List Val) :
    specAssign schema sets (schema.map fun fd => get m fd.name) = some v ↔
      ∃ buf, encodeTuple schema (setMap sets ++ m) = .ok buf ∧ buf.length ≤ c_maxValueSize ∧
        v = schema.map fun fd => get (setMap sets ++ m) fd.name := by
  rw [specAssign_eq]
  exact encFit_some_iff _ _ _

theorem specAssign_none_iff (schema : List FieldDef) (sets : List (Bytes × Sql.VExpr)) (m : Vals) :
    specAssign schema sets (schema.map fun fd => get m fd.name) = none ↔
      (∃ e, encodeTuple schema (setMap sets ++ m) = .error e) ∨
      ∃ buf, encodeTuple schema (setMap sets ++ m) = .ok buf ∧ buf.length > c_maxValueSize := by
  rw [specAssign_eq]
  exact encFit_none_iff _ _

/-! ### the updated cell -/

/-- the cell after UPDATE rewrote it (unchanged if the row does not decode or the new one does not encode) -/
def updCell (schema : List FieldDef) (sets : List (Bytes × Sql.VExpr)) (c : LeafCell) : LeafCell :=
  match decodeTuple schema c.val [] with
  | .ok m =>
    match encodeTuple schema (setMap sets ++ m) with
    | .ok b => { c with val := b }
    | .error _ => c
  | .error _ => c

theorem updCell_key (schema : List FieldDef) (sets : List (Bytes × Sql.VExpr)) (c : LeafCell) :
    (updCell schema sets c).key = c.key := by
  unfold updCell
  split
  · split <;> rfl
  · rfl

/-- the cells after the rows with ids in `K` were rewritten -/
def updK (schema : List FieldDef) (sets : List (Bytes × Sql.VExpr)) (K : List Nat) (c : LeafCell) : LeafCell :=
  if K.contains c.key then updCell schema sets c else c

theorem updK_key (schema : List FieldDef) (sets : List (Bytes × Sql.VExpr)) (K : List Nat) (c : LeafCell) :
    (updK schema sets K c).key = c.key := by
  unfold updK
  split
  · exact updCell_key schema sets c
  · rfl

/-! ### the loop -/

theorem checkColumns_of_checkSetColumns {schema : List FieldDef} {sets : List (Bytes × Sql.VExpr)}
    (h : Engine.checkSetColumns (schema.map fun fd => (⟨[], fd.name.toUTF8.toList⟩ : Exec.Field)) []
      (sets.map (·.1)) = none) :
    checkColumns schema (sets.map fun p => Engine.bytesToName p.1) = none := by
  have := checkSetColumns_none_checkColumns schema _ h
  rwa [List.map_map] at this

theorem updK_of_not_mem (schema : List FieldDef) (sets : List (Bytes × Sql.VExpr)) {K : List Nat} {c : LeafCell}
    (h : c.key ∉ K) : updK schema sets K c = c := by
  have : K.contains c.key = false := by simpa using h
  simp only [updK, this, Bool.false_eq_true, if_false]

theorem updK_of_mem (schema : List FieldDef) (sets : List (Bytes × Sql.VExpr)) {K : List Nat} {c : LeafCell}
    (h : c.key ∈ K) : updK schema sets K c = updCell schema sets c := by
  have : K.contains c.key = true := by simpa using h
  simp only [updK, this, if_true]

theorem updCell_eq {schema : List FieldDef} {sets : List (Bytes × Sql.VExpr)} {c : LeafCell} {m : Vals} {buf : Bytes}
    (hdec : decodeTuple schema c.val [] = .ok m) (henc : encodeTuple schema (setMap sets ++ m) = .ok buf) :
    updCell schema sets c = { c with val := buf } := by
  simp only [updCell, hdec, henc]

theorem mem_live_setVal {t : Levels} {c : LeafCell} {k : Nat} (hc : c ∈ live t) (hne : c.key ≠ k) (lsn : Nat)
    (buf : Bytes) : c ∈ live (setVal t k lsn buf) := by
  rw [live_setVal]
  exact List.mem_map.mpr ⟨c, hc, by simp [hne]⟩

theorem map_updK_cons (schema : List FieldDef) (sets : List (Bytes × Sql.VExpr)) {cs : List LeafCell}
    (hnd : (cs.map (·.key)).Nodup) {c : LeafCell} (hc : c ∈ cs) {K : List Nat} (hK : c.key ∉ K) {buf : Bytes}
    (hupd : updCell schema sets c = { c with val := buf }) :
    (cs.map fun x => if x.key == c.key then { x with val := buf } else x).map (updK schema sets K) =
      cs.map (updK schema sets (c.key :: K)) := by
  rw [List.map_map]
  apply List.map_congr_left
  intro x hx
  by_cases hxk : x.key = c.key
  · obtain rfl : x = c := inj_of_nodup_map (·.key) cs hnd x hx c hc hxk
    rw [Function.comp, beq_self_eq_true, if_pos rfl, updK_of_not_mem schema sets (c := { x with val := buf }) hK,
      updK_of_mem schema sets List.mem_cons_self, hupd]
  · have hb : (x.key == c.key) = false := by simpa using hxk
    simp only [Function.comp, hb, Bool.false_eq_true, if_false, updK, List.contains_cons, Bool.false_or]

/-- **The rewrites of an UPDATE**, one after the other on the store, of distinct row ids `ids` of live cells
that can be rewritten: a live run.  `cols` and `src` are variables and the model's SET columns and values
enter only through `hov`: written out, the `match` in the value list is another auxiliary definition in every
module, and unifying two of them inside the arguments of `update_cat` is very slow to check. -/
theorem update_rows (table : Bytes) (pt sch : Levels) (schema : List FieldDef)
    (hsch : schemaOf sch table = some schema) (sets : List (Bytes × Sql.VExpr)) (cols : List String)
    (src : List Val) (hov : (cols.zip src).reverse = setMap sets) (hnames : checkColumns schema cols = none) :
    ∀ (ids : List (Nat × List Val)) (s : Store) (tbls : List (Bytes × Levels)) (t : Levels),
      Cat s pt sch tbls → (table, t) ∈ tbls → (ids.map (·.1)).Nodup →
      (∀ r ∈ ids, ∃ c ∈ live t, c.key = r.1 ∧ ∃ m buf, decodeTuple schema c.val [] = .ok m ∧
        encodeTuple schema (setMap sets ++ m) = .ok buf ∧ buf.length ≤ c_maxValueSize) →
      ∃ s' t' logs,
        rowsM (fun r => update table r.1 cols src) ids s = .ok logs s' ∧
        LiveRunM sch s tbls (ids.map fun r => .upd table r.1 cols src) s' (setTable tbls table t') logs ∧
        Cat s' pt sch (setTable tbls table t') ∧
        live t' = (live t).map (updK schema sets (ids.map (·.1))) ∧
        logs.length = ids.length ∧ s'.hdr.lastKey = s.hdr.lastKey ∧ s'.hdr.nextFree = s.hdr.nextFree ∧
        (ids = [] → s' = s ∧ t' = t) := by
  intro ids
  induction ids with
  | nil =>
    intro s tbls t h ht _ _
    refine ⟨s, t, [], rfl, ?_, ?_, ?_, rfl, rfl, rfl, fun _ => ⟨rfl, rfl⟩⟩
    · rw [setTable_self h.tnames ht]; exact .nil s tbls
    · rw [setTable_self h.tnames ht]; exact h
    · rw [List.map_nil, List.map_congr_left fun c _ => updK_of_not_mem schema sets List.not_mem_nil, List.map_id']
  | cons r rest ih =>
    intro s tbls t h ht hnd hlive
    rw [List.map_cons, List.nodup_cons] at hnd
    obtain ⟨c, hc, hck, m, buf, hdec, henc, hsz⟩ := hlive r List.mem_cons_self
    have henc' : encodeTuple schema ((cols.zip src).reverse ++ m) = .ok buf := by rw [hov]; exact henc
    obtain ⟨s1, l, d, _, _, e1, hc1, _, hlk1, _, hnf1, _⟩ := update_cat h table t ht schema hsch r.1 cols src hnames
      c hc hck m buf hdec henc' hsz
    obtain ⟨s', t', logs', ego, hrun', hc', hl', hlen', hlk', hnf', _⟩ := ih s1 _ (setVal t r.1 s.hdr.nextLSN buf) hc1
      (mem_setTable_self _ ht) hnd.2
      (fun r' hr' => by
        obtain ⟨c', hc', hck', hrest⟩ := hlive r' (List.mem_cons_of_mem _ hr')
        exact ⟨c', mem_live_setVal hc' (fun heq => hnd.1 (List.mem_map.mpr ⟨r', hr', hck'.symm.trans heq⟩)) _ _,
          hck', hrest⟩)
    obtain ⟨_, hIt, _, _, _⟩ := h.tree t (Cat.tb_mem ht)
    rw [setTable_setTable] at hrun' hc'
    refine ⟨s', t', ⟨c_OpUpdate, s.hdr.nextLSN, l.off, r.1, buf⟩ :: logs',
      rowsM_cons_ok (op := fun r : Nat × List Val => update table r.1 cols src) e1 ego, ?_, hc', ?_, ?_, ?_, ?_,
      fun h0 => (List.cons_ne_nil _ _ h0).elim⟩
    · exact LiveRunM.upd (logs := [⟨c_OpUpdate, s.hdr.nextLSN, l.off, r.1, buf⟩]) table r.1 cols src t schema c m buf
        ht hsch hc hck hdec henc' hsz e1 hrun'
    · rw [hl', live_setVal, List.map_cons, ← hck]
      exact map_updK_cons schema sets (live_keys_nodup hIt.asc) hc (hck ▸ hnd.1) (updCell_eq hdec henc)
    · rw [List.length_cons, List.length_cons, hlen']
    · rw [hlk', hlk1]
    · rw [hnf', hnf1]

end Mkdb.Store
