import Mkdb.Proofs.CreateDefs
import Mkdb.Proofs.UnchangedReadOnly
/-!
`MemFiled` ("every cached page object is filed under the offset it carries") is an invariant of
every operation of the page store: here the primitives, the tree insert and `insert` (`createTable`
and the flush are in `FlushPages`).

The cache is only ever written through `assocSet mem (nodeOff n) ⟨n, _⟩` (`fetch`, `putNode`),
`assocSet mem off ⟨setLSN m.node lsn, true⟩` where `m` was found under `off` (`markDirty`),
`assocSet mem off ⟨setOff n off, d⟩` (`appendNode`) and `assocSet mem off ⟨m.node, false⟩` where
`m` was found under `off` (`flushPages`).  `KeepsFiled m` is `Preserves` of the relation
`fun s s' => MemFiled s → MemFiled s'` (`keepsFiled_iff`, `memFiled_writes`).
-/
set_option autoImplicit false
namespace Mkdb.Store
open Mkdb.Page Mkdb.Tuple Mkdb.Generated Mkdb.Tree

instance (s : Store) : Decidable (MemFiled s) := by unfold MemFiled; exact inferInstance

theorem nodeOff_setLSN (n : Node) (lsn : Nat) : nodeOff (setLSN n lsn) = nodeOff n := by
  cases n <;> rfl

theorem nodeOff_setOff (n : Node) (off : Nat) : nodeOff (setOff n off) = off := by
  cases n <;> rfl

theorem MemFiled.of_mem_eq {s s' : Store} (hf : MemFiled s) (h : s'.mem = s.mem) : MemFiled s' := by
  intro p hp
  rw [h] at hp
  exact hf p hp

theorem MemFiled.set {s s' : Store} (hf : MemFiled s) {k : Nat} {v : MNode}
    (hv : nodeOff v.node = k) (h : s'.mem = assocSet s.mem k v) : MemFiled s' := by
  intro p hp
  rw [h] at hp
  rcases mem_assocSet hp with h1 | h1
  · exact hf p h1
  · rw [h1]; exact hv

theorem MemFiled.get {s : Store} (hf : MemFiled s) {off : Nat} {m : MNode}
    (h : assocGet s.mem off = some m) : nodeOff m.node = off :=
  hf (off, m) (assocGet_some h)

def KeepsFiled {α} (m : SM α) : Prop :=
  ∀ s, MemFiled s → match m s with
    | .ok _ s' => MemFiled s'
    | .err _ s' => MemFiled s'
    | _ => True

theorem KeepsFiled.ok {α} {m : SM α} (h : KeepsFiled m) {s s' : Store} {a : α} (hf : MemFiled s)
    (e : m s = .ok a s') : MemFiled s' := by have := h s hf; rw [e] at this; exact this

theorem KeepsFiled.err {α} {m : SM α} (h : KeepsFiled m) {s s' : Store} {x : SErr} (hf : MemFiled s)
    (e : m s = .err x s') : MemFiled s' := by have := h s hf; rw [e] at this; exact this

theorem keepsFiled_iff {α} {m : SM α} :
    KeepsFiled m ↔ Preserves (fun s s' => MemFiled s → MemFiled s') m := preserves_of_pre.symm

theorem KeepsFiled.fetch (off : Nat) : KeepsFiled (fetch off) := by
  intro s hf
  unfold Store.fetch
  cases assocGet s.mem off with
  | some m => exact hf
  | none => exact hf.set (v := ⟨_, false⟩) rfl rfl

theorem KeepsFiled.putNode (n : Node) (d : Option Bool) : KeepsFiled (putNode n d) := by
  intro s hf
  unfold Store.putNode
  exact hf.set (v := ⟨n, _⟩) rfl rfl

theorem KeepsFiled.markDirty (off lsn : Nat) : KeepsFiled (markDirty off lsn) := by
  intro s hf
  unfold Store.markDirty
  cases e : assocGet s.mem off with
  | none => trivial
  | some m =>
    exact hf.set (v := ⟨setLSN m.node lsn, true⟩) ((nodeOff_setLSN _ _).trans (hf.get e)) rfl

theorem KeepsFiled.appendNode (n : Node) (d : Bool) : KeepsFiled (appendNode n d) := by
  intro s hf
  unfold Store.appendNode
  exact hf.set (v := ⟨setOff n s.hdr.nextFree, d⟩) (nodeOff_setOff _ _) rfl

/-- the primitives above are the only writers of the cache: the counters are header fields -/
theorem memFiled_writes : KeptByWrites fun s s' => MemFiled s → MemFiled s' where
  refl _ h := h
  trans h1 h2 h := h2 (h1 h)
  fetch off := keepsFiled_iff.mp (KeepsFiled.fetch off)
  putNode n d := keepsFiled_iff.mp (KeepsFiled.putNode n d)
  markDirty off lsn := keepsFiled_iff.mp (KeepsFiled.markDirty off lsn)
  appendNode n d := keepsFiled_iff.mp (KeepsFiled.appendNode n d)
  ghost _ h := h
  lsn _ h := h
  keyLsn _ h := h
  ptRoot _ _ h := h

theorem KeepsFiled.insertLeaf (parent : Option Nat) (cur : Leaf) (key lsn : Nat) (value : Bytes) (root : Nat) :
    KeepsFiled (insertLeaf parent cur key lsn value root) :=
  keepsFiled_iff.mpr (memFiled_writes.insertLeaf _ _ _ _ _ _)

theorem KeepsFiled.insertInternal : ∀ (fuel : Nat) (parent : Option Nat) (cur : Internal) (key lsn : Nat)
    (value : Bytes) (root : Nat), KeepsFiled (insertInternal fuel parent cur key lsn value root) :=
  fun _ _ _ _ _ _ _ => keepsFiled_iff.mpr (memFiled_writes.insertInternal _ _ _ _ _ _ _)

theorem KeepsFiled.insertKeyHeap (bt : BT) (key lsn : Nat) (value : Bytes) :
    KeepsFiled (Store.insertKeyHeap bt key lsn value) :=
  keepsFiled_iff.mpr (memFiled_writes.insertKeyHeap _ _ _ _)

theorem KeepsFiled.insertKey (bt : BT) (key lsn : Nat) (value : Bytes) :
    KeepsFiled (Store.insertKey bt key lsn value) :=
  keepsFiled_iff.mpr (memFiled_writes.insertKey _ _ _ _)

theorem KeepsFiled.insert (table : Bytes) (cols : List String) (vals : List Val) :
    KeepsFiled (Store.insert table cols vals) :=
  keepsFiled_iff.mpr (memFiled_writes.insert _ _ _)

end Mkdb.Store
