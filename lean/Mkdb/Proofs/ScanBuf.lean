import Mkdb.Model.ScanBuf
/-!
Buffering in `Scanner.next` (sql/go_scanner.go) is invisible: whatever the reader returns per
`Read`, the runes, their widths and the token text are those of the unbuffered input.
-/
namespace Mkdb.ScanBuf

/-! ## DecodeRune / FullRune -/

set_option linter.unusedSimpArgs false in
/-- `DecodeRune` is prefix-stable: once the bytes begin with a full rune (or there are
`UTFMax` of them), more bytes behind them do not change the result. -/
theorem decodeRune_prefix_stable (bs more : Bytes)
    (h : fullRune bs = true ∨ utfMax ≤ bs.length) :
    decodeRune (bs ++ more) = decodeRune bs := by
  match bs, h with
  | [], h => simp [fullRune, utfMax] at h
  | b0 :: t, h =>
    simp only [List.cons_append, decodeRune, fullRune] at h ⊢
    generalize lead b0 = L at h ⊢
    cases L with
    | ascii => rfl
    | invalid => rfl
    | two lo hi =>
      match t, h with
      | [], h => simp [utfMax] at h
      | _ :: _, _ => rfl
    | three lo hi =>
      match t, h with
      | [], h => simp [utfMax] at h
      | [b1], h =>
        simp only [utfMax, List.length_cons, List.length_nil] at h
        have h' : inR lo hi b1 = false := by simpa using h
        cases more <;> simp [h']
      | _ :: _ :: _, _ => rfl
    | four lo hi =>
      match t, h with
      | [], h => simp [utfMax] at h
      | [b1], h =>
        have h' : inR lo hi b1 = false := by simpa [utfMax] using h
        match more with
        | [] => simp
        | [_] => simp
        | _ :: _ :: _ => simp [h']
      | [b1, b2], h =>
        have h' : inR lo hi b1 = false ∨ cont b2 = false := by simpa [utfMax] using h
        cases more with
        | nil => rcases h' with h' | h' <;> simp [h']
        | cons m ms => rcases h' with h' | h' <;> simp [h']
      | _ :: _ :: _ :: _, _ => rfl

theorem decodeRune_width_le (p : Bytes) : (decodeRune p).2 ≤ p.length := by
  match p with
  | [] => simp [decodeRune]
  | b0 :: t =>
    simp only [decodeRune]
    repeat' split
    all_goals simp

theorem lead_ascii (b : UInt8) (h : b.toNat < runeSelf) : lead b = .ascii := by
  simp only [runeSelf] at h
  simp [lead, h]

/-- the ASCII fast path of `next` agrees with `DecodeRune` -/
theorem decodeRune_ascii (p : Bytes) (h : ¬ runeSelf ≤ headOrSentinel p) :
    p ≠ [] ∧ decodeRune p = (headOrSentinel p, 1) := by
  match p with
  | [] => simp [headOrSentinel] at h
  | b :: t =>
    simp only [headOrSentinel, Nat.not_le] at h
    simp [decodeRune, lead_ascii b h, headOrSentinel]

/-! ## the refill loop -/

/-- the token text collected so far: `tokBuf ++ srcBuf[tokPos:srcPos]` (if `tokPos >= 0`) -/
def tokAll (st : St) : Option Bytes := st.tok.map (st.tokBuf ++ ·)

@[simp] theorem saveTok_win (st : St) : (saveTok st).win = st.win := by
  unfold saveTok; split <;> rfl
@[simp] theorem saveTok_rest (st : St) : (saveTok st).rest = st.rest := by
  unfold saveTok; split <;> rfl
@[simp] theorem saveTok_last (st : St) : (saveTok st).last = st.last := by
  unfold saveTok; split <;> rfl
@[simp] theorem saveTok_sched (st : St) : (saveTok st).sched = st.sched := by
  unfold saveTok; split <;> rfl
@[simp] theorem saveTok_tokAll (st : St) : tokAll (saveTok st) = tokAll st := by
  unfold saveTok tokAll; split <;> simp [*]

@[simp] theorem tokAll_mk (w tb : Bytes) (t : Option Bytes) (l r : Bytes) (sc : Nat → Choice) (k : Nat) :
    tokAll ⟨w, tb, t, l, r, sc, k⟩ = t.map (tb ++ ·) := rfl
@[simp] theorem saveTok_tokAll' (st : St) :
    (saveTok st).tok.map ((saveTok st).tokBuf ++ ·) = tokAll st := saveTok_tokAll st

theorem readCount_pos (c : Choice) (i left : Nat) (hi : i < utfMax) (hl : 0 < left) :
    1 ≤ readCount c i left := by
  simp only [readCount, utfMax, bufLen] at *
  omega

/-- one `Read` of `k ≥ 1` bytes: the unread bytes and the token text stay, the buffer is not empty -/
theorem read_ok (st : St) (k : Nat) (hk : 1 ≤ k) (hr : st.rest ≠ []) (st2 : St)
    (h2 : st2 = { saveTok st with win := st.win ++ st.rest.take k, rest := st.rest.drop k, reads := st.reads + 1 }) :
    pending st2 = pending st ∧ tokAll st2 = tokAll st ∧ st2.sched = st.sched ∧ st2.win ≠ [] := by
  subst h2
  refine ⟨by simp [pending], by simp, by simp, ?_⟩
  cases hrr : st.rest with
  | nil => exact absurd hrr hr
  | cons a t =>
    cases k with
    | zero => omega
    | succ k => simp

structure RefillOK (st : St) (r : Bool × St) : Prop where
  pend : pending r.2 = pending st
  tok : tokAll r.2 = tokAll st
  sched : r.2.sched = st.sched
  eof : r.1 = true → pending st = [] ∧ r.2.win = [] ∧ r.2.last = []
  go : r.1 = false → r.2.win ≠ [] ∧ decodeRune r.2.win = decodeRune (pending st)

/-- the loop ends: the rune at the front of the unread bytes is in the buffer -/
theorem RefillOK.stop {st : St} (hne : st.win ≠ []) (hd : decodeRune st.win = decodeRune (pending st)) :
    RefillOK st (false, st) :=
  ⟨rfl, rfl, rfl, nofun, fun _ => ⟨hne, hd⟩⟩

/-- one `Read` that delivered bytes (`st2.win ≠ []`) and lost none: the loop goes on from `st2` -/
theorem RefillOK.read {st st2 : St} {r : Bool × St} (hp : pending st2 = pending st) (ht : tokAll st2 = tokAll st)
    (hs : st2.sched = st.sched) (hne : st2.win ≠ []) (h : RefillOK st2 r) : RefillOK st r := by
  refine ⟨h.pend.trans hp, h.tok.trans ht, h.sched.trans hs, fun he => ?_, fun hg => ?_⟩
  · have := (h.eof he).1
    simp only [pending, List.append_eq_nil_iff] at this
    exact absurd this.1 hne
  · exact ⟨(h.go hg).1, by rw [(h.go hg).2, hp]⟩

theorem refill_ok (st : St) : RefillOK st (refill st) := by
  fun_induction refill st with
  -- nothing left to read: with an empty buffer `next` is at EOF (case1), otherwise the buffer is all (case2)
  | case1 st h st1 hr hw => constructor <;> simp [st1, pending, hr, hw]
  | case2 st h st1 hr hw => constructor <;> simp [st1, pending, hr, hw]
  | case3 st h st1 hr c n st2 hb =>
    -- the `Read` reported EOF with its bytes: all unread bytes are in the buffer
    obtain ⟨hp, ht, hs, hne⟩ := read_ok st n
      (readCount_pos c _ _ h.1 (List.length_pos_iff.mpr hr)) hr st2 rfl
    refine (RefillOK.stop hne ?_).read hp ht hs hne
    simp only [pending, hb.1, List.append_nil]
  | case4 st h st1 hr c n st2 hb ih =>
    -- the `Read` delivered bytes and the loop goes round again
    obtain ⟨hp, ht, hs, hne⟩ := read_ok st n
      (readCount_pos c _ _ h.1 (List.length_pos_iff.mpr hr)) hr st2 rfl
    exact ih.read hp ht hs hne
  | case5 st h =>
    -- no `Read` at all: the buffer holds a full rune or `utfMax` bytes, which decode as all pending bytes do
    have h' : fullRune st.win = true ∨ utfMax ≤ st.win.length := by
      by_cases hf : fullRune st.win = true
      · exact Or.inl hf
      · right
        have : ¬ st.win.length < utfMax := fun hl => h ⟨hl, by simpa using hf⟩
        omega
    refine .stop ?_ (decodeRune_prefix_stable st.win st.rest h').symm
    intro he
    rw [he] at h'
    simp [fullRune, utfMax] at h'

/-! ## one call of `next` -/

theorem advance_ok (st : St) (w : Nat) (hw : w ≤ st.win.length) :
    pending (advance st w) = (pending st).drop w ∧ (advance st w).last = (pending st).take w ∧
    tokAll (advance st w) = (tokAll st).map (· ++ (pending st).take w) ∧
    (∀ t, (advance st w).tok = some t → (advance st w).last.length ≤ t.length) := by
  have h1 : (st.win ++ st.rest).drop w = st.win.drop w ++ st.rest := List.drop_append_of_le_length hw
  have h2 : (st.win ++ st.rest).take w = st.win.take w := List.take_append_of_le_length hw
  refine ⟨?_, ?_, ?_, ?_⟩
  · simp only [pending, advance, h1]
  · simp only [pending, advance, h2]
  · simp only [pending, advance, h2, tokAll, Option.map_map]
    congr 1
    funext t
    simp
  · intro t ht
    simp only [advance, Option.map_eq_some_iff] at ht
    obtain ⟨t0, _, rfl⟩ := ht
    simp only [advance, List.length_append]
    omega

/-- the width `DecodeRune` reports for the rune at the front of `p` (0 when `p` is empty) -/
def width (p : Bytes) : Nat := (decodeRune p).2

theorem width_nil : width [] = 0 := rfl

/-- What one call of `next` does, in terms of the unread source bytes `pending st` only: it decodes the
rune at their front and consumes exactly its bytes - none at the end of the source, where it returns
EOF -, remembers them as the last character and appends them to the token text. -/
structure NextOK (st : St) (r : Option Nat × Nat × St) : Prop where
  sched : r.2.2.sched = st.sched
  lastLen : ∀ t, r.2.2.tok = some t → r.2.2.last.length ≤ t.length
  rune : r.1 = if pending st = [] then none else some (decodeRune (pending st)).1
  wid : r.2.1 = width (pending st)
  pend : pending r.2.2 = (pending st).drop (width (pending st))
  last : r.2.2.last = (pending st).take (width (pending st))
  tok : tokAll r.2.2 = (tokAll st).map (· ++ (pending st).take (width (pending st)))

/-- `next` on unread bytes: whatever refilling made of `st` (`st1`: same unread bytes, token text and
reader, the rune at the front now in the buffer), the rune is consumed by `advance`. -/
theorem NextOK.advance {st st1 : St} (hp : pending st1 = pending st) (ht : tokAll st1 = tokAll st)
    (hs : st1.sched = st.sched) (hne : pending st ≠ []) (hw : width (pending st) ≤ st1.win.length) :
    NextOK st (some (decodeRune (pending st)).1, width (pending st), advance st1 (width (pending st))) := by
  obtain ⟨h1, h2, h3, h4⟩ := advance_ok st1 (width (pending st)) hw
  rw [hp] at h1 h2 h3
  rw [ht] at h3
  exact ⟨hs, h4, (if_neg hne).symm, rfl, h1, h2, h3⟩

theorem next_ok (st : St) : NextOK st (next st) := by
  unfold next
  split
  · have hr := refill_ok st
    split
    · rename_i st1 heq
      rw [heq] at hr
      obtain ⟨he, -, hl⟩ := hr.eof rfl
      have hp1 : pending st1 = [] := by rw [hr.pend]; exact he
      refine ⟨hr.sched, ?_, (if_pos he).symm, ?_, ?_, ?_, ?_⟩
      · intro t _; dsimp only; rw [hl]; exact Nat.zero_le _
      all_goals simp only [he, width_nil, List.drop_nil, List.take_nil, List.append_nil, Option.map_id']
      · exact hp1
      · exact hl
      · exact hr.tok
    · rename_i st1 heq
      rw [heq] at hr
      obtain ⟨hne1, hdec⟩ := hr.go rfl
      have hpne : pending st ≠ [] := by
        rw [← hr.pend]; simp only [pending]; intro h
        exact hne1 (List.append_eq_nil_iff.mp h).1
      dsimp only at hdec hr ⊢
      have hw : width (pending st) ≤ st1.win.length := by rw [width, ← hdec]; exact decodeRune_width_le _
      have := NextOK.advance hr.pend hr.tok hr.sched hpne hw
      split
      · rwa [width, ← hdec] at this
      · rename_i hasc
        rwa [width, ← hdec, (decodeRune_ascii st1.win hasc).2] at this
  · rename_i hasc
    obtain ⟨hne, hd⟩ := decodeRune_ascii st.win hasc
    have hfull : fullRune st.win = true := by
      match hww : st.win, hasc with
      | [], h => simp [headOrSentinel] at h
      | b :: t, h =>
        simp only [headOrSentinel, Nat.not_le] at h
        simp [fullRune, lead_ascii b h]
    have h1 : decodeRune (pending st) = (headOrSentinel st.win, 1) := by
      rw [← hd]; exact decodeRune_prefix_stable st.win st.rest (Or.inl hfull)
    have hpne : pending st ≠ [] := by
      simp only [pending]; intro h
      exact hne (List.append_eq_nil_iff.mp h).1
    have := NextOK.advance (st := st) rfl rfl rfl hpne
      (by rw [width, h1]; exact List.length_pos_iff.mpr hne)
    rwa [width, h1] at this

/-! ## all runes and widths -/

theorem decodeAll_nil : decodeAll [] = [] := by rw [decodeAll]

theorem decodeAll_ne (p : Bytes) (h : p ≠ []) :
    decodeAll p = decodeRune p :: decodeAll (p.drop (decodeRune p).2) := by
  match p, h with
  | b :: t, _ => rw [decodeAll]

theorem width_pos (p : Bytes) (h : p ≠ []) : 1 ≤ width p := by
  match p, h with
  | b :: t, _ => exact decodeRune_width_pos b t

/-- With enough fuel (more than the number of unread bytes) the buffered run delivers exactly
the (rune, width) pairs of direct decoding; in particular the result does not depend on the
fuel, i.e. the run reached EOF. -/
theorem nextAllFuel_eq_decodeAll : ∀ (fuel : Nat) (st : St), (pending st).length < fuel →
    nextAllFuel fuel st = decodeAll (pending st) := by
  intro fuel
  induction fuel with
  | zero => intro st h; omega
  | succ fuel ih =>
    intro st hlen
    obtain ⟨-, -, hrune, hwid, hpend, -, -⟩ := next_ok st
    unfold nextAllFuel
    by_cases hp : pending st = []
    · rw [if_pos hp] at hrune
      rw [hp, decodeAll_nil]
      split
      · rfl
      · rename_i heq; rw [heq] at hrune; cases hrune
    · rw [if_neg hp] at hrune
      split
      · rename_i heq; rw [heq] at hrune; cases hrune
      · rename_i r w st' heq
        rw [heq] at hrune hwid hpend
        dsimp only at hrune hwid hpend
        have hw := width_pos _ hp
        have hw2 : width (pending st) ≤ (pending st).length := decodeRune_width_le _
        rw [ih st' (by rw [hpend, List.length_drop]; omega), decodeAll_ne _ hp, hpend, Option.some.inj hrune, hwid]
        rfl

/-- For any scanner state: runes and widths of the buffered run are those of decoding
the unread source bytes directly. -/
theorem nextAll_eq_decodeAll (st : St) : nextAll st = decodeAll (pending st) :=
  nextAllFuel_eq_decodeAll _ st (Nat.lt_succ_self _)

def decodeRunes (bs : Bytes) : List Nat := (decodeAll bs).map (·.1)

/-- For every input and every behaviour of the reader, the runes the buffered scanner
delivers from `Init` until EOF are the runes of the input decoded directly. -/
theorem nextAll_buffered_eq_unbuffered (input : Bytes) (sched : Nat → Choice) :
    (nextAll (init input sched)).map (·.1) = decodeRunes input := by
  rw [nextAll_eq_decodeAll]; rfl

/-- ... and every rune consumes the same number of bytes, so all positions agree. -/
theorem nextAll_widths_eq (input : Bytes) (sched : Nat → Choice) :
    (nextAll (init input sched)).map (·.2) = (decodeAll input).map (·.2) := by
  rw [nextAll_eq_decodeAll]; rfl

/-- The widths add up to the length of the input: nothing is skipped, nothing read twice. -/
theorem decodeAll_widths_sum : ∀ (n : Nat) (p : Bytes), p.length = n →
    ((decodeAll p).map (·.2)).sum = p.length := by
  intro n
  induction n using Nat.strongRecOn with
  | _ n ih =>
    intro p hn
    by_cases hp : p = []
    · rw [hp, decodeAll_nil]; rfl
    · rw [decodeAll_ne p hp]
      have h1 := width_pos p hp
      have h2 := decodeRune_width_le p
      simp only [width] at h1
      have := ih (p.drop (decodeRune p).2).length (by rw [List.length_drop]; omega) _ rfl
      simp only [List.map_cons, List.sum_cons, this, List.length_drop]
      omega

/-! ## token text -/

/-- bytes consumed by `k` calls of `next` when `p` is unread -/
def consumed : Nat → Bytes → Nat
  | 0, _ => 0
  | k + 1, p => width p + consumed k (p.drop (width p))

theorem nexts_pending : ∀ (k : Nat) (st : St),
    pending (nexts k st) = (pending st).drop (consumed k (pending st)) := by
  intro k
  induction k with
  | zero => intro st; rfl
  | succ k ih =>
    intro st
    simp only [nexts, consumed]
    rw [ih, (next_ok st).pend, List.drop_drop]

theorem nexts_tokAll : ∀ (k : Nat) (st : St),
    tokAll (nexts k st) = (tokAll st).map (· ++ (pending st).take (consumed k (pending st))) := by
  intro k
  induction k with
  | zero => intro st; simp [nexts, consumed]
  | succ k ih =>
    intro st
    simp only [nexts, consumed]
    rw [ih, (next_ok st).pend, (next_ok st).tok, Option.map_map]
    congr 1
    funext t
    simp only [Function.comp, List.append_assoc, List.take_add]

theorem nexts_succ : ∀ (k : Nat) (st : St), nexts (k + 1) st = (next (nexts k st)).2.2 := by
  intro k
  induction k with
  | zero => intro st; rfl
  | succ k ih => intro st; rw [nexts, ih]; rfl

theorem tokenText_of_tokAll (st : St) (L : Bytes) (h : tokAll st = some (L ++ st.last))
    (hl : ∀ t, st.tok = some t → st.last.length ≤ t.length) : tokenText st = L := by
  unfold tokAll at h
  unfold tokenText
  cases ht : st.tok with
  | none => rw [ht] at h; cases h
  | some t =>
    rw [ht] at h
    have hlen := hl t ht
    have h' : st.tokBuf ++ t = L ++ st.last := Option.some.inj h
    have hlen2 := congrArg List.length h'
    simp only [List.length_append] at hlen2
    dsimp only
    have : st.tokBuf ++ t.take (t.length - st.last.length) = (st.tokBuf ++ t).take L.length := by
      have e1 : st.tokBuf.length ≤ L.length := by omega
      have e2 : L.length - st.tokBuf.length = t.length - st.last.length := by omega
      rw [List.take_append, List.take_of_length_le e1, e2]
    rw [this, h', List.take_left']
    rfl

/-- Token text, for any scanner state `st` (any buffer content, any reader): if `Scan`
starts a token (`tokPos = srcPos - lastCharLen`) and then calls `next` `k+1` times, the text
`TokenText()` returns is the last character read before, followed by exactly the source bytes
the first `k` of these calls consumed (the last call read the look-ahead character, which
does not belong to the token) - whatever refills happened in between. -/
theorem tokenText_nexts (st : St) (k : Nat) :
    tokenText (nexts (k + 1) (startToken st)) =
      st.last ++ (pending st).take (consumed k (pending st)) := by
  rw [nexts_succ]
  apply tokenText_of_tokAll
  · rw [(next_ok _).tok, (next_ok _).last, nexts_tokAll]
    simp [tokAll, startToken, pending]
  · exact (next_ok _).lastLen

theorem consumed_eq_sum : ∀ (k : Nat) (p : Bytes),
    consumed k p = (((decodeAll p).take k).map (·.2)).sum := by
  intro k
  induction k with
  | zero => intro p; simp [consumed]
  | succ k ih =>
    intro p
    by_cases hp : p = []
    · subst hp
      have : ∀ j, consumed j [] = 0 := by
        intro j; induction j with
        | zero => rfl
        | succ j ihj => simp only [consumed, width_nil, List.drop_nil, ihj]
      rw [this, decodeAll_nil]; rfl
    · rw [decodeAll_ne p hp]
      simp only [consumed, List.take_succ_cons, List.map_cons, List.sum_cons, ih, width]

/-- From `Init`: the token that `Scan` starts after `i+1` characters have been read (so it
begins with character number `i+1`) and ends when `k+1` more have been read is, as text,
the `k+1` characters of the input that begin at the byte offset of character `i+1`. -/
theorem tokenText_from_init (input : Bytes) (sched : Nat → Choice) (i k : Nat) :
    tokenText (nexts (k + 1) (startToken (nexts (i + 1) (init input sched)))) =
      (input.drop (consumed i input)).take (consumed (k + 1) (input.drop (consumed i input))) := by
  rw [tokenText_nexts, nexts_succ, (next_ok _).last, (next_ok _).pend, nexts_pending]
  have : pending (init input sched) = input := rfl
  rw [this]
  simp only [consumed, List.take_add]

/-- after all runes have been delivered, `next` returns EOF (and keeps returning it) -/
theorem next_eof_at_end (st : St) (h : pending st = []) :
    (next st).1 = none ∧ pending (next st).2.2 = [] :=
  ⟨(next_ok st).rune.trans (if_pos h), by rw [(next_ok st).pend, h]; rfl⟩

/-! ## evaluation: the same functions by structural recursion

`refill` and `decodeAll` are defined by well-founded recursion, which `decide` does not
unfold.  Fuel versions, proved equal, let concrete runs be computed. -/

def refillF : Nat → St → Bool × St
  | 0, st => (false, st)
  | fuel + 1, st =>
    if st.win.length < utfMax ∧ fullRune st.win = false then
      let st1 := saveTok st
      if st.rest = [] then
        if st.win = [] then (true, { st1 with last := [], reads := st.reads + 1 })
        else (false, { st1 with reads := st.reads + 1 })
      else
        let c := st.sched st.reads
        let n := readCount c st.win.length st.rest.length
        let st2 : St := { st1 with win := st.win ++ st.rest.take n, rest := st.rest.drop n,
                                   reads := st.reads + 1 }
        if st2.rest = [] ∧ c.eofWithData = true then (false, st2)
        else refillF fuel st2
    else (false, st)

theorem refill_eq_refillF : ∀ (fuel : Nat) (st : St), st.rest.length < fuel →
    refill st = refillF fuel st := by
  intro fuel
  induction fuel with
  | zero => intro st h; omega
  | succ fuel ih =>
    intro st hlt
    rw [refill, refillF]
    by_cases h : st.win.length < utfMax ∧ fullRune st.win = false
    · rw [dif_pos h, if_pos h]
      by_cases hr : st.rest = []
      · simp only [hr, dite_true, ite_true]
      · rw [dif_neg hr, if_neg hr]
        have hl : 0 < st.rest.length := List.length_pos_iff.mpr hr
        have hn1 := readCount_pos (st.sched st.reads) st.win.length st.rest.length h.1 hl
        dsimp only
        split
        · rfl
        · apply ih
          simp only [List.length_drop]; omega
    · rw [dif_neg h, if_neg h]

def nextF (st : St) : Option Nat × Nat × St :=
  if runeSelf ≤ headOrSentinel st.win then
    match refillF (st.rest.length + 1) st with
    | (true, st1) => (none, 0, st1)
    | (false, st1) =>
      let ch := headOrSentinel st1.win
      if runeSelf ≤ ch then
        let d := decodeRune st1.win
        (some d.1, d.2, advance st1 d.2)
      else (some ch, 1, advance st1 1)
  else (some (headOrSentinel st.win), 1, advance st 1)

theorem next_eq_nextF (st : St) : next st = nextF st := by
  unfold next nextF
  rw [refill_eq_refillF (st.rest.length + 1) st (Nat.lt_succ_self _)]
  rfl

def nextsF : Nat → St → St
  | 0, st => st
  | k + 1, st => nextsF k (nextF st).2.2

theorem nexts_eq_nextsF : ∀ (k : Nat) (st : St), nexts k st = nextsF k st := by
  intro k
  induction k with
  | zero => intro st; rfl
  | succ k ih => intro st; rw [nexts, nextsF, ih, next_eq_nextF]

/-- `nextsF` with the adversary `s` written back into the state after every call.  `next` never
changes it (`NextOK.sched`), so nothing is altered; but every refill asks for `st.sched`, and the
kernel, which evaluates lazily, would otherwise look it up through all earlier states each time:
a run of many refills is checked several times faster on `nextsS`. -/
def nextsS (s : Nat → Choice) : Nat → St → St
  | 0, st => st
  | k + 1, st => nextsS s k { (nextF st).2.2 with sched := s }

theorem nexts_eq_nextsS (s : Nat → Choice) : ∀ (k : Nat) (st : St), st.sched = s → nexts k st = nextsS s k st
  | 0, _, _ => rfl
  | k + 1, st, h => by
    have hs : (next st).2.2.sched = s := (next_ok st).sched.trans h
    rw [nexts, nextsS, ← next_eq_nextF, nexts_eq_nextsS s k _ hs, ← hs]

def nextAllF : Nat → St → List (Nat × Nat)
  | 0, _ => []
  | fuel + 1, st =>
    match nextF st with
    | (none, _, _) => []
    | (some r, w, st') => (r, w) :: nextAllF fuel st'

theorem nextAllFuel_eq_nextAllF : ∀ (fuel : Nat) (st : St), nextAllFuel fuel st = nextAllF fuel st := by
  intro fuel
  induction fuel with
  | zero => intro st; rfl
  | succ fuel ih =>
    intro st
    rw [nextAllFuel, nextAllF, next_eq_nextF]
    generalize nextF st = r
    match r with
    | (none, _, _) => rfl
    | (some r, w, st') => simp only [ih]

def decodeAllF : Nat → Bytes → List (Nat × Nat)
  | 0, _ => []
  | _, [] => []
  | fuel + 1, b :: t => decodeRune (b :: t) :: decodeAllF fuel ((b :: t).drop (decodeRune (b :: t)).2)

theorem decodeAll_eq_decodeAllF : ∀ (fuel : Nat) (p : Bytes), p.length ≤ fuel →
    decodeAll p = decodeAllF fuel p := by
  intro fuel
  induction fuel with
  | zero =>
    intro p h
    have : p = [] := List.length_eq_zero_iff.mp (by omega)
    rw [this, decodeAll_nil]; rfl
  | succ fuel ih =>
    intro p h
    match p, h with
    | [], _ => rw [decodeAll_nil]; rfl
    | b :: t, h =>
      rw [decodeAll_ne _ (by simp), decodeAllF]
      have := decodeRune_width_pos b t
      rw [ih]
      simp only [List.length_drop, List.length_cons] at h ⊢
      omega

end Mkdb.ScanBuf
