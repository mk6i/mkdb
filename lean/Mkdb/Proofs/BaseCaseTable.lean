import Mkdb.Proofs.BaseCase
import Mkdb.Proofs.CkptRounds
/-!
# The base case: rounds from the new database, and a real database with a table

`Rounds` has no CREATE TABLE and keeps `sys_schema` fixed, and from the EMPTY plain database no row statement is
accepted (`specRun_of_empty`): the rounds from `newDB` are rounds of flushes, crashes and recoveries without
statements.  The catalog description of `newDB` is unique (`rel_newDB_unique`), which is what lets the one-statement
history `CREATE TABLE t (a INT)` meet `HistOK`.  So that the round theorems have a starting point that is a real
database WITH a table, the second part computes the database `tableDB` that statement leaves on `newDB`
(`create_table_eq`, kernel evaluation of `evalStmt`) and proves `Rel` and `Ckpt` of it with the plain database
`sdbA0`.  `tableDB` is what the hand-written store `st1` of the examples stands for; they differ (`tableDB_vs_st1`).
-/

section
/-! ## Rounds from the new database -/
set_option autoImplicit false
namespace Mkdb.Store
open Mkdb.Page Mkdb.Tuple Mkdb.Generated Mkdb.Tree Mkdb.Engine

theorem specRun_of_empty {sch : Levels} {db dbN : Engine.DB} {sdbN : Spec.SDB} {stmts : List EStmt}
    (run : SpecRun sch db [] stmts dbN sdbN) : stmts = [] ∧ dbN = db ∧ sdbN = [] := by
  cases run with
  | nil => exact ⟨rfl, rfl, rfl⟩
  | insert table cols rows _ hspec => cases hspec
  | delete table w hspec => cases hspec
  | update table sets w _ hspec => cases hspec

/-- Non-vacuity of the rounds from `newDB` (`rounds_ckpt`, `rounds_recover` on `ckpt_newDB`): the new database is
flushed, then crashes and is recovered. -/
theorem rounds_newDB_example : ∃ db1 db2, Engine.flush newDB [] = .ok () db1 ∧
    Engine.recover db1 [] [] = .ok db2 ∧ Rounds schNew newDB [] db2 [] ∧
    ∃ pt' tbls', Ckpt schNew db2 [] pt' tbls' := by
  have e1 := flush_flushed newDB []
  obtain ⟨_, _, _, _, hk1, _⟩ := ckpt_newDB.flush_step (.nil newDB []) e1
  obtain ⟨db2, _, _, e2, _, hk2⟩ := hk1.recover_round (.nil _ []) [] []
  exact ⟨_, db2, e1, e2, .crash (.flush .nil (.nil newDB []) e1) (.nil _ []) e2, _, _, hk2⟩

theorem cat_newDB_unique {pt sch : Levels} {tbls : List (Bytes × Levels)} (h : Cat newDB.store pt sch tbls) :
    pt = ptNew ∧ sch = schNew ∧ tbls = [] :=
  ⟨h.pt_unique cat_newDB, h.sch_unique cat_newDB,
    List.eq_nil_iff_forall_not_mem.mpr fun e he => nomatch h.tbls_sub cat_newDB e he⟩

theorem rel_newDB_unique {pt sch : Levels} {tbls : List (Bytes × Levels)} {sdb : Spec.SDB}
    (h : Rel newDB pt sch tbls sdb) : pt = ptNew ∧ sch = schNew ∧ tbls = [] ∧ sdb = [] := by
  obtain ⟨⟨sdb0, habs, hv⟩, _, _⟩ := h
  obtain ⟨rfl, rfl, rfl⟩ := cat_newDB_unique habs.cat
  refine ⟨rfl, rfl, rfl, ?_⟩
  have h0 : sdb0 = [] := by
    cases habs.tabs
    rfl
  subst h0
  cases sdb with
  | nil => rfl
  | cons a l => simp [valsOf] at hv

/-- the one-statement history `[CREATE TABLE t (a INT)]` meets `HistOK`: `from_create_database_history`
is not vacuous -/
theorem histOK_create_t : HistOK [] [.createTable tname acols] newDB [] := by
  refine ⟨?_, ?_, fun _ _ => trivial⟩
  · intro _ pt sch tbls ⟨⟨_, habs, _⟩, _, _⟩
    exact room_create_t.of_cat cat_newDB habs.cat
  · intro h; rw [spec_create_t] at h; cases h

theorem history_create_t : ∃ db' pt' sch' tbls', runHist [] newDB [.createTable tname acols] = some db' ∧
    Rel db' pt' sch' tbls' [⟨tname, [⟨"a", .int, 0⟩], []⟩] := by
  have h := from_create_database_history [.createTable tname acols] histOK_create_t
  simp only [specHist, spec_create_t, Option.getD_some] at h
  exact h

end Mkdb.Store
end

section
/-! ## `CREATE DATABASE ; CREATE TABLE t (a INT)`, computed -/
set_option autoImplicit false
namespace Mkdb.Store
open Mkdb.Page Mkdb.Tuple Mkdb.Generated Mkdb.Tree Mkdb.Engine

/-- the page table after `CREATE TABLE t (a INT)`: row 9 names `t`, root 12288 -/
def ptLeafT : Leaf := ⟨4096, 8, false, false, 0, 0,
  ptLeafNew.cells ++ [⟨9, false, [0, 1, 0, 0, 0, 116, 0, 0, 48, 0, 0, 0, 0, 0, 0]⟩]⟩

/-- `sys_schema` after `CREATE TABLE t (a INT)`: row 10 is the column `a INT` of `t` (the bytes are
`schRow`, the row of the hand-written `schLeaf`) -/
def schLeafT : Leaf := ⟨8192, 9, false, false, 0, 0, schLeafNew.cells ++ [⟨10, false, schRow⟩]⟩

def tLeafT : Leaf := ⟨12288, 0, false, false, 0, 0, []⟩

def hdrT : Header := { lastKey := 10, ptRoot := 4096, nextFree := 16384, nextLSN := 10 }

def tableStore : Store :=
  { hdr := hdrT,
    mem := [(4096, ⟨.leaf ptLeafT, false⟩), (12288, ⟨.leaf tLeafT, false⟩), (8192, ⟨.leaf schLeafT, false⟩)],
    disk := [(4096, .leaf ptLeafT), (8192, .leaf schLeafT), (12288, .leaf tLeafT)],
    dhdr := hdrT, ghost := 0 }

/-- **The database `CREATE DATABASE ; CREATE TABLE t (a INT)` leaves** (the log is empty: CREATE TABLE
writes no log record, it flushes) -/
def tableDB : Engine.DB := { store := tableStore, wal := [] }

theorem create_table_eq : evalStmt newDB [] (.createTable tname acols) = .ok () tableDB := by decide +kernel

def ptT : Levels := ⟨[(ptLeafT, false)], []⟩
def schT : Levels := ⟨[(schLeafT, false)], []⟩
def tT : Levels := ⟨[(tLeafT, false)], []⟩

theorem tT_eq : tT = clean t0 := by decide

theorem ptT_entries : ptEntries ptT = [(sysPages, 4096), (sysSchema, 8192), (tname, 12288)] := by decide +kernel

theorem schT_t : schemaOf schT tname = some schemaA := by decide +kernel

theorem tableDB_checked : Abs tableDB.store ptT schT [(tname, tT)] sdbA0 ∧ PtSelf ptT ∧
    FreshM tableDB.store [(tname, tT)] ∧ MemFiled tableDB.store ∧ tableDB.store.dhdr = tableDB.store.hdr ∧
    OnDisk tableDB.store ptT schT [(tname, tT)] := by decide +kernel

theorem abs_tableDB : Abs tableDB.store ptT schT [(tname, tT)] sdbA0 := tableDB_checked.1

theorem cat_tableDB : Cat tableDB.store ptT schT [(tname, tT)] := abs_tableDB.cat

theorem ptT_self : PtSelf ptT := tableDB_checked.2.1

theorem freshM_tableDB : FreshM tableDB.store [(tname, tT)] := tableDB_checked.2.2.1

theorem memFiled_tableDB : MemFiled tableDB.store := tableDB_checked.2.2.2.1

theorem noStale_tableDB : NoStale schT [(tname, tT)] := .of_check (by decide +kernel)

theorem rel_tableDB : Rel tableDB ptT schT [(tname, tT)] sdbA0 :=
  ⟨abs_tableDB.toV, noStale_tableDB, memFiled_tableDB⟩

theorem ckpt_tableDB : Ckpt schT tableDB sdbA0 ptT [(tname, tT)] := .of_empty_log rfl tableDB_checked

/-- `st1` is not `tableDB`: same page-table entries, same column list for `t`, same allocation
frontier - but other row ids and LSNs (`lastKey` 4 / 10, `nextLSN` 7 / 10), nothing in the data file,
and (`handwritten_sch_omits_catalog`) no description of the catalog tables in `sys_schema` -/
theorem tableDB_vs_st1 :
    tableDB.store ≠ st1 ∧ ptEntries ptT = ptEntries pt0 ∧ schemaOf schT tname = schemaOf sch1 tname ∧
    tableDB.store.hdr = ⟨10, 4096, 16384, 10⟩ ∧ st1.hdr = ⟨4, 4096, 16384, 7⟩ ∧
    tableDB.store.disk.length = 3 ∧ st1.disk = [] ∧
    schemaOf schT sysPages = some pageTableSchema ∧ schemaOf schT sysSchema = some schemaTableSchema := by
  refine ⟨?_, by rw [ptT_entries, pt0_entries], by rw [schT_t, sch1_t], rfl, rfl, rfl, rfl, ?_⟩
  · intro h
    have := congrArg (fun s => s.hdr.lastKey) h
    revert this
    decide
  · decide +kernel

/-- the side conditions of `INSERT INTO t VALUES (5), (6)` hold on `tableDB`: row ids 11 and 12, LSNs
10 and 11 -/
theorem runT : InsRunOK schemaA ([].map Engine.bytesToName) tT 10 10 16384 [[.int 5], [.int 6]] :=
  InsRunOK.of_check _ _ _ _ _ _ _ (by decide +kernel)

/-- **A history of rounds from `CREATE DATABASE` on.**  `CREATE DATABASE` (`newDB`);
`CREATE TABLE t (a INT)` (`tableDB`); `INSERT INTO t VALUES (5), (6)`; crash; recovery;
`UPDATE t SET a = 7 WHERE a = 5`; crash; recovery.  Every state is the output of the model on the
state before; both recoveries succeed; the final database is checkpointed for the plain database with
the rows `(7)`, `(6)`; the four steps after CREATE TABLE form a `Rounds` history. -/
theorem real_rounds_example : ∃ db1 dbR1 db2 dbR2 pt2 tbls2,
    evalStmt newDB [] (.createTable tname acols) = .ok () tableDB ∧
    SpecRun schT tableDB sdbA0 [.insert tname [] [[.int 5], [.int 6]]] db1 sdbA1 ∧
    Engine.recover db1 [] [] = .ok dbR1 ∧ dbR1.wal = db1.wal ∧
    SpecRun schT dbR1 sdbA1 [.update tname [([97], .lit (.int 7))] (some (condEq 5))] db2 sdbA2 ∧
    Engine.recover db2 [] [] = .ok dbR2 ∧ dbR2.wal = db2.wal ∧
    Ckpt schT dbR2 sdbA2 pt2 tbls2 ∧ Rounds schT tableDB sdbA0 dbR2 sdbA2 := by
  have hk0 := ckpt_tableDB
  have hmem : (tname, tT) ∈ [(tname, tT)] := List.mem_singleton.mpr rfl
  obtain ⟨db1, _, _, _, run1, _⟩ := SpecRun.insert_one hk0.abs hmem schT_t rows56_valid specA1 runT
  obtain ⟨dbR1, pt1, tbls1, er1, hw1, hk1⟩ := hk0.recover_round run1 [] []
  obtain ⟨db2, _, run2, _⟩ := SpecRun.update_one hk1.abs set7_valid set7_utf specA2
  obtain ⟨dbR2, pt2, tbls2, er2, hw2, hk2⟩ := hk1.recover_round run2 [] []
  exact ⟨db1, dbR1, db2, dbR2, pt2, tbls2, create_table_eq, run1, er1, hw1, run2, er2, hw2, hk2,
    .crash (.crash .nil run1 er1) run2 er2⟩

/-! ### several facts about a computed run from one evaluation -/

/-- a Boolean continuation on an accepted result: a run of statements, each fed the database the one before
left, with the facts wanted of it at the end, is one closed Boolean term -/
def okThen {α} (r : Engine.Res α) (k : α → Engine.DB → Bool) : Bool :=
  match r with
  | .ok a db => k a db
  | _ => false

theorem of_okThen {α} {r : Engine.Res α} {k : α → Engine.DB → Bool} {a : α} {db : Engine.DB}
    (hok : okThen r k = true) (hr : r = .ok a db) : k a db = true := by
  subst hr
  exact hok

theorem okThen_elim {α} {r : Engine.Res α} {k : α → Engine.DB → Bool} (h : okThen r k = true) :
    ∃ a db, r = .ok a db ∧ k a db = true := by
  cases r with
  | ok a db => exact ⟨a, db, rfl, h⟩
  | err => cases h
  | panic => cases h
  | unmodelled => cases h
  | fuel => cases h

end Mkdb.Store
end
