import Mkdb.Proofs.CreateSchemaRows
import Mkdb.Proofs.FlushPagesCat
import Mkdb.Proofs.StmtInsert
import Mkdb.Proofs.UnchangedCreate
/-!
# `Store.createTable` (`RelationService.CreateTable`) under the catalog invariant `Cat`

The body of CREATE TABLE for a name the catalog does not know (`createTable_cat_core`): the page at the allocation
frontier becomes the (empty, dirty) root of the new table (`GoodTree.newRoot`); the page table gets the row
`(name, that offset)` - `insertAppend` - and the header follows its root (`insertPageTable_refines`; under the catalog
invariant, through `Named.add`: `createHead_cat`); `sys_schema` gets one row per column with
consecutive row ids (`schemaCells`), its catalog row being re-pointed (`repoint sysSchema`) whenever its root moves
(`schInsert_cat`; `schInsertAll_cat` for any rows that fit a cell, `insertSchemaRows_cat` for the rows of the declared
columns; what such rows do to the counters and to the two catalog trees is the record `SchGrown`, and the loop is its
`trans`); the catalog invariant holds for the table list with `(name, emptyTree off)` appended; `schemaOf` reads the
declared columns back.  With `doFlush = true` that state is flushed: every dirty bit cleared, the header written
(`createTable_cat`).  At the end, non-vacuity: a one-column table on the concrete catalog `st0` / `cat0` of
`StmtInsert`.
-/

section
/-! ## The three stages of the body -/
set_option autoImplicit false
namespace Mkdb.Store
open Mkdb.Page Mkdb.Tuple Mkdb.Generated Mkdb.Tree

theorem treeFuel_eq : treeFuel = 64 := rfl
theorem pageSize_eq : c_pageSize = 4096 := rfl

/-! ### what rows into `sys_schema` do to the counters and to the catalog trees -/

/-- what a run of re-pointings leaves of the page table: same pages, same root, same shape and keys -/
def PtSame (a b : Levels) : Prop :=
  offs b = offs a ∧ rootOff b = rootOff a ∧ b.inner.length = a.inner.length ∧
    b.leaves.length = a.leaves.length ∧ keys b = keys a

theorem PtSame.refl (a : Levels) : PtSame a a := ⟨rfl, rfl, rfl, rfl, rfl⟩
theorem PtSame.trans {a b c : Levels} (h1 : PtSame a b) (h2 : PtSame b c) : PtSame a c :=
  ⟨h2.1.trans h1.1, h2.2.1.trans h1.2.1, h2.2.2.1.trans h1.2.2.1, h2.2.2.2.1.trans h1.2.2.2.1,
    h2.2.2.2.2.trans h1.2.2.2.2⟩
theorem PtLike.same {pt ptF : Levels} (h : PtLike pt ptF) : PtSame pt ptF := by
  obtain ⟨f1, f2, f3, f4, f5, _⟩ := h.facts
  exact ⟨f1, f2, f3, f4, f5⟩

theorem repoint_repoint (name : Bytes) (a b : Nat) (e : Bytes × Nat) :
    repoint name b (repoint name a e) = repoint name b e := by
  unfold repoint
  by_cases h : e.1 = name
  · simp [h]
  · simp [h]

/-- What `n` rows into `sys_schema` did between the headers `a` and `b`: `n` row ids drawn, one or two LSNs and at
most `treeFuel` pages a row; the page table went from `pt` to `pt'` by re-pointings of the `sys_schema` row only,
`sys_schema` from `sch` to `sch'`.  Runs compose (`SchGrown.trans`).  It speaks of headers, not stores: the catalog
lookups between the stages of CREATE TABLE change the cache only, and the record is carried across them by `rw`. -/
structure SchGrown (n : Nat) (a : Header) (pt sch : Levels) (b : Header) (pt' sch' : Levels) : Prop where
  lastKey : b.lastKey = a.lastKey + n
  lsnLo : a.nextLSN + n ≤ b.nextLSN
  lsnHi : b.nextLSN ≤ a.nextLSN + 2 * n
  nfLo : a.nextFree ≤ b.nextFree
  nfHi : b.nextFree ≤ a.nextFree + 262144 * n
  ent : ptEntries pt' = (ptEntries pt).map (repoint sysSchema (rootOff sch'))
  same : PtSame pt pt'
  wpt : WrittenSince a.nextLSN pt pt'
  wsch : WrittenSince a.nextLSN sch sch'

theorem SchGrown.lsn {n : Nat} {a b : Header} {pt sch pt' sch' : Levels} (h : SchGrown n a pt sch b pt' sch') :
    ∃ m, m ≤ n ∧ b.nextLSN = a.nextLSN + n + m :=
  ⟨b.nextLSN - a.nextLSN - n, by have := h.lsnLo; have := h.lsnHi; omega, by have := h.lsnLo; omega⟩

theorem SchGrown.refl {s : Store} {pt sch : Levels} {tbls : List (Bytes × Levels)} (h : Cat s pt sch tbls) :
    SchGrown 0 s.hdr pt sch s.hdr pt sch :=
  ⟨rfl, Nat.le_refl _, Nat.le_refl _, Nat.le_refl _, Nat.le_refl _,
    (repoint_id sysSchema (rootOff sch) _ h.names h.esch).symm, PtSame.refl pt, .refl _, .refl _⟩

theorem SchGrown.trans {n m : Nat} {a b c : Header} {pt sch pt1 sch1 pt2 sch2 : Levels}
    (h1 : SchGrown n a pt sch b pt1 sch1) (h2 : SchGrown m b pt1 sch1 c pt2 sch2) :
    SchGrown (n + m) a pt sch c pt2 sch2 := by
  obtain ⟨k1, l1, u1, f1, g1, e1, s1, wp1, ws1⟩ := h1
  obtain ⟨k2, l2, u2, f2, g2, e2, s2, wp2, ws2⟩ := h2
  refine ⟨by omega, by omega, by omega, by omega, by omega, ?_, s1.trans s2, wp1.trans (wp2.mono (by omega)),
    ws1.trans (ws2.mono (by omega))⟩
  rw [e2, e1, List.map_map]
  exact List.map_congr_left fun e _ => repoint_repoint sysSchema _ _ e

/-! ### one row of `sys_schema` -/

/-- One step of the loop of `insertSchemaRows`: `btInsert` is `insertAppend` on `sys_schema`; if the root moved,
`updatePageTable` re-points the `sys_schema` row of the page table; the loop goes on (`k`) with the new root. -/
theorem schInsert_cat {s : Store} {pt sch : Levels} {tbls : List (Bytes × Levels)} (h : Cat s pt sch tbls)
    (buf : Bytes) (hlen : buf.length ≤ c_maxValueSize)
    (hd' : sch.inner.length + 3 ≤ treeFuel) (hl' : sch.leaves.length + 1 ≤ scanFuel)
    (hbig : s.hdr.nextFree + 262144 ≤ 9223372036854775807) :
    ∃ s' ptF sch' nf',
      insertAppend sch (s.hdr.lastKey + 1) s.hdr.nextLSN buf s.hdr.nextFree = .ok (sch', nf') ∧
      (∀ k : Nat → SM Unit, (btInsert ⟨rootOff sch⟩ buf >>= fun r =>
          if r.1.root != rootOff sch then updatePageTable r.1.root sysSchema >>= fun _ => k r.1.root
          else k (rootOff sch)) s = k (rootOff sch') s') ∧
      Cat s' ptF sch' tbls ∧ SchGrown 1 s.hdr pt sch s'.hdr ptF sch' := by
  obtain ⟨_, hIs, _, _, hks⟩ := h.tree sch Cat.sch_mem
  obtain ⟨⟨sch', nf'⟩, hins⟩ := insertAppend_fresh sch s.hdr.nextFree (s.hdr.lastKey + 1) s.hdr.nextLSN buf hIs
    (fun a ha => Nat.lt_succ_of_le (hks a ha)) hlen
  obtain ⟨g1, _, g2, g3, g4⟩ := insertAppend_step hins hd'
  obtain ⟨s4, s', ptF, e5, hn', lk', nfr', hent, hlike, hwr, hcase⟩ := (Cat.named.mp h).insert List.mem_cons_self
    buf hlen sch' nf' hins g1 (by omega) (by omega)
  rw [setTable_cons_eq sch' h.tsys.2] at hn'
  have hl : s.hdr.nextLSN + 1 ≤ s'.hdr.nextLSN ∧ s'.hdr.nextLSN ≤ s.hdr.nextLSN + 2 := by
    rcases hcase with ⟨_, _, _, hx⟩ | ⟨_, hx, _⟩ <;> rw [hx] <;> omega
  refine ⟨s', ptF, sch', nf', hins, fun k => ?_, Cat.named.mpr hn', lk', hl.1, hl.2, nfr' ▸ g3, nfr' ▸ g4, hent,
    hlike.same, hwr, .ins (.refl _) hIs (Nat.le_refl _) hins⟩
  rw [bind_ok e5]
  rcases hcase with ⟨hmv, rfl, _, _⟩ | ⟨hmv, _, _, _, _, _, _, _, _, e6⟩
  · have hb : (rootOff sch' != rootOff sch) = false := by simp [hmv]
    simp only [hb, Bool.false_eq_true, if_false]
    rw [hmv]
  · have hb : (rootOff sch' != rootOff sch) = true := by simp [hmv]
    simp only [hb, if_true]
    rw [bind_ok e6]

/-! ### the head of the body: the root page and its catalog row -/

theorem insertPageTable_eq (pageOff : Nat) (name : Bytes) :
    insertPageTable pageOff name =
      (encodeRow pageTableSchema [("table_name", .str name), ("file_offset", .int pageOff)] >>= fun buf =>
        getS >>= fun s => fetch s.hdr.ptRoot >>= fun _ => btInsert ⟨s.hdr.ptRoot⟩ buf >>= fun r =>
          getS >>= fun s =>
            if r.1.root != s.hdr.ptRoot then
              modifyS fun s => { s with hdr := { s.hdr with ptRoot := r.1.root } }
            else pure ()) := by rfl

/-- the last step of `insertPageTable`: the test only spares a write, either way the header names `r` -/
theorem followRoot_eq (r : Nat) (s : Store) :
    (if r != s.hdr.ptRoot then modifyS fun s => { s with hdr := { s.hdr with ptRoot := r } } else pure ()) s =
      .ok () { s with hdr := { s.hdr with ptRoot := r } } := by
  by_cases hm : r = s.hdr.ptRoot
  · subst hm
    simp only [bne_self_eq_false, Bool.false_eq_true, if_false]
    rfl
  · have hb : (r != s.hdr.ptRoot) = true := by simp [hm]
    simp only [hb, if_true]
    rfl

/-- **One row into the page table.**  `insertPageTable` is `insertAppend` on the page table with the next row
id and LSN, and the header follows its root; nothing is logged. -/
theorem insertPageTable_refines {s : Store} {pt : Levels} (hG : GoodTree s pt) (hroot : rootOff pt = s.hdr.ptRoot)
    (name : Bytes) (off : Nat) (hnl : name.length + 14 ≤ c_maxValueSize) :
    ∃ s' pt1 nf1, insertPageTable off name s = .ok () s' ∧
      insertAppend pt (s.hdr.lastKey + 1) s.hdr.nextLSN (ptRow name off) s.hdr.nextFree = .ok (pt1, nf1) ∧
      Holds s' pt1 ∧ s'.hdr.ptRoot = rootOff pt1 ∧ s'.hdr.nextFree = nf1 ∧
      s'.hdr.lastKey = s.hdr.lastKey + 1 ∧ s'.hdr.nextLSN = s.hdr.nextLSN + 1 ∧
      ∀ o, o ∉ offs pt1 → view s' o = view s o := by
  obtain ⟨hH, hI, hd, _, hk⟩ := hG
  obtain ⟨n, s2, e2, hv2, hh2⟩ := fetch_root hH hI
  obtain ⟨pt1, nf1, s3, hins, e3, hH3, hn3, hlk3, hlsn3, _, hfr3⟩ :=
    btInsert_refines s2 pt (ptRow name off) (Same.holds ⟨hv2, hh2⟩ hH) (by rw [hh2]; exact hI) hd
      (by rw [hh2]; exact hk) (by rw [ptRow_length]; exact hnl)
  rw [hh2] at hins e3 hlk3 hlsn3
  refine ⟨{ s3 with hdr := { s3.hdr with ptRoot := rootOff pt1 } }, pt1, nf1, ?_, hins, hH3, rfl, hn3, hlk3, hlsn3,
    fun o ho => (hfr3 o ho).trans (congrFun hv2 o)⟩
  rw [insertPageTable_eq, bind_ok (encodeRow_ok (encode_newPagesRow name off) s),
    bind_ok (show getS s = .ok s s from rfl), ← hroot, bind_ok e2, bind_ok e3,
    bind_ok (show getS s3 = .ok s3 s3 from rfl)]
  exact followRoot_eq _ s3

/-- the page table after the row of a new table: one more entry, at the end -/
theorem ptEntries_insertAppend_row {pt pt1 : Levels} {k lsn nf nf1 : Nat} {name : Bytes} {off : Nat}
    (hins : insertAppend pt k lsn (ptRow name off) nf = .ok (pt1, nf1))
    (hnl : name.length + 14 ≤ c_maxValueSize) (hbig : (off : Int) ≤ 9223372036854775807) :
    ptEntries pt1 = ptEntries pt ++ [(name, off)] ∧
    ((∀ c ∈ live pt, ptEntry c ≠ none) → ∀ c ∈ live pt1, ptEntry c ≠ none) := by
  have hlive := insert_live pt pt1 _ _ _ nf1 _ hins
  have hrow : ptEntry ⟨k, false, ptRow name off⟩ = some (name, off) :=
    ptEntry_ptRow _ false name _ (by have : c_maxValueSize = 400 := rfl; omega) hbig
  refine ⟨?_, fun hdec c hc => ?_⟩
  · unfold ptEntries
    rw [hlive, List.filterMap_append, List.filterMap_cons, hrow, List.filterMap_nil]
  · rw [hlive, List.mem_append, List.mem_singleton] at hc
    rcases hc with hc | rfl
    · exact hdec c hc
    · rw [hrow]; exact nofun

/-- the page `appendNode newRootLeaf true` put at `off` is the tree `emptyTree off` -/
theorem GoodTree.newRoot {s : Store} {off : Nat} (hv : view s off = some (setOff newRootLeaf off, true))
    (hlt : off < s.hdr.nextFree) : GoodTree s (emptyTree off) :=
  ⟨fun x hx => by rw [List.mem_singleton.mp (show x ∈ [(off, setOff newRootLeaf off, true)] from hx)]; exact hv,
    emptyTree_inv _ _ hlt, (by decide : 0 + 2 ≤ treeFuel), (by decide : 1 ≤ scanFuel), fun a ha => nomatch ha⟩

theorem createHead_cat {s : Store} {pt sch : Levels} {tbls : List (Bytes × Levels)} (h : Cat s pt sch tbls)
    (name : Bytes) (hn1 : name ≠ sysPages) (hn2 : name ≠ sysSchema) (hn3 : name ∉ tbls.map (·.1))
    (hnl : name.length + 14 ≤ c_maxValueSize)
    (hd : pt.inner.length + 3 ≤ treeFuel) (hl : pt.leaves.length + 1 ≤ scanFuel)
    (hbig : s.hdr.nextFree ≤ 9223372036854775807) :
    ∃ s' pt1 nf1,
      (appendNode newRootLeaf true >>= fun pgOff => insertPageTable pgOff name) s = .ok () s' ∧
      insertAppend pt (s.hdr.lastKey + 1) s.hdr.nextLSN (ptRow name s.hdr.nextFree)
        (s.hdr.nextFree + c_pageSize) = .ok (pt1, nf1) ∧
      Cat s' pt1 sch (tbls ++ [(name, emptyTree s.hdr.nextFree)]) ∧
      ptEntries pt1 = ptEntries pt ++ [(name, s.hdr.nextFree)] ∧
      s'.hdr.lastKey = s.hdr.lastKey + 1 ∧ s'.hdr.nextLSN = s.hdr.nextLSN + 1 ∧ s'.hdr.nextFree = nf1 ∧
      nf1 ≤ s.hdr.nextFree + 262144 := by
  have hn := Cat.named.mp h
  have hlt : ∀ o ∈ offs pt, o < s.hdr.nextFree := hn.gpt.2.1.offs.2
  have hps := pageSize_eq
  -- the new page lies above the page table
  obtain ⟨s1, e1, v1, n1, _⟩ := appendNode_spec s newRootLeaf true
  obtain ⟨k1, k2, k3⟩ := hrest_eq ((Keeps.appendNode newRootLeaf true).ok e1)
  have hv1 : ∀ o, o ≠ s.hdr.nextFree → view s1 o = view s o := fun o ho => by rw [v1, upd_other _ _ _ _ ho]
  have hG1 : GoodTree s1 pt :=
    hn.gpt.frame (fun o ho => hv1 o (Nat.ne_of_lt (hlt o ho))) (n1 ▸ Nat.le_add_right _ _) (Nat.le_of_eq k1.symm)
  -- its row
  obtain ⟨s', pt1, nf1, e2, hins, hH', pr', hnf', lk', lsn', hfr⟩ :=
    insertPageTable_refines hG1 (by rw [k2]; exact h.root) name s.hdr.nextFree hnl
  rw [k1, k3, n1] at hins
  rw [k1] at lk'
  rw [k3] at lsn'
  have hnew := insertAppend_offs_new pt pt1 _ _ _ nf1 _ hins
  obtain ⟨hent, hdec⟩ := ptEntries_insertAppend_row hins hnl (by omega)
  have hoffnew : s.hdr.nextFree ∉ offs pt1 := fun hm => by
    rcases hnew _ hm with h1 | h1
    · have := hlt _ h1; omega
    · omega
  -- the page table had a level to spare: within the fuels, and at most `treeFuel` pages in all were allocated
  have har : s.hdr.nextFree < s'.hdr.nextFree ∧ s.hdr.lastKey + 1 ≤ s'.hdr.lastKey ∧
      pt1.inner.length + 2 ≤ treeFuel ∧ pt1.leaves.length ≤ scanFuel ∧ nf1 ≤ s.hdr.nextFree + 262144 := by
    have := insertAppend_growth hins
    have := insertAppend_nextFree pt pt1 _ _ _ nf1 _ hins
    have := treeFuel_eq
    omega
  have hcat := hn.add hn1 (fun hm => (List.mem_cons.mp hm).elim hn2 hn3) hnl
    (Nat.le_of_lt har.1) (Nat.le_of_succ_le har.2.1) pr'
    (GoodTree.insertAppend hn.gpt (Nat.le_add_right _ _) hins hH' hnf' har.2.1 (Nat.le_of_succ_le har.2.1)
      har.2.2.1 har.2.2.2.1)
    (GoodTree.newRoot (by rw [hfr _ hoffnew, v1, upd_same]) har.1)
    (fun o ho => (hnew o ho).imp id fun h1 => Nat.le_trans (Nat.le_add_right _ _) h1.1)
    (fun o ho => Nat.le_of_eq (List.mem_singleton.mp ho).symm)
    (fun o ho hot => hoffnew ((List.mem_singleton.mp hot : o = s.hdr.nextFree) ▸ ho)) hent (hdec h.dec)
    (fun o h1 h2 => by rw [hfr o h1, hv1 o fun heq => h2 (heq ▸ List.mem_singleton.mpr rfl)])
  exact ⟨s', pt1, nf1, by rw [bind_ok e1]; exact e2, hins, Cat.named.mpr hcat, hent, lk', lsn', hnf', har.2.2.2.2⟩

/-! ### all rows of `sys_schema` -/

theorem insertSchemaRows_cons (fd : FieldDef) (rest : List FieldDef) (name : Bytes) (root : Nat) :
    insertSchemaRows (fd :: rest) name root =
      (encodeRow schemaTableSchema (schemaRow name fd) >>= fun buf => btInsert ⟨root⟩ buf >>= fun r =>
        if r.1.root != root then
          updatePageTable r.1.root sysSchema >>= fun _ => insertSchemaRows rest name r.1.root
        else insertSchemaRows rest name root) := by rfl

/-- the cells `insertSchemaRows` appends to `sys_schema`: one per column, with consecutive row ids -/
def schemaCells (name : Bytes) : List FieldDef → Nat → List LeafCell
  | [], _ => []
  | fd :: rest, k => ⟨k, false, schemaRowBytes name fd⟩ :: schemaCells name rest (k + 1)

/-- the loop of `insertSchemaRows` over rows already encoded -/
def schInsertAll : List Bytes → Nat → SM Unit
  | [], _ => pure ()
  | buf :: rest, root => btInsert ⟨root⟩ buf >>= fun r =>
    if r.1.root != root then
      updatePageTable r.1.root sysSchema >>= fun _ => schInsertAll rest r.1.root
    else schInsertAll rest root

theorem schInsertAll_cons (buf : Bytes) (rest : List Bytes) (root : Nat) :
    schInsertAll (buf :: rest) root = (btInsert ⟨root⟩ buf >>= fun r =>
      if r.1.root != root then
        updatePageTable r.1.root sysSchema >>= fun _ => schInsertAll rest r.1.root
      else schInsertAll rest root) := by rfl

/-- the cells a run of inserts appends: consecutive row ids from `k` -/
def rowCells : List Bytes → Nat → List LeafCell
  | [], _ => []
  | b :: rest, k => ⟨k, false, b⟩ :: rowCells rest (k + 1)

theorem schemaCells_eq (name : Bytes) : ∀ (fields : List FieldDef) (k : Nat),
    schemaCells name fields k = rowCells (fields.map (schemaRowBytes name)) k
  | [], _ => rfl
  | fd :: rest, k => by rw [schemaCells, List.map_cons, rowCells, schemaCells_eq name rest]

theorem rowCells_vals : ∀ (bufs : List Bytes) (k : Nat), (rowCells bufs k).map (·.val) = bufs
  | [], _ => rfl
  | b :: rest, k => by rw [rowCells, List.map_cons, rowCells_vals rest]

theorem rowCells_live : ∀ (bufs : List Bytes) (k : Nat),
    (rowCells bufs k).filter (fun c => !c.deleted) = rowCells bufs k
  | [], _ => rfl
  | b :: rest, k => by rw [rowCells, List.filter_cons_of_pos rfl, rowCells_live rest]

theorem insertSchemaRows_eq (name : Bytes) : ∀ (fields : List FieldDef) (root : Nat),
    (∀ fd ∈ fields, -2147483648 ≤ fd.len ∧ fd.len ≤ 2147483647) →
    insertSchemaRows fields name root = schInsertAll (fields.map (schemaRowBytes name)) root
  | [], _, _ => rfl
  | fd :: rest, root, h => by
    obtain ⟨r1, r2⟩ := h fd List.mem_cons_self
    have ih := fun r => insertSchemaRows_eq name rest r fun x hx => h x (List.mem_cons_of_mem _ hx)
    funext s
    rw [insertSchemaRows_cons, bind_ok (encodeRow_ok (encode_schemaRow name fd r1 r2) s), List.map_cons,
      schInsertAll_cons]
    simp only [ih]

theorem schInsertAll_cat : ∀ (bufs : List Bytes)
    {s : Store} {pt sch : Levels} {tbls : List (Bytes × Levels)} (_ : Cat s pt sch tbls)
    (_ : ∀ b ∈ bufs, b.length ≤ c_maxValueSize)
    (_ : sch.inner.length + bufs.length + 2 ≤ treeFuel) (_ : sch.leaves.length + bufs.length ≤ scanFuel)
    (_ : s.hdr.nextFree + 262144 * bufs.length ≤ 9223372036854775807),
    ∃ s' pt' sch', schInsertAll bufs (rootOff sch) s = .ok () s' ∧ Cat s' pt' sch' tbls ∧
      cells sch' = cells sch ++ rowCells bufs (s.hdr.lastKey + 1) ∧
      SchGrown bufs.length s.hdr pt sch s'.hdr pt' sch'
  | [], s, pt, sch, tbls, h, _, _, _, _ => ⟨s, pt, sch, rfl, h, (List.append_nil _).symm, .refl h⟩
  | buf :: rest, s, pt, sch, tbls, h, hlen, hsd, hsl, hbig => by
    simp only [List.length_cons] at hsd hsl hbig ⊢
    -- multiplied out first: on `262144 * (rest.length + 1)` beside the bound `omega` runs out of recursion depth
    rw [Nat.mul_succ 262144, ← Nat.add_assoc s.hdr.nextFree] at hbig
    obtain ⟨s1, ptF, sch1, nf1, hins, hstep, hcat1, r1⟩ :=
      schInsert_cat h buf (hlen buf List.mem_cons_self) (by omega) (by omega) (by omega)
    obtain ⟨_, g1, g2, _, _⟩ := insertAppend_step hins (by omega)
    have := r1.nfHi
    obtain ⟨s', pt', sch', erest, hcat', hcells', r'⟩ := schInsertAll_cat rest hcat1
      (fun b hb => hlen b (List.mem_cons_of_mem _ hb)) (by omega) (by omega) (by omega)
    refine ⟨s', pt', sch', by rw [schInsertAll_cons, hstep]; exact erest, hcat', ?_,
      Nat.add_comm 1 _ ▸ r1.trans r'⟩
    rw [hcells', cells_insertAppend sch sch1 _ _ _ nf1 _ hins, r1.lastKey, List.append_assoc]
    rfl

theorem insertSchemaRows_cat (name : Bytes) (hnl : name.length < 2 ^ 32) (fields : List FieldDef)
    {s : Store} {pt sch : Levels} {tbls : List (Bytes × Levels)} (h : Cat s pt sch tbls)
    (hrows : ∀ fd ∈ fields, -2147483648 ≤ fd.len ∧ fd.len ≤ 2147483647 ∧
      (schemaRowBytes name fd).length ≤ c_maxValueSize)
    (hsd : sch.inner.length + fields.length + 2 ≤ treeFuel) (hsl : sch.leaves.length + fields.length ≤ scanFuel)
    (hbig : s.hdr.nextFree + 262144 * fields.length ≤ 9223372036854775807) :
    ∃ s' pt' sch', insertSchemaRows fields name (rootOff sch) s = .ok () s' ∧ Cat s' pt' sch' tbls ∧
      cells sch' = cells sch ++ schemaCells name fields (s.hdr.lastKey + 1) ∧
      SchGrown fields.length s.hdr pt sch s'.hdr pt' sch' ∧
      schemaOf sch' name = (schemaOf sch name).map (· ++ fields) ∧
      (∀ n, n ≠ name → schemaOf sch' n = schemaOf sch n) := by
  have hlenm : (fields.map (schemaRowBytes name)).length = fields.length := List.length_map _
  obtain ⟨s', pt', sch', e, hc, hcells, r⟩ := schInsertAll_cat (fields.map (schemaRowBytes name)) h
    (fun b hb => by obtain ⟨fd, hfd, rfl⟩ := List.mem_map.mp hb; exact (hrows fd hfd).2.2)
    (by rw [hlenm]; exact hsd) (by rw [hlenm]; exact hsl) (by rw [hlenm]; exact hbig)
  rw [hlenm] at r
  obtain ⟨ms, h1, h2, h3⟩ := schemaRows_decode name hnl fields hrows
  have hlive : live sch' = live sch ++ schemaCells name fields (s.hdr.lastKey + 1) := by
    unfold live
    rw [hcells, List.filter_append, rowCells_live, schemaCells_eq]
  obtain ⟨hs1, hs2⟩ := schemaOf_append_rows hlive
    (by
      rw [schemaCells_eq]
      exact (mapO_map (decRow schemaTableSchema) (fun c : LeafCell => c.val) _).symm.trans
        (by rw [rowCells_vals]; exact h1))
    h2 h3
  rw [insertSchemaRows_eq name fields _ fun fd hfd => ⟨(hrows fd hfd).1, (hrows fd hfd).2.1⟩]
  exact ⟨s', pt', sch', e, hc, by rw [hcells, schemaCells_eq], r, hs1, hs2⟩

end Mkdb.Store
end

section
/-! ## The statement -/
set_option autoImplicit false
namespace Mkdb.Store
open Mkdb.Page Mkdb.Tuple Mkdb.Generated Mkdb.Tree

theorem bind_assoc_ok {α β γ} {m : SM α} {f : α → SM β} {g : β → SM γ} {s s' : Store} {b : β}
    (h : (m >>= f) s = .ok b s') : (m >>= fun a => f a >>= g) s = g b s' := by
  obtain ⟨a, s0, e1, e2⟩ := bind_eq_ok h
  rw [bind_ok e1, bind_ok e2]

/-- what the pre-validation establishes about the rows of `sys_schema` -/
theorem schemaRows_ok {fields : List FieldDef} {name : Bytes}
    (hfld : checkFieldsFrom [] fields = none)
    (hchk : checkCatalogRows fields name = none) :
    name.length + 14 ≤ c_maxValueSize ∧
    ∀ fd ∈ fields, -2147483648 ≤ fd.len ∧ fd.len ≤ 2147483647 ∧
      (schemaRowBytes name fd).length ≤ c_maxValueSize := by
  obtain ⟨hname, hrows⟩ := checkCatalogRows_none hchk
  refine ⟨hname, fun fd hfd => ?_⟩
  have hr := List.any_eq_false.mp (checkFieldsFrom_none_len hfld) fd hfd
  simp only [Bool.or_eq_true, decide_eq_true_eq, not_or, Int.not_lt, gt_iff_lt] at hr
  obtain ⟨b, hb, hbl⟩ := hrows fd hfd
  rw [encode_schemaRow name fd (by omega) (by omega)] at hb
  cases hb
  exact ⟨by omega, by omega, hbl⟩

/-- What the body of CREATE TABLE (before its flush) did to the page table `pt`, to `sys_schema` `sch` and to
the counters of `s`: `sN` is the store it leaves, `pt1` the page table with the row of the new table,
`ptN` and `schN` the catalog trees at the end.  The last two fields relate them to the old ones page by
page. -/
structure Created (s : Store) (pt sch : Levels) (fields : List FieldDef) (name : Bytes) (sN : Store)
    (pt1 : Levels) (nf1 : Nat) (ptN schN : Levels) : Prop where
  /-- the page table: the new row, then only re-pointings of the `sys_schema` row -/
  ins : insertAppend pt (s.hdr.lastKey + 1) s.hdr.nextLSN (ptRow name s.hdr.nextFree)
    (s.hdr.nextFree + c_pageSize) = .ok (pt1, nf1)
  same : PtSame pt1 ptN
  root : sN.hdr.ptRoot = rootOff pt1
  ent : ptEntries ptN = (ptEntries pt ++ [(name, s.hdr.nextFree)]).map (repoint sysSchema (rootOff schN))
  /-- `sys_schema`: one row per column -/
  cells : cells schN = cells sch ++ schemaCells name fields (s.hdr.lastKey + 2)
  schNew : schemaOf schN name = (schemaOf sch name).map (· ++ fields)
  schOld : ∀ n, n ≠ name → schemaOf schN n = schemaOf sch n
  /-- the counters -/
  lastKey : sN.hdr.lastKey = s.hdr.lastKey + 1 + fields.length
  lsn : ∃ m, m ≤ fields.length ∧ sN.hdr.nextLSN = s.hdr.nextLSN + 1 + fields.length + m
  nfLo : nf1 ≤ sN.hdr.nextFree
  nfHi : sN.hdr.nextFree ≤ s.hdr.nextFree + 262144 * fields.length + 262144
  wpt : WrittenSince s.hdr.nextLSN pt ptN
  wsch : WrittenSince s.hdr.nextLSN sch schN

theorem Created.lsn_lt {s sN : Store} {pt sch pt1 ptN schN : Levels} {nf1 : Nat} {fields : List FieldDef}
    {name : Bytes} (hc : Created s pt sch fields name sN pt1 nf1 ptN schN) : s.hdr.nextLSN < sN.hdr.nextLSN := by
  obtain ⟨m, _, e⟩ := hc.lsn
  omega

theorem Created.nextFree_le {s sN : Store} {pt sch pt1 ptN schN : Levels} {nf1 : Nat} {fields : List FieldDef}
    {name : Bytes} (hc : Created s pt sch fields name sN pt1 nf1 ptN schN) : s.hdr.nextFree ≤ sN.hdr.nextFree := by
  have := insertAppend_nextFree pt pt1 _ _ _ nf1 _ hc.ins
  have := hc.nfLo
  omega

/-- **CREATE TABLE under the catalog invariant, the body.**  `s'` is the state before the final flush;
what the body did is the record `Created`. -/
theorem createTable_cat_core {s : Store} {pt sch : Levels} {tbls : List (Bytes × Levels)} (h : Cat s pt sch tbls)
    (fields : List FieldDef) (name : Bytes) (order : List Nat)
    (hn1 : name ≠ sysPages) (hn2 : name ≠ sysSchema) (hn3 : name ∉ tbls.map (·.1))
    (hfld : checkFieldsFrom [] fields = none)
    (hchk : checkCatalogRows fields name = none)
    (hpd : pt.inner.length + 3 ≤ treeFuel) (hpl : pt.leaves.length + 1 ≤ scanFuel)
    (hsd : sch.inner.length + fields.length + 2 ≤ treeFuel) (hsl : sch.leaves.length + fields.length ≤ scanFuel)
    (hbig : s.hdr.nextFree + 262144 * fields.length + 262144 ≤ 9223372036854775807) :
    ∃ s' pt1 nf1 pt' sch',
      (∀ doFlush, createTable fields name order doFlush s =
        (if doFlush then flushPages order else pure ()) s') ∧
      Cat s' pt' sch' (tbls ++ [(name, emptyTree s.hdr.nextFree)]) ∧
      Created s pt sch fields name s' pt1 nf1 pt' sch' := by
  obtain ⟨hname, hrows⟩ := schemaRows_ok hfld hchk
  have hmv : c_maxValueSize = 400 := rfl
  -- the existence check
  obtain ⟨s1, e1, hs1, hc1⟩ := relationOffset_cat_unknown h name hn1 hn2 hn3
  -- the root page and its catalog row
  obtain ⟨s2, pt1, nf1, e2, hins, hc2, hent2, lk2, lsn2, hnf2, hnf1⟩ :=
    createHead_cat hc1 name hn1 hn2 hn3 hname hpd hpl (by rw [hs1.2]; omega)
  rw [hs1.2] at hins hc2 hent2 lk2 lsn2 hnf1
  -- the root of `sys_schema`
  obtain ⟨s3, e3, hs3⟩ := relationOffset_entry hc2 sysSchema (rootOff sch) hc2.esch
  obtain ⟨n, s4, e4, hs4, hc4⟩ := (hc2.of_same hs3).fetch_root Cat.sch_mem
  have hh4 : s4.hdr = s2.hdr := hs4.2.trans hs3.2
  -- the rows of `sys_schema`
  obtain ⟨s', pt', sch', e5, hc5, hcells, r, hso1, hso2⟩ :=
    insertSchemaRows_cat name (by omega) fields hc4 hrows hsd hsl (by rw [hh4, hnf2]; omega)
  rw [hh4] at hcells r
  obtain ⟨m, hm, lsn5⟩ := r.lsn
  have hIpt : Inv pt (s.hdr.nextFree + c_pageSize) :=
    Inv_mono pt _ _ (h.tree pt Cat.pt_mem).2.1 (Nat.le_add_right _ _)
  refine ⟨s', pt1, nf1, pt', sch', fun doFlush => ?_, hc5, {
    ins := hins, same := r.same
    root := by rw [← hc5.root, r.same.2.1]
    ent := by rw [r.ent, hent2]
    cells := by rw [hcells, lk2]
    schNew := hso1, schOld := hso2
    lastKey := by rw [r.lastKey, lk2]
    lsn := ⟨m, hm, by rw [lsn5, lsn2]⟩
    nfLo := hnf2 ▸ r.nfLo
    nfHi := by have := r.nfHi; omega
    wpt := (WrittenSince.ins (.refl _) hIpt (Nat.le_refl _) hins).trans (r.wpt.mono (by omega))
    wsch := r.wsch.mono (by omega) }⟩
  have hNF : createBodyNF fields name s1 = .ok () s' := by
    unfold createBodyNF
    rw [bind_assoc_ok e2, bind_ok e3, bind_ok e4]
    exact e5
  rw [createTable_eq, bind_ok (checkAbsent_ok.mpr e1)]
  simp only [hfld, hchk]
  exact bind_ok hNF

theorem createTable_cat_noflush {s : Store} {pt sch : Levels} {tbls : List (Bytes × Levels)} (h : Cat s pt sch tbls)
    (fields : List FieldDef) (name : Bytes) (order : List Nat)
    (hn1 : name ≠ sysPages) (hn2 : name ≠ sysSchema) (hn3 : name ∉ tbls.map (·.1))
    (hfld : checkFieldsFrom [] fields = none)
    (hchk : checkCatalogRows fields name = none)
    (hpd : pt.inner.length + 3 ≤ treeFuel) (hpl : pt.leaves.length + 1 ≤ scanFuel)
    (hsd : sch.inner.length + fields.length + 2 ≤ treeFuel) (hsl : sch.leaves.length + fields.length ≤ scanFuel)
    (hbig : s.hdr.nextFree + 262144 * fields.length + 262144 ≤ 9223372036854775807) :
    ∃ s' pt1 nf1 pt' sch',
      createTable fields name order false s = .ok () s' ∧
      Cat s' pt' sch' (tbls ++ [(name, emptyTree s.hdr.nextFree)]) ∧
      insertAppend pt (s.hdr.lastKey + 1) s.hdr.nextLSN (ptRow name s.hdr.nextFree)
        (s.hdr.nextFree + c_pageSize) = .ok (pt1, nf1) ∧
      PtSame pt1 pt' ∧ s'.hdr.ptRoot = rootOff pt1 ∧
      ptEntries pt' = (ptEntries pt ++ [(name, s.hdr.nextFree)]).map (repoint sysSchema (rootOff sch')) ∧
      cells sch' = cells sch ++ schemaCells name fields (s.hdr.lastKey + 2) ∧
      schemaOf sch' name = (schemaOf sch name).map (· ++ fields) ∧
      (∀ n, n ≠ name → schemaOf sch' n = schemaOf sch n) ∧
      s'.hdr.lastKey = s.hdr.lastKey + 1 + fields.length ∧
      (∃ m, m ≤ fields.length ∧ s'.hdr.nextLSN = s.hdr.nextLSN + 1 + fields.length + m) ∧
      nf1 ≤ s'.hdr.nextFree ∧ s'.hdr.nextFree ≤ s.hdr.nextFree + 262144 * fields.length + 262144 := by
  obtain ⟨s', pt1, nf1, pt', sch', hrun, hc, c⟩ :=
    createTable_cat_core h fields name order hn1 hn2 hn3 hfld hchk hpd hpl hsd hsl hbig
  exact ⟨s', pt1, nf1, pt', sch', hrun false, hc, c.ins, c.same, c.root, c.ent, c.cells, c.schNew, c.schOld,
    c.lastKey, c.lsn, c.nfLo, c.nfHi⟩

theorem schemaOf_new {sch sch' : Levels} {name : Bytes} {fields : List FieldDef}
    (h0 : schemaOf sch name = some []) (h1 : schemaOf sch' name = (schemaOf sch name).map (· ++ fields)) :
    schemaOf sch' name = some fields := by
  rw [h1, h0]; rfl

/-- **CREATE TABLE (with its flush) under the catalog invariant.**  `sN`, `ptN`, `schN` are the
state and the catalog trees of `createTable_cat_noflush`; the flush clears every dirty bit and
writes the header. -/
theorem createTable_cat {s : Store} {pt sch : Levels} {tbls : List (Bytes × Levels)} (h : Cat s pt sch tbls)
    (hf : MemFiled s)
    (fields : List FieldDef) (name : Bytes) (order : List Nat)
    (hn1 : name ≠ sysPages) (hn2 : name ≠ sysSchema) (hn3 : name ∉ tbls.map (·.1))
    (hfld : checkFieldsFrom [] fields = none)
    (hchk : checkCatalogRows fields name = none)
    (hpd : pt.inner.length + 3 ≤ treeFuel) (hpl : pt.leaves.length + 1 ≤ scanFuel)
    (hsd : sch.inner.length + fields.length + 2 ≤ treeFuel) (hsl : sch.leaves.length + fields.length ≤ scanFuel)
    (hbig : s.hdr.nextFree + 262144 * fields.length + 262144 ≤ 9223372036854775807) :
    ∃ sN s' pt1 nf1 ptN schN,
      createTable fields name order false s = .ok () sN ∧
      createTable fields name order true s = .ok () s' ∧
      Cat s' (clean ptN) (clean schN)
        ((tbls.map fun e => (e.1, clean e.2)) ++ [(name, clean (emptyTree s.hdr.nextFree))]) ∧
      -- the flush
      s'.hdr = sN.hdr ∧ s'.dhdr = s'.hdr ∧ s'.ghost = sN.ghost ∧ MemFiled s' ∧
      (∀ off, view s' off = (view sN off).map fun x => (x.1, false)) ∧
      (∀ p ∈ s'.mem, p.2.dirty = false) ∧
      (∀ off n, view sN off = some (n, true) → assocGet s'.disk off = some n) ∧
      -- the catalog trees
      Cat sN ptN schN (tbls ++ [(name, emptyTree s.hdr.nextFree)]) ∧
      insertAppend pt (s.hdr.lastKey + 1) s.hdr.nextLSN (ptRow name s.hdr.nextFree)
        (s.hdr.nextFree + c_pageSize) = .ok (pt1, nf1) ∧
      PtSame pt1 ptN ∧ s'.hdr.ptRoot = rootOff pt1 ∧
      ptEntries (clean ptN) =
        (ptEntries pt ++ [(name, s.hdr.nextFree)]).map (repoint sysSchema (rootOff schN)) ∧
      cells (clean schN) = cells sch ++ schemaCells name fields (s.hdr.lastKey + 2) ∧
      schemaOf (clean schN) name = (schemaOf sch name).map (· ++ fields) ∧
      (∀ n, n ≠ name → schemaOf (clean schN) n = schemaOf sch n) ∧
      -- the counters
      s'.hdr.lastKey = s.hdr.lastKey + 1 + fields.length ∧
      (∃ m, m ≤ fields.length ∧ s'.hdr.nextLSN = s.hdr.nextLSN + 1 + fields.length + m) ∧
      nf1 ≤ s'.hdr.nextFree ∧ s'.hdr.nextFree ≤ s.hdr.nextFree + 262144 * fields.length + 262144 := by
  obtain ⟨sN, pt1, nf1, ptN, schN, hrun, hcN, c⟩ :=
    createTable_cat_core h fields name order hn1 hn2 hn3 hfld hchk hpd hpl hsd hsl hbig
  have hfN : MemFiled sN := createTable_memFiled hf (hrun false)
  obtain ⟨hh, hdh, hg, hf', hv, hnd⟩ := flushed_spec order sN hfN
  have hc' := hcN.flushed hfN order
  have hlist : ((tbls ++ [(name, emptyTree s.hdr.nextFree)]).map fun e => (e.1, clean e.2)) =
      (tbls.map fun e => (e.1, clean e.2)) ++ [(name, clean (emptyTree s.hdr.nextFree))] := by
    rw [List.map_append]; rfl
  rw [hlist] at hc'
  refine ⟨sN, _, pt1, nf1, ptN, schN, hrun false, ?_, hc', hh, by rw [hdh, hh], hg, hf', hv, hnd,
    (flushed_disk order sN hfN).1, hcN, c.ins,
    c.same, by rw [hh]; exact c.root, by rw [ptEntries_clean]; exact c.ent, by rw [cells_clean]; exact c.cells,
    by rw [schemaOf_clean]; exact c.schNew, fun n hn => by rw [schemaOf_clean]; exact c.schOld n hn,
    by rw [hh]; exact c.lastKey, ?_, by rw [hh]; exact c.nfLo, by rw [hh]; exact c.nfHi⟩
  · rw [hrun true]; exact flushPages_flushed order sN
  · rw [hh]; exact c.lsn

/-! ### refusals -/

theorem createTable_exists_cat {s : Store} {pt sch : Levels} {tbls : List (Bytes × Levels)} (h : Cat s pt sch tbls)
    (fields : List FieldDef) (name : Bytes) (order : List Nat) (doFlush : Bool)
    (hn : name ∈ tbls.map (·.1)) :
    ∃ s', createTable fields name order doFlush s = .err .tableAlreadyExist s' ∧ Same s s' ∧
      Cat s' pt sch tbls := by
  obtain ⟨e, he, rfl⟩ := List.mem_map.mp hn
  obtain ⟨s', e1, hs, hc⟩ := relationOffset_cat h e.1 e.2 he
  exact ⟨s', by rw [createTable_eq, bind_err (checkAbsent_of_found e1)], hs, hc⟩

theorem createTable_sysSchema_cat {s : Store} {pt sch : Levels} {tbls : List (Bytes × Levels)}
    (h : Cat s pt sch tbls) (fields : List FieldDef) (order : List Nat) (doFlush : Bool) :
    ∃ s', createTable fields sysSchema order doFlush s = .err .tableAlreadyExist s' ∧ Same s s' ∧
      Cat s' pt sch tbls := by
  obtain ⟨s', e1, hs⟩ := relationOffset_entry h sysSchema (rootOff sch) h.esch
  exact ⟨s', by rw [createTable_eq, bind_err (checkAbsent_of_found e1)], hs, h.of_same hs⟩

/-! ### afterwards the catalog lookups find the table -/

theorem createTable_then_lookup {s' : Store} {pt' sch' : Levels} {tbls : List (Bytes × Levels)}
    {name : Bytes} {t : Levels} {fields : List FieldDef}
    (hc : Cat s' pt' sch' (tbls ++ [(name, t)])) (hs : schemaOf sch' name = some fields) :
    (∃ s1, relationOffset name s' = .ok (rootOff t) s1 ∧ Same s' s1) ∧
    (∃ s1, relationSchema name s' = .ok fields s1 ∧ Same s' s1) := by
  obtain ⟨s1, e1, h1, _⟩ := relationOffset_cat hc name t
    (List.mem_append_right _ (List.mem_singleton.mpr rfl))
  obtain ⟨s2, e2, h2, _⟩ := relationSchema_cat hc name fields hs
  exact ⟨⟨s1, e1, h1⟩, ⟨s2, e2, h2⟩⟩

/-! ### non-vacuity: CREATE TABLE u (a INT) on the concrete catalog `st0` / `cat0` -/

/-- the new table `"u"` with one column `a INT` -/
def uname : Bytes := [117]
def ufields : List FieldDef := [⟨"a", .int, 0⟩]

theorem st0_memFiled : MemFiled st0 := by decide

theorem ucheck : checkCatalogRows ufields uname = none := by decide +kernel

theorem sch0_schemaOf (n : Bytes) : schemaOf sch0 n = some [] := rfl

/-- `createTable_cat` applies to the concrete store: the table is created, the catalog invariant
holds before and after the flush, the schema read back is the declared one, the old table still
has none, and the lookups find the new table at the old allocation frontier -/
theorem create_example :
    ∃ sN s' ptN schN,
      createTable ufields uname [] false st0 = .ok () sN ∧
      createTable ufields uname [] true st0 = .ok () s' ∧
      Cat sN ptN schN [(tname, t0), (uname, emptyTree 16384)] ∧
      Cat s' (clean ptN) (clean schN) [(tname, clean t0), (uname, clean (emptyTree 16384))] ∧
      schemaOf (clean schN) uname = some ufields ∧ schemaOf (clean schN) tname = some [] ∧
      s'.hdr.lastKey = 5 ∧ s'.dhdr = s'.hdr ∧ (∀ p ∈ s'.mem, p.2.dirty = false) ∧
      (∃ s1, relationOffset uname s' = .ok 16384 s1 ∧ Same s' s1) ∧
      (∃ s1, relationSchema uname s' = .ok ufields s1 ∧ Same s' s1) := by
  obtain ⟨sN, s', pt1, nf1, ptN, schN, e1, e2, hc', _, hd, _, _, _, hnd, _, hcN, _, _, _, _, _, hso1, hso2, lk, _⟩ :=
    createTable_cat cat0 st0_memFiled ufields uname []
      (by rw [sysPages_eq]; decide) (by rw [sysSchema_eq]; decide) (by decide) (by decide) ucheck
      (by decide) (by decide) (by decide) (by decide) (by decide)
  have hs : schemaOf (clean schN) uname = some ufields := by rw [hso1, sch0_schemaOf]; rfl
  refine ⟨sN, s', ptN, schN, e1, e2, hcN, hc', hs, ?_, lk, hd, hnd,
    createTable_then_lookup (tbls := [(tname, clean t0)]) (t := clean (emptyTree 16384)) hc' hs⟩
  rw [hso2 tname (by decide), sch0_schemaOf]

end Mkdb.Store
end
