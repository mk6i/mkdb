import Mkdb.Proofs.ExecLoops
import Mkdb.Spec.Query
/-!
Proofs about the SELECT executor model (`Mkdb.Exec`):

* `sortRows` returns a permutation (`sortRows_perm`) that is sorted (`sortRows_sorted`,
  `sortRows_pairwise`), provided the comparator is well behaved; the comparator `rowLess keys`
  is a strict weak order on rows whose key columns are pairwise `Comparable`
  (`rowLess_strict_weak`), which is exactly what `sortColumns` checks before sorting
  (`sortColumns_ok_iff`).
* `filterRows` is `List.filter` when every evaluation succeeds (`filterRows_ok_iff`).
* `evaluateSelect` answers exactly when every stage of its pipeline does (`evaluateSelect_iff`); a
  single-table SELECT without aggregates is filter → project → sort → offset → limit
  (`select_single_table`; `C05_limit_offset` of `Props/C05` reads OFFSET / LIMIT off it).
-/
namespace Mkdb.Exec.SelectP
open Mkdb.Sql Mkdb.Tuple

/-! ### The result monad -/

@[simp] theorem bind_ok {α β} (a : α) (f : α → X β) : (X.ok a >>= f) = f a := rfl
@[simp] theorem bind_err {α β} (e : EErr) (f : α → X β) : (X.err e >>= f) = .err e := rfl
@[simp] theorem bind_panic {α β} (s : String) (f : α → X β) : (X.panic s >>= f) = .panic s := rfl
@[simp] theorem pure_eq_ok {α} (a : α) : (pure a : X α) = .ok a := rfl

/-! ### Order on values -/

/-- The typing condition under which `cmpVal` is defined: NULL against anything, or two
values of the same type. -/
def Comparable (a b : Val) : Prop :=
  match a, b with
  | .null, _ => True
  | _, .null => True
  | .int _, .int _ => True
  | .str _, .str _ => True
  | .bool _, .bool _ => True
  | _, _ => False

instance (a b : Val) : Decidable (Comparable a b) := by
  unfold Comparable; split <;> infer_instance

theorem Comparable.symm {a b : Val} (h : Comparable a b) : Comparable b a := by
  cases a <;> cases b <;> simp_all [Comparable]

theorem Comparable.refl (a : Val) : Comparable a a := by
  cases a <;> simp [Comparable]

theorem cmpVal_panic_iff (a b : Val) : (∃ s, cmpVal a b = .panic s) ↔ ¬ Comparable a b := by
  unfold cmpVal
  split
  · rename_i h
    rw [eq_of_beq h]
    simp [Comparable.refl]
  · cases a <;> cases b <;> simp [Comparable]

theorem strLt_irrefl (a : Bytes) : strLt a a = false := by
  simp [strLt, List.lt_irrefl]

theorem strLt_trans {a b c : Bytes} (h₁ : strLt a b = true) (h₂ : strLt b c = true) :
    strLt a c = true := by
  simp only [strLt, decide_eq_true_eq] at *
  exact List.lt_trans h₁ h₂

theorem strLt_asymm {a b : Bytes} (h₁ : strLt a b = true) : strLt b a = false := by
  simp only [strLt, decide_eq_true_eq, decide_eq_false_iff_not] at *
  exact List.lt_asymm h₁

theorem map_toNat_inj {a b : Bytes} (h : a.map (·.toNat) = b.map (·.toNat)) : a = b := by
  induction a generalizing b with
  | nil => cases b <;> simp_all
  | cons x xs ih =>
    cases b with
    | nil => simp at h
    | cons y ys =>
      simp only [List.map_cons, List.cons.injEq] at h
      rw [UInt8.toNat_inj.1 h.1, ih h.2]

theorem strLt_total {a b : Bytes} (h₁ : strLt a b = false) (h₂ : strLt b a = false) : a = b := by
  simp only [strLt, decide_eq_false_iff_not] at *
  exact map_toNat_inj (List.le_antisymm h₂ h₁)

/-- strict "sorts before" on values (NULL first, then the order of the type); `false` on
values of different types. -/
def vlt (a b : Val) : Bool :=
  match a, b with
  | .null, .null => false
  | .null, _ => true
  | .int x, .int y => decide (x < y)
  | .str x, .str y => strLt x y
  | .bool x, .bool y => !x && y
  | _, _ => false

/-- closed form of `cmpVal` -/
theorem cmpVal_eq (a b : Val) :
    cmpVal a b = if a = b then .ok .eq else if vlt a b then .ok .lt else if vlt b a then .ok .gt
      else .panic "sortColumns: mixed types" := by
  cases a <;> cases b <;> simp [cmpVal, vlt]
  case int.int x y =>
    by_cases h1 : x = y
    · simp [h1]
    · by_cases h2 : x < y
      · simp [h1, h2]
      · have h3 : y < x := by omega
        simp [h1, h2, h3]
  case str.str x y =>
    by_cases h1 : x = y
    · simp [h1]
    · by_cases h2 : strLt x y = true
      · simp [h1, h2]
      · by_cases h3 : strLt y x = true
        · simp [h1, h2, h3]
        · exact absurd (strLt_total (by simpa using h2) (by simpa using h3)) h1
  case bool.bool x y => cases x <;> cases y <;> simp

theorem vlt_irrefl (a : Val) : vlt a a = false := by
  cases a <;> simp [vlt, strLt_irrefl]

theorem vlt_trans {a b c : Val} (h₁ : vlt a b = true) (h₂ : vlt b c = true) : vlt a c = true := by
  -- values of different types are not ordered: nine of the sixteen pairs `a`, `b` go at once
  cases a <;> cases b <;> simp only [vlt, Bool.false_eq_true] at h₁ <;> cases c <;> simp_all [vlt]
  case int.int.int => omega
  case str.str.str => exact strLt_trans h₁ h₂

theorem vlt_asymm {a b : Val} (h : vlt a b = true) : vlt b a = false := by
  cases hb : vlt b a
  · rfl
  · have := vlt_trans h hb; rw [vlt_irrefl] at this; cases this

theorem vlt_total {a b : Val} (hc : Comparable a b) (hne : a ≠ b) :
    vlt a b = true ∨ vlt b a = true := by
  cases a <;> cases b <;> simp_all [vlt, Comparable]
  case int.int => omega
  case str.str x y =>
    cases h2 : strLt x y
    · cases h3 : strLt y x
      · exact absurd (strLt_total h2 h3) hne
      · simp
    · simp
  case bool.bool x y => cases x <;> cases y <;> simp_all

/-- one sort key: `x` strictly before `y` (ascending, or descending when `desc`). -/
def klt (desc : Bool) (x y : Val) : Bool := if desc then vlt y x else vlt x y

theorem klt_irrefl (d : Bool) (x : Val) : klt d x x = false := by
  simp [klt, vlt_irrefl]

theorem klt_trans {d : Bool} {x y z : Val} (h₁ : klt d x y = true) (h₂ : klt d y z = true) :
    klt d x z = true := by
  cases d <;> simp only [klt, if_true, if_false, Bool.false_eq_true] at *
  · exact vlt_trans h₁ h₂
  · exact vlt_trans h₂ h₁

theorem klt_asymm {d : Bool} {x y : Val} (h : klt d x y = true) : klt d y x = false := by
  cases d <;> simp only [klt, if_true, if_false, Bool.false_eq_true] at * <;> exact vlt_asymm h

theorem klt_total {d : Bool} {x y : Val} (hc : Comparable x y) (hne : x ≠ y) :
    klt d x y = true ∨ klt d y x = true := by
  cases d <;> simp only [klt, if_true, if_false, Bool.false_eq_true]
  · exact vlt_total hc hne
  · exact (vlt_total hc hne).symm

/-- the per-key decision of `rowLess` on two different values is `klt`. -/
theorem cmpVal_klt (d : Bool) {x y : Val} (hne : x ≠ y) :
    (match cmpVal x y with
      | .ok .lt => !d
      | .ok .gt => d
      | _ => false) = klt d x y := by
  rw [cmpVal_eq, if_neg hne]
  cases h1 : vlt x y
  · cases h2 : vlt y x <;> cases d <;> simp [klt, h1, h2]
  · have h2 := vlt_asymm h1
    cases d <;> simp [klt, h1, h2]

/-- `rowLess` is the lexicographic order of the keys. -/
theorem rowLess_cons (i : Nat) (d : Bool) (rest : List (Nat × Bool)) (a b : Row) :
    rowLess ((i, d) :: rest) a b =
      if (a[i]?).getD .null = (b[i]?).getD .null then rowLess rest a b
      else klt d ((a[i]?).getD .null) ((b[i]?).getD .null) := by
  simp only [rowLess, beq_iff_eq]
  split
  · rfl
  · rename_i hne
    exact cmpVal_klt d hne

/-- key columns of the two rows hold comparable values -/
def KeyComparable (keys : List (Nat × Bool)) (a b : Row) : Prop :=
  ∀ k ∈ keys, Comparable ((a[k.1]?).getD .null) ((b[k.1]?).getD .null)

theorem rowLess_irrefl (keys : List (Nat × Bool)) (a : Row) : rowLess keys a a = false := by
  induction keys with
  | nil => rfl
  | cons k rest ih => obtain ⟨i, d⟩ := k; rw [rowLess_cons]; simp [ih]

/-- asymmetry holds for all rows (an undefined comparison counts as "not less"). -/
theorem rowLess_asymm {keys : List (Nat × Bool)} {a b : Row} (h : rowLess keys a b = true) :
    rowLess keys b a = false := by
  induction keys with
  | nil => rfl
  | cons k rest ih =>
    obtain ⟨i, d⟩ := k
    rw [rowLess_cons] at h ⊢
    split at h
    · rename_i he; rw [if_pos he.symm]; exact ih h
    · rename_i hne; rw [if_neg (fun e => hne e.symm)]; exact klt_asymm h

theorem rowLess_trans {keys : List (Nat × Bool)} {a b c : Row}
    (h₁ : rowLess keys a b = true) (h₂ : rowLess keys b c = true) : rowLess keys a c = true := by
  induction keys with
  | nil => cases h₁
  | cons k rest ih =>
    obtain ⟨i, d⟩ := k
    rw [rowLess_cons] at h₁ h₂ ⊢
    generalize (a[i]?).getD .null = x at *
    generalize (b[i]?).getD .null = y at *
    generalize (c[i]?).getD .null = z at *
    by_cases hxy : x = y
    · subst hxy
      rw [if_pos rfl] at h₁
      by_cases hxz : x = z
      · subst hxz; rw [if_pos rfl] at h₂ ⊢; exact ih h₁ h₂
      · rw [if_neg hxz] at h₂ ⊢; exact h₂
    · rw [if_neg hxy] at h₁
      by_cases hyz : y = z
      · subst hyz; rw [if_neg hxy]; exact h₁
      · rw [if_neg hyz] at h₂
        have h₃ := klt_trans h₁ h₂
        have hxz : x ≠ z := by
          intro e; subst e; rw [klt_irrefl] at h₃; cases h₃
        rw [if_neg hxz]; exact h₃

/-- the lexicographic order of `rowLess`, on the vectors of key values -/
def vecLess : List Bool → List Val → List Val → Bool
  | d :: ds, x :: xs, y :: ys => if x = y then vecLess ds xs ys else klt d x y
  | _, _, _ => false

theorem keyProj_cons (i : Nat) (d : Bool) (rest : List (Nat × Bool)) (r : Row) :
    Spec.keyProj ((i, d) :: rest) r = (r[i]?).getD .null :: Spec.keyProj rest r := rfl

/-- `rowLess` looks at the rows through their key values only -/
theorem rowLess_eq_vecLess (keys : List (Nat × Bool)) (a b : Row) :
    rowLess keys a b = vecLess (keys.map (·.2)) (Spec.keyProj keys a) (Spec.keyProj keys b) := by
  induction keys with
  | nil => rfl
  | cons k rest ih =>
    obtain ⟨i, d⟩ := k
    rw [rowLess_cons, keyProj_cons, keyProj_cons, List.map_cons]
    simp only [vecLess]
    rw [ih]

theorem keyProj_eq_of_incomparable {keys : List (Nat × Bool)} {a b : Row}
    (hc : KeyComparable keys a b) (h1 : rowLess keys a b = false) (h2 : rowLess keys b a = false) :
    Spec.keyProj keys a = Spec.keyProj keys b := by
  induction keys with
  | nil => rfl
  | cons k rest ih =>
    obtain ⟨i, d⟩ := k
    have c := hc (i, d) List.mem_cons_self
    simp only [] at c
    rw [rowLess_cons] at h1 h2
    rw [keyProj_cons, keyProj_cons]
    generalize (a[i]?).getD .null = x at *
    generalize (b[i]?).getD .null = y at *
    have hxy : x = y := by
      apply Classical.byContradiction; intro hne
      rw [if_neg hne] at h1
      rw [if_neg (fun e => hne e.symm)] at h2
      cases klt_total (d := d) c hne with
      | inl h => rw [h] at h1; cases h1
      | inr h => rw [h] at h2; cases h2
    subst hxy
    simp only [if_true] at h1 h2
    rw [ih (fun k hk => hc k (List.mem_cons_of_mem _ hk)) h1 h2]

theorem rowLess_incomp_trans {keys : List (Nat × Bool)} {a b c : Row}
    (hab : KeyComparable keys a b)
    (h₁ : rowLess keys a b = false) (h₁' : rowLess keys b a = false)
    (h₂ : rowLess keys b c = false) (h₂' : rowLess keys c b = false) :
    rowLess keys a c = false ∧ rowLess keys c a = false := by
  have e := keyProj_eq_of_incomparable hab h₁ h₁'
  rw [rowLess_eq_vecLess] at h₂ h₂' ⊢
  rw [rowLess_eq_vecLess, e]
  exact ⟨h₂, h₂'⟩

/-- A Boolean relation is a strict weak order on the elements of `S`: irreflexive,
asymmetric, transitive, and incomparability is transitive. -/
structure StrictWeakOn (lt : Row → Row → Bool) (S : List Row) : Prop where
  irrefl : ∀ a ∈ S, lt a a = false
  asymm : ∀ a ∈ S, ∀ b ∈ S, lt a b = true → lt b a = false
  trans : ∀ a ∈ S, ∀ b ∈ S, ∀ c ∈ S, lt a b = true → lt b c = true → lt a c = true
  incomp_trans : ∀ a ∈ S, ∀ b ∈ S, ∀ c ∈ S,
    (lt a b = false ∧ lt b a = false) → (lt b c = false ∧ lt c b = false) →
    (lt a c = false ∧ lt c a = false)

/-- **The comparator of ORDER BY is a strict weak order** on any collection of rows whose key
columns are pairwise comparable (covers `.int`, `.str`, `.bool` and `.null` values). -/
theorem rowLess_strict_weak (keys : List (Nat × Bool)) (S : List Row)
    (hS : ∀ a ∈ S, ∀ b ∈ S, KeyComparable keys a b) : StrictWeakOn (rowLess keys) S where
  irrefl a _ := rowLess_irrefl keys a
  asymm _ _ _ _ h := rowLess_asymm h
  trans _ _ _ _ _ _ h₁ h₂ := rowLess_trans h₁ h₂
  incomp_trans a ha b hb _ _ h₁ h₂ :=
    rowLess_incomp_trans (hS a ha b hb) h₁.1 h₁.2 h₂.1 h₂.2

/-- a strict weak order is negatively transitive: "not after" (`≤`) is transitive. -/
theorem StrictWeakOn.neg_trans {lt : Row → Row → Bool} {S : List Row} (h : StrictWeakOn lt S)
    {a b c : Row} (ha : a ∈ S) (hb : b ∈ S) (hc : c ∈ S)
    (hba : lt b a = false) (hcb : lt c b = false) : lt c a = false := by
  cases hca : lt c a with
  | false => rfl
  | true =>
    exfalso
    cases hab : lt a b with
    | true =>
      have := h.trans c hc a ha b hb hca hab
      rw [hcb] at this; cases this
    | false =>
      cases hbc : lt b c with
      | true =>
        have := h.trans b hb c hc a ha hbc hca
        rw [hba] at this; cases this
      | false =>
        have := (h.incomp_trans a ha b hb c hc ⟨hab, hba⟩ ⟨hbc, hcb⟩).2
        rw [hca] at this; cases this

/-! ### Sorting -/

theorem insertSorted_perm (keys : List (Nat × Bool)) (r : Row) (l : List Row) :
    (insertSorted keys r l).Perm (r :: l) := by
  induction l with
  | nil => exact List.Perm.refl _
  | cons x rest ih =>
    simp only [insertSorted]
    split
    · exact ((List.perm_cons x).2 ih).trans (List.Perm.swap r x rest)
    · exact List.Perm.refl _

theorem sortRows_cons (keys : List (Nat × Bool)) (r : Row) (rows : List Row) :
    sortRows keys (r :: rows) = insertSorted keys r (sortRows keys rows) := rfl

/-- **ORDER BY returns a permutation of its input.** -/
theorem sortRows_perm (keys : List (Nat × Bool)) (rows : List Row) :
    (sortRows keys rows).Perm rows := by
  induction rows with
  | nil => exact List.Perm.refl _
  | cons r rest ih =>
    rw [sortRows_cons]
    exact (insertSorted_perm keys r _).trans ((List.perm_cons r).2 ih)

theorem sortedBy_cons (keys : List (Nat × Bool)) (a : Row) (l : List Row) :
    Spec.sortedBy keys (a :: l) = true ↔
      (∀ b, l.head? = some b → rowLess keys b a = false) ∧ Spec.sortedBy keys l = true := by
  cases l with
  | nil => simp [Spec.sortedBy]
  | cons b rest => simp [Spec.sortedBy]

theorem insertSorted_head (keys : List (Nat × Bool)) (r : Row) (l : List Row) :
    (insertSorted keys r l).head? = some r ∨
      (insertSorted keys r l).head? = l.head? ∧ ∃ x, l.head? = some x ∧ rowLess keys x r = true := by
  cases l with
  | nil => left; rfl
  | cons x rest =>
    simp only [insertSorted]
    split
    · rename_i h; right; exact ⟨rfl, x, rfl, h⟩
    · left; rfl

theorem insertSorted_sorted (keys : List (Nat × Bool)) (r : Row) (l : List Row)
    (hl : Spec.sortedBy keys l = true) : Spec.sortedBy keys (insertSorted keys r l) = true := by
  induction l with
  | nil => rfl
  | cons x rest ih =>
    simp only [insertSorted]
    split
    · rename_i hxr
      rw [sortedBy_cons] at hl ⊢
      refine ⟨?_, ih hl.2⟩
      intro b hb
      cases insertSorted_head keys r rest with
      | inl h => rw [h] at hb; cases hb; exact rowLess_asymm hxr
      | inr h => rw [h.1] at hb; exact hl.1 b hb
    · rename_i hxr
      rw [sortedBy_cons]
      refine ⟨?_, hl⟩
      intro b hb
      cases hb
      simpa using hxr

/-- **The output of ORDER BY is sorted** (no adjacent pair is out of order).  `rowLess keys` is
asymmetric on all rows (`rowLess_asymm`), so no typing hypothesis is needed for this
adjacent-pair notion; see `sortRows_pairwise` for the global one. -/
theorem sortRows_sorted (keys : List (Nat × Bool)) (rows : List Row) :
    Spec.sortedBy keys (sortRows keys rows) = true := by
  induction rows with
  | nil => rfl
  | cons r rest ih => rw [sortRows_cons]; exact insertSorted_sorted keys r _ ih

/-! ### consecutive pairs and all pairs -/

theorem pairwise_of_sortedBy {keys : List (Nat × Bool)} {S : List Row}
    (hsw : StrictWeakOn (rowLess keys) S) (l : List Row) (hS : ∀ x ∈ l, x ∈ S)
    (hl : Spec.sortedBy keys l = true) : l.Pairwise (fun a b => rowLess keys b a = false) := by
  induction l with
  | nil => exact List.Pairwise.nil
  | cons a rest ih =>
    obtain ⟨h1, h2⟩ := (sortedBy_cons keys a rest).1 hl
    have hrest : ∀ x ∈ rest, x ∈ S := fun x hx => hS x (List.mem_cons_of_mem _ hx)
    have ihr := ih hrest h2
    refine List.pairwise_cons.2 ⟨?_, ihr⟩
    cases rest with
    | nil => intro y hy; cases hy
    | cons b rest' =>
      have hba : rowLess keys b a = false := h1 b rfl
      intro y hy
      cases List.mem_cons.1 hy with
      | inl e => subst e; exact hba
      | inr hy' =>
        exact hsw.neg_trans (hS a List.mem_cons_self) (hrest b List.mem_cons_self) (hrest y hy)
          hba ((List.pairwise_cons.1 ihr).1 y hy')

theorem sortedBy_of_pairwise {keys : List (Nat × Bool)} (l : List Row)
    (hl : l.Pairwise (fun a b => rowLess keys b a = false)) : Spec.sortedBy keys l = true := by
  induction l with
  | nil => rfl
  | cons a rest ih =>
    obtain ⟨h1, h2⟩ := List.pairwise_cons.1 hl
    rw [sortedBy_cons]
    refine ⟨?_, ih h2⟩
    intro b hb
    cases rest with
    | nil => cases hb
    | cons c rest' => cases hb; exact h1 _ List.mem_cons_self

/-- **Global sortedness**: when the comparator is a strict weak order on the rows (e.g. their
key columns are pairwise `Comparable`), no row of the output is strictly before an earlier
one. -/
theorem sortRows_pairwise_of_strictWeak (keys : List (Nat × Bool)) (rows : List Row)
    (hsw : StrictWeakOn (rowLess keys) rows) :
    (sortRows keys rows).Pairwise (fun a b => rowLess keys b a = false) :=
  pairwise_of_sortedBy hsw _ (fun _ hx => (sortRows_perm keys rows).mem_iff.1 hx)
    (sortRows_sorted keys rows)

theorem sortRows_pairwise (keys : List (Nat × Bool)) (rows : List Row)
    (hc : ∀ a ∈ rows, ∀ b ∈ rows, KeyComparable keys a b) :
    (sortRows keys rows).Pairwise (fun a b => rowLess keys b a = false) :=
  sortRows_pairwise_of_strictWeak keys rows (rowLess_strict_weak keys rows hc)

/-- **No ORDER BY keeps the order.** -/
theorem sortRows_nil_keys (rows : List Row) : sortRows [] rows = rows := by
  induction rows with
  | nil => rfl
  | cons r rest ih =>
    rw [sortRows_cons, ih]
    cases rest <;> simp [insertSorted, rowLess]

/-! ### `sortColumns` -/

/-- the key-resolution step of `sortColumns` -/
def resolveSortKeys (ob : List SortSpec) (hdr : List Field) : X (List (Nat × Bool)) :=
  mapX (fun (s : SortSpec) => match findColumn s.key hdr with
    | .ok i => X.ok (i, s.desc)
    | .err .fieldNotFound => .err .sortFieldNotFound
    | .err e => .err e
    | .panic p => .panic p) ob

/-- **`sortColumns` succeeds only after checking the typing condition**, and then returns
`sortRows` on the resolved keys: it answers exactly when the keys resolve and no pair of rows holds
key values the comparator cannot order. -/
theorem sortColumns_ok_iff {ob : List SortSpec} {hdr : List Field} {rows out : List Row} :
    sortColumns ob hdr rows = .ok out ↔
      ∃ keys, resolveSortKeys ob hdr = .ok keys ∧
        (∀ a ∈ rows, ∀ b ∈ rows, KeyComparable keys a b) ∧ out = sortRows keys rows := by
  unfold sortColumns
  rw [bind_eq_ok]
  refine exists_congr fun keys => and_congr_right fun _ => ?_
  dsimp only
  split
  · -- the test found a pair the comparator panics on
    rename_i hbad
    simp only [List.any_eq_true] at hbad
    obtain ⟨a, ha, b, hb, k, hk, hp⟩ := hbad
    refine ⟨fun h => (by cases h), fun ⟨hc, _⟩ => ?_⟩
    have hcmp := hc a ha b hb k hk
    cases hcv : cmpVal ((a[k.1]?).getD .null) ((b[k.1]?).getD .null) with
    | ok o => simp only [hcv] at hp; cases hp
    | err e => simp only [hcv] at hp; cases hp
    | panic s => exact absurd hcmp ((cmpVal_panic_iff _ _).1 ⟨s, hcv⟩)
  · rename_i hbad
    simp only [Bool.not_eq_true, List.any_eq_false] at hbad
    simp only [pure_eq_ok, X.ok.injEq]
    refine ⟨fun h => ⟨fun a ha b hb k hk => ?_, h.symm⟩, fun h => h.2.symm⟩
    have hb' := hbad a ha b hb k hk
    apply Classical.byContradiction
    intro hn
    obtain ⟨s, hs⟩ := (cmpVal_panic_iff _ _).2 hn
    simp [hs] at hb'

theorem sortColumns_sorted_perm {ob : List SortSpec} {hdr : List Field} {rows out : List Row}
    (h : sortColumns ob hdr rows = .ok out) :
    ∃ keys, resolveSortKeys ob hdr = .ok keys ∧ out.Perm rows ∧
      Spec.sortedBy keys out = true ∧ out.Pairwise (fun a b => rowLess keys b a = false) := by
  obtain ⟨keys, hk, hc, rfl⟩ := sortColumns_ok_iff.1 h
  exact ⟨keys, hk, sortRows_perm _ _, sortRows_sorted _ _, sortRows_pairwise _ _ hc⟩

/-! ### WHERE -/

/-- the rows WHERE keeps: the condition evaluates to `TRUE` -/
def keeps (c : Cond) (fields : List Field) (r : Row) : Bool :=
  match evaluate c fields r with
  | .ok (.bool true) => true
  | _ => false

theorem keeps_eq_holds (c : Cond) (fields : List Field) (r : Row) :
    keeps c fields r = (Spec.holds c fields r == some true) := by
  unfold keeps Spec.holds
  cases evaluate c fields r with
  | ok v => cases v with
    | bool b => cases b <;> rfl
    | _ => rfl
  | err e => rfl
  | panic s => rfl

/-- **WHERE is a filter**: `filterRows` succeeds exactly when the condition evaluates on every row,
and returns, in order, exactly the rows on which it is `TRUE`. -/
theorem filterRows_ok_iff {c : Cond} {fields : List Field} {rows out : List Row} :
    filterRows c fields rows = .ok out ↔
      (∀ r ∈ rows, ∃ v, evaluate c fields r = .ok v) ∧ out = rows.filter (keeps c fields) := by
  have hk : (fun r => whereTest c fields r == .ok true) = keeps c fields := funext fun r => by
    unfold whereTest keeps
    cases evaluate c fields r with
    | ok v => cases v with
      | bool b => cases b <;> rfl
      | _ => rfl
    | _ => rfl
  rw [filterRows_eq_filterX, filterX_ok_iff, hk]
  refine and_congr_left fun _ => forall₂_congr fun r _ => ?_
  unfold whereTest
  cases evaluate c fields r <;> simp

/-- the WHERE step of the executor, as one function of the optional condition -/
def whereX (w : Option Cond) (fields : List Field) (rows : List Row) : X (List Row) :=
  match w with
  | some c => filterRows c fields rows
  | none => pure rows

/-! ### The pipeline -/

/-- without an aggregate in the select list AND without GROUP BY the projected rows pass through
(`SELECT a FROM t GROUP BY a` does group: see `Mkdb/Proofs/Aggregate.lean`) -/
theorem aggregateRows_noAggr {sl : List DerivedCol} {gb : List ColRef} (rows : List Row)
    (h : hasAggr sl = false) (hgb : gb = []) : aggregateRows sl gb rows = .ok rows := by
  simp [aggregateRows, h, hgb]

/-- OFFSET then LIMIT -/
def cut (lim : LimitOffset) (l : List Row) : List Row :=
  let l := if lim.offsetActive then l.drop lim.offset.toNat else l
  if lim.limitActive then l.take lim.limit.toNat else l

theorem cutRows_eq (lim : LimitOffset) (rows : List Row) :
    cutRows lim rows =
      if lim.offsetActive && lim.offset < 0 then .panic "offset: rows[offset:]"
      else if lim.limitActive && lim.limit < 0 then .panic "limit: rows[0:limit]"
      else .ok (cut lim rows) := rfl

theorem boundsOK_iff (lim : LimitOffset) : Spec.boundsOK lim = true ↔
    (lim.offsetActive && decide (lim.offset < 0)) = false ∧
      (lim.limitActive && decide (lim.limit < 0)) = false := by
  unfold Spec.boundsOK
  cases lim.offsetActive <;> cases lim.limitActive <;> simp [Int.not_lt]

theorem cutRows_ok_iff {lim : LimitOffset} {rows out : List Row} :
    cutRows lim rows = .ok out ↔ Spec.boundsOK lim = true ∧ out = cut lim rows := by
  rw [cutRows_eq, boundsOK_iff]
  split
  · rename_i h; simp [h]
  · split
    · rename_i h; simp [h]
    · rename_i h1 h2
      simp only [Bool.not_eq_true] at h1 h2
      simp only [h1, h2, X.ok.injEq, true_and]
      exact eq_comm

theorem cutRows_of_boundsOK {lim : LimitOffset} (h : Spec.boundsOK lim = true) (rows : List Row) :
    cutRows lim rows = .ok (cut lim rows) := cutRows_ok_iff.2 ⟨h, rfl⟩

/-- the field list of a plain table: its columns, qualified by the alias if there is one -/
def tableFields (t : TableName) (tbl : Table) : List Field :=
  tbl.cols.map fun c => ⟨(match t.alias with | some a => a | none => t.name), c⟩

/-- everything `evaluateSelect` does after WHERE -/
def selectTail (q : Select) (fields : List Field) (filtered : List Row) :
    X (List Row × List Field) := do
  let (rows, hdr) ← projectColumns q.list fields filtered
  let rows ← aggregateRows q.list q.groupBy rows
  let rows ← sortColumns q.orderBy (sortFields q.list hdr) rows
  let rows ← cutRows q.lim rows
  pure (rows, hdr)

theorem evaluateSelect_from (fetch : Bytes → Option Table) (q : Select) (tr : TableRef)
    (h : q.from_ = some tr) :
    evaluateSelect fetch q = (do
      let (rows, fields) ← nestedLoopJoin fetch tr
      let rows ← (match q.where_ with
        | some c => filterRows c fields rows
        | none => pure rows)
      selectTail q fields rows) := by
  unfold evaluateSelect selectTail
  rw [h]
  cases q.where_ <;> rfl

theorem selectTail_iff {q : Select} {fields : List Field} {filtered rows : List Row}
    {hdr : List Field} :
    selectTail q fields filtered = .ok (rows, hdr) ↔
      ∃ projected agg keys,
        projectColumns q.list fields filtered = .ok (projected, hdr) ∧
        aggregateRows q.list q.groupBy projected = .ok agg ∧
        resolveSortKeys q.orderBy (sortFields q.list hdr) = .ok keys ∧
        (∀ a ∈ agg, ∀ b ∈ agg, KeyComparable keys a b) ∧
        rows = cut q.lim (sortRows keys agg) ∧ Spec.boundsOK q.lim = true := by
  unfold selectTail
  constructor
  · intro h
    obtain ⟨⟨projected, hdr'⟩, hproj, h⟩ := bind_eq_ok.1 h
    obtain ⟨agg, hagg, h⟩ := bind_eq_ok.1 h
    obtain ⟨sorted, hsort, h⟩ := bind_eq_ok.1 h
    obtain ⟨cutted, hcut, h⟩ := bind_eq_ok.1 h
    simp only [pure_eq_ok, X.ok.injEq, Prod.mk.injEq] at h
    obtain ⟨hrows, rfl⟩ := h
    obtain ⟨keys, hkeys, hcomp, rfl⟩ := sortColumns_ok_iff.1 hsort
    obtain ⟨hb, rfl⟩ := cutRows_ok_iff.1 hcut
    exact ⟨projected, agg, keys, hproj, hagg, hkeys, hcomp, hrows.symm, hb⟩
  · rintro ⟨projected, agg, keys, hproj, hagg, hkeys, hcomp, rfl, hb⟩
    have hsort := sortColumns_ok_iff.2 ⟨keys, hkeys, hcomp, rfl⟩
    simp only [hproj, hagg, hsort, cutRows_of_boundsOK hb, bind_ok, pure_eq_ok]

/-- **`evaluateSelect` is FROM → WHERE → select list → GROUP BY / aggregates → ORDER BY →
OFFSET / LIMIT**, as an equivalence: it answers `(rows, hdr)` exactly when every stage succeeds
and `rows` is what the last one delivers. -/
theorem evaluateSelect_iff {fetch : Bytes → Option Table} {q : Select} {tr : TableRef}
    (hfrom : q.from_ = some tr) {rows : List Row} {hdr : List Field} :
    evaluateSelect fetch q = .ok (rows, hdr) ↔
      ∃ src fields filtered projected agg keys,
        nestedLoopJoin fetch tr = .ok (src, fields) ∧
        whereX q.where_ fields src = .ok filtered ∧
        projectColumns q.list fields filtered = .ok (projected, hdr) ∧
        aggregateRows q.list q.groupBy projected = .ok agg ∧
        resolveSortKeys q.orderBy (sortFields q.list hdr) = .ok keys ∧
        (∀ a ∈ agg, ∀ b ∈ agg, KeyComparable keys a b) ∧
        rows = cut q.lim (sortRows keys agg) ∧ Spec.boundsOK q.lim = true := by
  rw [evaluateSelect_from fetch q tr hfrom]
  constructor
  · intro h
    obtain ⟨⟨src, fields⟩, hj, h⟩ := bind_eq_ok.1 h
    obtain ⟨filtered, hw, h⟩ := bind_eq_ok.1 h
    obtain ⟨projected, agg, keys, h⟩ := selectTail_iff.1 h
    exact ⟨src, fields, filtered, projected, agg, keys, hj, hw, h⟩
  · rintro ⟨src, fields, filtered, projected, agg, keys, hj, hw, h⟩
    have ht := selectTail_iff.2 ⟨projected, agg, keys, h⟩
    unfold whereX at hw
    simp only [hj, bind_ok]
    exact (congrArg (· >>= _) hw).trans ht

/-- **A single-table SELECT without aggregates and without GROUP BY is
filter → project → sort → offset → limit**, in that order and nothing else. -/
theorem select_single_table {fetch : Bytes → Option Table} {q : Select} {t : TableName}
    {rows : List Row} {hdr : List Field}
    (hfrom : q.from_ = some (.table t)) (hagg : hasAggr q.list = false) (hgb : q.groupBy = [])
    (h : evaluateSelect fetch q = .ok (rows, hdr)) :
    ∃ tbl src fields filtered projected keys,
      fetch t.name = some tbl ∧ src = tbl.rows ∧ fields = tableFields t tbl ∧
      (match q.where_ with
        | some c => (∀ r ∈ src, ∃ v, evaluate c fields r = .ok v) ∧
                    filtered = src.filter (keeps c fields)
        | none => filtered = src) ∧
      projectColumns q.list fields filtered = .ok (projected, hdr) ∧
      resolveSortKeys q.orderBy (sortFields q.list hdr) = .ok keys ∧
      (∀ a ∈ projected, ∀ b ∈ projected, KeyComparable keys a b) ∧
      rows = cut q.lim (sortRows keys projected) := by
  obtain ⟨src, fields, filtered, projected, agg, keys, hj, hw, hproj, hag, hkeys, hcomp, hrows, _⟩ :=
    (evaluateSelect_iff hfrom).1 h
  rw [aggregateRows_noAggr _ hagg hgb] at hag
  cases hag
  simp only [nestedLoopJoin, fetchTable] at hj
  split at hj
  · cases hj
  · rename_i tbl htbl
    cases hj
    refine ⟨tbl, _, _, filtered, projected, keys, htbl, rfl, rfl, ?_, hproj, hkeys, hcomp, hrows⟩
    cases hc : q.where_ with
    | none => rw [hc] at hw; exact (X.ok.inj hw).symm
    | some c => rw [hc] at hw; exact filterRows_ok_iff.1 hw

/-! ### OFFSET / LIMIT, sort keys and sortedness of the final result -/

/-- `cut` is `take lim (drop off l)` with the conventions of `Spec.satisfies`. -/
theorem cut_eq (lim : LimitOffset) (l : List Row) :
    cut lim l =
      (let off := if lim.offsetActive then lim.offset.toNat else 0
       let d := l.drop off
       if lim.limitActive then d.take lim.limit.toNat else d) := by
  unfold cut
  cases lim.offsetActive <;> simp

theorem resolveSortKeys_iff_spec {q : Select} {hdr : List Field} {keys : List (Nat × Bool)} :
    resolveSortKeys q.orderBy (sortFields q.list hdr) = .ok keys ↔ Spec.sortKeys q hdr = some keys := by
  unfold resolveSortKeys Spec.sortKeys
  apply mapX_ok_iff_mapM
  intro s _ b
  cases hfc : findColumn s.key (sortFields q.list hdr) with
  | ok i => simp
  | err e => cases e <;> simp
  | panic p => simp

theorem sortedBy_drop (keys : List (Nat × Bool)) (n : Nat) (l : List Row)
    (h : Spec.sortedBy keys l = true) : Spec.sortedBy keys (l.drop n) = true := by
  induction n generalizing l with
  | zero => simpa using h
  | succ n ih =>
    cases l with
    | nil => rfl
    | cons a l => rw [List.drop_succ_cons]; exact ih l ((sortedBy_cons keys a l).1 h).2

theorem sortedBy_take (keys : List (Nat × Bool)) (n : Nat) (l : List Row)
    (h : Spec.sortedBy keys l = true) : Spec.sortedBy keys (l.take n) = true := by
  induction l generalizing n with
  | nil => simp [Spec.sortedBy]
  | cons a l ih =>
    cases n with
    | zero => rfl
    | succ n =>
      rw [List.take_succ_cons, sortedBy_cons]
      obtain ⟨h1, h2⟩ := (sortedBy_cons keys a l).1 h
      refine ⟨?_, ih n h2⟩
      intro b hb
      apply h1
      cases n with
      | zero => simp at hb
      | succ n => cases l with
        | nil => simp at hb
        | cons c l => simpa using hb

theorem sortedBy_cut (keys : List (Nat × Bool)) (lim : LimitOffset) (l : List Row)
    (h : Spec.sortedBy keys l = true) : Spec.sortedBy keys (cut lim l) = true := by
  unfold cut
  dsimp only
  split <;> split <;> first
    | exact sortedBy_take _ _ _ (sortedBy_drop _ _ _ h)
    | exact sortedBy_take _ _ _ h
    | exact sortedBy_drop _ _ _ h
    | exact h

/-! ### Concrete instances (the hypotheses are satisfiable on non-trivial inputs) -/
section Examples

instance (keys : List (Nat × Bool)) (a b : Row) : Decidable (KeyComparable keys a b) := by
  unfold KeyComparable; infer_instance

/-- columns: `a` (int, with a NULL), `b` (string) -/
def exRows : List Row :=
  [[.int 3, .str [98]], [.null, .str [97]], [.int 1, .str [97, 98]], [.int 3, .str [97]],
   [.int (-2), .str []]]

/-- `ORDER BY a ASC, b DESC` -/
def exKeys : List (Nat × Bool) := [(0, false), (1, true)]

-- hypothesis of `rowLess_strict_weak` / `sortRows_pairwise`
example : ∀ a ∈ exRows, ∀ b ∈ exRows, KeyComparable exKeys a b := by decide +kernel

-- `sortRows_perm`, `sortRows_sorted` on this input: NULL first, ties on `a` broken by `b` descending
example : sortRows exKeys exRows =
    [[.null, .str [97]], [.int (-2), .str []], [.int 1, .str [97, 98]], [.int 3, .str [98]],
     [.int 3, .str [97]]] := by decide +kernel
example : Spec.sortedBy exKeys (sortRows exKeys exRows) = true := by decide +kernel
example : sortRows [] exRows = exRows := sortRows_nil_keys exRows

-- the typing hypothesis of `rowLess_strict_weak` cannot be dropped: with mixed types
-- incomparability is not transitive (`1 ~ 'a'`, `'a' ~ 2`, but `1 < 2`)
example :
    rowLess [(0, false)] [.int 1] [.str [97]] = false ∧ rowLess [(0, false)] [.str [97]] [.int 1] = false ∧
    rowLess [(0, false)] [.str [97]] [.int 2] = false ∧ rowLess [(0, false)] [.int 2] [.str [97]] = false ∧
    rowLess [(0, false)] [.int 1] [.int 2] = true := by decide +kernel

/-- table `t(a, b)` -/
def exFetch (n : Bytes) : Option Table :=
  if n = [116] then some ⟨[[97], [98]], exRows⟩ else none

/-- `a > 0` -/
def exCond : Cond := .pred ⟨.col ⟨[], [97]⟩, Generated.t_GT, .lit (.int 0)⟩

def exFields : List Field := [⟨[116], [97]⟩, ⟨[116], [98]⟩]

-- `filterRows_ok_iff`: every evaluation succeeds; on the NULL row `>` is false, not an error
-- (`C06_padding_null_in_an_ordering_comparison`), so that row is not selected
example : filterRows exCond exFields exRows =
    .ok [[.int 3, .str [98]], [.int 1, .str [97, 98]], [.int 3, .str [97]]] := by decide +kernel
example : filterRows exCond exFields [[.int 3, .str [98]], [.int (-2), .str []], [.int 1, .str [97, 98]]]
    = .ok [[.int 3, .str [98]], [.int 1, .str [97, 98]]] := by decide +kernel
example : ∀ r ∈ ([[.int 3, .str [98]], [.int (-2), .str []]] : List Row),
    ∃ v, evaluate exCond exFields r = .ok v := by
  intro r hr
  simp only [List.mem_cons, List.not_mem_nil, or_false] at hr
  rcases hr with rfl | rfl
  · exact ⟨.bool true, rfl⟩
  · exact ⟨.bool false, rfl⟩

/-- `SELECT b, a FROM t WHERE a = 3 OR b = 'ab' ORDER BY b LIMIT 2 OFFSET 1` -/
def exQuery : Select :=
  { list := [⟨.expr (.val (.col ⟨[], [98]⟩)), []⟩, ⟨.expr (.val (.col ⟨[], [97]⟩)), []⟩]
    from_ := some (.table ⟨[116], none⟩)
    where_ := some (.or (.pred ⟨.col ⟨[], [97]⟩, Generated.t_EQ, .lit (.int 3)⟩)
                        (.pred ⟨.col ⟨[], [98]⟩, Generated.t_EQ, .lit (.str [97, 98])⟩))
    orderBy := [⟨⟨[], [98]⟩, false⟩]
    lim := { limitActive := true, offsetActive := true, limit := 2, offset := 1 } }

-- hypotheses of `select_single_table`
example : exQuery.from_ = some (.table ⟨[116], none⟩) := rfl
example : hasAggr exQuery.list = false := rfl
example : exQuery.groupBy = [] := rfl
example : evaluateSelect exFetch exQuery =
    .ok ([[.str [97, 98], .int 1], [.str [98], .int 3]], [⟨[116], [98]⟩, ⟨[116], [97]⟩]) := by decide +kernel

end Examples

end Mkdb.Exec.SelectP
