import Mkdb.Proofs.BaseCaseStore
import Mkdb.Proofs.CatalogInv
import Mkdb.Proofs.UnchangedCreate
/-!
# The base case: the hand-written store `emptyCatalog` is not a database

`emptyCatalog` (`UnchangedCreate`, used by the examples of C14) is "a catalog with no tables: one empty leaf
at 4096 as the page table".  The store `CREATE DATABASE` produces (`newStore`, `BaseCaseStore`) is different:
its page table has the two rows of `sys_pages` and `sys_schema`, there is a second page (`sys_schema`,
six rows), eight row ids and LSNs are used.  `emptyCatalog` does not satisfy the catalog invariant
`Cat` for any description (`emptyCatalog_not_cat`): its page table does not name `sys_schema`.  The
examples about `emptyCatalog` hold of the real store as well: `newStore_examples`.
-/
set_option autoImplicit false
namespace Mkdb.Store
open Mkdb.Page Mkdb.Tuple Mkdb.Generated Mkdb.Tree

theorem emptyCatalog_ne_new : emptyCatalog ≠ reopen newStore := by
  intro h
  have := congrArg (fun s => s.hdr.nextFree) h
  revert this
  decide

theorem emptyCatalog_view {off : Nat} {n : Node} {d : Bool} (h : view emptyCatalog off = some (n, d)) :
    n = .leaf ⟨4096, 0, false, false, 0, 0, []⟩ := by
  unfold view assocGet at h
  simp only [emptyCatalog, List.find?_nil, Option.map_none, List.find?_cons] at h
  split at h
  · simp only [Option.map_some, Option.some.injEq, Prod.mk.injEq] at h
    exact h.1.symm
  · simp at h

theorem emptyCatalog_not_cat (pt sch : Levels) (tbls : List (Bytes × Levels)) : ¬ Cat emptyCatalog pt sch tbls := by
  intro h
  obtain ⟨hH, _⟩ := h.tree pt Cat.pt_mem
  have he := h.esch
  unfold ptEntries at he
  obtain ⟨c, hc, _⟩ := List.mem_filterMap.mp he
  unfold live at hc
  have hc' : c ∈ cells pt := (List.mem_filter.mp hc).1
  unfold cells at hc'
  obtain ⟨p, hp, hcp⟩ := List.mem_flatMap.mp hc'
  have hfl : (p.1.off, Node.leaf p.1, p.2) ∈ flatten pt :=
    List.mem_append_left _ (List.mem_map.mpr ⟨p, hp, rfl⟩)
  have := emptyCatalog_view (hH _ hfl)
  simp only [Node.leaf.injEq] at this
  rw [this] at hcp
  cases hcp

theorem newStore_filed : Filed (reopen newStore) := by unfold Filed; decide

def errIs {α} (r : SRes α) (e : SErr) : Bool :=
  match r with
  | .err e' _ => e' == e
  | _ => false

theorem of_errIs {α} {r : SRes α} {e : SErr} (h : errIs r e = true) : ∃ s', r = .err e s' := by
  unfold errIs at h
  split at h
  · rename_i e' s'
    simp only [beq_iff_eq] at h
    subst h
    exact ⟨s', rfl⟩
  · cases h

/-- **The witnesses of C14 on a real database.**  On the store `CREATE DATABASE` leaves: CREATE TABLE
with a 400-byte table name, CREATE TABLE with a 400-byte name in its second column, and INSERT into a
table that does not exist are refused (`rowTooLarge`, `rowTooLarge`, `tableNotExist`), and the store
afterwards is well filed and holds the same data. -/
theorem newStore_examples :
    (∃ s', createTable [] longName [] true (reopen newStore) = .err .rowTooLarge s' ∧
      Filed s' ∧ SameData (reopen newStore) s') ∧
    (∃ s', createTable [⟨"a", .int, 0⟩, ⟨longColumn, .int, 0⟩] [116] [] true (reopen newStore) = .err .rowTooLarge s' ∧
      Filed s' ∧ SameData (reopen newStore) s') ∧
    (∃ s', insert [116] [] [] (reopen newStore) = .err .tableNotExist s' ∧
      Filed s' ∧ SameData (reopen newStore) s') := by
  refine ⟨?_, ?_, ?_⟩
  · obtain ⟨s', heq⟩ := of_errIs (r := createTable [] longName [] true (reopen newStore)) (e := .rowTooLarge)
      (by decide +kernel)
    exact ⟨s', heq, createTable_err _ _ _ _ _ _ _ newStore_filed heq (.inr (.inr (.inl rfl)))⟩
  · obtain ⟨s', heq⟩ := of_errIs
      (r := createTable [⟨"a", .int, 0⟩, ⟨longColumn, .int, 0⟩] [116] [] true (reopen newStore)) (e := .rowTooLarge)
      (by decide +kernel)
    exact ⟨s', heq, createTable_err _ _ _ _ _ _ _ newStore_filed heq (.inr (.inr (.inl rfl)))⟩
  · obtain ⟨s', heq⟩ := of_errIs (r := insert [116] [] [] (reopen newStore)) (e := .tableNotExist)
      (by decide +kernel)
    exact ⟨s', heq, insert_err _ _ _ _ _ _ newStore_filed heq (.inl rfl)⟩

end Mkdb.Store
