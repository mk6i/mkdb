import Mkdb.Proofs.Console
import Mkdb.Proofs.ScanTextLayout
/-!
From keystrokes to the parsed statement (C20 and C10 composed), first part.  The console model works on key
codes, the scanner model on runes; for ASCII text, which is what `renderText` writes, `runesOfKeys` and
`keysOfRunes` join them.  First the two alphabets, and that the console's and the scanner's quote trackers agree
on every string literal `TextOK` accepts (`scanStr_sim`); then a rendered token list closed by one `;` is, read
as keys, a well-formed console statement (`wfStmt_renderText`).
-/

section
/-!
## From keystrokes to the parsed statement (C20 and C10 composed): the two alphabets

The console model (`Model/Console.lean`) works on key codes (`Nat`), the scanner model
(`Model/Scan.lean`) on `Rune`s.  In the program the console hands each submitted statement to
`engine.Session.ExecQuery` as a Go string (`cmd/console/main.go`), the scanner decodes that string
into runes.  For ASCII key codes the decoded rune of the key `c` is `asciiRune c`: `runesOfKeys`.
The composition is for ASCII text, which is what `renderText` writes (literals and names outside ASCII
are covered by C20 and by C10 separately, each in its own alphabet).

Here: `Neutral` - keys that, read by the console's quote automaton from outside quotes, end no statement
and leave the automaton outside quotes - holds of a string literal `'body'` whose body the SCANNER reads up
to the closing quote (`strBodyOK`, with all the escape handling of `scanString`): the CONSOLE sees the literal
end at the same quote (`scanStr_sim`); the two quote trackers agree on every literal `TextOK` accepts.
-/
namespace Mkdb.Console
open Mkdb.Scan Mkdb.Generated

/-- The runes the scanner reads from a submitted statement of ASCII key codes: the engine gets the
submission as a Go string, the scanner decodes it; the rune of the ASCII key `c` is `asciiRune c`. -/
def runesOfKeys (ks : List Nat) : Input := ks.map asciiRune

/-- The key codes that type a text: one key per rune, the rune's code point. -/
def keysOfRunes (rs : Input) : List Nat := rs.map (·.code)

theorem keysOfRunes_append (a b : Input) : keysOfRunes (a ++ b) = keysOfRunes a ++ keysOfRunes b := by
  simp [keysOfRunes]

theorem runesOfKeys_keysOfRunes (rs : Input) (h : ∀ r ∈ rs, r = asciiRune r.code) :
    runesOfKeys (keysOfRunes rs) = rs := by
  induction rs with
  | nil => rfl
  | cons r rs ih =>
    simp only [runesOfKeys, keysOfRunes, List.map_cons, List.map_map] at ih ⊢
    rw [ih (fun x hx => h x (List.mem_cons_of_mem _ hx)), ← h r List.mem_cons_self]

theorem keysOfRunes_runesOfKeys (ks : List Nat) : keysOfRunes (runesOfKeys ks) = ks := by
  induction ks with
  | nil => rfl
  | cons k ks ih =>
    simp only [runesOfKeys, keysOfRunes, List.map_cons, List.map_map] at ih ⊢
    rw [ih]; rfl

/-- scanned from outside quotes, `l` ends no statement and ends outside quotes: `Quiet .top l .top` (`Console`),
whose lemmas it takes over -/
def Neutral (l : List Nat) : Prop := noEnd .top l = true ∧ qrun .top l = .top

theorem Neutral.nil : Neutral [] := Quiet.nil _

theorem Neutral.append {a b : List Nat} (ha : Neutral a) (hb : Neutral b) : Neutral (a ++ b) := Quiet.append ha hb

theorem Neutral.of_blank {w : List Nat} (hw : Blank w) : Neutral w := Quiet.of_blank hw

/-- a key that is no quote and no semicolon -/
def plainKey (c : Nat) : Bool := !(c == 39 || c == 34 || c == 96 || c == 59)

theorem qstep_top_plain {c : Nat} (h : plainKey c = true) : qstep .top c = (.top, false) := by
  simp only [plainKey, Bool.not_eq_true', Bool.or_eq_false_iff, beq_eq_false_iff_ne] at h
  simp [qstep, h.1.1.1, h.1.1.2, h.1.2, h.2]

theorem Neutral.of_plain {l : List Nat} (h : ∀ c ∈ l, plainKey c = true) : Neutral l := by
  induction l with
  | nil => exact Neutral.nil
  | cons c l ih =>
    have hc := qstep_top_plain (h c List.mem_cons_self)
    exact Quiet.cons (by rw [hc]) (by rw [hc]; exact ih fun x hx => h x (List.mem_cons_of_mem _ hx))

/-- the console's quote state that corresponds to a state of `scanString` inside `'...'` -/
def projQ : SState → Q
  | .normal => .inq 39
  | .afterBackslash => .esc 39
  | .escDigits _ _ => .inq 39

/-- the escape bases `scanEscape` uses are at most 16 (so a quote or backslash is never a digit) -/
def goodS : SState → Prop
  | .escDigits _ b => b ≤ 16
  | _ => True

theorem projQ_ne_top (s : SState) : (qstep (projQ s) c).2 = false := by
  cases s
  · exact (qstep_quoted 39 c).1
  · exact (qstep_quoted 39 c).2
  · exact (qstep_quoted 39 c).1

theorem digitVal_quote : digitVal 39 = 16 ∧ digitVal 92 = 16 := by decide

/-- a rune that no escape takes: `strPlain` stops at it, or goes on in a state that corresponds to `q`, when
`q` is what the console makes of the rune inside the literal: still inside behind any rune but the quote
and the backslash, escaped behind a backslash -/
theorem strPlain_sim (a : Rune) {q : Q} (hin : a.code ≠ 39 → a.code ≠ 92 → q = .inq 39)
    (hesc : a.code = 92 → q = .esc 39) (s' : SState) (h : strPlain 39 a = .inr s') : goodS s' ∧ projQ s' = q := by
  simp only [strPlain, beq_iff_eq] at h
  by_cases h1 : a.code = 39
  · rw [if_pos h1] at h; cases h
  rw [if_neg h1] at h
  by_cases h2 : a.code = 10
  · rw [if_pos h2] at h; cases h
  rw [if_neg h2] at h
  by_cases h3 : a.code = 92
  · rw [if_pos h3] at h; cases h; exact ⟨trivial, (hesc h3).symm⟩
  · rw [if_neg h3] at h; cases h; exact ⟨trivial, (hin h1 h3).symm⟩

theorem qstep_inq_plain {c : Nat} (h1 : c ≠ 39) (h2 : c ≠ 92) : (qstep (.inq 39) c).1 = .inq 39 := by
  simp [qstep, h1, h2]

theorem strStep_sim (s : SState) (hs : goodS s) (a : Rune) (s' : SState) (h : strStep 39 s a = .inr s') :
    goodS s' ∧ projQ s' = (qstep (projQ s) a.code).1 := by
  cases s with
  | normal => exact strPlain_sim a qstep_inq_plain (fun h => by rw [h]; rfl) s' h
  | afterBackslash =>
    -- the console is back inside the literal behind any escaped rune
    simp only [strStep] at h
    by_cases c1 : (a.code == 97 || a.code == 98 || a.code == 102 || a.code == 110 || a.code == 114 ||
        a.code == 116 || a.code == 118 || a.code == 92 || a.code == 39) = true
    · rw [if_pos c1] at h; cases h; exact ⟨trivial, rfl⟩
    rw [if_neg c1] at h
    by_cases c2 : (48 ≤ a.code && a.code ≤ 55) = true
    · rw [if_pos c2] at h; cases h; exact ⟨(by decide : 8 ≤ 16), rfl⟩
    rw [if_neg c2] at h
    by_cases c3 : (a.code == 120) = true
    · rw [if_pos c3] at h; cases h; exact ⟨Nat.le_refl 16, rfl⟩
    rw [if_neg c3] at h
    by_cases c4 : (a.code == 117) = true
    · rw [if_pos c4] at h; cases h; exact ⟨Nat.le_refl 16, rfl⟩
    rw [if_neg c4] at h
    by_cases c5 : (a.code == 85) = true
    · rw [if_pos c5] at h; cases h; exact ⟨Nat.le_refl 16, rfl⟩
    rw [if_neg c5] at h
    refine strPlain_sim a (fun _ _ => rfl) (fun h92 => absurd ?_ c1) s' h
    simp [h92]
  | escDigits n base =>
    simp only [strStep] at h
    by_cases hd : (n > 0 && digitVal a.code < base) = true
    · -- a digit below a base of at most 16 is neither quote nor backslash
      rw [if_pos hd] at h; cases h
      have hq : ∀ c, digitVal c = 16 → a.code ≠ c := fun c hc e => by
        simp only [goodS] at hs
        simp only [e, hc, Bool.and_eq_true, decide_eq_true_eq] at hd
        omega
      exact ⟨hs, (qstep_inq_plain (hq 39 digitVal_quote.1) (hq 92 digitVal_quote.2)).symm⟩
    · rw [if_neg hd] at h
      exact strPlain_sim a qstep_inq_plain (fun h => by rw [h]; rfl) s' h

/-- **The scanner and the console agree on where a literal ends.**  If `scanString`, started in the
state `s` inside a `'...'` literal, reads `body` and stops at the quote `c` written behind it, then
the console's quote automaton, started in the corresponding state, is still inside the literal after
`body` (so that `c` closes it), and ended no statement on the way. -/
theorem scanStr_sim (c : Rune) (hc : c.code = 39) : ∀ (body : Input) (s : SState), goodS s →
    scanStringBody 39 s (body ++ [c]) = (true, [c]) →
    Quiet (projQ s) (keysOfRunes body) (.inq 39)
  | [], s, _, h => by
    cases s with
    | normal => exact .nil _
    | escDigits n b => exact .nil _
    | afterBackslash =>
      exfalso
      have h39 : (c.code == 39) = true := by simp [hc]
      simp [scanStringBody, h39] at h
  | a :: body, s, hs, h => by
    rw [List.cons_append, scanStringBody_cons] at h
    cases hk : strStep 39 s a with
    | inl b =>
      exfalso
      rw [hk] at h
      have := congrArg (fun p => p.2.length) h
      simp [strGo] at this
    | inr s' =>
      rw [hk] at h
      obtain ⟨hg, hp⟩ := strStep_sim s hs a s' hk
      exact .cons (projQ_ne_top s) (hp ▸ scanStr_sim c hc body s' hg h)

theorem neutral_str (body : Input) (h : strBodyOK body = true) :
    Neutral (39 :: keysOfRunes body ++ [39]) := by
  simp only [strBodyOK, Bool.and_eq_true, decide_eq_true_eq] at h
  have hb : Quiet (.inq 39) (keysOfRunes body) (.inq 39) := scanStr_sim (asciiRune 39) rfl body .normal trivial h.1
  exact Quiet.cons (q := .top) (r := 39) rfl (hb.append (.cons (q := .inq 39) (r := 39) rfl (.nil _)))

end Mkdb.Console
end

section
/-!
## A rendered token list is a well-formed console statement

Covered tokens none of which is a `;`, then one `;`, written by `renderText` with gaps of blanks only (none
before the first token, none behind the `;`) are, read as keys, a statement text as `C20_submit` wants it
(`Console.WFStmt`: `wfStmt_renderText`).  On the way: every rune written is the rune of an ASCII key, and a
written token other than `;` ends no statement for the console and leaves it outside quotes (`Neutral`).
-/
namespace Mkdb.Console
open Mkdb.Scan Mkdb.Generated

/-! ## Every written token consists of ASCII runes -/

theorem _root_.Mkdb.Scan.Written.ascii {cs : List Bool} {t : Token} {p : Piece} (h : Written cs t p) :
    ∀ r ∈ p.runes, r = asciiRune r.code := by
  have hb : ∀ bs : Bytes, ∀ r ∈ bs.map (fun b => asciiRune b.toNat), r = asciiRune r.code := by
    intro bs r hr; obtain ⟨d, _, rfl⟩ := List.mem_map.mp hr; rfl
  have hn : ∀ ds : List Nat, ∀ r ∈ ds.map asciiRune, r = asciiRune r.code := by
    intro bs r hr; obtain ⟨d, _, rfl⟩ := List.mem_map.mp hr; rfl
  cases h with
  | ident b rest => exact hb _
  | int b rest => simp only [Piece.runes, List.map_map]; exact hb _
  | str text =>
    intro r hr
    simp only [Piece.runes, List.mem_cons, List.mem_append, List.not_mem_nil, or_false] at hr
    rcases hr with (rfl | hr) | rfl
    · rfl
    · exact hb _ r hr
    · rfl
  | kw codes k text => exact hn _
  | punct c text => exact hn [c]
  | op2 c text => exact hn [c, 61]

theorem pieceOf_ascii (cs : List Bool) (t : Token) (h : TokOK t = true) :
    ∀ r ∈ (pieceOf cs t).runes, r = asciiRune r.code :=
  (pieceOf_written cs t h).ascii

/-! ## A written token is quote-neutral for the console -/

theorem identPart_key {c : Nat} (h : isIdentPart c = true) : plainKey c = true ∧ isSpace c = false := by
  simp only [isIdentPart, asciiLetter, isDecimal, Bool.or_eq_true, beq_iff_eq, Bool.and_eq_true, decide_eq_true_eq] at h
  simp only [plainKey, isSpace, Bool.not_eq_true', Bool.or_eq_false_iff, beq_eq_false_iff_ne, Bool.and_eq_false_iff,
    decide_eq_false_iff_not]
  omega

theorem plain_punct : ∀ c ∈ punctCodes, c ≠ 59 → plainKey c = true := by decide

theorem punct_not_space : ∀ c ∈ punctCodes, isSpace c = false := by decide

theorem word_keys {α} (f : α → Nat) (l : List α) (hne : l ≠ []) (hk : ∀ a ∈ l, isIdentPart (f a) = true) :
    (∃ c rest, keysOfRunes (l.map fun a => asciiRune (f a)) = c :: rest ∧ isSpace c = false) ∧
      Neutral (keysOfRunes (l.map fun a => asciiRune (f a))) := by
  rw [show keysOfRunes (l.map fun a => asciiRune (f a)) = l.map f by simp only [keysOfRunes, List.map_map]; rfl]
  cases l with
  | nil => exact absurd rfl hne
  | cons a l =>
    exact ⟨⟨_, _, rfl, (identPart_key (hk a List.mem_cons_self)).2⟩,
      .of_plain (List.forall_mem_map.mpr fun d hd => (identPart_key (hk d hd)).1)⟩

/-- Words, integers and the other punctuation are keys that are neither quote nor `;`; for a string literal
this is `neutral_str`. -/
theorem _root_.Mkdb.Scan.Written.console {cs : List Bool} {t : Token} {p : Piece} (h : Written cs t p) :
    (∃ c rest, keysOfRunes p.runes = c :: rest ∧ isSpace c = false) ∧
      (p ≠ .punct 59 → Neutral (keysOfRunes p.runes)) := by
  cases h with
  | ident b rest hb hrest hkw =>
    refine (word_keys UInt8.toNat (b :: rest) (List.cons_ne_nil _ _) (List.forall_mem_cons.mpr ⟨?_, hrest⟩)).imp_right
      fun h _ => h
    simp only [isIdentStart, isIdentPart, Bool.or_eq_true] at hb ⊢
    exact Or.inl hb
  | int b rest hb hrest =>
    have hd : ∀ x ∈ b :: rest, isDecimal x.toNat = true := List.forall_mem_cons.mpr ⟨hb, hrest⟩
    rw [Piece.runes, List.map_map]
    exact (word_keys UInt8.toNat (b :: rest) (List.cons_ne_nil _ _) fun x hx => by
      simp only [isIdentPart, hd x hx, Bool.or_true]).imp_right fun h _ => h
  | str text hb =>
    refine ⟨⟨39, keysOfRunes ((text.map fun b => asciiRune b.toNat) ++ [asciiRune 39]), rfl, by decide⟩, fun _ => ?_⟩
    have := neutral_str _ hb
    simpa [keysOfRunes, Piece.runes] using this
  | kw codes k text hk hw =>
    obtain ⟨hup, hlet⟩ := spell_word codes hw cs
    exact (word_keys id (spell cs codes) (fun e => (kwTable_shape _ hk).1 (by rw [← hup, e]; rfl))
      fun c hc => (asciiLetter_start c (hlet c hc)).2).imp_right fun h _ => h
  | punct c text hc =>
    have hc' := List.contains_iff_mem.mp hc
    refine ⟨⟨c, [], rfl, punct_not_space c hc'⟩, fun hne => .of_plain fun d hd => ?_⟩
    obtain rfl : d = c := List.mem_singleton.mp hd
    exact plain_punct d hc' fun e => hne (by rw [e])
  | op2 c text hc =>
    simp only [Bool.or_eq_true, beq_iff_eq] at hc
    rcases hc with (rfl | rfl) | rfl <;> exact ⟨⟨_, [61], rfl, by decide⟩, fun _ => .of_plain (by decide)⟩

/-! ## Tokens -/

theorem kwTable_semicolon : ∀ e ∈ kwTable, e.1 = [59] → e.2 = t_SEMICOLON := by decide

theorem _root_.Mkdb.Scan.Written.semicolon {cs : List Bool} {t : Token} (h : Written cs t (.punct 59)) : t.ty = t_SEMICOLON := by
  cases h
  exact kwTable_semicolon ([asciiUpper 59], punctTy 59) (keywordOf_mem _ _ (punct_facts 59 (by decide)).2.2.2.2.1) rfl

theorem pieceOf_K_semicolon (cs : List Bool) (b : Bytes) : pieceOf cs ⟨t_SEMICOLON, b⟩ = .punct 59 := by
  rfl

theorem neutral_tok (cs : List Bool) (t : Token) (hok : TokOK t = true) (hne : t.ty ≠ t_SEMICOLON) :
    Neutral (keysOfRunes (pieceOf cs t).runes) :=
  (pieceOf_written cs t hok).console.2 fun h => hne (Written.semicolon (h ▸ pieceOf_written cs t hok))

/-! ## Gaps of blanks -/

/-- a gap of blanks only (what can be typed at the console between two tokens: the space bar, or Enter,
which the console turns into a blank) -/
def blankGap (g : Gap) : Bool := g.all fun e => match e with | .ws c => c == 32 | _ => false

theorem blankGap_el {g : Gap} (h : blankGap g = true) : ∀ e ∈ g, e = .ws 32 := by
  intro e he
  have := List.all_eq_true.mp h e he
  cases e with
  | ws c => rw [show c = 32 by simpa using this]
  | block b => cases this
  | line b => cases this

theorem blankGap_runes {g : Gap} (h : blankGap g = true) : ∀ r ∈ Gap.runes g, r = asciiRune 32 := by
  intro r hr
  obtain ⟨e, he, hre⟩ := List.mem_flatMap.mp hr
  rw [blankGap_el h e he] at hre
  exact List.mem_singleton.mp hre

theorem blankGap_ok (g : Gap) (h : blankGap g = true) : Gap.ok g = true :=
  List.all_eq_true.mpr fun e he => by rw [blankGap_el h e he]; rfl

theorem blankGap_keys (g : Gap) (h : blankGap g = true) : Blank (keysOfRunes (Gap.runes g)) := by
  intro c hc
  obtain ⟨r, hr, rfl⟩ := List.mem_map.mp hc
  rw [blankGap_runes h r hr]; rfl

theorem blankGap_ascii (g : Gap) (h : blankGap g = true) : ∀ r ∈ Gap.runes g, r = asciiRune r.code :=
  fun r hr => by rw [blankGap_runes h r hr]; rfl

/-! ## The rendered text -/

theorem itemsOf_append (gap : Nat → Gap) (cs : Nat → List Bool) (A B : List Token) :
    ∀ i, itemsOf gap cs i (A ++ B) = itemsOf gap cs i A ++ itemsOf gap cs (i + A.length) B := by
  induction A with
  | nil => intro i; rfl
  | cons a A ih =>
    intro i
    simp only [List.cons_append, itemsOf, ih, List.length_cons]
    rw [show i + 1 + A.length = i + (A.length + 1) by omega]

theorem renderItems_append (X Y : List (Gap × Piece)) (tail : Gap) :
    renderItems (X ++ Y) tail = renderItems X [] ++ renderItems Y tail := by
  induction X with
  | nil => simp [renderItems, Gap.runes]
  | cons x X ih =>
    obtain ⟨g, p⟩ := x
    simp only [List.cons_append, renderItems, ih, List.append_assoc]

theorem renderItems_ascii (gap : Nat → Gap) (cs : Nat → List Bool) (hgap : ∀ i, blankGap (gap i) = true)
    (toks : List Token) (htoks : ∀ t ∈ toks, TokOK t = true) (tail : Gap) (htail : blankGap tail = true) :
    ∀ i, ∀ r ∈ renderItems (itemsOf gap cs i toks) tail, r = asciiRune r.code := by
  induction toks with
  | nil => intro i; exact blankGap_ascii tail htail
  | cons t ts ih =>
    intro i r hr
    simp only [itemsOf, renderItems, List.mem_append] at hr
    rcases hr with hr | hr | hr
    · exact blankGap_ascii _ (hgap i) r hr
    · exact pieceOf_ascii _ t (htoks t List.mem_cons_self) r hr
    · exact ih (fun t' ht' => htoks t' (List.mem_cons_of_mem _ ht')) (i + 1) r hr

theorem neutral_items (gap : Nat → Gap) (cs : Nat → List Bool) (hgap : ∀ i, blankGap (gap i) = true)
    (toks : List Token) (htoks : ∀ t ∈ toks, TokOK t = true ∧ t.ty ≠ t_SEMICOLON) :
    ∀ i, Neutral (keysOfRunes (renderItems (itemsOf gap cs i toks) [])) := by
  induction toks with
  | nil => intro i; exact Neutral.nil
  | cons t ts ih =>
    intro i
    simp only [itemsOf, renderItems, keysOfRunes_append]
    obtain ⟨h1, h2⟩ := htoks t List.mem_cons_self
    exact (Neutral.of_blank (blankGap_keys _ (hgap i))).append
      ((neutral_tok _ t h1 h2).append (ih (fun t' ht' => htoks t' (List.mem_cons_of_mem _ ht')) (i + 1)))

theorem wfStmt_renderText (gap : Nat → Gap) (cs : Nat → List Bool) (toks : List Token) (b : Bytes)
    (hgap : ∀ i, blankGap (gap i) = true) (hfirst : gap 0 = []) (hlast : gap (toks.length + 1) = [])
    (htoks : ∀ t ∈ toks, TokOK t = true ∧ t.ty ≠ t_SEMICOLON) :
    WFStmt (keysOfRunes (renderText gap cs (toks ++ [⟨t_SEMICOLON, b⟩]))) := by
  have hlen : (toks ++ [(⟨t_SEMICOLON, b⟩ : Token)]).length = toks.length + 1 := by simp
  have htext : keysOfRunes (renderText gap cs (toks ++ [⟨t_SEMICOLON, b⟩])) =
      (keysOfRunes (renderItems (itemsOf gap cs 0 toks) []) ++ keysOfRunes (Gap.runes (gap toks.length))) ++ [59] := by
    rw [renderText, hlen, hlast, itemsOf_append, renderItems_append]
    simp only [Nat.zero_add, itemsOf, pieceOf_K_semicolon, renderItems, Piece.runes, Gap.runes, List.flatMap_nil,
      List.append_nil, keysOfRunes_append, List.append_assoc]
    rfl
  have hbody := (neutral_items gap cs hgap toks htoks 0).append (Neutral.of_blank (blankGap_keys _ (hgap toks.length)))
  refine ⟨_, htext, hbody.1, hbody.2, ?_⟩
  rw [htext]
  cases toks with
  | nil =>
    intro c hc
    simp only [itemsOf, renderItems, Gap.runes, List.flatMap_nil, List.length_nil, hfirst] at hc
    simp only [keysOfRunes, List.map_nil, List.nil_append, List.head?_cons, Option.some.injEq] at hc
    subst hc; decide
  | cons t ts =>
    obtain ⟨h1, _⟩ := htoks t List.mem_cons_self
    obtain ⟨c0, rest, hp, hc0⟩ := (pieceOf_written (cs 0) t h1).console.1
    intro c hc
    simp only [itemsOf, renderItems, hfirst, Gap.runes, List.flatMap_nil, List.nil_append, keysOfRunes_append, hp,
      List.cons_append, List.head?_cons, Option.some.injEq] at hc
    subst hc; exact hc0

end Mkdb.Console
end
