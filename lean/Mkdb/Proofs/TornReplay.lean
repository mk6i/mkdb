import Mkdb.Proofs.CkptInvariant
import Mkdb.Proofs.KeepsDisk
import Mkdb.Proofs.ReplayCounter
import Mkdb.Proofs.TornStep
/-!
The replay of the whole (never truncated) log on a data file of mixed page versions.

`torn_replay`: induction over the log with `torn_step`.  `img c k`: the data file the replay starts
from; a store showing it holds the catalog for that mixture of versions (`cat_of_image`), because the
tree invariant only looks at offsets, links and key lists and the key list of a leaf other than the
last never changes.  A data file that holds, at every page offset of the catalog, the page of some moment is
such an image (`Hist.image_onDisk`; `mem_cat_fillT`: a page of a description is frozen or a leaf page of a
table).  The catalog invariant bounds every key by the row-id counter, and on a torn image
the pages are ahead of the header: the invariant is false of the store recovery starts from.  But
`replayAll` commutes with raising the row-id counter (`ReplayCounter`): `torn_image_replay` runs on the
store with the counter raised to its final value and is carried back at the end (`replayAll_of_raiseKey`).
-/
set_option autoImplicit false
namespace Mkdb.Store
open Mkdb.Page Mkdb.Tuple Mkdb.Generated Mkdb.Tree Mkdb.Engine

section
variable {pt sch : Levels} {D0 : List (Bytes × Levels)} {nf K : Nat} {log : List WalRec} {c : Nat → Pages}

/-- **The replay of the whole log over a data file of mixed page versions.**  `r0` holds the catalog
with, at each leaf offset `o`, the page as of moment `k o` of the history (clean).  After `i` records the
store holds the pages `mixAt c k ρ i`; no replay step fails.  (`ρ o`: a record was redone on the
page at `o`, which is then dirty; a page shows version `k o` until the replay reaches moment `k o`, and the
history's from then on: `mixAt`, TornStep.) -/
theorem torn_replay (H : Hist pt sch D0 nf K log c) (hself : PtSelf pt) (k : Nat → Nat)
    (hk : ∀ o, k o ≤ log.length) (r0 : Store)
    (hcat0 : Cat r0 pt sch (fillT (mixAt c k (fun _ => false) 0) D0)) (hnf0 : r0.hdr.nextFree = nf) :
    ∀ i, i ≤ log.length → ∃ r ρ, replayAll (log.take i) r0 = (r, none, false) ∧
      Cat r pt sch (fillT (mixAt c k ρ i) D0) ∧ r.hdr.nextFree = nf ∧ (∀ o, ρ o = true → k o ≤ i) ∧
      (∀ o, ρ o = false → k o ≤ i → (c i o).1 = (c (k o) o).1) := by
  intro i
  induction i with
  | zero =>
    intro _
    refine ⟨r0, fun _ => false, rfl, hcat0, hnf0, fun o h => (by cases h), ?_⟩
    intro o _ h0
    have : k o = 0 := by omega
    rw [this]
  | succ i ih =>
    intro hi
    obtain ⟨r, ρ, e, hc, hn, h1, h2⟩ := ih (by omega)
    obtain ⟨r', ρ', e', hc', hn', h1', h2'⟩ := torn_step H hself k hk ρ (i := i) (by omega) r hc hn h1 h2
    refine ⟨r', ρ', ?_, hc', hn', h1', h2'⟩
    rw [List.take_succ_eq_append_getElem (by omega), replayAll_append e, replayAll_cons_ok' e']
    rfl

theorem mixAt_end {k : Nat → Nat} (hk : ∀ o, k o ≤ log.length) (ρ : Nat → Bool) :
    mixAt c k ρ log.length = fun o => ((c log.length o).1, ρ o) := by
  funext o
  exact mixAt_cur (hk o)

/-! ### the data file the replay starts from -/

/-- the data file: the page at offset `o` as of moment `k o`, clean -/
def img (c : Nat → Pages) (k : Nat → Nat) : Pages := fun o => ((c (k o) o).1, false)

theorem mixAt_zero (k : Nat → Nat) : mixAt c k (fun _ => false) 0 = img c k := by
  funext o
  unfold mixAt img
  split
  · rfl
  · have : k o = 0 := by omega
    rw [this]

theorem skelL_eq_of {p q : Leaf × Bool} (h1 : hdr5 p.1 = hdr5 q.1) (h2 : keysOf p = keysOf q) : skelL p = skelL q := by
  unfold hdr5 at h1
  unfold keysOf at h2
  simp only [Prod.mk.injEq] at h1
  obtain ⟨a1, a2, a3, a4, a5⟩ := h1
  unfold skelL
  rw [a1, a2, a3, a4, a5, h2]

theorem Hist.img_filed (H : Hist pt sch D0 nf K log c) (k : Nat → Nat) (hk : ∀ o, k o ≤ log.length) :
    ∀ e ∈ D0, PFiled (img c k) e.2 := fun e he p hp => H.filed _ (hk _) e he p hp

theorem Hist.inv_img (H : Hist pt sch D0 nf K log c) (k : Nat → Nat) (hk : ∀ o, k o ≤ log.length)
    {table : Bytes} {t0 : Levels} (ht : (table, t0) ∈ D0) : Inv (fill (img c k) t0) nf := by
  rcases eq_nil_or_snoc t0.leaves with h0 | ⟨pre, p0, hl⟩
  · have : fill (img c k) t0 = fill (c 0) t0 := by
      apply fill_congr
      intro o ho
      unfold leafOffs at ho
      rw [h0] at ho
      cases ho
    rw [this]
    exact H.inv_at (Nat.zero_le _) ht
  · apply inv_fill_congr (H.inv_at (hk p0.1.off) ht)
    intro o ho
    obtain ⟨p, hp, rfl⟩ := List.mem_map.mp ho
    show skelL (c (k p.1.off) p.1.off) = skelL (c (k p0.1.off) p.1.off)
    apply skelL_eq_of
    · have e1 := (H.ev (Nat.zero_le (k p.1.off)) (hk _) p.1.off).hdr
      have e2 := (H.ev (Nat.zero_le (k p0.1.off)) (hk _) p.1.off).hdr
      rw [e1, e2]
    · rw [hl] at hp
      rcases List.mem_append.mp hp with hp | hp
      · exact H.keys_const (hk _) (hk _) ht hl hp
      · have : p = p0 := by simpa using hp
        rw [this]

theorem Hist.keys_img_le (H : Hist pt sch D0 nf K log c) (k : Nat → Nat) (hk : ∀ o, k o ≤ log.length)
    {table : Bytes} {t0 : Levels} (ht : (table, t0) ∈ D0) : ∀ a ∈ keys (fill (img c k) t0), a ≤ K := by
  intro a ha
  obtain ⟨x, hx, rfl⟩ := List.mem_map.mp ha
  obtain ⟨q, hq, hxq⟩ := List.mem_flatMap.mp hx
  obtain ⟨o, ho, rfl⟩ := mem_fill_leaves hq
  obtain ⟨s, hc, _, hK⟩ := H.snap (k o) (hk o)
  have hmem : x ∈ cells (fill (c (k o)) t0) :=
    leaf_cells_sub (l := (c (k o) o).1) (d := (c (k o) o).2) (fill_leaf_mem ho) x hxq
  have := (hc.tree _ (Cat.tb_mem (mem_fillT (c := c (k o)) ht))).2.2.2.2 x.key (List.mem_map.mpr ⟨x, hmem, rfl⟩)
  exact Nat.le_trans this hK

/-- A page of the description `fillT c D0` is frozen - a page of the description whatever fills the skeleton:
the catalog trees, the inner pages of the tables - or it is the leaf page `c o` of a table. -/
theorem mem_cat_fillT {c : Pages} {x : Levels} (hx : x ∈ catTrees pt sch (fillT c D0)) {e : Nat × Node × Bool}
    (he : e ∈ flatten x) :
    (∀ c' : Pages, ∃ x' ∈ catTrees pt sch (fillT c' D0), e ∈ flatten x') ∨
      ∃ e0 ∈ D0, ∃ o ∈ leafOffs e0.2, e = ((c o).1.off, Node.leaf (c o).1, (c o).2) := by
  rcases mem_catTrees.mp hx with rfl | rfl | ⟨e1, he1, rfl⟩
  · exact .inl fun _ => ⟨_, Cat.pt_mem, he⟩
  · exact .inl fun _ => ⟨_, Cat.sch_mem, he⟩
  · obtain ⟨e0, he0, rfl⟩ := mem_fillT_inv he1
    rcases mem_flatten_fill he with ⟨o, ho, rfl⟩ | ⟨lvl, hlv, p, hp, rfl⟩
    · exact .inr ⟨e0, he0, o, ho, rfl⟩
    · exact .inl fun _ => ⟨_, Cat.tb_mem (mem_fillT he0), flatten_fill_int hlv hp⟩

/-- `cB` has the page of `cA` wherever its page is clean: if every page of the description `fillT cA D0` is in
the data file, every clean page of `fillT cB D0` is -/
theorem OnDisk.synced_fillT {s s' : Store} {cA cB : Pages} (h : OnDisk s pt sch (fillT cA D0))
    (hd : s'.disk = s.disk) (hcl : ∀ o, (cB o).2 = false → (cB o).1 = (cA o).1) :
    Synced s' pt sch (fillT cB D0) := by
  intro x hx e he hdy
  rw [hd]
  rcases mem_cat_fillT hx he with hall | ⟨e0, he0, o, ho, rfl⟩
  · obtain ⟨xA, hxA, heA⟩ := hall cA
    exact (h xA hxA e heA).1
  · simp only at hdy ⊢
    rw [hcl o hdy]
    exact (h _ (Cat.tb_mem (mem_fillT (c := cA) he0)) _ (flatten_fill_leaf ho)).1

theorem cat_of_image (H : Hist pt sch D0 nf K log c) (k : Nat → Nat) (hk : ∀ o, k o ≤ log.length) (r : Store)
    (hH : ∀ x ∈ catTrees pt sch (fillT (img c k) D0), Holds r x)
    (hnf : r.hdr.nextFree = nf) (hpr : rootOff pt = r.hdr.ptRoot) (hK : K ≤ r.hdr.lastKey) :
    Cat r pt sch (fillT (img c k) D0) := by
  obtain ⟨s0, hc0, hn0, hk0⟩ := H.snap 0 (Nat.zero_le _)
  have hfi := H.img_filed k hk
  have hf0 := H.filed 0 (Nat.zero_le _)
  have hnm : (fillT (img c k) D0).map (·.1) = (fillT (c 0) D0).map (·.1) := by rw [fillT_names, fillT_names]
  refine { tree := ?_, disj := ?_, root := hpr, dec := hc0.dec, names := hc0.names, esch := hc0.esch,
           etb := ?_, only := hnm ▸ hc0.only, tnames := hnm ▸ hc0.tnames, tsys := hnm ▸ hc0.tsys, tlen := ?_ }
  · intro x hx
    rcases mem_catTrees.mp hx with rfl | rfl | ⟨e, he, rfl⟩
    · obtain ⟨_, b, c', d, e⟩ := hc0.tree x Cat.pt_mem
      exact ⟨hH _ hx, by rw [hnf, ← hn0]; exact b, c', d, fun a ha => Nat.le_trans (e a ha) (Nat.le_trans hk0 hK)⟩
    · obtain ⟨_, b, c', d, e⟩ := hc0.tree x Cat.sch_mem
      exact ⟨hH _ hx, by rw [hnf, ← hn0]; exact b, c', d, fun a ha => Nat.le_trans (e a ha) (Nat.le_trans hk0 hK)⟩
    · obtain ⟨e0, he0, rfl⟩ := mem_fillT_inv he
      obtain ⟨_, _, c', d, _⟩ := hc0.tree _ (Cat.tb_mem (mem_fillT (c := c 0) he0))
      refine ⟨hH _ hx, by rw [hnf]; exact H.inv_img k hk he0, c', ?_, ?_⟩
      · simp only [fill_leaves_length] at d ⊢
        exact d
      · intro a ha
        exact Nat.le_trans (H.keys_img_le k hk he0 a ha) hK
  · rw [catTrees_offs_fillT hfi, ← catTrees_offs_fillT hf0]
    exact hc0.disj
  · intro e he
    obtain ⟨e0, he0, rfl⟩ := mem_fillT_inv he
    have := hc0.etb _ (mem_fillT (c := c 0) he0)
    simp only [rootOff_fill (hf0 _ he0), rootOff_fill (hfi _ he0)] at this ⊢
    exact this
  · intro e he
    obtain ⟨e0, he0, rfl⟩ := mem_fillT_inv he
    exact hc0.tlen (e0.1, fill (c 0) e0.2) (mem_fillT (c := c 0) he0)

end

theorem holds_of_disk {r : Store} (hmem : r.mem = []) {x : Levels}
    (hd : ∀ e ∈ flatten x, assocGet r.disk e.1 = some e.2.1 ∧ e.2.2 = false) : Holds r x := by
  intro e he
  obtain ⟨h1, h2⟩ := hd e he
  unfold view
  rw [hmem]
  simp only [assocGet, List.find?_nil, Option.map_none]
  show (assocGet r.disk e.1).map (fun n => (n, false)) = _
  rw [h1, h2]
  rfl

section
variable {pt sch : Levels} {D0 : List (Bytes × Levels)} {nf K : Nat} {log : List WalRec} {c : Nat → Pages}

/-- **A record applied at the start of the history is applied for every mixture of later versions.** -/
theorem Hist.appliedC_img (H : Hist pt sch D0 nf K log c) (k : Nat → Nat) (hk : ∀ o, k o ≤ log.length) {r : WalRec}
    (ha : AppliedC pt sch (fillT (c 0) D0) r) : AppliedC pt sch (fillT (img c k) D0) r := by
  rcases ha with ⟨x, hx, e, he, hp, hl⟩ | ⟨hop, tb, tr, hm, hpg, hkey⟩
  · left
    rcases mem_cat_fillT hx he with hall | ⟨e0, he0, o, ho, rfl⟩
    · obtain ⟨x', hx', he'⟩ := hall (img c k)
      exact ⟨x', hx', e, he', hp, hl⟩
    · refine ⟨_, Cat.tb_mem (mem_fillT he0), _, flatten_fill_leaf (c := img c k) ho, ?_, ?_⟩
      · show (c (k o) o).1.off = r.page
        rw [← hp, H.step_off (Nat.zero_le _) he0 ho, H.step_off (hk o) he0 ho]
      · show r.lsn ≤ (c (k o) o).1.lsn
        exact Nat.le_trans hl (H.ev (Nat.zero_le (k o)) (hk o) o).lsn
  · right
    obtain ⟨e0, he0, heq⟩ := mem_fillT_inv hm
    simp only [Prod.mk.injEq] at heq
    obtain ⟨rfl, rfl⟩ := heq
    refine ⟨hop, e0.1, fill (img c k) e0.2, mem_fillT he0, ?_, ?_⟩
    · rw [hpg, rootOff_fill (H.filed 0 (Nat.zero_le _) _ he0), rootOff_fill (H.img_filed k hk _ he0)]
    · obtain ⟨x, hx, hxk⟩ := List.mem_map.mp hkey
      obtain ⟨q, hq, hxq⟩ := List.mem_flatMap.mp hx
      obtain ⟨o, ho, rfl⟩ := mem_fill_leaves hq
      have h1 : r.cell ∈ keysOf (c 0 o) := List.mem_map.mpr ⟨x, hxq, hxk⟩
      have h2 := (H.ev (Nat.zero_le (k o)) (hk o) o).keys _ h1
      exact keys_of_leaf_mem (p := img c k o) (fill_leaf_mem ho) h2

/-- **A data file made of pages of the history is an image of it.**  If at the offset of every page of the
catalog the data file holds the page that the description of some moment has there - a moment for each page -,
it is the image `img c k` for a choice `k` of these moments.  (The pages at the start are clean: the frozen
ones stay so.) -/
theorem Hist.image_onDisk (H : Hist pt sch D0 nf K log c) (r0 : Store)
    (himg : ∀ x ∈ catTrees pt sch (fillT (c 0) D0), ∀ e ∈ flatten x, e.2.2 = false ∧ ∃ j, j ≤ log.length ∧
      ∀ xj ∈ catTrees pt sch (fillT (c j) D0), ∀ ej ∈ flatten xj, ej.1 = e.1 →
        assocGet r0.disk ej.1 = some ej.2.1) :
    ∃ k : Nat → Nat, (∀ o, k o ≤ log.length) ∧ OnDisk (reopen r0) pt sch (fillT (img c k) D0) := by
  obtain ⟨k, hk⟩ : ∃ k : Nat → Nat, ∀ o, k o ≤ log.length ∧
      ∀ e0 ∈ D0, o ∈ leafOffs e0.2 → assocGet r0.disk o = some (Node.leaf (c (k o) o).1) := by
    refine Classical.axiomOfChoice (r := fun o j => j ≤ log.length ∧
      ∀ e0 ∈ D0, o ∈ leafOffs e0.2 → assocGet r0.disk o = some (Node.leaf (c j o).1)) fun o => ?_
    by_cases hp : ∃ e0 ∈ D0, o ∈ leafOffs e0.2
    · obtain ⟨e0, he0, ho⟩ := hp
      obtain ⟨_, j, hj, hpj⟩ := himg _ (Cat.tb_mem (mem_fillT (c := c 0) he0)) _ (flatten_fill_leaf ho)
      have := hpj _ (Cat.tb_mem (mem_fillT (c := c j) he0)) _ (flatten_fill_leaf ho)
        ((H.step_off hj he0 ho).trans (H.step_off (Nat.zero_le _) he0 ho).symm)
      simp only [H.step_off hj he0 ho] at this
      exact ⟨j, hj, fun _ _ _ => this⟩
    · exact ⟨0, Nat.zero_le _, fun e0 he0 ho => absurd ⟨e0, he0, ho⟩ hp⟩
  refine ⟨k, fun o => (hk o).1, fun x hx e he => ?_⟩
  show assocGet r0.disk e.1 = some e.2.1 ∧ e.2.2 = false
  rcases mem_cat_fillT hx he with hall | ⟨e0, he0, o, ho, rfl⟩
  · obtain ⟨x0, hx0, he0⟩ := hall (c 0)
    obtain ⟨hcl, j, _, hpj⟩ := himg x0 hx0 e he0
    obtain ⟨xj, hxj, hej⟩ := hall (c j)
    exact ⟨hpj xj hxj e hej rfl, hcl⟩
  · refine ⟨?_, rfl⟩
    show assocGet r0.disk (c (k o) o).1.off = some (Node.leaf (c (k o) o).1)
    rw [H.step_off (hk o).1 he0 ho]
    exact (hk o).2 e0 he0 ho

theorem torn_image_replay (H : Hist pt sch D0 nf K log c) (hself : PtSelf pt) (k : Nat → Nat)
    (hk : ∀ o, k o ≤ log.length) (old : List WalRec) (hold : ∀ r ∈ old, AppliedC pt sch (fillT (c 0) D0) r)
    (r0 : Store) (hmem : r0.mem = []) (hdisk : OnDisk r0 pt sch (fillT (img c k) D0))
    (hnf : r0.hdr.nextFree = nf) (hpr : rootOff pt = r0.hdr.ptRoot)
    (hK : K ≤ r0.hdr.lastKey ∨ ∃ r ∈ old ++ log, r.op = c_OpInsert ∧ r.cell = K) :
    ∃ (rN : Store) (ρ : Nat → Bool), replayAll (old ++ log) r0 = (rN, none, false) ∧
      Cat rN pt sch (fillT (fun o => ((c log.length o).1, ρ o)) D0) ∧ rN.hdr.nextFree = nf ∧
      (∀ o, ρ o = false → (c log.length o).1 = (c (k o) o).1) ∧
      rN.disk = r0.disk ∧ rN.dhdr = r0.dhdr ∧ MemFiled rN ∧
      (∀ r ∈ old ++ log, r.lsn ≤ rN.hdr.nextLSN) ∧
      (∀ r ∈ old ++ log, r.op = c_OpInsert → r.cell ≤ rN.hdr.lastKey) ∧ r0.hdr.lastKey ≤ rN.hdr.lastKey ∧
      r0.hdr.nextLSN ≤ rN.hdr.nextLSN := by
  -- the store with the row-id counter raised
  have hcat0 : Cat (raiseKey r0 K) pt sch (fillT (img c k) D0) :=
    cat_of_image H k hk (raiseKey r0 K) (fun x hx => holds_of_disk (r := raiseKey r0 K) hmem (hdisk x hx))
      hnf hpr (Nat.le_max_right _ _)
  -- the old records change nothing
  obtain ⟨r1, e1, _, hc1, hh1⟩ := replay_clean_gen old (raiseKey r0 K) pt sch _ hcat0
    (fun r hr => (H.appliedC_img k hk (hold r hr)).applied hcat0)
  -- the records of the history
  obtain ⟨rN', ρ, eN, hcN, hnN, _, hcl⟩ := torn_replay H hself k hk r1 (by rw [mixAt_zero]; exact hc1)
    (by rw [hh1]; exact hnf) log.length (Nat.le_refl _)
  rw [List.take_length] at eN
  rw [mixAt_end hk] at hcN
  -- back to the store recovery really starts from
  have eall : replayAll (old ++ log) r0 = (rN', none, false) :=
    replayAll_of_raiseKey (by rw [replayAll_append e1]; exact eN) hK
  obtain ⟨hkeys, hmono⟩ := replayAll_counter _ _ _ eall
  have hmf := replayAll_memFiled (old ++ log) r0 (by intro p hp; rw [hmem] at hp; cases hp)
  have hd := replayAll_disk (old ++ log) r0
  rw [eall] at hmf hd
  exact ⟨_, ρ, eall, hcN, hnN, fun o ho => hcl o ho (hk o), hd.1, hd.2.1, hmf, replayAll_lsn _ _ _ eall, hkeys, hmono,
    hd.2.2⟩

end

end Mkdb.Store
