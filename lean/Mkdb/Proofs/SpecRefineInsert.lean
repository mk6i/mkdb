import Mkdb.Proofs.ReplayMixedHistory
import Mkdb.Proofs.SpecRefineAbs
import Mkdb.Proofs.StmtInsert
import Mkdb.Proofs.StmtRows
/-!
# INSERT against the spec

Accepted: the rows the spec's `rowOf` accepts go through `Store.insert` one after the other, a live run
(`evalInsert_refines_specV`).  Refused: what `Store.insert` decides of a row before it touches the tree is a function,
`rowCheck`; a refusal at the first row changes nothing, a refusal at a later row leaves the rows before it applied
(`evalInsert_outcome`).
-/

section
/-!
## Accepted

One row the spec's `rowOf` accepts goes through the model's
`Store.insert`, and the abstraction afterwards is the spec database with that row, carrying the next row
id, appended to the table (`insert_step`).  Rows the spec accepts go through one after the other
(`insert_rows`, about `rowsM`: the loop of `evalInsert`), with the fuel / size side conditions along the run
as a recursive predicate over the successive trees (`InsRunOK`).  The spec gives a new row no id (`none`), so
the result agrees with the spec's up to row ids: the statement (`evalInsert_refines_specV`) is about `AbsV`.
-/
set_option autoImplicit false
namespace Mkdb.Store
open Mkdb.Page Mkdb.Tuple Mkdb.Generated Mkdb.Tree

/-! ### one valid row -/

theorem insert_step {s : Store} {pt sch : Levels} {tbls : List (Bytes × Levels)} {sdb : Spec.SDB}
    (h : Abs s pt sch tbls sdb) (table : Bytes) (t : Levels) (ht : (table, t) ∈ tbls)
    (schema : List FieldDef) (hsch : schemaOf sch table = some schema)
    (cols : List Bytes) (vals vs : List Val) (hvalid : ∀ v ∈ vals, ValidVal v)
    (hrow : Spec.rowOf (absTable table schema t) cols vals = some vs)
    (hnames : checkColumns schema (colsOf schema (cols.map Engine.bytesToName)) = none)
    (hside : ∀ buf t' nf',
      encodeTuple schema ((colsOf schema (cols.map Engine.bytesToName)).zip vals).reverse = .ok buf →
      insertAppend t (s.hdr.lastKey + 1) s.hdr.nextLSN buf s.hdr.nextFree = .ok (t', nf') →
      t'.inner.length + 2 ≤ treeFuel ∧ t'.leaves.length ≤ scanFuel ∧ (nf' : Int) ≤ 9223372036854775807) :
    ∃ s' ptF logs buf t' nf',
      insert table (cols.map Engine.bytesToName) vals s = .ok logs s' ∧
      encodeTuple schema ((colsOf schema (cols.map Engine.bytesToName)).zip vals).reverse = .ok buf ∧
      insertAppend t (s.hdr.lastKey + 1) s.hdr.nextLSN buf s.hdr.nextFree = .ok (t', nf') ∧
      Abs s' ptF sch (setTable tbls table t')
        (sdb.map (updRows table (fun r => r ++ [⟨some (s.hdr.lastKey + 1), vs⟩]))) ∧
      s'.hdr.lastKey = s.hdr.lastKey + 1 ∧ s'.hdr.nextFree = nf' ∧
      s'.hdr.nextLSN = (if rootOff t' = rootOff t then s.hdr.nextLSN + 1 else s.hdr.nextLSN + 2) := by
  obtain ⟨hlen, buf, henc, hsz, hvs⟩ := (specRowOf_some_iff _ cols vals vs).mp hrow
  change (colsOf schema (cols.map Engine.bytesToName)).length = vals.length at hlen
  change encodeTuple schema ((colsOf schema (cols.map Engine.bytesToName)).zip vals).reverse = .ok buf at henc
  change vs = schema.map fun fd => get ((colsOf schema (cols.map Engine.bytesToName)).zip vals).reverse fd.name at hvs
  obtain ⟨hHt, hIt, hdt, _, hkt⟩ := h.cat.tree t (Cat.tb_mem ht)
  obtain ⟨⟨t', nf'⟩, hins⟩ := insertAppend_fresh t s.hdr.nextFree (s.hdr.lastKey + 1) s.hdr.nextLSN buf hIt
    (fun a ha => Nat.lt_succ_of_le (hkt a ha)) hsz
  obtain ⟨hd', hl', hbig⟩ := hside buf t' nf' henc hins
  obtain ⟨s', ptF, logs, e, hc, hlk, hnf, hcase⟩ := insert_refines s pt sch tbls h.cat table t ht
    (cols.map Engine.bytesToName) vals schema buf hsch hlen hnames henc hsz t' nf' hins hd' hl' hbig
  refine ⟨s', ptF, logs, buf, t', nf', e, henc, hins, ⟨hc, ?_⟩, hlk, hnf, ?_⟩
  · -- the abstraction
    obtain ⟨hdec, _⟩ := h.find_mem ht hsch
    have hlive := insert_live t t' _ _ _ nf' buf hins
    obtain ⟨hdnew, hrnew⟩ := rowOf_new schema _
      (fun fd _ => get_zip_valid _ vals hvalid fd.name) buf henc (s.hdr.lastKey + 1) false
    apply h.tabs.setTable h.cat.tnames ht schema hsch t'
    · intro c hc
      rw [hlive] at hc
      rcases List.mem_append.mp hc with hc | hc
      · exact hdec c hc
      · simp only [List.mem_singleton] at hc
        subst hc
        exact hdnew
    · simp only [absTable, hlive, rowsOf, List.filterMap_append, List.filterMap_cons, List.filterMap_nil,
        hrnew, List.map_append, List.map_cons, List.map_nil, hvs]
  · rcases hcase with ⟨hr, _, hl, _⟩ | ⟨hr, hl, _⟩
    · simp only [hr, if_true, hl]
    · simp only [hr, if_false, hl]

/-! ### the whole statement -/

/-- The fuel / size side conditions along the run of an INSERT statement: whenever the levels insert
of the next (encoded) row under the next row id produces a tree, that tree is within the fuel of the
descents and scans and the allocation frontier is an `int64`; recursively for the rest of the rows. -/
def InsRunOK (schema : List FieldDef) (cols : List String) :
    Levels → Nat → Nat → Nat → List (List Val) → Prop
  | _, _, _, _, [] => True
  | t, lk, lsn, nf, r :: rest =>
    ∀ buf t' nf', encodeTuple schema ((colsOf schema cols).zip r).reverse = .ok buf →
      insertAppend t (lk + 1) lsn buf nf = .ok (t', nf') →
      t'.inner.length + 2 ≤ treeFuel ∧ t'.leaves.length ≤ scanFuel ∧ (nf' : Int) ≤ 9223372036854775807 ∧
      InsRunOK schema cols t' (lk + 1) (if rootOff t' = rootOff t then lsn + 1 else lsn + 2) nf' rest

/-- `InsRunOK` on given rows, computed: encoder and levels insert are functions, so the side conditions
of a concrete statement are a finite check -/
def insRunCheck (schema : List FieldDef) (cols : List String) :
    Levels → Nat → Nat → Nat → List (List Val) → Bool
  | _, _, _, _, [] => true
  | t, lk, lsn, nf, r :: rest =>
    match encodeTuple schema ((colsOf schema cols).zip r).reverse with
    | .error _ => true
    | .ok buf =>
      match insertAppend t (lk + 1) lsn buf nf with
      | .error _ => true
      | .ok (t', nf') =>
        decide (t'.inner.length + 2 ≤ treeFuel) && decide (t'.leaves.length ≤ scanFuel) &&
          decide ((nf' : Int) ≤ 9223372036854775807) &&
          insRunCheck schema cols t' (lk + 1) (if rootOff t' = rootOff t then lsn + 1 else lsn + 2) nf' rest

theorem InsRunOK.of_check (schema : List FieldDef) (cols : List String) :
    ∀ (rows : List (List Val)) (t : Levels) (lk lsn nf : Nat),
      insRunCheck schema cols t lk lsn nf rows = true → InsRunOK schema cols t lk lsn nf rows
  | [], _, _, _, _, _ => trivial
  | r :: rest, t, lk, lsn, nf, h => by
    intro buf t' nf' he hi
    simp only [insRunCheck, he, hi, Bool.and_eq_true, decide_eq_true_eq] at h
    exact ⟨h.1.1.1, h.1.1.2, h.1.2, InsRunOK.of_check schema cols rest _ _ _ _ h.2⟩

theorem InsRunOK.prefix (schema : List FieldDef) (cols : List String) (tail : List (List Val)) :
    ∀ (good : List (List Val)) (t : Levels) (lk lsn nf : Nat),
      InsRunOK schema cols t lk lsn nf (good ++ tail) → InsRunOK schema cols t lk lsn nf good
  | [], _, _, _, _, _ => trivial
  | r :: rest, t, lk, lsn, nf, h => by
    intro buf t' nf' he hi
    obtain ⟨a, b, c, d⟩ := h buf t' nf' he hi
    exact ⟨a, b, c, InsRunOK.prefix schema cols tail rest _ _ _ _ d⟩

/-- the rows of a spec table built from values and the row ids `k+1, k+2, …` -/
def idRows (k : Nat) : List (List Val) → List Spec.SRow
  | [] => []
  | v :: rest => ⟨some (k + 1), v⟩ :: idRows (k + 1) rest

theorem idRows_vals (k : Nat) (vs : List (List Val)) : (idRows k vs).map (·.vals) = vs := by
  induction vs generalizing k with
  | nil => rfl
  | cons v rest ih => simp only [idRows, List.map_cons, ih]

theorem map_vals_mk (l : List (List Val)) : (l.map fun v => (⟨none, v⟩ : Spec.SRow)).map (·.vals) = l := by
  induction l with
  | nil => rfl
  | cons a l ih => simp only [List.map_cons, List.cons.injEq, true_and]; exact ih

/-- the row ids the engine fills in do not show in the values -/
theorem valsOf_idRows (table : Bytes) (sdb : Spec.SDB) (k : Nat) (vs : List (List Val)) :
    valsOf (sdb.map (updRows table fun x => x ++ idRows k vs)) =
      valsOf (sdb.map (updRows table fun x => x ++ vs.map fun v => ⟨none, v⟩)) :=
  valsOf_updRows table _ _ sdb fun rs => by simp only [List.map_append, idRows_vals, map_vals_mk]

theorem idRows_ids (k : Nat) (vs : List (List Val)) :
    (idRows k vs).map (·.id) = (List.range' (k + 1) vs.length).map some := by
  induction vs generalizing k with
  | nil => rfl
  | cons v rest ih => simp only [idRows, List.map_cons, ih, List.length_cons, List.range'_succ]

/-- the row statements of a multi-row INSERT -/
def insStmts (table : Bytes) (cols : List Bytes) (rows : List (List Val)) : List RStmt :=
  rows.map fun r => .ins table (cols.map Engine.bytesToName) r

/-- The room conditions may speak of rows `tail` that follow the rows run: they hold of `tail` from the store
reached. -/
theorem insert_rows (table : Bytes) (cols : List Bytes) (sch : Levels)
    (schema : List FieldDef) (hsch : schemaOf sch table = some schema) (tail : List (List Val)) :
    ∀ (rows : List (List Val)) (newRows : List (List Val)) (s : Store) (pt : Levels)
      (tbls : List (Bytes × Levels)) (t : Levels) (sdb : Spec.SDB),
      Abs s pt sch tbls sdb → (table, t) ∈ tbls →
      (∀ r ∈ rows, ∀ v ∈ r, ValidVal v) →
      rows.mapM (Spec.rowOf ⟨table, schema, []⟩ cols) = some newRows →
      (rows = [] ∨ checkColumns schema (colsOf schema (cols.map Engine.bytesToName)) = none) →
      InsRunOK schema (cols.map Engine.bytesToName) t s.hdr.lastKey s.hdr.nextLSN s.hdr.nextFree (rows ++ tail) →
      ∃ s' ptF t' logs,
        rowsM (insert table (cols.map Engine.bytesToName)) rows s = .ok logs s' ∧
        LiveRunM sch s tbls (insStmts table cols rows) s' (setTable tbls table t') logs ∧
        Abs s' ptF sch (setTable tbls table t')
          (sdb.map (updRows table (fun r => r ++ idRows s.hdr.lastKey newRows))) ∧
        s'.hdr.lastKey = s.hdr.lastKey + rows.length ∧
        InsRunOK schema (cols.map Engine.bytesToName) t' s'.hdr.lastKey s'.hdr.nextLSN s'.hdr.nextFree tail := by
  intro rows
  induction rows with
  | nil =>
    intro newRows s pt tbls t sdb h ht _ hrows _ hrun
    obtain rfl := mapM_nil_some.mp hrows
    refine ⟨s, pt, t, [], rfl, ?_, ?_, rfl, hrun⟩
    · rw [setTable_self h.cat.tnames ht]
      exact .nil s tbls
    · rw [setTable_self h.cat.tnames ht, idRows, updRows_id]
      exact h
  | cons r rest ih =>
    intro newRows s pt tbls t sdb h ht hvalid hrows hnames hrun
    obtain ⟨vs, newRest, hr, hrest, rfl⟩ := mapM_cons_some.mp hrows
    have hnames' := hnames.resolve_left (List.cons_ne_nil r rest)
    obtain ⟨s1, ptF1, logs1, buf, t1, nf1, e1, henc, hins, habs1, hlk1, hnf1, hlsn1⟩ :=
      insert_step h table t ht schema hsch cols r vs (hvalid r List.mem_cons_self) hr hnames'
        (fun buf t' nf' he hi => by
          obtain ⟨a, b, c, _⟩ := hrun buf t' nf' he hi
          exact ⟨a, b, c⟩)
    obtain ⟨hd1, hl1, hbig1, hrun1⟩ := hrun buf t1 nf1 henc hins
    rw [← hlk1, ← hnf1, ← hlsn1] at hrun1
    -- what the live run records of the row: its column count and the size of its encoding
    obtain ⟨hlen0, buf0, henc0, hsz0, _⟩ := (specRowOf_some_iff _ cols r vs).mp hr
    obtain rfl : buf = buf0 := Except.ok.inj (henc.symm.trans henc0)
    obtain ⟨s', ptF, t', logs', ego, hlive, habs', hlk', hrun'⟩ := ih newRest s1 ptF1 (setTable tbls table t1) t1 _
      habs1 (mem_setTable_self t1 ht) (fun r' hr' => hvalid r' (List.mem_cons_of_mem _ hr')) hrest (.inr hnames') hrun1
    rw [setTable_setTable] at hlive habs'
    refine ⟨s', ptF, t', logs1 ++ logs', rowsM_cons_ok e1 ego, ?_, ?_, by rw [hlk', hlk1, List.length_cons]; omega,
      hrun'⟩
    · exact .ins table (cols.map Engine.bytesToName) r t schema buf t1 nf1 ht hsch hlen0 hnames' henc hsz0 hins hd1 hl1
        hbig1 e1 hlive
    · rw [updRows_updRows, hlk1] at habs'
      simpa only [idRows, List.append_assoc, List.singleton_append] using habs'

/-- **INSERT refines the spec.**  If the store abstracts to `sdb` up to row ids, the spec accepts the statement
(`specInsert … = some sdb'`: the table is known and every row is valid), the values are values a Go
program can hold, and the fuel / size side conditions hold along the run, then the model's
`evalInsert` succeeds with the row count, appends the records of all rows to the log - a live run of one-row
INSERTs -, and the store afterwards abstracts to `sdb'` up to row ids (the new rows carry the ids
`lastKey+1 …` where the spec says `none`: `insert_rows`). -/
theorem evalInsert_refines_specV (db : Engine.DB) (pt sch : Levels) (tbls : List (Bytes × Levels))
    (sdb sdb' : Spec.SDB) (h : AbsV db.store pt sch tbls sdb)
    (table : Bytes) (t : Levels) (ht : (table, t) ∈ tbls)
    (schema : List FieldDef) (hsch : schemaOf sch table = some schema)
    (cols : List Bytes) (rows : List (List Val)) (hvalid : ∀ r ∈ rows, ∀ v ∈ r, ValidVal v)
    (hspec : Spec.specInsert sdb table cols rows = some sdb')
    (hrun : InsRunOK schema (cols.map Engine.bytesToName) t db.store.hdr.lastKey db.store.hdr.nextLSN
      db.store.hdr.nextFree rows) :
    ∃ db' ptF t' logs,
      Engine.evalInsert db table cols rows = .ok rows.length db' ∧
      db'.wal = db.wal ++ logs ∧
      InsApplies table (cols.map Engine.bytesToName) rows db.store logs db'.store ∧
      LiveRunM sch db.store tbls (insStmts table cols rows) db'.store (setTable tbls table t') logs ∧
      AbsV db'.store ptF sch (setTable tbls table t') sdb' ∧
      db'.store.hdr.lastKey = db.store.hdr.lastKey + rows.length := by
  obtain ⟨sdb0, h, hv⟩ := h
  obtain ⟨sdb0', hspec0, hv'⟩ := specInsert_congr hv table cols rows hspec
  obtain ⟨_, hfind⟩ := h.find_mem ht hsch
  obtain ⟨st, newRows, hfind', hn, hm, rfl⟩ := specInsert_some_iff.mp hspec0
  obtain rfl : absTable table schema t = st := Option.some.inj (hfind.symm.trans hfind')
  obtain ⟨s', ptF, t', logs, e, hlive, habs, hlk, _⟩ := insert_rows table cols sch schema hsch [] rows newRows db.store pt
    tbls t sdb0 h ht hvalid hm
    (hn.imp_right (checkColumns_of_namesOK (absTable table schema t) cols (h.tabs.names_nodup ht hsch)))
    ((List.append_nil rows).symm ▸ hrun)
  refine ⟨_, ptF, t', logs, evalInsert_of_ok db table cols e, rfl, insApplies_iff.mpr e, hlive, ⟨_, habs, ?_⟩, hlk⟩
  rw [← hv']
  exact valsOf_idRows ..

end Mkdb.Store
end

section
/-!
## Refused

What `Store.insert` decides of one row before it touches the tree is a
function, `rowCheck` (number of values, column list, encoding, size); a row it refuses - every row the spec's
`rowOf` refuses, every row under a column list the spec refuses - is refused by `Store.insert` with the catalog
description unchanged (`insert_refused`; an oversized row burns a row id and an LSN - `btInsert` advances the
counters - nothing else).  If it is the first row, or the table is unknown, the statement fails with abstraction and log
unchanged; if it is a later row, the statement fails with the log unchanged and the rows before it STAY
applied (the known finding of the code; the spec says `none` = nothing changes).  `evalInsert_outcome` says
all of this at once: the rows up to the first one the spec refuses go through, then the statement succeeds or
fails at that row.
-/
set_option autoImplicit false
namespace Mkdb.Store
open Mkdb.Page Mkdb.Tuple Mkdb.Generated Mkdb.Tree

/-! ### the encoder's errors -/

theorem validate_err (fd : FieldDef) (v : Val) (e : TErr) (h : validate fd v = .error e) :
    e = .typeMismatch ∨ e = .intOutOfRange := by
  unfold validate at h
  split at h
  · split at h
    · simp only [Except.error.injEq] at h; exact .inr h.symm
    · cases h
  · cases h
  · cases h
  · cases h
  · simp only [Except.error.injEq] at h; exact .inl h.symm

theorem encField_err (fd : FieldDef) (v : Val) (e : TErr) (h : encField fd v = .error e) :
    e = .typeMismatch ∨ e = .intOutOfRange := by
  unfold encField at h
  split at h
  · cases h
  · split at h
    · rename_i e' he'
      simp only [Except.error.injEq] at h
      subst h
      exact validate_err _ _ _ he'
    · split at h
      · cases h
      · cases h
      · cases h
      · cases h
      · simp only [Except.error.injEq] at h; exact .inl h.symm

theorem encodeTuple_err (sch : List FieldDef) (m : Vals) (e : TErr) (h : encodeTuple sch m = .error e) :
    e = .typeMismatch ∨ e = .intOutOfRange := by
  induction sch with
  | nil => cases h
  | cons fd t ih =>
    simp only [encodeTuple] at h
    split at h
    · rename_i e' he'
      simp only [Except.error.injEq] at h
      subst h
      exact encField_err _ _ _ he'
    · split at h
      · rename_i e' he'
        simp only [Except.error.injEq] at h
        subst h
        exact ih he'
      · cases h

/-! ### one row: the check, and the refusal -/

/-- the errors with which `Store.insert` refuses a row -/
def RowRefusal (e : SErr) : Prop :=
  e = .colCountMismatch ∨ e = .typeMismatch ∨ e = .intOutOfRange ∨ e = .rowTooLarge ∨
    e = .fieldNotFound ∨ e = .fieldAmbiguous

/-- what `Store.insert` decides of one row before it touches the tree: the encoded row, or the error it
refuses the row with - the number of values, the column list, a value that does not encode, the size -/
def rowCheck (schema : List FieldDef) (cols : List String) (vals : List Val) : Except SErr Bytes :=
  if (colsOf schema cols).length != vals.length then .error .colCountMismatch else
  match checkColumns schema (colsOf schema cols) with
  | some e => .error e
  | none =>
    match encodeTuple schema ((colsOf schema cols).zip vals).reverse with
    | .error e => .error (serrOf e)
    | .ok buf => if buf.length > c_maxValueSize then .error .rowTooLarge else .ok buf

theorem rowCheck_kind {schema : List FieldDef} {cols : List String} {vals : List Val} {e : SErr}
    (h : rowCheck schema cols vals = .error e) : RowRefusal e := by
  unfold rowCheck at h
  split at h
  · cases h; exact .inl rfl
  split at h
  · rename_i ec hcc
    cases h
    rcases checkColumns_some hcc with rfl | rfl
    · exact .inr (.inr (.inr (.inr (.inl rfl))))
    · exact .inr (.inr (.inr (.inr (.inr rfl))))
  split at h
  · rename_i err henc
    cases h
    rcases encodeTuple_err _ _ _ henc with rfl | rfl
    · exact .inr (.inl rfl)
    · exact .inr (.inr (.inl rfl))
  · split at h
    · cases h; exact .inr (.inr (.inr (.inl rfl)))
    · cases h

/-- **A row the check refuses is refused by `Store.insert` with the error of the check, and nothing the engine
can see changes**: the catalog description, the pages, the allocation frontier stay; the row-id counter does
not go back (an oversized row burns one id, and an LSN: it is refused inside `btInsert`, after the counters
moved - every other refusal leaves the header alone). -/
theorem insert_refused {s : Store} {pt sch : Levels} {tbls : List (Bytes × Levels)}
    (h : Cat s pt sch tbls) (table : Bytes) (t : Levels) (ht : (table, t) ∈ tbls) (schema : List FieldDef)
    (hsch : schemaOf sch table = some schema) (cols : List String) (vals : List Val) {e : SErr}
    (hc : rowCheck schema cols vals = .error e) :
    ∃ s', insert table cols vals s = .err e s' ∧ Cat s' pt sch tbls ∧ view s' = view s ∧
      s'.hdr.nextFree = s.hdr.nextFree ∧ s.hdr.lastKey ≤ s'.hdr.lastKey ∧ (e ≠ .rowTooLarge → Same s s') := by
  obtain ⟨s3, hs3, hc3, hrun⟩ := insert_prefix h table t ht schema hsch cols vals
  have same : ∀ {e}, insert table cols vals s = .err e s3 → ∃ s', insert table cols vals s = .err e s' ∧
      Cat s' pt sch tbls ∧ view s' = view s ∧ s'.hdr.nextFree = s.hdr.nextFree ∧ s.hdr.lastKey ≤ s'.hdr.lastKey ∧
      (e ≠ .rowTooLarge → Same s s') := fun he =>
    ⟨s3, he, hc3, hs3.1, by rw [hs3.2], by rw [hs3.2]; exact Nat.le_refl _, fun _ => hs3⟩
  unfold rowCheck at hc
  split at hc
  · rename_i hb
    cases hc
    exact same (by rw [hrun]; simp only [hb, if_true]; rfl)
  rename_i hb
  split at hc
  · rename_i ec hcc
    cases hc
    exact same (by rw [hrun]; simp only [hb, Bool.false_eq_true, if_false, hcc]; rfl)
  rename_i hcc
  split at hc
  · rename_i err henc
    cases hc
    exact same (by rw [hrun]; simp only [hb, Bool.false_eq_true, if_false, hcc]; rw [bind_err (encodeRow_err henc s3)])
  rename_i buf henc
  split at hc
  · rename_i hsz
    cases hc
    -- a row over the size limit: `btInsert` refuses it and advances the counters
    obtain ⟨hHt3, hIt3, hdt3, _, hkt3⟩ := hc3.tree t (Cat.tb_mem ht)
    obtain ⟨s4, hbt, hview, hhdr⟩ := btInsert_tooLarge s3 t buf hHt3 hIt3 hdt3 hkt3 hsz
    refine ⟨s4, ?_, hc3.raise hview (by rw [hhdr]) (by rw [hhdr]) (by rw [hhdr]; exact Nat.le_succ _),
      by rw [hview, hs3.1], by rw [hhdr, hs3.2], by rw [hhdr, hs3.2]; exact Nat.le_succ _, fun hne => absurd rfl hne⟩
    rw [hrun]
    simp only [hb, Bool.false_eq_true, if_false, hcc]
    rw [bind_ok (encodeRow_ok henc s3), bind_err hbt]
  · cases hc

theorem rowCheck_ok {schema : List FieldDef} {cols : List String} {vals : List Val} {buf : Bytes}
    (h : rowCheck schema cols vals = .ok buf) :
    (colsOf schema cols).length = vals.length ∧ checkColumns schema (colsOf schema cols) = none ∧
      encodeTuple schema ((colsOf schema cols).zip vals).reverse = .ok buf ∧ buf.length ≤ c_maxValueSize := by
  unfold rowCheck at h
  split at h
  · cases h
  rename_i hb
  split at h
  · cases h
  rename_i hcc
  split at h
  · cases h
  rename_i b henc
  split at h
  · cases h
  rename_i hsz
  cases h
  exact ⟨by simpa using hb, hcc, henc, Nat.le_of_not_gt hsz⟩

theorem rowCheck_error_of {st : Spec.STable} {cols : List Bytes} {vals : List Val}
    (h : Spec.rowOf st cols vals = none ∨
      checkColumns st.cols (colsOf st.cols (cols.map Engine.bytesToName)) ≠ none) :
    ∃ e, rowCheck st.cols (cols.map Engine.bytesToName) vals = .error e := by
  cases hc : rowCheck st.cols (cols.map Engine.bytesToName) vals with
  | error e => exact ⟨e, rfl⟩
  | ok buf =>
    obtain ⟨hlen, hcc, henc, hsz⟩ := rowCheck_ok hc
    rcases h with h | h
    · exact nomatch h.symm.trans ((specRowOf_some_iff st cols vals _).mpr ⟨hlen, buf, henc, hsz, rfl⟩)
    · exact absurd hcc h

/-- the plain model refuses the row for its arity or for a value (type, integer range) - NOT for its size:
an oversized row is refused inside `btInsert`, after the row-id and LSN counters moved -/
def rowRefusedEarly (cs : List FieldDef) (cols : List Bytes) (vals : List Val) : Bool :=
  (if cols.isEmpty then cs.map (·.name) else cols.map Spec.nameStr).length != vals.length ||
    match encodeTuple cs ((if cols.isEmpty then cs.map (·.name) else cols.map Spec.nameStr).zip vals).reverse with
    | .error _ => true
    | .ok _ => false

theorem rowRefusedEarly_eq (schema : List FieldDef) (cols : List Bytes) (vals : List Val) :
    rowRefusedEarly schema cols vals =
      ((colsOf schema (cols.map Engine.bytesToName)).length != vals.length ||
        match encodeTuple schema ((colsOf schema (cols.map Engine.bytesToName)).zip vals).reverse with
        | .error _ => true
        | .ok _ => false) := by
  unfold rowRefusedEarly
  simp only [specCols_eq]

theorem rowOf_none_of_early {st : Spec.STable} {cols : List Bytes} {vals : List Val}
    (h : rowRefusedEarly st.cols cols vals = true) : Spec.rowOf st cols vals = none := by
  rw [rowRefusedEarly_eq, Bool.or_eq_true] at h
  rw [specRowOf_none_iff]
  rcases h with h | h
  · exact .inl (by simpa using h)
  · cases henc : encodeTuple st.cols ((colsOf st.cols (cols.map Engine.bytesToName)).zip vals).reverse with
    | error e => exact .inr (.inl ⟨e, rfl⟩)
    | ok b => rw [henc] at h; cases h

theorem rowCheck_not_size {schema : List FieldDef} {cols : List Bytes} {vals : List Val} {e : SErr}
    (h : rowRefusedEarly schema cols vals = true ∨
      checkColumns schema (colsOf schema (cols.map Engine.bytesToName)) ≠ none)
    (hc : rowCheck schema (cols.map Engine.bytesToName) vals = .error e) : e ≠ .rowTooLarge := by
  rintro rfl
  rw [rowRefusedEarly_eq] at h
  unfold rowCheck at hc
  split at hc
  · cases hc
  rename_i hb
  split at hc
  · rename_i ec hcc
    cases hc
    rcases checkColumns_some hcc with h0 | h0 <;> cases h0
  rename_i hcc
  split at hc
  · rename_i err henc
    rcases encodeTuple_err _ _ _ henc with rfl | rfl <;> cases hc
  rename_i buf henc
  rcases h with h | h
  · simp only [hb, henc, Bool.false_or] at h
    cases h
  · exact h hcc

/-! ### the statement -/

theorem specInsert_none_of_bad_row (sdb : Spec.SDB) (table : Bytes) (cols : List Bytes) (rows : List (List Val))
    (st : Spec.STable) (hfind : Spec.findTable sdb table = some st)
    (hbad : ∃ r ∈ rows, Spec.rowOf st cols r = none) : Spec.specInsert sdb table cols rows = none := by
  unfold Spec.specInsert
  rw [hfind]
  simp only [Option.bind_eq_bind, Option.bind_some]
  split
  · rfl
  · rw [mapM_none_of_mem hbad]
    rfl

theorem specInsert_none_of_bad_names (sdb : Spec.SDB) (table : Bytes) (cols : List Bytes)
    (r : List Val) (rest : List (List Val))
    (st : Spec.STable) (hfind : Spec.findTable sdb table = some st)
    (hbad : Spec.namesOK st (cols.map Spec.nameStr) = false) :
    Spec.specInsert sdb table cols (r :: rest) = none := by
  unfold Spec.specInsert
  rw [hfind]
  simp only [Option.bind_eq_bind, Option.bind_some, hbad, List.isEmpty_cons]
  rfl

/-- **INSERT, first row refused** (C14 at the level of the spec).  The spec refuses the statement
because the table is unknown, because `rowOf` refuses the FIRST row, or because the column list names a
column the table does not have or one column twice: the model's `evalInsert` fails with the store's
error, the log is untouched and the store abstracts to the same spec database (up to row ids, as before). -/
theorem evalInsert_refused_specV (db : Engine.DB) (pt sch : Levels) (tbls : List (Bytes × Levels))
    (sdb : Spec.SDB) (h : AbsV db.store pt sch tbls sdb) (table : Bytes) (cols : List Bytes)
    (r : List Val) (rest : List (List Val))
    (hbad : (Spec.findTable sdb table = none ∧ table ≠ sysPages ∧ table ≠ sysSchema) ∨
      ∃ st, Spec.findTable sdb table = some st ∧
        (Spec.rowOf st cols r = none ∨ Spec.namesOK st (cols.map Spec.nameStr) = false)) :
    Spec.specInsert sdb table cols (r :: rest) = none ∧
    ∃ e db', Engine.evalInsert db table cols (r :: rest) = .err (.store e) db' ∧
      (e = .tableNotExist ∨ RowRefusal e) ∧ db'.wal = db.wal ∧ AbsV db'.store pt sch tbls sdb := by
  rcases hbad with ⟨hnone, h1, h2⟩ | ⟨st, hfind, hrow⟩
  · obtain ⟨s', e, _, hc⟩ := insert_unknown_table db.store pt sch tbls h.cat table (cols.map Engine.bytesToName) r
      h1 h2 ((h.find_none_iff table).mp hnone)
    refine ⟨?_, .tableNotExist, { db with store := s' }, evalInsert_first_err db table cols rest e, .inl rfl, rfl,
      h.of_cat hc⟩
    unfold Spec.specInsert
    rw [hnone]
    rfl
  · obtain ⟨t, schema, ht, hsch, _, htv⟩ := h.find hfind
    obtain rfl : schema = st.cols := tv_cols htv
    obtain ⟨e, hce⟩ := rowCheck_error_of (hrow.imp_right checkColumns_of_not_namesOK)
    obtain ⟨s', he, hc', _⟩ := insert_refused h.cat table t ht st.cols hsch _ r hce
    exact ⟨hrow.elim (fun hr => specInsert_none_of_bad_row sdb table cols _ _ hfind ⟨r, List.mem_cons_self, hr⟩)
        (specInsert_none_of_bad_names sdb table cols r rest _ hfind),
      e, { db with store := s' }, evalInsert_first_err db table cols rest he, .inr (rowCheck_kind hce), rfl, h.of_cat hc'⟩

/-- **INSERT, a later row refused** (the known finding).  The rows `good` are accepted by the spec's
`rowOf`, the next row `bad` is not: the spec refuses the whole statement (nothing changes), but the
model's `evalInsert` fails only AFTER having applied the rows `good` to the store: the log is
untouched, the store abstracts to `sdb` WITH the rows of `good` appended to the table.  (The column
list is one the spec accepts, `hnames`: a bad column list is refused at the first row, before
anything is applied - `evalInsert_refused_specV`.) -/
theorem evalInsert_kth_refused_spec (db : Engine.DB) (pt sch : Levels) (tbls : List (Bytes × Levels))
    (sdb : Spec.SDB) (h : Abs db.store pt sch tbls sdb)
    (table : Bytes) (t : Levels) (ht : (table, t) ∈ tbls)
    (schema : List FieldDef) (hsch : schemaOf sch table = some schema)
    (cols : List Bytes) (good : List (List Val)) (bad : List Val) (rest : List (List Val))
    (goodRows : List (List Val)) (hvalid : ∀ r ∈ good, ∀ v ∈ r, ValidVal v)
    (hgood : good.mapM (Spec.rowOf (absTable table schema t) cols) = some goodRows)
    (hbad : Spec.rowOf (absTable table schema t) cols bad = none)
    (hnames : Spec.namesOK (absTable table schema t) (cols.map Spec.nameStr) = true)
    (hrun : InsRunOK schema (cols.map Engine.bytesToName) t db.store.hdr.lastKey db.store.hdr.nextLSN
      db.store.hdr.nextFree good) :
    Spec.specInsert sdb table cols (good ++ bad :: rest) = none ∧
    ∃ e db' ptF t', Engine.evalInsert db table cols (good ++ bad :: rest) = .err (.store e) db' ∧
      RowRefusal e ∧ db'.wal = db.wal ∧
      Abs db'.store ptF sch (setTable tbls table t')
        (sdb.map (updRows table (fun r => r ++ idRows db.store.hdr.lastKey goodRows))) := by
  obtain ⟨_, hfind⟩ := h.find_mem ht hsch
  refine ⟨specInsert_none_of_bad_row sdb table cols _ _ hfind ⟨bad, by simp, hbad⟩, ?_⟩
  obtain ⟨s1, ptF, t', logs, e1, _, habs, _⟩ := insert_rows table cols sch schema hsch [] good goodRows db.store pt tbls t
    sdb h ht hvalid hgood
    (.inr (checkColumns_of_namesOK (absTable table schema t) cols (h.tabs.names_nodup ht hsch) hnames))
    ((List.append_nil good).symm ▸ hrun)
  obtain ⟨e, hce⟩ := rowCheck_error_of (.inl hbad)
  obtain ⟨s', he, hc', _⟩ := insert_refused habs.cat table t' (mem_setTable_self t' ht) schema hsch _ bad hce
  exact ⟨e, _, ptF, t', evalInsert_of_err db table cols rest e1 he, rowCheck_kind hce, rfl, ⟨hc', habs.tabs⟩⟩

/-- **INSERT into a known table, whatever the rows and the column list.**  The rows up to the first one
the spec's `rowOf` refuses (`good`; none at all when the column list fails `checkColumns`) go through as a
live run, and the store abstracts to the spec database with their values appended; then either nothing is
left and the statement succeeds with the records of the run logged, or the next row is refused by the model
too and the statement fails, the log as it was, the rows `good` still applied. -/
theorem evalInsert_outcome (db : Engine.DB) (pt sch : Levels) (tbls : List (Bytes × Levels))
    (sdb : Spec.SDB) (h : Abs db.store pt sch tbls sdb) (table : Bytes) (t : Levels) (ht : (table, t) ∈ tbls)
    (schema : List FieldDef) (hsch : schemaOf sch table = some schema)
    (cols : List Bytes) (rows : List (List Val)) (hvalid : ∀ r ∈ rows, ∀ v ∈ r, ValidVal v)
    (hrun : InsRunOK schema (cols.map Engine.bytesToName) t db.store.hdr.lastKey db.store.hdr.nextLSN
      db.store.hdr.nextFree rows) :
    ∃ good tail goodRows s1 ptF t1 logs,
      rows = good ++ tail ∧ good.mapM (Spec.rowOf (absTable table schema t) cols) = some goodRows ∧
      rowsM (insert table (cols.map Engine.bytesToName)) good db.store = .ok logs s1 ∧
      LiveRunM sch db.store tbls (insStmts table cols good) s1 (setTable tbls table t1) logs ∧
      Abs s1 ptF sch (setTable tbls table t1)
        (sdb.map (updRows table (fun r => r ++ idRows db.store.hdr.lastKey goodRows))) ∧
      s1.hdr.lastKey = db.store.hdr.lastKey + good.length ∧
      ((tail = [] ∧
          Engine.evalInsert db table cols rows = .ok rows.length { store := s1, wal := db.wal ++ logs }) ∨
        ∃ bad rest e s2, tail = bad :: rest ∧
          (Spec.rowOf (absTable table schema t) cols bad = none ∨
            checkColumns schema (colsOf schema (cols.map Engine.bytesToName)) ≠ none) ∧
          insert table (cols.map Engine.bytesToName) bad s1 = .err e s2 ∧
          Engine.evalInsert db table cols rows = .err (.store e) { db with store := s2 } ∧ RowRefusal e ∧
          Abs s2 ptF sch (setTable tbls table t1)
            (sdb.map (updRows table (fun r => r ++ idRows db.store.hdr.lastKey goodRows))) ∧
          view s2 = view s1 ∧ s2.hdr.nextFree = s1.hdr.nextFree ∧ s1.hdr.lastKey ≤ s2.hdr.lastKey) := by
  -- cut at the first row `rowOf` refuses; at the first row when the column list is refused
  obtain ⟨good, tail, rfl, hgood, hcc, htail⟩ : ∃ good tail, rows = good ++ tail ∧
      (∀ r ∈ good, Spec.rowOf (absTable table schema t) cols r ≠ none) ∧
      (good = [] ∨ checkColumns schema (colsOf schema (cols.map Engine.bytesToName)) = none) ∧
      (tail = [] ∨ ∃ bad rest, tail = bad :: rest ∧ (Spec.rowOf (absTable table schema t) cols bad = none ∨
        checkColumns schema (colsOf schema (cols.map Engine.bytesToName)) ≠ none)) := by
    by_cases hcc : checkColumns schema (colsOf schema (cols.map Engine.bytesToName)) = none
    · obtain ⟨good, tail, e, hgood, htail⟩ := cut_first_none (Spec.rowOf (absTable table schema t) cols) rows
      exact ⟨good, tail, e, hgood, .inr hcc, htail.imp_right fun ⟨b, p, e, hb⟩ => ⟨b, p, e, .inl hb⟩⟩
    · refine ⟨[], rows, rfl, (fun _ hr => nomatch hr), .inl rfl, ?_⟩
      cases rows with
      | nil => exact .inl rfl
      | cons r rest => exact .inr ⟨r, rest, rfl, .inr hcc⟩
  obtain ⟨goodRows, hm⟩ := mapM_some_of_forall fun r hr => Option.ne_none_iff_exists'.mp (hgood r hr)
  obtain ⟨s1, ptF, t1, logs, e1, hlive, habs1, hlk1, _⟩ := insert_rows table cols sch schema hsch tail good goodRows
    db.store pt tbls t sdb h ht (fun r hr => hvalid r (List.mem_append_left _ hr)) hm hcc hrun
  refine ⟨good, tail, goodRows, s1, ptF, t1, logs, rfl, hm, e1, hlive, habs1, hlk1, ?_⟩
  rcases htail with rfl | ⟨bad, rest, rfl, hbad⟩
  · rw [List.append_nil]
    exact .inl ⟨rfl, evalInsert_of_ok db table cols e1⟩
  · obtain ⟨e, hce⟩ := rowCheck_error_of (st := absTable table schema t) hbad
    obtain ⟨s2, he, hc2, hv, hnf, hlk, _⟩ := insert_refused habs1.cat table t1 (mem_setTable_self t1 ht) schema hsch _ bad hce
    exact .inr ⟨bad, rest, e, s2, rfl, hbad, he, evalInsert_of_err db table cols rest e1 he, rowCheck_kind hce,
      ⟨hc2, habs1.tabs⟩, hv, hnf, hlk⟩

end Mkdb.Store
end
