import Mkdb.Model.BSearch
import Mkdb.Model.Store
/-!
The insertion-point function the heap model uses (`Mkdb.Store.findPos` = `spec`) characterised by
bounds, and the binary-search loop of `findCellOffsetByKey` (`Mkdb.BSearch.loop`) against it: from any
interval (`loop_eq_spec`, `loop_ret`) and from the whole array (`search_eq_findPos`, `search_hit_iff_mem`,
`search_miss_bounds`).  At the end `findPos` by its result: beyond every key, a hit is a member.
-/
set_option autoImplicit false
namespace Mkdb.BSearch

theorem takeWhile_length_spec {P : Nat → Bool} :
    ∀ (l : List Nat), (l.takeWhile P).length ≤ l.length ∧
      (∀ i (hi : i < l.length), i < (l.takeWhile P).length → P l[i] = true) ∧
      (∀ (hp : (l.takeWhile P).length < l.length), P l[(l.takeWhile P).length] = false)
  | [] => ⟨Nat.le_refl _, fun _ hi => absurd hi (Nat.not_lt_zero _), fun hp => absurd hp (Nat.lt_irrefl _)⟩
  | a :: t => by
    obtain ⟨ih1, ih2, ih3⟩ := takeWhile_length_spec (P := P) t
    cases ha : P a with
    | false =>
      rw [List.takeWhile_cons_of_neg (by simp [ha])]
      exact ⟨Nat.zero_le _, fun _ _ h => absurd h (Nat.not_lt_zero _), fun _ => ha⟩
    | true =>
      rw [List.takeWhile_cons_of_pos ha]
      refine ⟨Nat.succ_le_succ ih1, fun i hi hip => ?_, fun hp => ih3 (Nat.lt_of_succ_lt_succ hp)⟩
      cases i with
      | zero => exact ha
      | succ j => exact ih2 j (Nat.lt_of_succ_lt_succ hi) (Nat.lt_of_succ_lt_succ hip)

theorem takeWhile_length_eq {P : Nat → Bool} (l : List Nat) (p : Nat) (hp : p ≤ l.length)
    (h1 : ∀ i (hi : i < l.length), i < p → P l[i] = true)
    (h2 : ∀ (hp : p < l.length), P l[p] = false) : (l.takeWhile P).length = p := by
  obtain ⟨q0, q1, q2⟩ := takeWhile_length_spec (P := P) l
  rcases Nat.lt_trichotomy (l.takeWhile P).length p with h | h | h
  · have := q2 (Nat.lt_of_lt_of_le h hp)
    rw [h1 _ _ h] at this
    cases this
  · exact h
  · have := h2 (Nat.lt_of_lt_of_le h q0)
    rw [q1 _ _ h] at this
    cases this

theorem spec_bounds (keys : List Nat) (k : Nat) :
    (spec keys k).1 ≤ keys.length ∧ (∀ i (hi : i < keys.length), i < (spec keys k).1 → keys[i] < k) ∧
      (∀ hp : (spec keys k).1 < keys.length, k ≤ keys[(spec keys k).1]) := by
  obtain ⟨h1, h2, h3⟩ := takeWhile_length_spec (P := fun x => decide (x < k)) keys
  refine ⟨h1, fun i hi hip => by simpa using h2 i hi hip, fun hp => ?_⟩
  have := h3 hp
  simp only [decide_eq_false_iff_not, Nat.not_lt] at this
  exact this

theorem spec_of_bounds (keys : List Nat) (k p : Nat) (hp : p ≤ keys.length)
    (h1 : ∀ i (hi : i < keys.length), i < p → keys[i] < k)
    (h2 : ∀ (hp : p < keys.length), k ≤ keys[p]) :
    spec keys k = (p, keys[p]? == some k) := by
  have : (keys.takeWhile fun x => decide (x < k)).length = p := by
    apply takeWhile_length_eq keys p hp
    · intro i hi hip; simpa using h1 i hi hip
    · intro hp'; have := h2 hp'; simp; omega
  simp [spec, this]

theorem spec_hit (keys : List Nat) (k p : Nat) (hs : keys.Pairwise (· < ·)) (h : keys[p]? = some k) :
    spec keys k = (p, true) := by
  obtain ⟨hp, hv⟩ := List.getElem?_eq_some_iff.mp h
  rw [spec_of_bounds keys k p (Nat.le_of_lt hp)
    (fun i hi hip => hv ▸ List.pairwise_iff_getElem.mp hs i p hi hp hip) (fun _ => hv ▸ Nat.le_refl _),
    h, beq_self_eq_true]

theorem spec_miss (keys : List Nat) (k p : Nat) (hp : p ≤ keys.length)
    (h1 : ∀ i (hi : i < keys.length), i < p → keys[i] < k) (h2 : ∀ hp : p < keys.length, k < keys[p]) :
    spec keys k = (p, false) := by
  rw [spec_of_bounds keys k p hp h1 (fun hp => Nat.le_of_lt (h2 hp))]
  congr 1
  rcases Nat.lt_or_ge p keys.length with hp' | hp'
  · rw [List.getElem?_eq_getElem hp']
    exact beq_false_of_ne (fun h => Nat.ne_of_gt (h2 hp') (Option.some.inj h))
  · rw [List.getElem?_eq_none hp']; rfl

theorem loop_eq_spec (keys : List Nat) (k : Nat) (hs : keys.Pairwise (· < ·)) (low high : Int)
    (hlo : 0 ≤ low) (hhi : high < keys.length) (hle : low ≤ high + 1)
    (hL : ∀ i (hi : i < keys.length), (i : Int) < low → keys[i] < k)
    (hR : ∀ i (hi : i < keys.length), high < (i : Int) → k < keys[i]) :
    loop keys k low high = .ret (spec keys k).1 (spec keys k).2 := by
  have hsorted := List.pairwise_iff_getElem.mp hs
  fun_induction loop keys k low high with
  | case1 low high h mid hm => omega
  | case2 low high h mid hm hnone => rw [List.getElem?_eq_none_iff] at hnone; omega
  | case3 low high h mid hm hsome => rw [spec_hit keys k _ hs hsome]
  | case4 low high h mid hm v hv hne hlt ih =>
    obtain ⟨hmlt, rfl⟩ := List.getElem?_eq_some_iff.mp hv
    refine ih (by omega) hhi (by omega) (fun i hi hil => ?_) hR
    rcases Nat.lt_or_ge i mid.toNat with him | him
    · exact Nat.lt_trans (hsorted i _ hi hmlt him) hlt
    · have : i = mid.toNat := by omega
      subst this; exact hlt
  | case5 low high h mid hm v hv hne hlt ih =>
    obtain ⟨hmlt, rfl⟩ := List.getElem?_eq_some_iff.mp hv
    refine ih hlo (by omega) (by omega) hL (fun i hi hil => ?_)
    rcases Nat.lt_or_ge mid.toNat i with him | him
    · have := hsorted _ i hmlt hi him; omega
    · have : i = mid.toNat := by omega
      subst this; omega
  | case6 low high h hneg => omega
  | case7 low high h hneg =>
    rw [spec_miss keys k low.toNat (by omega) (fun i hi hil => hL i hi (by omega))
      (fun hp => hR _ hp (by omega))]

theorem loop_spec (keys : List Nat) (k : Nat) (hs : keys.Pairwise (· < ·)) :
    ∀ (n : Nat) (low high : Int), (high - low + 1).toNat = n → 0 ≤ low → high < keys.length →
      low ≤ high + 1 →
      (∀ i (hi : i < keys.length), (i : Int) < low → keys[i] < k) →
      (∀ i (hi : i < keys.length), high < (i : Int) → k < keys[i]) →
      loop keys k low high = .ret (spec keys k).1 (spec keys k).2 :=
  fun _ low high _ => loop_eq_spec keys k hs low high

/-- On ANY slot array (ascending or not, with duplicates or not) the loop ends, never indexes
outside the array, returns a position within `0..len`, and a hit is a real hit. -/
theorem loop_ret (keys : List Nat) (k : Nat) (low high : Int) (hlo : 0 ≤ low) (hhi : high < keys.length)
    (hle : low ≤ high + 1) :
    ∃ p f, loop keys k low high = .ret p f ∧ p ≤ keys.length ∧ (f = true → keys[p]? = some k) := by
  fun_induction loop keys k low high with
  | case1 low high h mid hm => omega
  | case2 low high h mid hm hnone => rw [List.getElem?_eq_none_iff] at hnone; omega
  | case3 low high h mid hm hsome => exact ⟨_, _, rfl, by omega, fun _ => hsome⟩
  | case4 low high h mid hm v hv hne hlt ih => exact ih (by omega) hhi (by omega)
  | case5 low high h mid hm v hv hne hlt ih => exact ih hlo (by omega) (by omega)
  | case6 low high h hneg => omega
  | case7 low high h hneg => exact ⟨_, _, rfl, by omega, fun h => nomatch h⟩

theorem loop_total (keys : List Nat) (k : Nat) :
    ∀ (n : Nat) (low high : Int), (high - low + 1).toNat = n → 0 ≤ low → high < keys.length →
      low ≤ high + 1 →
      ∃ p f, loop keys k low high = .ret p f ∧ p ≤ keys.length ∧ (f = true → keys[p]? = some k) :=
  fun _ low high _ => loop_ret keys k low high

theorem spec_eq_findPos (keys : List Nat) (k : Nat) : spec keys k = Mkdb.Store.findPos keys k := rfl

/-! ### the loop from the whole array: `search` -/

theorem search_eq_findPos (keys : List Nat) (k : Nat) (hs : keys.Pairwise (· < ·)) :
    search keys k = .ret (Mkdb.Store.findPos keys k).1 (Mkdb.Store.findPos keys k).2 := by
  rw [← spec_eq_findPos]
  exact loop_eq_spec keys k hs 0 _ (Int.le_refl 0) (by omega) (by omega)
    (fun i _ h => by omega) (fun i hi h => by omega)

theorem search_hit_iff_mem (keys : List Nat) (k : Nat) (hs : keys.Pairwise (· < ·)) :
    (∃ p, search keys k = .ret p true) ↔ k ∈ keys := by
  rw [search_eq_findPos keys k hs]
  constructor
  · rintro ⟨p, h⟩
    injection h with _ hf
    have : keys[(Mkdb.Store.findPos keys k).1]? = some k := by
      simpa [Mkdb.Store.findPos] using hf
    exact List.mem_of_getElem? this
  · intro hk
    obtain ⟨j, hj⟩ := List.getElem?_of_mem hk
    rw [← spec_eq_findPos, spec_hit keys k j hs hj]
    exact ⟨j, rfl⟩

theorem search_sorted_package (keys : List Nat) (k : Nat) (hs : keys.Pairwise (· < ·)) :
    search keys k = .ret (Mkdb.Store.findPos keys k).1 (Mkdb.Store.findPos keys k).2 ∧
    ((∃ p, search keys k = .ret p true) ↔ k ∈ keys) ∧ search keys k ≠ .panic := by
  refine ⟨search_eq_findPos keys k hs, search_hit_iff_mem keys k hs, ?_⟩
  rw [search_eq_findPos keys k hs]
  intro h; cases h

/-- on a miss the position returned is where the key belongs: everything before it is smaller, everything
from it on is larger -/
theorem search_miss_bounds (keys : List Nat) (k p : Nat)
    (hs : keys.Pairwise (· < ·)) (h : search keys k = .ret p false) :
    p ≤ keys.length ∧ (∀ i (hi : i < keys.length), i < p → keys[i] < k) ∧
      (∀ i (hi : i < keys.length), p ≤ i → k < keys[i]) := by
  rw [search_eq_findPos keys k hs] at h
  injection h with hp hf
  obtain ⟨hle, hbelow, hat⟩ := spec_bounds keys k
  rw [spec_eq_findPos, hp] at hle hbelow hat
  have hsorted := List.pairwise_iff_getElem.mp hs
  refine ⟨hle, hbelow, fun i hi hpi => ?_⟩
  have hp' : p < keys.length := by omega
  have hne : keys[p] ≠ k := by
    intro he
    simp only [Mkdb.Store.findPos] at hp hf
    rw [hp, List.getElem?_eq_getElem hp', he] at hf
    simp at hf
  have := hat hp'
  rcases Nat.eq_or_lt_of_le hpi with rfl | hlt
  · omega
  · have := hsorted p i hp' hi hlt
    omega

end Mkdb.BSearch

/-! ### `findPos` by its result -/
namespace Mkdb.Store

theorem findPos_beyond (keys : List Nat) (k : Nat) (h : ∀ x ∈ keys, x < k) :
    findPos keys k = (keys.length, false) :=
  BSearch.spec_miss keys k keys.length (Nat.le_refl _) (fun _ hi _ => h _ (List.getElem_mem hi))
    (fun hp => absurd hp (Nat.lt_irrefl _))

theorem findPos_found_mem (keys : List Nat) (k : Nat) (h : (findPos keys k).2 = true) : k ∈ keys := by
  unfold findPos at h
  simp only [beq_iff_eq] at h
  exact List.mem_of_getElem? h

theorem findPos_found_of_mem (keys : List Nat) (k : Nat) (hpw : keys.Pairwise (· < ·)) (hm : k ∈ keys) :
    (findPos keys k).2 = true := by
  obtain ⟨j, hj⟩ := List.getElem?_of_mem hm
  exact congrArg Prod.snd (BSearch.spec_hit keys k j hpw hj)

end Mkdb.Store
