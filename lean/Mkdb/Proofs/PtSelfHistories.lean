import Mkdb.Proofs.BaseCase
import Mkdb.Proofs.DbInv
/-!
`PtSelf` and `FreshM`, the side conditions of the crash-replay theorems, are invariants, not assumptions
about the starting point: CREATE TABLE keeps them (`DbInv.createTable_ckpt`), and the checkpoint invariant
`Ckpt`, which contains them, holds of every database reached from `CREATE DATABASE` by a history in which
rounds and accepted CREATE TABLEs alternate (`HistCT`, `histCT_from_create_database`).
-/

section
/-!
`CREATE DATABASE` writes ONE row about the page table into the page table: `(sys_pages, 4096)`, the
first page of the page table.  Nothing ever rewrites that row (the engine finds the page table through
the header, `hdr.ptRoot`).  While the page table is a single leaf the row names its root.  When that leaf
splits, the old root stays the leftmost LEAF of the page table, a new root is allocated, the header
follows - and the self-row is stale (`PtSelfRoot` fails).

What the replay needs (`entry_of_root`, `ReplayInsertRecord`: when a replayed INSERT moves the root of a
table, `repointPageTable` rewrites the FIRST row of the page table whose offset is the old root - that
must be the table's row) is only that the self-row does not name the root of a USER TABLE.  `PtSelf`
says "the self-row names a page of the page table"; since no page belongs to two trees (`Cat.disj`) that
is enough, and since pages never leave a tree it is kept by everything.
-/
set_option autoImplicit false
namespace Mkdb.Store
open Mkdb.Page Mkdb.Tuple Mkdb.Generated Mkdb.Tree Mkdb.Engine

/-- the self-row names the ROOT of the page table: true only while the page table is a single leaf, and
stronger than `PtSelf` -/
def PtSelfRoot (pt : Levels) : Prop := ∀ off, (sysPages, off) ∈ ptEntries pt → off = rootOff pt

theorem PtSelf.of_root {pt : Levels} {nf : Nat} (hI : Inv pt nf) (h : PtSelfRoot pt) : PtSelf pt := by
  intro off hm
  rw [h off hm]
  exact rootOff_mem_offs pt nf hI

theorem insertAppend_offs_old {t t' : Levels} {k lsn nf nf' : Nat} {v : Bytes} (hI : Inv t nf)
    (h : insertAppend t k lsn v nf = .ok (t', nf')) : ∀ o ∈ offs t, o ∈ offs t' := by
  intro o ho
  obtain ⟨e, he, rfl⟩ := List.mem_map.mp ho
  obtain ⟨e', he', hk, _⟩ := insertAppend_page_kept t t' k lsn nf nf' v hI h e he
  exact List.mem_map.mpr ⟨e', he', hk⟩

/-- the page table after the body of CREATE TABLE: `pt1` is `pt` with the row of the new table,
`pt'` is `pt1` after the re-pointings of the `sys_schema` row (the fields `ins`, `same`, `ent` of `Created`) -/
theorem PtSelf.createTable {pt pt1 pt' : Levels} {nf nf1 k lsn : Nat} {v : Bytes} {name : Bytes} {off r : Nat}
    (h : PtSelf pt) (hI : Inv pt nf) (hins : insertAppend pt k lsn v nf = .ok (pt1, nf1))
    (hsame : PtSame pt1 pt') (hn : name ≠ sysPages)
    (hent : ptEntries pt' = (ptEntries pt ++ [(name, off)]).map (Store.repoint sysSchema r)) : PtSelf pt' := by
  intro o hm
  rw [hent] at hm
  obtain ⟨e, he, hre⟩ := List.mem_map.mp hm
  unfold Store.repoint at hre
  split at hre
  · simp only [Prod.mk.injEq] at hre
    rw [sysPages_eq, sysSchema_eq] at hre
    exact absurd hre.1 (by decide)
  · subst hre
    rcases List.mem_append.mp he with he | he
    · rw [hsame.1]
      exact insertAppend_offs_old hI hins o (h o he)
    · simp only [List.mem_singleton, Prod.mk.injEq] at he
      exact absurd he.1.symm hn

theorem ptEntries_sys_kept {pt pt' : Levels} {name : Bytes} {off r o : Nat}
    (hent : ptEntries pt' = (ptEntries pt ++ [(name, off)]).map (repoint sysSchema r))
    (hm : (sysPages, o) ∈ ptEntries pt) : (sysPages, o) ∈ ptEntries pt' := by
  rw [hent]
  refine List.mem_map.mpr ⟨(sysPages, o), List.mem_append_left _ hm, ?_⟩
  unfold Store.repoint
  rw [if_neg]
  simp only
  rw [sysPages_eq, sysSchema_eq]
  decide

theorem FreshM.sub {s : Store} {tbls tbls2 : List (Bytes × Levels)} (hf : FreshM s tbls)
    (hsub : ∀ e ∈ tbls2, e ∈ tbls) : FreshM s tbls2 :=
  ⟨fun e he => hf.lsn e (hsub e he), hf.nf, fun e he => hf.pos e (hsub e he)⟩

/-- after the body of CREATE TABLE: the old tables are as old as before, the new table's only page
carries LSN 0 (and CREATE TABLE consumes at least one LSN, `hlsn`) and lies at the old allocation
frontier -/
theorem FreshM.createTable {s s' : Store} {tbls : List (Bytes × Levels)} (hf : FreshM s tbls) (name : Bytes)
    (hlsn : s.hdr.nextLSN < s'.hdr.nextLSN) (hnf : s.hdr.nextFree ≤ s'.hdr.nextFree) :
    FreshM s' (tbls ++ [(name, emptyTree s.hdr.nextFree)]) := by
  refine ⟨?_, Nat.lt_of_lt_of_le hf.nf hnf, ?_⟩
  · intro e he x hx
    rcases List.mem_append.mp he with he | he
    · exact Nat.lt_trans (hf.lsn e he x hx) hlsn
    · simp only [List.mem_singleton] at he
      subst he
      simp only [flatten, emptyTree, List.map_cons, List.map_nil, List.flatMap_nil, List.append_nil,
        List.mem_singleton] at hx
      subst hx
      show 0 < s'.hdr.nextLSN
      omega
  · intro e he o ho
    rcases List.mem_append.mp he with he | he
    · exact hf.pos e he o ho
    · simp only [List.mem_singleton] at he
      subst he
      simp only [offs, flatten, emptyTree, List.map_cons, List.map_nil, List.flatMap_nil, List.append_nil,
        List.mem_singleton] at ho
      subst ho
      exact hf.nf

theorem Created.ptSelf {s sN : Store} {pt sch pt1 ptN schN : Levels} {nf1 : Nat} {fields : List FieldDef}
    {name : Bytes} {tbls : List (Bytes × Levels)} (hc : Created s pt sch fields name sN pt1 nf1 ptN schN)
    (h : Cat s pt sch tbls) (hn1 : name ≠ sysPages) (hs : PtSelf pt) : PtSelf ptN :=
  hs.createTable (Inv_mono pt _ _ (h.tree pt Cat.pt_mem).2.1 (Nat.le_add_right _ _)) hc.ins hc.same hn1 hc.ent

theorem DbFlushed.ckpt {db : Engine.DB} {sdb : Spec.SDB} {pt sch : Levels} {tbls : List (Bytes × Levels)}
    (h : DbFlushed db sdb pt sch tbls) (hself : PtSelf pt) (hfr : FreshM db.store tbls) :
    Ckpt sch db sdb pt tbls :=
  ⟨h.inv.abs, hself, hfr, h.inv.filed, h.inv.log, h.inv.lsn, h.inv.keys, h.dhdr, h.disk⟩

/-- **An accepted CREATE TABLE on a database in use ends in a checkpoint**, whatever was dirty before it
(`CreateTable`, storage/relation.go: lockExclusive; createTable; flushPagesLocked - no log record, all dirty pages
and the header flushed): from `DbInv` (dirty pages allowed; every log record applied) with the side conditions
`PtSelf` and `FreshM` to `Ckpt` - in particular `PtSelf` and `FreshM` hold again, whether or not this CREATE TABLE
split the page table.  The conjuncts after `NoStale` are for histories of several CREATE TABLEs
(`Grown.create`): the new table list is the old one with one single-leaf tree more (up to `clean`); the
page table has one cell more, `sys_schema` one per column; the self-row is where it was; the allocation
frontier moved by a bounded amount (`262144` = 64 pages for each catalogue row inserted: an insert into a tree
whose depth is within `treeFuel` allocates at most one page per level, `insertAppend_growth`; the bound on every
store, fuel included, is the 66 pages of `CountersAdv`). -/
theorem DbInv.createTable_ckpt {db : Engine.DB} {sdb : Spec.SDB} {pt sch : Levels} {tbls : List (Bytes × Levels)}
    (hinv : DbInv db sdb pt sch tbls) (hself : PtSelf pt) (hfresh : FreshM db.store tbls)
    (name : Bytes) (cols : List Sql.ColDef) (order : List Nat)
    (hfind : Spec.findTable sdb name = none) (hn1 : name ≠ sysPages) (hn2 : name ≠ sysSchema)
    (hfld : checkFieldsFrom [] (cols.map Engine.colTypeToField) = none)
    (hchk : checkCatalogRows (cols.map Engine.colTypeToField) name = none)
    (hpd : pt.inner.length + 3 ≤ treeFuel) (hpl : pt.leaves.length + 1 ≤ scanFuel)
    (hsd : sch.inner.length + cols.length + 2 ≤ treeFuel) (hsl : sch.leaves.length + cols.length ≤ scanFuel)
    (hbig : db.store.hdr.nextFree + 262144 * cols.length + 262144 ≤ 9223372036854775807) :
    ∃ db' pt' sch' tbls', Engine.evalCreateTable db name cols order true = .ok () db' ∧ db'.wal = db.wal ∧
      Ckpt sch' db' (sdb ++ [⟨name, cols.map Spec.colField, []⟩]) pt' tbls' ∧ NoStale sch' tbls' ∧
      (∀ e ∈ tbls', e ∈ cleanT (tbls ++ [(name, emptyTree db.store.hdr.nextFree)])) ∧
      (cells pt').length = (cells pt).length + 1 ∧ (cells sch').length = (cells sch).length + cols.length ∧
      (∀ o, (sysPages, o) ∈ ptEntries pt → (sysPages, o) ∈ ptEntries pt') ∧
      db'.store.hdr.nextFree ≤ db.store.hdr.nextFree + 262144 * cols.length + 262144 := by
  obtain ⟨sN, s', pt1, nf1, ptN, schN, hcat, hc, hh, heval, hk⟩ := hinv.createTable_ok name cols order hfind hn1 hn2
    hfld hchk hpd hpl hsd hsl hbig
  have hlen : (cols.map Engine.colTypeToField).length = cols.length := List.length_map _
  refine ⟨_, _, _, _, heval, rfl, hk.ckpt (hc.ptSelf hcat hn1 hself).clean
    ((hfresh.createTable name hc.lsn_lt hc.nextFree_le).clean (by rw [hh]; exact Nat.le_refl _)
      (by rw [hh]; exact Nat.le_refl _)),
    hk.inv.nostale, fun _ h => h, ?_, ?_, ?_, ?_⟩
  · have hk1 : (cells ptN).length = (cells pt1).length := by
      have := congrArg List.length hc.same.2.2.2.2
      simp only [Tree.keys, List.length_map] at this
      exact this
    rw [cells_clean, hk1, cells_insertAppend pt pt1 _ _ _ nf1 _ hc.ins, List.length_append]
    rfl
  · rw [cells_clean, hc.cells, List.length_append]
    congr 1
    have : ∀ (fs : List FieldDef) (k : Nat), (schemaCells name fs k).length = fs.length := by
      intro fs
      induction fs with
      | nil => intro k; rfl
      | cons fd rest ih => intro k; simp only [schemaCells, List.length_cons, ih]
    rw [this, hlen]
  · intro o ho
    rw [ptEntries_clean]
    exact ptEntries_sys_kept hc.ent ho
  · show s'.hdr.nextFree ≤ _
    rw [hh, ← hlen]
    exact hc.nfHi

/-- the case of a checkpointed database: CREATE TABLE keeps the checkpoint invariant `Ckpt` (what CREATE DATABASE,
every flush and every recovery leave) -/
theorem Ckpt.createTable_ok {db : Engine.DB} {sdb : Spec.SDB} {pt sch : Levels} {tbls : List (Bytes × Levels)}
    (h : Ckpt sch db sdb pt tbls) (hns : NoStale sch tbls) (name : Bytes) (cols : List Sql.ColDef)
    (order : List Nat)
    (hfind : Spec.findTable sdb name = none) (hn1 : name ≠ sysPages) (hn2 : name ≠ sysSchema)
    (hfld : checkFieldsFrom [] (cols.map Engine.colTypeToField) = none)
    (hchk : checkCatalogRows (cols.map Engine.colTypeToField) name = none)
    (hpd : pt.inner.length + 3 ≤ treeFuel) (hpl : pt.leaves.length + 1 ≤ scanFuel)
    (hsd : sch.inner.length + cols.length + 2 ≤ treeFuel) (hsl : sch.leaves.length + cols.length ≤ scanFuel)
    (hbig : db.store.hdr.nextFree + 262144 * cols.length + 262144 ≤ 9223372036854775807) :
    ∃ db' pt' sch' tbls', Engine.evalCreateTable db name cols order true = .ok () db' ∧ db'.wal = db.wal ∧
      Ckpt sch' db' (sdb ++ [⟨name, cols.map Spec.colField, []⟩]) pt' tbls' ∧ NoStale sch' tbls' ∧
      (∀ e ∈ tbls', e ∈ cleanT (tbls ++ [(name, emptyTree db.store.hdr.nextFree)])) ∧
      (cells pt').length = (cells pt).length + 1 ∧ (cells sch').length = (cells sch).length + cols.length ∧
      (∀ o, (sysPages, o) ∈ ptEntries pt → (sysPages, o) ∈ ptEntries pt') ∧
      db'.store.hdr.nextFree ≤ db.store.hdr.nextFree + 262144 * cols.length + 262144 :=
  (h.dbFlushed hns).inv.createTable_ckpt h.self h.fresh name cols order hfind hn1 hn2 hfld hchk hpd hpl hsd hsl hbig

end Mkdb.Store
end

section
/-!
Histories with CREATE TABLE.  `Rounds` (`CkptRounds`) has no CREATE TABLE and keeps `sys_schema` fixed; in
`HistCT` rounds and accepted CREATE TABLEs alternate.  A round keeps `NoStale` because row statements keep
the table names; the fuel side conditions follow from cell counts (`tree_size`).
-/
set_option autoImplicit false
namespace Mkdb.Store
open Mkdb.Page Mkdb.Tuple Mkdb.Generated Mkdb.Tree Mkdb.Engine

theorem childOffs_length_ge (lvl : List (Internal × Bool)) (h : ∀ p ∈ lvl, 1 ≤ p.1.cells.length) :
    2 * lvl.length ≤ (childOffs lvl).length := by
  induction lvl with
  | nil => simp [childOffs]
  | cons p rest ih =>
    have h1 := h p List.mem_cons_self
    have h2 := ih (fun q hq => h q (List.mem_cons_of_mem _ hq))
    have e : childOffs (p :: rest) = (p.1.cells.map (·.child) ++ [p.1.right]) ++ childOffs rest := by
      simp [childOffs]
    rw [e]
    simp only [List.length_append, List.length_map, List.length_cons, List.length_nil]
    omega

theorem linked_depth : ∀ (lvls : List (List (Internal × Bool))) (below : List Nat), linked below lvls →
    (∀ lvl ∈ lvls, ∀ p ∈ lvl, 1 ≤ p.1.cells.length) → lvls.length + 1 ≤ below.length
  | [], below, h, _ => by
    simp only [linked] at h
    simp only [List.length_nil]
    omega
  | lvl :: rest, below, h, hc => by
    simp only [linked] at h
    have ih := linked_depth rest _ h.2 (fun l hl => hc l (List.mem_cons_of_mem _ hl))
    rw [List.length_map] at ih
    have h2 := childOffs_length_ge lvl (hc lvl List.mem_cons_self)
    rw [h.1] at h2
    simp only [List.length_cons]
    omega

theorem flatMap_cells_length (l : List (Leaf × Bool)) (h : ∀ p ∈ l, p.1.cells ≠ []) :
    l.length ≤ (l.flatMap (·.1.cells)).length := by
  induction l with
  | nil => simp
  | cons p rest ih =>
    have h1 : 1 ≤ p.1.cells.length := by
      have := h p List.mem_cons_self
      cases hc : p.1.cells with
      | nil => exact absurd hc this
      | cons a b => simp
    have h2 := ih (fun q hq => h q (List.mem_cons_of_mem _ hq))
    simp only [List.flatMap_cons, List.length_append, List.length_cons]
    omega

theorem tree_size {t : Levels} {nf : Nat} (hI : Inv t nf) :
    t.leaves.length ≤ (cells t).length + 1 ∧ t.inner.length + 1 ≤ t.leaves.length := by
  constructor
  · by_cases h2 : 2 ≤ t.leaves.length
    · have := flatMap_cells_length t.leaves (hI.ne h2)
      unfold cells
      omega
    · omega
  · have := linked_depth t.inner _ hI.link (fun lvl hl p hp => (hI.cap.2 lvl hl p hp).1)
    rw [List.length_map] at this
    exact this

theorem tree_fuel {t : Levels} {nf n : Nat} (hI : Inv t nf) (hc : (cells t).length ≤ n) :
    t.inner.length ≤ n ∧ t.leaves.length ≤ n + 1 := by
  obtain ⟨h1, h2⟩ := tree_size hI
  omega

/-- the side conditions of an INSERT statement hold when there is room for one level and one leaf per
row and for the pages -/
theorem insRunOK_of_room (schema : List FieldDef) (cols : List String) : ∀ (rows : List (List Val))
    (t : Levels) (lk lsn nf : Nat),
    t.inner.length + rows.length + 2 ≤ treeFuel → t.leaves.length + rows.length ≤ scanFuel →
    nf + 262144 * rows.length ≤ 9223372036854775807 → InsRunOK schema cols t lk lsn nf rows
  | [], _, _, _, _, _, _, _ => trivial
  | r :: rest, t, lk, lsn, nf, h1, h2, h3 => by
    intro buf t' nf' _ hi
    obtain ⟨g1, g2, g3⟩ := insertAppend_growth hi
    simp only [List.length_cons] at h1 h2 h3
    have h64 := treeFuel_eq
    refine ⟨by omega, by omega, by omega, ?_⟩
    exact insRunOK_of_room schema cols rest t' _ _ nf' (by omega) (by omega) (by omega)

theorem LiveRunM.names {sch : Levels} {s sN : Store} {tbls tblsN : List (Bytes × Levels)} {stmts : List RStmt}
    {logs : List WalRec} (run : LiveRunM sch s tbls stmts sN tblsN logs) :
    tblsN.map (·.1) = tbls.map (·.1) := by
  induction run with
  | nil s tbls => rfl
  | same _ _ ih => exact ih
  | ins table cols vals t schema buf t' nf' ht hsch hcols hnames henc hlen hins hd' hl' hbig hrun _ ih =>
    rw [ih, setTable_names]
  | upd table rowId cols src t schema c m buf ht hsch hc hk hdec henc hlen hrun _ ih =>
    rw [ih, setTable_names]
  | updAbsent table rowId cols src t schema ht hsch habs hrun _ ih => exact ih
  | del table rowId t c ht hc hk hrun _ ih =>
    rw [ih, setTable_names]

theorem NoStale.of_names {sch : Levels} {tbls tbls2 : List (Bytes × Levels)} (h : NoStale sch tbls)
    (hsub : ∀ n ∈ tbls.map (·.1), n ∈ tbls2.map (·.1)) : NoStale sch tbls2 :=
  fun n hn h1 h2 => h n (fun hm => hn (hsub n hm)) h1 h2

theorem specRun_noStale {sch : Levels} {db dbN : Engine.DB} {sdb sdbN : Spec.SDB} {stmts : List EStmt}
    (run : SpecRun sch db sdb stmts dbN sdbN) {pt : Levels} {tbls : List (Bytes × Levels)}
    (hA : AbsV db.store pt sch tbls sdb) (hns : NoStale sch tbls)
    {ptL : Levels} {tblsL : List (Bytes × Levels)} (hL : AbsV dbN.store ptL sch tblsL sdbN) :
    NoStale sch tblsL := by
  obtain ⟨ptN, tblsN, _, _, hrun, _, hAN⟩ := spec_run_live sch run pt tbls hA
  obtain ⟨_, habsN, _⟩ := hAN
  obtain ⟨_, habsL, _⟩ := hL
  apply hns.of_names
  intro n hn
  rw [← hrun.names] at hn
  obtain ⟨e, he, rfl⟩ := List.mem_map.mp hn
  exact List.mem_map.mpr ⟨e, habsN.cat.tbls_sub habsL.cat e he, rfl⟩

theorem rounds_ckpt_noStale {sch : Levels} {db db' : Engine.DB} {sdb sdb' : Spec.SDB}
    (hist : Rounds sch db sdb db' sdb') {pt : Levels} {tbls : List (Bytes × Levels)}
    (h : Ckpt sch db sdb pt tbls) (hns : NoStale sch tbls) :
    ∃ pt' tbls', Ckpt sch db' sdb' pt' tbls' ∧ NoStale sch tbls' := by
  induction hist with
  | nil => exact ⟨pt, tbls, h, hns⟩
  | flush _ run hfl ih =>
    obtain ⟨_, _, h1, hns1⟩ := ih
    obtain ⟨_, hcs, _⟩ := h1.disk.clean_eq
    obtain ⟨_, _, _, hAL, hk, _⟩ := h1.flush_step run hfl
    exact ⟨_, _, hk, hcs ▸ (specRun_noStale run h1.abs hns1 hAL).clean⟩
  | crash _ run hrec ih =>
    obtain ⟨_, _, h1, hns1⟩ := ih
    obtain ⟨_, hcs, _⟩ := h1.disk.clean_eq
    obtain ⟨_, _, _, hAL, hk, _⟩ := h1.recover_step run hrec
    exact ⟨_, _, hk, hcs ▸ (specRun_noStale run h1.abs hns1 hAL).clean⟩

/-- the room an accepted CREATE TABLE needs, for whatever catalog description the store has -/
def CreateRoom (db : Engine.DB) (sch : Levels) (cols : List Sql.ColDef) : Prop :=
  ∀ pt tbls, Cat db.store pt sch tbls →
    pt.inner.length + 3 ≤ treeFuel ∧ pt.leaves.length + 1 ≤ scanFuel ∧
    sch.inner.length + cols.length + 2 ≤ treeFuel ∧ sch.leaves.length + cols.length ≤ scanFuel ∧
    db.store.hdr.nextFree + 262144 * cols.length + 262144 ≤ 9223372036854775807

/-- **A history of rounds and CREATE TABLEs** from `db0` (`sys_schema` tree `sch0`, plain database
`sdb0`): `rounds` is any number of rounds `statements ; flush` / `statements ; crash ; recovery`
(`Rounds`); `create` is a CREATE TABLE the plain model accepts (fresh name that is not a catalog table,
the per-column and catalog-row checks pass, room), run by the engine; `sch2` is the `sys_schema` tree of
the store it leaves. -/
inductive HistCT (sch0 : Levels) (db0 : Engine.DB) (sdb0 : Spec.SDB) : Levels → Engine.DB → Spec.SDB → Prop
  | nil : HistCT sch0 db0 sdb0 sch0 db0 sdb0
  | rounds {sch1 : Levels} {db1 db2 : Engine.DB} {sdb1 sdb2 : Spec.SDB}
      (hist : HistCT sch0 db0 sdb0 sch1 db1 sdb1) (hr : Rounds sch1 db1 sdb1 db2 sdb2) :
      HistCT sch0 db0 sdb0 sch1 db2 sdb2
  | create {sch1 sch2 : Levels} {db1 db2 : Engine.DB} {sdb1 : Spec.SDB}
      (hist : HistCT sch0 db0 sdb0 sch1 db1 sdb1) (name : Bytes) (cols : List Sql.ColDef) (order : List Nat)
      (hfind : Spec.findTable sdb1 name = none) (hn1 : name ≠ sysPages) (hn2 : name ≠ sysSchema)
      (hfld : checkFieldsFrom [] (cols.map Engine.colTypeToField) = none)
      (hchk : checkCatalogRows (cols.map Engine.colTypeToField) name = none)
      (hroom : CreateRoom db1 sch1 cols)
      (heval : evalStmt db1 order (.createTable name cols) = .ok () db2)
      {pt2 : Levels} {tbls2 : List (Bytes × Levels)} (hsch : Cat db2.store pt2 sch2 tbls2) :
      HistCT sch0 db0 sdb0 sch2 db2 (sdb1 ++ [⟨name, cols.map Spec.colField, []⟩])

/-- `Ckpt` contains `PtSelf` and `FreshM`: the side conditions of the crash-replay theorems
(`C02_crash_after_a_checkpoint`, `C03_*`) hold at every point of the history, however many tables were
created, whether or not the page table has split. -/
theorem histCT_ckpt {sch0 sch : Levels} {db0 db : Engine.DB} {sdb0 sdb : Spec.SDB}
    (hist : HistCT sch0 db0 sdb0 sch db sdb) {pt0 : Levels} {tbls0 : List (Bytes × Levels)}
    (h : Ckpt sch0 db0 sdb0 pt0 tbls0) (hns : NoStale sch0 tbls0) :
    ∃ pt tbls, Ckpt sch db sdb pt tbls ∧ NoStale sch tbls := by
  induction hist with
  | nil => exact ⟨pt0, tbls0, h, hns⟩
  | rounds _ hr ih =>
    obtain ⟨pt1, tbls1, h1, hns1⟩ := ih
    exact rounds_ckpt_noStale hr h1 hns1
  | create _ name cols order hfind hn1 hn2 hfld hchk hroom heval hsch ih =>
    obtain ⟨pt1, tbls1, h1, hns1⟩ := ih
    obtain ⟨_, habs1, _⟩ := h1.abs
    obtain ⟨r1, r2, r3, r4, r5⟩ := hroom pt1 tbls1 habs1.cat
    obtain ⟨db', pt', sch', tbls', e, _, hk, hns', _⟩ := h1.createTable_ok hns1 name cols order hfind hn1 hn2 hfld
      hchk r1 r2 r3 r4 r5
    have e2 : evalStmt _ order (.createTable name cols) = .ok () db' := e
    rw [heval] at e2
    simp only [Engine.Res.ok.injEq, true_and] at e2
    subst e2
    obtain ⟨_, habs', _⟩ := hk.abs
    have es : sch' = _ := habs'.cat.sch_unique hsch
    subst es
    exact ⟨pt', tbls', hk, hns'⟩

theorem histCT_from_create_database {sch : Levels} {db : Engine.DB} {sdb : Spec.SDB}
    (hist : HistCT schNew newDB [] sch db sdb) :
    ∃ pt tbls, Ckpt sch db sdb pt tbls ∧ NoStale sch tbls ∧ PtSelf pt ∧ FreshM db.store tbls := by
  obtain ⟨pt, tbls, hk, hns⟩ := histCT_ckpt hist ckpt_newDB noStale_new
  exact ⟨pt, tbls, hk, hns, hk.self, hk.fresh⟩

theorem histCT_recover {sch : Levels} {db dbN : Engine.DB} {sdb sdbN : Spec.SDB} {stmts : List EStmt}
    (hist : HistCT schNew newDB [] sch db sdb) (run : SpecRun sch db sdb stmts dbN sdbN) (o1 o2 : List Nat) :
    ∃ db2, Engine.recover dbN o1 o2 = .ok db2 ∧ HistCT schNew newDB [] sch db2 sdbN ∧
      ∃ pt2 tbls2, AbsV db2.store pt2 sch tbls2 sdbN ∧ ∀ r ∈ db2.wal, Applied tbls2 db2.store r := by
  obtain ⟨pt, tbls, hk, _⟩ := histCT_ckpt hist ckpt_newDB noStale_new
  obtain ⟨db2, e, hr, h2⟩ := rounds_recover hk .nil run o1 o2
  exact ⟨db2, e, .rounds hist hr, h2⟩

end Mkdb.Store
end
