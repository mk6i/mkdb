import Mkdb.Proofs.TornRecover
import Mkdb.Proofs.BaseCaseTable
/-!
The hypotheses of the torn-flush theorems hold on stores the model computes: one table, one dirty page,
the flush torn at any point (`torn_example`); two tables, two dirty pages, the flush torn between them in
either order (`torn_example2`); a data file with pages of three moments, which no single torn flush
leaves (`image_example`).
-/
set_option autoImplicit false
namespace Mkdb.Store
open Mkdb.Page Mkdb.Tuple Mkdb.Generated Mkdb.Tree Mkdb.Engine

/-- the two statements of the example run on `tableDB` succeed and allocate no page (kernel evaluation of
the model) -/
theorem torn_example_eval :
    okThen (Engine.evalInsert tableDB tname [] [[.int 5], [.int 6]]) (fun _ d1 =>
      okThen (Engine.evalUpdate d1 tname [([97], .lit (.int 7))] (some (condEq 5))) fun _ d2 =>
        d2.store.hdr.nextFree == 16384 && d2.wal.length == 3) = true := by decide +kernel

/-- **Non-vacuity of `Ckpt.torn_flush_round`.**  From the computed `tableDB`
(`CREATE DATABASE; CREATE TABLE t (a INT)`): `INSERT INTO t VALUES (5), (6)`; `UPDATE t SET a = 7 WHERE a = 5`
(three log records, one dirty page, no allocation).  Whatever the point at which the flush is torn, recovery
succeeds and ends checkpointed for the plain database with the rows `(7)`, `(6)`. -/
theorem torn_example : ∃ db2,
    SpecRun schT tableDB sdbA0
      [.insert tname [] [[.int 5], [.int 6]], .update tname [([97], .lit (.int 7))] (some (condEq 5))] db2 sdbA2 ∧
    db2.store.hdr.nextFree = tableDB.store.hdr.nextFree ∧ db2.wal.length = 3 ∧
    ∀ order j, ∃ dbR tblsR, Engine.recover { store := tornFlush db2.store order j, wal := db2.wal } [] [] = .ok dbR ∧
      dbR.wal = db2.wal ∧ Ckpt schT dbR sdbA2 (clean ptT) (cleanT tblsR) := by
  obtain ⟨_, db1, e1, hev⟩ := okThen_elim torn_example_eval
  obtain ⟨_, db2, e2, hev⟩ := okThen_elim hev
  simp only [Bool.and_eq_true, beq_iff_eq] at hev
  have run : SpecRun schT tableDB sdbA0
      [.insert tname [] [[.int 5], [.int 6]], .update tname [([97], .lit (.int 7))] (some (condEq 5))] db2 sdbA2 :=
    .insert tname [] [[.int 5], [.int 6]] rows56_valid specA1
      (insRunOK_any cat_tableDB (List.mem_singleton.mpr rfl) schT_t runT)
      e1 (.update tname [([97], .lit (.int 7))] (some (condEq 5)) set7_valid specA2 e2 (.nil db2 sdbA2))
  refine ⟨db2, run, hev.1, hev.2, fun order j => ?_⟩
  obtain ⟨dbR, tblsR, e, hw, _, hk, _⟩ := ckpt_tableDB.torn_flush_round run hev.1 order j [] []
  exact ⟨dbR, tblsR, e, hw, hk⟩

/-- **Non-vacuity of `Hist` / `torn_image_replay`**: the run of `torn_example` is a history of three
page-local steps over the skeleton of `tableDB`'s one user table. -/
theorem torn_hist_example : ∃ (db2 : Engine.DB) (logs : List WalRec) (c : Nat → Pages),
    Hist ptT schT [(tname, tT)] tableDB.store.hdr.nextFree db2.store.hdr.lastKey logs c ∧ logs.length = 3 ∧
    db2.wal = logs := by
  obtain ⟨db2, run, hnf, hlen, _⟩ := torn_example
  obtain ⟨_, _, _, logs, hrun, hw, _⟩ := ckpt_tableDB.run_facts run
  obtain ⟨_, habs0, _⟩ := ckpt_tableDB.abs
  obtain ⟨c, H, _⟩ := live_run_hist schT hrun ptT habs0.cat ckpt_tableDB.fresh hnf
  have hw' : db2.wal = logs := by rw [hw]; rfl
  exact ⟨db2, logs, c, H, by rw [← hw']; exact hlen, hw'⟩

/-! ### the store after the second CREATE TABLE -/

def bcolsI : List Sql.ColDef := [⟨[98], .int⟩]
def schemaB : List FieldDef := [⟨"b", .int, 0⟩]

/-- the page table: row 11 names `u`, root 16384 -/
def ptLeafU : Leaf := ⟨4096, 10, false, false, 0, 0,
  ptLeafT.cells ++ [⟨11, false, [0, 1, 0, 0, 0, 117, 0, 0, 64, 0, 0, 0, 0, 0, 0]⟩]⟩

/-- `sys_schema`: row 12 is the column `b INT` of `u` -/
def schLeafU : Leaf := ⟨8192, 11, false, false, 0, 0,
  schLeafT.cells ++ [⟨12, false, [0, 1, 0, 0, 0, 117, 0, 1, 0, 0, 0, 98, 0, 0, 0, 0, 0, 0, 0, 0, 0, 0]⟩]⟩

def uLeafU : Leaf := ⟨16384, 0, false, false, 0, 0, []⟩

def hdrU : Header := { lastKey := 12, ptRoot := 4096, nextFree := 20480, nextLSN := 12 }

def tableStore2 : Store :=
  { hdr := hdrU,
    mem := [(4096, ⟨.leaf ptLeafU, false⟩), (12288, ⟨.leaf tLeafT, false⟩), (8192, ⟨.leaf schLeafU, false⟩),
            (16384, ⟨.leaf uLeafU, false⟩)],
    disk := [(4096, .leaf ptLeafU), (8192, .leaf schLeafU), (12288, .leaf tLeafT), (16384, .leaf uLeafU)],
    dhdr := hdrU, ghost := 0 }

/-- **The database `CREATE DATABASE ; CREATE TABLE t (a INT) ; CREATE TABLE u (b INT)` leaves** -/
def tableDB2 : Engine.DB := { store := tableStore2, wal := [] }

theorem create_table2_eq : evalStmt tableDB [] (.createTable uname bcolsI) = .ok () tableDB2 := by decide +kernel

/-! ### the invariants -/

def ptU : Levels := ⟨[(ptLeafU, false)], []⟩
def schU : Levels := ⟨[(schLeafU, false)], []⟩
def uT : Levels := ⟨[(uLeafU, false)], []⟩

theorem schU_t : schemaOf schU tname = some schemaA := by decide +kernel
theorem schU_u : schemaOf schU uname = some schemaB := by decide +kernel

def sdbU0 : Spec.SDB := [⟨tname, schemaA, []⟩, ⟨uname, schemaB, []⟩]

theorem tableDB2_checked : Abs tableDB2.store ptU schU [(tname, tT), (uname, uT)] sdbU0 ∧ PtSelf ptU ∧
    FreshM tableDB2.store [(tname, tT), (uname, uT)] ∧ MemFiled tableDB2.store ∧
    tableDB2.store.dhdr = tableDB2.store.hdr ∧ OnDisk tableDB2.store ptU schU [(tname, tT), (uname, uT)] := by
  decide +kernel

theorem cat_tableDB2 : Cat tableDB2.store ptU schU [(tname, tT), (uname, uT)] := tableDB2_checked.1.cat

theorem ckpt_tableDB2 : Ckpt schU tableDB2 sdbU0 ptU [(tname, tT), (uname, uT)] :=
  .of_empty_log rfl tableDB2_checked

def sdbU1 : Spec.SDB := [⟨tname, schemaA, [⟨none, [.int 5]⟩]⟩, ⟨uname, schemaB, []⟩]
def sdbU2 : Spec.SDB := [⟨tname, schemaA, [⟨none, [.int 5]⟩]⟩, ⟨uname, schemaB, [⟨none, [.int 8]⟩]⟩]

theorem specU1 : Spec.specInsert sdbU0 tname [] [[.int 5]] = some sdbU1 := rfl
theorem specU2 : Spec.specInsert sdbU1 uname [] [[.int 8]] = some sdbU2 := rfl

theorem valid5 : ∀ r ∈ [[Val.int 5]], ∀ v ∈ r, ValidVal v := by decide
theorem valid8 : ∀ r ∈ [[Val.int 8]], ∀ v ∈ r, ValidVal v := by decide

theorem runU1 : InsRunOK schemaA ([].map Engine.bytesToName) tT 12 12 20480 [[.int 5]] :=
  InsRunOK.of_check _ _ _ _ _ _ _ (by decide +kernel)

theorem runU2 : InsRunOK schemaB ([].map Engine.bytesToName) uT 13 13 20480 [[.int 8]] :=
  InsRunOK.of_check _ _ _ _ _ _ _ (by decide +kernel)

def sdbU3 : Spec.SDB := [⟨tname, schemaA, [⟨none, [.int 7]⟩]⟩, ⟨uname, schemaB, [⟨none, [.int 8]⟩]⟩]

theorem specU3 : Spec.specUpdate sdbU2 tname [([97], .lit (.int 7))] (some (condEq 5)) = some sdbU3 := by
  decide +kernel

theorem exampleU_eval :
    okThen (Engine.evalInsert tableDB2 tname [] [[.int 5]]) (fun _ d1 =>
      okThen (Engine.evalInsert d1 uname [] [[.int 8]]) fun _ d2 =>
        okThen (Engine.evalUpdate d2 tname [([97], .lit (.int 7))] (some (condEq 5))) fun _ d3 =>
          decide (d1.store.hdr = { lastKey := 13, ptRoot := 4096, nextFree := 20480, nextLSN := 13 }) &&
          d2.store.hdr.nextFree == 20480 && d2.wal.length == 2 &&
          ((d2.store.mem.filter fun p => p.2.dirty).map (·.1)) == [12288, 16384] &&
          d3.store.hdr.nextFree == 20480 && d3.wal.length == 3 &&
          (view d1.store 12288).isSome && (view d3.store 16384).isSome) = true := by decide +kernel

/-- **The run of the two-table examples**: `INSERT INTO t VALUES (5)` (`db1`); `INSERT INTO u VALUES (8)` (`db2`);
`UPDATE t SET a = 7 WHERE a = 5` (`db3`) from `tableDB2`: no allocation; after the second statement two log
records and the two dirty pages 12288 (leaf of `t`) and 16384 (leaf of `u`); after the third three records. -/
theorem exampleU_run : ∃ db1 db2 db3,
    SpecRun schU tableDB2 sdbU0 [.insert tname [] [[.int 5]]] db1 sdbU1 ∧
    SpecRun schU db1 sdbU1 [.insert uname [] [[.int 8]]] db2 sdbU2 ∧
    SpecRun schU db2 sdbU2 [.update tname [([97], .lit (.int 7))] (some (condEq 5))] db3 sdbU3 ∧
    (db1.store.hdr.nextFree = 20480 ∧ db2.store.hdr.nextFree = 20480 ∧ db3.store.hdr.nextFree = 20480) ∧
    (db2.wal.length = 2 ∧ (db2.store.mem.filter fun p => p.2.dirty).map (·.1) = [12288, 16384]) ∧
    db3.wal.length = 3 ∧ (view db1.store 12288).isSome = true ∧ (view db3.store 16384).isSome = true := by
  have hmemT : (tname, tT) ∈ [(tname, tT), (uname, uT)] := List.mem_cons_self
  have hmemU : (uname, uT) ∈ [(tname, tT), (uname, uT)] := List.mem_cons_of_mem _ List.mem_cons_self
  -- the description of `db1`, for the table `u` of the second statement
  obtain ⟨db1, ptF1, t1', _, e1, _, _, _, hA1, _⟩ := evalInsert_refines_specV tableDB2 ptU schU _ sdbU0
    sdbU1 ckpt_tableDB2.abs tname tT hmemT schemaA schU_t [] [[.int 5]] valid5 specU1 runU1
  have hmemU' : (uname, uT) ∈ setTable [(tname, tT), (uname, uT)] tname t1' := mem_setTable_of_ne hmemU (by decide)
  obtain ⟨_, d1, e1', hev⟩ := okThen_elim exampleU_eval
  rw [e1] at e1'
  cases e1'
  obtain ⟨_, db2, e2, hev⟩ := okThen_elim hev
  obtain ⟨_, db3, e3, hev⟩ := okThen_elim hev
  simp only [Bool.and_eq_true, beq_iff_eq, decide_eq_true_eq] at hev
  obtain ⟨⟨⟨⟨⟨⟨⟨hh1, hn2⟩, hlen2⟩, hdirty⟩, hn3⟩, hlen3⟩, hs1⟩, hs3⟩ := hev
  refine ⟨db1, db2, db3, ?_, ?_, ?_, ⟨by rw [hh1], hn2, hn3⟩, ⟨hlen2, hdirty⟩, hlen3, hs1, hs3⟩
  · exact .insert tname [] [[.int 5]] valid5 specU1
      (insRunOK_any cat_tableDB2 hmemT schU_t runU1) e1 (.nil db1 sdbU1)
  · exact .insert uname [] [[.int 8]] valid8 specU2
      (insRunOK_any hA1.cat hmemU' schU_u (by rw [hh1]; exact runU2)) e2 (.nil db2 sdbU2)
  · exact .update tname [([97], .lit (.int 7))] (some (condEq 5)) set7_valid specU3 e3 (.nil db3 sdbU3)

/-- **Non-vacuity of `Ckpt.torn_flush_round` with a flush torn between two dirty pages.** -/
theorem torn_example2 : ∃ db2,
    SpecRun schU tableDB2 sdbU0 [.insert tname [] [[.int 5]], .insert uname [] [[.int 8]]] db2 sdbU2 ∧
    db2.store.hdr.nextFree = tableDB2.store.hdr.nextFree ∧ db2.wal.length = 2 ∧
    (db2.store.mem.filter fun p => p.2.dirty).map (·.1) = [12288, 16384] ∧
    ∀ order j, ∃ dbR tblsR, Engine.recover { store := tornFlush db2.store order j, wal := db2.wal } [] [] = .ok dbR ∧
      dbR.wal = db2.wal ∧ Ckpt schU dbR sdbU2 (clean ptU) (cleanT tblsR) := by
  obtain ⟨db1, db2, _, run1, run2, _, ⟨_, hn2, _⟩, ⟨hlen, hdirty⟩, _⟩ := exampleU_run
  have run : SpecRun schU tableDB2 sdbU0 [.insert tname [] [[.int 5]], .insert uname [] [[.int 8]]] db2 sdbU2 :=
    run1.append run2
  refine ⟨db2, run, hn2, hlen, hdirty, fun order j => ?_⟩
  obtain ⟨dbR, tblsR, e, hw, _, hk, _⟩ := ckpt_tableDB2.torn_flush_round run hn2 order j [] []
  exact ⟨dbR, tblsR, e, hw, hk⟩

def shownAt (db : Engine.DB) (o : Nat) : Node := ((view db.store o).map (·.1)).getD zeroPage

/-- the data file of the example: catalog of the checkpoint, leaf of `t` as of `db1`, leaf of `u` as of `db3` -/
def mixedImage (db1 db3 : Engine.DB) : Store :=
  { hdr := {}, mem := [],
    disk := [(4096, .leaf ptLeafU), (8192, .leaf schLeafU), (12288, shownAt db1 12288), (16384, shownAt db3 16384)],
    dhdr := hdrU, ghost := 0 }

/-- **Non-vacuity of `Ckpt.image_round`**, pages of three moments. -/
theorem image_example : ∃ db1 db2 db3,
    SpecRunsNA schU tableDB2 sdbU0 [db1, db2, db3] db3 sdbU3 ∧ db3.wal.length = 3 ∧
    (∀ x ∈ catTrees ptU schU [(tname, tT), (uname, uT)], ∀ e ∈ flatten x, ∃ dbm ∈ [tableDB2, db1, db2, db3], ∃ n d,
      view dbm.store e.1 = some (n, d) ∧ assocGet (mixedImage db1 db3).disk e.1 = some n) ∧
    ∃ dbR tblsR, Engine.recover { store := mixedImage db1 db3, wal := db3.wal } [] [] = .ok dbR ∧
      dbR.wal = db3.wal ∧ Ckpt schU dbR sdbU3 (clean ptU) (cleanT tblsR) := by
  obtain ⟨db1, db2, db3, run1, run2, run3, ⟨hn1, hn2, hn3⟩, _, hlen, hs1, hs3⟩ := exampleU_run
  have runs : SpecRunsNA schU tableDB2 sdbU0 [db1, db2, db3] db3 sdbU3 :=
    .cons run1 hn1 (.cons run2 (by rw [hn2, hn1]) (.cons run3 (by rw [hn3, hn2]) (.nil db3 sdbU3)))
  have hshown : ∀ (dbm : Engine.DB) (o : Nat), (view dbm.store o).isSome = true →
      ∃ d, view dbm.store o = some (shownAt dbm o, d) := by
    intro dbm o hs
    obtain ⟨⟨n, d⟩, hv⟩ := Option.isSome_iff_exists.mp hs
    exact ⟨d, by unfold shownAt; rw [hv]; rfl⟩
  obtain ⟨d1, hv1⟩ := hshown db1 12288 hs1
  obtain ⟨d3, hv3⟩ := hshown db3 16384 hs3
  have himg : ∀ x ∈ catTrees ptU schU [(tname, tT), (uname, uT)], ∀ e ∈ flatten x,
      ∃ dbm ∈ [tableDB2, db1, db2, db3], ∃ n d,
        view dbm.store e.1 = some (n, d) ∧ assocGet (mixedImage db1 db3).disk e.1 = some n := by
    intro x hx e he
    simp only [catTrees, List.map_cons, List.map_nil, List.mem_cons, List.not_mem_nil, or_false] at hx
    rcases hx with rfl | rfl | rfl | rfl <;> obtain rfl := List.mem_singleton.mp he
    · exact ⟨tableDB2, List.mem_cons_self, _, _, rfl, rfl⟩
    · exact ⟨tableDB2, List.mem_cons_self, _, _, rfl, rfl⟩
    · exact ⟨db1, by simp, _, _, hv1, rfl⟩
    · exact ⟨db3, by simp, _, _, hv3, rfl⟩
  refine ⟨db1, db2, db3, runs, hlen, himg, ?_⟩
  obtain ⟨dbR, tblsR, e, hw, _, hk, _⟩ := ckpt_tableDB2.image_round runs (mixedImage db1 db3) rfl rfl (Nat.le_refl _)
    (Nat.le_refl _) himg [] []
  exact ⟨dbR, tblsR, e, hw, hk⟩

end Mkdb.Store
