import Mkdb.Proofs.CatalogInv
import Mkdb.Proofs.RefineCellWrite
import Mkdb.Proofs.Tuple
/-!
# Re-pointing a catalog entry (`updatePageTable`)

`updatePageTable` searches the scanned page table for the row of a name and rewrites it in place: `setVal` on the page
table, and the entries are the old ones with the name re-pointed (`repoint`).  The search and the rewrite are stated
for any test `q` on the decoded row (`rewriteRow_refines`), because recovery does the same by offset
(`repointPageTable`).
-/
set_option autoImplicit false
namespace Mkdb.Store
open Mkdb.Page Mkdb.Tuple Mkdb.Generated Mkdb.Tree Mkdb.Bin

/-! ### the row of the page table for `(name, off)` decodes to its entry -/

theorem decode_of_encode (sch : List FieldDef) (vals : Vals) (hv : ∀ p ∈ vals, ValidVal p.2)
    (hnd : (sch.map (·.name)).Nodup) {bs : Bytes} (h : encodeTuple sch vals = .ok bs) :
    ∃ m, decodeTuple sch bs [] = .ok m ∧ ∀ fd ∈ sch, Tuple.get m fd.name = Tuple.get vals fd.name := by
  obtain ⟨m, hm, hget, _⟩ := decode_encode_aux sch vals (get_valid _ hv) hnd bs [] [] (fun _ _ => rfl) h
  rw [List.append_nil] at hm
  exact ⟨m, hm, hget⟩

theorem ptEntry_ptRow (k : Nat) (del : Bool) (name : Bytes) (off : Nat) (hn : name.length < 2 ^ 32)
    (ho : (off : Int) ≤ 9223372036854775807) : ptEntry ⟨k, del, ptRow name off⟩ = some (name, off) := by
  obtain ⟨m, hm, hget⟩ := decode_of_encode pageTableSchema [("table_name", .str name), ("file_offset", .int off)]
    (by
      simp only [List.mem_cons, List.not_mem_nil, or_false, forall_eq_or_imp, forall_eq, ValidVal]
      exact ⟨hn, by omega, ho⟩)
    (by decide) (encode_ptRow _ name off rfl rfl)
  have g1 := hget ⟨"table_name", .varchar, 255⟩ List.mem_cons_self
  have g2 := hget ⟨"file_offset", .bigint, 0⟩ (List.mem_cons_of_mem _ List.mem_cons_self)
  unfold ptEntry
  simp only [hm, g1, g2]
  rfl

/-! ### `updateCellAt` on a leaf of a held tree -/

/-- `updateCell` + `markDirty` on the leaf `l` of a held tree, which holds the key: `setVal` -/
theorem updateCellAt_refines (s : Store) (t : Levels) (key lsn : Nat) (value : Bytes)
    (hH : Holds s t) (hI : Inv t s.hdr.nextFree) (l : Leaf) (d : Bool) (hm : (l, d) ∈ t.leaves)
    (hany : l.cells.any (fun c => c.key == key) = true) (hv : value.length ≤ c_maxValueSize) :
    ∃ s', updateCellAt l.off key value lsn s = .ok () s' ∧ Holds s' (setVal t key lsn value) ∧
      s'.hdr = s.hdr ∧ ∀ off, off ≠ l.off → view s' off = view s off := by
  obtain ⟨s2, s3, e2, e3, hH3, hh3, hfr⟩ := cellWrite_refines (fun c => { c with val := value }) key lsn hH hI hm hany
    (s1 := s) rfl rfl
  refine ⟨s3, ?_, by rw [setVal_eq]; exact hH3, hh3, hfr⟩
  unfold updateCellAt
  simp only [gt_iff_lt, Nat.not_lt.mpr hv, if_false]
  rw [bind_ok e2]
  simp only [hany, Bool.not_true, Bool.false_eq_true, if_false]
  exact e3

/-! ### `updatePageTable` -/

/-- the loop body of the searches of the page table (`updatePageTable`: by name; `repointPageTable`: by
offset): decode the row, keep it with its cell if it passes the test `q` -/
def rowFind (q : Vals → Bool) (c : LeafCell × Nat) : SM (Option ((LeafCell × Nat) × Vals)) := do
  let m ← decodeRow pageTableSchema c.1.val
  if q m then pure (some (c, m)) else pure none

def rowFindPure (q : Vals → Bool) (c : LeafCell × Nat) : Option ((LeafCell × Nat) × Vals) :=
  ((decRow pageTableSchema c.1.val).filter q).map (c, ·)

theorem rowFindPure_eq_some {q : Vals → Bool} {c a : LeafCell × Nat} {m : Vals} :
    rowFindPure q c = some (a, m) ↔ a = c ∧ decRow pageTableSchema c.1.val = some m ∧ q m = true := by
  simp only [rowFindPure, Option.map_eq_some_iff, Option.filter_eq_some_iff, Prod.mk.injEq]
  exact ⟨fun ⟨_, h, e, rfl⟩ => ⟨e.symm, h⟩, fun ⟨e, h⟩ => ⟨m, h, e.symm, rfl⟩⟩

theorem decRow_of_ptEntry {c : LeafCell} {e : Bytes × Nat} (h : ptEntry c = some e) :
    ∃ m, decRow pageTableSchema c.val = some m ∧ Tuple.get m "table_name" = .str e.1 := by
  obtain ⟨m, i, hm, h1, _, _⟩ := ptEntry_inv (n := e.1) (off := e.2) h
  exact ⟨m, decRow_of_decode hm, h1⟩

theorem table_name_of_ptEntry {c : LeafCell} {e : Bytes × Nat} {m : Vals} (h : ptEntry c = some e)
    (hm : decRow pageTableSchema c.val = some m) : Tuple.get m "table_name" = .str e.1 := by
  obtain ⟨m', hm', hn⟩ := decRow_of_ptEntry h
  rwa [Option.some.inj (hm'.symm.trans hm)] at hn

theorem rowFind_spec (q : Vals → Bool) (c : LeafCell × Nat) (s : Store) (h : ptEntry c.1 ≠ none) :
    rowFind q c s = .ok (rowFindPure q c) s := by
  obtain ⟨e, he⟩ := Option.ne_none_iff_exists'.mp h
  obtain ⟨m, hm, _⟩ := decRow_of_ptEntry he
  unfold rowFind rowFindPure
  rw [bind_ok (decodeRow_spec _ _ _ s hm), hm, Option.filter_some]
  split <;> rfl

theorem updatePageTable_eq (newRoot : Nat) (name : Bytes) :
    updatePageTable newRoot name =
      (getS >>= fun s => scanRight s.hdr.ptRoot >>= fun cells =>
        findFirstM (rowFind fun m => Tuple.get m "table_name" == .str name) cells >>= fun hit =>
          match hit with
          | none => throw .pageTableEntryMissing
          | some (c, m) =>
            encodeRow pageTableSchema (("file_offset", .int newRoot) :: m) >>= fun buf =>
            getS >>= fun s =>
            updateCellAt c.2 c.1.key buf s.hdr.nextLSN >>= fun _ =>
            modifyS (fun s => { s with hdr := { s.hdr with nextLSN := s.hdr.nextLSN + 1 } }) >>= fun _ =>
            pure [⟨c_OpUpdate, s.hdr.nextLSN, c.2, c.1.key, buf⟩]) := by rfl

theorem row_unique (pt : Levels) (hnd : ((ptEntries pt).map (·.1)).Nodup) (a b : LeafCell)
    (ha : a ∈ live pt) (hb : b ∈ live pt) (name : Bytes) (oa ob : Nat)
    (hpa : ptEntry a = some (name, oa)) (hpb : ptEntry b = some (name, ob)) : a = b := by
  unfold ptEntries at hnd
  rw [List.map_filterMap] at hnd
  exact inj_of_nodup_filterMap _ _ hnd a ha b hb name (by rw [hpa]; rfl) (by rw [hpb]; rfl)

theorem find_row (pt : Levels) (cs : List (LeafCell × Nat)) (hcs : cs.map (·.1) = live pt)
    (hdec : ∀ c ∈ live pt, ptEntry c ≠ none)
    (name : Bytes) (old : Nat) (he : (name, old) ∈ ptEntries pt) (q : Vals → Bool)
    (hpass : ∀ c m, ptEntry c = some (name, old) → decRow pageTableSchema c.val = some m → q m = true)
    (honly : ∀ c ∈ live pt, ∀ m e, decRow pageTableSchema c.val = some m → q m = true →
      ptEntry c = some e → e = (name, old)) :
    ∃ a ∈ cs, ∃ m, cs.findSome? (rowFindPure q) = some (a, m) ∧ decRow pageTableSchema a.1.val = some m ∧
      ptEntry a.1 = some (name, old) ∧ Tuple.get m "table_name" = .str name := by
  have hlive : ∀ a ∈ cs, a.1 ∈ live pt := fun a ha => hcs ▸ List.mem_map_of_mem ha
  -- the row of `name` is among the cells and passes the test, so there is a hit
  obtain ⟨c0, hc0, hpc0⟩ := List.mem_filterMap.mp he
  obtain ⟨a0, ha0, rfl⟩ := List.mem_map.mp (hcs ▸ hc0)
  obtain ⟨m0, hm0, _⟩ := decRow_of_ptEntry hpc0
  obtain ⟨⟨a, m⟩, hfs⟩ := Option.isSome_iff_exists.mp (List.findSome?_isSome_iff.mpr ⟨a0, ha0,
    Option.isSome_iff_exists.mpr ⟨_, rowFindPure_eq_some.mpr ⟨rfl, hm0, hpass _ _ hpc0 hm0⟩⟩⟩)
  -- the hit passes the test, and only that row does
  obtain ⟨a', ha, hga⟩ := List.exists_of_findSome?_eq_some hfs
  obtain ⟨rfl, hd, hq⟩ := rowFindPure_eq_some.mp hga
  obtain ⟨e, hp⟩ := Option.ne_none_iff_exists'.mp (hdec a.1 (hlive a ha))
  rw [honly a.1 (hlive a ha) m e hd hq hp] at hp
  exact ⟨a, ha, m, hfs, hd, hp, table_name_of_ptEntry hp hd⟩

def repoint (name : Bytes) (newRoot : Nat) (e : Bytes × Nat) : Bytes × Nat :=
  if e.1 = name then (name, newRoot) else e

theorem repoint_fst (name : Bytes) (newRoot : Nat) (e : Bytes × Nat) : (repoint name newRoot e).1 = e.1 := by
  unfold repoint; split
  · rename_i h; exact h.symm
  · rfl

theorem repoint_same (name : Bytes) (r off : Nat) : repoint name r (name, off) = (name, r) := if_pos rfl

theorem repoint_ne {name : Bytes} (r : Nat) {e : Bytes × Nat} (h : e.1 ≠ name) : repoint name r e = e :=
  if_neg h

theorem ptEntries_setVal_row (pt : Levels) (nf : Nat) (hI : Inv pt nf)
    (hnd : ((ptEntries pt).map (·.1)).Nodup) (a : LeafCell) (hal : a ∈ live pt) (name : Bytes) (oa new lsn : Nat)
    (hpa : ptEntry a = some (name, oa)) (hnl : name.length + 14 ≤ c_maxValueSize)
    (hbig : (new : Int) ≤ 9223372036854775807) :
    ptEntries (setVal pt a.key lsn (ptRow name new)) = (ptEntries pt).map (repoint name new) ∧
    ((∀ c ∈ live pt, ptEntry c ≠ none) →
      ∀ c ∈ live (setVal pt a.key lsn (ptRow name new)), ptEntry c ≠ none) := by
  -- cell by cell: the row of `name` now reads `(name, new)`, another cell holds another key and another name
  have hkey : ∀ c ∈ live pt, ptEntry (if c.key == a.key then { c with val := ptRow name new } else c) =
      (ptEntry c).map (repoint name new) := by
    intro c hc
    by_cases hca : c = a
    · subst hca
      rw [if_pos (beq_self_eq_true _), hpa, Option.map_some, repoint_same]
      exact ptEntry_ptRow _ _ name new (by have : c_maxValueSize = 400 := rfl; omega) hbig
    · rw [if_neg fun hk => hca (inj_of_nodup_map (·.key) _ (live_keys_nodup hI.asc) c hc a hal (eq_of_beq hk))]
      cases hp : ptEntry c with
      | none => rfl
      | some e =>
        rw [Option.map_some, repoint_ne new fun hen =>
          hca (row_unique pt hnd c a hc hal name e.2 oa (by rw [hp, ← hen]) hpa)]
  refine ⟨?_, fun hdec c' hc' => ?_⟩
  · unfold ptEntries
    rw [live_setVal, List.filterMap_map, List.map_filterMap]
    exact filterMap_congr hkey
  · rw [live_setVal] at hc'
    obtain ⟨c, hc, rfl⟩ := List.mem_map.mp hc'
    rw [hkey c hc]
    exact fun h => hdec c hc (Option.map_eq_none_iff.mp h)

/-- The steps `updatePageTable` and `repointPageTable` share, each as an equation of its own for the caller to
rewrite with: the scan, the search with a test `q` that the row of `name` passes and only it, the re-encoding of the
row with the offset `new`, and `updateCellAt` with the LSN `lsn`. -/
theorem rewriteRow_refines (s : Store) (pt : Levels) (name : Bytes) (old new lsn : Nat)
    (hH : Holds s pt) (hI : Inv pt s.hdr.nextFree) (hroot : rootOff pt = s.hdr.ptRoot)
    (hdepth : pt.inner.length + 1 ≤ treeFuel) (hlen : pt.leaves.length ≤ scanFuel)
    (hdec : ∀ c ∈ live pt, ptEntry c ≠ none) (hnd : ((ptEntries pt).map (·.1)).Nodup)
    (he : (name, old) ∈ ptEntries pt) (hnl : name.length + 14 ≤ c_maxValueSize)
    (hbig : (new : Int) ≤ 9223372036854775807) (q : Vals → Bool)
    (hpass : ∀ c m, ptEntry c = some (name, old) → decRow pageTableSchema c.val = some m → q m = true)
    (honly : ∀ c ∈ live pt, ∀ m e, decRow pageTableSchema c.val = some m → q m = true →
      ptEntry c = some e → e = (name, old)) :
    ∃ s1 cs a m p s2, scanRight s.hdr.ptRoot s = .ok cs s1 ∧ Same s s1 ∧
      findFirstM (rowFind q) cs s1 = .ok (some (a, m)) s1 ∧
      encodeRow pageTableSchema (("file_offset", .int new) :: m) s1 = .ok (ptRow name new) s1 ∧
      updateCellAt a.2 a.1.key (ptRow name new) lsn s1 = .ok () s2 ∧
      a.1 ∈ live pt ∧ ptEntry a.1 = some (name, old) ∧ p ∈ pt.leaves ∧ a.2 = p.1.off ∧ a.1 ∈ p.1.cells ∧
      Holds s2 (setVal pt a.1.key lsn (ptRow name new)) ∧ s2.hdr = s1.hdr ∧
      (∀ off, off ∉ offs pt → view s2 off = view s1 off) ∧
      ptEntries (setVal pt a.1.key lsn (ptRow name new)) = (ptEntries pt).map (repoint name new) ∧
      ∀ c ∈ live (setVal pt a.1.key lsn (ptRow name new)), ptEntry c ≠ none := by
  obtain ⟨s1, cs, e1, hs1, hcs, hleaf⟩ := scan_held s pt _ hH hI hdepth hlen
  rw [hroot] at e1
  have hlive : ∀ a ∈ cs, a.1 ∈ live pt := fun a ha => hcs ▸ List.mem_map_of_mem ha
  have hff := findFirstM_pure (rowFind q) (rowFindPure q) s1 cs fun a ha => rowFind_spec q a s1 (hdec a.1 (hlive a ha))
  obtain ⟨a, ha, m, hfs, hdm, hpa, hmn⟩ := find_row pt cs hcs hdec name old he q hpass honly
  have hbuf : encodeRow pageTableSchema (("file_offset", .int new) :: m) s1 = .ok (ptRow name new) s1 :=
    encodeRow_ok (encode_ptRow _ name new (by rw [get_cons_ne _ _ _ _ (by decide)]; exact hmn) (get_cons_eq _ _ _)) s1
  obtain ⟨p, hp, hpo, hcp⟩ := hleaf a ha
  obtain ⟨s2, e2, hH2, hh2, hfr2⟩ := updateCellAt_refines s1 pt a.1.key lsn (ptRow name new)
    (hs1.holds hH) (by rw [hs1.2]; exact hI) p.1 p.2 hp (List.any_eq_true.mpr ⟨a.1, hcp, beq_self_eq_true _⟩)
    (by rw [ptRow_length]; exact hnl)
  obtain ⟨hent, hdec'⟩ := ptEntries_setVal_row pt _ hI hnd a.1 (hlive a ha) name old new lsn hpa hnl hbig
  exact ⟨s1, cs, a, m, p, s2, e1, hs1, by rw [hff, hfs], hbuf, by rw [hpo]; exact e2, hlive a ha, hpa, hp, hpo, hcp,
    hH2, hh2, fun off ho => hfr2 off fun h => ho (h ▸ leaf_off_mem_offs (d := p.2) hp), hent, hdec' hdec⟩

theorem updatePageTable_refines (s : Store) (pt : Levels) (name : Bytes) (newRoot old : Nat)
    (hH : Holds s pt) (hI : Inv pt s.hdr.nextFree) (hroot : rootOff pt = s.hdr.ptRoot)
    (hdepth : pt.inner.length + 1 ≤ treeFuel) (hlen : pt.leaves.length ≤ scanFuel)
    (hdec : ∀ c ∈ live pt, ptEntry c ≠ none) (hnd : ((ptEntries pt).map (·.1)).Nodup)
    (he : (name, old) ∈ ptEntries pt) (hnl : name.length + 14 ≤ c_maxValueSize)
    (hbig : (newRoot : Int) ≤ 9223372036854775807) :
    ∃ s' a p, updatePageTable newRoot name s =
        .ok [⟨c_OpUpdate, s.hdr.nextLSN, p.1.off, a.key, ptRow name newRoot⟩] s' ∧
      a ∈ live pt ∧ ptEntry a = some (name, old) ∧ p ∈ pt.leaves ∧ a ∈ p.1.cells ∧
      Holds s' (setVal pt a.key s.hdr.nextLSN (ptRow name newRoot)) ∧
      s'.hdr.nextFree = s.hdr.nextFree ∧ s'.hdr.lastKey = s.hdr.lastKey ∧ s'.hdr.ptRoot = s.hdr.ptRoot ∧
      s'.hdr.nextLSN = s.hdr.nextLSN + 1 ∧
      (∀ off, off ∉ offs pt → view s' off = view s off) ∧
      ptEntries (setVal pt a.key s.hdr.nextLSN (ptRow name newRoot)) = (ptEntries pt).map (repoint name newRoot) ∧
      (∀ c ∈ live (setVal pt a.key s.hdr.nextLSN (ptRow name newRoot)), ptEntry c ≠ none) := by
  -- the search by name finds the row of `name`
  obtain ⟨s1, cs, a, m, p, s2, e1, hs1, hff, hbuf, e2, hal, hpa, hp, hpo, hcp, hH2, hh2, hfr2, hent, hdec'⟩ :=
    rewriteRow_refines s pt name old newRoot s.hdr.nextLSN hH hI hroot hdepth hlen hdec hnd he hnl hbig
      (fun m => Tuple.get m "table_name" == .str name)
      (fun c m hpc hm => by rw [table_name_of_ptEntry hpc hm]; exact beq_self_eq_true _)
      (fun c hc m e hm hq hp => by
        rw [table_name_of_ptEntry hp hm] at hq
        exact inj_of_nodup_map (·.1) _ hnd e (List.mem_filterMap.mpr ⟨c, hc, hp⟩) _ he (by simpa using hq))
  have hh : s2.hdr = s.hdr := hh2.trans hs1.2
  refine ⟨{ s2 with hdr := { s2.hdr with nextLSN := s2.hdr.nextLSN + 1 } }, a.1, p, ?_, hal, hpa, hp, hcp, hH2,
    congrArg (·.nextFree) hh, congrArg (·.lastKey) hh, congrArg (·.ptRoot) hh, congrArg (·.nextLSN + 1) hh,
    fun off hoff => (hfr2 off hoff).trans (congrFun hs1.1 off), hent, hdec'⟩
  rw [updatePageTable_eq, bind_ok (show getS s = .ok s s from rfl), bind_ok e1, bind_ok hff]
  simp only
  rw [bind_ok hbuf, bind_ok (show getS s1 = .ok s1 s1 from rfl), hs1.2, bind_ok e2, hpo]
  rfl

end Mkdb.Store
