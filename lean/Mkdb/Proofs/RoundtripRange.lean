import Mkdb.Proofs.Parse
import Mkdb.Proofs.RoundtripStmt
/-!
Token-level round trip (C10), the converse: what `Parser.Parse` returns is well formed relative to the
literals a token can carry (`int64Lit`), so that `wfStmt` describes exactly the range of the parser.
`Ret p Q` says that every value `p` returns satisfies `Q`; for the productions it is read off their `Run`
lemmas (`Mkdb/Proofs/ParseRun.lean`).
-/
namespace Mkdb.Sql
open Mkdb.Scan Mkdb.Generated

theorem Ret.orCond (f : Nat) : Ret (Sql.orCond f) (fun c => wfCond int64Lit c = true) :=
  Run.ret (fun _ => Run.orCond) fun _ _ _ h => h.2

theorem Ret.requireInt : Ret Sql.requireInt (fun n => int64Lit (.int n) = true) :=
  Run.ret (fun _ => Run.requireInt (E := True)) fun _ _ _ h => h.2

theorem parseStmt_inv {f : Nat} {ts : List Token} {s : Stmt} {rest : List Token}
    (h : parseStmt f ts = .ok s rest) : wfStmt int64Lit s = true :=
  Run.ret (fun _ => Run.parseStmt) (fun _ _ _ h => h.2) _ _ _ h

/-- **the range of `Parser.Parse` is well formed**: whatever tokens are accepted, the statement
returned satisfies `wfStmt` relative to the literals a token can carry (`int64Lit`). -/
theorem parseTokens_wf {ts : List Token} {s : Stmt} (h : parseTokens ts = .ok s) : wfStmt int64Lit s = true :=
  (parseTokens_ok h).elim fun _ hp => parseStmt_inv hp.1

/-! ### Concrete rich statements and options (used by the non-vacuity examples of `Props/C10.lean`) -/

/-- `SELECT t.a AS x, count(*) c, u.b, avg(v.k) FROM t tt JOIN u ON t.a = u.a AND u.b > 3
LEFT JOIN v vv ON v.k = t.a OR v.k <= 1 WHERE t.a < 10 AND u.b != 'x' OR a = TRUE AND b
GROUP BY t.a, u.b ORDER BY t.a DESC, u.b LIMIT 10 OFFSET 2` -/
def c10ExSelect : Stmt := .select {
  list := [⟨.expr (.val (.col ⟨[116], [97]⟩)), [120]⟩, ⟨.count none, [99]⟩, ⟨.expr (.val (.col ⟨[117], [98]⟩)), []⟩,
           ⟨.avg ⟨[118], [107]⟩, []⟩],
  from_ := some (.join (.join (.table ⟨[116], some [116, 116]⟩) .inner ⟨[117], none⟩
              (.and ⟨.col ⟨[116], [97]⟩, t_EQ, .col ⟨[117], [97]⟩⟩ (.pred ⟨.col ⟨[117], [98]⟩, t_GT, .lit (.int 3)⟩)))
            .left ⟨[118], some [118, 118]⟩
              (.or (.pred ⟨.col ⟨[118], [107]⟩, t_EQ, .col ⟨[116], [97]⟩⟩)
                   (.pred ⟨.col ⟨[118], [107]⟩, t_LTE, .lit (.int 1)⟩))),
  where_ := some (.or (.and ⟨.col ⟨[116], [97]⟩, t_LT, .lit (.int 10)⟩ (.pred ⟨.col ⟨[117], [98]⟩, t_NEQ, .lit (.str [120])⟩))
              (.and ⟨.col ⟨[], [97]⟩, t_EQ, .lit (.bool true)⟩ (.val (.col ⟨[], [98]⟩)))),
  groupBy := [⟨[116], [97]⟩, ⟨[117], [98]⟩],
  orderBy := [⟨⟨[116], [97]⟩, true⟩, ⟨⟨[117], [98]⟩, false⟩],
  lim := { limitActive := true, offsetActive := true, limit := 10, offset := 2 } }

/-- `INSERT INTO t (a, b) VALUES (1, 'x', TRUE), (2, 'y', FALSE), ()` -/
def c10ExInsert : Stmt :=
  .insert [116] [[97], [98]] [[.int 1, .str [120], .bool true], [.int 2, .str [121], .bool false], []]

/-- `CREATE TABLE t (a INT, b BIGINT, c VARCHAR(255), d BOOLEAN)` -/
def c10ExCreate : Stmt :=
  .createTable [116] [⟨[97], .int⟩, ⟨[98], .bigint⟩, ⟨[99], .varchar 255⟩, ⟨[100], .boolean⟩]

/-- `UPDATE t SET a = 1, b = u.c WHERE a = 2 OR b` -/
def c10ExUpdate : Stmt :=
  .update [116] [([97], .lit (.int 1)), ([98], .col ⟨[117], [99]⟩)]
    (some (.or (.pred ⟨.col ⟨[], [97]⟩, t_EQ, .lit (.int 2)⟩) (.val (.col ⟨[], [98]⟩))))

/-- options that take every non-default spelling: keyword texts that are not the keywords (one byte,
the token type), AS before every second alias only, INNER written, ASC written, no commas in
GROUP BY, OFFSET before LIMIT, `SHOW dataBASES` -/
def c10ExOpts : ROpts :=
  { kw := fun x => [UInt8.ofNat x.toNat], asKw := fun i => i % 2 == 1, innerKw := fun _ => true, ascKw := fun _ => true,
    gbComma := fun _ => false, emptyGroupBy := true, limitFirst := false, emptyColParens := true,
    showIdent := some [100, 97, 116, 97, 66, 65, 83, 69, 83] }

end Mkdb.Sql
