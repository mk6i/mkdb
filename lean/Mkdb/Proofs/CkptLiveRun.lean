import Mkdb.Proofs.FlushPagesCat
import Mkdb.Proofs.ReplaySteps
/-!
Crash after a checkpoint: two invariants of live runs.  Every record of the log is applied on the live
store: "applied" is read off a catalog description (`AppliedC`), so that it can be carried from statement
to statement along a `LiveRunM`, root moves included; under `Cat` it is `Applied` on the store
(`RowStep.applied`, `live_run_applied`).  And every page a statement writes is marked dirty, so the clean
pages after a step are pages the step started with (`OldOrDirty`, `RowStep.pages`), and what held of those
- "is on disk" - holds of them.  After a flush the catalog description is its `clean` (all dirty bits
cleared); `AppliedC`, `PtSelf`, `FreshM` pass to it.  `InUse.step` (`CkptInvariant`) puts the two step
lemmas beside the other facts about the log of a database in use.
-/

section
set_option autoImplicit false
namespace Mkdb.Store
open Mkdb.Page Mkdb.Tuple Mkdb.Generated Mkdb.Tree Mkdb.Engine

/-- the record is applied, read off the catalog description: a page of one of the trees at the
record's page offset carries an LSN at least the record's, or the record is the INSERT at the root
of a user table of a key the table holds -/
def AppliedC (pt sch : Levels) (tbls : List (Bytes × Levels)) (r : WalRec) : Prop :=
  (∃ x ∈ catTrees pt sch tbls, PageLsn x r.page r.lsn) ∨
  (r.op = c_OpInsert ∧ ∃ table t, (table, t) ∈ tbls ∧ r.page = rootOff t ∧ r.cell ∈ keys t)

theorem AppliedC.applied {s : Store} {pt sch : Levels} {tbls : List (Bytes × Levels)} {r : WalRec}
    (ha : AppliedC pt sch tbls r) (h : Cat s pt sch tbls) : Applied tbls s r := by
  rcases ha with ⟨x, hx, e, he, hp, hl⟩ | h2
  · left
    refine ⟨e.2.1, e.2.2, ?_, ?_, hl⟩
    · rw [← hp]; exact (h.tree x hx).1 e he
    · rw [← hp]; exact flatten_nodeOff he
  · exact .inr h2

theorem mem_catTrees {pt sch x : Levels} {tbls : List (Bytes × Levels)} :
    x ∈ catTrees pt sch tbls ↔ x = pt ∨ x = sch ∨ ∃ e ∈ tbls, e.2 = x := by
  simp only [catTrees, List.mem_cons, List.mem_map]

theorem PageLsn.mono {x : Levels} {page lsn lsn' : Nat} (h : PageLsn x page lsn) (hl : lsn' ≤ lsn) :
    PageLsn x page lsn' := by
  obtain ⟨e, he, hp, h1⟩ := h
  exact ⟨e, he, hp, by omega⟩

/-- a statement with LSN `L` on the user table `table` (tree `t` before, `t2` after) keeps a record
with a smaller LSN applied -/
theorem AppliedC.step_table {pt sch : Levels} {tbls : List (Bytes × Levels)} {r : WalRec}
    (ha : AppliedC pt sch tbls r) {table : Bytes} {t t2 : Levels} (ht : (table, t) ∈ tbls)
    (hnd : (tbls.map (·.1)).Nodup) {L : Nat} (hL : r.lsn ≤ L)
    (hk : ∀ page lsn, lsn ≤ L → PageLsn t page lsn → PageLsn t2 page lsn)
    (hkeys : ∀ k ∈ keys t, k ∈ keys t2)
    (hroot : rootOff t2 = rootOff t ∨ PageLsn t2 (rootOff t) L) :
    AppliedC pt sch (setTable tbls table t2) r := by
  have hself : (table, t2) ∈ setTable tbls table t2 := mem_setTable_self t2 ht
  rcases ha with ⟨x, hx, hpl⟩ | ⟨hop, tb, tr, hm, hpg, hkey⟩
  · left
    rcases mem_catTrees.mp hx with rfl | rfl | ⟨e, he, rfl⟩
    · exact ⟨x, Cat.pt_mem, hpl⟩
    · exact ⟨x, Cat.sch_mem, hpl⟩
    · by_cases hn : e.1 = table
      · have : e = (table, t) := inj_of_nodup_map (·.1) tbls hnd e he (table, t) ht hn
        subst this
        exact ⟨t2, Cat.tb_mem hself, hk _ _ hL hpl⟩
      · exact ⟨e.2, Cat.tb_mem (mem_setTable_of_ne he hn), hpl⟩
  · by_cases hn : tb = table
    · have : (tb, tr) = (table, t) := inj_of_nodup_map (·.1) tbls hnd (tb, tr) hm (table, t) ht hn
      simp only [Prod.mk.injEq] at this
      obtain ⟨rfl, rfl⟩ := this
      rcases hroot with hr | hr
      · exact .inr ⟨hop, tb, t2, hself, by rw [hr]; exact hpg, hkeys _ hkey⟩
      · exact .inl ⟨t2, Cat.tb_mem hself, by rw [hpg]; exact hr.mono hL⟩
    · exact .inr ⟨hop, tb, tr, mem_setTable_of_ne hm hn, hpg, hkey⟩

theorem AppliedC.step_pt {pt sch : Levels} {tbls : List (Bytes × Levels)} {r : WalRec}
    (ha : AppliedC pt sch tbls r) {pt2 : Levels} {L : Nat} (hL : r.lsn ≤ L)
    (hk : ∀ page lsn, lsn ≤ L → PageLsn pt page lsn → PageLsn pt2 page lsn) :
    AppliedC pt2 sch tbls r := by
  rcases ha with ⟨x, hx, hpl⟩ | h2
  · left
    rcases mem_catTrees.mp hx with rfl | rfl | ⟨e, he, rfl⟩
    · exact ⟨pt2, Cat.pt_mem, hk _ _ hL hpl⟩
    · exact ⟨x, Cat.sch_mem, hpl⟩
    · exact ⟨e.2, Cat.tb_mem he, hpl⟩
  · exact .inr h2

theorem AppliedC.after_insert {pt sch : Levels} {tbls : List (Bytes × Levels)} {r : WalRec}
    (ha : AppliedC pt sch tbls r) {table : Bytes} {t t' : Levels} (ht : (table, t) ∈ tbls)
    (hnd : (tbls.map (·.1)).Nodup) {k L nf nf' : Nat} {v : Bytes} (hL : r.lsn ≤ L) (hI : Inv t nf)
    (hins : insertAppend t k L v nf = .ok (t', nf')) : AppliedC pt sch (setTable tbls table t') r :=
  ha.step_table ht hnd hL (fun _ _ hl hp => hp.ins hl hI hins)
    (fun k' hk' => by rw [keys_insertAppend hins]; exact List.mem_append_left _ hk')
    (insertAppend_old_root t t' k L nf nf' v hI hins)

theorem AppliedC.after_upd {pt sch : Levels} {tbls : List (Bytes × Levels)} {r : WalRec}
    (ha : AppliedC pt sch tbls r) {table : Bytes} {t : Levels} (ht : (table, t) ∈ tbls)
    (hnd : (tbls.map (·.1)).Nodup) {L : Nat} (hL : r.lsn ≤ L) (f : LeafCell → LeafCell)
    (hf : ∀ c, (f c).key = c.key) (key : Nat) :
    AppliedC pt sch (setTable tbls table (updLeaves f key L t)) r :=
  ha.step_table ht hnd hL (fun _ _ hl hp => hp.upd hl f key)
    (fun k' hk' => by rw [keys_updLeaves f key L hf t]; exact hk')
    (.inl (rootOff_updLeaves f key L t))

/-- a cell change with LSN `L` in the leaf `l` of a user table: the old records stay applied, the record
of the change is applied (its leaf carries `L`), and all are below `L + 1` -/
theorem AppliedC.cell_step {pt sch : Levels} {tbls : List (Bytes × Levels)} {old : List WalRec} {L : Nat}
    (ha : ∀ r ∈ old, AppliedC pt sch tbls r) (hl : ∀ r ∈ old, r.lsn < L) {table : Bytes} {t : Levels}
    (ht : (table, t) ∈ tbls) (hnd : (tbls.map (·.1)).Nodup) (f : LeafCell → LeafCell)
    (hf : ∀ c, (f c).key = c.key) {rowId : Nat} {l : Leaf} {d : Bool} (hm : (l, d) ∈ t.leaves)
    (hany : l.cells.any (fun x => x.key == rowId) = true) (op : Nat) (buf : Bytes) :
    (∀ r ∈ old ++ [⟨op, L, l.off, rowId, buf⟩],
      AppliedC pt sch (setTable tbls table (updLeaves f rowId L t)) r) ∧
    ∀ r ∈ old ++ [⟨op, L, l.off, rowId, buf⟩], r.lsn < L + 1 :=
  ⟨List.forall_mem_append.mpr ⟨fun r hr => (ha r hr).after_upd ht hnd (Nat.le_of_lt (hl r hr)) f hf rowId,
      List.forall_mem_singleton.mpr
        (.inl ⟨_, Cat.tb_mem (mem_setTable_self _ ht), updLeaves_stamps f rowId L t l d hm hany⟩)⟩,
    List.forall_mem_append.mpr ⟨fun r hr => Nat.lt_succ_of_lt (hl r hr),
      List.forall_mem_singleton.mpr (Nat.lt_succ_self L)⟩⟩

/-- a counter that either stood still or is fixed by a record of the log, over two stretches of a log -/
theorem same_or_logged {P : WalRec → Nat → Prop} {A B : List WalRec} {v0 v1 v2 : Nat}
    (h1 : v1 = v0 ∨ ∃ r ∈ A, P r v1) (h2 : v2 = v1 ∨ ∃ r ∈ B, P r v2) : v2 = v0 ∨ ∃ r ∈ A ++ B, P r v2 := by
  rcases h2 with rfl | ⟨r, hr, h2⟩
  · exact h1.imp id fun ⟨r, hr, h⟩ => ⟨r, List.mem_append_left _ hr, h⟩
  · exact .inr ⟨r, List.mem_append_right _ hr, h2⟩

/-- After a step every record logged so far is applied, the step's own included, and all are below the
LSN counter: a cell record names a leaf the step stamped; an INSERT record names the root, and its key
is in the tree, or - the root having moved - the old root page, which the split stamped with the
insert's LSN; the catalog record that follows names a leaf of the page table stamped with its LSN. -/
theorem RowStep.applied {sch : Levels} {s s1 : Store} {pt pt1 : Levels} {tbls tbls1 : List (Bytes × Levels)}
    {l1 old : List WalRec} (st : RowStep s pt tbls s1 pt1 tbls1 l1) (h : Cat s pt sch tbls)
    (ha : ∀ r ∈ old, AppliedC pt sch tbls r) (hl : ∀ r ∈ old, r.lsn < s.hdr.nextLSN) :
    (∀ r ∈ old ++ l1, AppliedC pt1 sch tbls1 r) ∧ ∀ r ∈ old ++ l1, r.lsn < s1.hdr.nextLSN := by
  cases st with
  | quiet hs =>
    rw [List.append_nil, hs.2]
    exact ⟨ha, hl⟩
  | cell table t l d r f ht hm hr hpage hany hrl hlsn hlk hnf =>
    obtain ⟨op, lsn, page, cell, val⟩ := r
    simp only at hpage hrl hany
    subst hpage hrl
    obtain ⟨hB, hC⟩ := AppliedC.cell_step ha hl ht h.tnames f hr.key hm hany op val
    exact ⟨hB, by rw [hlsn]; exact hC⟩
  | ins table t t' nf' buf ht hlen hins hd' hl' hbig hlk hnf hroot hent =>
    obtain ⟨_, hIt, _, _, _⟩ := h.tree t (Cat.tb_mem ht)
    have hself : (table, t') ∈ setTable tbls table t' := mem_setTable_self t' ht
    have hold : ∀ r ∈ old, AppliedC pt sch (setTable tbls table t') r := fun r hr =>
      (ha r hr).after_insert ht h.tnames (Nat.le_of_lt (hl r hr)) hIt hins
    rcases hroot with ⟨hmove, rfl, hlsn', rfl⟩ | ⟨hmove, hlsn', a, p, hal, hpa, hp, hap, rfl, rfl⟩
    · exact ⟨List.forall_mem_append.mpr ⟨hold, List.forall_mem_singleton.mpr
          (.inr ⟨rfl, table, t', hself, hmove.symm, by rw [keys_insertAppend hins]; simp⟩)⟩,
        by rw [hlsn']; exact List.forall_mem_append.mpr ⟨fun r hr => Nat.lt_succ_of_lt (hl r hr),
          List.forall_mem_singleton.mpr (Nat.lt_succ_self _)⟩⟩
    · -- the catalog record: a cell change in the page table, one LSN later
      have hpt : ∀ r, r.lsn ≤ s.hdr.nextLSN + 1 → AppliedC pt sch (setTable tbls table t') r →
          AppliedC (setVal pt a.key (s.hdr.nextLSN + 1) (ptRow table (rootOff t'))) sch
            (setTable tbls table t') r := by
        intro r hr har
        rw [setVal_eq]
        exact har.step_pt hr (fun _ _ hl' hp' => hp'.upd hl' _ a.key)
      refine ⟨List.forall_mem_append.mpr
          ⟨fun r hr => hpt r (Nat.le_succ_of_le (Nat.le_of_lt (hl r hr))) (hold r hr),
          List.forall_mem_cons.mpr ⟨hpt _ (Nat.le_succ _) ?_, List.forall_mem_singleton.mpr (.inl ?_)⟩⟩,
        by rw [hlsn']; exact List.forall_mem_append.mpr ⟨fun r hr => Nat.lt_add_right 2 (hl r hr),
          List.forall_mem_cons.mpr ⟨Nat.lt_add_of_pos_right (by decide),
            List.forall_mem_singleton.mpr (Nat.lt_succ_self _)⟩⟩⟩
      · -- the insert record names the old root, which the split stamped
        exact .inl ⟨t', Cat.tb_mem hself,
          (insertAppend_old_root t t' _ _ _ nf' buf hIt hins).resolve_left hmove⟩
      · refine ⟨_, Cat.pt_mem, ?_⟩
        rw [setVal_eq]
        exact updLeaves_stamps _ a.key (s.hdr.nextLSN + 1) pt p.1 p.2 hp
          (List.any_eq_true.mpr ⟨a, hap, beq_self_eq_true _⟩)

/-- **Every record of the log is applied on the live store.**  A live run of row statements starts
from a store whose old log `old` is applied for its catalog description and below its LSN counter.
The same holds at the end for the old log followed by the records the run wrote. -/
theorem live_run_applied (sch : Levels) {s0 sN : Store} {tbls tblsN : List (Bytes × Levels)}
    {stmts : List RStmt} {logs : List WalRec} (run : LiveRunM sch s0 tbls stmts sN tblsN logs) :
    ∀ (pt : Levels) (old : List WalRec), Cat s0 pt sch tbls →
      (∀ r ∈ old, AppliedC pt sch tbls r) → (∀ r ∈ old, r.lsn < s0.hdr.nextLSN) →
      ∃ ptN, Cat sN ptN sch tblsN ∧ (∀ r ∈ old ++ logs, AppliedC ptN sch tblsN r) ∧
        (∀ r ∈ old ++ logs, r.lsn < sN.hdr.nextLSN) ∧
        (sN.hdr.nextLSN = s0.hdr.nextLSN ∨ ∃ r ∈ logs, sN.hdr.nextLSN = r.lsn + 1) := by
  intro pt old h ha hl
  refine run.induct (motive := fun s pt tbls _ logs => ∀ old, (∀ r ∈ old, AppliedC pt sch tbls r) →
    (∀ r ∈ old, r.lsn < s.hdr.nextLSN) →
    ∃ ptN, Cat sN ptN sch tblsN ∧ (∀ r ∈ old ++ logs, AppliedC ptN sch tblsN r) ∧
      (∀ r ∈ old ++ logs, r.lsn < sN.hdr.nextLSN) ∧
      (sN.hdr.nextLSN = s.hdr.nextLSN ∨ ∃ r ∈ logs, sN.hdr.nextLSN = r.lsn + 1)) ?_ ?_ pt h old ha hl
  · intro pt h old ha hl
    exact ⟨pt, h, by rw [List.append_nil]; exact ha, by rw [List.append_nil]; exact hl, .inl rfl⟩
  · intro s pt tbls s1 pt1 tbls1 x rest l1 l2 h st _ _ _ _ ih old ha hl
    obtain ⟨b1, b2⟩ := st.applied h ha hl
    obtain ⟨ptN, c, a1, a2, a3⟩ := ih (old ++ l1) b1 b2
    exact ⟨ptN, c, by rw [← List.append_assoc]; exact a1, by rw [← List.append_assoc]; exact a2,
      same_or_logged (P := fun r v => v = r.lsn + 1) st.lsn_logged a3⟩

end Mkdb.Store
end

section
set_option autoImplicit false
namespace Mkdb.Store
open Mkdb.Page Mkdb.Tuple Mkdb.Generated Mkdb.Tree Mkdb.Engine

/-! ### the clean pages of a run are pages it started with -/

/-- every page of the description is dirty or satisfies `P` (`P`: "a page the run started with") -/
def OldOrDirty (P : Nat × Node × Bool → Prop) (pt sch : Levels) (tbls : List (Bytes × Levels)) : Prop :=
  ∀ x ∈ catTrees pt sch tbls, ∀ e ∈ flatten x, e.2.2 = true ∨ P e

theorem OldOrDirty.step_table {P : Nat × Node × Bool → Prop} {pt sch : Levels} {tbls : List (Bytes × Levels)}
    (h : OldOrDirty P pt sch tbls) {table : Bytes} {t t2 : Levels} (ht : (table, t) ∈ tbls)
    (hk : ∀ x ∈ flatten t2, x ∈ flatten t ∨ x.2.2 = true) : OldOrDirty P pt sch (setTable tbls table t2) := by
  intro x hx e he
  rcases mem_catTrees.mp hx with rfl | rfl | ⟨e0, he0, rfl⟩
  · exact h x Cat.pt_mem e he
  · exact h x Cat.sch_mem e he
  · rcases mem_setTable he0 with ⟨rfl, _⟩ | ⟨he0, _⟩
    · rcases hk e he with h1 | h1
      · exact h t (Cat.tb_mem ht) e h1
      · exact .inl h1
    · exact h e0.2 (Cat.tb_mem he0) e he

theorem OldOrDirty.step_pt {P : Nat × Node × Bool → Prop} {pt sch : Levels} {tbls : List (Bytes × Levels)}
    (h : OldOrDirty P pt sch tbls) {pt2 : Levels}
    (hk : ∀ x ∈ flatten pt2, x ∈ flatten pt ∨ x.2.2 = true) : OldOrDirty P pt2 sch tbls := by
  intro x hx e he
  rcases mem_catTrees.mp hx with rfl | rfl | ⟨e0, he0, rfl⟩
  · rcases hk e he with h1 | h1
    · exact h pt Cat.pt_mem e h1
    · exact .inl h1
  · exact h x Cat.sch_mem e he
  · exact h e0.2 (Cat.tb_mem he0) e he

/-- every page a step writes is dirty -/
theorem RowStep.pages {P : Nat × Node × Bool → Prop} {sch : Levels} {s s1 : Store} {pt pt1 : Levels}
    {tbls tbls1 : List (Bytes × Levels)} {l1 : List WalRec} (st : RowStep s pt tbls s1 pt1 tbls1 l1)
    (ho : OldOrDirty P pt sch tbls) : OldOrDirty P pt1 sch tbls1 := by
  cases st with
  | quiet hs => exact ho
  | cell table t l d r f ht hm hr hpage hany hrl hlsn hlk hnf =>
    exact ho.step_table ht fun x hx => (updLeaves_pages_new _ _ _ t x hx).imp_right (·.2)
  | ins table t t' nf' buf ht hlen hins hd' hl' hbig hlk hnf hroot hent =>
    have h1 : OldOrDirty P pt sch (setTable tbls table t') :=
      ho.step_table ht fun x hx => (insertAppend_pages_new t t' _ _ _ nf' buf hins x hx).imp_right (·.2)
    rcases hroot with ⟨_, rfl, _⟩ | ⟨_, _, a, p, _, _, _, _, rfl, _⟩
    · exact h1
    · rw [setVal_eq]
      exact h1.step_pt fun x hx => (updLeaves_pages_new _ _ _ pt x hx).imp_right (·.2)

/-! ### the catalog description after a flush -/

/-- the table list with every page marked clean: the description of the user tables after a flush -/
def cleanT (tbls : List (Bytes × Levels)) : List (Bytes × Levels) := tbls.map fun e => (e.1, clean e.2)

theorem PageLsn.clean {x : Levels} {page lsn : Nat} (h : PageLsn x page lsn) : PageLsn (clean x) page lsn := by
  obtain ⟨e, he, hp, hl⟩ := h
  exact ⟨_, mem_flatten_clean.mpr ⟨e, he, rfl⟩, hp, hl⟩

theorem AppliedC.clean {pt sch : Levels} {tbls : List (Bytes × Levels)} {r : WalRec}
    (ha : AppliedC pt sch tbls r) : AppliedC (clean pt) (clean sch) (cleanT tbls) r := by
  rcases ha with ⟨x, hx, hpl⟩ | ⟨hop, tb, tr, hm, hpg, hkey⟩
  · left
    refine ⟨Mkdb.Store.clean x, ?_, hpl.clean⟩
    unfold cleanT
    rw [catTrees_clean]
    exact List.mem_map.mpr ⟨x, hx, rfl⟩
  · right
    refine ⟨hop, tb, Mkdb.Store.clean tr, List.mem_map.mpr ⟨(tb, tr), hm, rfl⟩, ?_, ?_⟩
    · rw [rootOff_clean]; exact hpg
    · rw [keys_clean]; exact hkey

theorem PtSelf.clean {pt : Levels} (h : PtSelf pt) : PtSelf (clean pt) := by
  intro off hm
  rw [ptEntries_clean] at hm
  rw [offs_clean]
  exact h off hm

theorem FreshM.clean {s s' : Store} {tbls : List (Bytes × Levels)} (hf : FreshM s tbls)
    (h1 : s.hdr.nextLSN ≤ s'.hdr.nextLSN) (h2 : s.hdr.nextFree ≤ s'.hdr.nextFree) : FreshM s' (cleanT tbls) := by
  refine ⟨?_, Nat.lt_of_lt_of_le hf.nf h2, ?_⟩
  · intro e he x hx
    obtain ⟨e0, he0, rfl⟩ := List.mem_map.mp he
    obtain ⟨x0, hx0, rfl⟩ := mem_flatten_clean.mp hx
    exact Nat.lt_of_lt_of_le (hf.lsn e0 he0 x0 hx0) h1
  · intro e he o ho
    obtain ⟨e0, he0, rfl⟩ := List.mem_map.mp he
    simp only [offs_clean] at ho
    exact hf.pos e0 he0 o ho

theorem clean_eq_self {t : Levels} (h : ∀ e ∈ flatten t, e.2.2 = false) : Mkdb.Store.clean t = t := by
  obtain ⟨leaves, inner⟩ := t
  unfold Mkdb.Store.clean
  simp only [Levels.mk.injEq]
  constructor
  · conv => rhs; rw [← List.map_id leaves]
    apply List.map_congr_left
    intro p hp
    have := h _ (mem_flatten.mpr (.inl ⟨p, hp, rfl⟩))
    simp only at this
    rw [← this]
    rfl
  · conv => rhs; rw [← List.map_id inner]
    apply List.map_congr_left
    intro lvl hl
    conv => rhs; rw [id, ← List.map_id lvl]
    apply List.map_congr_left
    intro p hp
    have := h _ (mem_flatten.mpr (.inr ⟨lvl, hl, p, hp, rfl⟩))
    simp only at this
    rw [← this]
    rfl

/-! ### `Cat` on another store -/

theorem Cat.of_holds {s s' : Store} {pt sch : Levels} {tbls : List (Bytes × Levels)} (h : Cat s pt sch tbls)
    (hH : ∀ x ∈ catTrees pt sch tbls, Holds s' x) (hh : s'.hdr = s.hdr) : Cat s' pt sch tbls :=
  h.frame hH (by rw [hh]) (by rw [hh]) (by rw [hh]; exact Nat.le_refl _)

end Mkdb.Store
end
