import Mkdb.Proofs.CatSelf
import Mkdb.Proofs.SessInvHistory
/-!
C18, the two catalog tables: histories from CREATE DATABASE, and sessions - a SELECT over ANY tables never crashes.

Two parts: (1) histories on one database (`Rel.accepted_self`, `runHist_self`); (2) sessions: `SessSelf`, and the
`…Any` family (`StmtSideAny`, `SessOKAny`, `PlainAny`, `SessInvAny`, `exec_sessAbs_any`, …), which is the family of
`SessInv` / `SessInvHistory` with `SessSelf` carried along and the condition `UserTables` on a SELECT dropped.  The
`…Any` form is the stronger one; the other is kept because FIXED statements (C17, the first half of C18) are stated
with it.
-/

section
/-!
**histories of statements from `CREATE DATABASE`** (the setting
of `from_create_database_history`: the relation `Rel`, each statement accepted by the plain model with room
or refused before a change - `HistOK`).  An accepted statement keeps `CatSelf` (`Rel.accepted_self`), so the
history induction `runHist_carries` carries it along, and after any such history a SELECT over ANY tables
never panics.
-/
set_option autoImplicit false
namespace Mkdb.Store
open Mkdb.Page Mkdb.Tuple Mkdb.Generated Mkdb.Tree Mkdb.Engine Mkdb.Exec Mkdb.Exec.TypedP Mkdb.Sql

theorem Rel.accepted_self {db : Engine.DB} {sdb : Spec.SDB} {pt sch : Levels} {tbls : List (Bytes × Levels)}
    (h : Rel db pt sch tbls sdb) (hs : CatSelf pt sch) (order : List Nat) (st : Sql.Stmt)
    (hroom : StmtRoom db pt sch tbls st) (sdb' : Spec.SDB) (hspec : Spec.specStmt sdb st = some sdb') :
    ∀ db1, evalStmt db order st = .ok () db1 → SelfOK db1 := fun db1 e1 => by
  obtain ⟨hnames, hroomT, hlits⟩ := hroom.accepted_side h.1 hspec
  exact evalStmt_keeps_self_abs db order sdb pt sch tbls h.1 h.2.2 hs st hnames hroomT hlits db1 (.inl e1)

/-- **Every history keeps `CatSelf`** (`runHist_carries` at `CatSelf`): from related states whose catalog
describes itself, through any list of statements each of which the plain model accepts (with room) or
refuses before a change, the engine model ends related to the plain database the history implies, under a
catalog description that satisfies `CatSelf`. -/
theorem runHist_self (order : List Nat) (sts : List Sql.Stmt) :
    ∀ (db : Engine.DB) (pt sch : Levels) (tbls : List (Bytes × Levels)) (sdb : Spec.SDB),
      Rel db pt sch tbls sdb → CatSelf pt sch → HistOK order sts db sdb →
      ∃ db' pt' sch' tbls', runHist order db sts = some db' ∧ Rel db' pt' sch' tbls' (specHist sdb sts) ∧
        CatSelf pt' sch' :=
  runHist_carries CatSelf order (fun h hs hroom hspec he hrel' => by
    obtain ⟨_, habs', _⟩ := hrel'.1
    exact h.accepted_self hs order _ hroom _ hspec _ he _ _ _ habs'.cat) sts

/-- **After any history of statements from `CREATE DATABASE`** (each accepted with room or refused before a
change: `HistOK`), a SELECT of a parser-produced shape over ANY tables never panics. -/
theorem history_select_never_panics_any (sts : List Sql.Stmt) (hok : HistOK [] sts newDB []) :
    ∃ db', runHist [] newDB sts = some db' ∧ ∀ q : Select,
      (Exec.NoPanicP.ParsedShape q) →
      (∀ n ∈ selectNames q, FetchTotal db' n) ∧ ∀ s, evaluateSelect (fetchOf db') q ≠ .panic s := by
  obtain ⟨db', pt', sch', tbls', hrun, hrel, hs⟩ := runHist_self [] sts newDB ptNew schNew [] [] rel_newDB catSelf_new hok
  refine ⟨db', hrun, fun q hq => ?_⟩
  obtain ⟨h1, h2, _⟩ := select_never_panics_self hrel.1 hs q hq
  exact ⟨h1, h2⟩

end Mkdb.Store
end

section
/-!
`SessSelf s`: every database of the session has a catalog that describes itself (`SelfOK`).  `Session.exec`
keeps it (CREATE DATABASE installs `newDB`; USE flushes and re-opens the database it leaves; a routed
statement: `evalStmt_keeps_self`), so the side conditions of `SessInv`,
`SessInvHistory` are repeated with the condition of a SELECT reduced to the parser shape - without
`UserTables` - and every statement, a SELECT that reads `sys_pages` or `sys_schema` included, keeps
`SessAbs` and `SessSelf` and does not return `Out.panic`.
-/
set_option autoImplicit false
namespace Mkdb.Session
open Mkdb.Engine Mkdb.Store Mkdb.Sql Mkdb.Tree

def SessSelf (s : Sess) : Prop := ∀ p ∈ s.dbs, SelfOK p.2

def SelectShape : Sql.Stmt → Prop
  | .select q => Exec.NoPanicP.ParsedShape q
  | _ => True

/-- `StmtSide` with `SelectSide` reduced to `SelectShape`: the FROM clause of a SELECT may name any table -/
def StmtSideAny (s : Sess) (st : Sql.Stmt) : Prop :=
  ∀ n db, s.cur = some n → getDB s n = some db → ∀ sdb pt sch tbls, DbInv db sdb pt sch tbls →
    StmtNames pt tbls st ∧ StmtRoomT db pt sch tbls st ∧ StmtLits st ∧ SelectShape st

theorem StmtSideAny.side {s : Sess} {st : Sql.Stmt} (h : StmtSideAny s st) (hns : ∀ q, st ≠ .select q) :
    StmtSide s st := by
  intro n db hc hg sdb pt sch tbls hi
  obtain ⟨h1, h2, h3, _⟩ := h n db hc hg sdb pt sch tbls hi
  refine ⟨h1, h2, h3, ?_⟩
  cases st with
  | select q => exact absurd rfl (hns q)
  | _ => trivial

theorem StmtSide.any {s : Sess} {st : Sql.Stmt} (h : StmtSide s st) : StmtSideAny s st := by
  intro n db hc hg sdb pt sch tbls hi
  obtain ⟨h1, h2, h3, h4⟩ := h n db hc hg sdb pt sch tbls hi
  refine ⟨h1, h2, h3, ?_⟩
  cases st with
  | select q => exact h4.1
  | _ => trivial

theorem sessSelf_empty : SessSelf {} := fun _ hp => absurd hp List.not_mem_nil

/-! ### `Session.exec` keeps `SessSelf` -/

theorem exec_sessSelf {s : Sess} {w : String → Spec.SDB} (h : SessAbs s w) (hself : SessSelf s) (st : Sql.Stmt)
    (hside : StmtSideAny s st) : SessSelf (exec s st).1 := by
  refine exec_pointwise st hself selfOK_newDB (fun p hp hc db' hf => ?_) (fun p hp hc db' hr => ?_)
  · obtain ⟨pt, sch, tbls, hi, _⟩ := h.dbs p hp
    have hs := (hself p hp).flush hi hf
    rw [flush_flushed] at hf
    cases hf
    exact hs.reopen (hi.flushed [])
  · obtain ⟨pt, sch, tbls, hi, _⟩ := h.dbs p hp
    obtain ⟨hnames, hroom, hlits, _⟩ := hside p.1 p.2 hc (mem_getDB h.nodup hp) _ pt sch tbls hi
    exact evalStmt_keeps_self p.2 [] _ pt sch tbls hi ((hself p hp).catSelf hi) st hnames hroom hlits db' hr

/-! ### SELECT over any tables -/

/-- **SELECT keeps the session as it is and does not return `Out.panic`** - whatever tables its FROM
clause names: the evaluation runs on a database with `DbInv` and `SelfOK`, where
`select_never_panics_self` applies. -/
theorem select_sessAbs_any {s : Sess} {w : String → Spec.SDB} (h : SessAbs s w) (hself : SessSelf s) (q : Sql.Select)
    (hside : StmtSideAny s (.select q)) :
    (exec s (.select q)).1 = s ∧ (exec s (.select q)).2 ≠ .panic :=
  exec_select_no_panic h.cur q fun n db hc hg => by
    obtain ⟨pt, sch, tbls, hi⟩ := h.cur_inv hg
    obtain ⟨_, _, _, hq⟩ := hside n db hc hg _ pt sch tbls hi
    exact (select_never_panics_self hi.abs ((hself _ (getDB_mem hg)).catSelf hi) q hq).2.1

/-- **`Session.exec` keeps `SessAbs` and `SessSelf`, and never returns `Out.panic`** - `exec_sessAbs`
without `UserTables`. -/
theorem exec_sessAbs_any {s : Sess} {w : String → Spec.SDB} (h : SessAbs s w) (hself : SessSelf s) (st : Sql.Stmt)
    (hside : StmtSideAny s st) :
    ∃ w', SessAbs (exec s st).1 w' ∧ SessSelf (exec s st).1 ∧ (exec s st).2 ≠ .panic ∧
      ∀ m, s.cur ≠ some m → (getDB s m).isSome = true → w' m = w m := by
  have hs' := exec_sessSelf h hself st hside
  by_cases hsel : ∃ q, st = .select q
  · obtain ⟨q, rfl⟩ := hsel
    obtain ⟨h1, h2⟩ := select_sessAbs_any h hself q hside
    exact ⟨w, by rw [h1]; exact h, hs', h2, fun _ _ _ => rfl⟩
  · obtain ⟨w', h1, h2, h3⟩ := exec_sessAbs h st (hside.side (fun q hq => hsel ⟨q, hq⟩))
    exact ⟨w', h1, hs', h2, h3⟩

/-! ### histories -/

def SessOKAny : Sess → List Sql.Stmt → Prop
  | _, [] => True
  | s, st :: rest => StmtSideAny s st ∧ SessOKAny (exec s st).1 rest

theorem SessOK.any : ∀ (sts : List Sql.Stmt) (s : Sess), SessOK s sts → SessOKAny s sts
  | [], _, _ => trivial
  | _ :: rest, _, h => ⟨h.1.any, SessOK.any rest _ h.2⟩

theorem runAll_sessAbs_any (sts : List Sql.Stmt) (s : Sess) (w : String → Spec.SDB) (h : SessAbs s w)
    (hs : SessSelf s) (hok : SessOKAny s sts) :
    (∃ w', SessAbs (runAll s sts).1 w') ∧ SessSelf (runAll s sts).1 ∧ ∀ o ∈ (runAll s sts).2, o ≠ Out.panic := by
  obtain ⟨⟨h1, h2⟩, h3⟩ := runAll_keeps (J := fun s => (∃ w, SessAbs s w) ∧ SessSelf s) (Ok := SessOKAny)
    (fun ⟨⟨_, h⟩, hs⟩ ok => by
      obtain ⟨w1, h1, hs1, hnp, _⟩ := exec_sessAbs_any h hs _ ok.1
      exact ⟨⟨⟨w1, h1⟩, hs1⟩, hnp, ok.2⟩) sts s ⟨⟨w, h⟩, hs⟩ hok
  exact ⟨h1, h2, h3⟩

/-- statements whose side conditions `StmtSideAny` hold in every session state: `Plain` with the
condition of a SELECT reduced to the parser shape -/
def PlainAny : Sql.Stmt → Prop
  | .createDatabase _ | .use _ | .showDatabases => True
  | .select q => Exec.NoPanicP.ParsedShape q
  | .delete t _ => t ≠ sysPages ∧ t ≠ sysSchema
  | .update t sets _ => (t ≠ sysPages ∧ t ≠ sysSchema) ∧ ∀ p ∈ sets, ∀ l, p.2 = .lit l → Tuple.ValidVal (Engine.litToVal l)
  | _ => False

theorem stmtSideAny_plain (s : Sess) (st : Sql.Stmt) (h : PlainAny st) : StmtSideAny s st := by
  cases st with
  | select q => exact fun _ _ _ _ _ _ _ _ _ => ⟨trivial, trivial, trivial, h⟩
  | _ => exact StmtSide.any (stmtSide_plain s _ h)

theorem sessOKAny_plain : ∀ (sts : List Sql.Stmt) (s : Sess), (∀ st ∈ sts, PlainAny st) → SessOKAny s sts
  | [], _, _ => trivial
  | st :: rest, s, h => ⟨stmtSideAny_plain s st (h st List.mem_cons_self),
      sessOKAny_plain rest _ (fun st' hst => h st' (List.mem_cons_of_mem _ hst))⟩

/-- the invariant of a session with the catalogs' self-description: `SessInv` and `SessSelf` -/
def SessInvAny (s : Sess) : Prop := (∃ w, SessAbs s w) ∧ SessSelf s

theorem SessInvAny.inv {s : Sess} (h : SessInvAny s) : SessInv s := h.1

theorem sessInvAny_empty : SessInvAny {} := ⟨⟨fun _ => [], sessAbs_empty _⟩, sessSelf_empty⟩

theorem sessInvAny_select_never_panics {s : Sess} (h : SessInvAny s) : ∀ p ∈ s.dbs, ∀ q : Select,
    (Exec.NoPanicP.ParsedShape q) →
    (∀ n ∈ selectNames q, FetchTotal p.2 n) ∧ ∀ x, Exec.evaluateSelect (fetchOf p.2) q ≠ .panic x := by
  obtain ⟨⟨w, hw⟩, hs⟩ := h
  intro p hp q hq
  obtain ⟨pt, sch, tbls, hi, _⟩ := hw.dbs p hp
  obtain ⟨h1, h2, _⟩ := select_never_panics_self hi.abs ((hs p hp).catSelf hi) q hq
  exact ⟨h1, h2⟩

theorem sessInvAny_sessT : SessInvAny sessT :=
  ⟨⟨_, sessAbs_sessT⟩, fun p hp => by
    simp only [sessT, List.mem_singleton] at hp
    subst hp
    exact selfOK_tableDB⟩

end Mkdb.Session
end
