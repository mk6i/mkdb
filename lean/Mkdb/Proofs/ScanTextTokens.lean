import Mkdb.Proofs.ScanTextPieces
/-!
# The scanner on text in standard form: writing a token as text

A token is written as a piece (`pieceOf`), a keyword in a letter case chosen per occurrence.  A token
the text level covers (`TokOK`) is written as a well-formed piece that scans back to a token of the same
type - to the token itself when the type is IDENT, INT or STR (`pieceOf_spec`).
-/
namespace Mkdb.Scan
open Mkdb.Generated

def caseOf (low : Bool) (c : Nat) : Nat := if low && (65 ≤ c && c ≤ 90) then c + 32 else c

/-- `codes` with the `i`-th letter in lower case when the `i`-th entry of `cs` is `true`
(upper case where `cs` has run out) -/
def spell : List Bool → List Nat → List Nat
  | _, [] => []
  | [], c :: rest => c :: spell [] rest
  | b :: cs, c :: rest => caseOf b c :: spell cs rest

/-- the spelling consists of upper-case letters: a word keyword (not an operator or punctuation) -/
def isWordKw (codes : List Nat) : Bool := codes.all fun c => 65 ≤ c && c ≤ 90

theorem spell_cons (cs : List Bool) (c : Nat) (rest : List Nat) :
    spell cs (c :: rest) = caseOf (cs.headD false) c :: spell cs.tail rest := by
  cases cs <;> rfl

theorem caseOf_letter (b : Bool) (c : Nat) (h : 65 ≤ c ∧ c ≤ 90) :
    asciiUpper (caseOf b c) = c ∧ asciiLetter (caseOf b c) = true := by
  unfold caseOf asciiUpper asciiLetter
  simp only [Bool.and_eq_true, Bool.or_eq_true, decide_eq_true_eq]
  repeat' split
  all_goals omega

theorem spell_word (codes : List Nat) (h : isWordKw codes = true) : ∀ cs,
    (spell cs codes).map asciiUpper = codes ∧ ∀ d ∈ spell cs codes, asciiLetter d = true := by
  induction codes with
  | nil => intro cs; cases cs <;> exact ⟨rfl, nofun⟩
  | cons c rest ih =>
    intro cs
    simp only [isWordKw, List.all_cons, Bool.and_eq_true, decide_eq_true_eq] at h
    obtain ⟨hu, hl⟩ := caseOf_letter (cs.headD false) c h.1
    obtain ⟨ih1, ih2⟩ := ih h.2 cs.tail
    rw [spell_cons, List.map_cons, hu, ih1]
    refine ⟨rfl, fun d hd => ?_⟩
    rcases List.mem_cons.mp hd with rfl | hd
    · exact hl
    · exact ih2 d hd

/-- The token `t` as it is written, keywords in the letter case `cs` chooses.  IDENT and INT are written
as their text, STR as `'text'`; every other token type is looked up in the keyword table. -/
def pieceOf (cs : List Bool) (t : Token) : Piece :=
  if t.ty == t_IDENT then .word (t.text.map fun b => asciiRune b.toNat)
  else if t.ty == t_INT then .int (t.text.map (·.toNat))
  else if t.ty == t_STR then .str (t.text.map fun b => asciiRune b.toNat)
  else match kwTable.find? (fun e => e.2 == t.ty) with
    | some (codes, _) =>
      if isWordKw codes then .word ((spell cs codes).map asciiRune)
      else match codes with
        | [c] => .punct c
        | c :: _ => .op2 c
        | [] => .punct 0
    | none => .punct 0

/-- the runes of a token as written -/
def tokRunes (cs : List Bool) (t : Token) : Input := (pieceOf cs t).runes

/-- the token the scanner reports for the written token -/
def scannedTok (cs : List Bool) (t : Token) : Token := (pieceOf cs t).tok

def isIdentStart (c : Nat) : Bool := c == 95 || asciiLetter c
def isIdentPart (c : Nat) : Bool := c == 95 || asciiLetter c || isDecimal c

/-- Tokens the text level covers (decidable):
* IDENT: the text is `[A-Za-z_][A-Za-z0-9_]*` and its upper-casing is not a keyword;
* INT: the text is a non-empty string of decimal digits (leading zeros allowed);
* STR: the text is ASCII and a body the scanner reads up to the closing quote (`strBodyOK`; in
  particular every ASCII text without `'`, backslash and line feed);
* any type of the keyword table (reserved words, `! * = > < ( ) , . ;`, `!= <= >=`), whatever its text.
Not covered: EOF, ILLEGAL and the marker values, which the scanner never produces from such text. -/
def TokOK (t : Token) : Bool :=
  if t.ty == t_IDENT then
    match t.text with
    | [] => false
    | b :: rest => isIdentStart b.toNat && rest.all (fun b => isIdentPart b.toNat) &&
        (keywordOf (t.text.map fun b => asciiUpper b.toNat)).isNone
  else if t.ty == t_INT then !t.text.isEmpty && t.text.all (fun b => isDecimal b.toNat)
  else if t.ty == t_STR then
    t.text.all (fun b => decide (b.toNat < 128)) && strBodyOK (t.text.map fun b => asciiRune b.toNat)
  else kwTable.any (fun e => e.2 == t.ty)

theorem kwTable_find (ty : Int) (e : List Nat × Int) (h : kwTable.find? (fun e => e.2 == ty) = some e) :
    e ∈ kwTable ∧ e.2 = ty := by
  refine ⟨List.mem_of_find?_eq_some h, ?_⟩
  have := List.find?_some h
  simpa using this

/-- a table entry that is not a word: one of the ten characters, or `!= <= >=` -/
def opShape (codes : List Nat) (k : Int) : Bool :=
  match codes with
  | [c] => punctCodes.contains c && punctTy c == k
  | c :: _ => (c == 33 || c == 60 || c == 62) && (if c == 33 then t_NEQ else if c == 62 then t_GTE else t_LTE) == k
  | [] => false

theorem kwTable_shape : ∀ e ∈ kwTable, e.1 ≠ [] ∧ (isWordKw e.1 = false → opShape e.1 e.2 = true) := by
  simp only [opShape, punctTy, keywordOf_eq]
  decide +kernel

theorem isIdentPart_rune (c : Nat) (h : isIdentPart c = true) : isIdentRune (asciiRune c) false = true := by
  simpa [isIdentRune, isIdentPart, Bool.or_assoc] using h

theorem isIdentStart_rune (c : Nat) (h : isIdentStart c = true) :
    isIdentRune (asciiRune c) true = true ∧ isWs c = false ∧ (c == 0xFEFF) = false := by
  simp only [isIdentStart, asciiLetter, Bool.or_eq_true, beq_iff_eq, Bool.and_eq_true, decide_eq_true_eq] at h
  refine ⟨?_, ?_, ?_⟩
  · simp only [isIdentRune, asciiRune_code, asciiRune_letter, asciiLetter, Bool.not_true, Bool.and_false, Bool.or_false,
      Bool.or_eq_true, beq_iff_eq, Bool.and_eq_true, decide_eq_true_eq]
    exact h
  · simp only [isWs, Bool.or_eq_false_iff, beq_eq_false_iff_ne]; omega
  · simp only [beq_eq_false_iff_ne]; omega

theorem asciiLetter_start (c : Nat) (h : asciiLetter c = true) : isIdentStart c = true ∧ isIdentPart c = true := by
  simp [isIdentStart, isIdentPart, h]

/-- an ASCII word `[A-Za-z_][A-Za-z0-9_]*` is a well-formed piece -/
theorem Piece.ok_asciiWord {α} (f : α → Nat) (c : α) (rest : List α) (hc : isIdentStart (f c) = true)
    (hrest : ∀ a ∈ rest, isIdentPart (f a) = true) :
    (Piece.word ((c :: rest).map fun a => asciiRune (f a))).ok = true := by
  obtain ⟨h1, h2, h3⟩ := isIdentStart_rune _ hc
  simp only [List.map_cons, Piece.ok, h1, asciiRune_code, h2, h3, Bool.not_false, Bool.and_true, Bool.true_and,
    List.all_eq_true, List.mem_map, forall_exists_index, and_imp, forall_apply_eq_imp_iff₂]
  exact fun a ha => isIdentPart_rune _ (hrest a ha)

theorem spell_word_ok (cs : List Bool) (codes : List Nat) (hne : codes ≠ []) (hw : isWordKw codes = true) :
    (Piece.word ((spell cs codes).map asciiRune)).ok = true ∧
      upperCodes ((spell cs codes).map asciiRune) = codes := by
  obtain ⟨hup, hlet⟩ := spell_word codes hw cs
  refine ⟨?_, by rw [upperCodes_ascii, hup]⟩
  cases codes with
  | nil => exact absurd rfl hne
  | cons c rest =>
    rw [spell_cons] at hlet ⊢
    exact Piece.ok_asciiWord id _ _ (asciiLetter_start _ (hlet _ (List.mem_cons_self ..))).1
      fun a ha => (asciiLetter_start a (hlet a (List.mem_cons_of_mem _ ha))).2

/-- token types whose text the scanner takes from the source (and the parser reads) -/
def textualTy (ty : Int) : Bool := ty == t_IDENT || ty == t_INT || ty == t_STR

theorem ofNat_toNat_map (bs : Bytes) : (bs.map (·.toNat)).map UInt8.ofNat = bs := by
  induction bs with
  | nil => rfl
  | cons b bs ih => simp only [List.map_cons, ih, UInt8.ofNat_toNat]

/-- How a covered token is written: the cases of `pieceOf` on the tokens `TokOK` accepts. -/
inductive Written (cs : List Bool) : Token → Piece → Prop
  | ident (b : UInt8) (rest : Bytes) (hb : isIdentStart b.toNat = true) (hrest : ∀ x ∈ rest, isIdentPart x.toNat = true)
      (hkw : keywordOf ((b :: rest).map fun b => asciiUpper b.toNat) = none) :
      Written cs ⟨t_IDENT, b :: rest⟩ (.word ((b :: rest).map fun b => asciiRune b.toNat))
  | int (b : UInt8) (rest : Bytes) (hb : isDecimal b.toNat = true) (hrest : ∀ x ∈ rest, isDecimal x.toNat = true) :
      Written cs ⟨t_INT, b :: rest⟩ (.int ((b :: rest).map (·.toNat)))
  | str (text : Bytes) (hb : strBodyOK (text.map fun b => asciiRune b.toNat) = true) :
      Written cs ⟨t_STR, text⟩ (.str (text.map fun b => asciiRune b.toNat))
  | kw (codes : List Nat) (k : Int) (text : Bytes) (hk : (codes, k) ∈ kwTable) (hw : isWordKw codes = true) :
      Written cs ⟨k, text⟩ (.word ((spell cs codes).map asciiRune))
  | punct (c : Nat) (text : Bytes) (hc : punctCodes.contains c = true) : Written cs ⟨punctTy c, text⟩ (.punct c)
  | op2 (c : Nat) (text : Bytes) (hc : (c == 33 || c == 60 || c == 62) = true) :
      Written cs ⟨if c == 33 then t_NEQ else if c == 62 then t_GTE else t_LTE, text⟩ (.op2 c)

theorem kwTable_textual : ∀ e ∈ kwTable, textualTy e.2 = false := by decide

theorem kwTable_ty (e : List Nat × Int) (he : e ∈ kwTable) : e.2 ≠ t_IDENT ∧ e.2 ≠ t_INT ∧ e.2 ≠ t_STR := by
  simpa [textualTy, and_assoc] using kwTable_textual e he

theorem keywordOf_textual {up : List Nat} {k : Int} (h : keywordOf up = some k) : textualTy k = false :=
  kwTable_textual (up, k) (keywordOf_mem up k h)

theorem keywordOf_ne_ident {up : List Nat} {k : Int} (h : keywordOf up = some k) : k ≠ t_IDENT :=
  (kwTable_ty _ (keywordOf_mem up k h)).1

theorem pieceOf_written (cs : List Bool) (t : Token) (h : TokOK t = true) : Written cs t (pieceOf cs t) := by
  obtain ⟨ty, text⟩ := t
  unfold TokOK at h
  unfold pieceOf
  simp only [] at h ⊢
  by_cases h0 : (ty == t_IDENT) = true
  · obtain rfl : ty = t_IDENT := by simpa using h0
    rw [if_pos h0] at h ⊢
    cases text with
    | nil => simp at h
    | cons b rest =>
      simp only [Bool.and_eq_true, List.all_eq_true, Option.isNone_iff_eq_none] at h
      exact .ident b rest h.1.1 h.1.2 h.2
  rw [if_neg h0] at h ⊢
  by_cases h1 : (ty == t_INT) = true
  · obtain rfl : ty = t_INT := by simpa using h1
    rw [if_pos h1] at h ⊢
    cases text with
    | nil => simp at h
    | cons b rest =>
      simp only [List.isEmpty_cons, Bool.not_false, List.all_cons, Bool.true_and, Bool.and_eq_true, List.all_eq_true] at h
      exact .int b rest h.1 h.2
  rw [if_neg h1] at h ⊢
  by_cases h2 : (ty == t_STR) = true
  · obtain rfl : ty = t_STR := by simpa using h2
    rw [if_pos h2] at h ⊢
    simp only [Bool.and_eq_true] at h
    exact .str text h.2
  rw [if_neg h2] at h ⊢
  cases hf : kwTable.find? (fun e => e.2 == ty) with
  | none =>
    rw [List.any_eq_true] at h
    obtain ⟨e, he, hty⟩ := h
    exact absurd hty (List.find?_eq_none.mp hf e he)
  | some e =>
    obtain ⟨codes, k⟩ := e
    obtain ⟨hmem, hk⟩ := kwTable_find _ _ hf
    simp only [] at hk ⊢
    subst hk
    by_cases hw : isWordKw codes = true
    · rw [if_pos hw]; exact .kw codes k text hmem hw
    · rw [if_neg hw]
      have hs := (kwTable_shape _ hmem).2 (by simpa using hw)
      match codes, hs with
      | [c], hs =>
        simp only [opShape, Bool.and_eq_true] at hs
        rw [← eq_of_beq hs.2]; exact .punct c text hs.1
      | c :: _ :: _, hs =>
        simp only [opShape, Bool.and_eq_true] at hs
        rw [← eq_of_beq hs.2]; exact .op2 c text hs.1

theorem Written.spec {cs : List Bool} {t : Token} {p : Piece} (h : Written cs t p) :
    p.ok = true ∧ p.tok.ty = t.ty ∧ (textualTy t.ty = true → p.tok = t) := by
  cases h with
  | ident b rest hb hrest hkw =>
    simp only [Piece.tok, textOf_bytes, upperCodes_bytes, hkw, implies_true, and_true]
    exact Piece.ok_asciiWord UInt8.toNat b rest hb hrest
  | int b rest hb hrest =>
    simp only [Piece.tok, ofNat_toNat_map, implies_true, and_true]
    simp only [List.map_cons, Piece.ok, hb, Bool.true_and, List.all_eq_true, List.mem_map, forall_exists_index, and_imp,
      forall_apply_eq_imp_iff₂]
    exact hrest
  | str text hb => simp only [Piece.tok, textOf_bytes, implies_true, and_true, Piece.ok]; exact hb
  | kw codes k text hk hw =>
    obtain ⟨hok, hup⟩ := spell_word_ok cs codes (kwTable_shape _ hk).1 hw
    have := keywordOf_table _ hk
    simp only [] at this
    simp only [Piece.tok, hup, this, kwTable_textual _ hk, Bool.false_eq_true, false_implies, and_true]
    exact hok
  | punct c text hc =>
    have ht := keywordOf_textual (punct_facts c (by simpa using hc)).2.2.2.2.1
    simp only [Piece.tok, Piece.ok, hc, ht, Bool.false_eq_true, false_implies, and_self]
  | op2 c text hc =>
    have : textualTy (if c == 33 then t_NEQ else if c == 62 then t_GTE else t_LTE) = false := by
      split
      · rfl
      · split <;> rfl
    simp only [Piece.tok, Piece.ok, hc, this, Bool.false_eq_true, false_implies, and_self]

theorem pieceOf_spec (cs : List Bool) (t : Token) (h : TokOK t = true) :
    (pieceOf cs t).ok = true ∧ (pieceOf cs t).tok.ty = t.ty ∧
      (textualTy t.ty = true → (pieceOf cs t).tok = t) :=
  (pieceOf_written cs t h).spec

theorem pieceOf_ok (cs : List Bool) (t : Token) (h : TokOK t = true) : (pieceOf cs t).ok = true :=
  (pieceOf_spec cs t h).1

end Mkdb.Scan
