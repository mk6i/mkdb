import Mkdb.Proofs.ScanTextKeywords
import Mkdb.Proofs.ScanTextLoops
/-!
# The scanner on text in standard form: written tokens (`Piece`)

A `Piece` is one token as it is written in the text.  For each kind `scanTok` reads exactly the
runes of the piece provided the next rune lets it end there (`Piece.stop`): `scanTok_*`; and the token
loop makes the piece's token of them: `tokenOf_*`.
-/
namespace Mkdb.Scan
open Mkdb.Generated

def punctTy (c : Nat) : Int :=
  match keywordOf [c] with | some k => k | none => t_STR

/-- One token as written in the text.  The scanner reads more than these: `"delimited"` identifiers,
back-quoted strings, floats, integers with a base prefix (`0x`, `0o`, `0b`) or `_`, and any other
character as a token of its own (`-`, `+`); none of them is a piece, and nothing is proved of a text that
contains one (what some of them scan to: the examples at the end of `Props/C10Text`). -/
inductive Piece where
  /-- a word: identifier or keyword, any identifier runes (ASCII or not) -/
  | word (rs : Input)
  /-- a decimal integer, given by the codes of its digits -/
  | int (ds : List Nat)
  /-- `'body'` -/
  | str (body : Input)
  /-- one of `! ( ) * , . ; < = >` -/
  | punct (c : Nat)
  /-- `!=`, `<=`, `>=`: the first character `c`, immediately followed by `=` -/
  | op2 (c : Nat)

def Piece.runes : Piece → Input
  | .word rs => rs
  | .int ds => ds.map asciiRune
  | .str body => asciiRune 39 :: body ++ [asciiRune 39]
  | .punct c => [asciiRune c]
  | .op2 c => [asciiRune c, asciiRune 61]

/-- The body of a `'...'` literal the scanner accepts: read by `scanString` (with all its escape
handling) the closing quote written behind the body is where the literal ends, and `unquote` does not
see an odd number of backslashes before that quote.  This is the exact condition; `strBodyOK_plain` is
the simple sufficient one (no `'`, no backslash, no line feed). -/
def strBodyOK (body : Input) : Bool :=
  decide (scanStringBody 39 .normal (body ++ [asciiRune 39]) = (true, [asciiRune 39])) &&
    trailingBackslashes (textOf body) % 2 == 0

/-- Well-formed written token (decidable).  A word starts with a letter or `_` and goes on with letters,
digits, `_` (the first rune is not U+FEFF, which `dropBOM` would remove at the start of the text, and no
whitespace code is classified as a letter); an integer is a non-empty string of decimal digits; a
string body is one the scanner reads up to the closing quote (`strBodyOK`). -/
def Piece.ok : Piece → Bool
  | .word [] => false
  | .word (r :: w) => isIdentRune r true && w.all (isIdentRune · false) && !isWs r.code && !(r.code == 0xFEFF)
  | .int [] => false
  | .int (d :: ds) => isDecimal d && ds.all isDecimal
  | .str body => strBodyOK body
  | .punct c => punctCodes.contains c
  | .op2 c => c == 33 || c == 60 || c == 62

/-- The forms of a well-formed piece: `Piece.ok` as an inversion principle (`Piece.ok_inv`). -/
inductive Piece.OK : Piece → Prop
  | word (r : Rune) (w : Input) (hr : isIdentRune r true = true) (hw : ∀ x ∈ w, isIdentRune x false = true)
      (hws : isWs r.code = false) (hbom : (r.code == 0xFEFF) = false) : OK (.word (r :: w))
  | int (d : Nat) (ds : List Nat) (hd : isDecimal d = true) (hds : ∀ c ∈ ds, isDecimal c = true) :
      OK (.int (d :: ds))
  | str (body : Input) (hb : strBodyOK body = true) : OK (.str body)
  | punct (c : Nat) (hc : c ∈ punctCodes) : OK (.punct c)
  | op2 (c : Nat) (hc : (c == 33 || c == 60 || c == 62) = true) : OK (.op2 c)

theorem Piece.ok_inv {p : Piece} (h : p.ok = true) : p.OK := by
  cases p with
  | word rs =>
    cases rs with
    | nil => simp [Piece.ok] at h
    | cons r w =>
      simp only [Piece.ok, Bool.and_eq_true, Bool.not_eq_true', List.all_eq_true] at h
      exact .word r w h.1.1.1 h.1.1.2 h.1.2 h.2
  | int ds =>
    cases ds with
    | nil => simp [Piece.ok] at h
    | cons d ds =>
      simp only [Piece.ok, Bool.and_eq_true, List.all_eq_true] at h
      exact .int d ds h.1 h.2
  | str body => exact .str body h
  | punct c => exact .punct c (by simpa [Piece.ok] using h)
  | op2 c => exact .op2 c h

/-- The token the scanner reports for the piece. -/
def Piece.tok : Piece → Token
  | .word rs => ⟨match keywordOf (upperCodes rs) with | some k => k | none => t_IDENT, textOf rs⟩
  | .int ds => ⟨t_INT, ds.map UInt8.ofNat⟩
  | .str body => ⟨t_STR, textOf body⟩
  | .punct c => ⟨punctTy c, [UInt8.ofNat c]⟩
  | .op2 c => ⟨if c == 33 then t_NEQ else if c == 62 then t_GTE else t_LTE, [UInt8.ofNat c]⟩

/-- What the rune behind the piece must satisfy so that the piece ends there.  A word: not an
identifier rune.  An integer: not a digit, `_`, `.`, `e E p P`, and after the lone digit `0` not
`x X o O b B`.  `.`: not a digit (`.5` is a float).  `! < >`: not `=`.  Nothing for the others. -/
def Piece.stop : Piece → Rune → Bool
  | .word _, r => !isIdentRune r false
  | .int ds, r => !(isDecimal r.code || r.code == 95) && notFloatCont r && (ds != [48] || notBasePrefix r)
  | .str _, _ => true
  | .punct c, r => if c == 46 then !isDecimal r.code else if c == 33 || c == 60 || c == 62 then !(r.code == 61) else true
  | .op2 _, _ => true

theorem scanTok_word (f : Nat) (r : Rune) (w X : Input) (hr : isIdentRune r true = true)
    (hw : ∀ r ∈ w, isIdentRune r false = true) (hX : HeadP (fun r => !isIdentRune r false) X = true)
    (hws : isWs r.code = false) :
    scanTok (f + 1) (r :: w ++ X) = some (.ident, r :: w, X) := by
  have := take_append_sub (r :: w) X
  simp only [List.cons_append] at this
  simp only [scanTok, List.cons_append, skipWs_not _ _ hws, hr, ↓reduceIte, scanIdentTail_append w X hw hX, this]

theorem isDecimal_facts (d : Nat) (h : isDecimal d = true) :
    isWs d = false ∧ isIdentRune (asciiRune d) true = false := by
  simp only [isDecimal, Bool.and_eq_true, decide_eq_true_eq] at h
  refine ⟨?_, ?_⟩
  · simp only [isWs, Bool.or_eq_false_iff, beq_eq_false_iff_ne]; omega
  · simp only [isIdentRune, asciiRune_code, asciiRune_letter, asciiLetter, asciiRune_digit, Bool.not_true,
      Bool.and_false, Bool.or_false, Bool.or_eq_false_iff, beq_eq_false_iff_ne, Bool.and_eq_false_iff, decide_eq_false_iff_not]
    omega

theorem lower_digit : ∀ e : Nat, 48 ≤ e → e ≤ 57 → lower e = e := by
  have h : ∀ e : Fin 58, 48 ≤ e.val → lower e.val = e.val := by decide
  intro e h1 h2
  exact h ⟨e, by omega⟩ h1

theorem scanTok_int (f : Nat) (d : Nat) (ds : List Nat) (X : Input) (hd : isDecimal d = true)
    (hds : ∀ c ∈ ds, isDecimal c = true) (hX : HeadP (Piece.stop (.int (d :: ds))) X = true) :
    scanTok (f + 1) ((d :: ds).map asciiRune ++ X) = some (.int, (d :: ds).map asciiRune, X) := by
  obtain ⟨hws, hid⟩ := isDecimal_facts d hd
  have hstop : ∀ r, Piece.stop (.int (d :: ds)) r = true →
      (!(isDecimal r.code || r.code == 95)) = true ∧ notFloatCont r = true ∧ (ds = [] → d = 48 → notBasePrefix r = true) := by
    intro r hr
    simp only [Piece.stop, Bool.and_eq_true, Bool.or_eq_true, bne_iff_ne, ne_eq, List.cons.injEq, not_and] at hr
    exact ⟨hr.1.1, hr.1.2, fun h1 h2 => hr.2.resolve_left (fun h => h h2 h1)⟩
  have hX1 : HeadP (fun r => !(isDecimal r.code || r.code == 95)) X = true := HeadP_mono (fun r hr => (hstop r hr).1) hX
  have hX2 : HeadP notFloatCont X = true := HeadP_mono (fun r hr => (hstop r hr).2.1) hX
  have hY : (asciiRune d).code = 48 → HeadP notBasePrefix (ds.map asciiRune ++ X) = true := by
    intro h48
    cases ds with
    | nil => exact HeadP_mono (fun r hr => (hstop r hr).2.2 rfl h48) hX
    | cons e ds =>
      have he := hds e (List.mem_cons_self ..)
      simp only [isDecimal, Bool.and_eq_true, decide_eq_true_eq] at he
      have hl : lower e = e := lower_digit e he.1 he.2
      simp only [List.map_cons, List.cons_append, HeadP, notBasePrefix, asciiRune_code, hl, Bool.not_eq_true',
        Bool.or_eq_false_iff, beq_eq_false_iff_ne]
      omega
  have hdig : digits false (ds.map asciiRune ++ X) = X :=
    digits_append _ _ (by intro r hr; simp only [List.mem_map] at hr; obtain ⟨c, hc, rfl⟩ := hr; exact hds c hc) hX1
  have hnum := scanNumber_int (asciiRune d) (ds.map asciiRune ++ X) X hd hY hdig hX2
  have htake := take_append_sub ((d :: ds).map asciiRune) X
  simp only [List.map_cons, List.cons_append] at htake
  have hd' : isDecimal (asciiRune d).code = true := hd
  have hws' : isWs (asciiRune d).code = false := hws
  simp only [scanTok, List.map_cons, List.cons_append, skipWs_not _ _ hws', hid, hd', hnum, Bool.false_eq_true, ↓reduceIte, htake]

/-! ### Strings -/

theorem trailingBackslashes_zero (bs : Bytes) (h : ∀ b ∈ bs, b ≠ 92) : trailingBackslashes bs = 0 := by
  unfold trailingBackslashes
  cases hr : bs.reverse with
  | nil => rfl
  | cons b rest =>
    have hb : b ∈ bs := by
      have : b ∈ bs.reverse := by rw [hr]; exact List.mem_cons_self ..
      simpa using this
    have hne : (b == 92) = false := by simpa using h b hb
    simp [List.takeWhile, hne]

theorem strBodyOK_plain (body : Input)
    (hb : ∀ r ∈ body, (r.code == 39 || r.code == 10 || r.code == 92) = false)
    (hbytes : ∀ b ∈ textOf body, b ≠ 92) : strBodyOK body = true := by
  unfold strBodyOK
  have h1 := scanStringBody_plain 39 body (asciiRune 39) [] rfl hb
  have h2 := trailingBackslashes_zero _ hbytes
  simp [h1, h2]

theorem stripQuotes_quoted (inner : Bytes) (h : trailingBackslashes inner % 2 = 0) :
    stripQuotes (39 :: inner ++ [39]) = some inner := by
  unfold stripQuotes
  have h1 : ¬ (39 :: inner ++ [39]).length < 2 := by simp
  have h2 : (39 :: inner ++ [39] : Bytes).getLast? = (39 :: inner ++ [39] : Bytes).head? := by
    have : (39 :: inner ++ [39] : Bytes) = (39 :: inner) ++ [39] := rfl
    rw [this, List.getLast?_concat]; rfl
  have h3 : List.take ((39 :: inner ++ [39] : Bytes).length - 2) (List.drop 1 (39 :: inner ++ [39] : Bytes)) = inner := by
    simp
  simp only [h1, ↓reduceIte, h2, bne_self_eq_false, Bool.false_eq_true, h3, h]
  simp

theorem scanTok_str (f : Nat) (body X : Input) (hb : strBodyOK body = true) :
    scanTok (f + 1) (asciiRune 39 :: body ++ [asciiRune 39] ++ X) =
      some (.string, asciiRune 39 :: body ++ [asciiRune 39], X) := by
  simp only [strBodyOK, Bool.and_eq_true, decide_eq_true_eq] at hb
  have hs := scanStringBody_ext 39 (asciiRune 39) X body .normal hb.1
  have htake := take_append_sub (asciiRune 39 :: body ++ [asciiRune 39]) X
  have hform : asciiRune 39 :: body ++ [asciiRune 39] ++ X = asciiRune 39 :: (body ++ asciiRune 39 :: X) := by
    simp
  rw [hform] at htake ⊢
  have hws : isWs (asciiRune 39).code = false := rfl
  have hid : isIdentRune (asciiRune 39) true = false := by decide
  have hdec : isDecimal (asciiRune 39).code = false := by decide
  have h34 : ((asciiRune 39).code == 34) = false := by decide
  have h39 : ((asciiRune 39).code == 39) = true := by decide
  simp only [scanTok, skipWs_not _ _ hws, hid, hdec, h34, h39, hs, Bool.false_eq_true, ↓reduceIte, List.tail_cons, htake]

theorem tokenOf_str (body X : Input) (hb : strBodyOK body = true) :
    tokenOf keywordOf .string (asciiRune 39 :: body ++ [asciiRune 39]) X = ((Piece.str body).tok, false) := by
  simp only [strBodyOK, Bool.and_eq_true, beq_iff_eq] at hb
  have htext : textOf (asciiRune 39 :: body ++ [asciiRune 39]) = 39 :: textOf body ++ [39] := by
    rw [List.cons_append, textOf_cons, textOf_append]; rfl
  exact tokenOf_string _ _ X _ (keywordOf_none_of_head 39 _ (by decide)) (htext ▸ stripQuotes_quoted _ hb.2)

/-! ### One-character tokens -/

/-- a rune that is a token by itself (`default:` of `Scan`) -/
theorem scanTok_char (f : Nat) (c : Nat) (X : Input) (hws : isWs c = false)
    (hid : isIdentRune (asciiRune c) true = false) (hdec : isDecimal c = false)
    (hne : c ≠ 34 ∧ c ≠ 39 ∧ c ≠ 46 ∧ c ≠ 47 ∧ c ≠ 96) :
    scanTok (f + 1) (asciiRune c :: X) = some (.char c, [asciiRune c], X) := by
  have hws' : isWs (asciiRune c).code = false := hws
  have htake := take_append_sub [asciiRune c] X
  simp only [List.cons_append, List.nil_append] at htake
  have h1 : (c == 34) = false := by simpa using hne.1
  have h2 : (c == 39) = false := by simpa using hne.2.1
  have h3 : (c == 46) = false := by simpa using hne.2.2.1
  have h4 : (c == 47) = false := by simpa using hne.2.2.2.1
  have h5 : (c == 96) = false := by simpa using hne.2.2.2.2
  simp only [scanTok, skipWs_not _ _ hws', hid, asciiRune_code, hdec, h1, h2, h3, h4, h5, Bool.false_eq_true,
    ↓reduceIte, htake]

theorem scanTok_dot (f : Nat) (X : Input) (hX : HeadP (fun r => !isDecimal r.code) X = true) :
    scanTok (f + 1) (asciiRune 46 :: X) = some (.char 46, [asciiRune 46], X) := by
  have hws : isWs (asciiRune 46).code = false := rfl
  have hid : isIdentRune (asciiRune 46) true = false := by decide
  have hdec : isDecimal (asciiRune 46).code = false := by decide
  have h34 : ((asciiRune 46).code == 34) = false := by decide
  have h39 : ((asciiRune 46).code == 39) = false := by decide
  have h46 : ((asciiRune 46).code == 46) = true := by decide
  have htake := take_append_sub [asciiRune 46] X
  simp only [List.cons_append, List.nil_append] at htake
  cases X with
  | nil =>
    simp only [scanTok, skipWs_not _ _ hws, hid, hdec, h34, h39, h46, Bool.false_eq_true, ↓reduceIte]
    rfl
  | cons x X =>
    simp only [HeadP, Bool.not_eq_true'] at hX
    simp only [scanTok, skipWs_not _ _ hws, hid, hdec, h34, h39, h46, hX, Bool.false_eq_true, ↓reduceIte, htake]

theorem punct_facts : ∀ c ∈ punctCodes,
    isWs c = false ∧ isIdentRune (asciiRune c) true = false ∧ isDecimal c = false ∧
    (c ≠ 46 → c ≠ 34 ∧ c ≠ 39 ∧ c ≠ 46 ∧ c ≠ 47 ∧ c ≠ 96) ∧
    keywordOf [asciiUpper c] = some (punctTy c) ∧
    ((punctTy c == t_BANG || punctTy c == t_GT || punctTy c == t_LT) = (c == 33 || c == 60 || c == 62)) ∧
    (Kind.char c == Kind.string) = false := by
  simp only [punctTy, keywordOf_eq]
  decide +kernel

theorem scanTok_punct (f : Nat) (c : Nat) (X : Input) (hc : c ∈ punctCodes)
    (hX : HeadP (Piece.stop (.punct c)) X = true) :
    scanTok (f + 1) (asciiRune c :: X) = some (.char c, [asciiRune c], X) := by
  obtain ⟨h1, h2, h3, h4, -⟩ := punct_facts c hc
  by_cases h46 : c = 46
  · subst h46
    apply scanTok_dot
    cases X with
    | nil => rfl
    | cons x X => simpa [HeadP, Piece.stop] using hX
  · exact scanTok_char f c X h1 h2 h3 (h4 h46)

/-- for all of `punctCodes` (off `! < >` both sides are their last branch), so that `tokenOf_punct` rewrites with
it under the `if` -/
theorem punctTy_op2 : ∀ c ∈ punctCodes,
    (if punctTy c == t_BANG then t_NEQ else if punctTy c == t_GT then t_GTE else t_LTE) = (Piece.op2 c).tok.ty := by
  simp only [punctTy, keywordOf_eq, Piece.tok]
  decide +kernel

/-- What the token loop makes of a one-character token in front of `Y`: with the `=` behind `! < >`, the
two-character operator. -/
theorem tokenOf_punct (c : Nat) (hc : c ∈ punctCodes) (Y : Input) :
    tokenOf keywordOf (.char c) [asciiRune c] Y =
      if (c == 33 || c == 60 || c == 62) && nextIsEq Y then ((Piece.op2 c).tok, true)
      else ((Piece.punct c).tok, false) := by
  obtain ⟨-, -, -, -, hkw, hop, -⟩ := punct_facts c hc
  have hup : upperCodes [asciiRune c] = [asciiUpper c] := rfl
  simp only [tokenOf, hup, hkw, hop, punctTy_op2 c hc]
  rfl

/-- where `! < >` can end, no `=` follows -/
theorem Piece.stop_punct_next (c : Nat) (X : Input) (hX : HeadP (Piece.stop (.punct c)) X = true) :
    ((c == 33 || c == 60 || c == 62) && nextIsEq X) = false := by
  cases X with
  | nil => exact Bool.and_false _
  | cons x X =>
    cases h3 : (c == 33 || c == 60 || c == 62) with
    | false => rfl
    | true =>
      have h46 : (c == 46) = false := by
        simp only [Bool.or_eq_true, beq_iff_eq] at h3
        simp only [beq_eq_false_iff_ne]; omega
      simpa only [HeadP, Piece.stop, h46, h3, Bool.false_eq_true, ↓reduceIte, Bool.not_eq_true', nextIsEq,
        Bool.true_and] using hX

end Mkdb.Scan
