import Mkdb.Proofs.CatUnique
import Mkdb.Proofs.SpecRefineCreateTable
import Mkdb.Proofs.SpecRefineRefused
/-!
# The statements against the spec

One theorem per outcome over `Sql.Stmt` - accepted (`evalStmt_refines_spec`),
refused before anything changed (`evalStmt_refused_spec`: same log, `Rel` with the SAME catalog and spec
database), and totality (`evalStmt_total`: never `.panic` / `.unmodelled` / `.fuel`).  `Rel`, the
relation all statements preserve, is `AbsV` + `NoStale` + `MemFiled`; the last is there because CREATE
TABLE's flush needs every cached page filed under its own offset, and the evaluators keep it.

Where the theorems per statement kind are (under `Abs` / `AbsV`, but `update_rows`, `delete_rows`, `evalUpdate_early`,
`evalUpdate_outcome` under `Cat` alone; `←` = "is read off"):

| | INSERT | UPDATE | DELETE | CREATE TABLE |
|---|---|---|---|---|
| the row loop, `rowsM` form | `insert_rows` (SpecRefineInsert) | `update_rows` (SpecRefineUpdate) | `delete_rows` (SpecRefineDelete) | - |
| every outcome at once | `evalInsert_outcome` (SpecRefineInsert) | `evalUpdate_early` + `evalUpdate_outcome` (SpecRefineUpdateStmt) | none (its loop cannot fail under `Cat`) | `evalCreateTable_refused_or_checked` (SpecRefineCreateTable) |
| accepted | `evalInsert_refines_specV` (from `insert_rows`) | `evalUpdate_refines_specV` (← outcome) | `evalDelete_refines_specV` | `evalCreateTable_refines_specV` |
| refused, nothing changed | `evalInsert_refused_specV` | `evalUpdate_refused_specV` (SpecRefineRefused; ← early) | `evalDelete_refused_specV` (SpecRefineRefused) | `evalCreateTable_refused_specV` |
| refused at a later row | `evalInsert_kth_refused_spec` | `evalUpdate_kth_refused_spec` (SpecRefineRefused; ← outcome) | - | - |
| total | `evalInsert_total` (← outcome) | `evalUpdate_total` (← early / outcome) | `evalDelete_total` (all three in SpecRefineRefused) | in `evalStmt_total` |
| what the rows of a table become | `evalInsert_effect` | `evalUpdate_effect` | `evalDelete_effect` (all three in RowEffect) | - |

To call: the `evalStmt_*` theorems below for a `Sql.Stmt`; the `…_specV` / `…_outcome` ones for one evaluator.  Below
these, under `Cat` alone (no plain database): `insert_refines`, `update_cat`, `markDeleted_cat`, `fetchTable_cat`,
`createTable_cat` (StmtInsert, StmtRowOps, StmtCreateTable); on any filed store: the `…_err` family of `Unchanged*`.
-/
set_option autoImplicit false
namespace Mkdb.Store
open Mkdb.Page Mkdb.Tuple Mkdb.Generated Mkdb.Tree

/-! ### the evaluators keep the cache filed -/

theorem KeepsFiled.findLeaf : ∀ (fuel off key : Nat), KeepsFiled (findLeaf fuel off key) :=
  fun _ _ _ => keepsFiled_iff.mpr (memFiled_writes.findLeaf _ _ _)

theorem KeepsFiled.fetchTable (table : Bytes) : KeepsFiled (fetchTable table) :=
  keepsFiled_iff.mpr (memFiled_writes.fetchTable _)

theorem KeepsFiled.markDeleted (table : Bytes) (rowId : Nat) : KeepsFiled (markDeleted table rowId) :=
  keepsFiled_iff.mpr (memFiled_writes.markDeleted _ _)

theorem KeepsFiled.update (table : Bytes) (rowId : Nat) (cols : List String) (src : List Val) :
    KeepsFiled (update table rowId cols src) :=
  keepsFiled_iff.mpr (memFiled_writes.update _ _ _ _)

/-- the store of an `.ok` / `.err` result is filed -/
def ResFiled {α} (r : Engine.Res α) : Prop := r.After MemFiled

theorem evalInsert_filed (db : Engine.DB) (table : Bytes) (cols : List Bytes) (rows : List (List Val))
    (hf : MemFiled db.store) : ResFiled (Engine.evalInsert db table cols rows) :=
  (evalInsert_keeps memFiled_writes db table cols rows).mono fun _ h => h hf

theorem evalDelete_filed (db : Engine.DB) (table : Bytes) (w : Option Sql.Cond) (hf : MemFiled db.store) :
    ResFiled (Engine.evalDelete db table w) :=
  (evalDelete_keeps memFiled_writes db table w).mono fun _ h => h hf

theorem evalUpdate_filed (db : Engine.DB) (table : Bytes) (sets : List (Bytes × Sql.VExpr)) (w : Option Sql.Cond)
    (hf : MemFiled db.store) : ResFiled (Engine.evalUpdate db table sets w) :=
  (evalUpdate_keeps memFiled_writes db table sets w).mono fun _ h => h hf

theorem evalCreateTable_filed (db : Engine.DB) (name : Bytes) (cols : List Sql.ColDef) (order : List Nat)
    (doFlush : Bool) (hf : MemFiled db.store) : ResFiled (Engine.evalCreateTable db name cols order doFlush) :=
  (Engine.liftS_after db (keepsFiled_iff.mp (KeepsFiled.createTable _ name order doFlush))
    (k := fun _ s => .ok () { db with store := s }) fun _ _ h => h).mono fun _ h => h hf

/-! ### the dispatcher -/

/-- forget the row count -/
def voidRes {α} : Engine.Res α → Engine.Res Unit
  | .ok _ db' => .ok () db'
  | .err e db' => .err e db'
  | .panic p => .panic p
  | .unmodelled w => .unmodelled w
  | .fuel => .fuel

/-- the four DML / DDL statement kinds on the model (`order`: the page write order of CREATE TABLE's
flush); SELECT, USE, SHOW DATABASES, CREATE DATABASE change nothing of a database -/
def evalStmt (db : Engine.DB) (order : List Nat) : Sql.Stmt → Engine.Res Unit
  | .createTable n cols => Engine.evalCreateTable db n cols order true
  | .insert t cols rows => voidRes (Engine.evalInsert db t cols (rows.map fun r => r.map Engine.litToVal))
  | .update t sets w => Engine.evalUpdate db t sets w
  | .delete t w => voidRes (Engine.evalDelete db t w)
  | _ => .ok () db

/-- **The relation every statement preserves.** -/
def Rel (db : Engine.DB) (pt sch : Levels) (tbls : List (Bytes × Levels)) (sdb : Spec.SDB) : Prop :=
  AbsV db.store pt sch tbls sdb ∧ NoStale sch tbls ∧ MemFiled db.store

/-- the side conditions of a statement: values a Go program can hold, fuel / size room -/
def StmtRoom (db : Engine.DB) (pt sch : Levels) (tbls : List (Bytes × Levels)) : Sql.Stmt → Prop
  | .createTable n cols =>
    (∀ c ∈ cols, ∀ k, c.ty = .varchar k → -2147483648 ≤ k) ∧
    checkCatalogRows (cols.map Engine.colTypeToField) n = none ∧
    pt.inner.length + 3 ≤ treeFuel ∧ pt.leaves.length + 1 ≤ scanFuel ∧
    sch.inner.length + cols.length + 2 ≤ treeFuel ∧ sch.leaves.length + cols.length ≤ scanFuel ∧
    db.store.hdr.nextFree + 262144 * cols.length + 262144 ≤ 9223372036854775807
  | .insert t cols rows =>
    (∀ r ∈ rows, ∀ l ∈ r, ValidVal (Engine.litToVal l)) ∧
    ∀ tr schema, (t, tr) ∈ tbls → schemaOf sch t = some schema →
      InsRunOK schema (cols.map Engine.bytesToName) tr db.store.hdr.lastKey db.store.hdr.nextLSN
        db.store.hdr.nextFree (rows.map fun r => r.map Engine.litToVal)
  | .update _ sets _ =>
    (∀ p ∈ sets, ∀ l, p.2 = .lit l → ValidVal (Engine.litToVal l)) ∧
    -- the SET column names are valid UTF-8 (the statement's check compares the raw bytes)
    ∀ p ∈ sets, (Spec.nameStr p.1).toUTF8.toList = p.1
  | _ => True

/-- the side conditions of a statement do not depend on the description of the store (`CatUnique`): how the
hypotheses "for every description" of `HistOK`, `CrashHist`, `OkStmt` are met on a concrete database -/
theorem StmtRoom.of_cat {db : Engine.DB} {pt sch pt2 sch2 : Levels} {tbls tbls2 : List (Bytes × Levels)}
    {st : Sql.Stmt} (h : Cat db.store pt sch tbls) (h2 : Cat db.store pt2 sch2 tbls2)
    (hr : StmtRoom db pt sch tbls st) : StmtRoom db pt2 sch2 tbls2 st := by
  obtain rfl := h.pt_unique h2
  obtain rfl := h.sch_unique h2
  cases st with
  | insert t cols rows => exact ⟨hr.1, fun tr schema htr hs => hr.2 tr schema (h2.tbls_sub h _ htr) hs⟩
  | _ => exact hr

theorem litRows_eq (rows : List (List Sql.Lit)) :
    (rows.map fun r => r.map Spec.litVal) = rows.map fun r => r.map Engine.litToVal := by
  have : Spec.litVal = Engine.litToVal := funext litVal_eq
  rw [this]

theorem specStmt_insert (sdb : Spec.SDB) (t : Bytes) (cols : List Bytes) (rows : List (List Sql.Lit)) :
    Spec.specStmt sdb (.insert t cols rows) = Spec.specInsert sdb t cols (rows.map fun r => r.map Engine.litToVal) :=
  congrArg (Spec.specInsert sdb t cols) (litRows_eq rows)

theorem litRows_valid (rows : List (List Sql.Lit)) (h : ∀ r ∈ rows, ∀ l ∈ r, ValidVal (Engine.litToVal l)) :
    ∀ r ∈ rows.map (fun r => r.map Engine.litToVal), ∀ v ∈ r, ValidVal v := by
  intro r hr v hv
  obtain ⟨r0, hr0, rfl⟩ := List.mem_map.mp hr
  obtain ⟨l, hl, rfl⟩ := List.mem_map.mp hv
  exact h r0 hr0 l hl

theorem evalStmt_refines_spec (db : Engine.DB) (order : List Nat) (pt sch : Levels) (tbls : List (Bytes × Levels))
    (sdb sdb' : Spec.SDB) (h : Rel db pt sch tbls sdb) (st : Sql.Stmt) (hroom : StmtRoom db pt sch tbls st)
    (hspec : Spec.specStmt sdb st = some sdb') :
    ∃ db' pt' sch' tbls', evalStmt db order st = .ok () db' ∧ Rel db' pt' sch' tbls' sdb' := by
  obtain ⟨habs, hns, hmf⟩ := h
  cases st with
  | createTable n cols =>
    obtain ⟨hlo, hchk, hpd, hpl, hsd, hsl, hbig⟩ := hroom
    obtain ⟨db', pt', sch', e, _, habs', hns', hmf', _⟩ := evalCreateTable_refines_specV db pt sch tbls sdb sdb' habs hns
      hmf n cols order hspec hlo hchk hpd hpl hsd hsl hbig
    exact ⟨db', pt', sch', _, e, habs', hns', hmf'⟩
  | insert t cols rows =>
    obtain ⟨hvalid, hrun⟩ := hroom
    rw [specStmt_insert] at hspec
    obtain ⟨st, _, hfind, _⟩ := specInsert_some_iff.mp hspec
    obtain ⟨tr, schema, htr, hsch, _⟩ := habs.find hfind
    obtain ⟨db', ptF, t', logs, e, _, _, _, habs', _⟩ := evalInsert_refines_specV db pt sch tbls sdb sdb' habs
      t tr htr schema hsch cols _ (litRows_valid rows hvalid) hspec (hrun tr schema htr hsch)
    refine ⟨db', ptF, sch, setTable tbls t t', ?_, habs', hns.setTable t t', ?_⟩
    · simp only [evalStmt, e, voidRes]
    · exact (evalInsert_filed db t cols _ hmf).ok e
  | update t sets w =>
    obtain ⟨db', t', logs, _, e, _, _, habs', _⟩ := evalUpdate_refines_specV db pt sch tbls sdb sdb' habs t sets w hroom.1
      hroom.2 hspec
    exact ⟨db', pt, sch, setTable tbls t t', e, habs', hns.setTable t t', (evalUpdate_filed db t sets w hmf).ok e⟩
  | delete t w =>
    obtain ⟨n, db', t', logs, _, e, _, _, _, habs', _⟩ := evalDelete_refines_specV db pt sch tbls sdb sdb' habs t w hspec
    refine ⟨db', pt, sch, setTable tbls t t', ?_, habs', hns.setTable t t', (evalDelete_filed db t w hmf).ok e⟩
    simp only [evalStmt, e, voidRes]
  | _ =>
    -- the other statements change neither the plain database nor the engine's
    obtain rfl : sdb = sdb' := Option.some.inj hspec
    exact ⟨db, pt, sch, tbls, rfl, habs, hns, hmf⟩

/-! ### refusals -/

/-- why a statement is refused before it changed anything -/
inductive StmtRefusal (sdb : Spec.SDB) (pt : Levels) : Sql.Stmt → Prop
  | create (n : Bytes) (cols : List Sql.ColDef) : CreateRefusal sdb pt n cols → StmtRefusal sdb pt (.createTable n cols)
  | insert (t : Bytes) (cols : List Bytes) (r : List Sql.Lit) (rest : List (List Sql.Lit)) :
      ((Spec.findTable sdb t = none ∧ t ≠ sysPages ∧ t ≠ sysSchema) ∨
        ∃ st, Spec.findTable sdb t = some st ∧
          (Spec.rowOf st cols (r.map Engine.litToVal) = none ∨
            Spec.namesOK st (cols.map Spec.nameStr) = false)) →
      StmtRefusal sdb pt (.insert t cols (r :: rest))
  | update (t : Bytes) (sets : List (Bytes × Sql.VExpr)) (w : Option Sql.Cond) :
      UpdRefusal sdb t sets w → StmtRefusal sdb pt (.update t sets w)
  | delete (t : Bytes) (w : Option Sql.Cond) :
      (Spec.findTable sdb t = none → t ≠ sysPages ∧ t ≠ sysSchema) → Spec.specDelete sdb t w = none →
      StmtRefusal sdb pt (.delete t w)

/-- **Every statement refused before it changed anything (C14).**  The spec refuses; the model fails;
the log is the old one; the relation holds with the same catalog trees and the same spec database. -/
theorem evalStmt_refused_spec (db : Engine.DB) (order : List Nat) (pt sch : Levels) (tbls : List (Bytes × Levels))
    (sdb : Spec.SDB) (h : Rel db pt sch tbls sdb) (st : Sql.Stmt) (hbad : StmtRefusal sdb pt st) :
    Spec.specStmt sdb st = none ∧
    ∃ e db', evalStmt db order st = .err e db' ∧ db'.wal = db.wal ∧ Rel db' pt sch tbls sdb := by
  obtain ⟨habs, hns, hmf⟩ := h
  cases hbad with
  | create n cols hc =>
    obtain ⟨h1, e, db', he, _, hw, _, habs'⟩ := evalCreateTable_refused_specV db pt sch tbls sdb habs n cols order true hc
    exact ⟨h1, .store e, db', he, hw, habs', hns, (evalCreateTable_filed db n cols order true hmf).err he⟩
  | insert t cols r rest hc =>
    obtain ⟨h1, e, db', he, _, hw, habs'⟩ := evalInsert_refused_specV db pt sch tbls sdb habs t cols
      (r.map Engine.litToVal) (rest.map fun r => r.map Engine.litToVal) hc
    refine ⟨?_, .store e, db', ?_, hw, habs', hns, (evalInsert_filed db t cols _ hmf).err he⟩
    · rw [specStmt_insert]
      exact h1
    · simp only [evalStmt, List.map_cons, he, voidRes]
  | update t sets w hc =>
    obtain ⟨h1, e, db', he, _, hw, _, habs'⟩ := evalUpdate_refused_specV db pt sch tbls sdb habs t sets w hc
    exact ⟨h1, e, db', he, hw, habs', hns, (evalUpdate_filed db t sets w hmf).err he⟩
  | delete t w hsys hnone =>
    obtain ⟨e, db', he, _, _, _, hw, _, habs'⟩ := evalDelete_refused_specV db pt sch tbls sdb habs t w hsys hnone
    refine ⟨hnone, e, db', ?_, hw, habs', hns, (evalDelete_filed db t w hmf).err he⟩
    simp only [evalStmt, he, voidRes]

/-! ### totality -/

theorem Total.void {α} {db : Engine.DB} {r : Engine.Res α} (h : Total db r) : Total db (voidRes r) := by
  rcases h with ⟨a, db', rfl⟩ | ⟨e, db', rfl, hw⟩
  · exact .inl ⟨(), db', rfl⟩
  · exact .inr ⟨e, db', rfl, hw⟩

/-- the names a DML statement may use: a user table, or a name that is not a catalog table.  The engine does
run INSERT / UPDATE / DELETE on `sys_pages` and `sys_schema` (they are tables like any other), and the catalog
invariant does not survive that: such statements are outside every theorem here (SELECT on the two is `CatSelf*`).
CREATE TABLE: a table named `sys_schema` is refused as existing by `Cat` alone; one named `sys_pages` only if the
page table has a row about itself, which `Cat` does not say (it gets one when its root moves): hence the clause. -/
def StmtNames (pt : Levels) (tbls : List (Bytes × Levels)) : Sql.Stmt → Prop
  | .createTable n _ => n = sysPages → ∃ off, (sysPages, off) ∈ ptEntries pt
  | .insert t _ _ => t ∉ tbls.map (·.1) → t ≠ sysPages ∧ t ≠ sysSchema
  | .update t _ _ => t ∉ tbls.map (·.1) → t ≠ sysPages ∧ t ≠ sysSchema
  | .delete t _ => t ∉ tbls.map (·.1) → t ≠ sysPages ∧ t ≠ sysSchema
  | _ => True

/-- the room conditions totality needs (for CREATE TABLE: only if the statement gets past the checks) -/
def StmtRoomT (db : Engine.DB) (pt sch : Levels) (tbls : List (Bytes × Levels)) : Sql.Stmt → Prop
  | .createTable _ cols =>
    pt.inner.length + 3 ≤ treeFuel ∧ pt.leaves.length + 1 ≤ scanFuel ∧
    sch.inner.length + cols.length + 2 ≤ treeFuel ∧ sch.leaves.length + cols.length ≤ scanFuel ∧
    db.store.hdr.nextFree + 262144 * cols.length + 262144 ≤ 9223372036854775807
  | .insert t cols rows =>
    (∀ r ∈ rows, ∀ l ∈ r, ValidVal (Engine.litToVal l)) ∧
    ∀ tr schema, (t, tr) ∈ tbls → schemaOf sch t = some schema →
      InsRunOK schema (cols.map Engine.bytesToName) tr db.store.hdr.lastKey db.store.hdr.nextLSN
        db.store.hdr.nextFree (rows.map fun r => r.map Engine.litToVal)
  | _ => True

/-- **No statement can crash the engine** (model level, the four DML / DDL kinds). -/
theorem evalStmt_total (db : Engine.DB) (order : List Nat) (pt sch : Levels) (tbls : List (Bytes × Levels))
    (sdb : Spec.SDB) (h : Rel db pt sch tbls sdb) (st : Sql.Stmt) (hnames : StmtNames pt tbls st)
    (hroom : StmtRoomT db pt sch tbls st) : Total db (evalStmt db order st) := by
  obtain ⟨habs, hns, hmf⟩ := h
  cases st with
  | insert t cols rows =>
    exact (evalInsert_total db pt sch tbls sdb habs t cols _ (litRows_valid rows hroom.1) hnames hroom.2).void
  | update t sets w => exact evalUpdate_total db pt sch tbls sdb habs t sets w hnames
  | delete t w =>
    exact (evalDelete_total db pt sch tbls sdb habs t w
      (fun h0 => hnames ((habs.find_none_iff t).mp h0))).void
  | createTable n cols =>
    obtain ⟨hpd, hpl, hsd, hsl, hbig⟩ := hroom
    rcases evalCreateTable_refused_or_checked db pt sch tbls sdb habs n cols order hnames with
      ⟨e, db', he, hw, _⟩ | ⟨hfind, hs1, hs2, hfld, hchk⟩
    · exact .inr ⟨.store e, db', he, hw⟩
    · -- the statement gets past the checks: it succeeds
      have hn3 : n ∉ tbls.map (·.1) := (habs.find_none_iff n).mp hfind
      obtain ⟨sN, s', pt1, nf1, ptN, schN, _, e2, _⟩ :=
        createTable_cat habs.cat hmf (cols.map Engine.colTypeToField) n order hs1 hs2 hn3 hfld hchk hpd hpl
          (by rw [List.length_map]; exact hsd) (by rw [List.length_map]; exact hsl)
          (by rw [List.length_map]; exact hbig)
      refine .inl ⟨(), { db with store := s' }, ?_⟩
      simp only [evalStmt, Engine.evalCreateTable, Engine.liftS, e2]
  | _ => exact .inl ⟨(), db, rfl⟩

/-! ### what a reader sees -/

/-- `RelationService.Fetch` of the table - what every SELECT reads - returns the columns `cols` and
rows holding exactly the values `vals`, in order -/
def Reads (db : Engine.DB) (t : Bytes) (cols : List FieldDef) (vals : List (List Val)) : Prop :=
  ∃ rows s', fetchTable t db.store = .ok (rows, cols) s' ∧ rows.map (·.2) = vals

theorem AbsV.reads {db : Engine.DB} {sdb : Spec.SDB} {pt sch : Levels} {tbls : List (Bytes × Levels)}
    (h : AbsV db.store pt sch tbls sdb) {t : Bytes} {tb : Spec.STable} (hfind : Spec.findTable sdb t = some tb) :
    Reads db t tb.cols (tb.rows.map (·.vals)) := by
  obtain ⟨tr, schema, htr, hsch, hdec, htv⟩ := h.find hfind
  obtain ⟨s', e, _, _⟩ := fetchTable_cat h.cat t tr htr schema hsch hdec
  have hc : tb.cols = schema := (tv_cols htv).symm
  have hr : tb.rows.map (·.vals) = (rowsOf schema (live tr)).map (·.2) := by
    rw [← tv_rows htv]
    simp only [absTable, List.map_map]
    rfl
  rw [hc, hr]
  exact ⟨_, s', e, rfl⟩

end Mkdb.Store
