import Mkdb.Proofs.CkptRounds
import Mkdb.Proofs.RowEffect
import Mkdb.Proofs.SpecRefineStmt
/-!
# The invariant of one database of a session

`DbInv` is the invariant of a database in use, `DbFlushed` that of a closed one.  The first part shows them kept by row
statements, by the flush, by re-opening the data file and by start-up recovery of a closed database.  The second
relates the catalog trees after the body of CREATE TABLE to those before, page by page (`WrittenSince`): that is why the
log records stay applied across CREATE TABLE.  The third: CREATE TABLE keeps the invariant, and so does every
statement, whatever its outcome (`evalStmt_keeps_inv`).
-/

section
/-! ## `DbInv` and `DbFlushed` -/
set_option autoImplicit false
namespace Mkdb.Store
open Mkdb.Page Mkdb.Tuple Mkdb.Generated Mkdb.Tree Mkdb.Engine

/-- **The invariant of a database in use**: the store abstracts to the plain database `sdb` with the
catalog description `pt`, `sch`, `tbls` (`AbsV`), `sys_schema` has no stale rows, the cache is filed under
its own offsets, every record of the (never truncated) log is applied and behind the two counters, and
every CLEAN page of the description is in the data file as the engine sees it (`Synced`).  This is the
checkpoint invariant `Ckpt` (CkptInvariant) without "nothing is dirty" and without the two side conditions
of the crash-replay theorems (`PtSelf`, `FreshM`): a session closes (flushes) a database before it re-opens
it, so only the replay of an applied log is needed. -/
structure DbInv (db : Engine.DB) (sdb : Spec.SDB) (pt sch : Levels) (tbls : List (Bytes × Levels)) : Prop where
  abs : AbsV db.store pt sch tbls sdb
  nostale : NoStale sch tbls
  filed : MemFiled db.store
  log : ∀ r ∈ db.wal, AppliedC pt sch tbls r
  lsn : ∀ r ∈ db.wal, r.lsn < db.store.hdr.nextLSN
  keys : ∀ r ∈ db.wal, r.op = c_OpInsert → r.cell ≤ db.store.hdr.lastKey
  synced : Synced db.store pt sch tbls

/-- **A closed (flushed) database**: `DbInv`, nothing dirty, header and every page in the data file. -/
structure DbFlushed (db : Engine.DB) (sdb : Spec.SDB) (pt sch : Levels) (tbls : List (Bytes × Levels)) : Prop where
  inv : DbInv db sdb pt sch tbls
  dhdr : db.store.dhdr = db.store.hdr
  disk : OnDisk db.store pt sch tbls

theorem DbInv.rel {db : Engine.DB} {sdb : Spec.SDB} {pt sch : Levels} {tbls : List (Bytes × Levels)}
    (h : DbInv db sdb pt sch tbls) : Rel db pt sch tbls sdb := ⟨h.abs, h.nostale, h.filed⟩

theorem Ckpt.dbFlushed {sch : Levels} {db : Engine.DB} {sdb : Spec.SDB} {pt : Levels} {tbls : List (Bytes × Levels)}
    (h : Ckpt sch db sdb pt tbls) (hns : NoStale sch tbls) : DbFlushed db sdb pt sch tbls :=
  ⟨⟨h.abs, hns, h.filed, h.log, h.lsn, h.keys, h.disk.synced⟩, h.dhdr, h.disk⟩

theorem DbInv.inUse {db : Engine.DB} {sdb : Spec.SDB} {pt sch : Levels} {tbls : List (Bytes × Levels)}
    (h : DbInv db sdb pt sch tbls) :
    InUse sch (fun e => assocGet db.store.disk e.1 = some e.2.1) db.store pt tbls db.wal :=
  ⟨h.log, h.lsn, h.keys, fun x hx e he => by
    cases hdy : e.2.2 with
    | true => exact .inl rfl
    | false => exact .inr (h.synced x hx e he hdy)⟩

/-! ### row statements -/

/-- A live run of row operations, then a refusal that leaves the catalog description alone.  `hw`: the log grew by
the records of the run, or (a statement refused at a later row) not at all. -/
theorem DbInv.live_run {db db' : Engine.DB} {sdb : Spec.SDB} {pt sch : Levels} {tbls : List (Bytes × Levels)}
    (h : DbInv db sdb pt sch tbls) {s1 : Store} {ptN : Levels} {tblsN : List (Bytes × Levels)}
    {stmtsM : List RStmt} {logs : List WalRec} {sdbN : Spec.SDB}
    (hrun : LiveRunM sch db.store tbls stmtsM s1 tblsN logs) (hcat1 : Cat s1 ptN sch tblsN)
    (habs' : AbsV db'.store ptN sch tblsN sdbN) (hnames : tblsN.map (·.1) = tbls.map (·.1))
    (hlsn : s1.hdr.nextLSN ≤ db'.store.hdr.nextLSN) (hlk : s1.hdr.lastKey ≤ db'.store.hdr.lastKey)
    (hw : db'.wal = db.wal ++ logs ∨ db'.wal = db.wal) (hd : DiskSame db.store db'.store)
    (hf : MemFiled db'.store) : DbInv db' sdbN ptN sch tblsN := by
  obtain ⟨sdb0, habs0, _⟩ := h.abs
  obtain ⟨pt1, c1, hi⟩ := hrun.keeps (fun hc st _ hJ => InUse.step hc st hJ) habs0.cat h.inUse
  rw [c1.pt_unique hcat1] at hi
  have hi' := hi.mono (s1 := db'.store) (wal' := db'.wal) (fun r hr => by
    rcases hw with hw | hw <;> rw [hw] at hr
    · exact hr
    · exact List.mem_append_left _ hr) hlsn hlk
  exact ⟨habs', fun n hn => h.nostale n (hnames ▸ hn), hf, hi'.applied, hi'.lsn, hi'.keys, hi'.synced hd.1⟩

/-- **Every row statement keeps the invariant**, whatever its outcome: `RowEffect` is what
`evalInsert_effect`, `evalUpdate_effect`, `evalDelete_effect` deliver. -/
theorem DbInv.row_effect {db db' : Engine.DB} {sdb : Spec.SDB} {pt sch : Levels} {tbls : List (Bytes × Levels)}
    (h : DbInv db sdb pt sch tbls) (he : RowEffect sch db tbls db') (hd : DiskSame db.store db'.store)
    (hf : MemFiled db'.store) : ∃ sdb' pt' tbls', DbInv db' sdb' pt' sch tbls' := by
  obtain ⟨s1, ptN, tblsN, stmtsM, logs, sdbN, hrun, habs1, habs', hnames, hlsn, hlk, hw⟩ := he
  exact ⟨sdbN, ptN, tblsN, h.live_run hrun habs1.cat habs'.toV hnames hlsn hlk hw hd hf⟩

/-! ### the flush, the re-opened data file, start-up recovery of a closed database -/

theorem NoStale.clean {sch : Levels} {tbls : List (Bytes × Levels)} (h : NoStale sch tbls) :
    NoStale (Mkdb.Store.clean sch) (cleanT tbls) := by
  intro n hn h1 h2
  rw [schemaOf_clean]
  apply h n ?_ h1 h2
  intro hm
  apply hn
  unfold cleanT
  rw [tbls_clean_names]
  exact hm

theorem DbInv.flushed {db : Engine.DB} {sdb : Spec.SDB} {pt sch : Levels} {tbls : List (Bytes × Levels)}
    (h : DbInv db sdb pt sch tbls) (order : List Nat) :
    DbFlushed { db with store := flushed order db.store } sdb (Mkdb.Store.clean pt) (Mkdb.Store.clean sch)
      (cleanT tbls) := by
  obtain ⟨hA', hh, hdh, hf', hd⟩ := flush_ckpt h.abs h.filed h.synced order
  refine ⟨⟨hA', h.nostale.clean, hf', fun r hr => (h.log r hr).clean, ?_, ?_, hd.synced⟩, ?_, hd⟩
  · intro r hr
    show r.lsn < (Store.flushed order db.store).hdr.nextLSN
    rw [hh]; exact h.lsn r hr
  · intro r hr hop
    show r.cell ≤ (Store.flushed order db.store).hdr.lastKey
    rw [hh]; exact h.keys r hr hop
  · show (Store.flushed order db.store).dhdr = (Store.flushed order db.store).hdr
    rw [hh, hdh]

theorem DbInv.flushPages {db : Engine.DB} {sdb : Spec.SDB} {pt sch : Levels} {tbls : List (Bytes × Levels)}
    (h : DbInv db sdb pt sch tbls) (order : List Nat) :
    ∃ s', Store.flushPages order db.store = .ok () s' ∧ s'.hdr = db.store.hdr ∧
      DbFlushed { store := s', wal := db.wal } sdb (Mkdb.Store.clean pt) (Mkdb.Store.clean sch) (cleanT tbls) :=
  ⟨_, flushPages_flushed order db.store, (flushed_spec order db.store h.filed).1, h.flushed order⟩

/-- **The re-opened data file of a closed database** (what `USE` of another database and start-up
leave in the session: an empty cache over the same file) is a closed database for the same plain
database and the same catalog description. -/
theorem DbFlushed.reopen {db : Engine.DB} {sdb : Spec.SDB} {pt sch : Levels} {tbls : List (Bytes × Levels)}
    (h : DbFlushed db sdb pt sch tbls) :
    DbFlushed { db with store := Store.reopen db.store } sdb pt sch tbls := by
  obtain ⟨sdb0, habs0, hv⟩ := h.inv.abs
  have hc : Cat (Store.reopen db.store) pt sch tbls := reopen_cat habs0.cat h.disk h.dhdr db.store rfl rfl
  have hh : (Store.reopen db.store).hdr = db.store.hdr := h.dhdr
  refine ⟨⟨⟨sdb0, ⟨hc, habs0.tabs⟩, hv⟩, h.inv.nostale, (fun p hp => by cases hp), h.inv.log, ?_, ?_, ?_⟩, rfl, h.disk⟩
  · intro r hr
    show r.lsn < (Store.reopen db.store).hdr.nextLSN
    rw [hh]; exact h.inv.lsn r hr
  · intro r hr hop
    show r.cell ≤ (Store.reopen db.store).hdr.lastKey
    rw [hh]; exact h.inv.keys r hr hop
  · exact OnDisk.synced (s := Store.reopen db.store) h.disk

/-- **Start-up recovery of a closed database.**  `Engine.recover` re-opens the data file, replays the
whole log - every record of which is applied: nothing visible changes -, bumps the LSN counter and
flushes twice. -/
theorem DbFlushed.recover {db : Engine.DB} {sdb : Spec.SDB} {pt sch : Levels} {tbls : List (Bytes × Levels)}
    (h : DbFlushed db sdb pt sch tbls) (o1 o2 : List Nat) :
    ∃ db', Engine.recover db o1 o2 = .ok db' ∧ db'.wal = db.wal ∧ DbFlushed db' sdb pt sch tbls := by
  obtain ⟨sdb0, habs0, hv⟩ := h.inv.abs
  have hr0 : Cat (Store.reopen db.store) pt sch tbls := reopen_cat habs0.cat h.disk h.dhdr db.store rfl rfl
  have hh0 : (Store.reopen db.store).hdr = db.store.hdr := h.dhdr
  obtain ⟨r1, e1, _, hc1, _⟩ := replay_clean_hdr db.wal (Store.reopen db.store) pt sch tbls hr0
    (fun r hr => (h.inv.log r hr).applied hr0) (fun r hr => by rw [hh0]; exact Nat.le_of_lt (h.inv.lsn r hr))
    (fun r hr hop => by rw [hh0]; exact h.inv.keys r hr hop)
  have hd1 : r1.disk = db.store.disk := by
    have := (replayAll_disk db.wal (Store.reopen db.store)).1
    rw [e1] at this; exact this
  obtain ⟨s', er, hA, hm, hdh, hd, _, hl, hk⟩ := recover_of_replayed_core e1 ⟨sdb0, ⟨hc1, habs0.tabs⟩, hv⟩
    (fun x hx e he _ => by rw [hd1]; exact (h.disk x hx e he).1) o1 o2
  obtain ⟨c1, c2, c3⟩ := h.disk.clean_eq
  rw [c1, c2, c3] at hA hd
  exact ⟨_, er, rfl, ⟨hA, h.inv.nostale, hm, h.inv.log, hl, hk, hd.synced⟩, hdh, hd⟩

end Mkdb.Store
end

section
/-!
## The catalog trees through the body of CREATE TABLE

The invariant of a database (`DbInv`: every log record applied, every clean page in the data file) needs to
know how the page table and `sys_schema` after the body of CREATE TABLE relate, page by page, to those
before: every page of the new trees is a page of the old ones or dirty (`WrittenSince.pages_new`), and a page
that carried an LSN at least `lsn` (for any `lsn < B`) still does (`WrittenSince.pageLsn`).  That is what
inserts and cell changes with LSNs from `B` on do (`WrittenSince B`), and `createTable_cat_core`
(`StmtCreateTable`) says that the body consists of such (`Created.wpt`, `Created.wsch`).  Also here: only the
flush at the end of CREATE TABLE writes the data file.
-/
set_option autoImplicit false
namespace Mkdb.Store
open Mkdb.Page Mkdb.Tuple Mkdb.Generated Mkdb.Tree Mkdb.Engine

/-! ### writes stamped from `B` on -/

theorem WrittenSince.pageLsn {lo : Nat} {t t' : Levels} (h : WrittenSince lo t t') {page lsn : Nat}
    (hl : lsn < lo) (hp : PageLsn t page lsn) : PageLsn t' page lsn := by
  induction h with
  | refl => exact hp
  | ins _ hI hlo hins ih => exact ih.ins (by omega) hI hins
  | upd f key _ hlo ih => exact ih.upd (by omega) f key

theorem WrittenSince.pages_new {lo : Nat} {t t' : Levels} (h : WrittenSince lo t t') :
    ∀ e ∈ flatten t', e ∈ flatten t ∨ e.2.2 = true := by
  induction h with
  | refl => exact fun _ he => .inl he
  | ins _ _ _ hins ih =>
    intro e he
    rcases insertAppend_pages_new _ _ _ _ _ _ _ hins e he with h1 | h1
    · exact ih e h1
    · exact .inr h1.2
  | upd f key _ _ ih =>
    intro e he
    rcases updLeaves_pages_new f key _ _ e he with h1 | h1
    · exact ih e h1
    · exact .inr h1.2

/-! ### the data file -/

/-- without its flush CREATE TABLE is catalog lookups and row operations -/
theorem KeepsDisk.createTable_noflush (fields : List FieldDef) (name : Bytes) (order : List Nat) :
    KeepsDisk (createTable fields name order false) :=
  diskSame_writes.writes.createTable fields name order false (diskSame_writes.checkAbsent name) nofun

/-- the flush returns no error: an error of CREATE TABLE is an error before it -/
theorem createTable_err_disk {fields : List FieldDef} {name : Bytes} {order : List Nat} {doFlush : Bool}
    {s s' : Store} {e : SErr} (h : createTable fields name order doFlush s = .err e s') : DiskSame s s' := by
  rw [createTable_flush_eq] at h
  rcases bind_eq_err h with h1 | ⟨_, s2, _, h4⟩
  · exact (KeepsDisk.createTable_noflush fields name order).err h1
  · exact (ErrIn.ite (P := fun _ => False) (fun _ => ErrIn.flushPages order) (fun _ => ErrIn.pure ()) s2 e s' h4).elim

end Mkdb.Store
end

section
/-! ## CREATE TABLE keeps the invariant, and so does every statement -/
set_option autoImplicit false
namespace Mkdb.Store
open Mkdb.Page Mkdb.Tuple Mkdb.Generated Mkdb.Tree Mkdb.Engine

theorem AppliedC.grows {B : Nat} {pt sch pt' sch' : Levels} {tbls extra : List (Bytes × Levels)} {r : WalRec}
    (ha : AppliedC pt sch tbls r) (hl : r.lsn < B) (hp : WrittenSince B pt pt') (hs : WrittenSince B sch sch') :
    AppliedC pt' sch' (tbls ++ extra) r := by
  rcases ha with ⟨x, hx, hpl⟩ | ⟨hop, tb, tr, hm, hpg, hkey⟩
  · left
    rcases mem_catTrees.mp hx with rfl | rfl | ⟨e, he, rfl⟩
    · exact ⟨pt', Cat.pt_mem, hp.pageLsn hl hpl⟩
    · exact ⟨sch', Cat.sch_mem, hs.pageLsn hl hpl⟩
    · exact ⟨e.2, Cat.tb_mem (List.mem_append_left _ he), hpl⟩
  · exact .inr ⟨hop, tb, tr, List.mem_append_left _ hm, hpg, hkey⟩

theorem AbsTables.of_sch {sch sch' : Levels} {tbls : List (Bytes × Levels)} {sdb : Spec.SDB}
    (h : AbsTables sch tbls sdb) (hs : ∀ n ∈ tbls.map (·.1), schemaOf sch' n = schemaOf sch n) :
    AbsTables sch' tbls sdb := by
  induction h with
  | nil => exact .nil
  | @cons e st tbls' sdb' hx _ ih =>
    refine .cons ?_ (ih (fun n hn => hs n (by simp only [List.map_cons, List.mem_cons]; exact .inr hn)))
    obtain ⟨schema, h1, hnd, h2, h3⟩ := hx
    exact ⟨schema, by rw [hs e.1 (by simp), h1], hnd, h2, h3⟩

/-- the log and the clean pages through the body of CREATE TABLE: it writes no record, stamps only with LSNs
above the log, and every page it writes is dirty -/
theorem InUse.created {P : Nat × Node × Bool → Prop} {s sN : Store} {pt sch pt1 ptN schN : Levels} {nf1 : Nat}
    {fields : List FieldDef} {name : Bytes} {tbls : List (Bytes × Levels)} {wal : List WalRec}
    (hi : InUse sch P s pt tbls wal) (hc : Created s pt sch fields name sN pt1 nf1 ptN schN) :
    InUse schN P sN ptN (tbls ++ [(name, emptyTree s.hdr.nextFree)]) wal := by
  refine ⟨fun r hr => (hi.applied r hr).grows (hi.lsn r hr) hc.wpt hc.wsch,
    fun r hr => Nat.lt_trans (hi.lsn r hr) hc.lsn_lt,
    fun r hr hop => Nat.le_trans (hi.keys r hr hop) (by rw [hc.lastKey]; omega), ?_⟩
  intro x hx e he
  rcases mem_catTrees.mp hx with rfl | rfl | ⟨e0, he0, rfl⟩
  · exact (hc.wpt.pages_new e he).elim (fun h1 => hi.pages pt Cat.pt_mem e h1) .inl
  · exact (hc.wsch.pages_new e he).elim (fun h1 => hi.pages sch Cat.sch_mem e h1) .inl
  · rcases List.mem_append.mp he0 with h1 | h1
    · exact hi.pages e0.2 (Cat.tb_mem h1) e he
    · simp only [List.mem_singleton] at h1
      subst h1
      simp only [flatten, emptyTree, List.map_cons, List.map_nil, List.flatMap_nil, List.append_nil,
        List.mem_singleton] at he
      subst he
      exact .inl rfl

theorem DbInv.created {db : Engine.DB} {sdb : Spec.SDB} {pt sch : Levels} {tbls : List (Bytes × Levels)}
    (h : DbInv db sdb pt sch tbls) {cols : List Sql.ColDef} {name : Bytes} {sN : Store} {pt1 : Levels} {nf1 : Nat}
    {ptN schN : Levels} (hc : Created db.store pt sch (cols.map Engine.colTypeToField) name sN pt1 nf1 ptN schN)
    (hcN : Cat sN ptN schN (tbls ++ [(name, emptyTree db.store.hdr.nextFree)]))
    (hn1 : name ≠ sysPages) (hn2 : name ≠ sysSchema) (hn3 : name ∉ tbls.map (·.1))
    (hfld : checkFieldsFrom [] (cols.map Engine.colTypeToField) = none)
    (hmf : MemFiled sN) (hd : sN.disk = db.store.disk) :
    DbInv { store := sN, wal := db.wal } (sdb ++ [⟨name, cols.map Spec.colField, []⟩]) ptN schN
      (tbls ++ [(name, emptyTree db.store.hdr.nextFree)]) := by
  obtain ⟨sdb0, habs0, hv⟩ := h.abs
  have hi := h.inUse.created hc
  have hsnew : schemaOf schN name = some (cols.map Engine.colTypeToField) := by
    rw [hc.schNew, h.nostale name hn3 hn1 hn2]; rfl
  refine ⟨⟨sdb0 ++ [⟨name, cols.map Engine.colTypeToField, []⟩], ⟨hcN, ?_⟩, ?_⟩, ?_, hmf, hi.applied, hi.lsn, hi.keys,
    hi.synced hd⟩
  · apply AbsTables.append
    · exact habs0.tabs.of_sch fun n hn => hc.schOld n (fun heq => hn3 (heq ▸ hn))
    · exact .cons ⟨cols.map Engine.colTypeToField, hsnew, ((checkFields_none_iff _).mp hfld).2,
        (by intro c hc; cases hc), rfl⟩ .nil
  · rw [valsOf_append, valsOf_append, hv, colFields_eq]
  · intro n hn h1 h2
    have hne : n ≠ name := fun heq => hn (by rw [heq, List.map_append]; exact List.mem_append_right _ (by simp))
    rw [hc.schOld n hne]
    exact h.nostale n (fun hm => hn (by rw [List.map_append]; exact List.mem_append_left _ hm)) h1 h2

theorem evalCreateTable_accepted {db : Engine.DB} {pt sch : Levels} {tbls : List (Bytes × Levels)}
    (hcat : Cat db.store pt sch tbls) (hmf : MemFiled db.store) (name : Bytes) (cols : List Sql.ColDef)
    (order : List Nat) (hn1 : name ≠ sysPages) (hn2 : name ≠ sysSchema) (hn3 : name ∉ tbls.map (·.1))
    (hfld : checkFieldsFrom [] (cols.map Engine.colTypeToField) = none)
    (hchk : checkCatalogRows (cols.map Engine.colTypeToField) name = none)
    (hpd : pt.inner.length + 3 ≤ treeFuel) (hpl : pt.leaves.length + 1 ≤ scanFuel)
    (hsd : sch.inner.length + cols.length + 2 ≤ treeFuel) (hsl : sch.leaves.length + cols.length ≤ scanFuel)
    (hbig : db.store.hdr.nextFree + 262144 * cols.length + 262144 ≤ 9223372036854775807) :
    ∃ sN pt1 nf1 ptN schN, Cat sN ptN schN (tbls ++ [(name, emptyTree db.store.hdr.nextFree)]) ∧
      Created db.store pt sch (cols.map Engine.colTypeToField) name sN pt1 nf1 ptN schN ∧
      MemFiled sN ∧ sN.disk = db.store.disk ∧
      Engine.evalCreateTable db name cols order true = .ok () { db with store := flushed order sN } := by
  have hlen : (cols.map Engine.colTypeToField).length = cols.length := List.length_map _
  obtain ⟨sN, pt1, nf1, ptN, schN, hrun, hcN, hc⟩ := createTable_cat_core hcat (cols.map Engine.colTypeToField) name
    order hn1 hn2 hn3 hfld hchk hpd hpl (by rw [hlen]; exact hsd) (by rw [hlen]; exact hsl) (by rw [hlen]; exact hbig)
  have erun : createTable (cols.map Engine.colTypeToField) name order false db.store = .ok () sN := hrun false
  refine ⟨sN, pt1, nf1, ptN, schN, hcN, hc, createTable_memFiled hmf erun, ((KeepsDisk.createTable_noflush _ name order).ok erun).1, ?_⟩
  simp only [Engine.evalCreateTable, Engine.liftS, hrun true, if_true, flushPages_flushed]

/-- An accepted CREATE TABLE writes no log record and ends with a flush, so the result is `DbFlushed`. -/
theorem DbInv.createTable_ok {db : Engine.DB} {sdb : Spec.SDB} {pt sch : Levels} {tbls : List (Bytes × Levels)}
    (h : DbInv db sdb pt sch tbls) (name : Bytes) (cols : List Sql.ColDef) (order : List Nat)
    (hfind : Spec.findTable sdb name = none) (hn1 : name ≠ sysPages) (hn2 : name ≠ sysSchema)
    (hfld : checkFieldsFrom [] (cols.map Engine.colTypeToField) = none)
    (hchk : checkCatalogRows (cols.map Engine.colTypeToField) name = none)
    (hpd : pt.inner.length + 3 ≤ treeFuel) (hpl : pt.leaves.length + 1 ≤ scanFuel)
    (hsd : sch.inner.length + cols.length + 2 ≤ treeFuel) (hsl : sch.leaves.length + cols.length ≤ scanFuel)
    (hbig : db.store.hdr.nextFree + 262144 * cols.length + 262144 ≤ 9223372036854775807) :
    ∃ sN s' pt1 nf1 ptN schN, Cat db.store pt sch tbls ∧
      Created db.store pt sch (cols.map Engine.colTypeToField) name sN pt1 nf1 ptN schN ∧ s'.hdr = sN.hdr ∧
      Engine.evalCreateTable db name cols order true = .ok () { db with store := s' } ∧
      DbFlushed { db with store := s' } (sdb ++ [⟨name, cols.map Spec.colField, []⟩]) (clean ptN) (clean schN)
        (cleanT (tbls ++ [(name, emptyTree db.store.hdr.nextFree)])) := by
  obtain ⟨sdb0, habs0, hv⟩ := h.abs
  have hn3 : name ∉ tbls.map (·.1) := habs0.not_mem ((findTable_none_congr hv name).mpr hfind)
  obtain ⟨sN, pt1, nf1, ptN, schN, hcN, hc, hmfN, hd, heval⟩ := evalCreateTable_accepted habs0.cat h.filed name cols
    order hn1 hn2 hn3 hfld hchk hpd hpl hsd hsl hbig
  exact ⟨sN, _, pt1, nf1, ptN, schN, habs0.cat, hc, (flushed_spec order sN hmfN).1, heval,
    (h.created hc hcN hn1 hn2 hn3 hfld hmfN hd).flushed order⟩

theorem DbInv.same {db db' : Engine.DB} {sdb : Spec.SDB} {pt sch : Levels} {tbls : List (Bytes × Levels)}
    (h : DbInv db sdb pt sch tbls) (hs : Same db.store db'.store) (hd : db'.store.disk = db.store.disk)
    (hf : MemFiled db'.store) (hw : db'.wal = db.wal) : DbInv db' sdb pt sch tbls := by
  obtain ⟨sdb0, habs0, hv⟩ := h.abs
  refine ⟨⟨sdb0, habs0.of_same hs, hv⟩, h.nostale, hf, by rw [hw]; exact h.log, ?_, ?_, ?_⟩
  · rw [hw, hs.2]; exact h.lsn
  · rw [hw, hs.2]; exact h.keys
  · intro x hx e he hdy
    rw [hd]; exact h.synced x hx e he hdy

theorem evalCreateTable_err_disk {db db' : Engine.DB} {n : Bytes} {cols : List Sql.ColDef} {order : List Nat}
    {doFlush : Bool} {e : Engine.StmtErr} (he : Engine.evalCreateTable db n cols order doFlush = .err e db') :
    DiskSame db.store db'.store := by
  simp only [Engine.evalCreateTable, Engine.liftS] at he
  cases e2 : createTable (cols.map Engine.colTypeToField) n order doFlush db.store with
  | err x s' =>
    rw [e2] at he
    cases he
    exact createTable_err_disk e2
  | _ => rw [e2] at he; cases he

/-! ### every statement -/

/-- SET literals of an UPDATE that a Go program can hold (the other kinds carry this in `StmtRoomT`) -/
def StmtLits : Sql.Stmt → Prop
  | .update _ sets _ => ∀ p ∈ sets, ∀ l, p.2 = .lit l → ValidVal (Engine.litToVal l)
  | _ => True

/-- **A statement the plain model accepts, with the room of `StmtRoom`, meets the side conditions of the
theorems about every outcome**: its table exists, so the clauses of `StmtNames` about unknown names are
void; `StmtRoomT` and `StmtLits` are parts of `StmtRoom`. -/
theorem StmtRoom.accepted_side {db : Engine.DB} {sdb sdb' : Spec.SDB} {pt sch : Levels} {tbls : List (Bytes × Levels)}
    (h : AbsV db.store pt sch tbls sdb) {st : Sql.Stmt} (hroom : StmtRoom db pt sch tbls st)
    (hspec : Spec.specStmt sdb st = some sdb') :
    StmtNames pt tbls st ∧ StmtRoomT db pt sch tbls st ∧ StmtLits st := by
  have known : ∀ {t : Bytes} {tb : Spec.STable}, Spec.findTable sdb t = some tb → t ∈ tbls.map (·.1) := by
    intro t tb hf
    obtain ⟨tr, _, htr, _⟩ := h.find hf
    exact List.mem_map.mpr ⟨(t, tr), htr, rfl⟩
  cases st with
  | insert t cols rows =>
    obtain ⟨tb, _, hf, _⟩ := specInsert_some_iff.mp hspec
    exact ⟨fun hn => absurd (known hf) hn, hroom, trivial⟩
  | update t sets w =>
    obtain ⟨tb, _, _, hf, _⟩ := specUpdate_some_iff.mp hspec
    exact ⟨fun hn => absurd (known hf) hn, trivial, hroom.1⟩
  | delete t w =>
    obtain ⟨tb, _, hf, _⟩ := specDelete_some_iff.mp hspec
    exact ⟨fun hn => absurd (known hf) hn, trivial, trivial⟩
  | createTable n cols =>
    obtain ⟨_, hn1, _⟩ := specCreate_some hspec
    exact ⟨fun e => absurd e hn1, hroom.2.2, trivial⟩
  | _ => exact ⟨trivial, trivial, trivial⟩

/-- the outcome of a statement that keeps the invariant: `.ok` or `.err` - never a panic, an unmodelled
path or exhausted fuel - with a database that satisfies the invariant for some plain database -/
def KeepsInv (r : Engine.Res Unit) : Prop :=
  ∃ db', (r = .ok () db' ∨ ∃ e, r = .err e db') ∧ ∃ sdb pt sch tbls, DbInv db' sdb pt sch tbls

theorem KeepsInv.inv {r : Engine.Res Unit} (h : KeepsInv r) {db' : Engine.DB}
    (hr : r = .ok () db' ∨ ∃ e, r = .err e db') : ∃ sdb pt sch tbls, DbInv db' sdb pt sch tbls := by
  obtain ⟨db'', hres, hi⟩ := h
  have : db'' = db' := by
    rcases hr with rfl | ⟨e, rfl⟩ <;> rcases hres with h1 | ⟨x, h1⟩ <;> cases h1 <;> rfl
  exact this ▸ hi

theorem KeepsInv.total {r : Engine.Res Unit} (h : KeepsInv r) (h1 : ∀ db', r ≠ .ok () db')
    (h2 : ∀ e db', r ≠ .err e db') : False := by
  obtain ⟨db', hres | ⟨e, hres⟩, _⟩ := h
  · exact h1 db' hres
  · exact h2 e db' hres

theorem voidRes_ok {α : Type} {r : Engine.Res α} {db' : Engine.DB} (h : voidRes r = .ok () db') : ∃ a, r = .ok a db' := by
  cases r with
  | ok a y => cases h; exact ⟨a, rfl⟩
  | _ => cases h

theorem voidRes_err {α : Type} {r : Engine.Res α} {e : Engine.StmtErr} {db' : Engine.DB} (h : voidRes r = .err e db') :
    r = .err e db' := by
  cases r with
  | err x y => cases h; rfl
  | _ => cases h

theorem voidRes_unit (r : Engine.Res Unit) : voidRes r = r := by cases r <;> rfl

theorem KeepsInv.of_effect {α} {db : Engine.DB} {sdb : Spec.SDB} {pt sch : Levels} {tbls : List (Bytes × Levels)}
    (h : DbInv db sdb pt sch tbls) {r : Engine.Res α} (he : ResEffect sch db tbls r) (hd : ResDisk db.store r)
    (hf : ResFiled r) : KeepsInv (voidRes r) := by
  cases r with
  | ok a db' =>
    obtain ⟨sdb', pt', tbls', hi⟩ := h.row_effect he hd hf
    exact ⟨db', .inl rfl, sdb', pt', sch, tbls', hi⟩
  | err e db' =>
    obtain ⟨sdb', pt', tbls', hi⟩ := h.row_effect he hd hf
    exact ⟨db', .inr ⟨e, rfl⟩, sdb', pt', sch, tbls', hi⟩
  | panic p => exact he.elim
  | unmodelled w => exact he.elim
  | fuel => exact he.elim

theorem evalDelete_resDisk (db : Engine.DB) (table : Bytes) (w : Option Sql.Cond) :
    ResDisk db.store (Engine.evalDelete db table w) :=
  evalDelete_keeps diskSame_writes db table w

theorem evalUpdate_resDisk (db : Engine.DB) (table : Bytes) (sets : List (Bytes × Sql.VExpr))
    (w : Option Sql.Cond) : ResDisk db.store (Engine.evalUpdate db table sets w) :=
  evalUpdate_keeps diskSame_writes db table sets w

/-- **Every statement keeps the invariant of the database, whatever its outcome.**  From a database that
satisfies `DbInv`, every CREATE TABLE / INSERT / UPDATE / DELETE the parser can produce (side conditions
as for totality: `StmtNames`, `StmtRoomT`; for UPDATE literals a Go program can hold, `StmtLits`)
returns `.ok` or `.err` - never a panic, an unmodelled path, exhausted fuel - with a database that
satisfies `DbInv` again for SOME plain database: the plain model's result for an accepted statement, the
same plain database for a statement refused before a change, the plain database with the applied prefix
for a multi-row statement refused at a later row (the known finding of C14).  The other statement kinds
change no database. -/
theorem evalStmt_keeps_inv (db : Engine.DB) (order : List Nat) (sdb : Spec.SDB) (pt sch : Levels)
    (tbls : List (Bytes × Levels)) (h : DbInv db sdb pt sch tbls) (st : Sql.Stmt) (hnames : StmtNames pt tbls st)
    (hroom : StmtRoomT db pt sch tbls st) (hlits : StmtLits st) : KeepsInv (evalStmt db order st) := by
  obtain ⟨sdb0, habs0, hv⟩ := h.abs
  have hkeep : KeepsInv (.ok () db) := ⟨db, .inl rfl, sdb, pt, sch, tbls, h⟩
  cases st with
  | insert t cols rows =>
    exact KeepsInv.of_effect h
      (evalInsert_effect db pt sch tbls sdb0 habs0 t cols _ (litRows_valid rows hroom.1) hnames hroom.2)
      (evalInsert_keeps diskSame_writes db t cols _) (evalInsert_filed db t cols _ h.filed)
  | update t sets w =>
    have := KeepsInv.of_effect h (evalUpdate_effect db pt sch tbls sdb0 habs0 t sets w hlits hnames)
      (evalUpdate_resDisk db t sets w) (evalUpdate_filed db t sets w h.filed)
    rw [voidRes_unit] at this
    exact this
  | delete t w =>
    exact KeepsInv.of_effect h (evalDelete_effect db pt sch tbls sdb0 habs0 t w hnames)
      (evalDelete_resDisk db t w) (evalDelete_filed db t w h.filed)
  | createDatabase n => exact hkeep
  | select s => exact hkeep
  | use d => exact hkeep
  | showDatabases => exact hkeep
  | createTable n cols =>
    obtain ⟨hpd, hpl, hsd, hsl, hbig⟩ := hroom
    rcases evalCreateTable_refused_or_checked db pt sch tbls sdb h.abs n cols order hnames with
      ⟨e, db', he, hw, hs, _⟩ | ⟨hfind, hs1, hs2, hfld, hchk⟩
    · have hd : db'.store.disk = db.store.disk := (evalCreateTable_err_disk he).1
      exact ⟨db', .inr ⟨.store e, he⟩, sdb, pt, sch, tbls,
        h.same hs hd ((evalCreateTable_filed db n cols order true h.filed).err he) hw⟩
    · obtain ⟨_, _, _, _, _, _, _, _, _, e, hk⟩ := h.createTable_ok n cols order hfind hs1 hs2 hfld hchk hpd hpl
        hsd hsl hbig
      exact ⟨_, .inl e, _, _, _, _, hk.inv⟩

end Mkdb.Store
end
