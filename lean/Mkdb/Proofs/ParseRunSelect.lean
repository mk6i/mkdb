import Mkdb.Proofs.ParseRun
/-!
The pass over the productions (`ParseRun`), SELECT: set functions, the select list, table names and join chains,
FROM, GROUP BY, ORDER BY, LIMIT / OFFSET, and `parseSelect`.
-/
namespace Mkdb.Sql
open Mkdb.Scan Mkdb.Generated RunTac

section
variable {f n : Nat}

theorem Run.setFunction {E : Prop} : Run setFunction setFunction n E (Same fun o l x =>
    (oval (fun _ => 1) o ≤ l ∧ oval SelItem.size o ≤ 3 * l + x ∧ oval SelItem.depth o ≤ l) ∧
      ∀ it, o = some it → wfItem int64Lit it = true) := by
  unfold Sql.setFunction
  hit Run.matchKw
  · hit Run.matchKw
    · retw
    · pass Run.requireKw
      step Run.columnReference
      split
      · exact Run.fail
      · pass Run.requireKw
        retw
  · pass Run.requireKw
    rw [P.bind_assoc]
    step Run.columnReference
    split
    · rw [P.pure_bind]
      pass Run.requireKw
      retw
    · rw [P.bind_assoc]
      pass Run.requireKw
      rw [P.pure_bind]
      pass Run.requireKw
      retw

theorem Run.derivedColumn : Run (derivedColumn f) (derivedColumn f) n (n + 2 ≤ f) (Same fun i l x =>
    (1 ≤ l ∧ i.size ≤ 3 * l + x + 1 ∧ i.depth ≤ l) ∧ wfItem int64Lit i = true) := by
  unfold Sql.derivedColumn
  step Run.setFunction
  split
  · retw
  · step Run.orCond.fuel
    retw

theorem Run.selectList : Run (selectList f) (selectList f) n (n + 2 ≤ f) (Same fun as l x =>
    (lsz DerivedCol.size as ≤ 3 * l + x + 3 ∧ lmax DerivedCol.depth as ≤ l) ∧ wfSelList int64Lit as = true) := by
  unfold Sql.selectList
  hit Run.matchKw
  · refine Run.mono (Run.sepLoop DerivedCol.size DerivedCol.depth (fun d => wfItem int64Lit d.item = true) 3 f _
      (fun k _ => ?_) (by arith)) fun _ _ _ _ h _ => ⟨h.1, by arith, wfSelList_of _ h.2.2.1 h.2.2.2⟩
    step Run.derivedColumn.fuel
    hit Run.matchKw
    case' none.some => step Run.curIs; split
    case' none.some.isTrue => step Run.requireIdent
    -- the three ways to the alias
    all_goals
      step Run.matchIdent
      step Run.commaFollows
      split <;> retw
  · exact Run.pure ⟨rfl, by arith, rfl⟩

theorem Run.tableName {E : Prop} : Run tableName tableName n E (Same fun t l x =>
    1 ≤ l ∧ t.size + 1 ≤ 3 * l + x) := by
  unfold Sql.tableName
  step Run.requireIdent
  refine Run.bind Run.matchIdent fun alias _ _ _ h _ => ?_
  obtain ⟨h, _⟩ := h
  subst h
  cases alias <;> ret

theorem Run.joinLoop (f : Nat) : ∀ n lhs, Run (joinLoop f lhs) (joinLoop f lhs) n (n + 2 ≤ f) (Same fun t l x =>
    (t.size ≤ 3 * l + x + lhs.size ∧ t.depth ≤ l + lhs.depth) ∧
      (wfTR int64Lit lhs = true → wfTR int64Lit t = true)) := by
  induction f with
  | zero => intro n lhs; unfold Sql.joinLoop; exact Run.outOfFuel (by omega)
  | succ f ih =>
    intro n lhs
    unfold Sql.joinLoop
    step Run.curIs
    split
    · refine Run.bind (V1 := Same fun _ l _ => l ≤ 1) ?_ fun _ _ _ _ h _ => ?_
      · hit Run.matchKw
        · hit Run.matchKw
          · refine Run.bind Run.matchKw fun inner _ _ _ _ _ => ?_
            cases inner <;> ret
          · ret
        · ret
      · obtain ⟨h, _⟩ := h
        subst h
        pass Run.requireKw
        step Run.tableName
        pass Run.requireKw
        step Run.orCond.fuel
        exact Run.mono (ih _ _).fuel fun _ _ _ _ h _ => ⟨h.1, by arith, fun hl => h.2.2 (by shape)⟩
    · exact Run.pure ⟨rfl, by arith, id⟩

theorem Run.fromClause : Run (fromClause f) (fromClause f) n (n + 2 ≤ f) (Same fun o l x =>
    (osz TableRef.size o ≤ 3 * l + x + 1 ∧ oval TableRef.depth o ≤ l) ∧
      ∀ tr, o = some tr → wfTR int64Lit tr = true) := by
  unfold Sql.fromClause
  hit Run.matchKw
  · retw
  · step Run.tableName
    refine Run.bind (Run.joinLoop f _ _).fuel fun _ _ _ _ h _ => ?_
    obtain ⟨h, _, hw⟩ := h
    subst h
    exact Run.pure ⟨rfl, by arith, fun _ e => by cases e; exact hw rfl⟩

theorem Run.groupByLoop (f : Nat) : ∀ n b, Run (groupByLoop f b) (groupByLoop f b) n (n + 2 ≤ f)
    (Same fun as l x => lsz ColRef.size as ≤ 3 * l + x) := by
  induction f with
  | zero => intro n b; unfold Sql.groupByLoop; exact Run.outOfFuel (by omega)
  | succ f ih =>
    intro n b
    unfold Sql.groupByLoop
    step Run.columnReference
    split
    · split
      · exact Run.fail
      · ret
    · step Run.commaFollows
      step (ih _ _).fuel
      ret

theorem Run.groupByClause : Run (groupByClause f) (groupByClause f) n (n + 2 ≤ f)
    (Same fun as l x => lsz ColRef.size as ≤ 3 * l + x) := by
  unfold Sql.groupByClause
  hit Run.matchKw
  · ret
  · pass Run.requireKw
    last (Run.groupByLoop f _ _).fuel

end

section
variable {f n : Nat}

/-- `as = [] ∨ 3 ≤ l` (and `∨ 2 ≤ l` of the LIMIT / OFFSET clause below) is for the SELECT without FROM, behind
which at most one token is left: the clause is then absent. -/
theorem Run.sortSpecList : Run (sortSpecList f) (sortSpecList f) n (n + 2 ≤ f) (Same fun as l x =>
    lsz SortSpec.size as ≤ 3 * l + x ∧ (as = [] ∨ 3 ≤ l)) := by
  unfold Sql.sortSpecList
  hit Run.matchKw
  · exact Run.pure ⟨rfl, by arith, .inl rfl⟩
  · pass Run.requireKw
    refine Run.mono (Run.sepLoop SortSpec.size (fun _ => 0) (fun _ => True) 1 f _ (fun k _ => ?_) (by arith))
      fun _ _ _ _ h _ => ⟨h.1, by arith, .inr (by arith)⟩
    step Run.columnReference
    split
    · exact Run.fail
    · hit Run.matchKw
      · step Run.commaFollows
        retw
      · step Run.commaFollows
        retw

/-- an absent bound is 0, a present one is in range -/
def LInv (lc : LimitOffset) : Prop :=
  (lc.limitActive = false → lc.limit = 0) ∧ (lc.offsetActive = false → lc.offset = 0) ∧
  (lc.limitActive = true → int64Lit (.int lc.limit) = true) ∧
  (lc.offsetActive = true → int64Lit (.int lc.offset) = true)

/-- the loop of `LimitOffsetClause` keeps `LInv`, and a bound it has set took two tokens -/
theorem Run.limitLoop (f : Nat) : ∀ n lc, Run (limitLoop f lc) (limitLoop f lc) n (n + 2 ≤ f) (Same fun lc' l _ =>
    (LInv lc → LInv lc') ∧ (lc'.limitActive = lc.limitActive ∧ lc'.offsetActive = lc.offsetActive ∨ 2 ≤ l)) := by
  induction f with
  | zero => intro n lc; unfold Sql.limitLoop; exact Run.outOfFuel (by omega)
  | succ f ih =>
    intro n lc
    unfold Sql.limitLoop
    hit Run.matchKw
    · exact Run.pure ⟨rfl, id, .inl ⟨rfl, rfl⟩⟩
    · refine Run.ite ?_ (Run.ite ?_ ?_)
      · refine Run.bind Run.requireInt fun i _ _ _ h _ => ?_
        obtain ⟨h, _, hi⟩ := h
        subst h
        exact Run.mono (ih _ _).fuel fun _ _ _ _ h _ => ⟨h.1, fun hl => h.2.1
          ⟨fun h => (by cases h), hl.2.1, fun _ => hi, hl.2.2.2⟩, .inr (by arith)⟩
      · refine Run.bind Run.requireInt fun i _ _ _ h _ => ?_
        obtain ⟨h, _, hi⟩ := h
        subst h
        exact Run.mono (ih _ _).fuel fun _ _ _ _ h _ => ⟨h.1, fun hl => h.2.1
          ⟨hl.1, fun h => (by cases h), hl.2.2.1, fun _ => hi⟩, .inr (by arith)⟩
      · exact Run.mono (ih _ _).fuel fun _ _ _ _ h _ => ⟨h.1, h.2.1, h.2.2.imp_right fun _ => by arith⟩

theorem Run.limitOffsetClause : Run (limitOffsetClause f) (limitOffsetClause f) n (n + 2 ≤ f) (Same fun lc l _ =>
    wfLimit int64Lit lc = true ∧ (lc.limitActive = false ∧ lc.offsetActive = false ∨ 2 ≤ l)) := by
  have h0 : LInv {} := ⟨fun _ => rfl, fun _ => rfl, fun h => (by cases h), fun h => (by cases h)⟩
  unfold Sql.limitOffsetClause
  refine Run.bind (Run.limitLoop f _ _).fuel fun lc _ _ _ h _ => ?_
  obtain ⟨h, hl, ha⟩ := h
  subst h
  by_cases h1 : lc.limit < 0
  · rw [if_pos h1]; exact Run.fail
  by_cases h2 : lc.offset < 0
  · rw [if_neg h1, if_pos h2]; exact Run.fail
  rw [if_neg h1, if_neg h2]
  refine Run.pure ⟨rfl, ?_, ha.imp_right fun _ => by omega⟩
  obtain ⟨la, oa, l, off⟩ := lc
  obtain ⟨h0l, hb, hc, hd⟩ := hl h0
  simp only [Int.not_lt] at h1 h2 h0l hb hc hd
  cases la <;> cases oa <;>
    simp only [wfLimit, Bool.false_eq_true, ↓reduceIte, Bool.and_eq_true, decide_eq_true_eq]
  · exact ⟨h0l rfl, hb rfl⟩
  · exact ⟨h0l rfl, h2, hd rfl⟩
  · exact ⟨⟨h1, hc rfl⟩, hb rfl⟩
  · exact ⟨⟨h1, hc rfl⟩, h2, hd rfl⟩

end

section
variable {f n : Nat}

theorem Run.parseSelect : Run (parseSelect f) (parseSelect f) n (n + 2 ≤ f) (Same fun s l x =>
    (s.size ≤ 3 * l + x + 11 ∧ s.depth ≤ l) ∧ wfSelect int64Lit s = true) := by
  unfold Sql.parseSelect
  step Run.selectList
  refine Run.bind Run.fromClause.fuel fun fr _ _ _ h _ => ?_
  obtain ⟨h, _, hfr⟩ := h
  subst h
  cases fr with
  | none =>
    dsimp only
    refine Run.bind Run.hasNext fun b _ _ _ h _ => ?_
    obtain ⟨h, _, _, hn⟩ := h
    subst h
    cases b with
    | true =>
      simp only [↓reduceIte]
      pass Run.requireKw
      exact Run.fail
    | false =>
      -- at most one token is left: neither ORDER BY nor LIMIT / OFFSET fits
      have hn := of_decide_eq_false hn.symm
      simp only [Bool.false_eq_true, ↓reduceIte]
      split
      · exact Run.fail
      · refine Run.bind Run.sortSpecList.fuel fun ob _ _ _ h _ => ?_
        obtain ⟨h, _, hob⟩ := h
        subst h
        obtain rfl : ob = [] := hob.resolve_right (by omega)
        refine Run.bind Run.limitOffsetClause.fuel fun lc _ _ _ h _ => ?_
        obtain ⟨h, hlc, hla⟩ := h
        subst h
        obtain ⟨hl, ho⟩ := hla.resolve_right (by omega)
        exact Run.pure ⟨rfl, by arith, by
          simp only [wfSelect, groupByValid, Option.isNone_none, List.isEmpty_nil, Bool.and_self, *]
          rfl⟩
  | some tr =>
    have htr := hfr tr rfl
    dsimp only
    step Run.whereClause.fuel
    step Run.groupByClause.fuel
    split
    · exact Run.fail
    · step Run.sortSpecList.fuel
      step Run.limitOffsetClause.fuel
      exact Run.pure ⟨rfl, by arith, by
        simp only [wfTR] at htr
        simp only [wfSelect, groupByValid, Bool.and_self, *]⟩

end

end Mkdb.Sql
