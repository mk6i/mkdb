import Mkdb.Proofs.OpText
/-!
Properties of store operations that every step of the operation keeps.  A property `C` of computations
that `pure`, `bind` and the primitives have (`ClosedReads C` … `ClosedAllocs C`; with every `throw` and the
reads and writes of the header, `ClosedLookups C`, `ClosedWrites C`) holds of each operation of the store
model, which is walked once: `if` and `match` keep any property.  `Preserves R m`: whenever `m`, started in
`s`, ends with a store `s'` (normally or with an error), `R s s'`.  If `R` is reflexive and transitive,
`Preserves R` is such a `C`; which primitives have to keep `R` grows with the operation: the scans and
catalog lookups need only `fetch` (`KeptByReads`), a cell rewrite also `putNode` and `markDirty`
(`KeptByRewrites`), the tree insert also `appendNode` and the bump of the `ghost` counter (`KeptByAllocs`),
the row operations also the bumps of the header counters and the move of the page-table root
(`KeptByWrites`).  An invariant `I` is the relation `fun s s' => I s → I s'` (`preserves_of_pre`).
-/
set_option autoImplicit false
namespace Mkdb.Store
open Mkdb.Page Mkdb.Tuple Mkdb.Generated

/-! ### what `bind` and the primitives keep -/

/-- `C` is kept by sequencing and by `fetch`: all that the scans are made of -/
structure ClosedReads (C : ∀ {α : Type}, SM α → Prop) : Prop where
  pure : ∀ {α : Type} (a : α), C (Pure.pure a : SM α)
  bind : ∀ {α β : Type} {m : SM α} {f : α → SM β}, C m → (∀ a, C (f a)) → C (m >>= f)
  panicS : ∀ {α : Type} (w : String), C (Store.panicS w : SM α)
  unmodelledS : ∀ {α : Type} (w : String), C (Store.unmodelledS w : SM α)
  outOfFuel : ∀ {α : Type}, C (Store.outOfFuel : SM α)
  fetch : ∀ off, C (Store.fetch off)

structure ClosedRewrites (C : ∀ {α : Type}, SM α → Prop) : Prop extends ClosedReads C where
  putNode : ∀ n d, C (Store.putNode n d)
  markDirty : ∀ off lsn, C (Store.markDirty off lsn)

structure ClosedAllocs (C : ∀ {α : Type}, SM α → Prop) : Prop extends ClosedRewrites C where
  appendNode : ∀ n d, C (Store.appendNode n d)

section
variable {C : ∀ {α : Type}, SM α → Prop}

theorem ClosedReads.ite {α} (_ : ClosedReads @C) {c : Prop} [Decidable c] {a b : SM α} (ha : C a) (hb : C b) :
    C (if c then a else b) := by
  split
  · exact ha
  · exact hb

theorem ClosedReads.ite' {α} (_ : ClosedReads @C) {c : Prop} [Decidable c] {a b : SM α} (ha : c → C a)
    (hb : ¬ c → C b) : C (if c then a else b) := by
  split
  · exact ha ‹_›
  · exact hb ‹_›

theorem ClosedReads.leftmostLeaf (h : ClosedReads @C) : ∀ fuel off : Nat, C (leftmostLeaf fuel off)
  | 0, _ => h.outOfFuel
  | fuel+1, off => by
    refine h.bind (h.fetch _) fun pg => ?_
    split
    · exact h.pure _
    · split
      · exact h.leftmostLeaf fuel _
      · exact h.panicS _

theorem ClosedReads.scanLeaves (h : ClosedReads @C) : ∀ (fuel : Nat) (l : Leaf), C (scanLeaves fuel l)
  | 0, _ => h.outOfFuel
  | fuel+1, l => by
    refine h.ite (h.bind (h.fetch _) fun nxt => ?_) (h.pure _)
    split
    · exact h.bind (h.scanLeaves fuel _) fun _ => h.pure _
    · exact h.ite (h.pure _) (h.panicS _)

theorem ClosedReads.scanRight (h : ClosedReads @C) (root : Nat) : C (scanRight root) :=
  h.bind (h.leftmostLeaf _ _) fun _ => h.scanLeaves _ _

theorem ClosedReads.findLeaf (h : ClosedReads @C) : ∀ fuel off key : Nat, C (findLeaf fuel off key)
  | 0, _, _ => h.outOfFuel
  | fuel+1, off, key => by
    refine h.bind (h.fetch _) fun pg => ?_
    split
    · exact h.pure _
    · exact h.findLeaf fuel _ key

theorem ClosedReads.findFirstM {α β} (h : ClosedReads @C) {f : α → SM (Option β)} (hf : ∀ a, C (f a)) :
    ∀ l : List α, C (findFirstM f l)
  | [] => h.pure _
  | a :: rest => by
    refine h.bind (hf a) fun r => ?_
    split
    · exact h.pure _
    · exact h.findFirstM hf rest

theorem ClosedReads.mapS {α β} (h : ClosedReads @C) {f : α → SM β} (hf : ∀ a, C (f a)) :
    ∀ l : List α, C (mapS f l)
  | [] => h.pure _
  | a :: rest => h.bind (hf a) fun _ => h.bind (h.mapS hf rest) fun _ => h.pure _

/-- the two refusals are hypotheses: a property of computations need not hold of every `throw` -/
theorem ClosedRewrites.updateCellAt (h : ClosedRewrites @C) (off key : Nat) (value : Bytes) (lsn : Nat)
    (hr : value.length > c_maxValueSize → C (throw .rowTooLarge : SM Unit))
    (hc : C (throw .cellNotFound : SM Unit)) : C (updateCellAt off key value lsn) := by
  unfold Store.updateCellAt
  refine h.ite' hr fun _ => h.bind (h.fetch _) fun pg => ?_
  cases pg with
  | internal _ => exact h.panicS _
  | leaf l => exact h.ite hc (h.bind (h.putNode _ _) fun _ => h.markDirty _ _)

theorem ClosedAllocs.leafSplitUp (h : ClosedAllocs @C) (parent : Option Nat) (curOff newOff newKey lsn : Nat)
    (root : RootOff) : C (leafSplitUp parent curOff newOff newKey lsn root) := by
  unfold Store.leafSplitUp
  cases parent with
  | none =>
    exact h.bind (h.appendNode _ _) fun _ => h.bind (h.markDirty _ _) fun _ =>
      h.bind (h.markDirty _ _) fun _ => h.bind (h.markDirty _ _) fun _ => h.pure _
  | some pOff =>
    refine h.bind (h.fetch _) fun p => ?_
    cases p with
    | leaf _ => exact h.panicS _
    | internal pn =>
      dsimp only
      split
      · exact h.panicS _
      · exact h.ite (h.bind (h.putNode _ _) fun _ => h.bind (h.markDirty _ _) fun _ =>
          h.bind (h.markDirty _ _) fun _ => h.bind (h.markDirty _ _) fun _ => h.pure _) (h.unmodelledS _)

theorem ClosedAllocs.leafSplit (h : ClosedAllocs @C) (parent : Option Nat) (cur1 : Leaf) (lsn : Nat)
    (root : RootOff) : C (leafSplit parent cur1 lsn root) :=
  h.bind (h.appendNode _ _) fun _ => h.bind (h.putNode _ _) fun _ => h.bind (h.putNode _ _) fun _ =>
    h.leafSplitUp _ _ _ _ _ _

/-- from its first page write on, `insertLeaf` throws nothing -/
theorem ClosedAllocs.leafWrite (h : ClosedAllocs @C) (parent : Option Nat) (cur1 : Leaf) (lsn : Nat)
    (root : RootOff) : C (leafWrite parent cur1 lsn root) :=
  h.bind (h.putNode _ _) fun _ => h.ite (h.pure _) (h.leafSplit _ _ _ _)

theorem ClosedAllocs.insertLeaf (h : ClosedAllocs @C) (parent : Option Nat) (cur : Leaf) (key lsn : Nat)
    (value : Bytes) (root : RootOff) (hk : C (throw .keyExists : SM RootOff))
    (hr : value.length > c_maxValueSize → C (throw .rowTooLarge : SM RootOff)) :
    C (insertLeaf parent cur key lsn value root) := by
  rw [insertLeaf_eq]
  exact h.ite hk (h.ite' hr fun _ => h.ite (h.unmodelledS _) (h.ite (h.unmodelledS _) (h.leafWrite _ _ _ _)))

theorem ClosedAllocs.intSplitUp (h : ClosedAllocs @C) (parent : Option Nat) (curOff newOff midKey lsn : Nat)
    (root1 : RootOff) : C (intSplitUp parent curOff newOff midKey lsn root1) := by
  unfold Store.intSplitUp
  cases parent with
  | none =>
    exact h.bind (h.appendNode _ _) fun _ => h.bind (h.markDirty _ _) fun _ =>
      h.bind (h.markDirty _ _) fun _ => h.pure _
  | some pOff =>
    refine h.bind (h.fetch _) fun p => ?_
    cases p with
    | leaf _ => exact h.panicS _
    | internal pn =>
      exact h.bind (h.putNode _ _) fun _ => h.bind (h.markDirty _ _) fun _ =>
        h.bind (h.markDirty _ _) fun _ => h.pure _

/-- once the child level has returned, `insertInternal` throws nothing -/
theorem ClosedAllocs.afterChild (h : ClosedAllocs @C) (parent : Option Nat) (curOff lsn : Nat) (root1 : RootOff) :
    C (afterChild parent curOff lsn root1) := by
  unfold Store.afterChild
  refine h.bind (h.fetch _) fun me => ?_
  cases me with
  | leaf _ => exact h.panicS _
  | internal cur1 =>
    exact h.ite (h.pure _) (h.bind (h.appendNode _ _) fun _ => h.bind (h.putNode _ _) fun _ =>
      h.intSplitUp _ _ _ _ _ _)

theorem ClosedAllocs.insertInternal (h : ClosedAllocs @C) (key lsn : Nat) (value : Bytes)
    (hk : C (throw .keyExists : SM RootOff))
    (hr : value.length > c_maxValueSize → C (throw .rowTooLarge : SM RootOff)) :
    ∀ (fuel : Nat) (parent : Option Nat) (cur : Internal) (root : RootOff),
      C (insertInternal fuel parent cur key lsn value root)
  | 0, _, _, _ => h.outOfFuel
  | fuel+1, parent, cur, root => by
    rw [insertInternal_eq]
    refine h.ite hk (h.bind (h.fetch _) fun child => ?_)
    cases child with
    | leaf l => exact h.bind (h.insertLeaf _ _ _ _ _ _ hk hr) fun _ => h.afterChild _ _ _ _
    | internal i =>
      exact h.bind (h.insertInternal key lsn value hk hr fuel _ _ _) fun _ => h.afterChild _ _ _ _

theorem ClosedAllocs.insertKeyHeap (h : ClosedAllocs @C) (bt : BT) (key lsn : Nat) (value : Bytes)
    (hk : C (throw .keyExists : SM RootOff))
    (hr : value.length > c_maxValueSize → C (throw .rowTooLarge : SM RootOff)) :
    C (insertKeyHeap bt key lsn value) := by
  unfold Store.insertKeyHeap
  refine h.bind (h.fetch _) fun pg => ?_
  cases pg with
  | leaf l => exact h.bind (h.insertLeaf _ _ _ _ _ _ hk hr) fun _ => h.pure _
  | internal i => exact h.bind (h.insertInternal _ _ _ hk hr _ _ _ _) fun _ => h.pure _

end

/-! ### relations between the store before and after -/

def Preserves {α} (R : Store → Store → Prop) (m : SM α) : Prop := ∀ s, (m s).After (R s)

variable {R : Store → Store → Prop}

theorem Preserves.ok {α} {m : SM α} (h : Preserves R m) {s s' : Store} {a : α}
    (e : m s = .ok a s') : R s s' := by have := h s; rw [e] at this; exact this

theorem Preserves.err {α} {m : SM α} (h : Preserves R m) {s s' : Store} {x : SErr}
    (e : m s = .err x s') : R s s' := by have := h s; rw [e] at this; exact this

theorem preserves_of_pre {α} {I : Store → Prop} {J : Store → Store → Prop} {m : SM α} :
    Preserves (fun s s' => I s → J s s') m ↔ ∀ s, I s → (m s).After (J s) := by
  constructor
  · intro h s hi
    have := h s
    generalize m s = r at this ⊢
    cases r <;> first | exact this hi | trivial
  · intro h s
    have := h s
    generalize m s = r at this ⊢
    cases r <;> first | exact this | trivial

theorem Preserves.mono {α} {R' : Store → Store → Prop} {m : SM α} (h : Preserves R m)
    (hr : ∀ {s s'}, R s s' → R' s s') : Preserves R' m := fun s => (h s).mono fun _ => hr

theorem Preserves.seq {α β} {R₁ R₂ : Store → Store → Prop} {m : SM α} {f : α → SM β}
    (hm : Preserves R₁ m) (hf : ∀ a, Preserves R₂ (f a))
    (hcomp : ∀ {a b c}, R₁ a b → R₂ b c → R a c) (herr : ∀ {a b}, R₁ a b → R a b) :
    Preserves R (m >>= f) := by
  intro s
  have h1 := hm s
  show SRes.After (R s) (match m s with
    | .ok a s' => f a s'
    | .err e s' => .err e s'
    | .panic p => .panic p
    | .unmodelled w => .unmodelled w
    | .fuel => .fuel)
  generalize m s = r at h1 ⊢
  cases r with
  | ok a s1 => exact (hf a s1).mono fun _ => hcomp h1
  | err e s1 => exact herr h1
  | _ => trivial

theorem Preserves.panicS {α} (w : String) : Preserves R (panicS w : SM α) := fun _ => trivial
theorem Preserves.unmodelledS {α} (w : String) : Preserves R (unmodelledS w : SM α) := fun _ => trivial
theorem Preserves.outOfFuel {α} : Preserves R (outOfFuel : SM α) := fun _ => trivial

theorem Preserves.ite {α} {c : Prop} [Decidable c] {a b : SM α} (ha : Preserves R a)
    (hb : Preserves R b) : Preserves R (if c then a else b) := by
  split
  · exact ha
  · exact hb

/-! ### the catalog lookups and the row operations, for any property of computations

Beyond the tree insert (`ClosedAllocs`) the operations of the store model use four more things: refusals
(`throw`), the header read through `getS`, bumps of the header counters and the move of the page-table root
(`modifyS`), and the two wrappers of the tree insert that are not written with `bind` (`insertKey`: the
cross-check against the levels model; `btInsert`: the counters advance on the error path too).  A property
`C` of computations that has these (`ClosedLookups`, `ClosedWrites`) holds of every catalog lookup and every
row operation.  `Preserves R` for a relation of the matching tier is such a `C` (`KeptByReads.lookups`,
`KeptByWrites.writes`, below); so is a property of two runs, like "does not see the size of the cache"
(`Sim.writes`, CacheSim), for which `getS` alone would be false: it hands the store out. -/

/-- `C` is also kept by every refusal and by reading the header -/
structure ClosedLookups (C : ∀ {α : Type}, SM α → Prop) : Prop extends ClosedReads C where
  throw : ∀ {α : Type} (e : SErr), C (Store.throw e : SM α)
  /-- `getS` with a continuation that uses the page-table root and the LSN counter only: all the store model
  ever reads through it -/
  getHdr : ∀ {β : Type} {f : Store → SM β}, (∀ s, C (f s)) →
    (∀ s1 s2 : Store, s2.hdr.ptRoot = s1.hdr.ptRoot → s2.hdr.nextLSN = s1.hdr.nextLSN → f s2 = f s1) →
    C (getS >>= f)

/-- … and by the primitives of the tree insert, the header writes of the row operations, and the two
wrappers of the tree insert, each given `C` of what it wraps -/
structure ClosedWrites (C : ∀ {α : Type}, SM α → Prop) : Prop extends ClosedAllocs C, ClosedLookups C where
  bumpLSN : C (modifyS fun s => { s with hdr := { s.hdr with nextLSN := s.hdr.nextLSN + 1 } })
  setPtRoot : ∀ r, C (modifyS fun s => { s with hdr := { s.hdr with ptRoot := r } })
  insertKey_of : ∀ bt key lsn value, C (insertKeyHeap bt key lsn value) → C (insertKey bt key lsn value)
  btInsert_of : ∀ bt value, (∀ key lsn, C (insertKey bt key lsn value)) → C (btInsert bt value)

theorem decodeRow_eq (sch : List FieldDef) (bs : Bytes) :
    decodeRow sch bs = match decodeTuple sch bs [] with
      | .ok m => pure m
      | .error _ => throw .decode := by
  unfold decodeRow
  cases decodeTuple sch bs [] <;> rfl

theorem encodeRow_eq (sch : List FieldDef) (m : Vals) :
    encodeRow sch m = match encodeTuple sch m with
      | .ok b => pure b
      | .error .typeMismatch => throw .typeMismatch
      | .error .intOutOfRange => throw .intOutOfRange
      | .error .decode => throw .decode := by
  unfold encodeRow
  cases encodeTuple sch m with
  | ok b => rfl
  | error e => cases e <;> rfl

section
variable {C : ∀ {α : Type}, SM α → Prop}

/-! ### catalog lookups and `Fetch` -/

theorem ClosedLookups.decodeRow (h : ClosedLookups @C) (sch : List FieldDef) (bs : Bytes) : C (decodeRow sch bs) := by
  rw [decodeRow_eq]
  split
  · exact h.pure _
  · exact h.throw _

theorem ClosedLookups.encodeRow (h : ClosedLookups @C) (sch : List FieldDef) (m : Vals) : C (encodeRow sch m) := by
  rw [encodeRow_eq]
  split
  · exact h.pure _
  all_goals exact h.throw _

theorem ClosedLookups.relationOffset (h : ClosedLookups @C) (name : Bytes) : C (relationOffset name) := by
  unfold Store.relationOffset
  refine h.getHdr (fun s => h.bind (h.scanRight _) fun cells => h.bind
    (h.findFirstM (fun c => h.bind (h.decodeRow _ _) fun m => h.ite ?_ (h.pure _)) _) fun hit => ?_)
    (fun _ _ e _ => by simp only [e])
  · split
    · exact h.pure _
    · exact h.panicS _
  · split
    · exact h.pure _
    · exact h.throw _

theorem ClosedLookups.relationSchema (h : ClosedLookups @C) (name : Bytes) : C (relationSchema name) := by
  unfold Store.relationSchema
  refine h.bind (h.relationOffset _) fun off => h.bind (h.scanRight _) fun cells =>
    h.bind (h.mapS (fun _ => h.decodeRow _ _) _) fun rows => h.mapS (fun m => ?_) _
  split
  · exact h.ite (h.unmodelledS _) (h.pure _)
  · exact h.panicS _

theorem ClosedLookups.fetchTable (h : ClosedLookups @C) (table : Bytes) : C (fetchTable table) :=
  h.bind (h.relationOffset _) fun _ => h.bind (h.relationSchema _) fun _ => h.bind (h.fetch _) fun _ =>
    h.bind (h.scanRight _) fun _ =>
      h.bind (h.mapS (fun _ => h.bind (h.decodeRow _ _) fun _ => h.pure _) _) fun _ => h.pure _

/-- the catalog re-point of recovery: a lookup and a cell rewrite -/
theorem ClosedLookups.repointPageTable (h : ClosedLookups @C) (hw : ClosedRewrites @C) (old new lsn : Nat) :
    C (repointPageTable old new lsn) := by
  unfold Store.repointPageTable
  refine h.getHdr (fun s => h.bind (h.scanRight _) fun cells => h.bind
    (h.findFirstM (fun c => h.bind (h.decodeRow _ _) fun m => h.ite (h.pure _) (h.pure _)) _) fun hit => ?_)
    (fun _ _ e _ => by simp only [e])
  split
  · exact h.pure _
  · exact h.bind (h.encodeRow _ _) fun _ => hw.updateCellAt _ _ _ _ (fun _ => h.throw _) (h.throw _)

/-! ### the tree insert with its counters -/

theorem ClosedWrites.updateCellAt (h : ClosedWrites @C) (off key : Nat) (value : Bytes) (lsn : Nat) :
    C (updateCellAt off key value lsn) :=
  h.toClosedRewrites.updateCellAt off key value lsn (fun _ => h.throw _) (h.throw _)

theorem ClosedWrites.insertKey (h : ClosedWrites @C) (bt : BT) (key lsn : Nat) (value : Bytes) :
    C (insertKey bt key lsn value) :=
  h.insertKey_of bt key lsn value
    (h.toClosedAllocs.insertKeyHeap bt key lsn value (h.throw _) fun _ => h.throw _)

theorem ClosedWrites.btInsert (h : ClosedWrites @C) (bt : BT) (value : Bytes) : C (btInsert bt value) :=
  h.btInsert_of bt value fun key lsn => h.insertKey bt key lsn value

/-! ### the row operations and the catalog -/

theorem ClosedWrites.updatePageTable (h : ClosedWrites @C) (newRoot : Nat) (name : Bytes) :
    C (updatePageTable newRoot name) := by
  unfold Store.updatePageTable
  refine h.getHdr (fun s => h.bind (h.scanRight _) fun cells => h.bind
    (h.findFirstM (fun c => h.bind (h.decodeRow _ _) fun m => h.ite (h.pure _) (h.pure _)) _) fun hit => ?_)
    (fun _ _ e _ => by simp only [e])
  split
  · exact h.throw _
  · exact h.bind (h.encodeRow _ _) fun _ => h.getHdr (fun _ => h.bind (h.updateCellAt _ _ _ _) fun _ =>
      h.bind h.bumpLSN fun _ => h.pure _) (fun _ _ _ e => by simp only [e])

theorem ClosedWrites.insert (h : ClosedWrites @C) (table : Bytes) (cols : List String) (vals : List Val) :
    C (insert table cols vals) := by
  unfold Store.insert
  refine h.bind (h.relationOffset _) fun off => h.bind (h.fetch _) fun _ =>
    h.bind (h.relationSchema _) fun schema => h.ite (h.throw _) ?_
  split
  · exact h.throw _
  · refine h.bind (h.encodeRow _ _) fun buf => h.bind (h.btInsert _ _) fun r => ?_
    obtain ⟨bt, id, lsn⟩ := r
    exact h.ite (h.bind (h.updatePageTable _ _) fun _ => h.pure _) (h.pure _)

theorem ClosedWrites.update (h : ClosedWrites @C) (table : Bytes) (rowId : Nat) (cols : List String)
    (src : List Val) : C (update table rowId cols src) := by
  unfold Store.update
  refine h.bind (h.relationOffset _) fun off => h.bind (h.fetch _) fun _ =>
    h.bind (h.relationSchema _) fun schema => ?_
  split
  · exact h.throw _
  · exact h.bind (h.scanRight _) fun _ => h.bind (h.mapS (fun c => h.ite (h.pure _)
      (h.bind (h.decodeRow _ _) fun _ => h.bind (h.encodeRow _ _) fun _ => h.getHdr (fun _ =>
        h.bind (h.updateCellAt _ _ _ _) fun _ => h.bind h.bumpLSN fun _ => h.pure _)
        (fun _ _ _ e => by simp only [e]))) _) fun _ => h.pure _

theorem ClosedWrites.markDeleted (h : ClosedWrites @C) (table : Bytes) (rowId : Nat) :
    C (markDeleted table rowId) := by
  unfold Store.markDeleted
  refine h.bind (h.relationOffset _) fun off => h.bind (h.fetch _) fun _ =>
    h.bind (h.findLeaf _ _ _) fun l => ?_
  split
  · exact h.throw _
  · refine h.ite (h.throw _) (h.getHdr (fun s => h.bind (h.fetch _) fun pg => ?_) (fun _ _ _ e => by simp only [e]))
    split
    · exact h.panicS _
    · exact h.bind (h.putNode _ _) fun _ => h.bind (h.markDirty _ _) fun _ => h.bind h.bumpLSN fun _ => h.pure _

theorem ClosedWrites.insertPageTable (h : ClosedWrites @C) (pageOff : Nat) (name : Bytes) :
    C (insertPageTable pageOff name) := by
  unfold Store.insertPageTable
  refine h.bind (h.encodeRow _ _) fun buf => h.getHdr (fun s => h.bind (h.fetch _) fun _ =>
    h.bind (h.btInsert _ _) fun r => ?_) (fun _ _ e _ => by simp only [e])
  obtain ⟨bt, k, l⟩ := r
  exact h.getHdr (fun _ => h.ite (h.setPtRoot _) (h.pure _)) (fun _ _ e _ => by simp only [e])

theorem ClosedWrites.insertSchemaRows (h : ClosedWrites @C) :
    ∀ (fields : List FieldDef) (name : Bytes) (root : Nat), C (insertSchemaRows fields name root)
  | [], _, _ => h.pure _
  | fd :: rest, name, root => by
    refine h.bind (h.encodeRow _ _) fun buf => h.bind (h.btInsert _ _) fun r => ?_
    obtain ⟨bt, k, l⟩ := r
    exact h.ite (h.bind (h.updatePageTable _ _) fun _ => h.insertSchemaRows rest name _)
      (h.insertSchemaRows rest name root)

end

/-! ### reads -/

/-- `R` is reflexive and transitive, and `fetch` (which may cache a page) keeps it -/
structure KeptByReads (R : Store → Store → Prop) : Prop where
  refl : ∀ s, R s s
  trans : ∀ {a b c}, R a b → R b c → R a c
  fetch : ∀ off, Preserves R (fetch off)

theorem KeptByReads.pure {α} (h : KeptByReads R) (a : α) : Preserves R (pure a : SM α) := fun s => h.refl s
theorem KeptByReads.throw {α} (h : KeptByReads R) (e : SErr) : Preserves R (throw e : SM α) := fun s => h.refl s
theorem KeptByReads.getS (h : KeptByReads R) : Preserves R getS := fun s => h.refl s

theorem KeptByReads.bind {α β} (h : KeptByReads R) {m : SM α} {f : α → SM β} (hm : Preserves R m)
    (hf : ∀ a, Preserves R (f a)) : Preserves R (m >>= f) :=
  hm.seq hf (fun h1 h2 => h.trans h1 h2) fun h1 => h1

theorem KeptByReads.closed (h : KeptByReads R) : ClosedReads fun {α} (m : SM α) => Preserves R m where
  pure := h.pure
  bind := h.bind
  panicS := Preserves.panicS
  unmodelledS := Preserves.unmodelledS
  outOfFuel := Preserves.outOfFuel
  fetch := h.fetch

theorem KeptByReads.lookups (h : KeptByReads R) : ClosedLookups fun {α} (m : SM α) => Preserves R m :=
  { h.closed with throw := h.throw, getHdr := fun hf _ => h.bind h.getS hf }

theorem KeptByReads.decodeRow (h : KeptByReads R) (sch : List FieldDef) (bs : Bytes) :
    Preserves R (decodeRow sch bs) := h.lookups.decodeRow sch bs

theorem KeptByReads.encodeRow (h : KeptByReads R) (sch : List FieldDef) (m : Vals) :
    Preserves R (encodeRow sch m) := h.lookups.encodeRow sch m

theorem KeptByReads.scanLeaves (h : KeptByReads R) (fuel : Nat) (l : Leaf) : Preserves R (scanLeaves fuel l) :=
  h.closed.scanLeaves fuel l

theorem KeptByReads.scanRight (h : KeptByReads R) (root : Nat) : Preserves R (scanRight root) :=
  h.closed.scanRight root

theorem KeptByReads.findLeaf (h : KeptByReads R) (fuel off key : Nat) : Preserves R (findLeaf fuel off key) :=
  h.closed.findLeaf fuel off key

theorem KeptByReads.findFirstM {α β} (h : KeptByReads R) {f : α → SM (Option β)} (hf : ∀ a, Preserves R (f a))
    (l : List α) : Preserves R (findFirstM f l) :=
  h.closed.findFirstM hf l

theorem KeptByReads.relationOffset (h : KeptByReads R) (name : Bytes) : Preserves R (relationOffset name) :=
  h.lookups.relationOffset name

theorem KeptByReads.relationSchema (h : KeptByReads R) (name : Bytes) : Preserves R (relationSchema name) :=
  h.lookups.relationSchema name

theorem KeptByReads.fetchTable (h : KeptByReads R) (table : Bytes) : Preserves R (fetchTable table) :=
  h.lookups.fetchTable table

/-! ### cell rewrites -/

structure KeptByRewrites (R : Store → Store → Prop) : Prop extends KeptByReads R where
  putNode : ∀ n d, Preserves R (putNode n d)
  markDirty : ∀ off lsn, Preserves R (markDirty off lsn)

theorem KeptByRewrites.closed (h : KeptByRewrites R) : ClosedRewrites fun {α} (m : SM α) => Preserves R m :=
  { h.toKeptByReads.closed with putNode := h.putNode, markDirty := h.markDirty }

theorem KeptByRewrites.updateCellAt (h : KeptByRewrites R) (off key : Nat) (value : Bytes) (lsn : Nat) :
    Preserves R (updateCellAt off key value lsn) :=
  h.closed.updateCellAt off key value lsn (fun _ => h.throw _) (h.throw _)

theorem KeptByRewrites.repointPageTable (h : KeptByRewrites R) (old new lsn : Nat) :
    Preserves R (repointPageTable old new lsn) := h.lookups.repointPageTable h.closed old new lsn

/-! ### the tree insert -/

structure KeptByAllocs (R : Store → Store → Prop) : Prop extends KeptByRewrites R where
  appendNode : ∀ n d, Preserves R (appendNode n d)
  ghost : ∀ s, R s { s with ghost := s.ghost + 1 }

theorem KeptByAllocs.closed (h : KeptByAllocs R) : ClosedAllocs fun {α} (m : SM α) => Preserves R m :=
  { h.toKeptByRewrites.closed with appendNode := h.appendNode }

theorem KeptByAllocs.insertLeaf (h : KeptByAllocs R) (parent : Option Nat) (cur : Leaf) (key lsn : Nat)
    (value : Bytes) (root : RootOff) : Preserves R (insertLeaf parent cur key lsn value root) :=
  h.closed.insertLeaf parent cur key lsn value root (h.throw _) fun _ => h.throw _

theorem KeptByAllocs.insertInternal (h : KeptByAllocs R) (fuel : Nat) (parent : Option Nat) (cur : Internal)
    (key lsn : Nat) (value : Bytes) (root : RootOff) :
    Preserves R (insertInternal fuel parent cur key lsn value root) :=
  h.closed.insertInternal key lsn value (h.throw _) (fun _ => h.throw _) fuel parent cur root

theorem KeptByAllocs.insertKeyHeap (h : KeptByAllocs R) (bt : BT) (key lsn : Nat) (value : Bytes) :
    Preserves R (insertKeyHeap bt key lsn value) :=
  h.closed.insertKeyHeap bt key lsn value (h.throw _) fun _ => h.throw _

/-- the cross-check against the levels model only ever bumps the `ghost` counter -/
theorem KeptByAllocs.insertKey (h : KeptByAllocs R) (bt : BT) (key lsn : Nat) (value : Bytes) :
    Preserves R (insertKey bt key lsn value) := by
  intro s
  obtain ⟨g, hg, e⟩ := insertKey_eq_map bt key lsn value s
  rw [e]
  refine (h.insertKeyHeap bt key lsn value s).map fun s' h1 => ?_
  rcases hg with rfl | rfl
  · exact h1
  · exact h.trans h1 (h.ghost s')

/-! ### the row operations and the catalog -/

structure KeptByWrites (R : Store → Store → Prop) : Prop extends KeptByAllocs R where
  lsn : ∀ s, R s { s with hdr := { s.hdr with nextLSN := s.hdr.nextLSN + 1 } }
  keyLsn : ∀ s, R s { s with hdr := { s.hdr with lastKey := s.hdr.lastKey + 1, nextLSN := s.hdr.nextLSN + 1 } }
  ptRoot : ∀ s r, R s { s with hdr := { s.hdr with ptRoot := r } }

theorem KeptByWrites.btInsert (h : KeptByWrites R) (bt : BT) (value : Bytes) : Preserves R (btInsert bt value) := by
  intro s
  rw [btInsert_eq_map]
  exact (h.insertKey bt _ _ value s).map fun s' h1 => h.trans h1 (h.keyLsn s')

theorem KeptByWrites.writes (h : KeptByWrites R) : ClosedWrites fun {α} (m : SM α) => Preserves R m :=
  { h.toKeptByAllocs.closed, h.toKeptByReads.lookups with
    bumpLSN := h.lsn
    setPtRoot := fun r s => h.ptRoot s r
    insertKey_of := fun bt key lsn value _ => h.insertKey bt key lsn value
    btInsert_of := fun bt value _ => h.btInsert bt value }

theorem KeptByWrites.updatePageTable (h : KeptByWrites R) (newRoot : Nat) (name : Bytes) :
    Preserves R (updatePageTable newRoot name) := h.writes.updatePageTable newRoot name

theorem KeptByWrites.insert (h : KeptByWrites R) (table : Bytes) (cols : List String) (vals : List Val) :
    Preserves R (insert table cols vals) := h.writes.insert table cols vals

theorem KeptByWrites.update (h : KeptByWrites R) (table : Bytes) (rowId : Nat) (cols : List String) (src : List Val) :
    Preserves R (update table rowId cols src) := h.writes.update table rowId cols src

theorem KeptByWrites.markDeleted (h : KeptByWrites R) (table : Bytes) (rowId : Nat) :
    Preserves R (markDeleted table rowId) := h.writes.markDeleted table rowId

/-! ### CREATE TABLE

What is not written with `bind` - the existence check - and the flush, which is not a row operation, are
given. -/

section
variable {C : ∀ {α : Type}, SM α → Prop}

theorem ClosedWrites.createBodyNF (h : ClosedWrites @C) (fields : List FieldDef)
    (name : Bytes) : C (createBodyNF fields name) :=
  h.bind (h.appendNode _ _) fun _ => h.bind (h.insertPageTable _ _) fun _ => h.bind (h.relationOffset _) fun _ =>
    h.bind (h.fetch _) fun _ => h.insertSchemaRows _ _ _

theorem ClosedWrites.createBody (h : ClosedWrites @C) (fields : List FieldDef)
    (name : Bytes) (order : List Nat) (doFlush : Bool) (hfl : doFlush = true → C (flushPages order)) :
    C (createBody fields name order doFlush) :=
  h.bind (h.createBodyNF fields name) fun _ => h.ite' hfl fun _ => h.pure _

theorem ClosedWrites.createTable (h : ClosedWrites @C) (fields : List FieldDef)
    (name : Bytes) (order : List Nat) (doFlush : Bool) (hca : C (checkAbsent name))
    (hfl : doFlush = true → C (flushPages order)) : C (createTable fields name order doFlush) := by
  rw [createTable_eq]
  refine h.bind hca fun _ => ?_
  split
  · exact h.throw _
  · split
    · exact h.throw _
    · exact h.createBody fields name order doFlush hfl

end

theorem KeptByReads.checkAbsent {R : Store → Store → Prop} (h : KeptByReads R) (name : Bytes) :
    Preserves R (checkAbsent name) := fun s => checkAbsent_after (h.relationOffset name s)

/-! ### reads and cell rewrites do not touch the header -/

theorem hdrSame_reads : KeptByReads (fun s s' => s'.hdr = s.hdr) where
  refl _ := rfl
  trans h1 h2 := h2.trans h1
  fetch off s := by
    unfold fetch
    split <;> exact rfl

theorem fetch_hdr {off : Nat} {s s' : Store} {n : Node} (h : fetch off s = .ok n s') : s'.hdr = s.hdr :=
  (hdrSame_reads.fetch off).ok h

theorem hdr_rewrites : KeptByRewrites fun s s' => s'.hdr = s.hdr where
  toKeptByReads := hdrSame_reads
  putNode n d s := rfl
  markDirty off lsn s := by
    unfold Store.markDirty
    cases assocGet s.mem off with
    | none => trivial
    | some m => exact rfl

end Mkdb.Store
