import Mkdb.Proofs.Bin
import Mkdb.Proofs.SMonad
import Mkdb.Proofs.TreeSplit
import Mkdb.Proofs.Utf8Arith
/-!
The text of store operations in the form the proofs use: the tree insert cut into pieces, then the row
codec run on a store, the rows of the two catalog tables, and INSERT, the loop body of UPDATE and
CREATE TABLE as `bind`s.  Definitions and equations only; what every step keeps is said in `Preserves`.
The equations of the catalog lookups and of the remaining row operations sit with the pure functions they are stated
against: `relationOffset_eq`, `relationSchema_eq` (`CatalogInv`: `ptLookup`, `schemaField`), `updatePageTable_eq`
(`CatalogRepoint`: `rowFind`), `fetchTable_eq`, `markDeleted_eq` (`StmtRowOps`: `fetchRow`), `insertPageTable_eq`,
`insertSchemaRows_cons` (`StmtCreateTable`).
-/

section
/-!
The code of `insertLeaf` and `insertInternal` cut into pieces: the split of an over-full leaf
(`leafSplit`) and its parent part (`leafSplitUp`), what an internal level does after its child has
returned (`afterChild`) and the parent part of its split (`intSplitUp`).  Proofs about the two
functions rewrite with `insertLeaf_eq` / `insertInternal_eq` and then speak about one piece at a
time; unfolding the functions whole makes every step carry all branches.
-/
set_option autoImplicit false
namespace Mkdb.Store
open Mkdb.Page Mkdb.Generated Mkdb.Tree

/-! ### `insertLeaf` in pieces -/

def leafSplitUp (parent : Option Nat) (curOff newOff newKey lsn : Nat) (root : RootOff) : SM RootOff :=
  match parent with
  | none => do
    let pOff ← appendNode (.internal ⟨0, 0, newOff, [⟨newKey, curOff⟩]⟩) false
    markDirty newOff lsn
    markDirty curOff lsn
    markDirty pOff lsn
    pure pOff
  | some pOff => do
    let p ← fetch pOff
    match p with
    | .leaf _ => panicS "insertLeaf: parent is a leaf"
    | .internal pn =>
      match pn.cells.getLast? with
      | none => panicS "getRightmostKey: empty internal node"
      | some last =>
        if newKey > last.key then do
          putNode (.internal { pn with cells := pn.cells ++ [⟨newKey, pn.right⟩], right := newOff })
          markDirty newOff lsn
          markDirty curOff lsn
          markDirty pOff lsn
          pure root
        else unmodelledS "insertLeaf: split of a leaf that is not the rightmost"

def leafSplit (parent : Option Nat) (cur1 : Leaf) (lsn : Nat) (root : RootOff) : SM RootOff := do
  let mid := cur1.cells.length / 2
  let moved := cur1.cells.drop mid
  let newOff ← appendNode (.leaf ⟨0, 0, false, false, 0, 0, moved⟩) false
  let newKey := (moved.head?.map (·.key)).getD 0
  putNode (.leaf { cur1 with cells := cur1.cells.take mid, hasR := true, rSib := newOff })
  putNode (.leaf ⟨newOff, 0, true, false, cur1.off, 0, moved⟩)
  leafSplitUp parent cur1.off newOff newKey lsn root

/-- `insertLeaf` from its first page write on; `cur1` is the leaf with the new cell -/
def leafWrite (parent : Option Nat) (cur1 : Leaf) (lsn : Nat) (root : RootOff) : SM RootOff :=
  putNode (.leaf cur1) (some true) >>= fun _ =>
    if !isFullLeaf cur1 then pure root else leafSplit parent cur1 lsn root

theorem insertLeaf_eq (parent : Option Nat) (cur : Leaf) (key lsn : Nat) (value : Bytes) (root : RootOff) :
    insertLeaf parent cur key lsn value root =
      if (findPos (keysOfLeaf cur) key).2 then throw .keyExists else
      if value.length > c_maxValueSize then throw .rowTooLarge else
      if (findPos (keysOfLeaf cur) key).1 != cur.cells.length then
        unmodelledS "insertLeafCell: not at the end of the leaf" else
      if cur.hasR then unmodelledS "insertLeafCell: append to a leaf that was split (physical slot)" else
      leafWrite parent (leafApp cur key lsn value) lsn root := by
  rfl

/-! ### `insertInternal` in pieces -/

def intSplitUp (parent : Option Nat) (curOff newOff midKey lsn : Nat) (root1 : RootOff) : SM RootOff :=
  match parent with
  | none => do
    let pOff ← appendNode (.internal ⟨0, 0, newOff, [⟨midKey, curOff⟩]⟩) false
    markDirty newOff lsn
    markDirty pOff lsn
    pure pOff
  | some pOff => do
    let p ← fetch pOff
    match p with
    | .leaf _ => panicS "insertInternal: parent is a leaf"
    | .internal pn =>
      putNode (.internal { pn with cells := pn.cells ++ [⟨midKey, pn.right⟩], right := newOff })
      markDirty newOff lsn
      markDirty pOff lsn
      pure root1

def afterChild (parent : Option Nat) (curOff lsn : Nat) (root1 : RootOff) : SM RootOff := do
  let me ← fetch curOff
  match me with
  | .leaf _ => panicS "insertInternal: node became a leaf"
  | .internal cur1 =>
    if !isFullInternal cur1 then pure root1 else
    let mid := cur1.cells.length / 2
    let moved := cur1.cells.drop (mid + 1)
    let midCell := (cur1.cells[mid]?).getD ⟨0, 0⟩
    let newOff ← appendNode (.internal ⟨0, 0, cur1.right, moved⟩) false
    putNode (.internal { cur1 with cells := cur1.cells.take mid, right := midCell.child })
    intSplitUp parent cur1.off newOff midCell.key lsn root1

theorem insertInternal_eq (fuel : Nat) (parent : Option Nat) (cur : Internal) (key lsn : Nat) (value : Bytes)
    (root : RootOff) :
    insertInternal (fuel+1) parent cur key lsn value root =
      if (findPos (keysOfInternal cur) key).2 then throw .keyExists else
      (fetch (match cur.cells[(findPos (keysOfInternal cur) key).1]? with
              | some c => c.child | none => cur.right) >>= fun child =>
        match child with
          | .leaf l => insertLeaf (some cur.off) l key lsn value root >>= afterChild parent cur.off lsn
          | .internal i => insertInternal fuel (some cur.off) i key lsn value root >>=
              afterChild parent cur.off lsn) := by
  rfl

/-- the recursive call on a fetched node -/
def callOn (fuel : Nat) (parent : Option Nat) (n : Node) (key lsn : Nat) (value : Bytes) (root : RootOff) :
    SM RootOff :=
  match n with
  | .leaf l => insertLeaf parent l key lsn value root
  | .internal i => insertInternal fuel parent i key lsn value root

def childOf (cur : Internal) (key : Nat) : Nat :=
  match cur.cells[(findPos (keysOfInternal cur) key).1]? with
  | some c => c.child
  | none => cur.right

theorem insertInternal_eq' (fuel : Nat) (parent : Option Nat) (cur : Internal) (key lsn : Nat) (value : Bytes)
    (root : RootOff) :
    insertInternal (fuel+1) parent cur key lsn value root =
      if (findPos (keysOfInternal cur) key).2 then throw .keyExists else
      (fetch (childOf cur key) >>= fun child =>
        callOn fuel (some cur.off) child key lsn value root >>= afterChild parent cur.off lsn) := by
  rw [insertInternal_eq]
  congr 1
  unfold childOf
  congr 1
  funext child
  cases child <;> rfl

theorem insertKeyHeap_eq (bt : BT) (key lsn : Nat) (value : Bytes) :
    insertKeyHeap bt key lsn value =
      (fetch bt.root >>= fun pg =>
        callOn treeFuel none pg key lsn value bt.root >>= fun r => pure ⟨r⟩) := by
  unfold insertKeyHeap
  congr 1
  funext pg
  cases pg <;> rfl

/-! ### the two wrappers of the tree insert

`insertKey` and `btInsert` inspect the result of the operation they wrap instead of binding it; both only
map its value and move counters. -/

/-- what `insertKey` does to the store when the levels model disagrees with the heap insert.  No theorem assumes a
value of `ghost`; where the tree is held (`Holds`, `Inv`) the counter does not move: `insertKey_eq_insertKeyHeap`
(`RefineInsert`). -/
def bumpGhost (s : Store) : Store := { s with ghost := s.ghost + 1 }

def bumpCounters (s : Store) : Store :=
  { s with hdr := { s.hdr with lastKey := s.hdr.lastKey + 1, nextLSN := s.hdr.nextLSN + 1 } }

/-- `insertKey` is `insertKeyHeap`; the `ghost` counter is bumped when the levels model disagrees -/
theorem insertKey_eq_map (bt : BT) (key lsn : Nat) (value : Bytes) (s : Store) :
    ∃ g, (g = id ∨ g = bumpGhost) ∧
      insertKey bt key lsn value s = (insertKeyHeap bt key lsn value s).map id g := by
  unfold insertKey
  dsimp only
  split
  · exact ⟨id, .inl rfl, by cases insertKeyHeap bt key lsn value s <;> rfl⟩
  · exact ⟨bumpGhost, .inr rfl, by cases insertKeyHeap bt key lsn value s <;> rfl⟩

/-- `btInsert` is `insertKey` with the next row id and LSN, which it consumes whatever the outcome -/
theorem btInsert_eq_map (bt : BT) (value : Bytes) (s : Store) :
    btInsert bt value s = (insertKey bt (s.hdr.lastKey + 1) s.hdr.nextLSN value s).map
      (fun bt' => (bt', s.hdr.lastKey + 1, s.hdr.nextLSN)) bumpCounters := by
  unfold btInsert
  dsimp only
  cases insertKey bt (s.hdr.lastKey + 1) s.hdr.nextLSN value s <;> rfl

end Mkdb.Store
end

section
set_option autoImplicit false
namespace Mkdb.Store
open Mkdb.Page Mkdb.Tuple Mkdb.Generated Mkdb.Bin

def sysPages : Bytes := "sys_pages".toUTF8.toList
def sysSchema : Bytes := "sys_schema".toUTF8.toList

theorem sysPages_eq : sysPages = [115, 121, 115, 95, 112, 97, 103, 101, 115] := by decide +kernel

theorem sysSchema_eq : sysSchema = [115, 121, 115, 95, 115, 99, 104, 101, 109, 97] := by decide +kernel

/-! ### the row codec on a store -/

def decRow (sch : List FieldDef) (bs : Bytes) : Option Vals :=
  match decodeTuple sch bs [] with
  | .ok m => some m
  | .error _ => none

theorem decRow_eq_some {schema : List FieldDef} {bs : Bytes} {m : Vals} :
    decRow schema bs = some m ↔ decodeTuple schema bs [] = .ok m := by
  unfold decRow
  cases decodeTuple schema bs [] <;> simp

theorem decRow_of_decode {schema : List FieldDef} {bs : Bytes} {m : Vals}
    (h : decodeTuple schema bs [] = .ok m) : decRow schema bs = some m := decRow_eq_some.mpr h

theorem decodeRow_spec (sch : List FieldDef) (bs : Bytes) (m : Vals) (s : Store) (h : decRow sch bs = some m) :
    decodeRow sch bs s = .ok m s := by
  unfold decodeRow
  rw [decRow_eq_some.mp h]

theorem decodeRow_fail (sch : List FieldDef) (bs : Bytes) (s : Store) (h : decRow sch bs = none) :
    decodeRow sch bs s = .err .decode s := by
  unfold decRow at h
  unfold decodeRow
  split at h
  · cases h
  · rename_i e he
    rw [he]

/-- how `encodeRow` reports an encoding error -/
def serrOf : TErr → SErr
  | .typeMismatch => .typeMismatch
  | .intOutOfRange => .intOutOfRange
  | .decode => .decode

theorem encodeRow_ok {sch : List FieldDef} {m : Vals} {buf : Bytes} (h : encodeTuple sch m = .ok buf) (s : Store) :
    encodeRow sch m s = .ok buf s := by
  unfold encodeRow; rw [h]

theorem encodeRow_err {sch : List FieldDef} {m : Vals} {err : TErr} (h : encodeTuple sch m = .error err)
    (s : Store) : encodeRow sch m s = .err (serrOf err) s := by
  unfold encodeRow
  rw [h]
  cases err <;> rfl

/-! ### the row of the page table for `(name, off)` -/

def ptRow (name : Bytes) (off : Nat) : Bytes :=
  (encBool false ++ encU32 name.length ++ name) ++ ((encBool false ++ encI 8 (off : Int)) ++ [])

/-- whatever the offset: `file_offset` is a fixed-width `bigint` -/
theorem ptRow_length (name : Bytes) (off : Nat) : (ptRow name off).length = name.length + 14 := by
  simp only [ptRow, encBool, encU32, encI, List.length_append, List.length_cons, List.length_nil,
    encLE_length]
  omega

theorem encode_ptRow (m : Vals) (name : Bytes) (off : Nat) (h1 : get m "table_name" = .str name)
    (h2 : get m "file_offset" = .int off) : encodeTuple pageTableSchema m = .ok (ptRow name off) := by
  simp only [encodeTuple, pageTableSchema, h1, h2, encField, validate]
  rfl

/-! ### INSERT -/

def colsOf (schema : List FieldDef) (cols : List String) : List String :=
  if cols.isEmpty then schema.map (·.name) else cols

theorem insert_eq (table : Bytes) (cols : List String) (vals : List Val) :
    insert table cols vals =
      (relationOffset table >>= fun off => fetch off >>= fun _ => relationSchema table >>= fun schema =>
        if (colsOf schema cols).length != vals.length then throw .colCountMismatch else
        match checkColumns schema (colsOf schema cols) with
        | some e => throw e
        | none =>
        encodeRow schema ((colsOf schema cols).zip vals).reverse >>= fun buf =>
        btInsert ⟨off⟩ buf >>= fun r =>
          if r.1.root != off then
            updatePageTable r.1.root table >>= fun logs =>
              pure ((⟨c_OpInsert, r.2.2, off, r.2.1, buf⟩ : WalRec) :: logs)
          else pure [(⟨c_OpInsert, r.2.2, off, r.2.1, buf⟩ : WalRec)]) := by rfl

/-! ### UPDATE -/

/-- the loop body of `RelationService.Update` -/
def updBody (schema : List FieldDef) (rowId : Nat) (cols : List String) (src : List Val)
    (c : LeafCell × Nat) : SM (List WalRec) :=
  if c.1.key != rowId then pure [] else
    decodeRow schema c.1.val >>= fun m =>
    encodeRow schema ((cols.zip src).reverse ++ m) >>= fun buf =>
    getS >>= fun s =>
    updateCellAt c.2 c.1.key buf s.hdr.nextLSN >>= fun _ =>
    modifyS (fun s => { s with hdr := { s.hdr with nextLSN := s.hdr.nextLSN + 1 } }) >>= fun _ =>
    pure [(⟨c_OpUpdate, s.hdr.nextLSN, c.2, c.1.key, buf⟩ : WalRec)]

theorem update_eq_stmt (table : Bytes) (rowId : Nat) (cols : List String) (src : List Val) :
    update table rowId cols src =
      (relationOffset table >>= fun off => fetch off >>= fun _ => relationSchema table >>= fun schema =>
        match checkColumns schema cols with
        | some e => throw e
        | none =>
        scanRight off >>= fun cells => mapS (updBody schema rowId cols src) cells >>= fun logs =>
          pure logs.flatten) := by rfl

theorem updBody_skip (schema : List FieldDef) (rowId : Nat) (cols : List String) (src : List Val)
    (c : LeafCell × Nat) (s : Store) (h : c.1.key ≠ rowId) :
    updBody schema rowId cols src c s = .ok [] s := by
  unfold updBody
  have : (c.1.key != rowId) = true := by simpa using h
  simp only [this, if_true]
  rfl

theorem updBody_hit (schema : List FieldDef) (cols : List String) (src : List Val) (c : LeafCell) (o : Nat) :
    updBody schema c.key cols src (c, o) =
      (decodeRow schema c.val >>= fun m =>
      encodeRow schema ((cols.zip src).reverse ++ m) >>= fun buf =>
      getS >>= fun s =>
      updateCellAt o c.key buf s.hdr.nextLSN >>= fun _ =>
      modifyS (fun s => { s with hdr := { s.hdr with nextLSN := s.hdr.nextLSN + 1 } }) >>= fun _ =>
      pure [(⟨c_OpUpdate, s.hdr.nextLSN, o, c.key, buf⟩ : WalRec)]) := by
  unfold updBody
  simp only [bne_self_eq_false, Bool.false_eq_true, if_false]

/-! ### CREATE TABLE -/

/-- the `sys_schema` row of one column (as `checkCatalogRows` and `insertSchemaRows` build it) -/
def schemaRow (name : Bytes) (fd : FieldDef) : Vals :=
  [("table_name", Val.str name), ("field_name", strOf fd.name),
   ("field_type", Val.int (match fd.ty with | .int => 0 | .varchar => 1 | .boolean => 2 | .bigint => 3)),
   ("field_length", Val.int fd.len)]

def newRootLeaf : Node := .leaf ⟨0, 0, false, false, 0, 0, []⟩

/-- the body of `createTable` before its flush: the root page of the new table, its row in the page
table, one row of `sys_schema` per column -/
def createBodyNF (fields : List FieldDef) (name : Bytes) : SM Unit :=
  appendNode newRootLeaf true >>= fun pgOff => insertPageTable pgOff name >>= fun _ =>
    relationOffset sysSchema >>= fun r => fetch r >>= fun _ => insertSchemaRows fields name r

/-- the body of `createTable`, run after the pre-validation -/
def createBody (fields : List FieldDef) (name : Bytes) (flushOrder : List Nat) (doFlush : Bool) : SM Unit :=
  createBodyNF fields name >>= fun _ => if doFlush then flushPages flushOrder else pure ()

/-- the existence check of CREATE TABLE: the lookup must fail with `tableNotExist`; a hit, and any other
error of the lookup, is `tableAlreadyExist`.  The store is the one the lookup left. -/
def checkAbsent (name : Bytes) : SM Unit := fun s =>
  match relationOffset name s with
  | .err .tableNotExist s1 => .ok () s1
  | .ok _ s1 => .err .tableAlreadyExist s1
  | .err _ s1 => .err .tableAlreadyExist s1
  | .panic p => .panic p
  | .unmodelled w => .unmodelled w
  | .fuel => .fuel

theorem createTable_eq (fields : List FieldDef) (name : Bytes) (order : List Nat) (doFlush : Bool) :
    createTable fields name order doFlush = (checkAbsent name >>= fun _ =>
      match checkFieldsFrom [] fields with
      | some e => throw e
      | none =>
        match checkCatalogRows fields name with
        | some e => throw e
        | none => createBody fields name order doFlush) := by
  funext s
  unfold createTable checkAbsent
  rw [bind_def]
  cases relationOffset name s with
  | err x s1 =>
    cases x <;> try rfl
    dsimp only
    cases checkFieldsFrom [] fields with
    | some e => rfl
    | none =>
      cases checkCatalogRows fields name with
      | some e => rfl
      | none =>
        dsimp only
        unfold createBody createBodyNF
        simp only [bind_assoc']
        rfl
  | _ => rfl

theorem createTable_flush_eq (fields : List FieldDef) (name : Bytes) (order : List Nat) (doFlush : Bool) :
    createTable fields name order doFlush =
      (createTable fields name order false >>= fun _ => if doFlush then flushPages order else pure ()) := by
  rw [createTable_eq, createTable_eq, bind_assoc']
  congr 1
  funext _
  cases checkFieldsFrom [] fields with
  | some e => rfl
  | none =>
    cases checkCatalogRows fields name with
    | some e => rfl
    | none =>
      show createBody fields name order doFlush = createBody fields name order false >>= _
      unfold createBody
      rw [bind_assoc']
      rfl

theorem checkAbsent_ok {name : Bytes} {s s1 : Store} :
    checkAbsent name s = .ok () s1 ↔ relationOffset name s = .err .tableNotExist s1 := by
  unfold checkAbsent
  cases relationOffset name s with
  | err x s2 => cases x <;> simp
  | _ => simp

theorem checkAbsent_of_found {name : Bytes} {s s1 : Store} {off : Nat} (h : relationOffset name s = .ok off s1) :
    checkAbsent name s = .err .tableAlreadyExist s1 := by
  unfold checkAbsent; rw [h]

theorem checkAbsent_err {name : Bytes} {s s1 : Store} {e : SErr} (h : checkAbsent name s = .err e s1) :
    e = .tableAlreadyExist := by
  unfold checkAbsent at h
  cases e1 : relationOffset name s with
  | ok off s2 => rw [e1] at h; cases h; rfl
  | err x s2 => rw [e1] at h; cases x <;> cases h <;> rfl
  | _ => rw [e1] at h; cases h

theorem checkAbsent_after {name : Bytes} {s : Store} {Q : Store → Prop} (h : (relationOffset name s).After Q) :
    (checkAbsent name s).After Q := by
  unfold checkAbsent
  cases e : relationOffset name s with
  | err x s1 => rw [e] at h; cases x <;> exact h
  | ok a s1 => rw [e] at h; exact h
  | _ => trivial

/-! ### a column name survives the trip through its bytes -/

theorem nameOfBytes_toUTF8 (s : String) : nameOfBytes s.toUTF8.toList = s := by
  unfold nameOfBytes
  rw [byteArray_toList_data]
  have : (ByteArray.mk s.toUTF8.data.toList.toArray) = s.toByteArray := rfl
  rw [this]
  unfold String.fromUTF8?
  rw [dif_pos s.isValidUTF8]
  rfl

end Mkdb.Store
end
