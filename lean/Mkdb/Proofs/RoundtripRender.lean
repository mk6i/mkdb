import Mkdb.Model.Parse
/-!
Token-level round trip of the whole grammar (C10): the rendering `renderStmt`, the
well-formedness predicate `wfStmt` / `WFStmt`, and the standard literal tokens.

`renderStmt o s` writes the statement `s` as a token list; the options `o` choose every optional
spelling the grammar has.  The theorems of `RoundtripCond`, `RoundtripLists`, `RoundtripClauses`,
`RoundtripStmt` say that `parseStmt` reads it back.
-/
namespace Mkdb.Sql
open Mkdb.Scan Mkdb.Generated

/-! ## Standard literal tokens -/

/-- the ASCII digit `d` (`d < 10`) -/
def digitByte (d : Nat) : UInt8 := UInt8.ofNat (48 + d)

/-- decimal digits of `n`, most significant first (`fuel` ≥ `n` is always enough) -/
def natDigitsF : Nat → Nat → Bytes
  | 0, n => [digitByte (n % 10)]
  | f+1, n => if n < 10 then [digitByte n] else natDigitsF f (n / 10) ++ [digitByte (n % 10)]

/-- decimal digits of `n` -/
def natDigits (n : Nat) : Bytes := natDigitsF n n

/-- The standard token of a literal: `INT` with the decimal digits (of a non-negative integer),
`STR` with the bytes, `TRUE` / `FALSE`. -/
def stdLitTok : Lit → Token
  | .int i => ⟨t_INT, natDigits i.toNat⟩
  | .str b => ⟨t_STR, b⟩
  | .bool true => ⟨t_TRUE, []⟩
  | .bool false => ⟨t_FALSE, []⟩

/-- the literals `stdLitTok` can write: every string and boolean, the non-negative int64 -/
def stdLit : Lit → Bool
  | .int i => decide (0 ≤ i) && decide (i ≤ 9223372036854775807)
  | _ => true

/-- `o.lit` writes the literal `l` so that `Token.Val` reads it back -/
def GoodLit (lit : Lit → Token) (l : Lit) : Prop :=
  literalTys.contains (lit l).ty = true ∧ tokenVal (lit l) = .ok l

/-! ## Rendering options -/

/-- Every optional spelling of the grammar.  The functions of a position choose per occurrence
(the i-th select item, join, sort key, GROUP BY column). -/
structure ROpts where
  /-- text carried by keyword and punctuation tokens (the parser never reads it: any case) -/
  kw : Int → Bytes := fun _ => []
  /-- the token of a literal -/
  lit : Lit → Token := stdLitTok
  /-- `AS` before the alias of the i-th select item -/
  asKw : Nat → Bool := fun _ => true
  /-- `INNER` before `JOIN` for the i-th join, when it is an inner join -/
  innerKw : Nat → Bool := fun _ => false
  /-- `ASC` behind the i-th sort key, when it is ascending -/
  ascKw : Nat → Bool := fun _ => false
  /-- a comma behind the i-th GROUP BY column (when another column follows) -/
  gbComma : Nat → Bool := fun _ => true
  /-- write `GROUP BY` with no column for an empty GROUP BY list -/
  emptyGroupBy : Bool := false
  /-- `LIMIT` before `OFFSET` (when both are present) -/
  limitFirst : Bool := true
  /-- write `()` for the empty column list of an INSERT -/
  emptyColParens : Bool := false
  /-- `SHOW <ident>` with this spelling of `databases` (used when it lower-cases to `databases`),
  otherwise `SHOW DATABASE` -/
  showIdent : Option Bytes := none

/-- a keyword / punctuation token -/
@[reducible] def K (o : ROpts) (x : Int) : Token := ⟨x, o.kw x⟩
/-- an identifier token -/
@[reducible] def I (b : Bytes) : Token := ⟨t_IDENT, b⟩

/-! ## Rendering -/

def tokCol (o : ROpts) (c : ColRef) : List Token :=
  if c.qual.isEmpty then [I c.name] else [I c.qual, K o t_DOT, I c.name]

def tokVE (o : ROpts) : VExpr → List Token
  | .lit l => [o.lit l]
  | .col c => tokCol o c

def tokPr (o : ROpts) (p : Pred) : List Token :=
  tokVE o p.lhs ++ K o p.op :: tokVE o p.rhs

def tokCond (o : ROpts) : Cond → List Token
  | .val v => tokVE o v
  | .pred p => tokPr o p
  | .and p r => tokPr o p ++ K o t_AND :: tokCond o r
  | .or l r => tokCond o l ++ K o t_OR :: tokCond o r

/-- `x1 , x2 , … , xn`; the position is passed to the element renderer -/
def tokSep {α} (tk : Nat → α → List Token) (comma : Token) : Nat → List α → List Token
  | _, [] => []
  | i, [x] => tk i x
  | i, x :: y :: r => tk i x ++ comma :: tokSep tk comma (i+1) (y :: r)

def tokItem (o : ROpts) : SelItem → List Token
  | .star => [K o t_ASTRSK]
  | .count none => [K o t_COUNT, K o t_LPAREN, K o t_ASTRSK, K o t_RPAREN]
  | .count (some c) => K o t_COUNT :: K o t_LPAREN :: (tokCol o c ++ [K o t_RPAREN])
  | .avg c => K o t_AVG :: K o t_LPAREN :: (tokCol o c ++ [K o t_RPAREN])
  | .expr c => tokCond o c

def tokAlias (o : ROpts) (i : Nat) (a : Bytes) : List Token :=
  if a.isEmpty then [] else if o.asKw i then [K o t_AS, I a] else [I a]

def tokDC (o : ROpts) (i : Nat) (d : DerivedCol) : List Token :=
  tokItem o d.item ++ tokAlias o i d.alias

def tokSelList (o : ROpts) (sl : List DerivedCol) : List Token :=
  if sl = [⟨.star, []⟩] then [K o t_ASTRSK] else tokSep (tokDC o) (K o t_COMMA) 0 sl

def tokTN (t : TableName) : List Token :=
  I t.name :: (match t.alias with | none => [] | some a => [I a])

abbrev JoinSpec := JoinType × TableName × Cond

def TableRef.base : TableRef → TableName
  | .table t => t
  | .join l _ _ _ => l.base

def TableRef.joins : TableRef → List JoinSpec
  | .table _ => []
  | .join l jt r on => l.joins ++ [(jt, r, on)]

def mkJoin (l : TableRef) (j : JoinSpec) : TableRef := .join l j.1 j.2.1 j.2.2

def tokJoinKw (o : ROpts) (i : Nat) : JoinType → List Token
  | .left => [K o t_LEFT, K o t_JOIN]
  | .right => [K o t_RIGHT, K o t_JOIN]
  | .inner => if o.innerKw i then [K o t_INNER, K o t_JOIN] else [K o t_JOIN]

def tokJoins (o : ROpts) : Nat → List JoinSpec → List Token
  | _, [] => []
  | i, j :: js => tokJoinKw o i j.1 ++ tokTN j.2.1 ++ K o t_ON :: tokCond o j.2.2 ++ tokJoins o (i+1) js

def tokFrom (o : ROpts) : Option TableRef → List Token
  | none => []
  | some tr => K o t_FROM :: tokTN tr.base ++ tokJoins o 0 tr.joins

def tokWhere (o : ROpts) : Option Cond → List Token
  | none => []
  | some c => K o t_WHERE :: tokCond o c

/-- GROUP BY columns, each followed by a comma or not as `o.gbComma` says -/
def tokGBCols (o : ROpts) : Nat → List ColRef → List Token
  | _, [] => []
  | _, [c] => tokCol o c
  | i, c :: d :: r => tokCol o c ++ (if o.gbComma i then [K o t_COMMA] else []) ++ tokGBCols o (i+1) (d :: r)

def tokGroupBy (o : ROpts) (gb : List ColRef) : List Token :=
  if gb.isEmpty then (if o.emptyGroupBy then [K o t_GROUP, K o t_BY] else [])
  else K o t_GROUP :: K o t_BY :: tokGBCols o 0 gb

def tokSort (o : ROpts) (i : Nat) (s : SortSpec) : List Token :=
  tokCol o s.key ++ (if s.desc then [K o t_DESC] else if o.ascKw i then [K o t_ASC] else [])

def tokOrderBy (o : ROpts) (ob : List SortSpec) : List Token :=
  if ob.isEmpty then [] else K o t_ORDER :: K o t_BY :: tokSep (tokSort o) (K o t_COMMA) 0 ob

def tokLimit (o : ROpts) (l : LimitOffset) : List Token :=
  let lim := if l.limitActive then [K o t_LIMIT, o.lit (.int l.limit)] else []
  let off := if l.offsetActive then [K o t_OFFSET, o.lit (.int l.offset)] else []
  if o.limitFirst then lim ++ off else off ++ lim

/-- a SELECT without FROM is its select list and nothing else -/
def tokSelect (o : ROpts) (s : Select) : List Token :=
  match s.from_ with
  | none => tokSelList o s.list
  | some tr => tokSelList o s.list ++ (tokFrom o (some tr) ++ (tokWhere o s.where_ ++ (tokGroupBy o s.groupBy ++
      (tokOrderBy o s.orderBy ++ tokLimit o s.lim))))

def tokColType (o : ROpts) : ColType → List Token
  | .int => [K o t_T_INT]
  | .bigint => [K o t_T_BIGINT]
  | .varchar n => [K o t_T_VARCHAR, K o t_LPAREN, o.lit (.int n), K o t_RPAREN]
  | .boolean => [K o t_T_BOOL]

/-- The elements of the lists `guardedLoop` reads (each begins with a token of the guard types): a column
definition, and below an INSERT column, a value, a VALUES row. -/
def tokColDef (o : ROpts) (_ : Nat) (c : ColDef) : List Token := I c.name :: tokColType o c.ty

def tokInsCol (_ : Nat) (c : Bytes) : List Token := [I c]

def tokLitItem (o : ROpts) (_ : Nat) (l : Lit) : List Token := [o.lit l]

def tokRow (o : ROpts) (_ : Nat) (r : List Lit) : List Token :=
  K o t_LPAREN :: (tokSep (tokLitItem o) (K o t_COMMA) 0 r ++ [K o t_RPAREN])

def tokSet (o : ROpts) (_ : Nat) (a : Bytes × VExpr) : List Token :=
  I a.1 :: K o t_EQ :: tokVE o a.2

def tokInsCols (o : ROpts) (cols : List Bytes) : List Token :=
  if cols.isEmpty then (if o.emptyColParens then [K o t_LPAREN, K o t_RPAREN] else [])
  else K o t_LPAREN :: (tokSep tokInsCol (K o t_COMMA) 0 cols ++ [K o t_RPAREN])

def databasesBytes : Bytes := [100, 97, 116, 97, 98, 97, 115, 101, 115]

def tokShow (o : ROpts) : List Token :=
  match o.showIdent with
  | some b => if asciiLower b = databasesBytes then [I b] else [K o t_DATABASE]
  | none => [K o t_DATABASE]

/-- **The rendering**: the statement as a token list, optional spellings chosen by `o`. -/
def renderStmt (o : ROpts) : Stmt → List Token
  | .createDatabase n => [K o t_CREATE, K o t_DATABASE, I n]
  | .createTable n cols =>
    K o t_CREATE :: K o t_TABLE :: ((if n.isEmpty then [] else [I n]) ++
      K o t_LPAREN :: (tokSep (tokColDef o) (K o t_COMMA) 0 cols ++ [K o t_RPAREN]))
  | .select s => K o t_SELECT :: tokSelect o s
  | .insert t cols rows =>
    K o t_INSERT :: K o t_INTO :: I t :: (tokInsCols o cols ++
      K o t_VALUES :: tokSep (tokRow o) (K o t_COMMA) 0 rows)
  | .update t sets w =>
    K o t_UPDATE :: I t :: K o t_SET :: (tokSep (tokSet o) (K o t_COMMA) 0 sets ++ tokWhere o w)
  | .delete t w => K o t_DELETE :: K o t_FROM :: I t :: tokWhere o w
  | .use db => [K o t_USE, I db]
  | .showDatabases => K o t_SHOW :: tokShow o

/-! ## Well-formedness: the statements the grammar can express -/

def wfV (ok : Lit → Bool) : VExpr → Bool
  | .lit l => ok l
  | .col _ => true

def wfPred (ok : Lit → Bool) (p : Pred) : Bool :=
  compOps.contains p.op && wfV ok p.lhs && wfV ok p.rhs

/-- what `AndCondition` can return: `p1 AND p2 AND … AND last`, `last` a comparison or a bare value -/
def wfAnd (ok : Lit → Bool) : Cond → Bool
  | .val v => wfV ok v
  | .pred p => wfPred ok p
  | .and p r => wfPred ok p && wfAnd ok r
  | .or _ _ => false

/-- what `OrCondition` can return: AND-terms joined by OR, nested to the right -/
def wfCond (ok : Lit → Bool) : Cond → Bool
  | .val v => wfV ok v
  | .pred p => wfPred ok p
  | .and p r => wfPred ok p && wfAnd ok r
  | .or l r => wfAnd ok l && wfCond ok r

def wfItem (ok : Lit → Bool) : SelItem → Bool
  | .star => false
  | .count _ => true
  | .avg _ => true
  | .expr c => wfCond ok c

/-- `*` alone, or a non-empty list of set functions and conditions -/
def wfSelList (ok : Lit → Bool) (sl : List DerivedCol) : Bool :=
  decide (sl = [⟨.star, []⟩]) || (!sl.isEmpty && sl.all fun d => wfItem ok d.item)

def wfOptCond (ok : Lit → Bool) : Option Cond → Bool
  | none => true
  | some c => wfCond ok c

/-- a written bound is not negative (the parser refuses a negative one); an absent one is 0 -/
def wfLimit (ok : Lit → Bool) (l : LimitOffset) : Bool :=
  (if l.limitActive then decide (0 ≤ l.limit) && ok (.int l.limit) else decide (l.limit = 0)) &&
  (if l.offsetActive then decide (0 ≤ l.offset) && ok (.int l.offset) else decide (l.offset = 0))

def groupByValid (sl : List DerivedCol) (gb : List ColRef) : Bool :=
  match validateGroupBy sl gb with
  | .ok _ => true
  | .error _ => false

def wfSelect (ok : Lit → Bool) (s : Select) : Bool :=
  wfSelList ok s.list && groupByValid s.list s.groupBy && wfLimit ok s.lim &&
  match s.from_ with
  | none => s.where_.isNone && s.groupBy.isEmpty && s.orderBy.isEmpty &&
      !s.lim.limitActive && !s.lim.offsetActive
  | some tr => (tr.joins.all fun j => wfCond ok j.2.2) && wfOptCond ok s.where_

def wfColType (ok : Lit → Bool) : ColType → Bool
  | .varchar n => ok (.int n)
  | _ => true

/-- Well-formed statements, relative to the set `ok` of literals that can be written. -/
def wfStmt (ok : Lit → Bool) : Stmt → Bool
  | .createDatabase _ => true
  | .createTable _ cols => cols.all fun c => wfColType ok c.ty
  | .select s => wfSelect ok s
  | .insert _ _ rows => rows.all fun r => r.all ok
  | .update _ sets w => (sets.all fun a => wfV ok a.2) && wfOptCond ok w
  | .delete _ w => wfOptCond ok w
  | .use _ => true
  | .showDatabases => true

/-- **Well-formed statement**: what the grammar can express with the standard literal tokens. -/
def WFStmt (s : Stmt) : Prop := wfStmt stdLit s = true

instance (s : Stmt) : Decidable (WFStmt s) := by unfold WFStmt; infer_instance

/-- a SELECT without FROM must end the token list, up to one token: `Parser.Select` asks `!hasFromClause &&
p.HasNext()`, which counts tokens instead of looking for the end of the statement, so `SELECT 1;;` is refused
(the witness is in `Props/C10`).  A property of the code, kept by the model; `closingOK` is its other half. -/
def needsShortTail : Stmt → Bool
  | .select s => s.from_.isNone
  | _ => false

end Mkdb.Sql
