import Mkdb.Proofs.NoPanicExec
/-!
C07: the groups `aggregateRows` builds, in closed form (`groupsOf_eq`: one group per distinct key in order of first
occurrence, its rows in input order); what COUNT computes on a group and what a GROUP BY without an aggregate
returns are read off it.
-/

section
/-!
`groupsOf key rows` is the list of groups `aggregateRows` builds (`GroupNoAggP.aggregateRows_grouping`): one
group per distinct key in order of first occurrence, each holding the rows with its key in input
order (`groupsOf_eq`); everything else about the groups is read off this closed form.
-/
namespace Mkdb.Exec.AggP
open Mkdb.Sql

def groupsOf (key : Row → List Val) (rows : List Row) : List Group :=
  rows.foldl (fun gs r => addToGroups (key r) r gs) []

theorem snoc_induction {α} {P : List α → Prop} (nil : P [])
    (snoc : ∀ l a, P l → P (l ++ [a])) : ∀ l, P l := by
  have h : ∀ l : List α, P l.reverse := by
    intro l
    induction l with
    | nil => exact nil
    | cons a l ih => rw [List.reverse_cons]; exact snoc _ _ ih
  intro l
  have := h l.reverse
  rwa [List.reverse_reverse] at this

theorem groupsOf_nil (key : Row → List Val) : groupsOf key [] = [] := rfl

theorem groupsOf_snoc (key : Row → List Val) (rows : List Row) (r : Row) :
    groupsOf key (rows ++ [r]) = addToGroups (key r) r (groupsOf key rows) := by
  simp [groupsOf, List.foldl_append]

/-! ### `addToGroups`, and `groupsOf` in closed form -/

theorem addToGroups_flatMap_perm (k : List Val) (r : Row) :
    ∀ gs : List Group,
      ((addToGroups k r gs).flatMap (·.rows)).Perm (gs.flatMap (·.rows) ++ [r])
  | [] => by simp [addToGroups]
  | g :: rest => by
    unfold addToGroups
    split
    · simp only [List.flatMap_cons, List.append_assoc]
      exact List.Perm.append_left _ List.perm_append_comm
    · simp only [List.flatMap_cons, List.append_assoc]
      exact List.Perm.append_left _ (addToGroups_flatMap_perm k r rest)

theorem eraseDups_snoc {α} [BEq α] [LawfulBEq α] (l : List α) (k : α) :
    (l ++ [k]).eraseDups = l.eraseDups ++ (if k ∈ l.eraseDups then [] else [k]) := by
  rw [List.eraseDups_append]
  by_cases h : k ∈ l
  · simp [List.removeAll, h, List.mem_eraseDups.2 h]
  · simp [List.removeAll, h, List.eraseDups_cons]

theorem addToGroups_map (k : List Val) (r : Row) (f : List Val → List Row) :
    ∀ ks : List (List Val), ks.Nodup →
      addToGroups k r (ks.map fun k' => ⟨k', f k'⟩) =
        (ks.map fun k' => ⟨k', f k' ++ if k == k' then [r] else []⟩) ++
          if k ∈ ks then [] else [⟨k, [r]⟩]
  | [], _ => rfl
  | k0 :: ks, nd => by
    rw [List.nodup_cons] at nd
    by_cases h : k0 = k
    · subst h
      have hks : ks.map (fun k' => (⟨k', f k' ++ if k0 == k' then [r] else []⟩ : Group)) =
          ks.map fun k' => ⟨k', f k'⟩ :=
        List.map_congr_left fun k' hk' => by
          have : (k0 == k') = false := by simpa using fun (e : k0 = k') => nd.1 (e ▸ hk')
          simp [this]
      simp only [List.map_cons, addToGroups, beq_self_eq_true, if_true, List.mem_cons, true_or,
        List.append_nil, hks]
    · have h' : ¬ k = k0 := fun e => h e.symm
      simp [addToGroups, h, h', addToGroups_map k r f ks nd.2]

theorem groupsOf_eq (key : Row → List Val) : ∀ rows : List Row,
    groupsOf key rows =
      (rows.map key).eraseDups.map fun k => ⟨k, rows.filter fun r => key r == k⟩ := by
  apply snoc_induction
  · rfl
  · intro rows r ih
    rw [groupsOf_snoc, ih, addToGroups_map _ _ _ _ (nodup_eraseDups _), List.map_append,
      List.map_cons, List.map_nil, eraseDups_snoc, List.map_append]
    simp only [List.filter_append, List.filter_cons, List.filter_nil]
    congr 1
    split
    · rfl
    · rename_i hk
      have : rows.filter (fun r' => key r' == key r) = [] :=
        List.filter_eq_nil_iff.2 fun r' hr' e =>
          hk (List.mem_eraseDups.2 (List.mem_map.2 ⟨r', hr', by simpa using e⟩))
      simp [this]

theorem groups_keys_first_occurrence (key : Row → List Val) (rows : List Row) :
    (groupsOf key rows).map (·.key) = (rows.map key).eraseDups := by
  rw [groupsOf_eq, List.map_map]
  exact List.map_id' _

theorem groups_keys_nodup (key : Row → List Val) (rows : List Row) :
    ((groupsOf key rows).map (·.key)).Nodup := by
  rw [groups_keys_first_occurrence]
  exact nodup_eraseDups _

theorem groups_key_iff (key : Row → List Val) (rows : List Row) (k : List Val) :
    (∃ g ∈ groupsOf key rows, g.key = k) ↔ ∃ r ∈ rows, key r = k := by
  rw [← List.mem_map, groups_keys_first_occurrence, List.mem_eraseDups, List.mem_map]

theorem groups_rows_eq_filter (key : Row → List Val) (rows : List Row) :
    ∀ g ∈ groupsOf key rows, g.rows = rows.filter (fun r => key r == g.key) := by
  intro g hg
  rw [groupsOf_eq] at hg
  obtain ⟨k, _, rfl⟩ := List.mem_map.1 hg
  rfl

theorem groups_rows_key (key : Row → List Val) (rows : List Row) :
    (∀ g ∈ groupsOf key rows, ∀ r ∈ g.rows, key r = g.key) ∧
    (∀ r ∈ rows, ∃ g ∈ groupsOf key rows, g.key = key r ∧ r ∈ g.rows) := by
  constructor
  · intro g hg r hr
    rw [groups_rows_eq_filter key rows g hg, List.mem_filter] at hr
    exact eq_of_beq hr.2
  · intro r hr
    obtain ⟨g, hg, e⟩ := (groups_key_iff key rows (key r)).2 ⟨r, hr, rfl⟩
    refine ⟨g, hg, e, ?_⟩
    rw [groups_rows_eq_filter key rows g hg, List.mem_filter]
    exact ⟨hr, by simp [e]⟩

theorem groups_rows_mem (key : Row → List Val) (rows : List Row) :
    ∀ g ∈ groupsOf key rows, (∀ r ∈ g.rows, r ∈ rows) ∧ g.rows ≠ [] := by
  intro g hg
  rw [groups_rows_eq_filter key rows g hg]
  refine ⟨fun r hr => (List.mem_filter.1 hr).1, ?_⟩
  obtain ⟨r0, h0, e0⟩ := (groups_key_iff key rows g.key).1 ⟨g, hg, rfl⟩
  exact List.ne_nil_of_mem (List.mem_filter.2 ⟨h0, by simp [e0]⟩)

theorem groups_flatMap_perm (key : Row → List Val) :
    ∀ rows, ((groupsOf key rows).flatMap (·.rows)).Perm rows := by
  apply snoc_induction
  · simp [groupsOf]
  · intro l a ih
    rw [groupsOf_snoc]
    exact (addToGroups_flatMap_perm _ _ _).trans (List.Perm.append_right _ ih)

/-! ### COUNT -/

theorem count_fold (f : Row → Int) (nonNull : Row → Bool) :
    ∀ (rows : List Row) (acc : Int),
      (∀ r ∈ rows, f r = if nonNull r then 1 else 0) →
      rows.foldl (fun acc r => acc + f r) acc = acc + ((rows.filter nonNull).length : Int)
  | [], acc, _ => by simp
  | r :: rest, acc, h => by
    have hr := h r (by simp)
    have ih := count_fold f nonNull rest (acc + f r)
      (fun r' hr' => h r' (List.mem_cons_of_mem _ hr'))
    rw [List.foldl_cons, ih, hr]
    cases hn : nonNull r
    · simp [hn]
    · simp [hn]; omega

/-- COUNT(col): the number of rows of the group whose source value was not NULL. -/
theorem count_col_correct (c : Option ColRef) (colIdx : Nat) (g : Group) (nonNull : Row → Bool)
    (h : ∀ r ∈ g.rows, r[colIdx]? = some (.int (if nonNull r then 1 else 0))) :
    aggCell (.count c) colIdx g = .ok (.int (g.rows.filter nonNull).length) := by
  show X.ok _ = X.ok _
  rw [count_fold _ nonNull g.rows 0 ?_]
  · simp
  · intro r hr
    simp only [h r hr]

/-- the seed of COUNT(*) really is `1` in every row -/
theorem projectItem_count_star (fields : List Field) (row : Row) :
    projectItem (.count none) fields row = .ok (.int 1) := rfl

/-! ### AVG: exact on a constant input -/

theorem roundDiv_exact (q : Int) (n : Nat) (hn : 0 < n) : roundDiv (q * n) n = q := by
  unfold roundDiv
  have h0 : (n == 0) = false := by simp; omega
  have habs : (q * (n : Int)).natAbs = q.natAbs * n := by
    rw [Int.natAbs_mul]; simp
  simp only [h0, habs, Nat.mul_div_cancel _ hn, Nat.mul_mod_left]
  have h2 : ¬ (2 * 0 ≥ n) := by omega
  simp only [h2, if_false]
  by_cases hq : q < 0
  · have : q * (n : Int) < 0 := Int.mul_neg_of_neg_of_pos hq (by omega)
    simp only [Bool.false_eq_true, if_false, this, if_true]
    omega
  · have : ¬ (q * (n : Int) < 0) := by
      have : 0 ≤ q * (n : Int) := Int.mul_nonneg (by omega) (by omega)
      omega
    simp only [Bool.false_eq_true, if_false, this]
    omega

theorem runningAvg_fold_const (x : Int) :
    ∀ (m k : Nat),
      (List.replicate m x).foldl
        (fun (acc : Int × Nat) x => (roundDiv (acc.1 * acc.2 + x) (acc.2 + 1), acc.2 + 1))
        (x, k) = (x, k + m)
  | 0, k => by simp
  | m + 1, k => by
    rw [List.replicate_succ, List.foldl_cons]
    have : roundDiv (x * (k : Int) + x) (k + 1) = x := by
      have := roundDiv_exact x (k + 1) (by omega)
      rw [← this]
      congr 1
      rw [this]
      simp [Int.mul_add]
    simp only [this]
    rw [runningAvg_fold_const x m (k + 1)]
    congr 1
    omega

theorem runningAvg_const (x : Int) (n : Nat) : runningAvg (List.replicate (n + 1) x) = x := by
  unfold runningAvg
  rw [List.replicate_succ, List.foldl_cons]
  have := roundDiv_exact x 1 (by omega)
  simp only [Int.natCast_one, Int.mul_one] at this
  simp only [Int.zero_mul, Int.zero_add, Nat.zero_add, this]
  rw [runningAvg_fold_const x n 1]

private def exKey : Row → List Val := fun r => [(r[0]?).getD .null]
private def exRows : List Row :=
  [[.str [97], .int 1], [.str [98], .int 1], [.str [97], .int 0], [.null, .int 1], [.str [98], .int 1]]

example : (groupsOf exKey exRows).map (·.key) = [[.str [97]], [.str [98]], [.null]] := by decide +kernel
example : (groupsOf exKey exRows).map (·.rows.length) = [2, 2, 1] := by decide +kernel
example : (groupsOf exKey exRows).map (fun g => aggCell (.count none) 1 g) =
    [.ok (.int 1), .ok (.int 2), .ok (.int 1)] := rfl
example : aggregateRows [⟨.expr (.val (.col ⟨[], [107]⟩)), []⟩, ⟨.count none, []⟩] [⟨[], [107]⟩] exRows
    = .ok [[.str [97], .int 1], [.str [98], .int 2], [.null, .int 1]] := rfl

end Mkdb.Exec.AggP
end

section
/-!
GROUP BY without an aggregate in the select list (`SELECT a FROM t GROUP BY a`).

`aggregateRows` takes the grouping path whenever there is a GROUP BY, whether or not the select
list holds an aggregate.  Without aggregates every cell of an output row is read from the first
row of its group, so the output is: the first input row of every distinct grouping key, in order
of first occurrence (`aggregateRows_group_no_aggr_eq`; `C07_group_by_without_aggregate`).
-/
namespace Mkdb.Exec.GroupNoAggP
open Mkdb.Sql Mkdb.Exec.AggP Mkdb.Exec.NoPanicP

/-- the grouping key of a projected row: its values at the GROUP BY positions (a missing value
counts as NULL), exactly the expression `aggregateRows` groups by -/
def groupKey (idxs : List Nat) (r : Row) : List Val := idxs.map fun i => (r[i]?).getD .null

theorem aggregateRows_grouping {sl : List DerivedCol} {gb : List ColRef} {rows : List Row}
    (hnp : (!hasAggr sl && gb.isEmpty) = false) (hne : (gb.isEmpty && rows.isEmpty) = false) :
    aggregateRows sl gb rows = (groupIdxs sl gb >>= fun idxs =>
      if isStar sl then aggregateStar sl idxs rows else
      mapX (fun g => mapX (fun (p : Nat × DerivedCol) => aggCell p.2.item p.1 g)
        ((List.range sl.length).zip sl)) (groupsOf (groupKey idxs) rows)) := by
  unfold aggregateRows
  simp only [hnp, hne, Bool.false_eq_true, if_false]
  rfl

theorem groupIdxs_ok {sl : List DerivedCol} {groupBy : List ColRef}
    (hres : ∀ g ∈ groupBy, ∃ i, groupIdx sl g = some i) : ∃ idxs, groupIdxs sl groupBy = .ok idxs := by
  unfold groupIdxs
  apply mapX_ok_of_forall
  intro g hg
  obtain ⟨i, hi⟩ := hres g hg
  exact ⟨i, by rw [hi]; rfl⟩

theorem range_map_getD {r : Row} {n : Nat} (h : r.length = n) :
    (List.range n).map (fun i => (r[i]?).getD .null) = r := by
  apply List.ext_getElem?
  intro i
  by_cases hi : i < n
  · rw [List.getElem?_map, List.getElem?_range hi, Option.map_some,
      List.getElem?_eq_getElem (by omega), Option.getD_some]
  · rw [List.getElem?_eq_none (by simp; omega), List.getElem?_eq_none (by omega)]

theorem aggCell_no_aggr {d : DerivedCol} {i : Nat} {g : Group} {r : Row}
    (hd : hasAggr [d] = false)
    (hr : g.rows.head? = some r) (hi : i < r.length) :
    aggCell d.item i g = .ok ((r[i]?).getD .null) := by
  have hget : r[i]? = some r[i] := List.getElem?_eq_getElem hi
  unfold aggCell
  split
  · rename_i e; simp [hasAggr, e] at hd
  · rename_i e; simp [hasAggr, e] at hd
  · rw [hr]
    simp only [hget, Option.getD_some]
    rfl

theorem aggRow_no_aggr {sl : List DerivedCol} (hagg : hasAggr sl = false) {g : Group} {r : Row}
    (hr : g.rows.head? = some r) (hlen : r.length = sl.length) :
    mapX (fun (p : Nat × DerivedCol) => aggCell p.2.item p.1 g) ((List.range sl.length).zip sl)
      = .ok r := by
  rw [mapX_eq_ok_map (fun p => (r[p.1]?).getD .null)]
  · have hmm : ((List.range sl.length).zip sl).map (fun p => (r[p.1]?).getD Tuple.Val.null)
        = (((List.range sl.length).zip sl).map Prod.fst).map (fun i => (r[i]?).getD .null) := by
      rw [List.map_map]; rfl
    rw [hmm, List.map_fst_zip (by simp), range_map_getD hlen]
  · rintro ⟨i, d⟩ hp
    have hi : i < sl.length := List.mem_range.mp (List.of_mem_zip hp).1
    have hd := (List.any_eq_false.mp hagg) d (List.of_mem_zip hp).2
    have hd' : hasAggr [d] = false := by
      simp only [hasAggr, List.any_cons, List.any_nil, Bool.or_false]
      exact Bool.eq_false_iff.mpr hd
    exact aggCell_no_aggr hd' hr (by omega)

theorem groupIdx_lt {sl : List DerivedCol} {g : ColRef} {i : Nat} (h : groupIdx sl g = some i) :
    i < sl.length := by
  unfold groupIdx at h
  exact List.mem_range.1 (List.mem_of_find?_eq_some h)

theorem groupIdxs_iff {sl : List DerivedCol} {gb : List ColRef} {idxs : List Nat} :
    NoPanicP.groupIdxs sl gb = .ok idxs ↔ gb.mapM (groupIdx sl) = some idxs := by
  unfold NoPanicP.groupIdxs
  apply mapX_ok_iff_mapM
  intro g _ i
  cases groupIdx sl g with
  | none => simp
  | some j => simp

theorem mapM_groupIdx_lt {sl : List DerivedCol} {gb : List ColRef} {idxs : List Nat}
    (h : gb.mapM (groupIdx sl) = some idxs) : ∀ i ∈ idxs, i < sl.length := fun i hi => by
  obtain ⟨g, _, hg⟩ := mapM_out_mem h i hi
  exact groupIdx_lt hg

theorem groupIdxs_lt {sl : List DerivedCol} {groupBy : List ColRef} {idxs : List Nat}
    (h : groupIdxs sl groupBy = .ok idxs) : ∀ i ∈ idxs, i < sl.length :=
  mapM_groupIdx_lt (groupIdxs_iff.1 h)

/-- after a select list that starts with `*` (rows not projected) and holds no aggregate, the loop
touches no cell: the output row of a group is its first row too -/
theorem aggStarRow_no_aggr (g : Group) : ∀ (l : List (Nat × DerivedCol)) (out : Row),
    (∀ p ∈ l, hasAggr [p.2] = false) → aggStarRow g l out = .ok out
  | [], _, _ => rfl
  | (i, d) :: rest, out, h => by
    have hd := h (i, d) (List.mem_cons_self ..)
    unfold aggStarRow
    split
    · rename_i e; simp [hasAggr, e] at hd
    · rename_i e; simp [hasAggr, e] at hd
    · exact aggStarRow_no_aggr g rest out (fun p hp => h p (List.mem_cons_of_mem _ hp))

theorem aggregateRows_group_no_aggr_eq {sl : List DerivedCol} {groupBy : List ColRef}
    {rows : List Row} {idxs : List Nat} (hagg : hasAggr sl = false) (hne : groupBy ≠ [])
    (hidx : groupIdxs sl groupBy = .ok idxs) (hlen : ∀ r ∈ rows, r.length = sl.length) :
    aggregateRows sl groupBy rows =
      .ok ((groupsOf (groupKey idxs) rows).map fun g => g.rows.headD []) := by
  have hgb : groupBy.isEmpty = false := List.isEmpty_eq_false_iff.2 hne
  rw [aggregateRows_grouping (by rw [hgb, Bool.and_false]) (by rw [hgb, Bool.false_and]), hidx]
  show (if isStar sl then _ else _) = _
  split
  · -- `*, …` without an aggregate: the rows are not projected, the group key stays within them
    unfold aggregateStar
    have hany : (rows.any fun r => idxs.any fun i => decide (r.length ≤ i)) = false := by
      rw [List.any_eq_false]
      intro r hr
      rw [Bool.not_eq_true, List.any_eq_false]
      intro i hi
      have := groupIdxs_lt hidx i hi
      rw [hlen r hr]
      simp only [decide_eq_true_eq]
      omega
    rw [hany]
    simp only [Bool.false_eq_true, if_false]
    show mapX _ (groupsOf (groupKey idxs) rows) = _
    apply mapX_eq_ok_map
    intro g _
    apply aggStarRow_no_aggr
    intro p hp
    have hd := (List.any_eq_false.mp hagg) p.2 (List.of_mem_zip hp).2
    simp only [hasAggr, List.any_cons, List.any_nil, Bool.or_false]
    exact Bool.eq_false_iff.mpr hd
  show mapX _ (groupsOf (groupKey idxs) rows) = _
  apply mapX_eq_ok_map
  intro g hg
  obtain ⟨hmem, hnil⟩ := groups_rows_mem (groupKey idxs) rows g hg
  cases hrows : g.rows with
  | nil => exact absurd hrows hnil
  | cons r rest =>
    have hr : g.rows.head? = some r := by rw [hrows]; rfl
    have hrm : r ∈ rows := hmem r (by rw [hrows]; exact List.mem_cons_self ..)
    rw [aggRow_no_aggr hagg hr (hlen r hrm)]
    rfl

/-! ### example: `SELECT k FROM t GROUP BY k` on the rows 1, 2, 1 -/

private def exSl : List DerivedCol := [⟨.expr (.val (.col ⟨[], [107]⟩)), []⟩]
private def exGb : List ColRef := [⟨[], [107]⟩]

example : aggregateRows exSl exGb [[.int 1], [.int 2], [.int 1]] = .ok [[.int 1], [.int 2]] := by decide +kernel

-- the hypotheses of `C07_group_by_without_aggregate` hold of it
example : hasAggr exSl = false := by decide +kernel
example : exGb ≠ [] := by intro h; cases h
example : ∀ g ∈ exGb, ∃ i, groupIdx exSl g = some i := by
  intro g hg
  simp only [exGb, List.mem_cons, List.not_mem_nil, or_false] at hg
  subst hg
  exact ⟨0, rfl⟩
example : groupIdxs exSl exGb = .ok [0] := by decide +kernel

-- (`aggregateRows` returns the rows unchanged only without aggregate AND without GROUP BY.)
-- Two select-list columns, grouped by the second: the first row of each group is kept
example : aggregateRows [⟨.expr (.val (.col ⟨[], [97]⟩)), []⟩, ⟨.expr (.val (.col ⟨[], [107]⟩)), []⟩]
    [⟨[], [107]⟩] [[.int 10, .str [120]], [.int 20, .str [121]], [.int 30, .str [120]]]
    = .ok [[.int 10, .str [120]], [.int 20, .str [121]]] := by decide +kernel

end Mkdb.Exec.GroupNoAggP
end
