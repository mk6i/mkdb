import Mkdb.Proofs.SpecRefineAbs
import Mkdb.Proofs.StmtCreateTable
/-!
# CREATE TABLE against the spec

`NoStale sch tbls`: `sys_schema` has no rows for names that are not tables (the two catalog tables
aside).  `Abs` does not imply it (it says nothing about rows of `sys_schema` under unknown names), and
without it a new table would inherit stale columns (`createTable_cat`: the schema read back is the old
rows for that name ++ the declared columns).  All statements preserve it
(`NoStale.setTable` for DML, `evalCreateTable_refines_specV` for CREATE TABLE).

Spec and model do not refuse the same statements: the spec does not know that the catalog rows must fit
(`checkCatalogRows`), nor does it refuse a `VARCHAR(n)` with `n < -2^31`; these are hypotheses of
`evalCreateTable_refines_specV` and the subject of `evalCreateTable_catalog_refused`.
-/
set_option autoImplicit false
namespace Mkdb.Store
open Mkdb.Page Mkdb.Tuple Mkdb.Generated Mkdb.Tree

theorem colField_eq (c : Sql.ColDef) : Spec.colField c = Engine.colTypeToField c := by
  unfold Spec.colField Engine.colTypeToField
  cases c.ty <;> rfl

theorem colFields_eq (cols : List Sql.ColDef) : cols.map Spec.colField = cols.map Engine.colTypeToField :=
  List.map_congr_left fun c _ => colField_eq c

/-- `sys_schema` has no rows for a name that is neither a user table nor a catalog table -/
def NoStale (sch : Levels) (tbls : List (Bytes × Levels)) : Prop :=
  ∀ n, n ∉ tbls.map (·.1) → n ≠ sysPages → n ≠ sysSchema → schemaOf sch n = some []

theorem NoStale.setTable {sch : Levels} {tbls : List (Bytes × Levels)} (h : NoStale sch tbls) (table : Bytes)
    (t' : Levels) : NoStale sch (setTable tbls table t') := by
  intro n hn
  rw [setTable_names] at hn
  exact h n hn

theorem schemaOf_of_names {sch : Levels} {rows : List Vals}
    (hrows : mapO (fun c : LeafCell => decRow schemaTableSchema c.val) (live sch) = some rows)
    (names : List Bytes) (hnames : ∀ m ∈ rows, ∃ b ∈ names, get m "table_name" = .str b) {n : Bytes}
    (hn : n ∉ names) : schemaOf sch n = some [] := by
  have hf : (rows.filter fun m => get m "table_name" == Val.str n) = [] := by
    rw [List.filter_eq_nil_iff]
    intro m hm
    obtain ⟨b, hb, hg⟩ := hnames m hm
    rw [hg, val_str_beq, decide_eq_true_eq]
    exact fun e => hn (e ▸ hb)
  rw [schemaOf, hrows]
  simp only [hf]
  rfl

/-- every row of `sys_schema` carries the name of a catalog table or of a user table -/
def noStaleCheck (sch : Levels) (tbls : List (Bytes × Levels)) : Bool :=
  match mapO (fun c : LeafCell => decRow schemaTableSchema c.val) (live sch) with
  | none => false
  | some rows => rows.all fun m => (sysPages :: sysSchema :: tbls.map (·.1)).any fun b => get m "table_name" == .str b

theorem NoStale.of_check {sch : Levels} {tbls : List (Bytes × Levels)} (h : noStaleCheck sch tbls = true) :
    NoStale sch tbls := by
  unfold noStaleCheck at h
  split at h
  · cases h
  · rename_i rows hrows
    intro n hn h1 h2
    refine schemaOf_of_names hrows (sysPages :: sysSchema :: tbls.map (·.1)) (fun m hm => ?_) (by
      simp only [List.mem_cons, not_or]
      exact ⟨h1, h2, hn⟩)
    obtain ⟨b, hb, he⟩ := List.any_eq_true.mp (List.all_eq_true.mp h m hm)
    exact ⟨b, hb, eq_of_beq he⟩

/-! ### the abstraction of the table list after CREATE TABLE -/

theorem AbsTables.append {sch : Levels} {l1 l2 : List (Bytes × Levels)} {d1 d2 : Spec.SDB}
    (h1 : AbsTables sch l1 d1) (h2 : AbsTables sch l2 d2) : AbsTables sch (l1 ++ l2) (d1 ++ d2) := by
  induction h1 with
  | nil => exact h2
  | cons hx _ ih => exact .cons hx ih

theorem AbsTables.clean_sch {sch sch' : Levels} {tbls : List (Bytes × Levels)} {sdb : Spec.SDB}
    (h : AbsTables sch tbls sdb) (hs : ∀ n ∈ tbls.map (·.1), schemaOf sch' n = schemaOf sch n) :
    AbsTables sch' (tbls.map fun e => (e.1, clean e.2)) sdb := by
  induction h with
  | nil => exact .nil
  | @cons e st tbls' sdb' hx _ ih =>
    refine .cons ?_ (ih (fun n hn => hs n (by simp only [List.map_cons, List.mem_cons]; exact .inr hn)))
    obtain ⟨schema, h1, hnd, h2, h3⟩ := hx
    refine ⟨schema, ?_, hnd, ?_, ?_⟩
    · show schemaOf sch' e.1 = some schema
      rw [hs e.1 (by simp), h1]
    · intro c hc
      simp only [live_clean] at hc
      exact h2 c hc
    · rw [h3]
      simp only [absTable, live_clean]

/-! ### CREATE TABLE the spec accepts -/

theorem specCreate_some {sdb sdb' : Spec.SDB} {name : Bytes} {cols : List Sql.ColDef}
    (h : Spec.specCreate sdb name cols = some sdb') :
    Spec.findTable sdb name = none ∧ name ≠ sysPages ∧ name ≠ sysSchema ∧
    (∀ c ∈ cols, ∀ n, c.ty = .varchar n → n ≤ 2147483647) ∧
    (cols.map fun c => Spec.nameStr c.name).Nodup ∧
    sdb' = sdb ++ [⟨name, cols.map Spec.colField, []⟩] := by
  unfold Spec.specCreate at h
  split at h
  · cases h
  · rename_i h1
    split at h
    · cases h
    · rename_i h2
      split at h
      · cases h
      · rename_i h3
        simp only [Option.some.injEq] at h
        simp only [Bool.or_eq_true, beq_iff_eq, not_or, Option.isSome_iff_ne_none, ne_eq, Classical.not_not] at h1
        refine ⟨h1.1.1, h1.1.2, h1.2, ?_, ?_, h.symm⟩
        · intro c hc n hty
          apply Classical.byContradiction
          intro hgt
          apply h2
          rw [List.any_eq_true]
          exact ⟨c, hc, by simp only [hty, decide_eq_true_eq]; omega⟩
        · apply (eraseDups_length_eq_iff _).mp
          have : (cols.map fun c => Spec.nameStr c.name).eraseDups.length = cols.length := by
            simpa using h3
          rw [this, List.length_map]

theorem specCreate_eq_none {sdb : Spec.SDB} {name : Bytes} {cols : List Sql.ColDef}
    (h : ¬ (Spec.findTable sdb name = none ∧ name ≠ sysPages ∧ name ≠ sysSchema ∧
      (∀ c ∈ cols, ∀ n, c.ty = .varchar n → n ≤ 2147483647) ∧ (cols.map fun c => Spec.nameStr c.name).Nodup)) :
    Spec.specCreate sdb name cols = none := by
  cases hs : Spec.specCreate sdb name cols with
  | none => rfl
  | some sdb' =>
    obtain ⟨h1, h2, h3, h4, h5, _⟩ := specCreate_some hs
    exact absurd ⟨h1, h2, h3, h4, h5⟩ h

theorem colNames_eq (cols : List Sql.ColDef) :
    (cols.map Engine.colTypeToField).map (·.name) = cols.map fun c => Spec.nameStr c.name := by
  rw [List.map_map]
  apply List.map_congr_left
  intro c _
  simp only [Function.comp, Engine.colTypeToField]
  cases c.ty <;> rfl

theorem colFields_ok (cols : List Sql.ColDef) (hhi : ∀ c ∈ cols, ∀ n, c.ty = .varchar n → n ≤ 2147483647)
    (hlo : ∀ c ∈ cols, ∀ n, c.ty = .varchar n → -2147483648 ≤ n)
    (hnd : (cols.map fun c => Spec.nameStr c.name).Nodup) :
    checkFieldsFrom [] (cols.map Engine.colTypeToField) = none := by
  rw [checkFields_none_iff, colNames_eq]
  refine ⟨?_, hnd⟩
  intro fd hfd
  obtain ⟨c, hc, rfl⟩ := List.mem_map.mp hfd
  unfold Engine.colTypeToField
  cases hty : c.ty with
  | varchar n => exact ⟨hlo c hc n hty, hhi c hc n hty⟩
  | int => simp
  | bigint => simp
  | boolean => simp

/-- a repeated column name makes the model's per-column checks object (with `fieldAmbiguous`, or with
`intOutOfRange` when an earlier column has a length outside `int32`: that it is one of the two is
`checkFieldsFrom_some`) -/
theorem colFields_dup (cols : List Sql.ColDef) (hdup : ¬ (cols.map fun c => Spec.nameStr c.name).Nodup) :
    ∃ e, checkFieldsFrom [] (cols.map Engine.colTypeToField) = some e := by
  cases h : checkFieldsFrom [] (cols.map Engine.colTypeToField) with
  | some e => exact ⟨e, rfl⟩
  | none => exact absurd (colNames_eq cols ▸ ((checkFields_none_iff _).mp h).2) hdup

theorem valsOf_append (a b : Spec.SDB) : valsOf (a ++ b) = valsOf a ++ valsOf b := by
  unfold valsOf; rw [List.map_append]

/-- **CREATE TABLE refines the spec.**  Beyond `AbsV`, `NoStale` and `MemFiled`: `hlo` and `hchk` are
what the spec does not check, the rest is the room of `createTable_cat`. -/
theorem evalCreateTable_refines_specV (db : Engine.DB) (pt sch : Levels) (tbls : List (Bytes × Levels))
    (sdb sdb' : Spec.SDB) (h : AbsV db.store pt sch tbls sdb) (hns : NoStale sch tbls)
    (hmf : MemFiled db.store) (name : Bytes) (cols : List Sql.ColDef) (order : List Nat)
    (hspec : Spec.specCreate sdb name cols = some sdb')
    (hlo : ∀ c ∈ cols, ∀ n, c.ty = .varchar n → -2147483648 ≤ n)
    (hchk : checkCatalogRows (cols.map Engine.colTypeToField) name = none)
    (hpd : pt.inner.length + 3 ≤ treeFuel) (hpl : pt.leaves.length + 1 ≤ scanFuel)
    (hsd : sch.inner.length + cols.length + 2 ≤ treeFuel) (hsl : sch.leaves.length + cols.length ≤ scanFuel)
    (hbig : db.store.hdr.nextFree + 262144 * cols.length + 262144 ≤ 9223372036854775807) :
    ∃ db' pt' sch',
      Engine.evalCreateTable db name cols order true = .ok () db' ∧ db'.wal = db.wal ∧
      AbsV db'.store pt' sch'
        ((tbls.map fun e => (e.1, clean e.2)) ++ [(name, clean (emptyTree db.store.hdr.nextFree))]) sdb' ∧
      NoStale sch'
        ((tbls.map fun e => (e.1, clean e.2)) ++ [(name, clean (emptyTree db.store.hdr.nextFree))]) ∧
      MemFiled db'.store ∧ db'.store.dhdr = db'.store.hdr ∧ (∀ p ∈ db'.store.mem, p.2.dirty = false) ∧
      db'.store.hdr.lastKey = db.store.hdr.lastKey + 1 + cols.length := by
  obtain ⟨hfind, hn1, hn2, hhi, hndc, rfl⟩ := specCreate_some hspec
  have hn3 : name ∉ tbls.map (·.1) := (h.find_none_iff name).mp hfind
  obtain ⟨sdb0, habs, hv⟩ := h
  have hlenr := colFields_ok cols hhi hlo hndc
  obtain ⟨sN, s', pt1, nf1, ptN, schN, _, e2, hc', _, hd, _, hf', _, hnd, _, _, _, _, _, _, _, hso1, hso2, lk, _⟩ :=
    createTable_cat habs.cat hmf (cols.map Engine.colTypeToField) name order hn1 hn2 hn3 hlenr hchk hpd hpl
      (by rw [List.length_map]; exact hsd) (by rw [List.length_map]; exact hsl)
      (by rw [List.length_map]; exact hbig)
  have hsnew : schemaOf (clean schN) name = some (cols.map Engine.colTypeToField) := by
    rw [hso1, hns name hn3 hn1 hn2]; rfl
  refine ⟨{ db with store := s' }, clean ptN, clean schN, ?_, rfl, ⟨sdb0 ++ [⟨name, cols.map Engine.colTypeToField, []⟩],
    ⟨hc', ?_⟩, ?_⟩, ?_, hf', hd, hnd, by rw [lk, List.length_map]⟩
  · simp only [Engine.evalCreateTable, Engine.liftS, e2]
  · apply AbsTables.append
    · apply habs.tabs.clean_sch
      intro n hn
      exact hso2 n (fun heq => hn3 (heq ▸ hn))
    · exact .cons ⟨cols.map Engine.colTypeToField, hsnew, ((checkFields_none_iff _).mp hlenr).2,
        (by intro c hc; cases hc), rfl⟩ .nil
  · rw [valsOf_append, valsOf_append, hv, colFields_eq]
  · intro n hn h1 h2
    have hne : n ≠ name := by
      intro heq
      apply hn
      rw [heq, List.map_append]
      exact List.mem_append_right _ (by simp)
    rw [hso2 n hne]
    apply hns n ?_ h1 h2
    intro hm
    apply hn
    rw [List.map_append, List.map_map]
    exact List.mem_append_left _ hm

/-! ### refusals -/

/-- why spec and model both refuse a CREATE TABLE -/
inductive CreateRefusal (sdb : Spec.SDB) (pt : Levels) (name : Bytes) (cols : List Sql.ColDef) : Prop
  | exists_ : (Spec.findTable sdb name).isSome → CreateRefusal sdb pt name cols
  | sysSchema : name = sysSchema → CreateRefusal sdb pt name cols
  | sysPages (off : Nat) : name = sysPages → (sysPages, off) ∈ ptEntries pt → CreateRefusal sdb pt name cols
  | tooLong (c : Sql.ColDef) (n : Int) : Spec.findTable sdb name = none → name ≠ sysPages → name ≠ sysSchema →
      c ∈ cols → c.ty = .varchar n → n > 2147483647 → CreateRefusal sdb pt name cols
  | dupColumn : Spec.findTable sdb name = none → name ≠ sysPages → name ≠ sysSchema →
      ¬ (cols.map fun c => Spec.nameStr c.name).Nodup → CreateRefusal sdb pt name cols

/-- a name the page table has an entry for: the lookup of `createTable` finds it -/
theorem evalCreateTable_taken (db : Engine.DB) (pt sch : Levels) (tbls : List (Bytes × Levels))
    (sdb : Spec.SDB) (h : AbsV db.store pt sch tbls sdb) (name : Bytes) (cols : List Sql.ColDef)
    (order : List Nat) (doFlush : Bool) (off : Nat) (hent : (name, off) ∈ ptEntries pt) :
    ∃ db', Engine.evalCreateTable db name cols order doFlush = .err (.store .tableAlreadyExist) db' ∧
      db'.wal = db.wal ∧ Same db.store db'.store ∧ AbsV db'.store pt sch tbls sdb := by
  obtain ⟨s', e1, hs⟩ := relationOffset_entry h.cat name off hent
  refine ⟨{ db with store := s' }, ?_, rfl, hs, h.of_cat (h.cat.of_same hs)⟩
  simp only [Engine.evalCreateTable, Engine.liftS, createTable_eq, bind_err (checkAbsent_of_found e1)]

theorem evalCreateTable_check_err (db : Engine.DB) (pt sch : Levels) (tbls : List (Bytes × Levels))
    (sdb : Spec.SDB) (h : AbsV db.store pt sch tbls sdb) (name : Bytes) (cols : List Sql.ColDef)
    (order : List Nat) (doFlush : Bool)
    (hfind : Spec.findTable sdb name = none) (hn1 : name ≠ sysPages) (hn2 : name ≠ sysSchema) (e : SErr)
    (hchk : checkFieldsFrom [] (cols.map Engine.colTypeToField) = some e ∨
      checkFieldsFrom [] (cols.map Engine.colTypeToField) = none ∧
        checkCatalogRows (cols.map Engine.colTypeToField) name = some e) :
    ∃ db', Engine.evalCreateTable db name cols order doFlush = .err (.store e) db' ∧
      db'.wal = db.wal ∧ Same db.store db'.store ∧ AbsV db'.store pt sch tbls sdb := by
  obtain ⟨s', e1, hs, hc'⟩ := relationOffset_cat_unknown h.cat name hn1 hn2 ((h.find_none_iff name).mp hfind)
  refine ⟨{ db with store := s' }, ?_, rfl, hs, h.of_cat hc'⟩
  have : createTable (cols.map Engine.colTypeToField) name order doFlush db.store = .err e s' := by
    unfold createTable
    rw [e1]
    rcases hchk with hfld | ⟨hfld, hrows⟩
    · simp only [hfld]
    · simp only [hfld, hrows]
  simp only [Engine.evalCreateTable, Engine.liftS, this]

/-- **CREATE TABLE refused.**  The spec refuses (`specCreate … = none`) because the name is taken, a
`VARCHAR` length exceeds `2^31-1`, or a column name is used twice: the model refuses with
`tableAlreadyExist` resp. `intOutOfRange` / `fieldAmbiguous` (the per-column checks run column by
column: whichever of an over-long length and a repeated name comes first). -/
theorem evalCreateTable_refused_specV (db : Engine.DB) (pt sch : Levels) (tbls : List (Bytes × Levels))
    (sdb : Spec.SDB) (h : AbsV db.store pt sch tbls sdb) (name : Bytes) (cols : List Sql.ColDef)
    (order : List Nat) (doFlush : Bool) (hbad : CreateRefusal sdb pt name cols) :
    Spec.specCreate sdb name cols = none ∧
    ∃ e db', Engine.evalCreateTable db name cols order doFlush = .err (.store e) db' ∧
      (e = .tableAlreadyExist ∨ e = .intOutOfRange ∨ e = .fieldAmbiguous) ∧ db'.wal = db.wal ∧
      Same db.store db'.store ∧ AbsV db'.store pt sch tbls sdb := by
  -- why the spec refuses, and what the model meets: an entry of the page table under the name, or an objection of
  -- its per-column checks
  obtain ⟨hnone, hm⟩ : Spec.specCreate sdb name cols = none ∧ ((∃ off, (name, off) ∈ ptEntries pt) ∨
      ∃ ec, checkFieldsFrom [] (cols.map Engine.colTypeToField) = some ec ∧
        Spec.findTable sdb name = none ∧ name ≠ sysPages ∧ name ≠ sysSchema) := by
    cases hbad with
    | exists_ hsome =>
      obtain ⟨st, hfind⟩ := Option.isSome_iff_exists.mp hsome
      obtain ⟨t, _, ht, _⟩ := h.find hfind
      exact ⟨specCreate_eq_none fun hs => (nomatch hfind.symm.trans hs.1), .inl ⟨_, h.cat.etb _ ht⟩⟩
    | sysSchema hname => exact ⟨specCreate_eq_none fun hs => hs.2.2.1 hname, .inl ⟨_, hname ▸ h.cat.esch⟩⟩
    | sysPages off hname hent => exact ⟨specCreate_eq_none fun hs => hs.2.1 hname, .inl ⟨off, hname ▸ hent⟩⟩
    | tooLong c n hfind hn1 hn2 hc hty hgt =>
      have hany : (cols.map Engine.colTypeToField).any
          (fun fd => fd.len > 2147483647 || fd.len < -2147483648) = true := by
        rw [List.any_eq_true]
        refine ⟨Engine.colTypeToField c, List.mem_map.mpr ⟨c, hc, rfl⟩, ?_⟩
        unfold Engine.colTypeToField
        simp only [hty, Bool.or_eq_true, decide_eq_true_eq]
        exact .inl hgt
      obtain ⟨ec, hfld⟩ := checkFieldsFrom_of_len (seen := []) hany
      exact ⟨specCreate_eq_none fun hs => absurd (hs.2.2.2.1 c hc n hty) (by omega), .inr ⟨ec, hfld, hfind, hn1, hn2⟩⟩
    | dupColumn hfind hn1 hn2 hdup =>
      obtain ⟨ec, hfld⟩ := colFields_dup cols hdup
      exact ⟨specCreate_eq_none fun hs => hdup hs.2.2.2.2, .inr ⟨ec, hfld, hfind, hn1, hn2⟩⟩
  refine ⟨hnone, ?_⟩
  rcases hm with ⟨off, hent⟩ | ⟨ec, hfld, hfind, hn1, hn2⟩
  · obtain ⟨db', he, rest⟩ := evalCreateTable_taken db pt sch tbls sdb h name cols order doFlush off hent
    exact ⟨_, db', he, .inl rfl, rest⟩
  · obtain ⟨db', he, rest⟩ := evalCreateTable_check_err db pt sch tbls sdb h name cols order doFlush hfind hn1 hn2 ec
      (.inl hfld)
    exact ⟨ec, db', he, .inr (checkFieldsFrom_some hfld), rest⟩

/-- **What the spec does not know.**  For a fresh name, catalog rows that do not encode or do not fit
a page cell (`checkCatalogRows … = some e`: a table or column name that is too long), or a column
length outside `int32` (or whatever else the per-column checks object to), make the model refuse;
nothing changes.  (The spec's `specCreate` accepts such a statement unless a `VARCHAR` length exceeds
`2^31-1` or a column name is used twice.) -/
theorem evalCreateTable_catalog_refused (db : Engine.DB) (pt sch : Levels) (tbls : List (Bytes × Levels))
    (sdb : Spec.SDB) (h : AbsV db.store pt sch tbls sdb) (name : Bytes) (cols : List Sql.ColDef)
    (order : List Nat) (doFlush : Bool)
    (hfind : Spec.findTable sdb name = none) (hn1 : name ≠ sysPages) (hn2 : name ≠ sysSchema)
    (hbad : (cols.map Engine.colTypeToField).any (fun fd => fd.len > 2147483647 || fd.len < -2147483648) = true ∨
      (∃ e, checkFieldsFrom [] (cols.map Engine.colTypeToField) = some e) ∨
      ∃ e, checkCatalogRows (cols.map Engine.colTypeToField) name = some e) :
    ∃ e db', Engine.evalCreateTable db name cols order doFlush = .err (.store e) db' ∧
      db'.wal = db.wal ∧ Same db.store db'.store ∧ AbsV db'.store pt sch tbls sdb := by
  cases hfld : checkFieldsFrom [] (cols.map Engine.colTypeToField) with
  | some ec => exact ⟨ec, evalCreateTable_check_err db pt sch tbls sdb h name cols order doFlush hfind hn1 hn2 ec (.inl hfld)⟩
  | none =>
    rcases hbad with hb | ⟨x, hx⟩ | ⟨x, hx⟩
    · rw [checkFieldsFrom_none_len hfld] at hb
      cases hb
    · rw [hfld] at hx
      cases hx
    · exact ⟨x, evalCreateTable_check_err db pt sch tbls sdb h name cols order doFlush hfind hn1 hn2 x (.inr ⟨hfld, hx⟩)⟩

theorem evalCreateTable_refused_or_checked (db : Engine.DB) (pt sch : Levels) (tbls : List (Bytes × Levels))
    (sdb : Spec.SDB) (h : AbsV db.store pt sch tbls sdb) (n : Bytes) (cols : List Sql.ColDef) (order : List Nat)
    (hnames : n = sysPages → ∃ off, (sysPages, off) ∈ ptEntries pt) :
    (∃ e db', Engine.evalCreateTable db n cols order true = .err (.store e) db' ∧ db'.wal = db.wal ∧
      Same db.store db'.store ∧ AbsV db'.store pt sch tbls sdb) ∨
    (Spec.findTable sdb n = none ∧ n ≠ sysPages ∧ n ≠ sysSchema ∧
      checkFieldsFrom [] (cols.map Engine.colTypeToField) = none ∧
      checkCatalogRows (cols.map Engine.colTypeToField) n = none) := by
  cases hfind : Spec.findTable sdb n with
  | some x =>
    obtain ⟨t, _, ht, _⟩ := h.find hfind
    exact .inl ⟨_, evalCreateTable_taken db pt sch tbls sdb h n cols order true _ (h.cat.etb _ ht)⟩
  | none =>
    by_cases hs2 : n = sysSchema
    · exact .inl ⟨_, evalCreateTable_taken db pt sch tbls sdb h n cols order true _ (hs2 ▸ h.cat.esch)⟩
    by_cases hs1 : n = sysPages
    · obtain ⟨off, hoff⟩ := hnames hs1
      exact .inl ⟨_, evalCreateTable_taken db pt sch tbls sdb h n cols order true off (hs1 ▸ hoff)⟩
    cases hfld : checkFieldsFrom [] (cols.map Engine.colTypeToField) with
    | some x =>
      exact .inl (evalCreateTable_catalog_refused db pt sch tbls sdb h n cols order true hfind hs1 hs2
        (.inr (.inl ⟨x, hfld⟩)))
    | none =>
      cases hchk : checkCatalogRows (cols.map Engine.colTypeToField) n with
      | some x =>
        exact .inl (evalCreateTable_catalog_refused db pt sch tbls sdb h n cols order true hfind hs1 hs2
          (.inr (.inr ⟨x, hchk⟩)))
      | none => exact .inr ⟨rfl, hs1, hs2, rfl, rfl⟩

end Mkdb.Store
