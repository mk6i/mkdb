/-!
UTF-8, independent of how a model represents bytes.  `Enc k bs`: the bytes (numbers) `bs` are the well-formed
sequence for the code point `k`; `encode`: the encoding of a scalar value; `enc_encode`: it is well formed.
The two models of Go's `utf8.DecodeRune` over numbers have one lemma each saying that they read an `Enc` sequence
as its code point (`Console.decode_enc`, `Session.decodeRune_enc`; `ScanBuf.decodeRune`, over `UInt8` with its own
table `lead`, has none); of the encoders, `Console.encodeRune k` unfolds to `encode (validRune k)`
(`Console.enc_encodeRune`) and `Session.utf8EncodeChar_eq` says that Lean's `String.utf8EncodeChar` is `encode`.

The arithmetic behind `enc_encode`: the digits to base 64 of a code point `k`, spelt as the encoders spell them
(`k / 4096`, `k / 64 % 64`, `k % 64`, ..), by the length of the encoding.  `lead<n>`: the leading digit fits the
first byte, and with the next digit it lies in the range that makes the sequence well formed (not overlong, no
surrogate, not above U+10FFFF).  `sum<n>`: the digits give the code point back.

At the end: `ByteArray.toList` is the list of the array's data (`byteArray_toList_data`).
-/
namespace Mkdb.Utf8

theorem div_4096 (k : Nat) : k / 4096 = k / 64 / 64 := (Nat.div_div_eq_div_mul k 64 64).symm

theorem div_262144 (k : Nat) : k / 262144 = k / 64 / 64 / 64 := by
  rw [Nat.div_div_eq_div_mul, Nat.div_div_eq_div_mul]

theorem lead2 {k : Nat} (h1 : 0x80 ≤ k) (h2 : k < 0x800) : 2 ≤ k / 64 ∧ k / 64 < 32 := by omega

theorem lead3 {k : Nat} (h1 : 0x800 ≤ k) (h2 : k < 0x10000) (hv : k.isValidChar) :
    k / 4096 < 16 ∧ (k / 4096 = 0 → 32 ≤ k / 64 % 64) ∧ (k / 4096 = 13 → k / 64 % 64 < 32) := by
  unfold Nat.isValidChar at hv
  omega

theorem lead4 {k : Nat} (h1 : 0x10000 ≤ k) (hv : k.isValidChar) :
    k / 262144 < 5 ∧ (k / 262144 = 0 → 16 ≤ k / 4096 % 64) ∧ (k / 262144 = 4 → k / 4096 % 64 < 16) := by
  unfold Nat.isValidChar at hv
  omega

/- the sums by `Nat.div_add_mod'` on the digits in Horner form: `omega` on these divisors is slow -/

theorem sum3 (k : Nat) : k / 4096 * 4096 + k / 64 % 64 * 64 + k % 64 = k := by
  rw [div_4096]
  calc _ = (k / 64 / 64 * 64 + k / 64 % 64) * 64 + k % 64 := by rw [Nat.add_mul, Nat.mul_assoc]
    _ = k := by rw [Nat.div_add_mod', Nat.div_add_mod']

theorem sum4 (k : Nat) : k / 262144 * 262144 + k / 4096 % 64 * 4096 + k / 64 % 64 * 64 + k % 64 = k := by
  rw [div_262144, div_4096]
  calc _ = ((k / 64 / 64 / 64 * 64 + k / 64 / 64 % 64) * 64 + k / 64 % 64) * 64 + k % 64 := by
        simp only [Nat.add_mul, Nat.mul_assoc]
    _ = k := by rw [Nat.div_add_mod', Nat.div_add_mod', Nat.div_add_mod']

/-- the UTF-8 encoding of a Unicode scalar value, bytes as numbers -/
def encode (c : Nat) : List Nat :=
  if c < 0x80 then [c]
  else if c < 0x800 then [0xC0 + c / 64, 0x80 + c % 64]
  else if c < 0x10000 then [0xE0 + c / 4096, 0x80 + c / 64 % 64, 0x80 + c % 64]
  else [0xF0 + c / 262144, 0x80 + c / 4096 % 64, 0x80 + c / 64 % 64, 0x80 + c % 64]

/-- `Enc k bs`: the bytes `bs` are the well-formed UTF-8 sequence for the code point `k` - a first byte that
announces the length and carries the leading digit of `k` to base 64, then one continuation byte `0x80 + d`
per further digit `d`; the two leading digits lie in the ranges that exclude overlong forms (`2 ≤ a`, `h0`),
surrogates (`h13`) and values above U+10FFFF (`a < 5`, `h4`). -/
inductive Enc : Nat → List Nat → Prop
  | one {k : Nat} (h : k < 0x80) : Enc k [k]
  | two {a b : Nat} (ha : 2 ≤ a) (ha' : a < 32) (hb : b < 64) : Enc (a * 64 + b) [0xC0 + a, 0x80 + b]
  | three {a b c : Nat} (ha : a < 16) (hb : b < 64) (hc : c < 64) (h0 : a = 0 → 32 ≤ b) (h13 : a = 13 → b < 32) :
      Enc (a * 4096 + b * 64 + c) [0xE0 + a, 0x80 + b, 0x80 + c]
  | four {a b c d : Nat} (ha : a < 5) (hb : b < 64) (hc : c < 64) (hd : d < 64) (h0 : a = 0 → 16 ≤ b)
      (h4 : a = 4 → b < 16) :
      Enc (a * 262144 + b * 4096 + c * 64 + d) [0xF0 + a, 0x80 + b, 0x80 + c, 0x80 + d]

theorem Enc.ne_nil {k : Nat} {bs : List Nat} (h : Enc k bs) : ∃ b0 tl, bs = b0 :: tl := by
  cases h <;> exact ⟨_, _, rfl⟩

theorem enc_encode {k : Nat} (hv : k.isValidChar) : Enc k (encode k) := by
  have m64 : ∀ x : Nat, x % 64 < 64 := fun x => Nat.mod_lt x (by decide)
  unfold encode
  by_cases c1 : k < 0x80
  · rw [if_pos c1]; exact .one c1
  rw [if_neg c1]
  by_cases c2 : k < 0x800
  · rw [if_pos c2]
    have ⟨ha, ha'⟩ := lead2 (Nat.le_of_not_lt c1) c2
    have := Enc.two ha ha' (m64 k)
    rwa [Nat.div_add_mod'] at this
  rw [if_neg c2]
  by_cases c3 : k < 0x10000
  · rw [if_pos c3]
    have ⟨ha, h0, h13⟩ := lead3 (Nat.le_of_not_lt c2) c3 hv
    have := Enc.three ha (m64 (k / 64)) (m64 k) h0 h13
    rwa [sum3] at this
  rw [if_neg c3]
  have ⟨ha, h0, h4⟩ := lead4 (Nat.le_of_not_lt c3) hv
  have := Enc.four ha (m64 (k / 4096)) (m64 (k / 64)) (m64 k) h0 h4
  rwa [sum4] at this

end Mkdb.Utf8

/-! ### a byte array as the list of its bytes -/
namespace Mkdb.Store

theorem toList_loop (bs : ByteArray) : ∀ (k i : Nat) (r : List UInt8), bs.size - i = k →
    ByteArray.toList.loop bs i r = r.reverse ++ (List.range' i k).map (fun j => bs.get! j) := by
  intro k
  induction k with
  | zero =>
    intro i r h
    rw [ByteArray.toList.loop, if_neg (by omega)]
    simp
  | succ k ih =>
    intro i r h
    rw [ByteArray.toList.loop, if_pos (by omega), ih (i+1) _ (by omega)]
    simp [List.range'_succ]

theorem toList_eq (bs : ByteArray) : bs.toList = (List.range' 0 bs.size).map (fun j => bs.get! j) := by
  unfold ByteArray.toList
  rw [toList_loop bs bs.size 0 [] rfl]
  rfl

theorem byteArray_toList_data (bs : ByteArray) : bs.toList = bs.data.toList := by
  rw [toList_eq]
  apply List.ext_getElem
  · rw [List.length_map, List.length_range', Array.length_toList]; rfl
  · intro i h1 h2
    rw [List.getElem_map, List.getElem_range']
    have h3 : i < bs.data.size := by simpa using h2
    show bs.data[0 + 1 * i]! = _
    rw [Nat.zero_add, Nat.one_mul, getElem!_pos bs.data i h3]
    rfl

end Mkdb.Store
