import Mkdb.Proofs.Preserves
/-!
The header counters: **how far one storage operation can advance them.**

The header of the model (`Store.Header`) keeps the row-id counter `lastKey`, the LSN counter `nextLSN`
and the allocation frontier `nextFree` as natural numbers; the Go fields are `uint32`, `uint64`,
`uint64`.  The model is faithful as long as nothing has wrapped.  This file counts, operation by
operation and on EVERY store (no invariant is assumed: also corrupt pages, refused operations, error
paths), by how much each counter can move.  The B-tree insert: a leaf split allocates one page, an
internal split one page per level, a root growth one more: `insertInternal fuel parent` allocates at
most `fuel + 1` pages below a parent and `fuel + 2` at the root; with the fuel of the model
(`treeFuel = 64`: 64 internal levels above the leaf) **one insert allocates at most 66 pages**
(`Grows.insertKey`), and moves no other counter.

The relations of `Counters*`, by layer; each is `Adv` with what the layer adds:
* a store operation (here): `Adv s s' dk dl df`; `Grows m dk dl df` says it of every outcome of `m`, `Still m`
  is `Grows m 0 0 0`.
* a row operation, which returns log records (`CountersRowOps`): `Logged s s' logs` (the records account for the
  LSNs and row ids exactly), `ResL` / `GrowsL` (`Adv`, and `Logged` of an accepted result), `AdvL` / `ResU` (UPDATE
  and DELETE of a row: only the LSN counter), `AdvF` (CREATE TABLE: `Adv` across its flush).
* an engine statement, with the log of the database (`CountersStatements`): `ResI` (INSERT), `ResUD` (UPDATE,
  DELETE), `ResC` (CREATE TABLE); recovery: `RAdv s s' log` (the replay), `RecAdv db db'` (`Engine.recover`,
  against the header in the data file).
* histories: `RunAdv` (a run of accepted statements), `LogBnd` (bounds by the length of the log;
  `CountersCrashHistories`); `Bnd db K L F` (all counters of a database below bounds) along any history of
  events `Hist` (`CountersHistory`).
-/
set_option autoImplicit false
namespace Mkdb.Store
open Mkdb.Page Mkdb.Tuple Mkdb.Generated Mkdb.Tree

/-- from `s` to `s'` no counter of the in-memory header went down; the row-id counter rose by at most
`dk`, the LSN counter by at most `dl`, the allocation frontier by at most `df`; the header last written
to the data file is the same -/
structure Adv (s s' : Store) (dk dl df : Nat) : Prop where
  k_mono : s.hdr.lastKey ≤ s'.hdr.lastKey
  k_le : s'.hdr.lastKey ≤ s.hdr.lastKey + dk
  l_mono : s.hdr.nextLSN ≤ s'.hdr.nextLSN
  l_le : s'.hdr.nextLSN ≤ s.hdr.nextLSN + dl
  f_mono : s.hdr.nextFree ≤ s'.hdr.nextFree
  f_le : s'.hdr.nextFree ≤ s.hdr.nextFree + df
  dhdr : s'.dhdr = s.dhdr

theorem Adv.refl (s : Store) : Adv s s 0 0 0 :=
  ⟨Nat.le_refl _, Nat.le_refl _, Nat.le_refl _, Nat.le_refl _, Nat.le_refl _, Nat.le_refl _, rfl⟩

theorem le_add_add {x y z d1 d2 : Nat} (h1 : y ≤ x + d1) (h2 : z ≤ y + d2) : z ≤ x + (d1 + d2) := by omega

theorem Adv.trans {a b c : Store} {k1 l1 f1 k2 l2 f2 : Nat} (h1 : Adv a b k1 l1 f1) (h2 : Adv b c k2 l2 f2) :
    Adv a c (k1 + k2) (l1 + l2) (f1 + f2) :=
  ⟨Nat.le_trans h1.k_mono h2.k_mono, le_add_add h1.k_le h2.k_le, Nat.le_trans h1.l_mono h2.l_mono,
    le_add_add h1.l_le h2.l_le, Nat.le_trans h1.f_mono h2.f_mono, le_add_add h1.f_le h2.f_le,
    h2.dhdr.trans h1.dhdr⟩

theorem Adv.mono {a b : Store} {k l f k' l' f' : Nat} (h : Adv a b k l f) (hk : k ≤ k') (hl : l ≤ l')
    (hf : f ≤ f') : Adv a b k' l' f' :=
  ⟨h.k_mono, Nat.le_trans h.k_le (Nat.add_le_add_left hk _), h.l_mono, Nat.le_trans h.l_le (Nat.add_le_add_left hl _),
    h.f_mono, Nat.le_trans h.f_le (Nat.add_le_add_left hf _), h.dhdr⟩

theorem Adv.of_still {a b : Store} (h : Adv a b 0 0 0) (k l f : Nat) : Adv a b k l f :=
  h.mono (Nat.zero_le _) (Nat.zero_le _) (Nat.zero_le _)

theorem Adv.same {a b : Store} (h : Adv a b 0 0 0) :
    b.hdr.lastKey = a.hdr.lastKey ∧ b.hdr.nextLSN = a.hdr.nextLSN ∧ b.hdr.nextFree = a.hdr.nextFree := by
  obtain ⟨a1, a2, a3, a4, a5, a6, _⟩ := h
  exact ⟨by omega, by omega, by omega⟩

theorem Adv.same_kl {a b : Store} {f : Nat} (h : Adv a b 0 0 f) :
    b.hdr.lastKey = a.hdr.lastKey ∧ b.hdr.nextLSN = a.hdr.nextLSN := by
  obtain ⟨a1, a2, a3, a4, _, _, _⟩ := h
  exact ⟨by omega, by omega⟩

theorem Adv.of_hdr {a b : Store} (hh : b.hdr = a.hdr) (hd : b.dhdr = a.dhdr) : Adv a b 0 0 0 := by
  refine ⟨?_, ?_, ?_, ?_, ?_, ?_, hd⟩ <;> rw [hh] <;> exact Nat.le_refl _

/-- the bump of `BTree.insert`: one row id, one LSN -/
theorem Adv.bump (s : Store) :
    Adv s { s with hdr := { s.hdr with lastKey := s.hdr.lastKey + 1, nextLSN := s.hdr.nextLSN + 1 } } 1 1 0 :=
  ⟨Nat.le_add_right _ _, Nat.le_refl _, Nat.le_add_right _ _, Nat.le_refl _, Nat.le_refl _, Nat.le_refl _, rfl⟩

theorem Adv.bumpLSN (s : Store) : Adv s { s with hdr := { s.hdr with nextLSN := s.hdr.nextLSN + 1 } } 0 1 0 :=
  ⟨Nat.le_refl _, Nat.le_refl _, Nat.le_add_right _ _, Nat.le_refl _, Nat.le_refl _, Nat.le_refl _, rfl⟩

/-- whatever the outcome of `m` (`.ok` or `.err`: the Go code mutates in place, an error keeps the state
reached), the counters advanced by at most `dk`, `dl`, `df` -/
def Grows {α} (m : SM α) (dk dl df : Nat) : Prop :=
  ∀ s, match m s with
    | .ok _ s' => Adv s s' dk dl df
    | .err _ s' => Adv s s' dk dl df
    | _ => True

/-- `m` moves no counter (reads, cache traffic, scans, catalog lookups, cell rewrites) -/
def Still {α} (m : SM α) : Prop := Grows m 0 0 0

theorem Grows.post {α} {m : SM α} {dk dl df : Nat} (h : Grows m dk dl df) (s : Store) :
    (m s).Post (fun _ s' => Adv s s' dk dl df) (fun s' => Adv s s' dk dl df) := h s

theorem Grows.ok {α} {m : SM α} {dk dl df : Nat} (h : Grows m dk dl df) {s s' : Store} {a : α}
    (e : m s = .ok a s') : Adv s s' dk dl df := by have := h s; rw [e] at this; exact this

theorem Grows.err {α} {m : SM α} {dk dl df : Nat} (h : Grows m dk dl df) {s s' : Store} {x : SErr}
    (e : m s = .err x s') : Adv s s' dk dl df := by have := h s; rw [e] at this; exact this

theorem Still.ok {α} {m : SM α} (h : Still m) {s s' : Store} {a : α} (e : m s = .ok a s') : Adv s s' 0 0 0 :=
  Grows.ok h e

theorem Still.err {α} {m : SM α} (h : Still m) {s s' : Store} {x : SErr} (e : m s = .err x s') :
    Adv s s' 0 0 0 := Grows.err h e

theorem Grows.mono {α} {m : SM α} {k l f k' l' f' : Nat} (h : Grows m k l f) (hk : k ≤ k') (hl : l ≤ l')
    (hf : f ≤ f') : Grows m k' l' f' :=
  Preserves.mono (R := fun s s' => Adv s s' k l f) h fun a => a.mono hk hl hf

theorem Still.grows {α} {m : SM α} (h : Still m) (k l f : Nat) : Grows m k l f :=
  Grows.mono h (Nat.zero_le _) (Nat.zero_le _) (Nat.zero_le _)

theorem Grows.bind {α β} {m : SM α} {f : α → SM β} {k1 l1 f1 k2 l2 f2 : Nat} (hm : Grows m k1 l1 f1)
    (hf : ∀ a, Grows (f a) k2 l2 f2) : Grows (m >>= f) (k1 + k2) (l1 + l2) (f1 + f2) :=
  Preserves.seq (R₁ := fun s s' => Adv s s' k1 l1 f1) (R₂ := fun s s' => Adv s s' k2 l2 f2) hm hf Adv.trans
    fun h => h.mono (Nat.le_add_right _ _) (Nat.le_add_right _ _) (Nat.le_add_right _ _)

theorem Still.bind {α β} {m : SM α} {f : α → SM β} (hm : Still m) (hf : ∀ a, Still (f a)) : Still (m >>= f) :=
  Grows.bind (k1 := 0) (l1 := 0) (f1 := 0) (k2 := 0) (l2 := 0) (f2 := 0) hm hf

theorem Grows.after {α β} {m : SM α} {f : α → SM β} {k l f' : Nat} (hm : Still m)
    (hf : ∀ a, Grows (f a) k l f') : Grows (m >>= f) k l f' :=
  (Grows.bind (k1 := 0) (l1 := 0) (f1 := 0) hm hf).mono (by omega) (by omega) (by omega)

theorem Grows.before {α β} {m : SM α} {f : α → SM β} {k l f' : Nat} (hm : Grows m k l f')
    (hf : ∀ a, Still (f a)) : Grows (m >>= f) k l f' :=
  Grows.bind (k2 := 0) (l2 := 0) (f2 := 0) hm hf

/-- after a computation that moves no counter: `Q` and `E` speak of the store `s0` the whole operation
started from, `s` has its counters -/
theorem SRes.Post.after {α β} {m : SM α} (hm : Still m) {g : α → SM β} {s0 s : Store} (h0 : Adv s0 s 0 0 0)
    {Q : β → Store → Prop} {E : Store → Prop} (he : ∀ s1, Adv s0 s1 0 0 0 → E s1)
    (hg : ∀ a s1, Adv s0 s1 0 0 0 → (g a s1).Post Q E) : ((m >>= g) s).Post Q E :=
  SRes.Post.bind (Grows.post hm s) (fun s1 h => he s1 (h0.trans h)) fun a s1 h => hg a s1 (h0.trans h)

theorem Still.pure {α} (a : α) : Still (pure a : SM α) := fun s => Adv.refl s
theorem Still.throw {α} (e : SErr) : Still (throw e : SM α) := fun s => Adv.refl s
theorem Still.panicS {α} (w : String) : Still (panicS w : SM α) := fun _ => trivial
theorem Still.unmodelledS {α} (w : String) : Still (unmodelledS w : SM α) := fun _ => trivial
theorem Still.outOfFuel {α} : Still (outOfFuel : SM α) := fun _ => trivial
theorem Still.getS : Still getS := fun s => Adv.refl s

theorem Still.ite {α} {c : Prop} [Decidable c] {a b : SM α} (ha : Still a) (hb : Still b) :
    Still (if c then a else b) := by
  split
  · exact ha
  · exact hb

theorem Grows.ite {α} {c : Prop} [Decidable c] {a b : SM α} {k l f : Nat} (ha : Grows a k l f)
    (hb : Grows b k l f) : Grows (if c then a else b) k l f := by
  split
  · exact ha
  · exact hb

theorem Still.fetch (off : Nat) : Still (fetch off) := by
  intro s
  unfold Store.fetch
  cases assocGet s.mem off with
  | some m => exact Adv.refl s
  | none => exact Adv.of_hdr rfl rfl

theorem Still.putNode (n : Node) (d : Option Bool) : Still (putNode n d) := fun _ => Adv.of_hdr rfl rfl

theorem Still.markDirty (off lsn : Nat) : Still (markDirty off lsn) := by
  intro s
  unfold Store.markDirty
  cases assocGet s.mem off with
  | none => trivial
  | some m => exact Adv.of_hdr rfl rfl

/-- `fileStore.append`: one page -/
theorem Grows.appendNode (n : Node) (d : Bool) : Grows (appendNode n d) 0 0 4096 := fun _ =>
  ⟨Nat.le_refl _, Nat.le_refl _, Nat.le_refl _, Nat.le_refl _, Nat.le_add_right _ _, Nat.le_refl _, rfl⟩

/-- `Still m` is `Preserves (Adv · · 0 0 0) m`: the lemmas on scans, lookups and cell rewrites below are
instances of the `KeptByRewrites` ones -/
theorem adv_rewrites : KeptByRewrites fun s s' => Adv s s' 0 0 0 where
  refl := Adv.refl
  trans h1 h2 := h1.trans h2
  fetch := Still.fetch
  putNode := Still.putNode
  markDirty := Still.markDirty

theorem Still.decodeRow (sch : List FieldDef) (bs : Bytes) : Still (decodeRow sch bs) := adv_rewrites.decodeRow _ _

theorem Still.encodeRow (sch : List FieldDef) (m : Vals) : Still (encodeRow sch m) := adv_rewrites.encodeRow _ _

theorem Still.scanLeaves : ∀ (fuel : Nat) (l : Leaf), Still (scanLeaves fuel l) := adv_rewrites.scanLeaves

theorem Still.scanRight (root : Nat) : Still (scanRight root) := adv_rewrites.scanRight _

theorem Still.findFirstM {α β} {f : α → SM (Option β)} (hf : ∀ a, Still (f a)) :
    ∀ l : List α, Still (findFirstM f l) := adv_rewrites.findFirstM hf

theorem Still.findLeaf : ∀ (fuel off key : Nat), Still (findLeaf fuel off key) := adv_rewrites.findLeaf

theorem Still.updateCellAt (off key : Nat) (value : Bytes) (lsn : Nat) :
    Still (updateCellAt off key value lsn) := adv_rewrites.updateCellAt _ _ _ _

theorem Still.relationOffset (name : Bytes) : Still (relationOffset name) := adv_rewrites.relationOffset _

theorem Still.relationSchema (name : Bytes) : Still (relationSchema name) := adv_rewrites.relationSchema _

theorem Still.repointPageTable (old new lsn : Nat) : Still (repointPageTable old new lsn) :=
  adv_rewrites.repointPageTable _ _ _

/-- `RelationService.Fetch` (what SELECT, UPDATE and DELETE read) -/
theorem Still.fetchTable (table : Bytes) : Still (fetchTable table) := adv_rewrites.fetchTable _

/-- the pages the level below a parent may allocate beyond those of its children: its own split, and
at the root the new root -/
def apar : Option Nat → Nat
  | none => 2
  | some _ => 1

theorem Grows.leafSplitUp (parent : Option Nat) (curOff newOff newKey lsn root : Nat) :
    Grows (leafSplitUp parent curOff newOff newKey lsn root) 0 0 (4096 * (apar parent - 1)) := by
  have h := adv_rewrites
  unfold Store.leafSplitUp
  cases parent with
  | none =>
    exact (Grows.appendNode _ _).before fun _ => h.bind (h.markDirty _ _) fun _ =>
      h.bind (h.markDirty _ _) fun _ => h.bind (h.markDirty _ _) fun _ => h.pure _
  | some pOff =>
    refine Still.grows (h.bind (h.fetch _) fun p => ?_) _ _ _
    cases p with
    | leaf _ => exact .panicS _
    | internal pn =>
      dsimp only
      split
      · exact .panicS _
      · exact .ite (h.bind (h.putNode _ _) fun _ => h.bind (h.markDirty _ _) fun _ =>
          h.bind (h.markDirty _ _) fun _ => h.bind (h.markDirty _ _) fun _ => h.pure _) (.unmodelledS _)

theorem Grows.leafSplit (parent : Option Nat) (cur1 : Leaf) (lsn root : Nat) :
    Grows (leafSplit parent cur1 lsn root) 0 0 (4096 * apar parent) := by
  unfold Store.leafSplit
  refine (Grows.bind (Grows.appendNode _ _) fun _ => Grows.after (Still.putNode _ _) fun _ =>
    Grows.after (Still.putNode _ _) fun _ => Grows.leafSplitUp parent _ _ _ _ _).mono
    (Nat.le_refl _) (Nat.le_refl _) ?_
  cases parent <;> simp only [apar] <;> omega

/-- the leaf level: one page for the split, one more for a new root -/
theorem Grows.insertLeaf (parent : Option Nat) (cur : Leaf) (key lsn : Nat) (value : Bytes) (root : Nat) :
    Grows (insertLeaf parent cur key lsn value root) 0 0 (4096 * apar parent) := by
  rw [insertLeaf_eq]
  exact Grows.ite ((Still.throw _).grows _ _ _) (Grows.ite ((Still.throw _).grows _ _ _)
    (Grows.ite ((Still.unmodelledS _).grows _ _ _) (Grows.ite ((Still.unmodelledS _).grows _ _ _)
      (Grows.after (Still.putNode _ _) fun _ => Grows.ite ((Still.pure _).grows _ _ _)
        (Grows.leafSplit _ _ _ _)))))

theorem Grows.intSplitUp (parent : Option Nat) (curOff newOff midKey lsn root1 : Nat) :
    Grows (intSplitUp parent curOff newOff midKey lsn root1) 0 0 (4096 * (apar parent - 1)) := by
  have h := adv_rewrites
  unfold Store.intSplitUp
  cases parent with
  | none =>
    exact (Grows.appendNode _ _).before fun _ => h.bind (h.markDirty _ _) fun _ =>
      h.bind (h.markDirty _ _) fun _ => h.pure _
  | some pOff =>
    refine Still.grows (h.bind (h.fetch _) fun p => ?_) _ _ _
    cases p with
    | leaf _ => exact .panicS _
    | internal pn =>
      exact h.bind (h.putNode _ _) fun _ => h.bind (h.markDirty _ _) fun _ =>
        h.bind (h.markDirty _ _) fun _ => h.pure _

/-- an internal level after its child has returned: one page for the split, one more for a new root -/
theorem Grows.afterChild (parent : Option Nat) (curOff lsn root1 : Nat) :
    Grows (afterChild parent curOff lsn root1) 0 0 (4096 * apar parent) := by
  unfold Store.afterChild
  refine Grows.after (Still.fetch _) fun me => ?_
  cases me with
  | leaf l => exact (Still.panicS _).grows _ _ _
  | internal c1 =>
    refine Grows.ite ((Still.pure _).grows _ _ _) ?_
    refine (Grows.bind (Grows.appendNode _ _) fun _ => Grows.after (Still.putNode _ _) fun _ =>
      Grows.intSplitUp parent _ _ _ _ _).mono (Nat.le_refl _) (Nat.le_refl _) ?_
    cases parent <;> simp only [apar] <;> omega

/-- **The internal levels**: with `fuel` levels of fuel, at most `fuel` pages below this level plus the
pages of this level. -/
theorem Grows.insertInternal : ∀ (fuel : Nat) (parent : Option Nat) (cur : Internal) (key lsn : Nat)
    (value : Bytes) (root : Nat),
    Grows (insertInternal fuel parent cur key lsn value root) 0 0 (4096 * (fuel + apar parent))
  | 0, _, _, _, _, _, _ => Still.outOfFuel.grows _ _ _
  | fuel+1, parent, cur, key, lsn, value, root => by
    rw [insertInternal_eq]
    refine Grows.ite ((Still.throw _).grows _ _ _) (Grows.after (Still.fetch _) fun child => ?_)
    cases child with
    | leaf l =>
      refine (Grows.bind (Grows.insertLeaf (some cur.off) l key lsn value root)
        fun r => Grows.afterChild parent cur.off lsn r).mono (Nat.le_refl _) (Nat.le_refl _) ?_
      show 4096 * 1 + 4096 * apar parent ≤ 4096 * (fuel + 1 + apar parent)
      omega
    | internal i =>
      refine (Grows.bind (Grows.insertInternal fuel (some cur.off) i key lsn value root)
        fun r => Grows.afterChild parent cur.off lsn r).mono (Nat.le_refl _) (Nat.le_refl _) ?_
      show 4096 * (fuel + 1) + 4096 * apar parent ≤ 4096 * (fuel + 1 + apar parent)
      omega

/-- the pages one B-tree insert can allocate: one per level (64 internal levels of fuel and the leaf)
and one for a new root -/
def insertPages : Nat := 66

def insertBytes : Nat := 270336

theorem insertBytes_eq : insertBytes = c_pageSize * (treeFuel + 2) := rfl

theorem Grows.insertKeyHeap (bt : BT) (key lsn : Nat) (value : Bytes) :
    Grows (Store.insertKeyHeap bt key lsn value) 0 0 270336 := by
  unfold Store.insertKeyHeap
  refine Grows.after (Still.fetch _) fun pg => ?_
  cases pg with
  | leaf l =>
    exact ((Grows.insertLeaf none l key lsn value bt.root).before fun _ => Still.pure _).mono
      (Nat.le_refl _) (Nat.le_refl _) (by decide)
  | internal i =>
    exact ((Grows.insertInternal treeFuel none i key lsn value bt.root).before fun _ => Still.pure _).mono
      (Nat.le_refl _) (Nat.le_refl _) (by decide)

/-- **One tree insert allocates at most 66 pages and moves no other counter** (on every store, with
every outcome; the `ghost` counter of the cross-check is no header field). -/
theorem Grows.insertKey (bt : BT) (key lsn : Nat) (value : Bytes) :
    Grows (Store.insertKey bt key lsn value) 0 0 270336 := by
  intro s
  obtain ⟨g, hg, e⟩ := insertKey_eq_map bt key lsn value s
  have h := Grows.insertKeyHeap bt key lsn value s
  rw [e]
  have hgh : ∀ s' : Store, (g s').hdr = s'.hdr ∧ (g s').dhdr = s'.dhdr := by
    rcases hg with rfl | rfl <;> exact fun _ => ⟨rfl, rfl⟩
  generalize Store.insertKeyHeap bt key lsn value s = r at h
  cases r with
  | ok a s' => exact Adv.trans h (Adv.of_hdr (hgh s').1 (hgh s').2)
  | err x s' => exact Adv.trans h (Adv.of_hdr (hgh s').1 (hgh s').2)
  | _ => trivial

/-- **`BTree.insert`: exactly one row id and one LSN are consumed - also when the insertion fails** -
and at most 66 pages. -/
theorem btInsert_counters (bt : BT) (value : Bytes) (s : Store) :
    match btInsert bt value s with
    | .ok r s' => Adv s s' 1 1 270336 ∧ s'.hdr.lastKey = s.hdr.lastKey + 1 ∧
        s'.hdr.nextLSN = s.hdr.nextLSN + 1 ∧ r.2.1 = s.hdr.lastKey + 1 ∧ r.2.2 = s.hdr.nextLSN
    | .err _ s' => Adv s s' 1 1 270336 ∧ s'.hdr.lastKey = s.hdr.lastKey + 1 ∧
        s'.hdr.nextLSN = s.hdr.nextLSN + 1
    | _ => True := by
  have h := Grows.insertKey bt (s.hdr.lastKey + 1) s.hdr.nextLSN value s
  unfold Store.btInsert
  simp only
  cases e : Store.insertKey bt (s.hdr.lastKey + 1) s.hdr.nextLSN value s with
  | ok a s1 =>
    rw [e] at h
    obtain ⟨h1, h2⟩ := h.same_kl
    exact ⟨h.trans (Adv.bump s1), congrArg (· + 1) h1, congrArg (· + 1) h2, rfl, rfl⟩
  | err x s1 =>
    rw [e] at h
    obtain ⟨h1, h2⟩ := h.same_kl
    exact ⟨h.trans (Adv.bump s1), congrArg (· + 1) h1, congrArg (· + 1) h2⟩
  | _ => trivial

theorem Grows.btInsert (bt : BT) (value : Bytes) : Grows (Store.btInsert bt value) 1 1 270336 := by
  intro s
  have h := btInsert_counters bt value s
  cases e : Store.btInsert bt value s with
  | ok a s1 => rw [e] at h; exact h.1
  | err x s1 => rw [e] at h; exact h.1
  | _ => trivial

end Mkdb.Store
