import Mkdb.Proofs.RefineCellWrite
import Mkdb.Proofs.RefineInsert
/-!
Whole histories on the heap model are the histories of the levels model.

The operations (`HOp`, a copy of `Mkdb.Tree.TOp`; `HOp.toT`) are run on the page heap in
the `SM` monad; a refusal (`keyExists` / `rowTooLarge` of an insert, `cellNotFound` of an update or
a delete) leaves the handle unchanged and the run continues.  The hypothesis `RunOK` is stated over
the levels run: no insert is answered `notAppend`, an updated value fits a cell, a deleted key is
not already a tombstone (the heap refuses that with `cellNotFound` and stamps nothing, the levels
`setDeleted` stamps the leaf), and every tree an operation is applied to has
`inner.length + 1 ≤ treeFuel`.
-/
set_option autoImplicit false
namespace Mkdb.Store
open Mkdb.Page Mkdb.Generated Mkdb.Tree

theorem holds_iff (s : Store) (t : Levels) : Holds s t ↔ Mkdb.Refine.Holds s t := Iff.rfl

/-! ### operations, on the levels and on the heap -/

/-- a tree operation as the engine and log replay issue them (`Mkdb.Tree.TOp`) -/
inductive HOp where
  | ins (key lsn : Nat) (v : Bytes)
  | upd (key lsn : Nat) (v : Bytes)
  | del (key lsn : Nat)

def applyH (st : Levels × Nat) : HOp → Levels × Nat
  | .ins k lsn v => match insertAppend st.1 k lsn v st.2 with
    | .ok r => r
    | .error _ => st
  | .upd k lsn v => (setVal st.1 k lsn v, st.2)
  | .del k lsn => (setDeleted st.1 k lsn, st.2)

def runH (st : Levels × Nat) (ops : List HOp) : Levels × Nat := ops.foldl applyH st

def HOp.toT : HOp → TOp
  | .ins k lsn v => .ins k lsn v
  | .upd k lsn v => .upd k lsn v
  | .del k lsn => .del k lsn

theorem applyH_eq_applyOp (st : Levels × Nat) (o : HOp) : applyH st o = applyOp st o.toT := by
  cases o <;> rfl

/-- run `m`; an error in `p` is a refusal: the result is `dflt`, the run goes on -/
def absorb {α} (p : SErr → Bool) (dflt : α) (m : SM α) : SM α := fun s =>
  match m s with
  | .ok a s' => .ok a s'
  | .err e s' => if p e then .ok dflt s' else .err e s'
  | .panic x => .panic x
  | .unmodelled w => .unmodelled w
  | .fuel => .fuel

def refusedIns : SErr → Bool
  | .keyExists => true
  | .rowTooLarge => true
  | _ => false

def refusedCell : SErr → Bool
  | .cellNotFound => true
  | _ => false

/-- UPDATE of one row on the heap: route to the leaf, `updateCell` + `markDirty` -/
def heapUpd (root key lsn : Nat) (value : Bytes) : SM Unit := do
  let l ← findLeaf treeFuel root key
  updateCellAt l.off key value lsn

/-- the cell change of `Store.markDeleted` (without the log record and the LSN counter) -/
def heapDel (root key lsn : Nat) : SM Unit := do
  let l ← findLeaf treeFuel root key
  match l.cells.find? (fun c => c.key == key) with
  | none => throw .cellNotFound
  | some c =>
    if c.deleted then throw .cellNotFound else
    let pg ← fetch l.off
    match pg with
    | .internal _ => panicS "MarkDeleted: not a leaf"
    | .leaf l1 =>
      putNode (.leaf { l1 with cells := l1.cells.map fun x => if x.key == key then { x with deleted := true } else x })
      markDirty l.off lsn

def heapStep (root : Nat) : HOp → SM Nat
  | .ins k lsn v => absorb refusedIns root (insertKeyHeap ⟨root⟩ k lsn v >>= fun bt => pure bt.root)
  | .upd k lsn v => absorb refusedCell root (heapUpd root k lsn v >>= fun _ => pure root)
  | .del k lsn => absorb refusedCell root (heapDel root k lsn >>= fun _ => pure root)

def heapRun : Nat → List HOp → SM Nat
  | root, [] => pure root
  | root, op :: rest => heapStep root op >>= fun root' => heapRun root' rest

def OpOK (st : Levels × Nat) : HOp → Prop
  | .ins k lsn v => insertAppend st.1 k lsn v st.2 ≠ .error .notAppend
  | .upd _ _ v => v.length ≤ c_maxValueSize
  | .del k _ => ∀ c ∈ cells st.1, c.key = k → c.deleted = false

/-- the hypotheses on a history, along the levels run -/
def RunOK : Levels × Nat → List HOp → Prop
  | _, [] => True
  | st, op :: rest => st.1.inner.length + 1 ≤ treeFuel ∧ OpOK st op ∧ RunOK (applyH st op) rest

theorem absorb_ok {α} {p : SErr → Bool} {dflt a : α} {m : SM α} {s s' : Store} (h : m s = .ok a s') :
    absorb p dflt m s = .ok a s' := by unfold absorb; rw [h]

theorem absorb_err {α} {p : SErr → Bool} {dflt : α} {m : SM α} {s s' : Store} {e : SErr}
    (h : m s = .err e s') (hp : p e = true) : absorb p dflt m s = .ok dflt s' := by
  unfold absorb; rw [h]; simp [hp]

/-! ### UPDATE and DELETE of one row: the heap against `setVal` / `setDeleted` -/

/-- **A keyed cell operation on the heap is `updLeaves`.**  `findLeaf` routes to the leaf, then `body`: on a leaf
that holds the key (`c`: the cell) `body` fetches the leaf and is the cell write (`hhit`); on a leaf that does not
it refuses with `cellNotFound` having at most read (`hmiss`) - which changes nothing, as `updLeaves` of an absent
key changes nothing. -/
theorem keyedCell_refines (f : LeafCell → LeafCell) (body : Leaf → SM Unit) (s : Store) (t : Levels) (key lsn : Nat)
    (hH : Holds s t) (hI : Inv t s.hdr.nextFree) (hdepth : t.inner.length + 1 ≤ treeFuel)
    (hhit : ∀ (l : Leaf) (c : LeafCell) (s1 s2 : Store), c ∈ cells t →
      l.cells.find? (fun x => x.key == key) = some c → fetch l.off s1 = .ok (.leaf l) s2 →
      body l s1 = (putNode (.leaf { l with cells := l.cells.map (updCell f key) }) >>= fun _ =>
        markDirty l.off lsn) s2)
    (hmiss : ∀ (l : Leaf) (d : Bool) (s1 : Store), l.cells.find? (fun x => x.key == key) = none →
      view s1 l.off = some (.leaf l, d) →
      ∃ s2, body l s1 = .err .cellNotFound s2 ∧ view s2 = view s1 ∧ s2.hdr.nextFree = s1.hdr.nextFree) :
    ∃ s', absorb refusedCell (rootOff t)
        ((findLeaf treeFuel (rootOff t) key >>= body) >>= fun _ => pure (rootOff t)) s = .ok (rootOff t) s' ∧
      Holds s' (updLeaves f key lsn t) ∧ s'.hdr.nextFree = s.hdr.nextFree := by
  obtain ⟨s1, l, d, e, hm, v1, n1, hfind⟩ := findLeaf_key s t _ hH hI hdepth key
  by_cases hex : ∃ c ∈ cells t, c.key = key
  · obtain ⟨c, hc, hck⟩ := hex
    have hf := hfind c hc hck
    obtain ⟨s2, s3, e2, e3, hH3, hh3, _⟩ := cellWrite_refines f key lsn hH hI hm (any_of_find hf) v1
      (findLeaf_hdr _ _ _ _ _ _ e)
    refine ⟨s3, absorb_ok ?_, hH3, by rw [hh3]⟩
    rw [bind_ok (show (findLeaf treeFuel (rootOff t) key >>= body) s = .ok () s3 by
      rw [bind_ok e]; exact (hhit l c s1 s2 hc hf e2).trans e3)]
    rfl
  · have habs : ∀ c ∈ cells t, c.key ≠ key := fun c hc hck => hex ⟨c, hc, hck⟩
    have hnone : l.cells.find? (fun c => c.key == key) = none := by
      rw [List.find?_eq_none]
      intro c hc hck
      exact habs c (leaf_cells_sub hm c hc) (by simpa using hck)
    obtain ⟨s2, e2, v2, n2⟩ := hmiss l d s1 hnone (by rw [v1]; exact holds_leaf hH hm)
    refine ⟨s2, absorb_err (e := .cellNotFound) ?_ rfl, ?_, by rw [n2, n1]⟩
    · rw [bind_err (show (findLeaf treeFuel (rootOff t) key >>= body) s = .err .cellNotFound s2 by
        rw [bind_ok e]; exact e2)]
    · rw [updLeaves_absent _ _ _ _ habs]
      intro x hx
      rw [v2, v1]
      exact hH x hx

theorem heapUpd_refines (s : Store) (t : Levels) (key lsn : Nat) (value : Bytes)
    (hH : Holds s t) (hI : Inv t s.hdr.nextFree) (hdepth : t.inner.length + 1 ≤ treeFuel)
    (hv : value.length ≤ c_maxValueSize) :
    ∃ s', heapStep (rootOff t) (.upd key lsn value) s = .ok (rootOff t) s' ∧
      Holds s' (setVal t key lsn value) ∧ s'.hdr.nextFree = s.hdr.nextFree := by
  rw [setVal_eq]
  refine keyedCell_refines (fun c => { c with val := value }) (fun l => updateCellAt l.off key value lsn) s t key lsn
    hH hI hdepth (fun l c s1 s2 _ hf e2 => ?_) (fun l d s1 hnone hvl => ?_)
  · unfold updateCellAt
    simp only [gt_iff_lt, Nat.not_lt.mpr hv, if_false]
    rw [bind_ok e2]
    simp only [any_of_find hf, Bool.not_true, Bool.false_eq_true, if_false]
    rfl
  · obtain ⟨s2, e2, v2, n2, _⟩ := fetch_spec s1 l.off (.leaf l) d hvl rfl
    have hany : l.cells.any (fun c => c.key == key) = false :=
      List.any_eq_false.mpr fun c hc => by simpa using List.find?_eq_none.mp hnone c hc
    refine ⟨s2, ?_, v2, n2⟩
    unfold updateCellAt
    simp only [gt_iff_lt, Nat.not_lt.mpr hv, if_false]
    rw [bind_ok e2]
    simp only [hany, Bool.not_false, if_true]
    rfl

theorem heapDel_refines (s : Store) (t : Levels) (key lsn : Nat)
    (hH : Holds s t) (hI : Inv t s.hdr.nextFree) (hdepth : t.inner.length + 1 ≤ treeFuel)
    (hlive : ∀ c ∈ cells t, c.key = key → c.deleted = false) :
    ∃ s', heapStep (rootOff t) (.del key lsn) s = .ok (rootOff t) s' ∧
      Holds s' (setDeleted t key lsn) ∧ s'.hdr.nextFree = s.hdr.nextFree := by
  rw [setDeleted_eq]
  refine keyedCell_refines (fun c => { c with deleted := true }) _ s t key lsn hH hI hdepth
    (fun l c s1 s2 hc hf e2 => ?_) (fun l d s1 hnone _ => ⟨s1, ?_, rfl, rfl⟩)
  · have hck : c.key = key := by simpa using List.find?_some hf
    simp only [hf, hlive c hc hck, Bool.false_eq_true, if_false]
    rw [bind_ok e2]
    rfl
  · simp only [hnone]
    rfl

theorem heapIns_refines (s : Store) (t : Levels) (key lsn : Nat) (value : Bytes)
    (hH : Holds s t) (hI : Inv t s.hdr.nextFree) (hdepth : t.inner.length ≤ treeFuel)
    (hok : insertAppend t key lsn value s.hdr.nextFree ≠ .error .notAppend) :
    ∃ s', heapStep (rootOff t) (.ins key lsn value) s =
        .ok (rootOff (applyH (t, s.hdr.nextFree) (.ins key lsn value)).1) s' ∧
      Holds s' (applyH (t, s.hdr.nextFree) (.ins key lsn value)).1 ∧
      s'.hdr.nextFree = (applyH (t, s.hdr.nextFree) (.ins key lsn value)).2 := by
  cases hres : insertAppend t key lsn value s.hdr.nextFree with
  | ok r =>
    obtain ⟨t', nf'⟩ := r
    obtain ⟨s', e, hH', hn, _⟩ := insertKeyHeap_refines s t key lsn value hH hI hdepth t' nf' hres
    refine ⟨s', ?_, ?_, ?_⟩
    · simp only [applyH, hres]
      apply absorb_ok
      rw [bind_ok e]
      rfl
    · simp only [applyH, hres]; exact hH'
    · simp only [applyH, hres]; exact hn
  | error err =>
    have happ : applyH (t, s.hdr.nextFree) (.ins key lsn value) = (t, s.hdr.nextFree) := by
      simp only [applyH, hres]
    rw [happ]
    cases err with
    | keyExists =>
      obtain ⟨s', e, hH', hn, _⟩ := insertKeyHeap_refines_keyExists s t key lsn value hH hI hdepth hres
      exact ⟨s', absorb_err (e := .keyExists) (by rw [bind_err e]) rfl, hH', hn⟩
    | rowTooLarge =>
      obtain ⟨s', e, hH', hn, _⟩ := insertKeyHeap_refines_rowTooLarge s t key lsn value hH hI hdepth hres
      exact ⟨s', absorb_err (e := .rowTooLarge) (by rw [bind_err e]) rfl, hH', hn⟩
    | notAppend => exact absurd hres hok
    | malformed =>
      exact absurd (insertAppend_error hres) (linked_below_ne t.inner _ hI.link ∘ congrArg _)

theorem applyH_inv (st : Levels × Nat) (op : HOp) (h : Inv st.1 st.2) :
    Inv (applyH st op).1 (applyH st op).2 := by
  rw [applyH_eq_applyOp]
  exact applyOp_inv st op.toT h

theorem heapStep_refines (s : Store) (t : Levels) (op : HOp)
    (hH : Holds s t) (hI : Inv t s.hdr.nextFree) (hdepth : t.inner.length + 1 ≤ treeFuel)
    (hok : OpOK (t, s.hdr.nextFree) op) :
    ∃ s', heapStep (rootOff t) op s = .ok (rootOff (applyH (t, s.hdr.nextFree) op).1) s' ∧
      Holds s' (applyH (t, s.hdr.nextFree) op).1 ∧
      s'.hdr.nextFree = (applyH (t, s.hdr.nextFree) op).2 := by
  cases op with
  | ins k lsn v => exact heapIns_refines s t k lsn v hH hI (by omega) hok
  | upd k lsn v =>
    obtain ⟨s', e, hH', hn⟩ := heapUpd_refines s t k lsn v hH hI hdepth hok
    refine ⟨s', ?_, hH', hn⟩
    rw [e]
    simp only [applyH]
    rw [setVal_eq, rootOff_updLeaves]
  | del k lsn =>
    obtain ⟨s', e, hH', hn⟩ := heapDel_refines s t k lsn hH hI hdepth hok
    refine ⟨s', ?_, hH', hn⟩
    rw [e]
    simp only [applyH]
    rw [setDeleted_eq, rootOff_updLeaves]

/-! ### histories -/

theorem heapRun_refines (ops : List HOp) : ∀ (s : Store) (t : Levels), Holds s t → Inv t s.hdr.nextFree →
    RunOK (t, s.hdr.nextFree) ops →
    ∃ s' root', heapRun (rootOff t) ops s = .ok root' s' ∧
      root' = rootOff (runH (t, s.hdr.nextFree) ops).1 ∧
      Holds s' (runH (t, s.hdr.nextFree) ops).1 ∧
      Inv (runH (t, s.hdr.nextFree) ops).1 s'.hdr.nextFree ∧
      s'.hdr.nextFree = (runH (t, s.hdr.nextFree) ops).2 := by
  induction ops with
  | nil =>
    intro s t hH hI _
    exact ⟨s, rootOff t, rfl, rfl, hH, hI, rfl⟩
  | cons op rest ih =>
    intro s t hH hI hok
    obtain ⟨hdepth, hop, hrest⟩ := hok
    obtain ⟨s1, e1, hH1, hn1⟩ := heapStep_refines s t op hH hI hdepth hop
    have hI1 := applyH_inv (t, s.hdr.nextFree) op hI
    have hst : ((applyH (t, s.hdr.nextFree) op).1, s1.hdr.nextFree) = applyH (t, s.hdr.nextFree) op := by
      rw [hn1]
    obtain ⟨s', root', e2, hr, hH', hI', hn'⟩ := ih s1 (applyH (t, s.hdr.nextFree) op).1 hH1
      (by rw [hn1]; exact hI1) (by rw [hst]; exact hrest)
    rw [hst] at hr hH' hI' hn'
    refine ⟨s', root', ?_, hr, hH', hI', hn'⟩
    show (heapStep (rootOff t) op >>= fun root' => heapRun root' rest) s = _
    rw [bind_ok e1]
    exact e2

theorem cells_applyH (st : Levels × Nat) (op : HOp) :
    cells (applyH st op).1 =
      match op with
      | .ins k lsn v =>
        (match insertAppend st.1 k lsn v st.2 with
          | .ok _ => cells st.1 ++ [⟨k, false, v⟩]
          | .error _ => cells st.1)
      | .upd k _ v => (cells st.1).map (fun c => if c.key == k then { c with val := v } else c)
      | .del k _ => (cells st.1).map (fun c => if c.key == k then { c with deleted := true } else c) := by
  rw [applyH_eq_applyOp, cells_applyOp]
  cases op <;> rfl

theorem heapRun_scan (ops : List HOp) (s : Store) (t : Levels) (hH : Holds s t) (hI : Inv t s.hdr.nextFree)
    (hok : RunOK (t, s.hdr.nextFree) ops)
    (hdepth : (runH (t, s.hdr.nextFree) ops).1.inner.length + 1 ≤ treeFuel)
    (hlen : (runH (t, s.hdr.nextFree) ops).1.leaves.length ≤ scanFuel) :
    ∃ s' root' res s'', heapRun (rootOff t) ops s = .ok root' s' ∧ scanRight root' s' = .ok res s'' ∧
      res.map (·.1) = live (runH (t, s.hdr.nextFree) ops).1 ∧
      Holds s'' (runH (t, s.hdr.nextFree) ops).1 := by
  obtain ⟨s', root', e, hr, hH', hI', _⟩ := heapRun_refines ops s t hH hI hok
  obtain ⟨s'', e2, hsv⟩ := Mkdb.Refine.scanRight_refines_strong s' _ _ hH' hI' hdepth hlen
  refine ⟨s', root', _, s'', e, by rw [hr]; exact e2, Mkdb.Refine.map_fst_liveAt _, ?_⟩
  intro x hx
  rw [hsv]
  exact hH' x hx

/-! ### non-vacuity: the hypotheses are decidable and hold for a concrete history -/

/-- 12 inserts (one leaf split, a new root), an update, a delete, a refused re-insert of the deleted key,
an update of an absent key -/
def ops0 : List HOp := (List.range' 1 12).map (fun k => HOp.ins k k [1]) ++ [.upd 3 20 [9], .del 5 21, .ins 5 22 [], .upd 99 23 [1]]
/-- a store holding the empty tree of a freshly created table -/
def s0 : Store := { hdr := { nextFree := 8192 }, mem := [(4096, ⟨.leaf ⟨4096, 0, false, false, 0, 0, []⟩, true⟩)] }

instance decOpOK (st : Levels × Nat) : (op : HOp) → Decidable (OpOK st op)
  | .ins k lsn v =>
    match h : insertAppend st.1 k lsn v st.2 with
    | .ok _ => isTrue (show insertAppend st.1 k lsn v st.2 ≠ _ by rw [h]; intro h'; cases h')
    | .error .keyExists => isTrue (show insertAppend st.1 k lsn v st.2 ≠ _ by rw [h]; intro h'; cases h')
    | .error .rowTooLarge => isTrue (show insertAppend st.1 k lsn v st.2 ≠ _ by rw [h]; intro h'; cases h')
    | .error .malformed => isTrue (show insertAppend st.1 k lsn v st.2 ≠ _ by rw [h]; intro h'; cases h')
    | .error .notAppend => isFalse (fun hne => hne h)
  | .upd _ _ v => inferInstanceAs (Decidable (v.length ≤ c_maxValueSize))
  | .del k _ => inferInstanceAs (Decidable (∀ c ∈ cells st.1, c.key = k → c.deleted = false))

instance decRunOK : (st : Levels × Nat) → (ops : List HOp) → Decidable (RunOK st ops)
  | _, [] => isTrue trivial
  | st, op :: rest =>
    have := decRunOK (applyH st op) rest
    inferInstanceAs (Decidable (st.1.inner.length + 1 ≤ treeFuel ∧ OpOK st op ∧ RunOK (applyH st op) rest))

example : RunOK (emptyTree 4096, 8192) ops0 := by decide +kernel
example : ((runH (emptyTree 4096, 8192) ops0).1.leaves.length, (runH (emptyTree 4096, 8192) ops0).1.inner.length,
   (live (runH (emptyTree 4096, 8192) ops0).1).map (·.key)) = (2, 1, [1,2,3,4,6,7,8,9,10,11,12]) := by decide +kernel

theorem s0_holds : Holds s0 (emptyTree 4096) := by unfold Holds; decide

example : ∃ s' root' res s'', heapRun 4096 ops0 s0 = .ok root' s' ∧ scanRight root' s' = .ok res s'' ∧
    res.map (·.1.key) = [1, 2, 3, 4, 6, 7, 8, 9, 10, 11, 12] := by
  obtain ⟨s', root', res, s'', e1, e2, hres, _⟩ := heapRun_scan ops0 s0 (emptyTree 4096) s0_holds
    (emptyTree_inv 4096 8192 (by decide)) (by decide) (by decide) (by decide)
  refine ⟨s', root', res, s'', e1, e2, ?_⟩
  have : res.map (·.1.key) = (res.map (·.1)).map (·.key) := by rw [List.map_map]; rfl
  rw [this, hres]
  decide

end Mkdb.Store

