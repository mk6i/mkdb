import Mkdb.Proofs.Aggregate
import Mkdb.Proofs.Kinds
/-!
C18: the SELECT pipeline walked once for a cell predicate `P`; its two instances (`hasKind`: kinded output; `True`: well-shaped tables).

Three parts: (1) the walk, stage by stage, ending in `evaluateSelect_typed` (namespace `Exec.TypedP`); (2) `P` =
`hasKind`: `evaluateSelect_kinded`, and the congruences `nestedLoopJoin_congr`, `evaluateSelect_congr` (a SELECT
reads the tables `fromNames` lists and no other); (3) `P` = `True`: `no_panic_except_sort` and the FIXED
per-stage theorems about well-shaped tables (namespace `Exec.NoPanicP`, as `NoPanicExec`).
-/

section
/-!
For a cell predicate `P` that admits what `hasKind` admits, every stage of `evaluateSelect` takes rows typed
by `P` (`RowOf P ks row`, `Kinds`) to rows typed by `P` without a panic: the join concatenates the kinds of
its sources (the NULL padding has every kind), WHERE drops rows, projection and aggregation type the output
by `outKinds`, ORDER BY and OFFSET / LIMIT return rows of their input.  The one panic left is the sort
comparator's, and only if `P` lets two incomparable values into one column (`SortPanic P`).  With the
trivial `P` this is `C18_no_panic_partial` (the last section), with `P` = `hasKind` it is
`C18_select_output_columns_are_typed` (the section before it).
-/
set_option autoImplicit false
namespace Mkdb.Exec.TypedP
open Mkdb.Sql Mkdb.Tuple Mkdb.Exec.NoPanicP Mkdb.Exec.AggP

section
variable {P : Kind → Val → Prop} {E : String → Prop}

theorem mapX_rowOf {α} (f : α → X Val) (K : α → Kind) :
    ∀ l : List α, (∀ a ∈ l, Wp E (P (K a)) (f a)) → Wp E (RowOf P (l.map K)) (mapX f l)
  | [], _ => trivial
  | a :: rest, h => by
    unfold mapX
    apply Wp.bind (h a List.mem_cons_self)
    intro b hb
    apply Wp.bind (mapX_rowOf f K rest fun a' ha' => h a' (List.mem_cons_of_mem _ ha'))
    intro tl htl
    exact ⟨hb, htl⟩

/-- rows and header of a stage: one list of kinds, as long as the header, that types every row -/
def TypedStage (P : Kind → Val → Prop) (p : List Row × List Field) : Prop :=
  ∃ ks : List Kind, ks.length = p.2.length ∧ ∀ r ∈ p.1, RowOf P ks r

/-! ### expressions -/

/-- a column that resolves is a position of the row, and the value there is of the column's kind: the
lookup followed by an access to the row cannot panic on the access -/
theorem column_typed {α} {Q : α → Prop} {ks : List Kind} {fields : List Field} {row : Row}
    (h : RowOf P ks row) (hl : ks.length = fields.length) (c : ColRef) {k : Nat → X α}
    (hk : ∀ idx v, findColumn c fields = .ok idx → row[idx]? = some v → P (ks.getD idx .int) v → Wp E Q (k idx)) :
    Wp E Q (findColumn c fields >>= k) := by
  cases hfc : findColumn c fields with
  | err e => trivial
  | panic s => exact absurd hfc (findColumn_no_panic c fields s)
  | ok idx =>
    obtain ⟨v, hv, hp⟩ := h.get (hl ▸ findColumn_lt hfc)
    exact hk idx v hfc hv hp

theorem evaluate_typed (hP : Admits P) {ks : List Kind} {fields : List Field} {row : Row}
    (h : RowOf P ks row) (hl : ks.length = fields.length) :
    ∀ c : Cond, Wp E (P (condKind c)) (evaluate c fields row)
  | .val (.lit l) => by unfold evaluate; exact hP _ _ (hasKind_litVal l)
  | .val (.col _) => by unfold evaluate; trivial
  | .pred p => by
    unfold evaluate
    exact Wp.bind (evalPred_wp p (h.length.trans hl)) fun _ _ => hP _ _ rfl
  | .and p r => by
    unfold evaluate
    apply Wp.bind (evalPred_wp p (h.length.trans hl))
    intro lhs _
    apply Wp.bind (evaluate_typed hP h hl r)
    intro rhs _
    split
    · exact hP _ _ rfl
    · trivial
  | .or l r => by
    unfold evaluate
    apply Wp.bind (evaluate_typed hP h hl l)
    intro lhs _
    apply Wp.bind (evaluate_typed hP h hl r)
    intro rhs _
    split
    · exact hP _ _ rfl
    · trivial

theorem filterRows_typed (hP : Admits P) (c : Cond) {ks : List Kind} {fields : List Field} (rows : List Row)
    (h : ∀ r ∈ rows, RowOf P ks r) (hlen : ∀ r ∈ rows, r.length = fields.length) :
    Wp E (fun out => ∀ r ∈ out, r ∈ rows) (filterRows c fields rows) := by
  rw [filterRows_eq_filterX]
  refine (filterX_wp rows fun r hr => ?_).mono (fun _ hs r hr => hs.subset hr) (fun _ e => e)
  have hr' := h r hr
  exact Wp.bind (evaluate_typed hP hr' (hr'.length.symm.trans (hlen r hr)) c) fun _ _ => trivial

/-! ### the join -/

theorem joinMatches_typed (hP : Admits P) (on : Cond) {ks : List Kind} {fields : List Field}
    (hl : ks.length = fields.length) (mk : Row → Row) (rs : List Row) (h : ∀ x ∈ rs, RowOf P ks (mk x)) :
    Wp E (fun out => ∀ r ∈ out, RowOf P ks r) (joinMatches on fields mk rs) := by
  rw [joinMatches_eq_filterX]
  refine (filterX_wp _ fun r hr => ?_).mono (fun _ hs r hr => ?_) (fun _ e => e)
  · obtain ⟨x, hx, rfl⟩ := List.mem_map.mp hr
    refine Wp.bind (evaluate_typed hP (h x hx) hl on) fun v _ => ?_
    cases v <;> trivial
  · obtain ⟨x, hx, rfl⟩ := List.mem_map.mp (hs.subset hr)
    exact h x hx

/-- the rows of a join are `mk o i` for rows `o`, `i` of the two sources, or the padding `p o` -/
theorem joinOuter_typed (hP : Admits P) (on : Cond) {ks : List Kind} {fields : List Field}
    (hl : ks.length = fields.length) (inner : List Row) (mk : Row → Row → Row) (pad : Option (Row → Row))
    (outer : List Row) (h : ∀ o ∈ outer, ∀ i ∈ inner, RowOf P ks (mk o i))
    (hp : ∀ p, pad = some p → ∀ o ∈ outer, RowOf P ks (p o)) :
    Wp E (fun out => ∀ r ∈ out, RowOf P ks r) (joinOuter on fields outer inner mk pad) := by
  rw [joinOuter_eq_mapX]
  apply Wp.bind (mapX_wp (fun _ (rs : List Row) => ∀ r ∈ rs, RowOf P ks r) _ outer fun o ho => ?_)
  · intro bs hbs r hr
    obtain ⟨rs, hrs, hr⟩ := List.mem_flatten.mp hr
    obtain ⟨_, _, hq⟩ := hbs.2 rs hrs
    exact hq r hr
  · unfold outerRows
    apply Wp.bind (joinMatches_typed hP on hl (mk o) inner fun i hi => h o ho i hi)
    intro ms hms r hr
    split at hr
    · cases pad with
      | none => simp at hr
      | some p =>
        rw [List.mem_singleton.mp hr]
        exact hp p rfl o ho
    · exact hms r hr

theorem fetchTable_typed {fetch : Bytes → Option Table} (t : TableName) (hf : TypedFetch P fetch [t.name]) :
    Wp E (TypedStage P) (fetchTable fetch t) := by
  unfold fetchTable
  split
  · trivial
  · rename_i tbl heq
    obtain ⟨ks, hlen, hrows⟩ := hf _ List.mem_cons_self _ heq
    exact ⟨ks, by simp only [List.length_map]; exact hlen, hrows⟩

/-- **the FROM clause keeps the rows typed**: the rows of a join (inner, LEFT, RIGHT, any nesting) are
typed by the kinds of the left source followed by those of the right one - the NULL padding has every
kind -, and no stage of it panics -/
theorem nestedLoopJoin_typed (hP : Admits P) {fetch : Bytes → Option Table} :
    ∀ tr : TableRef, TypedFetch P fetch (fromNames tr) → Wp E (TypedStage P) (nestedLoopJoin fetch tr)
  | .table t, hf => by unfold nestedLoopJoin; exact fetchTable_typed t hf
  | .join l jt r on, hf => by
    unfold nestedLoopJoin
    apply Wp.bind (nestedLoopJoin_typed hP l fun n hn => hf n (List.mem_append_left _ hn))
    rintro ⟨lRows, lFields⟩ ⟨lks, hll, hl⟩
    dsimp only at hll hl ⊢
    apply Wp.bind (fetchTable_typed r fun n hn => hf n (List.mem_append_right _ hn))
    rintro ⟨rRows, rFields⟩ ⟨rks, hrl, hr⟩
    dsimp only at hrl hr ⊢
    split
    · trivial
    have hlen : (lks ++ rks).length = (lFields ++ rFields).length := by
      simp only [List.length_append, hll, hrl]
    have hmk : ∀ o ∈ lRows, ∀ i ∈ rRows, RowOf P (lks ++ rks) (o ++ i) :=
      fun o ho i hi => (hr i hi).append (hl o ho)
    cases jt with
    | inner =>
      exact Wp.bind (joinOuter_typed hP on hlen _ _ _ _ hmk (fun p e => nomatch e))
        fun rows hrows => ⟨_, hlen, hrows⟩
    | left =>
      refine Wp.bind (joinOuter_typed hP on hlen _ _ _ _ hmk fun p e o ho => ?_)
        fun rows hrows => ⟨_, hlen, hrows⟩
      cases e
      rw [← hrl]
      exact (RowOf.nulls hP rks).append (hl o ho)
    | right =>
      refine Wp.bind (joinOuter_typed hP on hlen _ _ _ _ (fun o ho i hi => hmk i hi o ho) fun p e o ho => ?_)
        fun rows hrows => ⟨_, hlen, hrows⟩
      cases e
      rw [← hll]
      exact (hr o ho).append (RowOf.nulls hP lks)

/-! ### projection -/

theorem projectItem_typed (hP : Admits P) (item : SelItem) {ks : List Kind} {fields : List Field} {row : Row}
    (h : RowOf P ks row) (hl : ks.length = fields.length) :
    Wp E (P (itemKind fields ks item)) (projectItem item fields row) := by
  unfold projectItem
  split
  · trivial
  · refine column_typed h hl _ fun idx v _ hv _ => ?_
    rw [hv]
    cases v
    · exact hP _ _ rfl
    all_goals trivial
  · exact hP _ _ rfl
  · refine column_typed h hl _ fun idx v _ hv _ => ?_
    rw [hv]
    cases v <;> exact hP _ _ rfl
  · refine column_typed h hl _ fun idx v hfc hv hp => ?_
    rw [hv]
    simp only [Wp_pure, itemKind, hfc]
    exact hp
  · rename_i c hc
    rw [itemKind_expr fields ks c (fun cr e => hc cr (by rw [e]))]
    exact evaluate_typed hP h hl c

theorem projectColumns_typed (hP : Admits P) (sl : List DerivedCol) (hne : sl ≠ []) {ks : List Kind}
    {fields : List Field} (rows : List Row) (h : ∀ r ∈ rows, RowOf P ks r)
    (hlen : ∀ r ∈ rows, r.length = fields.length) :
    Wp E (fun p => (∀ r ∈ p.1, RowOf P (outKinds sl fields ks) r) ∧
        p.2.length = if isStar sl then fields.length else sl.length)
      (projectColumns sl fields rows) := by
  unfold projectColumns
  rw [if_neg (show ¬ sl.isEmpty = true by simpa using hne)]
  unfold outKinds
  split
  · exact ⟨h, rfl⟩
  · apply Wp.bind (P := fun _ => True)
    · exact mapX_safe fun d _ => mapX_safe fun c _ =>
        (findColumn_wp c fields).mono (fun _ _ => trivial) (fun _ e => e)
    · intro _ _
      apply Wp.bind (mapX_wp (fun _ (r' : Row) => RowOf P (sl.map fun d => itemKind fields ks d.item) r') _ rows ?_)
      · intro rows' hrows'
        apply Wp.bind (mapX_wp (fun _ _ => True) _ sl (fun d _ => headerOf_wp d fields))
        intro hdr hhdr
        refine ⟨fun r hr => ?_, hhdr.1⟩
        obtain ⟨_, _, hk⟩ := hrows'.2 r hr
        exact hk
      · intro row hrow
        have hr := h row hrow
        exact mapX_rowOf _ (fun d => itemKind fields ks d.item) sl fun d _ =>
          projectItem_typed hP d.item hr (hr.length.symm.trans (hlen row hrow))

/-! ### aggregation -/

theorem zip_range_map_snd {α β} (sl : List α) (K : α → β) :
    ((List.range sl.length).zip sl).map (fun p => K p.2) = sl.map K := by
  have : ((List.range sl.length).zip sl).map (fun p => K p.2) = (((List.range sl.length).zip sl).map Prod.snd).map K := by
    rw [List.map_map]; rfl
  rw [this, List.map_snd_zip (by simp)]

theorem aggCell_typed (hP : Admits P) {fields : List Field} {ks : List Kind} {sl : List DerivedCol}
    {i : Nat} {d : DerivedCol} (hd : sl[i]? = some d) {g : Group}
    (hrows : ∀ r ∈ g.rows, RowOf P (sl.map fun d => itemKind fields ks d.item) r) (hne : g.rows ≠ []) :
    Wp E (P (itemKind fields ks d.item)) (aggCell d.item i g) := by
  unfold aggCell
  split
  · rename_i c hc
    rw [hc]
    exact hP _ _ rfl
  · rename_i c hc
    rw [hc]
    exact hP _ _ rfl
  · cases hh : g.rows.head? with
    | none => exact absurd (List.head?_eq_none_iff.mp hh) hne
    | some r =>
      have hi : i < (sl.map fun d => itemKind fields ks d.item).length := by
        rw [List.length_map]; exact (List.getElem?_eq_some_iff.mp hd).1
      obtain ⟨v, hv, hp⟩ := (hrows r (List.mem_of_mem_head? hh)).get hi
      simp only [hv, Wp_pure]
      simpa only [List.getD_eq_getElem?_getD, List.getElem?_map, hd, Option.map_some, Option.getD_some] using hp

/-- **aggregation keeps the rows typed and does not panic**, for a select list that does not start with
`*` (the rows are projected): the aggregated rows - the input itself, one row per group (the aggregates are
integers, every other column is read from the first row of the group), or the single row over an empty
input - are typed by `outKinds` again -/
theorem aggregateRows_typed (hP : Admits P) (fields : List Field) (ks : List Kind) (sl : List DerivedCol)
    (groupBy : List ColRef) (rows : List Row) (hs : isStar sl = false)
    (hrows : ∀ r ∈ rows, RowOf P (outKinds sl fields ks) r) :
    Wp E (fun out => ∀ r ∈ out, RowOf P (outKinds sl fields ks) r) (aggregateRows sl groupBy rows) := by
  rw [outKinds_nostar hs] at hrows ⊢
  unfold aggregateRows
  split
  · exact hrows
  · split
    · apply Wp.bind (mapX_rowOf _ (fun d => itemKind fields ks d.item) sl ?_)
      · intro r hr r' hr'
        rw [List.mem_singleton.mp hr']
        exact hr
      · intro d _
        split
        · rename_i c hc
          rw [hc]
          exact hP _ _ rfl
        · rename_i c hc
          rw [hc]
          exact hP _ _ rfl
        · rename_i c hc
          rw [hc]
          by_cases hcol : ∃ cr, c = .val (.col cr)
          · obtain ⟨cr, rfl⟩ := hcol
            unfold evaluate
            trivial
          · rw [itemKind_expr fields ks c fun cr e => hcol ⟨cr, e⟩]
            exact evaluate_typed (ks := []) (fields := []) (row := []) hP trivial rfl c
        · trivial
    · apply Wp.bind (P := fun _ => True)
      · exact mapX_safe fun g _ => by split <;> trivial
      · intro idxs _
        rw [if_neg (by rw [hs]; exact Bool.false_ne_true)]
        refine (mapX_wp (fun _ (r' : Row) => RowOf P (sl.map fun d => itemKind fields ks d.item) r') _ _
          fun g hg => ?_).mono (fun out hout r hr => by obtain ⟨_, _, hk⟩ := hout.2 r hr; exact hk) (fun _ e => e)
        have hg' := groups_rows_mem (fun r => idxs.map fun i => (r[i]?).getD .null) rows g hg
        have := mapX_rowOf (P := P) (E := E) (fun (p : Nat × DerivedCol) => aggCell p.2.item p.1 g)
          (fun p => itemKind fields ks p.2.item) ((List.range sl.length).zip sl) ?_
        · rwa [zip_range_map_snd sl fun d => itemKind fields ks d.item] at this
        · rintro ⟨i, d⟩ hp
          exact aggCell_typed hP (mem_zip_range hp) (fun r hr => hrows r (hg'.1 r hr)) hg'.2

/-! ### sorting: the one panic left, and when it cannot occur -/

/-- the panic a SELECT over rows typed by `P` can end in: the sort comparator, and only if `P` lets two
incomparable values into one column -/
def SortPanic (P : Kind → Val → Prop) (s : String) : Prop :=
  s = sortMsg ∧ ¬ ∀ k a b, P k a → P k b → Comparable a b

theorem sortColumns_typed (ob : List SortSpec) (hdr : List Field) (rows : List Row) {ks : List Kind}
    (h : ∀ r ∈ rows, RowOf P ks r) :
    Wp (SortPanic P) (fun out => ∀ r ∈ out, r ∈ rows) (sortColumns ob hdr rows) :=
  (sortColumns_wp ob hdr rows).mono (fun _ h => h) fun _ ⟨e, _, _, i, _, a, ha, b, hb, hn⟩ =>
    ⟨e, fun hc => hn ((h a ha).comparable hc (h b hb) i)⟩

/-! ### the whole SELECT -/

theorem selectTail_typed (hP : Admits P) (q : Select) (hne : q.list ≠ []) (hb : Spec.boundsOK q.lim = true)
    (hq : ListOK q) {ks : List Kind} {fields : List Field} (rows : List Row)
    (hk : ∀ r ∈ rows, RowOf P ks r) (hlen : ∀ r ∈ rows, r.length = fields.length) :
    Wp (SortPanic P) (fun p => (∀ r ∈ p.1, RowOf P (outKinds q.list fields ks) r) ∧
        p.2.length = if isStar q.list then fields.length else q.list.length)
      (SelectP.selectTail q fields rows) := by
  unfold SelectP.selectTail
  apply Wp.bind (projectColumns_typed hP q.list hne rows hk hlen)
  rintro ⟨rows2, hdr⟩ ⟨hk2, hhdr⟩
  dsimp only at hk2 hhdr ⊢
  have hagg : Wp (SortPanic P) (fun out => ∀ r ∈ out, RowOf P (outKinds q.list fields ks) r)
      (aggregateRows q.list q.groupBy rows2) := by
    rcases hq with hq | ⟨hq, hgb⟩ | ⟨a, hq⟩
    · exact aggregateRows_typed hP fields ks q.list q.groupBy rows2 hq hk2
    · rw [SelectP.aggregateRows_noAggr rows2 hq hgb]
      exact hk2
    · rw [hq] at hk2 ⊢
      rw [aggregateRows_star]
      split
      · exact hk2
      · trivial
  apply Wp.bind hagg
  intro rows3 hk3
  apply Wp.bind (sortColumns_typed q.orderBy (sortFields q.list hdr) rows3 hk3)
  intro rows4 hsub
  exact Wp.bind (cutRows_wp hb rows4) fun rows5 hsub5 => ⟨fun r hr => hk3 r (hsub r (hsub5 r hr)), hhdr⟩

/-- **A SELECT over tables typed by `P` ends in a table typed by `P` again (one kind per column of its header),
in an error value, or in the sort comparator's panic - the last only if `P` admits incomparable values in
one column.** -/
theorem evaluateSelect_typed (hP : Admits P) {fetch : Bytes → Option Table} (q : Select)
    (hf : ∀ tr, q.from_ = some tr → TypedFetch P fetch (fromNames tr))
    (hne : q.list ≠ []) (hb : Spec.boundsOK q.lim = true) (hq : ListOK q) :
    Wp (SortPanic P) (TypedStage P) (evaluateSelect fetch q) := by
  cases hfr : q.from_ with
  | none =>
    unfold evaluateSelect
    rw [hfr]
    refine (projectColumns_typed (ks := []) hP q.list hne [[]] (fun r hr => ?_) fun r hr => ?_).mono
      (fun p hp => ⟨_, by rw [outKinds_length, hp.2]; rfl, hp.1⟩) (fun _ e => e)
    · rw [List.mem_singleton.mp hr]
      trivial
    · rw [List.mem_singleton.mp hr]
      rfl
  | some tr =>
    rw [SelectP.evaluateSelect_from fetch q tr hfr]
    apply Wp.bind (nestedLoopJoin_typed hP tr (hf tr hfr))
    rintro ⟨rows, fields⟩ ⟨ks, hkl, hkr⟩
    dsimp only at hkl hkr ⊢
    have hlen : ∀ r ∈ rows, r.length = fields.length := fun r hr => (hkr r hr).length.trans hkl
    have hfilt : Wp (SortPanic P) (fun rows1 => ∀ r ∈ rows1, r ∈ rows)
        (match q.where_ with
          | some c => filterRows c fields rows
          | none => pure rows) := by
      split
      · exact filterRows_typed hP _ rows hkr hlen
      · exact fun r hr => hr
    apply Wp.bind hfilt
    intro rows1 hsub
    exact (selectTail_typed hP q hne hb hq rows1 (fun r hr => hkr r (hsub r hr)) fun r hr => hlen r (hsub r hr)).mono
      (fun p hp => ⟨_, by rw [outKinds_length, hp.2, hkl], hp.1⟩) (fun _ e => e)

end

end Mkdb.Exec.TypedP
end

section
/-!
**a SELECT over kinded tables never panics, and its output is kinded** - the walk above
under the cell predicate `hasKind`: rows kinded by one list are pairwise comparable in every
column, so the sort comparator - the one panic `C18_no_panic_partial` leaves - cannot fail.
-/
set_option autoImplicit false
namespace Mkdb.Exec.TypedP
open Mkdb.Sql Mkdb.Tuple Mkdb.Exec.NoPanicP

theorem sortPanic_hasKind (s : String) : ¬ SortPanic (fun k v => hasKind k v = true) s :=
  fun h => h.2 fun _ _ _ => hasKind_comparable

/-- the stage-by-stage form: the rows ORDER BY gets and OFFSET / LIMIT returns are kinded by `outKinds` -/
theorem selectTail_kinded (q : Select) (fields : List Field) (ks : List Kind) (rows : List Row)
    (hq : ParsedShape q)
    (hlen : ∀ r ∈ rows, r.length = fields.length) (hk : ∀ r ∈ rows, rowHas ks r = true) :
    Wp NoP (fun p => ∀ r ∈ p.1, rowHas (outKinds q.list fields ks) r = true) (SelectP.selectTail q fields rows) :=
  (selectTail_typed admits_hasKind q hq.ne_nil hq.bounds hq.listOK rows (fun r hr => rowOf_hasKind.mpr (hk r hr))
    hlen).mono (fun _ h r hr => rowOf_hasKind.mp (h.1 r hr)) sortPanic_hasKind

/-- **A SELECT over kinded tables never panics, and every column of its result holds values of one kind
or NULL** - of the tables only those the FROM clause names need be kinded.  `hq`: the shape of the select
lists the parser builds (the hypothesis of `C18_no_panic_partial`). -/
theorem evaluateSelect_kinded {fetch : Bytes → Option Table} (q : Select)
    (hk : ∀ tr, q.from_ = some tr → TypedFetch (fun k v => hasKind k v = true) fetch (fromNames tr))
    (hq : ParsedShape q) :
    Wp NoP (fun p => ∃ ks : List Kind, ∀ r ∈ p.1, rowHas ks r = true) (evaluateSelect fetch q) :=
  (evaluateSelect_typed admits_hasKind q hk hq.ne_nil hq.bounds hq.listOK).mono
    (fun _ ⟨ks, _, h⟩ => ⟨ks, fun r hr => rowOf_hasKind.mp (h r hr)⟩) sortPanic_hasKind

/-! ### the FROM clause reads the named tables only -/

theorem nestedLoopJoin_congr {f g : Bytes → Option Table} :
    ∀ tr : TableRef, (∀ n ∈ fromNames tr, f n = g n) → nestedLoopJoin f tr = nestedLoopJoin g tr
  | .table t, h => by
    unfold nestedLoopJoin fetchTable
    rw [h t.name (by simp [fromNames])]
  | .join l jt r on, h => by
    unfold nestedLoopJoin
    rw [nestedLoopJoin_congr l (fun n hn => h n (by simp [fromNames, hn]))]
    unfold fetchTable
    rw [h r.name (by simp [fromNames])]

theorem evaluateSelect_congr {f g : Bytes → Option Table} (q : Select)
    (h : ∀ tr, q.from_ = some tr → ∀ n ∈ fromNames tr, f n = g n) : evaluateSelect f q = evaluateSelect g q := by
  unfold evaluateSelect
  cases hf : q.from_ with
  | none => rfl
  | some tr =>
    simp only
    rw [nestedLoopJoin_congr tr (h tr hf)]

end Mkdb.Exec.TypedP
end

section
/-!
No SELECT can crash the engine (model level).

With well-shaped tables (every stored row has as many values as the table has columns) the only
`.panic` outcome `evaluateSelect` can produce is the sort comparator meeting two values of different
non-NULL types in one column: the walk above under the cell predicate that lets every value
pass, where a typed row is a row of the right length.
-/
namespace Mkdb.Exec.NoPanicP
open Mkdb.Sql Mkdb.Exec.TypedP

/-- rows of `n` values are typed under the trivial cell predicate, whatever the `n` kinds -/
theorem rows_any {rows : List Row} {n : Nat} (h : ∀ r ∈ rows, r.length = n) (K : List Kind) (hK : K.length = n) :
    ∀ r ∈ rows, RowOf (fun _ _ => True) K r := fun r hr => rowOf_true.mpr (by rw [h r hr, hK])

theorem evaluate_no_panic (c : Cond) {fields : List Field} {row : Row}
    (h : row.length = fields.length) (s : String) : evaluate c fields row ≠ .panic s :=
  (evaluate_typed (E := NoP) admits_true (ks := List.replicate fields.length .int)
    (rowOf_true.mpr (by rw [h, List.length_replicate])) List.length_replicate c).not_panic s

theorem filterRows_wp (c : Cond) (fields : List Field) (rows : List Row)
    (h : ∀ r ∈ rows, r.length = fields.length) :
    Wp NoP (fun out => ∀ r ∈ out, r ∈ rows) (filterRows c fields rows) :=
  filterRows_typed admits_true c rows (rows_any h (List.replicate fields.length .int) List.length_replicate) h

theorem filterRows_no_panic (c : Cond) (fields : List Field) (rows : List Row)
    (h : ∀ r ∈ rows, r.length = fields.length) (s : String) :
    filterRows c fields rows ≠ .panic s :=
  (filterRows_wp c fields rows h).not_panic s

theorem filterRows_lengths (c : Cond) (fields : List Field) (rows out : List Row)
    (h : ∀ r ∈ rows, r.length = fields.length) (ho : filterRows c fields rows = .ok out) :
    ∀ r ∈ out, r.length = fields.length :=
  fun r hr => h r ((filterRows_wp c fields rows h).of_ok ho r hr)

theorem nestedLoopJoin_wp {fetch : Bytes → Option Table} (hw : WellShaped fetch) (tr : TableRef) :
    Wp NoP (fun p => ∀ r ∈ p.1, r.length = p.2.length) (nestedLoopJoin fetch tr) :=
  (nestedLoopJoin_typed admits_true tr (wellShaped_typed hw _)).mono
    (fun _ ⟨_, hl, hr⟩ r hm => (hr r hm).length.trans hl) (fun _ e => e)

theorem nestedLoopJoin_lengths {fetch : Bytes → Option Table} (hw : WellShaped fetch)
    {tr : TableRef} {rows : List Row} {fields : List Field}
    (h : nestedLoopJoin fetch tr = .ok (rows, fields)) : ∀ r ∈ rows, r.length = fields.length :=
  (nestedLoopJoin_wp hw tr).of_ok h

theorem nestedLoopJoin_no_panic {fetch : Bytes → Option Table} (hw : WellShaped fetch)
    (tr : TableRef) (s : String) : nestedLoopJoin fetch tr ≠ .panic s :=
  (nestedLoopJoin_wp hw tr).not_panic s

theorem projectColumns_wp (sl : List DerivedCol) (hne : sl ≠ []) (fields : List Field)
    (rows : List Row) (h : ∀ r ∈ rows, r.length = fields.length) :
    Wp NoP (fun p => (∀ r ∈ p.1, r.length = p.2.length) ∧ (isStar sl = false → p.2.length = sl.length))
      (projectColumns sl fields rows) := by
  refine (projectColumns_typed admits_true sl hne rows
    (rows_any h (List.replicate fields.length .int) List.length_replicate) h).mono ?_ (fun _ e => e)
  rintro p ⟨hr, hl⟩
  refine ⟨fun r hm => ?_, fun hs => by rw [hl, hs]; rfl⟩
  rw [(hr r hm).length, hl, outKinds_length, List.length_replicate]

theorem projectColumns_no_panic (sl : List DerivedCol) (hne : sl ≠ []) (fields : List Field)
    (rows : List Row) (h : ∀ r ∈ rows, r.length = fields.length) (s : String) :
    projectColumns sl fields rows ≠ .panic s :=
  (projectColumns_wp sl hne fields rows h).not_panic s

theorem projectColumns_lengths (sl : List DerivedCol) (fields : List Field) (rows out : List Row)
    (hdr : List Field) (h : ∀ r ∈ rows, r.length = fields.length)
    (ho : projectColumns sl fields rows = .ok (out, hdr)) :
    (∀ r ∈ out, r.length = hdr.length) ∧ (isStar sl = false → hdr.length = sl.length) :=
  (projectColumns_wp sl (projectColumns_ok_ne_nil ho) fields rows h).of_ok ho

theorem aggregateRows_no_panic (sl : List DerivedCol) (groupBy : List ColRef) (rows : List Row)
    (hs : isStar sl = false) (h : ∀ r ∈ rows, r.length = sl.length) (s : String) :
    aggregateRows sl groupBy rows ≠ .panic s :=
  (aggregateRows_typed (E := NoP) admits_true [] [] sl groupBy rows hs
    (rows_any h _ (by rw [outKinds_nostar hs, List.length_map]))).not_panic s

/-- With well-shaped tables the only panic left in the model is the sort comparator meeting
two values of different non-NULL types in one column.  (The side condition excludes select
lists that start with `*` AND go through the grouping code, i.e. contain an aggregate or come
with a GROUP BY - except the list `[*]` itself, where a GROUP BY is refused: see
`C18_star_aggregate_counterexample`, `C18_star_group_by_counterexample`.  A GROUP BY without an
aggregate is covered by the first alternative: the projected rows have one value per select-list
element.) -/
theorem no_panic_except_sort {fetch : Bytes → Option Table} (hw : WellShaped fetch) (q : Select)
    (hne : q.list ≠ []) (hb : Spec.boundsOK q.lim = true)
    (hq : isStar q.list = false ∨ (hasAggr q.list = false ∧ q.groupBy = []) ∨
      ∃ a, q.list = [⟨.star, a⟩]) (s : String)
    (h : evaluateSelect fetch q = .panic s) : s = "sortColumns: no comparison available" :=
  ((evaluateSelect_typed admits_true q (fun _ _ => wellShaped_typed hw _) hne hb hq).of_panic h).1

theorem no_panic_except_sort_noaggr {fetch : Bytes → Option Table} (hw : WellShaped fetch)
    (q : Select) (hne : q.list ≠ []) (hb : Spec.boundsOK q.lim = true)
    (hq : hasAggr q.list = false) (hgb : q.groupBy = []) (s : String)
    (h : evaluateSelect fetch q = .panic s) : s = "sortColumns: no comparison available" :=
  no_panic_except_sort hw q hne hb (Or.inr (Or.inl ⟨hq, hgb⟩)) s h

theorem no_panic_except_sort_nostar {fetch : Bytes → Option Table} (hw : WellShaped fetch)
    (q : Select) (hne : q.list ≠ []) (hb : Spec.boundsOK q.lim = true)
    (hq : isStar q.list = false) (s : String)
    (h : evaluateSelect fetch q = .panic s) : s = "sortColumns: no comparison available" :=
  no_panic_except_sort hw q hne hb (Or.inl hq) s h

end Mkdb.Exec.NoPanicP
end
