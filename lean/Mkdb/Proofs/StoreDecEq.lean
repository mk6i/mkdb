import Mkdb.Model.Engine
import Mkdb.Spec.Tables
/-!
Equality of stores, databases, results and plain databases is decidable, so that "the model returns this
value" can be stated as an equation and checked by evaluation.
-/
namespace Mkdb.Store
deriving instance DecidableEq for Store
deriving instance DecidableEq for SRes
end Mkdb.Store

namespace Mkdb.Engine
deriving instance DecidableEq for DB
deriving instance DecidableEq for StmtErr
deriving instance DecidableEq for Res
end Mkdb.Engine

namespace Mkdb.Spec
deriving instance DecidableEq for SRow
deriving instance DecidableEq for STable
end Mkdb.Spec
