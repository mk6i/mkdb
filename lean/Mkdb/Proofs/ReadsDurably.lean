import Mkdb.Proofs.ColumnNames
import Mkdb.Proofs.DbInvAccepted
/-!
One database under `DbInv`: **what a reader sees, it sees durably** - now and after flush, eviction and restart
(`ReadsDurably`, `DbInv.reads_durably`: `DbInv.reads` composed with `DbInv.flushed`, `.reopen`, `.recover`) - and so
**an accepted INSERT is read back** (`accepted_insert_read_back`); what C08's end-to-end theorems and the CSV import
read.
-/
set_option autoImplicit false
namespace Mkdb.Store
open Mkdb.Page Mkdb.Tuple Mkdb.Generated Mkdb.Tree Mkdb.Engine

/-- `Fetch` of the table returns the columns `cols` and exactly the rows `vals` - now; after the flush
(`Engine.flush`: every page written to disk); after the cache is dropped and the pages are read from the
data file again (`reopen`); after start-up recovery of the closed database (`Engine.recover`) and the
re-open that follows it. -/
def ReadsDurably (db : Engine.DB) (t : Bytes) (cols : List FieldDef) (vals : List (List Val)) : Prop :=
  Reads db t cols vals ∧
  ∀ order, ∃ db2, Engine.flush db order = .ok () db2 ∧ Reads db2 t cols vals ∧
    Reads { db2 with store := reopen db2.store } t cols vals ∧
    ∀ o1 o2, ∃ db3, Engine.recover db2 o1 o2 = .ok db3 ∧ Reads db3 t cols vals ∧
      Reads { db3 with store := reopen db3.store } t cols vals

theorem DbInv.reads_durably {db : Engine.DB} {sdb : Spec.SDB} {pt sch : Levels} {tbls : List (Bytes × Levels)}
    (h : DbInv db sdb pt sch tbls) {t : Bytes} {tb : Spec.STable} (hfind : Spec.findTable sdb t = some tb) :
    ReadsDurably db t tb.cols (tb.rows.map (·.vals)) := by
  refine ⟨h.reads hfind, fun order => ?_⟩
  have hk := h.flushed order
  refine ⟨_, flush_flushed db order, hk.inv.reads hfind, hk.reopen.inv.reads hfind, fun o1 o2 => ?_⟩
  obtain ⟨db3, e3, _, hk3⟩ := hk.recover o1 o2
  exact ⟨db3, e3, hk3.inv.reads hfind, hk3.reopen.inv.reads hfind⟩

theorem DbInv.cols_nodup {db : Engine.DB} {sdb : Spec.SDB} {pt sch : Levels} {tbls : List (Bytes × Levels)}
    (h : DbInv db sdb pt sch tbls) {t : Bytes} {tb : Spec.STable} (hfind : Spec.findTable sdb t = some tb) :
    (tb.cols.map (·.name)).Nodup := by
  obtain ⟨sdb0, habs0, hv⟩ := h.abs
  obtain ⟨tb0, hf0, htv⟩ := findTable_congr_some hv hfind
  obtain ⟨tr, schema, htr, hsch, _, rfl⟩ := habs0.find hf0
  rw [← tv_cols htv]
  exact habs0.tabs.names_nodup htr hsch

theorem rowOf_nocols {t : Spec.STable} {vals row : List Val} (h : Spec.rowOf t [] vals = some row)
    (hnd : (t.cols.map (·.name)).Nodup) : row = vals := by
  unfold Spec.rowOf at h
  simp only [List.isEmpty_nil, if_true] at h
  split at h
  · cases h
  · rename_i hlen
    have hl : (t.cols.map (·.name)).length = vals.length := by simpa using hlen
    split at h
    · cases h
    · split at h
      · cases h
      · simp only [Option.some.injEq] at h
        rw [← h]
        apply List.ext_getElem?
        intro j
        by_cases hj : j < vals.length
        · have hj' : j < t.cols.length := by rw [List.length_map] at hl; omega
          rw [List.getElem?_map, List.getElem?_eq_getElem hj', List.getElem?_eq_getElem hj, Option.map_some]
          congr 1
          have hk : (t.cols.map (·.name))[j]? = some t.cols[j].name := by
            rw [List.getElem?_map, List.getElem?_eq_getElem hj']; rfl
          exact get_zip_named _ vals hnd j _ _ hk (List.getElem?_eq_getElem hj)
        · have hj' : ¬ j < t.cols.length := by rw [List.length_map] at hl; omega
          rw [List.getElem?_eq_none (by simpa using hj'), List.getElem?_eq_none (by simpa using hj)]

/-- **An accepted INSERT is read back** (see `C08_accepted_value_is_read_back`). -/
theorem accepted_insert_read_back (db : Engine.DB) (sdb : Spec.SDB) (pt sch : Levels)
    (tbls : List (Bytes × Levels)) (h : DbInv db sdb pt sch tbls) (t : Bytes) (cols : List Bytes)
    (rows : List (List Sql.Lit)) (hroom : StmtRoom db pt sch tbls (.insert t cols rows))
    (sdb' : Spec.SDB) (hspec : Spec.specStmt sdb (.insert t cols rows) = some sdb') :
    ∃ db' pt' sch' tbls' tb newRows,
      evalStmt db [] (.insert t cols rows) = .ok () db' ∧ DbInv db' sdb' pt' sch' tbls' ∧
      Spec.findTable sdb t = some tb ∧
      (rows.map fun r => r.map Engine.litToVal).mapM (Spec.rowOf tb cols) = some newRows ∧
      (∀ (k : Nat) (vals row : List Val), (rows.map fun r => r.map Engine.litToVal)[k]? = some vals →
          newRows[k]? = some row →
        (cols = [] → row = vals) ∧
        (cols ≠ [] → row.length = tb.cols.length ∧
          ∀ (j : Nat) (fd : FieldDef), tb.cols[j]? = some fd →
            (∀ (i : Nat) (c : Bytes) (v : Val), cols[i]? = some c → vals[i]? = some v →
              Spec.nameStr c = fd.name → row[j]? = some v) ∧
            (fd.name ∉ cols.map Spec.nameStr → row[j]? = some Val.null))) ∧
      ReadsDurably db' t tb.cols (tb.rows.map (·.vals) ++ newRows) := by
  obtain ⟨db', pt', sch', tbls', e, hi'⟩ := h.accepted [] _ hroom sdb' hspec
  rw [specStmt_insert] at hspec
  obtain ⟨tb, newRows, hfind, hnames, hm, rfl⟩ := specInsert_some_iff.mp hspec
  refine ⟨db', pt', sch', tbls', tb, newRows, e, hi', hfind, hm, ?_, ?_⟩
  · intro k vals row hk hr
    -- the `k`-th new row is `rowOf` of the `k`-th VALUES row
    have hrow : Spec.rowOf tb cols vals = some row := by
      obtain ⟨b, hb, e⟩ := mapM_some_getElem? hm hk
      rwa [hr.symm.trans e]
    exact ⟨fun hc => rowOf_nocols (hc ▸ hrow) (h.cols_nodup hfind),
      fun hc => rowOf_named tb cols vals row hrow hc (hnames.resolve_left fun h0 => by rw [h0] at hk; cases hk)⟩
  · simpa only [List.map_append, map_vals_mk] using hi'.reads_durably (findTable_updRows_self t _ sdb tb hfind)

end Mkdb.Store
