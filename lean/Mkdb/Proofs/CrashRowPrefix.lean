import Mkdb.Proofs.CrashStmtCut
/-!
# C03, the storage / engine half: a crash while a statement appends its records to the log

Scenario: no page of the statement reached the data file (the crash happens during the log append
of the statement, before the flusher can run); recovery replays the surviving records - a prefix
`logs.take k` of what the statement handed to the log writer (`C03_cut_is_prefix`) - on the store
the acknowledged history started from.

At the storage level (`replay_prefix` of `CrashReplayPrefix`), every cut `k` of the log of a live run
replays to the live state after some prefix of the row statements: at a row boundary page for page on all
catalog trees; between the INSERT record and the catalog record of a root-moving insert, page for page on
`sys_schema` and all user tables, the page table up to one LSN stamp.  For one engine statement the same is
proved along the statement's own row loop (`CrashStmtCut`: `evalInsert_cut`, `evalDelete_cut`, `evalUpdate_cut`:
the live state is the one the evaluator reaches on a prefix of the rows; they do not go through `replay_prefix`,
which names only some live run of the prefix), and here `insert_crash_rowPrefixState`, `delete_crash_rowPrefixState`,
`update_crash_rowPrefixState` put it behind a replayed history: the recovered table is one of
`Spec.rowPrefixStates` (the candidates the crash-image judge of the harness accepts), and every other table is
as before the statement.

The history here starts from an empty log and holds accepted statements only.  From a checkpoint instead:
`evalInsert_cut` and its two siblings are stated over any store that is `Behind`, so they compose with
`Ckpt.reopened`.  Refused statements between crashes are treated in `DbCrash`.
-/

set_option autoImplicit false
namespace Mkdb.Store
open Mkdb.Page Mkdb.Tuple Mkdb.Generated Mkdb.Tree Mkdb.Engine

/-!
### A history of acknowledged statements, then
one statement whose log append is cut.

The acknowledged statements `stmts` run from `db0` (empty log) to `dbN`; one more statement runs on
`dbN` in memory and hands its records to the log writer (`.ok _ dbC`); the crash leaves, of these
records, the first `k`.  Nothing reached the data file, so recovery replays
`dbN.wal ++ (dbC.wal.drop dbN.wal.length).take k` on `db0.store`.  The replayed history abstracts to
`sdbN` only up to row ids, hence the two `*_vals_congr` lemmas: the row operations of DELETE and UPDATE
see only the values of the rows.
-/

/-- **The acknowledged history, replayed**: the store recovery has rebuilt when it reaches the records
of the crashed statement satisfies the catalog description of the live store `dbN.store`, with the
same frontier and row-id counter. -/
theorem spec_run_replayed (sch : Levels) {db0 dbN : Engine.DB} {sdb0 sdbN : Spec.SDB} {stmts : List EStmt}
    (run : SpecRun sch db0 sdb0 stmts dbN sdbN) (hwal : db0.wal = [])
    (pt : Levels) (tbls : List (Bytes × Levels)) (hA : AbsV db0.store pt sch tbls sdb0)
    (hself : PtSelf pt) (hf : FreshM db0.store tbls) :
    ∃ ptN tblsN rN sdbF, replayAll dbN.wal db0.store = (rN, none, false) ∧
      Abs dbN.store ptN sch tblsN sdbF ∧ valsOf sdbF = valsOf sdbN ∧
      Behind sch dbN.store rN ptN tblsN ∧ FreshM dbN.store tblsN ∧
      rN.hdr.lastKey = dbN.store.hdr.lastKey := by
  obtain ⟨_, tblsN, stmtsM, logs, hrun, hw, ⟨sdbF, habsF, hvF⟩⟩ := spec_run_live sch run pt tbls hA
  obtain ⟨_, habs0, _⟩ := hA
  rw [hwal, List.nil_append] at hw
  obtain ⟨ptN, rN, e, hb, hfN, hk, _⟩ := replay_run sch hrun
    ⟨habs0.cat, habs0.cat, hself, rfl, Nat.le_refl _, Nat.le_refl _⟩ hf
  exact ⟨ptN, tblsN, rN, sdbF, by rw [hw]; exact e, ⟨hb.live, habsF.tabs⟩, hvF, hb, hfN, hk rfl⟩

/-- **A crash while a multi-row INSERT appends its records, after a history of acknowledged
statements.**  For EVERY `k`, the log `dbN.wal ++ (dbC.wal.drop dbN.wal.length).take k` replays on
`db0.store` without error, and there is a `j ≤ rows.length` such that
* the plain model accepts the INSERT of the first `j` rows on `sdbN`, result `sdbJ`: the table holds
  its rows before the statement plus the first `j` new rows, every other table is as in `sdbN`;
* the replayed store `rK` abstracts to `sdbJ`;
* the engine, run on the first `j` rows alone, ends in `dbJ`, which abstracts to `sdbJ` with the same
  trees; `rK` shows the same pages as `dbJ.store` on `sys_schema` and all user tables, has the same
  allocation frontier and the same row-id counter - the one before the statement plus `j`, so no row
  id is reused;
* either `dbJ.wal` is exactly the replayed log (the cut is a row boundary; then the page tables are
  equal too), or the replayed log lacks the last record of `dbJ.wal` - the catalog record of row `j`,
  whose insert moved the root of the table - and the replayed page table names the same roots as the
  live one and differs from it in one LSN stamp;
* when the statement logged as many records as it has rows (no row moved the root of the table), every row
  logged one, `j = min k rows.length`, and only the first case occurs. -/
theorem insert_crash_prefix (sch : Levels) {db0 dbN : Engine.DB} {sdb0 sdbN : Spec.SDB} {stmts : List EStmt}
    (run : SpecRun sch db0 sdb0 stmts dbN sdbN) (hwal : db0.wal = [])
    (pt : Levels) (tbls : List (Bytes × Levels)) (hA : AbsV db0.store pt sch tbls sdb0)
    (hself : PtSelf pt) (hf : FreshM db0.store tbls)
    (table : Bytes) (cols : List Bytes) (rows : List (List Val))
    (hvalid : ∀ r ∈ rows, ∀ v ∈ r, ValidVal v) (sdbC : Spec.SDB)
    (hspec : Spec.specInsert sdbN table cols rows = some sdbC)
    (hrunok : ∀ pt tbls t schema, AbsV dbN.store pt sch tbls sdbN → (table, t) ∈ tbls →
      schemaOf sch table = some schema →
      InsRunOK schema (cols.map Engine.bytesToName) t dbN.store.hdr.lastKey dbN.store.hdr.nextLSN
        dbN.store.hdr.nextFree rows)
    (n : Nat) (dbC : Engine.DB) (heval : Engine.evalInsert dbN table cols rows = .ok n dbC) (k : Nat) :
    ∃ j rK sdbJ dbJ ptJ ptR tblsJ, j ≤ rows.length ∧
      replayAll (dbN.wal ++ (dbC.wal.drop dbN.wal.length).take k) db0.store = (rK, none, false) ∧
      Spec.specInsert sdbN table cols (rows.take j) = some sdbJ ∧
      AbsV rK ptR sch tblsJ sdbJ ∧
      Engine.evalInsert dbN table cols (rows.take j) = .ok j dbJ ∧
      AbsV dbJ.store ptJ sch tblsJ sdbJ ∧
      (∀ x ∈ sch :: tblsJ.map (·.2), ∀ o ∈ offs x, view rK o = view dbJ.store o) ∧
      rK.hdr.nextFree = dbJ.store.hdr.nextFree ∧ rK.hdr.lastKey = dbJ.store.hdr.lastKey ∧
      dbJ.store.hdr.lastKey = dbN.store.hdr.lastKey + j ∧ rK.hdr.nextLSN ≤ dbJ.store.hdr.nextLSN ∧
      ((dbJ.wal = dbN.wal ++ (dbC.wal.drop dbN.wal.length).take k ∧ ptR = ptJ) ∨
       (dbJ.wal = dbN.wal ++ (dbC.wal.drop dbN.wal.length).take (k + 1) ∧
        k + 1 ≤ (dbC.wal.drop dbN.wal.length).length ∧ PtRestamp ptR ptJ)) ∧
      ((dbC.wal.drop dbN.wal.length).length = rows.length →
        j = min k rows.length ∧ dbJ.wal = dbN.wal ++ (dbC.wal.drop dbN.wal.length).take k ∧ ptR = ptJ) := by
  obtain ⟨ptN, tblsN, rN, sdbF, hreN, habsN, hvN, hbN, hfN, a2⟩ :=
    spec_run_replayed sch run hwal pt tbls hA hself hf
  obtain ⟨sdbF', hspecF, _⟩ := specInsert_congr hvN table cols rows hspec
  obtain ⟨st, _, hfind, _, _⟩ := specInsert_inv hspecF
  obtain ⟨t, schema, ht, hsch, _, _⟩ := habsN.find hfind
  obtain ⟨dbC', logs, eC, hwC, hcut⟩ := evalInsert_cut dbN rN ptN sch tblsN sdbF sdbF' habsN hbN hfN a2
    table t ht schema hsch cols rows hvalid hspecF (hrunok ptN tblsN t schema ⟨sdbF, habsN, hvN⟩ ht hsch)
  rw [eC] at heval
  simp only [Engine.Res.ok.injEq] at heval
  obtain ⟨_, rfl⟩ := heval
  have hdrop : dbC'.wal.drop dbN.wal.length = logs := by rw [hwC]; exact List.drop_left
  rw [hdrop]
  obtain ⟨j, dbJ, sdbJ, sdbJ', ptJ, ptR, tJ, logsJ, rK, hj, hspecJ, hvJ, eJ, hwJ, habsJ, hreJ, habsR, hpages,
    b1, b2, b3, b4, hcase, hone⟩ := hcut k
  obtain ⟨sdbJN, hspecJN⟩ := specInsert_take hspec j
  obtain ⟨sdbJ2, hspecJ2, hvJ2⟩ := specInsert_congr hvN table cols (rows.take j) hspecJN
  rw [hspecJ] at hspecJ2
  simp only [Option.some.injEq] at hspecJ2
  subst hspecJ2
  refine ⟨j, rK, sdbJN, dbJ, ptJ, ptR, setTable tblsN table tJ, hj, ?_, hspecJN, ⟨sdbJ, habsR, hvJ.trans hvJ2⟩, eJ,
    ⟨sdbJ, habsJ, hvJ.trans hvJ2⟩, hpages, b1, b2, b4, b3, ?_, ?_⟩
  · rw [replayAll_append hreN]; exact hreJ
  · rcases hcase with ⟨c1, c2⟩ | ⟨c1, c2, c3⟩
    · exact .inl ⟨by rw [hwJ, c1], c2⟩
    · exact .inr ⟨by rw [hwJ, c1], c2, c3⟩
  · intro hno
    obtain ⟨c0, c1, c2⟩ := hone hno
    exact ⟨c0, by rw [hwJ, c1], c2⟩

theorem deleteFirst_vals_congr : ∀ (rs0 rs : List Spec.SRow) (sel : List Bool) (n : Nat),
    rs0.map (·.vals) = rs.map (·.vals) →
    (deleteFirst n (rs0.zip sel)).map (·.vals) = (deleteFirst n (rs.zip sel)).map (·.vals)
  | [], [], _, _, _ => rfl
  | [], _ :: _, _, _, h => by simp at h
  | _ :: _, [], _, _, h => by simp at h
  | a :: rs0, b :: rs, [], n, _ => by simp [deleteFirst]
  | a :: rs0, b :: rs, s :: sel, n, h => by
    simp only [List.map_cons, List.cons.injEq] at h
    simp only [List.zip_cons_cons, deleteFirst]
    split
    · exact deleteFirst_vals_congr rs0 rs sel (n - 1) h.2
    · simp only [List.map_cons, h.1, deleteFirst_vals_congr rs0 rs sel n h.2]

theorem rewriteFirst_vals_congr (cols : List FieldDef) (sets : List (Bytes × Sql.VExpr)) :
    ∀ (rs0 rs : List Spec.SRow) (sel : List Bool) (n : Nat),
    rs0.map (·.vals) = rs.map (·.vals) →
    (rewriteFirst cols sets n (rs0.zip sel)).map (·.vals) = (rewriteFirst cols sets n (rs.zip sel)).map (·.vals)
  | [], [], _, _, _ => rfl
  | [], _ :: _, _, _, h => by simp at h
  | _ :: _, [], _, _, h => by simp at h
  | a :: rs0, b :: rs, [], n, _ => by simp [rewriteFirst]
  | a :: rs0, b :: rs, s :: sel, n, h => by
    simp only [List.map_cons, List.cons.injEq] at h
    simp only [List.zip_cons_cons, rewriteFirst]
    split
    · simp only [List.map_cons, h.1, rewriteFirst_vals_congr cols sets rs0 rs sel (n - 1) h.2]
    · simp only [List.map_cons, h.1, rewriteFirst_vals_congr cols sets rs0 rs sel n h.2]

/-! ### non-vacuity: a two-row INSERT on the database `dbA` of `SpecRefine`, cut after one record -/

/-- the INSERT of the example logs one record per row (no row moves the root of `t`) -/
theorem dbA_insert_wal : (match Engine.evalInsert dbA tname [] [[.int 5], [.int 6]] with
    | .ok _ db1 => db1.wal.length == 2
    | _ => false) = true := by decide +kernel

def sdbA5 : Spec.SDB := [⟨tname, schemaA, [⟨none, [.int 5]⟩]⟩]

/-- **A two-row INSERT cut after its first record recovers to the table with exactly the first row.**
`INSERT INTO t VALUES (5), (6)` runs on `dbA` (`.ok 2 db1`) and hands two records to the log writer;
the crash leaves the first one.  Replaying it on `st1` succeeds; the store abstracts to the plain
model's `INSERT INTO t VALUES (5)` on the empty table - the single row `(5)` - as does the engine run
on the first row alone, whose log is exactly the surviving record; the row-id counter is 5. -/
theorem crash_prefix_example : ∃ db1 dbJ rK ptR tblsJ,
    Engine.evalInsert dbA tname [] [[.int 5], [.int 6]] = .ok 2 db1 ∧ db1.wal.length = 2 ∧
    replayAll (db1.wal.take 1) st1 = (rK, none, false) ∧
    Spec.specInsert sdbA0 tname [] [[.int 5]] = some sdbA5 ∧
    AbsV rK ptR sch1 tblsJ sdbA5 ∧
    Engine.evalInsert dbA tname [] [[.int 5]] = .ok 1 dbJ ∧ dbJ.wal = db1.wal.take 1 ∧
    AbsV dbJ.store ptR sch1 tblsJ sdbA5 ∧
    rK.hdr.lastKey = 5 ∧ rK.hdr.nextFree = dbJ.store.hdr.nextFree := by
  obtain ⟨db1, _, _, _, _, e1, _⟩ := chain_example
  have hmem : (tname, t0) ∈ [(tname, t0)] := List.mem_singleton.mpr rfl
  obtain ⟨j, rK, sdbJ, dbJ, ptJ, ptR, tblsJ, _, hre, hspecJ, hAR, eJ, hAJ, _, hnf, hlk, hlkJ, _, _, hno⟩ :=
    insert_crash_prefix sch1 (.nil dbA sdbA0) rfl pt0 [(tname, t0)] abs1.toV pt0_self freshM_st1 tname []
      [[.int 5], [.int 6]] rows56_valid sdbA1 specA1 (insRunOK_any cat1 hmem sch1_t runA) 2 db1 e1 1
  have hlen : db1.wal.length = 2 := by
    have := dbA_insert_wal
    rw [e1] at this
    exact of_decide_eq_true this
  obtain ⟨hj, hwJ, hpt⟩ := hno hlen
  have hj1 : j = 1 := by rw [hj]; rfl
  subst hj1
  subst hpt
  have hd : db1.wal.drop dbA.wal.length = db1.wal := rfl
  rw [hd] at hre hwJ
  have hnil : dbA.wal ++ db1.wal.take 1 = db1.wal.take 1 := rfl
  rw [hnil] at hre hwJ
  have hs5 : sdbJ = sdbA5 := by
    have h5 : Spec.specInsert sdbA0 tname [] ([[.int 5], [.int 6]].take 1) = some sdbA5 := rfl
    rw [h5] at hspecJ
    exact (Option.some.inj hspecJ).symm
  subst hs5
  exact ⟨db1, dbJ, rK, ptR, tblsJ, e1, hlen, hre, rfl, hAR, eJ, hwJ, hAJ, by rw [hlk, hlkJ]; rfl, hnf⟩

/-- **Non-vacuity of `replay_prefix`** on the history of `history_mixed_st0` (insert a row, update it,
delete it, run live from `st0`; three records): the log cut after two records replays on `st0` without
error; the replayed store and the live store after a prefix of the three row statements satisfy the
catalog description with the same tables and agree on the row-id counter. -/
theorem replay_prefix_st0 : ∃ sN tblsN logs j sK tblsK logsK ptK ptR rK,
    LiveRunM sch0 st0 [(tname, t0)] [.ins tname [] [], .upd tname 4 [] [], .del tname 4] sN tblsN logs ∧
    logs.length = 3 ∧ j ≤ 3 ∧
    LiveRunM sch0 st0 [(tname, t0)] ([RStmt.ins tname [] [], .upd tname 4 [] [], .del tname 4].take j) sK tblsK
      logsK ∧
    replayAll (logs.take 2) st0 = (rK, none, false) ∧
    Cat sK ptK sch0 tblsK ∧ Cat rK ptR sch0 tblsK ∧ rK.hdr.lastKey = sK.hdr.lastKey ∧
    (logsK = logs.take 2 ∧ ptR = ptK ∨ logsK = logs.take 3 ∧ PtRestamp ptR ptK) := by
  obtain ⟨sN, _, _, logs, run, hlen, _⟩ := history_mixed_st0
  obtain ⟨j, sK, tblsK, logsK, ptK, ptR, rK, hj, hrun, hre, c1, c2, _, _, hlk, _, _, hcase⟩ :=
    replay_prefix sch0 run pt0 cat0 pt0_self freshM_st0 2 (by omega)
  refine ⟨sN, _, logs, j, sK, tblsK, logsK, ptK, ptR, rK, run, hlen, hj, hrun, hre, c1, c2, hlk, ?_⟩
  rcases hcase with ⟨a, b, _⟩ | ⟨a, _, c, _⟩
  · exact .inl ⟨a, b⟩
  · exact .inr ⟨a, c⟩

/-! ### the state after a prefix of the rows is one of `Spec.rowPrefixStates` -/

theorem deleteFirst_vals : ∀ (l : List (Spec.SRow × Bool)) (n : Nat),
    (deleteFirst n l).map (·.vals) = Spec.rowPrefixStates.goDel l n
  | [], n => by simp [deleteFirst, Spec.rowPrefixStates.goDel]
  | (r, s) :: rest, n => by
    simp only [deleteFirst, Spec.rowPrefixStates.goDel]
    split
    · exact deleteFirst_vals rest (n - 1)
    · simp only [List.map_cons, deleteFirst_vals rest n]

theorem delete_state_in_rowPrefixStates (sdb : Spec.SDB) (table : Bytes) (w : Option Sql.Cond)
    (st : Spec.STable) (sel : List Bool) (hfind : Spec.findTable sdb table = some st)
    (hsel : Spec.selects st w = some sel) (j : Nat) (hj : j ≤ (sel.filter id).length) :
    (table, (deleteFirst j (st.rows.zip sel)).map (·.vals)) ∈ Spec.rowPrefixStates sdb (.delete table w) := by
  rw [deleteFirst_vals]
  simp only [Spec.rowPrefixStates, hfind, hsel]
  exact List.mem_map.mpr ⟨j, List.mem_range.mpr (by omega), rfl⟩

/-- the `assign` of `Spec.rowPrefixStates` (the rewritten values, without the size / type check) -/
def totalAssign (cols : List FieldDef) (sets : List (Bytes × Sql.VExpr)) (vals : List Val) : List Val :=
  let m : Vals := (sets.map fun p => (Spec.nameStr p.1, match p.2 with | .lit l => Spec.litVal l | .col _ => Val.null)).reverse ++
    (cols.map (·.name)).zip vals
  cols.map fun fd => get m fd.name

theorem specAssign_total {cols : List FieldDef} {sets : List (Bytes × Sql.VExpr)} {v x : List Val}
    (h : specAssign cols sets v = some x) : x = totalAssign cols sets v := by
  unfold specAssign at h
  simp only at h
  split at h
  · cases h
  · split at h
    · cases h
    · cases h
      rfl

theorem rewriteFirst_vals_total (cols : List FieldDef) (sets : List (Bytes × Sql.VExpr)) :
    ∀ (l : List (Spec.SRow × Bool)) (n : Nat),
      (∀ p ∈ l, p.2 = true → specAssign cols sets p.1.vals ≠ none) →
      (rewriteFirst cols sets n l).map (·.vals) = Spec.rowPrefixStates.go (totalAssign cols sets) l n
  | [], n, _ => by simp [rewriteFirst, Spec.rowPrefixStates.go]
  | (r, s) :: rest, n, h => by
    have hrest : ∀ p ∈ rest, p.2 = true → specAssign cols sets p.1.vals ≠ none :=
      fun p hp => h p (List.mem_cons_of_mem _ hp)
    simp only [rewriteFirst, Spec.rowPrefixStates.go]
    split
    · rename_i hc
      have hs : s = true := by
        cases s
        · simp at hc
        · rfl
      obtain ⟨x, hx⟩ := Option.ne_none_iff_exists'.mp (h (r, s) List.mem_cons_self hs)
      simp only at hx
      simp only [List.map_cons, hx, Option.getD_some, specAssign_total hx,
        rewriteFirst_vals_total cols sets rest (n - 1) hrest]
    · simp only [List.map_cons, rewriteFirst_vals_total cols sets rest n hrest]

theorem specUpdate_selected_ok {sdb sdb' : Spec.SDB} {table : Bytes} {sets : List (Bytes × Sql.VExpr)}
    {w : Option Sql.Cond} (hspec : Spec.specUpdate sdb table sets w = some sdb')
    {st : Spec.STable} {sel : List Bool} (hfind : Spec.findTable sdb table = some st)
    (hsel : Spec.selects st w = some sel) :
    ∀ p ∈ st.rows.zip sel, p.2 = true → specAssign st.cols sets p.1.vals ≠ none := by
  obtain ⟨st', sel', rows', hfind', _, hsel', hrows⟩ := specUpdate_inv hspec
  rw [hfind] at hfind'
  cases hfind'
  rw [hsel] at hsel'
  cases hsel'
  intro p hp hp2 hno
  obtain ⟨b, hb⟩ := mapM_some_forall hrows p hp
  unfold specUpdRow at hb
  rw [hp2] at hb
  simp only [if_true] at hb
  rw [hno] at hb
  cases hb

theorem update_state_in_rowPrefixStates (sdb sdb' : Spec.SDB) (table : Bytes)
    (sets : List (Bytes × Sql.VExpr)) (w : Option Sql.Cond)
    (hspec : Spec.specUpdate sdb table sets w = some sdb')
    (st : Spec.STable) (sel : List Bool) (hfind : Spec.findTable sdb table = some st)
    (hsel : Spec.selects st w = some sel) (j : Nat) (hj : j ≤ (sel.filter id).length) :
    (table, (rewriteFirst st.cols sets j (st.rows.zip sel)).map (·.vals)) ∈
      Spec.rowPrefixStates sdb (.update table sets w) := by
  rw [rewriteFirst_vals_total st.cols sets _ j (specUpdate_selected_ok hspec hfind hsel)]
  simp only [Spec.rowPrefixStates, hfind, hsel]
  exact List.mem_map.mpr ⟨j, List.mem_range.mpr (by omega), rfl⟩

theorem insert_state_in_rowPrefixStates (sdb sdb' sdbJ : Spec.SDB) (table : Bytes) (cols : List Bytes)
    (rows : List (List Sql.Lit))
    (hspec : Spec.specInsert sdb table cols (rows.map fun r => r.map Spec.litVal) = some sdb')
    (j : Nat)
    (hspecJ : Spec.specInsert sdb table cols ((rows.map fun r => r.map Spec.litVal).take j) = some sdbJ) :
    ∃ stJ, Spec.findTable sdbJ table = some stJ ∧
      (table, stJ.rows.map (·.vals)) ∈ Spec.rowPrefixStates sdb (.insert table cols rows) ∧
      ∀ n, n ≠ table → Spec.findTable sdbJ n = Spec.findTable sdb n := by
  obtain ⟨st, newRows, hfind, hcond, hm⟩ := specInsert_inv hspec
  rw [specInsert_of hfind (namesTest_take j hcond) (mapM_take j hm)] at hspecJ
  cases hspecJ
  refine ⟨_, findTable_updRows_self table _ sdb st hfind, ?_, fun n hn => findTable_updRows_other table _ n hn sdb⟩
  simp only [Spec.rowPrefixStates, hfind]
  have hvals : ((rows.map fun r => Spec.rowOf st cols (r.map Spec.litVal)).filterMap id) = newRows := by
    rw [mapM_some_eq_filterMap hm, List.filterMap_map, List.filterMap_map]
    rfl
  rw [hvals]
  refine List.mem_map.mpr ⟨min j newRows.length, List.mem_range.mpr (by omega), ?_⟩
  simp only [List.map_append, map_vals_mk]
  congr 2
  rw [List.take_eq_take_iff]
  omega

/-!
### The three statements behind a replayed history

INSERT from `insert_crash_prefix`; DELETE and UPDATE from `evalDelete_cut` / `evalUpdate_cut` on the store the
replayed history leaves (`spec_run_replayed`).
-/

/-- **C03, INSERT.**  After a history of acknowledged statements, a multi-row INSERT ran in memory
and the crash cut the append of its records after `k` of them (any `k`).  Recovery - the replay of
the surviving log on the store the history started from - ends without error in a store that
abstracts to a plain-model database `sdbK` in which the table of the statement holds one of the states
`Spec.rowPrefixStates` lists (its rows before the statement plus the first `j` new rows, for some `j`)
and every other table is as in `sdbN`; the row-id counter is the one before the statement plus `j`. -/
theorem insert_crash_rowPrefixState (sch : Levels) {db0 dbN : Engine.DB} {sdb0 sdbN : Spec.SDB}
    {stmts : List EStmt} (run : SpecRun sch db0 sdb0 stmts dbN sdbN) (hwal : db0.wal = [])
    (pt : Levels) (tbls : List (Bytes × Levels)) (hA : AbsV db0.store pt sch tbls sdb0)
    (hself : PtSelf pt) (hf : FreshM db0.store tbls)
    (table : Bytes) (cols : List Bytes) (lrows : List (List Sql.Lit))
    (hvalid : ∀ r ∈ lrows.map (fun r => r.map Spec.litVal), ∀ v ∈ r, ValidVal v) (sdbC : Spec.SDB)
    (hspec : Spec.specInsert sdbN table cols (lrows.map fun r => r.map Spec.litVal) = some sdbC)
    (hrunok : ∀ pt tbls t schema, AbsV dbN.store pt sch tbls sdbN → (table, t) ∈ tbls →
      schemaOf sch table = some schema →
      InsRunOK schema (cols.map Engine.bytesToName) t dbN.store.hdr.lastKey dbN.store.hdr.nextLSN
        dbN.store.hdr.nextFree (lrows.map fun r => r.map Spec.litVal))
    (n : Nat) (dbC : Engine.DB)
    (heval : Engine.evalInsert dbN table cols (lrows.map fun r => r.map Spec.litVal) = .ok n dbC) (k : Nat) :
    ∃ rK ptR tblsK sdbK stK j,
      replayAll (dbN.wal ++ (dbC.wal.drop dbN.wal.length).take k) db0.store = (rK, none, false) ∧
      AbsV rK ptR sch tblsK sdbK ∧
      Spec.findTable sdbK table = some stK ∧
      (table, stK.rows.map (·.vals)) ∈ Spec.rowPrefixStates sdbN (.insert table cols lrows) ∧
      (∀ n, n ≠ table → Spec.findTable sdbK n = Spec.findTable sdbN n) ∧
      j ≤ lrows.length ∧ rK.hdr.lastKey = dbN.store.hdr.lastKey + j := by
  obtain ⟨j, rK, sdbJ, dbJ, ptJ, ptR, tblsJ, hj, hre, hspecJ, hAR, _, _, _, _, hlk, hlkJ, _⟩ :=
    insert_crash_prefix sch run hwal pt tbls hA hself hf table cols _ hvalid sdbC hspec hrunok n dbC heval k
  obtain ⟨stJ, hfindJ, hmem, hother⟩ := insert_state_in_rowPrefixStates sdbN sdbC sdbJ table cols lrows hspec j hspecJ
  exact ⟨rK, ptR, tblsJ, sdbJ, stJ, j, hre, hAR, hfindJ, hmem, hother, by rw [List.length_map] at hj; exact hj,
    by rw [hlk, hlkJ]⟩

/-- **C03, DELETE.**  As `insert_crash_rowPrefixState`: the table holds its rows before the statement
without the first `j` selected ones, for some `j` (the proof gives `j = min k (number of selected rows)`; the
statement keeps the membership in `Spec.rowPrefixStates` only); the row-id counter is the one before the
statement. -/
theorem delete_crash_rowPrefixState (sch : Levels) {db0 dbN : Engine.DB} {sdb0 sdbN : Spec.SDB}
    {stmts : List EStmt} (run : SpecRun sch db0 sdb0 stmts dbN sdbN) (hwal : db0.wal = [])
    (pt : Levels) (tbls : List (Bytes × Levels)) (hA : AbsV db0.store pt sch tbls sdb0)
    (hself : PtSelf pt) (hf : FreshM db0.store tbls)
    (table : Bytes) (w : Option Sql.Cond) (sdbC : Spec.SDB)
    (hspec : Spec.specDelete sdbN table w = some sdbC)
    (n : Nat) (dbC : Engine.DB) (heval : Engine.evalDelete dbN table w = .ok n dbC) (k : Nat) :
    ∃ rK ptK tblsK sdbK stK,
      replayAll (dbN.wal ++ (dbC.wal.drop dbN.wal.length).take k) db0.store = (rK, none, false) ∧
      AbsV rK ptK sch tblsK sdbK ∧
      Spec.findTable sdbK table = some stK ∧
      (table, stK.rows.map (·.vals)) ∈ Spec.rowPrefixStates sdbN (.delete table w) ∧
      (∀ n, n ≠ table → Spec.findTable sdbK n = Spec.findTable sdbN n) ∧
      rK.hdr.lastKey = dbN.store.hdr.lastKey ∧ rK.hdr.nextFree = dbN.store.hdr.nextFree := by
  obtain ⟨ptN, tblsN, rN, sdbF, hreN, habsN, hvN, hbN, hfN, a2⟩ :=
    spec_run_replayed sch run hwal pt tbls hA hself hf
  obtain ⟨sdbF', hspecF, _⟩ := specDelete_congr hvN table w hspec
  obtain ⟨_, _, logs, st0, sel0, eC, hwC, hfind0, hsel0, hlen, hcut⟩ := evalDelete_cut dbN rN ptN sch tblsN sdbF
    sdbF' habsN hbN hfN a2 table w hspecF
  obtain ⟨_, rfl⟩ := Engine.Res.ok.inj (eC.symm.trans heval)
  rw [hwC, List.drop_left]
  obtain ⟨_, ptK, tK, rK, _, _, _, hreK, habsK, hbK, b2, b4, b5⟩ := hcut k
  -- the table of `sdbN`: that of `sdbF` up to row ids, so the selection is the same
  obtain ⟨st, hfind, htv⟩ := findTable_congr_some hvN.symm hfind0
  exact ⟨rK, ptK, setTable tblsN table tK,
    sdbN.map (updRows table fun rs => deleteFirst (min k logs.length) (rs.zip sel0)), _,
    (replayAll_append hreN).trans hreK,
    ⟨_, ⟨hbK.redo, habsK.tabs⟩,
      valsOf_map_congr table _ _ sdbF sdbN hvN fun rs0 rs => deleteFirst_vals_congr rs0 rs sel0 _⟩,
    findTable_updRows_self table _ sdbN st hfind,
    delete_state_in_rowPrefixStates sdbN table w st sel0 hfind ((selects_congr htv w).trans hsel0) _
      (hlen ▸ Nat.min_le_right _ _),
    fun n hn => findTable_updRows_other table _ n hn sdbN, by rw [b2, b5], by rw [hbK.nf, b4]⟩

/-- **C03, UPDATE.**  As `insert_crash_rowPrefixState`: the table holds its rows before the statement
with the first `j` selected ones rewritten, for some `j` (the proof gives `j = min k (number of selected rows)`;
the statement keeps the membership in `Spec.rowPrefixStates` only). -/
theorem update_crash_rowPrefixState (sch : Levels) {db0 dbN : Engine.DB} {sdb0 sdbN : Spec.SDB}
    {stmts : List EStmt} (run : SpecRun sch db0 sdb0 stmts dbN sdbN) (hwal : db0.wal = [])
    (pt : Levels) (tbls : List (Bytes × Levels)) (hA : AbsV db0.store pt sch tbls sdb0)
    (hself : PtSelf pt) (hf : FreshM db0.store tbls)
    (table : Bytes) (sets : List (Bytes × Sql.VExpr)) (w : Option Sql.Cond)
    (hvalid : ∀ p ∈ sets, ∀ l, p.2 = .lit l → ValidVal (Engine.litToVal l)) (sdbC : Spec.SDB)
    (hspec : Spec.specUpdate sdbN table sets w = some sdbC)
    (dbC : Engine.DB) (heval : Engine.evalUpdate dbN table sets w = .ok () dbC) (k : Nat) :
    ∃ rK ptK tblsK sdbK stK,
      replayAll (dbN.wal ++ (dbC.wal.drop dbN.wal.length).take k) db0.store = (rK, none, false) ∧
      AbsV rK ptK sch tblsK sdbK ∧
      Spec.findTable sdbK table = some stK ∧
      (table, stK.rows.map (·.vals)) ∈ Spec.rowPrefixStates sdbN (.update table sets w) ∧
      (∀ n, n ≠ table → Spec.findTable sdbK n = Spec.findTable sdbN n) ∧
      rK.hdr.lastKey = dbN.store.hdr.lastKey ∧ rK.hdr.nextFree = dbN.store.hdr.nextFree := by
  obtain ⟨ptN, tblsN, rN, sdbF, hreN, habsN, hvN, hbN, hfN, a2⟩ :=
    spec_run_replayed sch run hwal pt tbls hA hself hf
  obtain ⟨sdbF', hspecF, _⟩ := specUpdate_congr hvN table sets w hspec
  have hsetAll : ∀ schema, schemaOf sch table = some schema →
      Engine.checkSetColumns (schema.map fun fd => (⟨[], fd.name.toUTF8.toList⟩ : Exec.Field)) []
        (sets.map (·.1)) = none := by
    intro schema hsch
    obtain ⟨stF, _, _, hfindF, _⟩ := specUpdate_inv hspecF
    obtain ⟨tF, schema', htF, hsch', hdecF, _⟩ := habsN.find hfindF
    obtain rfl : schema = schema' := Option.some.inj (hsch.symm.trans hsch')
    exact evalUpdate_ok_set habsN.cat table tF htF schema hsch hdecF sets w heval
  obtain ⟨_, logs, st0, sel0, eC, hwC, hfind0, hsel0, hlen, hcut⟩ := evalUpdate_cut dbN rN ptN sch tblsN sdbF
    sdbF' habsN hbN hfN a2 table sets w hvalid hsetAll hspecF
  obtain ⟨_, rfl⟩ := Engine.Res.ok.inj (eC.symm.trans heval)
  rw [hwC, List.drop_left]
  -- the table of `sdbN`: that of `sdbF` up to row ids, so the columns and the selection are the same
  obtain ⟨st, hfind, htv⟩ := findTable_congr_some hvN.symm hfind0
  rw [← tv_cols htv] at hcut
  obtain ⟨_, ptK, tK, rK, _, _, _, hreK, habsK, hbK, b2, b4, b5⟩ := hcut k
  exact ⟨rK, ptK, setTable tblsN table tK,
    sdbN.map (updRows table fun rs => rewriteFirst st.cols sets (min k logs.length) (rs.zip sel0)), _,
    (replayAll_append hreN).trans hreK,
    ⟨_, ⟨hbK.redo, habsK.tabs⟩,
      valsOf_map_congr table _ _ sdbF sdbN hvN fun rs0 rs => rewriteFirst_vals_congr st.cols sets rs0 rs sel0 _⟩,
    findTable_updRows_self table _ sdbN st hfind,
    update_state_in_rowPrefixStates sdbN sdbC table sets w hspec st sel0 hfind ((selects_congr htv w).trans hsel0) _
      (hlen ▸ Nat.min_le_right _ _),
    fun n hn => findTable_updRows_other table _ n hn sdbN, by rw [b2, b5], by rw [hbK.nf, b4]⟩

end Mkdb.Store
