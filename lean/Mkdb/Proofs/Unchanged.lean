import Mkdb.Proofs.StmtRows
import Mkdb.Proofs.UnchangedCreate
/-!
C14, statement level: INSERT, CREATE TABLE and DELETE statements that are refused.

For INSERT: when the first row is refused, the statement returns that error, the store is the one
the refused row left (same data, by `Store.insert_err`) and the log is untouched; when a later row
is refused, the rows before it STAY applied in the cache (the store is the one they produced), but
nothing at all reaches the log.  Non-vacuity: a concrete well-filed store on which `fetch` pulls a
page into the cache.
-/
set_option autoImplicit false
namespace Mkdb.Engine
open Mkdb.Store Mkdb.Page Mkdb.Tuple Mkdb.Generated

/-- `Applies table cols rows s logs s'`: inserting `rows` one after the other, starting in `s`,
succeeds for every row, produces the log records `logs` (in order) and ends in `s'`. -/
inductive Applies (table : Bytes) (cols : List String) :
    List (List Val) → Store → List WalRec → Store → Prop
  | nil (s : Store) : Applies table cols [] s [] s
  | cons {r : List Val} {rest : List (List Val)} {s s1 s2 : Store} {logs logs' : List WalRec} :
      insert table cols r s = .ok logs s1 → Applies table cols rest s1 logs' s2 →
      Applies table cols (r :: rest) s (logs ++ logs') s2

theorem applies_iff {table : Bytes} {cols : List String} {rows : List (List Val)} {s s' : Store}
    {logs : List WalRec} : Applies table cols rows s logs s' ↔ rowsM (insert table cols) rows s = .ok logs s' := by
  rw [← insApplies_iff]
  constructor
  · intro h
    induction h with
    | nil s => exact .nil s
    | cons h1 _ ih => exact .cons h1 ih
  · intro h
    induction h with
    | nil s => exact .nil s
    | cons h1 _ ih => exact .cons h1 ih

theorem evalInsert_err_wal (db : DB) (s' : Store) : ({ db with store := s' } : DB).wal = db.wal := rfl

theorem evalInsert_kth_row_err (db : DB) (table : Bytes) (cols : List Bytes)
    (good : List (List Val)) (bad : List Val) (rest : List (List Val))
    (logs : List WalRec) (sk s' : Store) (e : SErr)
    (hgood : Applies table (cols.map bytesToName) good db.store logs sk)
    (hbad : insert table (cols.map bytesToName) bad sk = .err e s') :
    evalInsert db table cols (good ++ bad :: rest) = .err (.store e) { db with store := s' } := by
  exact evalInsert_of_err db table cols rest (applies_iff.mp hgood) hbad

/-- for contrast: when every row goes in, the records of all rows are appended to the log -/
theorem evalInsert_all_rows_ok (db : DB) (table : Bytes) (cols : List Bytes)
    (rows : List (List Val)) (logs : List WalRec) (sk : Store)
    (h : Applies table (cols.map bytesToName) rows db.store logs sk) :
    evalInsert db table cols rows = .ok rows.length { store := sk, wal := db.wal ++ logs } := by
  exact evalInsert_of_ok db table cols (applies_iff.mp h)

/-- a validation error of a row (unknown table, column count, type, integer range, duplicate key,
a column name the table does not have, a column named twice) -/
def Refusal (e : SErr) : Prop :=
  e = .tableNotExist ∨ e = .colCountMismatch ∨ e = .typeMismatch ∨ e = .intOutOfRange ∨ e = .keyExists ∨
    e = .fieldNotFound ∨ e = .fieldAmbiguous

/-- C14 for INSERT, first row: statement refused, every page / dirty bit / the data file / the
header as before, log untouched. -/
theorem evalInsert_first_row_refused (db : DB) (table : Bytes) (cols : List Bytes) (r : List Val)
    (rest : List (List Val)) (e : SErr) (s' : Store) (hf : Filed db.store)
    (h : insert table (cols.map bytesToName) r db.store = .err e s') (he : Refusal e) :
    ∃ db', evalInsert db table cols (r :: rest) = .err (.store e) db' ∧
      db'.wal = db.wal ∧ Filed db'.store ∧ SameData db.store db'.store :=
  ⟨{ db with store := s' }, evalInsert_first_err db table cols rest h, rfl,
    insert_err table _ r db.store e s' hf h he⟩

/-- C14 for INSERT, `k`-th row: relative to the store `sk` the good rows produced, the refused row
changes nothing; relative to the log, the whole statement changes nothing. -/
theorem evalInsert_kth_row_refused (db : DB) (table : Bytes) (cols : List Bytes)
    (good : List (List Val)) (bad : List Val) (rest : List (List Val))
    (logs : List WalRec) (sk s' : Store) (e : SErr) (hf : Filed sk)
    (hgood : Applies table (cols.map bytesToName) good db.store logs sk)
    (hbad : insert table (cols.map bytesToName) bad sk = .err e s') (he : Refusal e) :
    ∃ db', evalInsert db table cols (good ++ bad :: rest) = .err (.store e) db' ∧
      db'.wal = db.wal ∧ Filed db'.store ∧ SameData sk db'.store :=
  ⟨{ db with store := s' }, evalInsert_kth_row_err db table cols good bad rest logs sk s' e hgood hbad,
    rfl, insert_err table _ bad sk e s' hf hbad he⟩

/-! ### CREATE TABLE -/

theorem evalCreateTable_err (db : DB) (name : Bytes) (cols : List Sql.ColDef) (flushOrder : List Nat)
    (doFlush : Bool) (e : SErr) (s' : Store)
    (h : createTable (cols.map colTypeToField) name flushOrder doFlush db.store = .err e s') :
    evalCreateTable db name cols flushOrder doFlush = .err (.store e) { db with store := s' } := by
  simp only [evalCreateTable, liftS, h]

/-- C14 for CREATE TABLE: refused because the table exists (or the catalog cannot be read), because
a column length is outside `int32`, because a column name is used twice (`fieldAmbiguous`), or
because a table / column name is too long for a catalog cell (`rowTooLarge`, caught by
`checkCatalogRows` before anything is allocated): nothing changed, log untouched. -/
theorem evalCreateTable_refused (db : DB) (name : Bytes) (cols : List Sql.ColDef)
    (flushOrder : List Nat) (doFlush : Bool) (e : SErr) (s' : Store) (hf : Filed db.store)
    (h : createTable (cols.map colTypeToField) name flushOrder doFlush db.store = .err e s')
    (he : e = .tableAlreadyExist ∨ e = .intOutOfRange ∨ e = .rowTooLarge ∨ e = .typeMismatch ∨
          e = .colCountMismatch ∨ e = .fieldAmbiguous) :
    ∃ db', evalCreateTable db name cols flushOrder doFlush = .err (.store e) db' ∧
      db'.wal = db.wal ∧ Filed db'.store ∧ SameData db.store db'.store :=
  ⟨{ db with store := s' }, evalCreateTable_err db name cols flushOrder doFlush e s' h, rfl,
    createTable_err _ name flushOrder doFlush db.store e s' hf h he⟩

/-- the same for every error that is not one of the five the body can still return -/
theorem evalCreateTable_refused' (db : DB) (name : Bytes) (cols : List Sql.ColDef)
    (flushOrder : List Nat) (doFlush : Bool) (e : SErr) (s' : Store) (hf : Filed db.store)
    (h : createTable (cols.map colTypeToField) name flushOrder doFlush db.store = .err e s')
    (he : ¬ BodyErr e) :
    ∃ db', evalCreateTable db name cols flushOrder doFlush = .err (.store e) db' ∧
      db'.wal = db.wal ∧ Filed db'.store ∧ SameData db.store db'.store :=
  ⟨{ db with store := s' }, evalCreateTable_err db name cols flushOrder doFlush e s' h, rfl,
    createTable_err_of_not_bodyErr _ name flushOrder doFlush db.store e s' hf h he⟩

/-! ### DELETE -/

/-- C14 for DELETE, first selected row: whatever error `markDeleted` reports (no such live row,
unknown table, unreadable catalog), the statement fails with it, every page / dirty bit / the data
file / the header are as before the statement, and the log is untouched. -/
theorem evalDelete_first_row_err (db : DB) (table : Bytes) (where_ : Option Sql.Cond)
    (rows : List (Nat × List Val)) (schema : List FieldDef) (s0 : Store)
    (r : Nat × List Val) (rest : List (Nat × List Val)) (e : SErr) (s' : Store)
    (hf : Filed db.store)
    (hfetch : fetchTable table db.store = .ok (rows, schema) s0)
    (hsel : filterIds where_ (schema.map fun fd => ⟨[], fd.name.toUTF8.toList⟩) rows = .ok (r :: rest))
    (h : markDeleted table r.1 s0 = .err e s') :
    evalDelete db table where_ = .err (.store e) { db with store := s' } ∧
      Filed s' ∧ SameData db.store s' := by
  constructor
  · rw [evalDelete_eq, fetchForExec, liftS_ok hfetch]
    simp only [hsel]
    exact liftS_err (rowsM_err_at _ (good := []) rest (rowsM_nil _ _) h)
  · obtain ⟨f0, d0⟩ := (ReadOnly.fetchTable table).ok hf hfetch
    obtain ⟨f1, d1⟩ := markDeleted_errRO table r.1 s0 e s' f0 h
    exact ⟨f1, d0.trans d1⟩

end Mkdb.Engine

/-! ### non-vacuity -/
namespace Mkdb.Store
open Mkdb.Page

/-- one leaf page in the data file at offset 4096, carrying that offset; empty cache -/
def demoLeaf : Leaf := ⟨4096, 7, false, false, 0, 0, [⟨1, false, [1, 2, 3]⟩]⟩
def demoStore : Store :=
  { hdr := { lastKey := 1, ptRoot := 4096, nextFree := 8192, nextLSN := 8 },
    mem := [], disk := [(4096, .leaf demoLeaf)],
    dhdr := { lastKey := 1, ptRoot := 4096, nextFree := 8192, nextLSN := 8 } }

theorem demoStore_filed : Filed demoStore := by unfold Filed; decide

example : fetch 4096 demoStore =
    .ok (.leaf demoLeaf) { demoStore with mem := [(4096, ⟨.leaf demoLeaf, false⟩)] } := rfl

example : ∃ s', fetch 4096 demoStore = .ok (.leaf demoLeaf) s' ∧
    s'.mem = [(4096, ⟨.leaf demoLeaf, false⟩)] ∧ Filed s' ∧ SameData demoStore s' :=
  ⟨_, rfl, rfl, (ReadOnly.fetch 4096).ok demoStore_filed rfl⟩

/-- a page that does not exist is cached as the zero page under offset 0 -/
example : ∃ s', fetch 12288 demoStore = .ok zeroPage s' ∧
    s'.mem = [(0, ⟨zeroPage, false⟩)] ∧ Filed s' ∧ SameData demoStore s' :=
  ⟨_, rfl, rfl, (ReadOnly.fetch 12288).ok demoStore_filed rfl⟩

/-- a refused row on a concrete store: the table does not exist; `insert_err` applies -/
def insertNoTableCheck : Bool :=
  match insert [116] [] [] emptyCatalog with
  | .err e _ => e == .tableNotExist
  | _ => false

theorem insertNoTableCheck_true : insertNoTableCheck = true := by decide +kernel

example : ∃ s', insert [116] [] [] emptyCatalog = .err .tableNotExist s' ∧
    Filed s' ∧ SameData emptyCatalog s' := by
  have h := insertNoTableCheck_true
  unfold insertNoTableCheck at h
  split at h
  · rename_i e s' heq
    simp only [beq_iff_eq] at h
    subst h
    exact ⟨s', heq, insert_err _ _ _ _ _ _ emptyCatalog_filed heq (.inl rfl)⟩
  · cases h

end Mkdb.Store
