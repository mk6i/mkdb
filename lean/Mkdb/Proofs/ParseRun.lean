import Mkdb.Proofs.AstSize
import Mkdb.Proofs.Atoi
import Mkdb.Proofs.ParserSteps
import Mkdb.Proofs.TokSim
import Mkdb.Proofs.WfShape
/-!
One pass over the productions of `Mkdb/Model/Parse.lean` for everything that is said of a production
on an arbitrary input (the round trip, which runs a production on a rendered statement, is apart:
`Mkdb/Proofs/Roundtrip*.lean`).  `Run p q n E V` describes the runs of `p` and `q` on two lists of `n` tokens
that differ only in texts the parser does not read (`ToksSim`).  Each production gets one `Run` lemma, of
itself against itself, whose `V` says that the two values are the same (`Same`), bounds the size and the
condition depth of the value by what was consumed, says how many tokens at least were consumed and what
shape the value has (`wfStmt`).  Read off: panic-freedom (`NoPanic`), sufficiency of the fuel (`Tri`), the
size and depth bounds (`Sz`), independence of the unread texts (`Sim`), the range of the parser (`Ret`).

To use a production lemma on one run: `(Run.X.same ts rfl).2.2 a rest h`, with `h : X ts = .ok a rest`,
gives `∃ pre, ts = pre ++ rest ∧ Q a pre.length (textBytes pre)`; `.1` and `.2.1` say no panic and no `.fuel`.
`Run` speaks of the consumed prefix only: a fact about the head of what is LEFT (a follow set) is not in `V`
and takes an induction of its own (`or_inv`, for "no `OR` follows `orCond`", is the one there is).
In the bounds `3 * l + x` is the cost of `l` consumed tokens with `x` text bytes at 3 a token (`tokCost`,
`wsum_tokCost` in `AstSize`); the constants added to it are what `arith` accepted, not optimised, except the
9 of `parseStmt`, which is attained (example in `Props/C09`).

Here: the judgment, the token steps, the two loop combinators, the conditions and WHERE.  The select list and
the clauses of SELECT are in `ParseRunSelect`, the other statements beside them in `ParseRunStmt`, `parseStmt`
and what is read off in `Parse` (the range in `RoundtripRange`).
-/
namespace Mkdb.Sql
open Mkdb.Scan Mkdb.Generated

theorem P.bind_assoc {α β γ} (m : P α) (g : α → P β) (f : β → P γ) :
    ((m >>= g) >>= f) = (m >>= fun a => g a >>= f) := by
  funext ts
  show P.bind (P.bind m g) f ts = P.bind m (fun a => P.bind (g a) f) ts
  unfold P.bind
  cases m ts <;> rfl

theorem P.pure_bind {α β} (a : α) (f : α → P β) : ((Pure.pure a : P α) >>= f) = f a := rfl

theorem textBytes_append (a b : List Token) : textBytes (a ++ b) = textBytes a + textBytes b :=
  wsum_append _ a b

/-! ### What `Token.Val` returns -/

theorem tokenVal_int (t : Token) (h : t.ty = t_INT) :
    (∃ i, tokenVal t = .ok (.int i)) ∨ (∃ e, tokenVal t = .error e) := by
  unfold tokenVal
  simp only [↓reduceIte, h, beq_self_eq_true]
  cases atoi t.text with
  | some i => left; exact ⟨i, rfl⟩
  | none => right; exact ⟨_, rfl⟩

/-- A literal is no larger than its token: an INT is one word, a string its text. -/
theorem tokenVal_size (t : Token) (l : Lit) (h : tokenVal t = .ok l) : l.size ≤ 1 + t.text.length := by
  unfold tokenVal at h
  split at h
  · cases h; simp [Lit.size]
  · split at h
    · split at h
      · cases h; simp [Lit.size]
      · cases h
    · split at h
      · cases h; simp [Lit.size]
      · split at h
        · cases h; simp [Lit.size]
        · cases h

theorem tokenVal_range {t : Token} {l : Lit} (h : tokenVal t = .ok l) : int64Lit l = true := by
  cases l with
  | int i =>
    simp only [int64Lit, Bool.and_eq_true, decide_eq_true_eq]
    exact atoi_int64 (tokenVal_int_inv h).2
  | str _ => rfl
  | bool _ => rfl

/-! ### The judgment -/

/-- The two outcomes agree: both succeed, leaving related lists behind a consumed prefix (of the left
run) with `V` of the two values, its length and its text bytes; or both fail alike; never a panic. -/
def Agree {α} (V : α → α → Nat → Nat → Prop) (ts : List Token) : R α → R α → Prop
  | .ok a rest, .ok a' rest' =>
    ToksSim rest rest' ∧ ∃ pre, ts = pre ++ rest ∧ V a a' pre.length (textBytes pre)
  | .err e, .err e' => e = e'
  | .fuel, .fuel => True
  | _, _ => False

/-- `p` and `q` on two lists of `n` tokens that differ only in texts the parser does not read: `p` does
not run out of fuel if `E` holds, and the outcomes agree. -/
def Run {α} (p q : P α) (n : Nat) (E : Prop) (V : α → α → Nat → Nat → Prop) : Prop :=
  ∀ ts ts', ToksSim ts ts' → ts.length = n → (E → p ts ≠ .fuel) ∧ Agree V ts (p ts) (q ts')

/-- both runs return the same value, of which `Q` holds -/
def Same {α} (Q : α → Nat → Nat → Prop) : α → α → Nat → Nat → Prop := fun a a' l x => a = a' ∧ Q a l x

/-- every value `p` can return satisfies `Q` -/
def Ret {α} (p : P α) (Q : α → Prop) : Prop := ∀ ts a r, p ts = .ok a r → Q a

attribute [sz_simp] Same

/-- arithmetic left over: linear once the size and depth of known constructors are unfolded -/
macro "arith" : tactic => `(tactic| first | (simp only [sz_simp] at * <;> omega) | omega)

section
variable {α β : Type} {n : Nat} {E : Prop} {V : α → α → Nat → Nat → Prop}

theorem Run.pure {a a' : α} (h : V a a' 0 0) : Run (Pure.pure a : P α) (Pure.pure a') n E V :=
  fun _ _ hts _ => ⟨fun _ h => (by cases h), hts, [], rfl, h⟩

theorem Run.fail {e : PErr} : Run (fail e : P α) (fail e) n E V :=
  fun _ _ _ _ => ⟨fun _ h => (by cases h), rfl⟩

theorem Run.outOfFuel (h : ¬E) : Run (outOfFuel : P α) outOfFuel n E V :=
  fun _ _ _ _ => ⟨fun e _ => h e, trivial⟩

theorem Run.mono {p q : P α} {V' : α → α → Nat → Nat → Prop} (hp : Run p q n E V')
    (h : ∀ a a' l x, V' a a' l x → l ≤ n → V a a' l x) : Run p q n E V := by
  intro ts ts' hs hts
  obtain ⟨h2, h3⟩ := hp ts ts' hs hts
  refine ⟨h2, ?_⟩
  cases hp : p ts <;> cases hq : q ts' <;> rw [hp, hq] at h3 <;> try exact h3
  obtain ⟨hr, pre, e, v⟩ := h3
  exact ⟨hr, pre, e, h _ _ _ _ v (by rw [← hts, e, List.length_append]; omega)⟩

theorem Run.fuel {p q : P α} {E' : Prop} (hp : Run p q n E' V) (h : E → E' := by arith) : Run p q n E V :=
  fun ts ts' hs hts => ⟨fun e => (hp ts ts' hs hts).1 (h e), (hp ts ts' hs hts).2⟩

theorem Run.ite {c : Prop} [Decidable c] {p q p' q' : P α} (hp : Run p p' n E V) (hq : Run q q' n E V) :
    Run (if c then p else q) (if c then p' else q') n E V := by
  split <;> assumption

/-- `let a ← m; f a`: what follows runs on the `n - l` tokens `m` left, on values `m` returned in
the two runs, and what it consumes is added to what `m` consumed -/
theorem Run.bind {m m' : P α} {f f' : α → P β} {V1 : α → α → Nat → Nat → Prop} {V : β → β → Nat → Nat → Prop}
    (hm : Run m m' n E V1)
    (hf : ∀ a a' l x, V1 a a' l x → l ≤ n →
      Run (f a) (f' a') (n - l) E fun b b' l' x' => V b b' (l + l') (x + x')) :
    Run (m >>= f) (m' >>= f') n E V := by
  intro ts ts' hs hts
  obtain ⟨h2, h3⟩ := hm ts ts' hs hts
  rw [bind_apply, bind_apply]
  cases hmts : m ts <;> cases hmts' : m' ts' <;> rw [hmts, hmts'] at h3 <;> try exact h3.elim
  · rename_i a r1 a' r1'
    obtain ⟨hr, pre1, e1, v1⟩ := h3
    have hl : pre1.length + r1.length = n := by rw [← hts, e1, List.length_append]
    obtain ⟨g2, g3⟩ := hf a a' _ _ v1 (by omega) r1 r1' hr (by omega)
    refine ⟨g2, ?_⟩
    show Agree V ts (f a r1) (f' a' r1')
    cases hf1 : f a r1 <;> cases hf2 : f' a' r1' <;> rw [hf1, hf2] at g3 <;> try exact g3
    obtain ⟨hr2, pre2, e2, v2⟩ := g3
    refine ⟨hr2, pre1 ++ pre2, by rw [e1, e2, List.append_assoc], ?_⟩
    rw [List.length_append, textBytes_append]; exact v2
  · exact ⟨fun _ h => (by cases h), h3⟩
  · exact ⟨fun e _ => h2 e hmts, trivial⟩

theorem Run.andRet {p q : P α} {W : α → Prop} (h : Run p q n E V) (h' : Ret p W) :
    Run p q n E fun a a' l x => V a a' l x ∧ W a := by
  intro ts ts' hs hts
  obtain ⟨h2, h3⟩ := h ts ts' hs hts
  refine ⟨h2, ?_⟩
  cases hp : p ts <;> cases hq : q ts' <;> rw [hp, hq] at h3 <;> try exact h3
  obtain ⟨hr, pre, e, v⟩ := h3
  exact ⟨hr, pre, e, v, h' _ _ _ hp⟩

theorem Run.diag {p : P α} (h : Run p p n E V) (ts : List Token) (hts : ts.length = n) :
    (∀ s, p ts ≠ .panic s) ∧ (E → p ts ≠ .fuel) ∧
    ∀ a rest, p ts = .ok a rest → ∃ pre, ts = pre ++ rest ∧ V a a pre.length (textBytes pre) := by
  obtain ⟨h2, h3⟩ := h ts ts (ToksSim.refl ts) hts
  refine ⟨fun s hp => ?_, h2, fun a rest hr => ?_⟩
  · rw [hp] at h3; exact h3
  · rw [hr] at h3
    exact h3.2

theorem Run.same {p : P α} {Q : α → Nat → Nat → Prop} (h : Run p p n E (Same Q)) (ts : List Token)
    (hts : ts.length = n) : (∀ s, p ts ≠ .panic s) ∧ (E → p ts ≠ .fuel) ∧
    ∀ a rest, p ts = .ok a rest → ∃ pre, ts = pre ++ rest ∧ Q a pre.length (textBytes pre) := by
  obtain ⟨h1, h2, h3⟩ := h.diag ts hts
  refine ⟨h1, h2, fun a rest hr => ?_⟩
  obtain ⟨pre, e, q⟩ := h3 a rest hr
  exact ⟨pre, e, q.2⟩

/-- the texts the parser does not read do not matter: `Sim` is `Run` without the counts -/
theorem Run.sim {p q : P α} {E : Nat → Prop} {vr : α → α → Prop} (h : ∀ n, Run p q n (E n) V)
    (hV : ∀ a a' l x, V a a' l x → vr a a') : Sim vr p q := by
  intro ts ts' hs
  have h3 := (h _ ts ts' hs rfl).2
  cases hp : p ts <;> cases hq : q ts' <;> rw [hp, hq] at h3 <;> try exact h3.elim
  · obtain ⟨hr, _, _, v⟩ := h3
    exact ⟨hV _ _ _ _ v, hr⟩
  · exact h3
  · trivial

/-- `Ret` is what `Run` says of the value alone -/
theorem Run.ret {p : P α} {E : Nat → Prop} {Q : α → Nat → Nat → Prop} {W : α → Prop}
    (h : ∀ n, Run p p n (E n) (Same Q)) (hQ : ∀ a l x, Q a l x → W a) : Ret p W := by
  intro ts a rest hr
  obtain ⟨pre, _, q⟩ := ((h _).same ts rfl).2.2 a rest hr
  exact hQ _ _ _ q

end

/-! ### The primitives -/

section
variable {n : Nat} {E : Prop}

theorem Run.curTok : Run curTok curTok n E fun t t' l x => TS t t' ∧ l = 0 ∧ x = 0 :=
  fun _ _ hs _ => ⟨fun _ h => (by cases h), hs, [], rfl, (headD_sim hs).ts, rfl, rfl⟩

/-- `let cur ← p.Cur()`: the two current tokens are `⟨ty, x⟩`, `⟨ty, x'⟩`, with `x = x'` if the text is one the
parser may read -/
theorem Run.cur {β} {g g' : Token → P β} {V : β → β → Nat → Nat → Prop}
    (h : ∀ ty x x', (textual ty = true → x = x') → Run (g ⟨ty, x⟩) (g' ⟨ty, x'⟩) n E V) :
    Run (Sql.curTok >>= g) (Sql.curTok >>= g') n E V :=
  Run.bind Run.curTok fun _ _ _ _ ht _ => by
    obtain ⟨⟨ty, x, x', hx⟩, rfl, rfl⟩ := ht
    simpa only [Nat.sub_zero, Nat.zero_add] using h ty x x' hx

theorem Run.hasNext : Run hasNext hasNext n E (Same fun b l x => l = 0 ∧ x = 0 ∧ b = decide (n > 1)) := by
  intro ts ts' hs hts
  refine ⟨fun _ h => (by cases h), hs, [], rfl, ?_, rfl, rfl, by rw [← hts]⟩
  show decide _ = decide _
  rw [ToksSim.length_eq hs]

theorem Run.curIs {tys : List Int} : Run (curIs tys) (curIs tys) n E (Same fun _ l x => l = 0 ∧ x = 0) := by
  intro ts ts' hs _
  refine ⟨fun _ h => (by cases h), hs, [], rfl, ?_, rfl, rfl⟩
  show tys.contains _ = tys.contains _
  rw [(headD_sim hs).1]

theorem Run.advance : Run advance advance n E (Same fun _ l _ => l ≤ 1) := by
  intro ts ts' hs _
  cases hs with
  | nil => exact ⟨fun _ h => (by cases h), .nil, [], rfl, rfl, Nat.zero_le _⟩
  | cons h hr => exact ⟨fun _ h => (by cases h), hr, [_], rfl, rfl, Nat.le_refl _⟩

/-- `p.match(tys)`: both runs miss, or both take a token, of one of the types `tys` -/
theorem Run.matchTy {tys : List Int} : Run (matchTy tys) (matchTy tys) n E fun o o' l x =>
    OptRel (fun t t' => TokSim t t' ∧ tys.contains t.ty = true) o o' ∧
      l = oval (fun _ => 1) o ∧ x = oval (fun t => t.text.length) o := by
  intro ts ts' hs _
  cases hs with
  | nil => exact ⟨fun _ h => (by cases h), .nil, [], rfl, .none, rfl, rfl⟩
  | @cons t t' r r' h hr =>
    by_cases hc : tys.contains t.ty = true
    · rw [matchTy_hit _ _ _ hc, matchTy_hit _ _ _ (h.1 ▸ hc)]
      exact ⟨fun _ h => (by cases h), hr, [t], rfl, .some ⟨h, hc⟩, rfl, rfl⟩
    · have hc' : tys.contains t.ty = false := by simpa using hc
      rw [matchTy_miss _ _ _ hc', matchTy_miss _ _ _ (h.1 ▸ hc')]
      exact ⟨fun _ h => (by cases h), .cons h hr, [], rfl, .none, rfl, rfl⟩

/-- a keyword or punctuation token: the two tokens have the same type -/
theorem Run.matchKw {tys : List Int} : Run (Sql.matchTy tys) (Sql.matchTy tys) n E fun o o' l x =>
    OptRel (fun t t' => TS t t' ∧ tys.contains t.ty = true) o o' ∧
      l = oval (fun _ => 1) o ∧ x = oval (fun t => t.text.length) o :=
  Run.matchTy.mono fun _ _ _ _ h _ => ⟨h.1.mono fun _ _ h => ⟨h.1.ts, h.2⟩, h.2⟩

/-- a token whose text is read: the two tokens are the same -/
theorem Run.matchText {tys : List Int} (ht : ∀ ty, tys.contains ty = true → textual ty = true) :
    Run (Sql.matchTy tys) (Sql.matchTy tys) n E (Same fun o l x =>
      l = oval (fun _ => 1) o ∧ x = oval (fun t => t.text.length) o ∧ ∀ t, o = some t → tys.contains t.ty = true) :=
  Run.matchTy.mono fun _ _ _ _ h _ => by
    obtain ⟨ho, hl, hx⟩ := h
    cases ho with
    | none => exact ⟨rfl, hl, hx, fun _ h => nomatch h⟩
    | some h => exact ⟨by rw [textual_eq h.1 (ht _ h.2)], hl, hx, fun _ e => by cases e; exact h.2⟩

theorem textual_of_mem {tys : List Int} (h : tys.all textual = true) (ty : Int) (hc : tys.contains ty = true) :
    textual ty = true :=
  List.all_eq_true.mp h ty (by simpa using hc)

theorem Run.matchIdent : Run (Sql.matchTy [t_IDENT]) (Sql.matchTy [t_IDENT]) n E (Same fun o l x =>
    l = oval (fun _ => 1) o ∧ x = oval (fun t => t.text.length) o ∧ ∀ t, o = some t → [t_IDENT].contains t.ty = true) :=
  Run.matchText (textual_of_mem rfl)

/-- a literal token: `Token.Val` reads the same from the two tokens -/
theorem Run.matchLit : Run (Sql.matchTy literalTys) (Sql.matchTy literalTys) n E fun o o' l x =>
    OptRel (fun t t' => tokenVal t = tokenVal t') o o' ∧ l = oval (fun _ => 1) o ∧ x = oval (fun t => t.text.length) o :=
  Run.matchTy.mono fun _ _ _ _ h _ => ⟨h.1.mono fun _ _ h => tokenVal_sim h.1, h.2⟩

end

/-! ### How a proof follows its production

Line by line.  `step e` for `let a ← m` where the lemma `e` says that both runs of `m` return the same
`a` (which is then one variable); `pass e` for `let _ ← m`; `hit e` for `match ← p.match(..)` of a keyword,
with the case that both runs miss and the case that both hit tokens `⟨ty, x⟩`, `⟨ty, x'⟩` of the same type;
`split` for another `match` or an `if`; `last e` for a final call, `ret` for a final `pure`, with the bounds
left to `arith`; `lastw`, `retw` where the shape of the value is part of the statement (`shape`).
When one of them fails, the `omega` error shows a goal one never wrote: put `refine Run.pure ⟨rfl, ?_⟩`
(for `ret`; `refine Run.mono e fun _ _ _ _ h _ => ⟨h.1, ?_⟩` for `last e`) and `simp only [sz_simp] at *` in
its place to see it - the usual cause is a constructor without its `sz_simp` equation or a constant that is one short. -/

namespace RunTac

scoped macro "step " e:term : tactic =>
  `(tactic| (refine Run.bind $e fun _ _ _ _ h _ => ?_; obtain ⟨h, _⟩ := h; subst h))

scoped macro "hit " e:term : tactic => `(tactic|
  (refine Run.bind $e fun _ _ _ _ h _ => ?_; obtain ⟨h, _⟩ := h; rcases h with _ | ⟨⟨_, _, _, _⟩, _⟩ <;> dsimp only))

scoped macro "pass " e:term : tactic => `(tactic| refine Run.bind $e fun _ _ _ _ _ _ => ?_)

/-- the shape of a value built from parts whose shape is known: what the `wf` predicates say of its
constructor (`Mkdb/Proofs/WfShape.lean`), then the hypotheses -/
scoped macro "shape" : tactic => `(tactic| simp only [wfPred, wfAnd, wfCond, wfV_lit, wfV_col, wfItem_count,
  wfItem_avg, wfItem_expr, wfOptCond_none, wfOptCond_some, wfColType_int, wfColType_bigint, wfColType_varchar,
  wfColType_boolean, wfStmt_createDatabase, wfStmt_select, wfStmt_update, wfStmt_delete, wfStmt_use,
  wfStmt_showDatabases, wfTR_join, Bool.and_eq_true, and_self, and_true, true_and, Option.some.injEq, forall_eq',
  reduceCtorEq, false_imp_iff, implies_true, *])

scoped macro "ret" : tactic => `(tactic| exact Run.pure ⟨rfl, by arith⟩)

scoped macro "retw" : tactic => `(tactic| exact Run.pure ⟨rfl, by arith, by shape⟩)

scoped macro "last " e:term : tactic => `(tactic| exact Run.mono $e fun _ _ _ _ h _ => ⟨h.1, by arith⟩)

scoped macro "lastw " e:term : tactic => `(tactic| exact Run.mono $e fun _ _ _ _ h _ => ⟨h.1, by arith, h.2.2⟩)

end RunTac
open RunTac

section
variable {n : Nat} {E : Prop}

theorem Run.requireText {tys : List Int} (ht : tys.all textual = true) :
    Run (requireMatch tys) (requireMatch tys) n E (Same fun t l x =>
      l = 1 ∧ x = t.text.length ∧ tys.contains t.ty = true) := by
  unfold requireMatch
  refine Run.bind (Run.matchText (textual_of_mem ht)) fun o _ _ _ h _ => ?_
  obtain ⟨rfl, hl, hx, hc⟩ := h
  cases o with
  | none => exact Run.fail
  | some t => exact Run.pure ⟨rfl, hl, hx, hc t rfl⟩

theorem Run.requireIdent : Run (requireMatch [t_IDENT]) (requireMatch [t_IDENT]) n E (Same fun t l x =>
    l = 1 ∧ x = t.text.length ∧ [t_IDENT].contains t.ty = true) :=
  Run.requireText rfl

/-- a required keyword: the token itself is never used -/
theorem Run.requireKw {tys : List Int} : Run (requireMatch tys) (requireMatch tys) n E fun t _ l x =>
    (l = 1 ∧ x = t.text.length) ∧ tys.contains t.ty = true := by
  unfold requireMatch
  hit Run.matchKw
  · exact Run.fail
  · exact Run.pure ⟨by arith, by assumption⟩

/-- the `val.(int64)` of `requireInt` cannot fail: the token matched is an INT, and `Token.Val`
of an INT is an integer or an error -/
theorem Run.requireInt : Run requireInt requireInt n E (Same fun i l _ => l = 1 ∧ int64Lit (.int i) = true) := by
  unfold Sql.requireInt
  refine Run.bind (Run.requireText (tys := [t_INT]) rfl) fun t _ _ _ h _ => ?_
  obtain ⟨rfl, hl, _, hc⟩ := h
  rcases tokenVal_int t (by simpa using hc) with ⟨i, hi⟩ | ⟨e, he⟩
  · rw [hi]; exact Run.pure ⟨rfl, hl, tokenVal_range hi⟩
  · rw [he]; exact Run.fail

theorem Run.commaFollows : Run commaFollows commaFollows n E (Same fun b l _ => l = b.toNat) := by
  unfold Sql.commaFollows
  hit Run.matchKw
  · ret
  · ret

end

/-! ### The two loop combinators -/

/-- `sepLoop`: every iteration consumes a token; one that asks for another (`y.2`, a comma follows) has paid
for its element in full - `1 + μ y.1`, the list cell and the element, is within the cost `3 * l + x` of its
`l` tokens with `x` text bytes -, the last one may owe up to `K`, which the bound of the whole list keeps as
`+ K` for the caller's next token to pay.  `W` holds of every element. -/
theorem Run.sepLoop {α} (μ δ : α → Nat) (W : α → Prop) (K : Nat) {body : P (α × Bool)} {E : Prop} (f : Nat) : ∀ n,
    (∀ k, k ≤ n → Run body body k E (Same fun y l x =>
      (1 ≤ l ∧ 1 + μ y.1 ≤ 3 * l + x + K * (1 - y.2.toNat) ∧ δ y.1 ≤ l) ∧ W y.1)) →
    (E → n + 1 ≤ f) →
    Run (sepLoop f body) (sepLoop f body) n E (Same fun as l x =>
      (1 ≤ l ∧ lsz μ as ≤ 3 * l + x + K ∧ lmax δ as ≤ l) ∧ as ≠ [] ∧ ∀ a ∈ as, W a) := by
  induction f with
  | zero =>
    intro n _ h
    unfold Sql.sepLoop
    exact Run.outOfFuel fun e => by have := h e; omega
  | succ f ih =>
    intro n hb h
    unfold Sql.sepLoop
    refine Run.bind (hb n (Nat.le_refl n)) fun y _ l x hy hl => ?_
    obtain ⟨rfl, hy, hw⟩ := hy
    obtain ⟨a, cont⟩ := y
    cases cont with
    | false =>
      simp only [Bool.false_eq_true, ↓reduceIte]
      exact Run.pure ⟨rfl, by simp only [lsz, lmax, Bool.toNat_false, Nat.sub_zero, Nat.mul_one] at *; omega,
        List.cons_ne_nil _ _, List.forall_mem_cons.mpr ⟨hw, fun _ h => nomatch h⟩⟩
    | true =>
      simp only [↓reduceIte]
      simp only [Bool.toNat_true, Nat.sub_self, Nat.mul_zero, Nat.add_zero] at hy
      refine Run.bind (ih (n - l) (fun k hk => hb k (by omega)) fun e => by have := h e; omega)
        fun as _ l2 x2 has _ => ?_
      obtain ⟨rfl, has, _, hws⟩ := has
      exact Run.pure ⟨rfl, by simp only [lsz, lmax] at *; omega, List.cons_ne_nil _ _,
        List.forall_mem_cons.mpr ⟨hw, hws⟩⟩

/-- `guardedLoop`: every iteration starts by consuming the guard token `t`, which helps to pay
for the element.  `W` holds of every element. -/
theorem Run.guardedLoop {α} (μ : α → Nat) (W : α → Prop) {tys : List Int} {body : Token → P (α × Bool)} {E : Prop}
    (f : Nat) : ∀ n,
    (∀ t t' k, TokSim t t' → tys.contains t.ty = true → k ≤ n →
      Run (body t) (body t') k E (Same fun y l x => 1 + μ y.1 ≤ 3 * l + x + (3 + t.text.length) ∧ W y.1)) →
    (E → n + 1 ≤ f) →
    Run (guardedLoop f tys body) (guardedLoop f tys body) n E (Same fun as l x =>
      lsz μ as ≤ 3 * l + x ∧ ∀ a ∈ as, W a) := by
  induction f with
  | zero =>
    intro n _ h
    unfold Sql.guardedLoop
    exact Run.outOfFuel fun e => by have := h e; omega
  | succ f ih =>
    intro n hb h
    unfold Sql.guardedLoop
    refine Run.bind Run.matchTy fun o o' l x ho hl => ?_
    obtain ⟨ho, hl', hx⟩ := ho
    cases ho with
    | none => exact Run.pure ⟨rfl, by simp only [lsz]; omega, fun _ h => nomatch h⟩
    | @some t t' ht =>
      simp only [oval_some] at hl' hx
      refine Run.bind (hb t t' _ ht.1 ht.2 (Nat.sub_le _ _)) fun y _ l2 x2 hy hl2 => ?_
      obtain ⟨rfl, hy, hw⟩ := hy
      obtain ⟨a, cont⟩ := y
      cases cont with
      | false =>
        simp only [Bool.false_eq_true, ↓reduceIte]
        exact Run.pure ⟨rfl, by simp only [lsz] at *; omega, List.forall_mem_cons.mpr ⟨hw, fun _ h => nomatch h⟩⟩
      | true =>
        simp only [↓reduceIte]
        refine Run.bind (ih (n - l - l2) (fun t t' k hs hc hk => hb t t' k hs hc (by omega)) fun e => by have := h e; omega)
          fun as _ l3 x3 has _ => ?_
        obtain ⟨rfl, has, hws⟩ := has
        exact Run.pure ⟨rfl, by simp only [lsz] at *; omega, List.forall_mem_cons.mpr ⟨hw, hws⟩⟩

/-! ### The productions -/

section
variable {n : Nat} {E : Prop}

theorem Run.columnReference : Run columnReference columnReference n E (Same fun o l x =>
    oval (fun _ => 1) o ≤ l ∧ oval (fun c => c.size + 2) o ≤ 3 * l + x) := by
  unfold Sql.columnReference
  step Run.matchIdent
  split
  · ret
  · step Run.curIs
    split
    · step Run.advance
      step Run.requireIdent
      ret
    · ret

theorem Run.valueExpression : Run valueExpression valueExpression n E (Same fun v l x =>
    (1 ≤ l ∧ v.size + 1 ≤ 3 * l + x) ∧ wfV int64Lit v = true) := by
  unfold Sql.valueExpression
  refine Run.bind Run.matchLit fun _ _ _ _ h _ => ?_
  obtain ⟨h, _⟩ := h
  cases h with
  | none =>
    step Run.columnReference
    split
    · retw
    · exact Run.fail
  | some h =>
    dsimp only
    rw [← h]
    split
    · have := tokenVal_size _ _ ‹_›
      have := tokenVal_range ‹_›
      retw
    · exact Run.fail

def CondQ (c : Cond) (l x : Nat) : Prop := 1 ≤ l ∧ c.size ≤ 3 * l + x ∧ c.depth ≤ l

/-- what holds of the loop that extends the condition `ret` -/
def LoopQ (ret c : Cond) (l x : Nat) : Prop := c.size ≤ 3 * l + x + ret.size ∧ c.depth ≤ l + ret.depth

attribute [sz_simp] CondQ LoopQ

/-- what `Predicate` returns: a bare value or a comparison with one of the six operators -/
theorem Run.predicate : Run predicate predicate n E (Same fun c l x => CondQ c l x ∧ wfAnd int64Lit c = true) := by
  unfold Sql.predicate
  step Run.valueExpression
  hit Run.matchKw
  · retw
  · step Run.valueExpression
    retw

end

/-- `AndCondition`, and its loop: from an AND-term `ret` it makes an AND-term -/
theorem Run.andBoth (f : Nat) : ∀ n,
    Run (andCond f) (andCond f) n (n + 1 ≤ f) (Same fun c l x => CondQ c l x ∧ wfAnd int64Lit c = true) ∧
    ∀ ret, Run (andLoop f ret) (andLoop f ret) n (n + 1 ≤ f) (Same fun c l x =>
      LoopQ ret c l x ∧ (wfAnd int64Lit ret = true → wfAnd int64Lit c = true)) := by
  induction f with
  | zero =>
    intro n
    exact ⟨by unfold andCond; exact Run.outOfFuel (by omega),
      fun ret => by unfold andLoop; exact Run.outOfFuel (by omega)⟩
  | succ f ih =>
    intro n
    refine ⟨?_, fun ret => ?_⟩
    · unfold andCond
      step Run.predicate
      exact Run.mono ((ih _).2 _).fuel fun _ _ _ _ h _ => ⟨h.1, by arith, h.2.2 (by shape)⟩
    · unfold andLoop
      hit Run.matchKw
      · exact Run.pure ⟨rfl, by arith, id⟩
      · split
        · step (ih _).1.fuel
          exact Run.mono ((ih _).2 _).fuel fun _ _ _ _ h _ => ⟨h.1, by arith, fun hp => h.2.2 (by
            simp only [wfAnd, Bool.and_eq_true] at hp ⊢; exact ⟨hp, by shape⟩)⟩
        · exact Run.fail

theorem Run.orBoth (f : Nat) : ∀ n, Run (orCond f) (orCond f) n (n + 2 ≤ f) (Same CondQ) ∧
    ∀ ret, Run (orLoop f ret) (orLoop f ret) n (n + 2 ≤ f) (Same (LoopQ ret)) := by
  induction f with
  | zero =>
    intro n
    exact ⟨by unfold orCond; exact Run.outOfFuel (by omega),
      fun ret => by unfold orLoop; exact Run.outOfFuel (by omega)⟩
  | succ f ih =>
    intro n
    refine ⟨?_, fun ret => ?_⟩
    · unfold orCond
      step (Run.andBoth f _).1.fuel
      last ((ih _).2 _).fuel
    · unfold orLoop
      hit Run.matchKw
      · ret
      · step (ih _).1.fuel
        last ((ih _).2 _).fuel

theorem matchTy_inv {tys : List Int} {ts : List Token} {o : Option Token} {rest : List Token}
    (h : matchTy tys ts = .ok o rest) :
    (o = none ∧ rest = ts ∧ HeadNot tys ts) ∨ (∃ t, o = some t ∧ ts = t :: rest ∧ tys.contains t.ty = true) := by
  cases ts with
  | nil => simp only [matchTy] at h; cases h; exact Or.inl ⟨rfl, rfl, trivial⟩
  | cons t r =>
    rw [matchTy_cons] at h
    split at h
    · cases h; rename_i hc; exact Or.inr ⟨t, rfl, rfl, hc⟩
    · cases h; rename_i hc; exact Or.inl ⟨rfl, rfl, by simpa [HeadNot] using hc⟩

/-- split the `match` on a parser result in `h : … = .ok a rest`; only the `.ok` branch survives -/
macro "rsplit" h:ident : tactic =>
  `(tactic| (split at $h:ident <;> first | (cases $h:ident; done) | skip))

/-- The shape of what `OrCondition` returns rests on what it leaves: no OR follows, so the loop that
called it for a right operand ends there.  This is about the rest, of which `Run` does not speak. -/
theorem or_inv (f : Nat) : ∀ (ts : List Token) (c : Cond) (rest : List Token),
    (orCond f ts = .ok c rest → wfCond int64Lit c = true ∧ HeadNot [t_OR] rest) ∧
    (∀ ret, wfAnd int64Lit ret = true → orLoop f ret ts = .ok c rest → wfCond int64Lit c = true ∧ HeadNot [t_OR] rest) := by
  induction f with
  | zero => intro ts c rest; exact ⟨fun h => (by cases h), fun _ _ h => (by cases h)⟩
  | succ f ih =>
    intro ts c rest
    constructor
    · intro h
      rw [orCond_succ, bind_apply] at h
      rsplit h
      rename_i ret mid hp
      exact (ih mid c rest).2 ret (Run.ret (fun n => (Run.andBoth f n).1) (fun _ _ _ h => h.2) _ _ _ hp) h
    · intro ret hret h
      simp only [orLoop, bind_apply] at h
      rsplit h
      rename_i o mid hm
      rcases matchTy_inv hm with ⟨rfl, rfl, hn⟩ | ⟨t, rfl, _, _⟩
      · simp only [pure_apply] at h; cases h; exact ⟨wfCond_of_wfAnd _ _ hret, hn⟩
      · simp only [bind_apply] at h
        rsplit h
        rename_i rhs mid2 hrhs
        obtain ⟨h1, h2⟩ := (ih mid rhs mid2).1 hrhs
        cases f with
        | zero => cases h
        | succ f' =>
          rw [orLoop_miss _ _ _ h2] at h
          cases h
          exact ⟨by simp only [wfCond, hret, h1, Bool.and_self], h2⟩

theorem Run.orCond {f n : Nat} : Run (orCond f) (orCond f) n (n + 2 ≤ f)
    (Same fun c l x => CondQ c l x ∧ wfCond int64Lit c = true) :=
  ((Run.orBoth f n).1.andRet fun ts c rest h => ((or_inv f ts c rest).1 h).1).mono
    fun _ _ _ _ h _ => ⟨h.1.1, h.1.2, h.2⟩

section
variable {f n : Nat}

theorem Run.whereClause : Run (whereClause f) (whereClause f) n (n + 2 ≤ f) (Same fun o l x =>
    (osz Cond.size o ≤ 3 * l + x + 1 ∧ oval Cond.depth o ≤ l) ∧ wfOptCond int64Lit o = true) := by
  unfold Sql.whereClause
  hit Run.matchKw
  · retw
  · step Run.orCond.fuel
    retw

end

end Mkdb.Sql
