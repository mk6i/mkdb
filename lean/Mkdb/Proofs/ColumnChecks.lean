import Mkdb.Model.Engine
import Mkdb.Spec.Tables
import Mkdb.Proofs.ListOption
import Mkdb.Proofs.OpText
/-!
The column-name checks of the model as predicates.  The three checks (`checkColumnsFrom` of INSERT,
`checkFieldsFrom` of CREATE TABLE, `Engine.checkSetColumns` of UPDATE) are instances of one loop,
`checkFresh`, characterised once: it returns no error exactly when no name is bad and none occurs twice.
The plain model's `namesOK` is the same test (`namesOK_iff_checkColumns`, `namesOK_of_checkSetColumns`).
Nothing here runs on a store.
-/
set_option autoImplicit false
namespace Mkdb.Store
open Mkdb.Page Mkdb.Tuple Mkdb.Generated Mkdb.Tree

/-! ### lists without repetition -/

theorem nodup_append_singleton {α} {l : List α} {a : α} : (l ++ [a]).Nodup ↔ l.Nodup ∧ a ∉ l :=
  (List.perm_append_singleton a l).nodup_iff.trans (List.nodup_cons.trans And.comm)

/-! ### the shape the three name checks share -/

/-- Every element passes a test of its own (`bad a = none`) and carries a key that no earlier element
carried: `checkColumnsFrom`, `checkFieldsFrom` and `Engine.checkSetColumns` are instances. -/
def checkFresh {α κ} [BEq κ] (bad : α → Option SErr) (key : α → κ) : List κ → List α → Option SErr
  | _, [] => none
  | seen, a :: rest =>
    match bad a with
    | some e => some e
    | none =>
      if seen.contains (key a) then some .fieldAmbiguous else checkFresh bad key (seen ++ [key a]) rest

theorem checkFresh_none_iff {α κ} [BEq κ] [LawfulBEq κ] (bad : α → Option SErr) (key : α → κ) :
    ∀ (l : List α) (seen : List κ), checkFresh bad key seen l = none ↔
      (∀ a ∈ l, bad a = none) ∧ (∀ a ∈ l, key a ∉ seen) ∧ (l.map key).Nodup
  | [], seen => by simp [checkFresh]
  | a :: rest, seen => by
    unfold checkFresh
    cases hb : bad a with
    | some e =>
      simp only
      exact ⟨nofun, fun h => nomatch hb.symm.trans (h.1 a List.mem_cons_self)⟩
    | none =>
      by_cases h2 : seen.contains (key a) = true
      · simp only [h2, if_true]
        exact ⟨nofun, fun ⟨_, h, _⟩ => absurd (List.contains_iff_mem.mp h2) (h a List.mem_cons_self)⟩
      · simp only [h2, Bool.false_eq_true, if_false]
        have h2' : key a ∉ seen := fun hm => h2 (List.contains_iff_mem.mpr hm)
        rw [checkFresh_none_iff bad key rest (seen ++ [key a]), List.map_cons, List.nodup_cons]
        constructor
        · intro ⟨a1, a2, a3⟩
          refine ⟨?_, ?_, ?_, a3⟩
          · intro x hx
            rcases List.mem_cons.mp hx with rfl | hx
            · exact hb
            · exact a1 x hx
          · intro x hx
            rcases List.mem_cons.mp hx with rfl | hx
            · exact h2'
            · exact fun hm => a2 x hx (List.mem_append_left _ hm)
          · intro hm
            obtain ⟨x, hx, hxa⟩ := List.mem_map.mp hm
            exact a2 x hx (List.mem_append_right _ (List.mem_singleton.mpr hxa))
        · intro ⟨b1, b2, b3a, b3b⟩
          refine ⟨fun x hx => b1 x (List.mem_cons_of_mem _ hx), ?_, b3b⟩
          intro x hx hm
          rcases List.mem_append.mp hm with hm | hm
          · exact b2 x (List.mem_cons_of_mem _ hx) hm
          · exact b3a (List.mem_map.mpr ⟨x, hx, List.mem_singleton.mp hm⟩)

theorem checkFresh_some {α κ} [BEq κ] (bad : α → Option SErr) (key : α → κ) :
    ∀ (l : List α) (seen : List κ) (e : SErr), checkFresh bad key seen l = some e →
      e = .fieldAmbiguous ∨ ∃ a ∈ l, bad a = some e
  | [], _, _, h => nomatch h
  | a :: rest, seen, e, h => by
    unfold checkFresh at h
    cases hb : bad a with
    | some e' =>
      rw [hb] at h
      exact .inr ⟨a, List.mem_cons_self, hb.trans h⟩
    | none =>
      rw [hb] at h
      simp only at h
      split at h
      · exact .inl (Option.some.inj h).symm
      · exact (checkFresh_some bad key rest _ e h).imp id fun ⟨x, hx, hxe⟩ => ⟨x, List.mem_cons_of_mem _ hx, hxe⟩

/-! ### `checkColumns` -/

theorem any_name_iff (schema : List FieldDef) (c : String) :
    (schema.any fun fd => fd.name == c) = true ↔ c ∈ schema.map (·.name) := by
  rw [List.any_eq_true, List.mem_map]
  constructor
  · rintro ⟨fd, hfd, hb⟩; exact ⟨fd, hfd, by simpa using hb⟩
  · rintro ⟨fd, hfd, hb⟩; exact ⟨fd, hfd, by simpa using hb⟩

theorem checkColumnsFrom_eq (schema : List FieldDef) : ∀ (cs seen : List String),
    checkColumnsFrom schema seen cs =
      checkFresh (fun c => if schema.any (fun fd => fd.name == c) then none else some .fieldNotFound) id seen cs
  | [], _ => rfl
  | c :: rest, seen => by
    unfold checkColumnsFrom checkFresh
    rw [checkColumnsFrom_eq schema rest]
    cases schema.any (fun fd => fd.name == c) <;> rfl

theorem checkColumnsFrom_none_iff (schema : List FieldDef) (cs seen : List String) :
    checkColumnsFrom schema seen cs = none ↔
      (∀ c ∈ cs, c ∈ schema.map (·.name)) ∧ (∀ c ∈ cs, c ∉ seen) ∧ cs.Nodup := by
  have hb : ∀ c : String, (if (schema.any fun fd => fd.name == c) = true then none else some SErr.fieldNotFound) = none ↔
      c ∈ schema.map (·.name) := fun c => by rw [← any_name_iff]; split <;> simp [*]
  rw [checkColumnsFrom_eq, checkFresh_none_iff, List.map_id]
  simp only [hb, id]

theorem checkColumnsFrom_some (schema : List FieldDef) (cs seen : List String) (e : SErr)
    (h : checkColumnsFrom schema seen cs = some e) : e = .fieldNotFound ∨ e = .fieldAmbiguous := by
  rw [checkColumnsFrom_eq] at h
  rcases checkFresh_some _ _ _ _ _ h with rfl | ⟨c, _, hc⟩
  · exact .inr rfl
  · split at hc
    · cases hc
    · exact .inl (Option.some.inj hc).symm

theorem checkColumns_some {schema : List FieldDef} {cs : List String} {e : SErr}
    (h : checkColumns schema cs = some e) : e = .fieldNotFound ∨ e = .fieldAmbiguous :=
  checkColumnsFrom_some schema cs [] e h

theorem checkColumns_none_iff (schema : List FieldDef) (cs : List String) :
    checkColumns schema cs = none ↔ (∀ c ∈ cs, c ∈ schema.map (·.name)) ∧ cs.Nodup := by
  unfold checkColumns
  rw [checkColumnsFrom_none_iff]
  simp

theorem checkColumns_unknown {schema : List FieldDef} {cs : List String} {c : String}
    (hc : c ∈ cs) (hn : c ∉ schema.map (·.name)) : ∃ e, checkColumns schema cs = some e := by
  cases h : checkColumns schema cs with
  | some e => exact ⟨e, rfl⟩
  | none => exact absurd (((checkColumns_none_iff schema cs).mp h).1 c hc) hn

/-- an INSERT without a column list names every column of the relation: the check passes exactly
when the relation has no two columns of one name -/
theorem checkColumns_self (schema : List FieldDef) :
    checkColumns schema (schema.map (·.name)) = none ↔ (schema.map (·.name)).Nodup := by
  rw [checkColumns_none_iff]
  exact ⟨fun h => h.2, fun h => ⟨fun _ hc => hc, h⟩⟩

/-! ### the plain model's `namesOK` -/

theorem namesOK_iff (t : Spec.STable) (names : List String) :
    Spec.namesOK t names = true ↔ (∀ c ∈ names, c ∈ t.cols.map (·.name)) ∧ names.Nodup := by
  unfold Spec.namesOK
  rw [Bool.and_eq_true, List.all_eq_true, beq_iff_eq, eraseDups_length_eq_iff]
  constructor
  · intro ⟨h1, h2⟩
    exact ⟨fun c hc => (any_name_iff t.cols c).mp (h1 c hc), h2⟩
  · intro ⟨h1, h2⟩
    exact ⟨fun c hc => (any_name_iff t.cols c).mpr (h1 c hc), h2⟩

theorem namesOK_iff_checkColumns (t : Spec.STable) (names : List String) :
    Spec.namesOK t names = true ↔ checkColumns t.cols names = none := by
  rw [namesOK_iff, checkColumns_none_iff]

theorem not_namesOK_checkColumns {t : Spec.STable} {names : List String}
    (h : Spec.namesOK t names = false) :
    ∃ e, checkColumns t.cols names = some e ∧ (e = .fieldNotFound ∨ e = .fieldAmbiguous) := by
  cases hc : checkColumns t.cols names with
  | some e => exact ⟨e, rfl, checkColumns_some hc⟩
  | none =>
    rw [(namesOK_iff_checkColumns t names).mpr hc] at h
    cases h

/-! ### CREATE TABLE: `checkFieldsFrom` -/

theorem checkFieldsFrom_eq : ∀ (fields : List FieldDef) (seen : List String),
    checkFieldsFrom seen fields =
      checkFresh (fun fd : FieldDef =>
        if fd.len > 2147483647 || fd.len < -2147483648 then some .intOutOfRange else none) (·.name) seen fields
  | [], _ => rfl
  | fd :: rest, seen => by
    unfold checkFieldsFrom checkFresh
    rw [checkFieldsFrom_eq rest]
    cases (decide (fd.len > 2147483647) || decide (fd.len < -2147483648)) <;> rfl

theorem checkFieldsFrom_none_iff (fields : List FieldDef) (seen : List String) :
    checkFieldsFrom seen fields = none ↔
      (∀ fd ∈ fields, -2147483648 ≤ fd.len ∧ fd.len ≤ 2147483647) ∧
      (∀ fd ∈ fields, fd.name ∉ seen) ∧ (fields.map (·.name)).Nodup := by
  have hb : ∀ fd : FieldDef, (if (decide (fd.len > 2147483647) || decide (fd.len < -2147483648)) = true
      then some SErr.intOutOfRange else none) = none ↔ -2147483648 ≤ fd.len ∧ fd.len ≤ 2147483647 := by
    intro fd
    split
    · rename_i h
      simp only [Bool.or_eq_true, decide_eq_true_eq] at h
      exact ⟨nofun, fun _ => by omega⟩
    · rename_i h
      simp only [Bool.or_eq_true, decide_eq_true_eq, not_or] at h
      exact ⟨fun _ => by omega, fun _ => rfl⟩
  rw [checkFieldsFrom_eq, checkFresh_none_iff]
  simp only [hb]

theorem checkFields_none_iff (fields : List FieldDef) :
    checkFieldsFrom [] fields = none ↔
      (∀ fd ∈ fields, -2147483648 ≤ fd.len ∧ fd.len ≤ 2147483647) ∧ (fields.map (·.name)).Nodup := by
  rw [checkFieldsFrom_none_iff]
  simp

/-! ### UPDATE: `checkSetColumns` -/

theorem checkSetColumns_eq (fields : List Exec.Field) : ∀ (cs seen : List Bytes),
    Engine.checkSetColumns fields seen cs =
      checkFresh (fun c =>
        if (fields.filter fun f => f.column == c).length == 0 then some .fieldNotFound
        else if (fields.filter fun f => f.column == c).length > 1 then some .fieldAmbiguous else none) id seen cs
  | [], _ => rfl
  | c :: rest, seen => by
    unfold Engine.checkSetColumns checkFresh
    rw [checkSetColumns_eq fields rest]
    simp only [id]
    by_cases h0 : ((fields.filter fun f => f.column == c).length == 0) = true
    · rw [if_pos h0, if_pos h0]
    · rw [if_neg h0, if_neg h0]
      by_cases h1 : (fields.filter fun f => f.column == c).length > 1
      · rw [if_pos h1, if_pos h1]
      · rw [if_neg h1, if_neg h1]

theorem checkSetColumns_some (fields : List Exec.Field) (cs seen : List Bytes) (e : SErr)
    (h : Engine.checkSetColumns fields seen cs = some e) : e = .fieldNotFound ∨ e = .fieldAmbiguous := by
  rw [checkSetColumns_eq] at h
  rcases checkFresh_some _ _ _ _ _ h with rfl | ⟨c, _, hc⟩
  · exact .inr rfl
  · split at hc
    · exact .inl (Option.some.inj hc).symm
    · split at hc
      · exact .inr (Option.some.inj hc).symm
      · cases hc

theorem checkSetColumns_none_iff (fields : List Exec.Field) (cs seen : List Bytes) :
    Engine.checkSetColumns fields seen cs = none ↔
      (∀ c ∈ cs, (fields.filter fun f => f.column == c).length = 1) ∧ (∀ c ∈ cs, c ∉ seen) ∧ cs.Nodup := by
  have hb : ∀ c : Bytes, (if ((fields.filter fun f => f.column == c).length == 0) = true then some SErr.fieldNotFound
      else if (fields.filter fun f => f.column == c).length > 1 then some SErr.fieldAmbiguous else none) = none ↔
      (fields.filter fun f => f.column == c).length = 1 := by
    intro c
    split
    · rename_i h
      simp only [beq_iff_eq] at h
      exact ⟨nofun, fun h' => by omega⟩
    · rename_i h
      simp only [beq_iff_eq] at h
      split
      · exact ⟨nofun, fun h' => by omega⟩
      · exact ⟨fun _ => by omega, fun _ => rfl⟩
  rw [checkSetColumns_eq, checkFresh_none_iff, List.map_id]
  simp only [hb, id]

theorem filter_name_length_one {α β} [BEq β] [LawfulBEq β] (f : α → β) (k : β) (l : List α)
    (hnd : (l.map f).Nodup) (hk : k ∈ l.map f) : (l.filter fun x => f x == k).length = 1 := by
  have h := hnd.count (a := k)
  rw [if_pos hk, List.count_eq_countP, List.countP_map, List.countP_eq_length_filter] at h
  exact h

theorem filter_fields_length (schema : List FieldDef) (c : Bytes) :
    ((schema.map fun fd => (⟨[], fd.name.toUTF8.toList⟩ : Exec.Field)).filter fun f => f.column == c).length =
      (schema.filter fun fd => fd.name.toUTF8.toList == c).length := by
  rw [List.filter_map, List.length_map]
  rfl

theorem name_of_toUTF8 {fd : FieldDef} {c : Bytes} (h : fd.name.toUTF8.toList = c) :
    fd.name = Spec.nameStr c := by
  rw [← h]
  exact (nameOfBytes_toUTF8 fd.name).symm

/-- **The SET columns, plain model ⇒ model.**  For SET names that are valid UTF-8 and a table no two
columns of which have one name: names the plain model accepts pass the model's check. -/
theorem checkSetColumns_of_namesOK (t : Spec.STable) (cs : List Bytes)
    (hnd : (t.cols.map (·.name)).Nodup) (hutf : ∀ c ∈ cs, (Spec.nameStr c).toUTF8.toList = c)
    (h : Spec.namesOK t (cs.map Spec.nameStr) = true) :
    Engine.checkSetColumns (Spec.fieldsOfTable t) [] cs = none := by
  obtain ⟨h1, h2⟩ := (namesOK_iff t _).mp h
  rw [checkSetColumns_none_iff]
  refine ⟨?_, fun _ _ => List.not_mem_nil, ?_⟩
  · intro c hc
    unfold Spec.fieldsOfTable
    rw [filter_fields_length]
    refine filter_name_length_one (fun fd : FieldDef => fd.name.toUTF8.toList) c t.cols ?_ ?_
    · -- distinct names have distinct bytes: `nameOfBytes` reads the name back
      have : ((t.cols.map (·.name)).map fun s : String => s.toUTF8.toList).Nodup :=
        List.Pairwise.map _ (fun a b hab heq => hab (by rw [← nameOfBytes_toUTF8 a, heq, nameOfBytes_toUTF8])) hnd
      rwa [List.map_map] at this
    · obtain ⟨fd, hfd, hn⟩ := List.mem_map.mp (h1 _ (List.mem_map.mpr ⟨c, hc, rfl⟩))
      exact List.mem_map.mpr ⟨fd, hfd, by rw [hn]; exact hutf c hc⟩
  · exact List.Pairwise.of_map Spec.nameStr (fun a b hab heq => hab (by rw [heq])) h2

/-- **The SET columns, model ⇒ plain model** (no hypothesis): SET names that pass the model's check
are columns of the table, each named once. -/
theorem namesOK_of_checkSetColumns (t : Spec.STable) (cs : List Bytes)
    (h : Engine.checkSetColumns (Spec.fieldsOfTable t) [] cs = none) :
    Spec.namesOK t (cs.map Spec.nameStr) = true := by
  obtain ⟨h1, _, h3⟩ := (checkSetColumns_none_iff _ _ _).mp h
  have hfd : ∀ c ∈ cs, ∃ fd ∈ t.cols, fd.name.toUTF8.toList = c := by
    intro c hc
    have := h1 c hc
    unfold Spec.fieldsOfTable at this
    rw [filter_fields_length] at this
    obtain ⟨fd, hm⟩ := List.exists_mem_of_length_pos (Nat.lt_of_lt_of_eq Nat.zero_lt_one this.symm)
    obtain ⟨hm1, hm2⟩ := List.mem_filter.mp hm
    exact ⟨fd, hm1, by simpa using hm2⟩
  have hutf : ∀ c ∈ cs, (Spec.nameStr c).toUTF8.toList = c := by
    intro c hc
    obtain ⟨fd, _, hfdc⟩ := hfd c hc
    rw [← name_of_toUTF8 hfdc]
    exact hfdc
  rw [namesOK_iff]
  constructor
  · intro n hn
    obtain ⟨c, hc, rfl⟩ := List.mem_map.mp hn
    obtain ⟨fd, hfd1, hfd2⟩ := hfd c hc
    exact List.mem_map.mpr ⟨fd, hfd1, name_of_toUTF8 hfd2⟩
  · rw [List.Nodup, List.pairwise_map]
    refine List.Pairwise.imp_of_mem ?_ h3
    intro a b ha hb hab heq
    apply hab
    rw [← hutf a ha, ← hutf b hb, heq]

theorem checkSetColumns_some_of_not_namesOK (t : Spec.STable) (cs : List Bytes)
    (h : Spec.namesOK t (cs.map Spec.nameStr) = false) :
    ∃ e, Engine.checkSetColumns (Spec.fieldsOfTable t) [] cs = some e ∧
      (e = .fieldNotFound ∨ e = .fieldAmbiguous) := by
  cases hc : Engine.checkSetColumns (Spec.fieldsOfTable t) [] cs with
  | some e => exact ⟨e, rfl, checkSetColumns_some _ _ _ _ hc⟩
  | none =>
    rw [namesOK_of_checkSetColumns t cs hc] at h
    cases h

/-- once the SET columns passed the statement's check, the per-row `checkColumns` of
`RelationService.Update` passes too -/
theorem checkSetColumns_none_checkColumns (schema : List FieldDef) (cs : List Bytes)
    (h : Engine.checkSetColumns (schema.map fun fd => (⟨[], fd.name.toUTF8.toList⟩ : Exec.Field)) [] cs = none) :
    checkColumns schema (cs.map Engine.bytesToName) = none :=
  (namesOK_iff_checkColumns ⟨[], schema, []⟩ _).mp (namesOK_of_checkSetColumns ⟨[], schema, []⟩ cs h)

end Mkdb.Store
