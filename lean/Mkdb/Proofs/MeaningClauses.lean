import Mkdb.Proofs.Select
import Mkdb.Proofs.Join
/-!
`evaluateSelect` against the reference meaning `Spec.meaning` / `Spec.satisfies` (the pair the
differential-testing judge evaluates on the output of the real implementation, see
`Mkdb/Driver/Exec.lean`): the pieces shared by C05 / C06 / C07 -

* `Spec.meaning` split into its FROM, WHERE (`specWhere`) and select-list (`specTail`, with the
  grouping part `specAgg`) parts;
* the header the judge hands to `Spec.satisfies` (`judgeHeader`);
* WHERE: `filterRows` against the `mapM` / `zip` / `filterMap` comprehension.
(The executor's loop `mapX` against `List.mapM`: `Mkdb/Proofs/ExecLoops.lean`.)

Namespaces of the executor proofs (`…P`: proofs about that part of `Mkdb.Exec`) and their modules: `SelectP` - `Select`;
`JoinP` - `Join`, `TableNames`; `AliasCaptureP` - `AliasCapture`; `AggP`, `GroupNoAggP` - the two sections of `Aggregate`;
`NoPanicP` - `NoPanicExec`, the end of `TypedWalk`; `TypedP` - `Kinds`, `TypedWalk`; `MeaningP` - this module,
`MeaningSelectList`, `MeaningAggCells`, `MeaningAggregateRows`, `MeaningPipeline` and the first section of `SortAny`
(`keyseq_unique`); `SortAnyP` - the rest of `SortAny`.
The `fetch : Bytes → Option Table` of all theorems is any function; for a stored database it is `Session.fetchOfDB`
(`Model/Session`), whose tables are well shaped and typed by `Proofs/StoredSelect` (`fetchOf`) and `SessionSelect`.
-/
namespace Mkdb.Exec.MeaningP
open Mkdb.Sql Mkdb.Tuple Mkdb.Spec Mkdb.Exec.SelectP

/-! ### `Spec.meaning`, clause by clause -/

/-- the WHERE part of `Spec.meaning` -/
def specWhere (w : Option Cond) (fields : List Field) (src : List Row) : Option (List Row) :=
  match w with
  | none => some src
  | some c => do
    let t ← src.mapM (holds c fields)
    pure ((src.zip t).filterMap fun (r, b) => if b then some r else none)

/-- the grouping part of `Spec.meaning` (the text of the specification, verbatim) -/
def specAgg (q : Select) (fields : List Field) (src : List Row) : Option (List Row) := do
  let gidx ← q.groupBy.mapM (groupIdx q.list)
  let gitems := gidx.filterMap fun i => q.list[i]?
  let keyOf (r : Row) : Option (List Val) := gitems.mapM fun d => itemVal d.item fields r
  let keys ← src.mapM keyOf
  if q.groupBy.isEmpty then
    (do let row ← q.list.mapM fun d =>
          if src.isEmpty then (if isAgg d.item then some (.int 0) else itemVal d.item [] [])
          else aggVal d.item fields src
        pure [row])
  else
    (distinctKeys keys).mapM fun k =>
      let grp := (src.zip keys).filterMap fun (r, k') => if k' == k then some r else none
      q.list.mapM fun d => aggVal d.item fields grp

/-- the select-list / GROUP BY part of `Spec.meaning` -/
def specTail (q : Select) (fields : List Field) (src : List Row) : Option (List Row) :=
  if isStar q.list then
    (if q.groupBy.isEmpty && !(q.list.any fun d => isAgg d.item) then some src else none)
  else do
  let _ ← (q.list.flatMap fun d => itemColumns d.item).mapM fun c =>
    match findColumn c fields with | .ok i => some i | _ => none
  if !(q.list.any fun d => isAgg d.item) && q.groupBy.isEmpty then
    src.mapM fun r => q.list.mapM fun d => itemVal d.item fields r
  else specAgg q fields src

/-- the test that sends a query to the grouping part of the executor and of the meaning -/
def groups (q : Select) : Bool := hasAggr q.list || !q.groupBy.isEmpty

theorem groups_iff (q : Select) : groups q = true ↔ (!hasAggr q.list && q.groupBy.isEmpty) = false := by
  unfold groups
  cases hasAggr q.list <;> cases q.groupBy.isEmpty <;> simp

theorem groups_eq_false {q : Select} :
    groups q = false ↔ hasAggr q.list = false ∧ q.groupBy = [] := by
  unfold groups
  cases hasAggr q.list <;> cases q.groupBy <;> simp

theorem no_groups {q : Select} (hagg : hasAggr q.list = false) (hgb : q.groupBy = []) {P : Prop}
    (hg : groups q = true) : P := by
  rw [groups_eq_false.2 ⟨hagg, hgb⟩] at hg; cases hg

/-- `Spec.meaning` is: the FROM clause, then WHERE, then the select list -/
theorem meaning_of {fetch : Bytes → Option Table} {q : Select} {tr : TableRef} {src : List Row}
    {fields : List Field} (hf : q.from_ = some tr) (hr : fromRows fetch tr = some (src, fields)) :
    meaning fetch q = (specWhere q.where_ fields src).bind (specTail q fields) := by
  unfold meaning
  rw [hf]
  show (fromRows fetch tr >>= _) = _
  rw [hr]
  unfold specWhere specTail
  cases q.where_ with
  | none => rfl
  | some c =>
    simp only [Option.bind_eq_bind, Option.bind_some]
    cases List.mapM (holds c fields) src <;> rfl

theorem meaning_none_from {fetch : Bytes → Option Table} {q : Select} {tr : TableRef}
    (hf : q.from_ = some tr) (hr : fromRows fetch tr = none) : meaning fetch q = none := by
  unfold meaning
  rw [hf]
  show (fromRows fetch tr >>= _) = _
  rw [hr]; rfl

theorem meaning_no_from {fetch : Bytes → Option Table} {q : Select}
    (hf : q.from_ = none) : meaning fetch q = none := by
  unfold meaning
  rw [hf]; rfl

theorem meaning_some_from {fetch : Bytes → Option Table} {q : Select} {want : List Row}
    (h : meaning fetch q = some want) :
    ∃ tr src fields, q.from_ = some tr ∧ fromRows fetch tr = some (src, fields) := by
  cases hf : q.from_ with
  | none => rw [meaning_no_from hf] at h; cases h
  | some tr =>
    cases hr : fromRows fetch tr with
    | none => rw [meaning_none_from hf hr] at h; cases h
    | some p => obtain ⟨s, f⟩ := p; exact ⟨tr, s, f, rfl, hr⟩

/-! ### the header the judge passes to `Spec.satisfies`

`judgeLine` (`Mkdb/Driver/Exec.lean`) computes `fields` from `Spec.fromRows` and the header as
`projectColumns q.list fields []`: the same two expressions. -/

def judgeFields (fetch : Bytes → Option Table) (q : Select) : List Field :=
  match q.from_ with
  | some tr => (match Spec.fromRows fetch tr with | some (_, f) => f | none => [])
  | none => []

def judgeHeader (fetch : Bytes → Option Table) (q : Select) : List Field :=
  match projectColumns q.list (judgeFields fetch q) [] with | .ok (_, h) => h | _ => []

theorem judgeFields_of {fetch : Bytes → Option Table} {q : Select} {tr : TableRef} {src : List Row}
    {fields : List Field} (hf : q.from_ = some tr) (hr : fromRows fetch tr = some (src, fields)) :
    judgeFields fetch q = fields := by
  unfold judgeFields; rw [hf]; simp only [hr]

theorem judgeHeader_of {fetch : Bytes → Option Table} {q : Select} {hdr : List Field}
    (h : projectColumns q.list (judgeFields fetch q) [] = .ok ([], hdr)) :
    judgeHeader fetch q = hdr := by
  unfold judgeHeader; rw [h]

theorem any_isAgg_eq_hasAggr (sl : List DerivedCol) :
    (sl.any fun d => isAgg d.item) = hasAggr sl := by
  unfold hasAggr
  congr 1

theorem mapM_some_length {α β : Type} {g : α → Option β} {l : List α} {r : List β}
    (h : l.mapM g = some r) : r.length = l.length :=
  Mkdb.mapM_some_length h

/-! ### WHERE -/

/-- the WHERE clause is a condition: not a bare integer or string literal (`WHERE 5`,
`WHERE 'x'`), which the executor accepts - it selects no row - and the specification does not -/
def condIsBoolean : Cond → Bool
  | .val (.lit (.int _)) => false
  | .val (.lit (.str _)) => false
  | _ => true

def whereIsBoolean (q : Select) : Bool :=
  match q.where_ with
  | some c => condIsBoolean c
  | none => true

theorem evaluate_bool {c : Cond} (hc : condIsBoolean c = true) {fields : List Field} {row : Row}
    {v : Val} (h : evaluate c fields row = .ok v) : ∃ b, v = .bool b := by
  cases c with
  | val e =>
    cases e with
    | lit l =>
      cases l with
      | int i => cases hc
      | str s => cases hc
      | bool b => simp only [evaluate, litVal, X.ok.injEq] at h; exact ⟨b, h.symm⟩
    | col c => simp only [evaluate] at h; cases h
  | pred p =>
    simp only [evaluate] at h
    obtain ⟨b, _, hb⟩ := bind_eq_ok.1 h
    simp only [pure_eq_ok, X.ok.injEq] at hb
    exact ⟨b, hb.symm⟩
  | and p r =>
    simp only [evaluate] at h
    obtain ⟨a, _, h⟩ := bind_eq_ok.1 h
    obtain ⟨w, _, h⟩ := bind_eq_ok.1 h
    split at h
    · exact ⟨_, (X.ok.inj h).symm⟩
    · cases h
  | or l r =>
    simp only [evaluate] at h
    obtain ⟨a, _, h⟩ := bind_eq_ok.1 h
    obtain ⟨w, _, h⟩ := bind_eq_ok.1 h
    split at h
    · exact ⟨_, (X.ok.inj h).symm⟩
    · cases h

theorem holds_some_iff {c : Cond} {fields : List Field} {row : Row} {b : Bool} :
    holds c fields row = some b ↔ evaluate c fields row = .ok (.bool b) := by
  constructor
  · exact JoinP.holds_eq_some
  · intro h; unfold holds; rw [h]

theorem specWhere_some {c : Cond} {fields : List Field} {src out : List Row} :
    specWhere (some c) fields src = some out ↔
      (∀ r ∈ src, ∃ b, evaluate c fields r = .ok (.bool b)) ∧ out = src.filter (keeps c fields) := by
  unfold specWhere
  constructor
  · intro h
    cases hT : src.mapM (holds c fields) with
    | none => simp [hT] at h
    | some tl =>
      simp only [hT, Option.bind_eq_bind, Option.bind_some, Option.pure_def, Option.some.injEq] at h
      obtain ⟨htl, hall⟩ := mapM_some_eq_map (g := fun r => keeps c fields r) hT
        (by intro a _ b hb; rw [keeps_eq_holds, hb]; cases b <;> rfl)
      subst htl
      rw [zip_map_filterMap] at h
      exact ⟨fun r hr => ⟨_, JoinP.holds_eq_some (hall r hr)⟩, h.symm⟩
  · rintro ⟨hall, rfl⟩
    obtain ⟨tl, hT⟩ := mapM_some_of_forall (f := holds c fields) (l := src)
      (fun r hr => by obtain ⟨b, hb⟩ := hall r hr; exact ⟨b, holds_some_iff.2 hb⟩)
    obtain ⟨htl, _⟩ := mapM_some_eq_map (g := fun r => keeps c fields r) hT
      (by intro a _ b hb; rw [keeps_eq_holds, hb]; cases b <;> rfl)
    subst htl
    simp only [hT, Option.bind_eq_bind, Option.bind_some, Option.pure_def, Option.some.injEq]
    exact zip_map_filterMap _ _

theorem whereX_ok_spec {w : Option Cond} {fields : List Field} {src out : List Row}
    (hb : (match w with | some c => condIsBoolean c | none => true) = true)
    (h : whereX w fields src = .ok out) : specWhere w fields src = some out := by
  cases w with
  | none => simp only [whereX, pure_eq_ok, X.ok.injEq] at h; subst h; rfl
  | some c =>
    obtain ⟨hall, hout⟩ := filterRows_ok_iff.1 h
    refine specWhere_some.2 ⟨fun r hr => ?_, hout⟩
    obtain ⟨v, hv⟩ := hall r hr
    obtain ⟨b, rfl⟩ := evaluate_bool hb hv
    exact ⟨b, hv⟩

theorem specWhere_whereX {w : Option Cond} {fields : List Field} {src out : List Row}
    (h : specWhere w fields src = some out) : whereX w fields src = .ok out := by
  cases w with
  | none => simp only [specWhere, Option.some.injEq] at h; subst h; rfl
  | some c =>
    obtain ⟨hall, rfl⟩ := specWhere_some.1 h
    exact filterRows_ok_iff.2 ⟨fun r hr => by obtain ⟨b, hb⟩ := hall r hr; exact ⟨_, hb⟩, rfl⟩

theorem specWhere_subset {w : Option Cond} {fields : List Field} {src out : List Row}
    (h : specWhere w fields src = some out) : ∀ r ∈ out, r ∈ src := by
  cases w with
  | none => cases h; exact fun _ hr => hr
  | some c => rw [(specWhere_some.1 h).2]; exact fun r hr => (List.mem_filter.1 hr).1

theorem specWhere_perm {w : Option Cond} {fields : List Field} {src src' out : List Row}
    (hp : src'.Perm src) (h : specWhere w fields src = some out) :
    ∃ out', specWhere w fields src' = some out' ∧ out'.Perm out := by
  cases w with
  | none =>
    simp only [specWhere, Option.some.injEq] at h; subst h
    exact ⟨src', rfl, hp⟩
  | some c =>
    obtain ⟨hall, rfl⟩ := specWhere_some.1 h
    exact ⟨_, specWhere_some.2 ⟨fun r hr => hall r (hp.mem_iff.1 hr), rfl⟩, hp.filter _⟩

end Mkdb.Exec.MeaningP
