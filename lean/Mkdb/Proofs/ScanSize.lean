import Mkdb.Proofs.AstSize
import Mkdb.Proofs.ScanLoops
/-!
The scanner is total and its output is bounded by its input (C09 "terminates" and "never exhausts
memory", scanner half).  Every function of the scanner model returns a suffix of its input and a token
takes at least one rune (`ScanStep`), so the fuel `scanSQL` starts with is enough, every token is made of
runes no other token uses, the number of tokens is at most the number of runes and their text at most
the bytes of the runes (plus the two bytes of the ILLEGAL token that stands for an unterminated
comment): one induction over the token loop, for any keyword lookup, `scanLoop_total`.
-/
namespace Mkdb.Scan
open Mkdb.Generated Mkdb.Sql

/-! ## One token -/

theorem tail_suffix_of_suffix {a b : Input} (h : a <:+ b) : a.tail <:+ b :=
  List.IsSuffix.trans (List.tail_suffix a) h

/-- `scanTok` gives a token the runes `l.take (l.length - rest.length)` (`done` in the model), which are
what stands in `l` before `rest` only because every helper loop returns a suffix of what it is given -/
theorem take_append_of_suffix {rest l : Input} (h : rest <:+ l) :
    l.take (l.length - rest.length) ++ rest = l := by
  obtain ⟨p, rfl⟩ := h
  simp

/-- What `scanTok` returns on `l`: a token (never `none`) whose runes `rs`, followed by what is left, are
the end of `l`, and unless the token is EOF what is left is shorter than `l`.  What stands in `l` before
`rs` (white space and comments) is not described.  Not to be confused with `TokOK`
(`Proofs/ScanTextTokens`), the tokens that have a written form. -/
def ScanStep (l : Input) (o : Option (Kind × Input × Input)) : Prop :=
  ∃ k rs rest, o = some (k, rs, rest) ∧ rs ++ rest <:+ l ∧ (k ≠ .eof → rest.length < l.length)

theorem ScanStep.ite {l : Input} {c : Prop} [Decidable c] {a b : Option (Kind × Input × Input)}
    (ha : c → ScanStep l a) (hb : ¬c → ScanStep l b) : ScanStep l (if c then a else b) := by
  split
  · exact ha ‹_›
  · exact hb ‹_›

/-- a token scanned from a suffix of `l` (behind white space, behind a comment) is a token scanned from `l` -/
theorem ScanStep.of_suffix {X l : Input} {o : Option (Kind × Input × Input)} (hs : X <:+ l) (h : ScanStep X o) :
    ScanStep l o := by
  obtain ⟨k, rs, rest, he, h1, h2⟩ := h
  exact ⟨k, rs, rest, he, h1.trans hs, fun hk => Nat.lt_of_lt_of_le (h2 hk) hs.length_le⟩

/-- a token that starts with the rune `r` and ends somewhere behind it -/
theorem ScanStep.done {rest rest' : Input} {r : Rune} {k : Kind} (h : rest' <:+ rest) :
    ScanStep (r :: rest) (some (k, (r :: rest).take ((r :: rest).length - rest'.length), rest')) := by
  refine ⟨_, _, _, rfl, ?_, fun _ => ?_⟩
  · rw [take_append_of_suffix (h.trans (List.suffix_cons r rest))]; exact List.suffix_refl _
  · have := h.length_le
    rw [List.length_cons]
    omega

theorem suffix_of_cons {a rest : Input} {r : Rune} (h : a <:+ r :: rest) (hl : a.length ≤ rest.length) :
    a <:+ rest := by
  rcases List.suffix_cons_iff.1 h with e | e
  · rw [e, List.length_cons] at hl; omega
  · exact e

theorem scanTok_ok : ∀ fuel (l : Input), l.length < fuel → ScanStep l (scanTok fuel l) := by
  intro fuel
  induction fuel with
  | zero => intro l h; omega
  | succ fuel ih =>
    intro l0 h
    unfold scanTok
    simp only []
    have hw := skipWs_suffix l0
    cases hl : skipWs l0 with
    | nil => exact ⟨.eof, [], [], rfl, List.nil_suffix, fun h => absurd rfl h⟩
    | cons r rest =>
      rw [hl] at hw
      simp only []
      have hlen := hw.length_le
      rw [List.length_cons] at hlen
      refine ScanStep.of_suffix hw ?_
      -- after a comment the scan goes on at least two runes further on
      have hrec : ∀ X : Input, X.length + 2 ≤ (r :: rest).length → X <:+ r :: rest →
          ScanStep (r :: rest) (scanTok fuel X) := fun X hX hs =>
        (ih X (by rw [List.length_cons] at hX; omega)).of_suffix hs
      clear ih hl h
      refine ScanStep.ite (fun _ => ScanStep.done (scanIdentTail_suffix rest)) fun _ => ?_
      refine ScanStep.ite (fun hd => ScanStep.done
        (suffix_of_cons (scanNumber_suffix (r :: rest) false) (scanNumber_lt r rest hd))) fun _ => ?_
      refine ScanStep.ite (fun _ => ScanStep.done
        (tail_suffix_of_suffix (scanStringBody_suffix 34 rest .normal))) fun _ => ?_
      refine ScanStep.ite (fun _ => ScanStep.done
        (tail_suffix_of_suffix (scanStringBody_suffix 39 rest .normal))) fun _ => ?_
      refine ScanStep.ite (fun _ => ?_) fun _ => ?_
      · cases rest with
        | nil => exact ScanStep.done (List.suffix_refl _)
        | cons d tl =>
          exact ScanStep.ite (fun _ => ScanStep.done (scanNumber_suffix (d :: tl) true))
            (fun _ => ScanStep.done (List.suffix_refl _))
      refine ScanStep.ite (fun _ => ?_) fun _ => ?_
      · cases rest with
        | nil => exact ScanStep.done (List.suffix_refl _)
        | cons c rest' =>
          have hcc : rest' <:+ r :: c :: rest' :=
            (List.suffix_cons c rest').trans (List.suffix_cons r _)
          refine ScanStep.ite (fun _ => ?_) fun _ => ScanStep.ite (fun _ => ?_) fun _ => ?_
          · have hs := lineComment_suffix rest'
            exact hrec _ (by have := hs.length_le; simp only [List.length_cons]; omega) (hs.trans hcc)
          · cases hb : blockComment false rest' with
            | none => exact ⟨_, _, _, rfl, List.nil_suffix, fun _ => Nat.zero_lt_succ _⟩
            | some r'' =>
              have hs := blockComment_suffix rest' false r'' hb
              exact hrec _ (by have := hs.length_le; simp only [List.length_cons]; omega) (hs.trans hcc)
          · exact ScanStep.done (List.suffix_refl _)
      exact ScanStep.ite (fun _ => ScanStep.done (tail_suffix_of_suffix (scanRawBody_suffix rest)))
        (fun _ => ScanStep.done (List.suffix_refl _))

theorem scanTok_spec_length {l rs rest : Input} (h : rs ++ rest <:+ l) : rest.length ≤ l.length :=
  ((List.suffix_append rs rest).trans h).length_le

/-! ## The token loop -/

/-- total source bytes of a rune list -/
def inBytes (l : Input) : Nat := (textOf l).length

theorem inBytes_nil : inBytes [] = 0 := rfl

theorem inBytes_cons (r : Rune) (l : Input) : inBytes (r :: l) = r.bytes.length + inBytes l := by
  rw [inBytes, textOf_cons, List.length_append]; rfl

theorem inBytes_append (a b : Input) : inBytes (a ++ b) = inBytes a + inBytes b := by
  rw [inBytes, textOf_append, List.length_append]; rfl

theorem inBytes_suffix {a b : Input} (h : a <:+ b) : inBytes a ≤ inBytes b := by
  obtain ⟨p, rfl⟩ := h
  rw [inBytes_append]; omega

theorem suffix_bytes {rs rest l : Input} (h : rs ++ rest <:+ l) : inBytes rs + inBytes rest ≤ inBytes l := by
  have := inBytes_suffix h
  rwa [inBytes_append] at this

theorem stripQuotes_inv (b inner : Bytes) (h : stripQuotes b = some inner) :
    2 ≤ b.length ∧ b.getLast? = b.head? ∧ inner = (b.drop 1).take (b.length - 2) := by
  unfold stripQuotes at h
  by_cases h1 : b.length < 2
  · simp [h1] at h
  · by_cases h2 : (b.getLast? != b.head?) = true
    · simp [h1, h2] at h
    · simp only [h1, h2, ↓reduceIte, Bool.false_eq_true] at h
      refine ⟨by omega, by simpa using h2, ?_⟩
      by_cases h3 : (trailingBackslashes ((b.drop 1).take (b.length - 2)) % 2 == 1) = true
      · simp only [h3, ↓reduceIte] at h; cases h
      · simp only [h3, Bool.false_eq_true, ↓reduceIte, Option.some.injEq] at h
        exact h.symm

theorem stripQuotes_length (b t : Bytes) (h : stripQuotes b = some t) : t.length ≤ b.length := by
  obtain ⟨_, _, rfl⟩ := stripQuotes_inv b t h
  simp only [List.length_take, List.length_drop]; omega

theorem textBytes_cons (t : Token) (ts : List Token) :
    textBytes (t :: ts) = t.text.length + textBytes ts := rfl

theorem textBytes_reverse (ts : List Token) : textBytes ts.reverse = textBytes ts := by
  induction ts with
  | nil => rfl
  | cons t ts ih =>
    simp only [List.reverse_cons, textBytes, wsum_append, wsum] at *
    omega

/-- The token loop - over any keyword lookup - with at least the fuel `scanSQL` gives it ends; tokens so
far plus runes left bound the final token count, and text so far plus bytes left (plus 2 for the ILLEGAL
token of an open comment) the final text. -/
theorem scanLoop_total (kw : List Nat → Option Int) : ∀ fuel (l : Input) (acc : List Token), l.length + 1 ≤ fuel →
    ∃ ts, scanLoop kw fuel l acc = .ok ts ∧
      ts.length ≤ acc.length + l.length ∧ textBytes ts ≤ textBytes acc + inBytes l + 2 := by
  intro fuel
  induction fuel with
  | zero => intro l acc h; omega
  | succ fuel ih =>
    intro l acc h
    obtain ⟨k, rs, rest, he, hs, h2⟩ := scanTok_ok (fuel + 1) l (by omega)
    have h1 := scanTok_spec_length hs
    have hb := suffix_bytes hs
    rcases scanLoop_cases kw acc he with ⟨_, e⟩ | ⟨hk, e⟩ | ⟨hk, e⟩
    · refine ⟨_, e, ?_⟩
      rw [List.length_reverse, textBytes_reverse]; omega
    · refine ⟨_, e, ?_⟩
      have h3 := h2 (by rw [hk]; nofun)
      rw [List.length_reverse, textBytes_reverse, List.length_cons, textBytes_cons]
      exact ⟨by omega, by simp only [List.length_cons, List.length_nil]; omega⟩
    · have h3 := h2 hk
      have hlen : (tokenOf kw k rs rest).1.text.length ≤ inBytes rs := by
        rcases tokenOf_text kw k rs rest with ht | ht
        · rw [ht]; exact Nat.le_refl _
        · exact stripQuotes_length _ _ ht
      -- the loop goes on behind the token, or (a two-character operator) behind the token after it
      obtain ⟨rest', e', hr1, hr2⟩ : ∃ rest', scanLoop kw (fuel + 1) l acc =
          scanLoop kw fuel rest' ((tokenOf kw k rs rest).1 :: acc) ∧
          rest'.length ≤ rest.length ∧ inBytes rest' ≤ inBytes rest := by
        by_cases two : (tokenOf kw k rs rest).2 = true
        · obtain ⟨k2, rs2, r2, he2, hs2, _⟩ := scanTok_ok (fuel + 1) rest (by omega)
          have := suffix_bytes hs2
          exact ⟨r2, by rw [e, if_pos two, behindNext, he2], scanTok_spec_length hs2, by omega⟩
        · exact ⟨rest, by rw [e, if_neg two], Nat.le_refl _, Nat.le_refl _⟩
      obtain ⟨ts, hts, h4⟩ := ih rest' ((tokenOf kw k rs rest).1 :: acc) (by omega)
      refine ⟨ts, e'.trans hts, ?_⟩
      simp only [List.length_cons, textBytes_cons] at h4
      omega

theorem scanAll_total (fuel : Nat) (l : Input) (acc : List Token) (h : l.length + 1 ≤ fuel) :
    ∃ ts, scanAll fuel l acc = .ok ts ∧
      ts.length ≤ acc.length + l.length ∧ textBytes ts ≤ textBytes acc + inBytes l + 2 :=
  scanAll_eq_loop fuel l acc ▸ scanLoop_total keywordOf fuel l acc h

theorem dropBOM_suffix (l : Input) : dropBOM l <:+ l := by
  unfold dropBOM
  split
  · split
    · exact List.suffix_cons _ _
    · exact List.suffix_refl _
  · exact List.suffix_refl _

theorem scanSQL_total (input : Input) :
    ∃ ts, scanSQL input = .ok ts ∧ ts.length ≤ input.length ∧ textBytes ts ≤ inBytes input + 2 := by
  have hl := (dropBOM_suffix input).length_le
  have hs := inBytes_suffix (dropBOM_suffix input)
  obtain ⟨ts, h, h1, h2⟩ := scanAll_total (input.length + 2) (dropBOM input) [] (by omega)
  have e : textBytes [] = 0 := rfl
  exact ⟨ts, h, by simp only [List.length_nil] at h1; omega, by omega⟩

theorem scanSQL_ne_fuel (l : Input) : scanSQL l ≠ .fuel := by
  obtain ⟨ts, h, -⟩ := scanSQL_total l
  rw [h]; nofun

theorem scanSQL_count (input : Input) (ts : List Token) (h : scanSQL input = .ok ts) :
    ts.length ≤ input.length := by
  obtain ⟨ts', h', hc, -⟩ := scanSQL_total input
  cases h'.symm.trans h
  exact hc

theorem scanSQL_text (input : Input) (ts : List Token) (h : scanSQL input = .ok ts) :
    textBytes ts ≤ inBytes input + 2 := by
  obtain ⟨ts', h', -, ht⟩ := scanSQL_total input
  cases h'.symm.trans h
  exact ht

end Mkdb.Scan
