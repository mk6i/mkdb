import Mkdb.Model.Store
import Mkdb.Spec.TreeInv
/-!
The levels model, ground level.  The shape invariant `Tree.Inv` is decidable (every clause is a bounded
statement about the lists of a `Levels` value), so on a concrete tree it is one evaluation
(`by decide +kernel`).  Then the pieces of a leaf split and of an internal split by name, `insertAppend`
inverted into its two successful outcomes (`insertAppend_inv_cases`), `bubble` on a level whose last node
is made explicit (`bubble_cons_snoc`), facts about the functions the invariant is written with, and the
sample tree.
-/

section
set_option autoImplicit false
namespace Mkdb.Tree
open Mkdb.Page Mkdb.Generated

instance decChainFrom : (prev : Option Nat) → (ls : List Leaf) → Decidable (chainFrom prev ls)
  | _, [] => isTrue trivial
  | prev, l :: rest =>
    have := decChainFrom (some l.off) rest
    by unfold chainFrom; cases prev <;> cases rest <;> exact inferInstance

instance decLinked : (below : List Nat) → (lv : List (List (Internal × Bool))) → Decidable (linked below lv)
  | below, [] => inferInstanceAs (Decidable (below.length = 1))
  | below, lvl :: rest =>
    have := decLinked (lvl.map (·.1.off)) rest
    by unfold linked; exact inferInstance

instance decSepsOK : (los : List Nat) → (lvl : List (Internal × Bool)) → Decidable (sepsOK los lvl)
  | los, [] => inferInstanceAs (Decidable (los = []))
  | los, p :: rest =>
    have := decSepsOK (los.drop (p.1.cells.length + 1)) rest
    by unfold sepsOK; exact inferInstance

instance decSepsAll : (los : List Nat) → (lv : List (List (Internal × Bool))) → Decidable (sepsAll los lv)
  | _, [] => isTrue trivial
  | los, lvl :: rest =>
    have := decSepsAll (levelLos los lvl) rest
    by unfold sepsAll; exact inferInstance

instance (t : Levels) : Decidable (CapOK t) := by unfold CapOK; exact inferInstance
instance (t : Levels) : Decidable (KeysAsc t) := by unfold KeysAsc; exact inferInstance
instance (t : Levels) : Decidable (LeavesNonempty t) := by unfold LeavesNonempty; exact inferInstance
instance (t : Levels) : Decidable (ChainOK t) := by unfold ChainOK; exact inferInstance
instance (t : Levels) : Decidable (LinkOK t) := by unfold LinkOK; exact inferInstance
instance (t : Levels) : Decidable (SepsOK t) := by unfold SepsOK; exact inferInstance
instance (t : Levels) (nf : Nat) : Decidable (OffsOK t nf) := by unfold OffsOK; exact inferInstance

instance (t : Levels) (nf : Nat) : Decidable (Inv t nf) :=
  decidable_of_iff (CapOK t ∧ KeysAsc t ∧ LeavesNonempty t ∧ ChainOK t ∧ LinkOK t ∧ SepsOK t ∧ OffsOK t nf)
    ⟨fun ⟨a, b, c, d, e, f, g⟩ => ⟨a, b, c, d, e, f, g⟩, fun h => ⟨h.cap, h.asc, h.ne, h.chain, h.link, h.seps, h.offs⟩⟩

end Mkdb.Tree
end

section
set_option autoImplicit false
namespace Mkdb.Tree
open Mkdb.Page Mkdb.Generated

theorem setLast_append {α} (pre : List α) (a b : α) : setLast (pre ++ [a]) b = pre ++ [b] := by
  simp [setLast]

/-- the last leaf with the new cell appended and the LSN stamped: `l1` of `insertAppend` -/
def leafApp (last : Leaf) (k lsn : Nat) (v : Bytes) : Leaf :=
  { last with cells := last.cells ++ [⟨k, false, v⟩], lsn := lsn }

theorem leafApp_len (last : Leaf) (k lsn : Nat) (v : Bytes) :
    (leafApp last k lsn v).cells.length = last.cells.length + 1 := by simp [leafApp]

/-- the left half of a leaf split (`left` of `insertAppend`): the lower half of the cells, linked to the new leaf -/
def leafL (l1 : Leaf) (newOff : Nat) : Leaf :=
  { l1 with cells := l1.cells.take (l1.cells.length / 2), hasR := true, rSib := newOff }

/-- the new leaf of a split (`right` of `insertAppend`): the upper half of the cells, linked back, no right sibling -/
def leafR (l1 : Leaf) (lsn newOff : Nat) : Leaf :=
  ⟨newOff, lsn, true, false, l1.off, 0, l1.cells.drop (l1.cells.length / 2)⟩

theorem leaf_split_len (l1 : Leaf) (lsn nf : Nat) (h2 : 2 ≤ l1.cells.length) :
    (1 ≤ (leafL l1 nf).cells.length ∧ (leafL l1 nf).cells.length < l1.cells.length) ∧
    (1 ≤ (leafR l1 lsn nf).cells.length ∧ (leafR l1 lsn nf).cells.length < l1.cells.length) := by
  simp only [leafL, leafR, List.length_take, List.length_drop]
  omega

theorem ok_of_guard {ε α : Type} {c : Prop} [Decidable c] {e : ε} {x : Except ε α} {r : α}
    (h : (if c then .error e else x) = .ok r) : ¬ c ∧ x = .ok r := by
  by_cases hc : c
  · rw [if_pos hc] at h; cases h
  · rw [if_neg hc] at h; exact ⟨hc, h⟩

theorem insertAppend_inv_cases {t t' : Levels} {k lsn nf nf' : Nat} {v : Bytes}
    (h : insertAppend t k lsn v nf = .ok (t', nf')) :
    ∃ pre last d, t.leaves = pre ++ [(last, d)] ∧
      (∀ c, last.cells.getLast? = some c → c.key < k) ∧
      v.length ≤ c_maxValueSize ∧
      (((leafApp last k lsn v).cells.length < c_maxLeafNodeCells ∧
          t' = { t with leaves := pre ++ [(leafApp last k lsn v, true)] } ∧ nf' = nf) ∨
       (¬ (leafApp last k lsn v).cells.length < c_maxLeafNodeCells ∧
          t' = { leaves := pre ++ [(leafL (leafApp last k lsn v) nf, true),
                                    (leafR (leafApp last k lsn v) lsn nf, true)],
                 inner := (bubble lsn t.inner
                    (((leafR (leafApp last k lsn v) lsn nf).cells.head?.map (·.key)).getD 0)
                    last.off nf (nf + c_pageSize)).1 } ∧
          nf' = (bubble lsn t.inner
                    (((leafR (leafApp last k lsn v) lsn nf).cells.head?.map (·.key)).getD 0)
                    last.off nf (nf + c_pageSize)).2)) := by
  unfold insertAppend at h
  split at h
  · cases h
  · rename_i last d hlast
    obtain ⟨pre, hpre⟩ := List.getLast?_eq_some_iff.mp hlast
    obtain ⟨_, h⟩ := ok_of_guard h
    obtain ⟨hv, h⟩ := ok_of_guard h
    obtain ⟨happ, h⟩ := ok_of_guard h
    refine ⟨pre, last, d, hpre, ?_, Nat.le_of_not_gt hv, ?_⟩
    · intro c hc
      rw [hc] at happ
      cases hcells : last.cells with
      | nil => simp [hcells] at hc
      | cons a as =>
        simp [hcells] at happ
        omega
    · dsimp only at h
      split at h
      · rename_i hlt
        left
        refine ⟨hlt, ?_⟩
        simp only [Except.ok.injEq, Prod.mk.injEq] at h
        rw [hpre, setLast_append] at h
        exact ⟨h.1.symm, h.2.symm⟩
      · rename_i hlt
        right
        refine ⟨hlt, ?_⟩
        simp only [Except.ok.injEq, Prod.mk.injEq] at h
        rw [hpre, setLast_append, List.append_assoc] at h
        exact ⟨h.1.symm, h.2.symm⟩

theorem cells_append_leaf (pre : List (Leaf × Bool)) (inner) (xs : List (Leaf × Bool)) :
    cells { leaves := pre ++ xs, inner := inner } =
      cells { leaves := pre, inner := inner } ++ xs.flatMap (·.1.cells) := by
  simp [cells, List.flatMap_append]

theorem cells_insertAppend (t t' : Levels) (k lsn nf nf' : Nat) (v : Bytes)
    (h : insertAppend t k lsn v nf = .ok (t', nf')) :
    cells t' = cells t ++ [⟨k, false, v⟩] := by
  obtain ⟨pre, last, d, hpre, _, _, hcase⟩ := insertAppend_inv_cases h
  have ht : cells t = pre.flatMap (·.1.cells) ++ last.cells := by
    simp [cells, hpre, List.flatMap_append]
  rw [ht]
  rcases hcase with ⟨_, rfl, _⟩ | ⟨_, rfl, _⟩
  · simp [cells, List.flatMap_append, leafApp]
  · simp only [cells, List.flatMap_append, leafL, leafR, List.flatMap_cons, List.flatMap_nil,
      List.append_nil, List.take_append_drop, leafApp, List.append_assoc]

theorem mem_flatten {t : Levels} {e : Nat × Node × Bool} :
    e ∈ flatten t ↔ (∃ p ∈ t.leaves, e = (p.1.off, Node.leaf p.1, p.2)) ∨
      (∃ lvl ∈ t.inner, ∃ p ∈ lvl, e = (p.1.off, Node.internal p.1, p.2)) := by
  unfold flatten
  rw [List.mem_append, List.mem_map, List.mem_flatMap]
  constructor
  · rintro (⟨p, hp, rfl⟩ | ⟨lvl, hl, he⟩)
    · exact .inl ⟨p, hp, rfl⟩
    · obtain ⟨p, hp, rfl⟩ := List.mem_map.mp he
      exact .inr ⟨lvl, hl, p, hp, rfl⟩
  · rintro (⟨p, hp, rfl⟩ | ⟨lvl, hl, p, hp, rfl⟩)
    · exact .inl ⟨p, hp, rfl⟩
    · exact .inr ⟨lvl, hl, List.mem_map.mpr ⟨p, hp, rfl⟩⟩

/-- What a statement with LSN `lsn` may do to the pages of a tree: every page of `t'` is a page of `t`
or carries `lsn` and is dirty; every page of `t` is still there at its offset, as it was or carrying
`lsn` and dirty.  (`insertAppend_touched`, `updLeaves_touched`.) -/
def Touched (lsn : Nat) (t t' : Levels) : Prop :=
  (∀ x ∈ flatten t', x ∈ flatten t ∨ (Mkdb.Store.nodeLSN x.2.1 = lsn ∧ x.2.2 = true)) ∧
  ∀ e ∈ flatten t, ∃ e' ∈ flatten t',
    e'.1 = e.1 ∧ (e' = e ∨ (Mkdb.Store.nodeLSN e'.2.1 = lsn ∧ e'.2.2 = true))

/-! ### `bubble`, one step at a time -/

theorem eq_nil_or_snoc {α} (l : List α) : l = [] ∨ ∃ pre a, l = pre ++ [a] := by
  rcases List.eq_nil_or_concat l with h | ⟨pre, a, h⟩
  · exact .inl h
  · exact .inr ⟨pre, a, by simpa using h⟩

/-- the parent after `appendInternalCell(sep, parent.right); parent.right = newChild` -/
def intApp (p : Internal) (sep newChild lsn : Nat) : Internal :=
  { p with cells := p.cells ++ [⟨sep, p.right⟩], right := newChild, lsn := lsn }

/-- the cell whose key goes up when an internal node splits (`midCell` of `bubble`) -/
def midCell (p1 : Internal) : ICell := (p1.cells[p1.cells.length / 2]?).getD ⟨0, 0⟩

/-- the left half of an internal split: the cells below the middle one, whose child becomes the right pointer -/
def intL (p1 : Internal) : Internal :=
  { p1 with cells := p1.cells.take (p1.cells.length / 2), right := (midCell p1).child }

/-- the new node of an internal split: the cells above the middle one and the old right pointer -/
def intR (p1 : Internal) (lsn newOff : Nat) : Internal :=
  ⟨newOff, lsn, p1.right, p1.cells.drop (p1.cells.length / 2 + 1)⟩

theorem int_split_len (p1 : Internal) (lsn nf : Nat) (h3 : 3 ≤ p1.cells.length) :
    (1 ≤ (intL p1).cells.length ∧ (intL p1).cells.length < p1.cells.length) ∧
    (1 ≤ (intR p1 lsn nf).cells.length ∧ (intR p1 lsn nf).cells.length < p1.cells.length) := by
  simp only [intL, intR, List.length_take, List.length_drop]
  omega

theorem bubble_nil (lsn sep l nc nf : Nat) :
    bubble lsn [] sep l nc nf = ([[(⟨nf, lsn, nc, [⟨sep, l⟩]⟩, true)]], nf + c_pageSize) := rfl

theorem bubble_cons_nil (lsn : Nat) (rest) (sep l nc nf : Nat) :
    bubble lsn ([] :: rest) sep l nc nf = ([], nf) := rfl

theorem bubble_cons_snoc (lsn : Nat) (pre : List (Internal × Bool)) (p : Internal) (d : Bool) (rest)
    (sep l nc nf : Nat) :
    bubble lsn ((pre ++ [(p, d)]) :: rest) sep l nc nf =
      if (intApp p sep nc lsn).cells.length < c_maxInternalNodeCells then
        ((pre ++ [(intApp p sep nc lsn, true)]) :: rest, nf)
      else
        ((pre ++ [(intL (intApp p sep nc lsn), true), (intR (intApp p sep nc lsn) lsn nf, true)]) ::
          (bubble lsn rest (midCell (intApp p sep nc lsn)).key p.off nf (nf + c_pageSize)).1,
         (bubble lsn rest (midCell (intApp p sep nc lsn)).key p.off nf (nf + c_pageSize)).2) := by
  rw [bubble]
  simp only [List.getLast?_concat, setLast_append]
  split
  · rename_i h
    rw [if_pos (by exact h)]
    rfl
  · rename_i h
    rw [if_neg (by exact h), List.append_assoc]
    rfl

/-! ### the empty tree -/

theorem emptyTree_inv (off nf : Nat) (h : off < nf) : Inv (emptyTree off) nf := by
  refine ⟨?_, ?_, ?_, ?_, ?_, ?_, ?_⟩
  · refine ⟨?_, ?_⟩
    · intro p hp
      simp only [emptyTree, List.mem_singleton] at hp
      subst hp
      simp [c_maxLeafNodeCells]
    · intro lvl hlvl
      simp [emptyTree] at hlvl
  · simp [KeysAsc, keys, cells, emptyTree]
  · intro h2
    simp [emptyTree] at h2
  · simp [ChainOK, chainFrom, emptyTree]
  · simp [LinkOK, linked, emptyTree]
  · simp [SepsOK, sepsAll, emptyTree]
  · simp [OffsOK, offs, flatten, emptyTree, h]

/-! ### the functions the invariant is written with: `childOffs`, `levelLos`, `sepsOK`, `linked` -/

theorem childOffs_append (a b : List (Internal × Bool)) : childOffs (a ++ b) = childOffs a ++ childOffs b := by
  simp [childOffs, List.flatMap_append]

theorem childOffs_nil : childOffs [] = [] := rfl

theorem childOffs_cons (p : Internal × Bool) (b : List (Internal × Bool)) :
    childOffs (p :: b) = p.1.cells.map (·.child) ++ [p.1.right] ++ childOffs b := by
  simp [childOffs]

theorem Lookup.levelLos_length : ∀ (lvl : List (Internal × Bool)) (los : List Nat),
    (levelLos los lvl).length = lvl.length
  | [], _ => rfl
  | p :: ps, los => by simp [levelLos, Lookup.levelLos_length ps]

theorem Lookup.levelLos_sublist : ∀ (lvl : List (Internal × Bool)) (los : List Nat),
    sepsOK los lvl → (levelLos los lvl).Sublist los
  | [], _, _ => List.nil_sublist _
  | p :: ps, _ :: los', ⟨_, _, h3⟩ =>
    List.Sublist.cons_cons _ ((Lookup.levelLos_sublist ps _ h3).trans (List.drop_sublist p.1.cells.length los'))

theorem sepsOK_length (lvl : List (Internal × Bool)) :
    ∀ los, sepsOK los lvl → los.length = (childOffs lvl).length := by
  induction lvl with
  | nil => intro los h; simp only [sepsOK] at h; subst h; rfl
  | cons p ps ih =>
    intro los h
    obtain ⟨h1, _, h3⟩ := h
    have := ih _ h3
    rw [childOffs_cons]
    simp only [List.length_drop] at this
    simp only [List.length_append, List.length_map, List.length_cons, List.length_nil]
    omega

theorem linked_below_ne (lvls : List (List (Internal × Bool))) :
    ∀ below, linked below lvls → below ≠ [] := by
  induction lvls with
  | nil =>
    intro below h hb
    subst hb
    simp [linked] at h
  | cons l lvls ih =>
    intro below h hb
    have := ih _ h.2
    cases l with
    | nil => exact this rfl
    | cons p ps =>
      have hc := h.1
      rw [childOffs_cons, hb] at hc
      simp at hc

theorem leaves_ne_nil {t : Levels} {nf : Nat} (hI : Inv t nf) : t.leaves ≠ [] := by
  have := linked_below_ne _ _ hI.link
  intro h
  rw [h] at this
  exact this rfl

theorem linked_levels_ne (lvls : List (List (Internal × Bool))) :
    ∀ below, linked below lvls → ∀ lvl ∈ lvls, lvl ≠ [] := by
  induction lvls with
  | nil => intro below _ lvl hl; cases hl
  | cons l lvls ih =>
    intro below h lvl hl
    rcases List.mem_cons.mp hl with rfl | hl
    · intro h0
      exact linked_below_ne lvls _ h.2 (by rw [h0]; rfl)
    · exact ih _ h.2 lvl hl

theorem inner_nil_of_single (t : Levels) (hcap : CapOK t) (hl : LinkOK t) (h1 : t.leaves.length = 1) :
    t.inner = [] := by
  cases hin : t.inner with
  | nil => rfl
  | cons lvl rest =>
    exfalso
    unfold LinkOK at hl
    rw [hin] at hl
    have hc := congrArg List.length hl.1
    rw [List.length_map, h1] at hc
    cases lvl with
    | nil => simp [childOffs] at hc
    | cons p ps =>
      have := (hcap.2 (p :: ps) (by simp [hin]) p (by simp)).1
      rw [childOffs_cons] at hc
      simp only [List.length_append, List.length_map, List.length_cons, List.length_nil] at hc
      omega

/-! ### a sample tree -/

/-- Non-vacuity: a concrete tree with two leaves under one internal node satisfies `Inv`. -/
def sampleTree : Levels :=
  { leaves := [(⟨4096, 0, false, true, 0, 8192, [⟨1, false, []⟩, ⟨2, false, []⟩]⟩, false),
               (⟨8192, 0, true, false, 4096, 0, [⟨3, false, []⟩, ⟨4, true, []⟩]⟩, false)],
    inner := [[(⟨12288, 0, 8192, [⟨3, 4096⟩]⟩, false)]] }

example : Inv sampleTree 16384 := by decide +kernel

end Mkdb.Tree
end
