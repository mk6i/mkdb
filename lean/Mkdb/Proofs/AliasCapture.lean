import Mkdb.Proofs.Join
/-!
A qualified column reference is not captured by an alias.

`SELECT a AS b, b AS c FROM t ORDER BY t.b` sorts by column `b` of `t`, not by the first output column.  The output
header carries the table id of the underlying column together with the alias as column name, so
in it the qualified key `t.b` would find the alias `b` of column `a`; the sort keys are therefore
resolved against `sortFields sl hdr`, in which an aliased column has no table id, and
`DerivedCol.matches` (GROUP BY) accepts an alias for an unqualified reference only.  Proved
here: a qualified reference finds only a non-aliased column of the table it names.
-/
namespace Mkdb.Exec.AliasCaptureP
open Mkdb.Sql Mkdb.Exec.JoinP

/-- `SELECT *` (the select list and the header differ in length): the header itself -/
theorem sortFields_of_length_ne (sl : List DerivedCol) (hdr : List Field)
    (h : sl.length ≠ hdr.length) : sortFields sl hdr = hdr := by
  unfold sortFields
  rw [if_pos (by simpa using h)]

theorem sortFields_getElem?_eq_some {sl : List DerivedCol} {hdr : List Field}
    (hlen : sl.length = hdr.length) {i : Nat} {g : Field}
    (h : (sortFields sl hdr)[i]? = some g) :
    ∃ d f, sl[i]? = some d ∧ hdr[i]? = some f ∧
      g = if d.alias.isEmpty then f else ⟨[], f.column⟩ := by
  unfold sortFields at h
  rw [if_neg (by simpa using hlen)] at h
  rw [List.getElem?_map, Option.map_eq_some_iff] at h
  obtain ⟨⟨d, f⟩, hz, hg⟩ := h
  rw [List.getElem?_zip_eq_some] at hz
  exact ⟨d, f, hz.1, hz.2, hg.symm⟩

/-! ### ORDER BY: a qualified key -/

/-- **A qualified sort key finds only a non-aliased column of the table it names**: if the
qualified reference `c` resolves in `sortFields sl hdr` (what `sortColumns` is handed) to position
`i`, then the `i`-th select-list element has no alias and the `i`-th header field is `c.qual.c.name`
itself. -/
theorem qualified_key_not_captured_by_alias (sl : List DerivedCol) (hdr : List Field)
    (hlen : sl.length = hdr.length) (c : ColRef) (hq : c.qual ≠ []) (i : Nat)
    (h : findColumn c (sortFields sl hdr) = .ok i) :
    (sl[i]?).map (·.alias) = some [] ∧ hdr[i]? = some ⟨c.qual, c.name⟩ := by
  unfold findColumn at h
  have hne : c.qual.isEmpty = false := List.isEmpty_eq_false_iff.2 hq
  rw [hne] at h
  simp only [Bool.false_eq_true, if_false] at h
  obtain ⟨hi, _⟩ := lookupColIdxByID_first _ _ _ _ h
  obtain ⟨d, f, hd, hf, hg⟩ := sortFields_getElem?_eq_some hlen hi
  cases ha : d.alias with
  | nil =>
    rw [ha] at hg
    simp only [List.isEmpty_nil, if_true] at hg
    rw [hd, hf, ← hg, Option.map_some, ha]
    exact ⟨rfl, rfl⟩
  | cons x xs =>
    rw [ha] at hg
    simp only [List.isEmpty_cons, Bool.false_eq_true, if_false, Field.mk.injEq] at hg
    exact absurd hg.1 hq

theorem qualified_key_skips_aliased (sl : List DerivedCol) (hdr : List Field)
    (hlen : sl.length = hdr.length) (c : ColRef) (hq : c.qual ≠ []) (i : Nat) (d : DerivedCol)
    (hd : sl[i]? = some d) (ha : d.alias ≠ []) :
    findColumn c (sortFields sl hdr) ≠ .ok i := by
  intro h
  have := (qualified_key_not_captured_by_alias sl hdr hlen c hq i h).1
  rw [hd] at this
  simp only [Option.map_some, Option.some.injEq] at this
  exact ha this

/-! ### GROUP BY: `DerivedCol.matches` -/

/-- `ColumnReference.Equals` is equality of qualifier and name -/
theorem ColRef_equals_eq {lhs rhs : ColRef} (h : lhs.equals rhs = true) : lhs = rhs := by
  unfold ColRef.equals at h
  split at h
  · cases h
  · split at h
    · cases h
    · rename_i _ hqual
      have hq : lhs.qual = rhs.qual := by simpa using hqual
      have hn : lhs.name = rhs.name := by simpa using h
      cases lhs; cases rhs
      simp only at hq hn
      rw [hq, hn]

/-- **A qualified reference matches a select-list element only as that very column**: the alias
alternative and the bare-name alternative of `DerivedColumn.Matches` need an unqualified
reference. -/
theorem matches_qualified {d : DerivedCol} {rhs : ColRef} (hq : rhs.qual ≠ [])
    (h : d.matches rhs = true) :
    ∃ lhs, d.item = .expr (.val (.col lhs)) ∧ lhs.equals rhs = true := by
  have hne : rhs.qual.isEmpty = false := List.isEmpty_eq_false_iff.2 hq
  unfold DerivedCol.matches at h
  split at h
  · rename_i lhs hitem
    refine ⟨lhs, hitem, ?_⟩
    simpa only [hne, Bool.and_false, Bool.or_false] using h
  · cases h

theorem matches_qualified_eq {d : DerivedCol} {rhs : ColRef} (hq : rhs.qual ≠ [])
    (h : d.matches rhs = true) : d.item = .expr (.val (.col rhs)) := by
  obtain ⟨lhs, hitem, heq⟩ := matches_qualified hq h
  rw [hitem, ColRef_equals_eq heq]

/-- **The column a qualified GROUP BY reference designates is that column of the select list**
(never a column that merely carries the name as its alias). -/
theorem qualified_group_column_not_captured_by_alias (sl : List DerivedCol) (g : ColRef)
    (hq : g.qual ≠ []) (i : Nat) (h : groupIdx sl g = some i) :
    ∃ d lhs, sl[i]? = some d ∧ d.item = .expr (.val (.col lhs)) ∧ lhs.equals g = true := by
  unfold groupIdx at h
  have hp := List.find?_some h
  split at hp
  · rename_i d hd
    simp only [Bool.and_eq_true] at hp
    obtain ⟨lhs, hitem, heq⟩ := matches_qualified hq hp.2
    exact ⟨d, lhs, hd, hitem, heq⟩
  · cases hp

/-! ### the example of the head: resolved in the output header, and in `sortFields` -/
section Example

/-- `SELECT a AS b, b AS c FROM t` -/
def exList : List DerivedCol :=
  [⟨.expr (.val (.col ⟨[], [97]⟩)), [98]⟩, ⟨.expr (.val (.col ⟨[], [98]⟩)), [99]⟩]

/-- its output header: the table id of the underlying column, the alias as column name -/
def exHdr : List Field := [⟨[116], [98]⟩, ⟨[116], [99]⟩]

-- (`headerOf` does build that header from the fields `t.a`, `t.b`)
example : (exList.map fun d => headerOf d [⟨[116], [97]⟩, ⟨[116], [98]⟩]) =
    [.ok ⟨[116], [98]⟩, .ok ⟨[116], [99]⟩] := by decide +kernel

-- the header the sort keys are resolved against: both columns are aliased, both lose the table id
example : sortFields exList exHdr = [⟨[], [98]⟩, ⟨[], [99]⟩] := by decide +kernel

-- `ORDER BY t.b`: no output column is the column `b` of `t` - the key is refused ...
example : findColumn ⟨[116], [98]⟩ (sortFields exList exHdr) = .err .fieldNotFound := by decide +kernel

-- ... whereas against the raw output header it found the alias `b` of column `a` (the defect)
example : findColumn ⟨[116], [98]⟩ exHdr = .ok 0 := by decide +kernel

-- the unqualified `ORDER BY b` still means the alias
example : findColumn ⟨[], [98]⟩ (sortFields exList exHdr) = .ok 0 := by decide +kernel

-- GROUP BY: `t.b` does not match `a AS b`, it matches `t.b AS c`; the unqualified `b` matches both
example : (⟨.expr (.val (.col ⟨[116], [97]⟩)), [98]⟩ : DerivedCol).matches ⟨[116], [98]⟩ = false := by
  decide +kernel
example : (⟨.expr (.val (.col ⟨[116], [98]⟩)), [99]⟩ : DerivedCol).matches ⟨[116], [98]⟩ = true := by
  decide +kernel
example : (⟨.expr (.val (.col ⟨[116], [97]⟩)), [98]⟩ : DerivedCol).matches ⟨[], [98]⟩ = true := by
  decide +kernel

end Example

end Mkdb.Exec.AliasCaptureP
