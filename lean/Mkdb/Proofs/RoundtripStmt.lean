import Mkdb.Proofs.RoundtripClauses
/-!
Token-level round trip (C10): the statements (`parseStmt_tok`), then closing semicolons and the end of the
input, and `Parser.Parse` (`parseTokens`, with its own fuel `ts.length + 2`), which reads every rendered
statement back.
-/

section
namespace Mkdb.Sql
open Mkdb.Scan Mkdb.Generated

/-- What may not follow a statement: every token some production would go on reading
(a closing semicolon or the end of the input is none of them). -/
def stmtBad : List Int :=
  [t_COMMA, t_DOT, t_EQ, t_NEQ, t_LT, t_GT, t_LTE, t_GTE, t_AND, t_OR, t_AS, t_IDENT, t_JOIN, t_LEFT, t_RIGHT,
   t_INNER, t_FROM, t_WHERE, t_GROUP, t_ORDER, t_ASC, t_DESC, t_LIMIT, t_OFFSET, t_LPAREN]

theorem hasNext_short (rest : List Token) (h : rest.length ≤ 1) : hasNext rest = .ok false rest := by
  simp only [hasNext]
  congr 1
  simp only [decide_eq_false_iff_not]; omega

theorem groupByValid_ok (sl : List DerivedCol) (gb : List ColRef) (h : groupByValid sl gb = true) :
    validateGroupBy sl gb = .ok () := by
  unfold groupByValid at h
  split at h
  · rename_i u hu; exact hu
  · cases h

/-- **`Select` round trip**: select list, FROM with its join chain, WHERE, GROUP BY, ORDER BY,
LIMIT / OFFSET.  A SELECT without FROM must be followed by at most one token (`p.HasNext()`). -/
theorem parseSelect_tok (o : ROpts) (ok : Lit → Bool) (hlit : ∀ l, ok l = true → GoodLit o.lit l)
    (s : Select) (hw : wfSelect ok s = true) (rest : List Token) (hr : HeadNot stmtBad rest)
    (hshort : s.from_ = none → rest.length ≤ 1)
    (f : Nat) (hf : (tokSelect o s).length + 2 ≤ f) :
    parseSelect f (tokSelect o s ++ rest) = .ok s rest := by
  obtain ⟨sl, fr, w, gb, ob, la, oa, l, off⟩ := s
  simp only [wfSelect, Bool.and_eq_true] at hw
  obtain ⟨⟨⟨hsl, hgv⟩, hlim⟩, hrestw⟩ := hw
  have hv := groupByValid_ok sl gb hgv
  cases fr with
  | none =>
    simp only [Bool.and_eq_true, Option.isNone_iff_eq_none, List.isEmpty_iff, Bool.not_eq_eq_eq_not, Bool.not_true] at hrestw
    obtain ⟨⟨⟨⟨rfl, rfl⟩, rfl⟩, rfl⟩, rfl⟩ := hrestw
    simp only [wfLimit, Bool.false_eq_true, ↓reduceIte, Bool.and_eq_true, decide_eq_true_eq] at hlim
    obtain ⟨rfl, rfl⟩ := hlim
    simp only [tokSelect] at hf ⊢
    obtain ⟨f, rfl⟩ := fuel_split (k := 1) hf
    refine bind_ok (selectList_tok o ok hlit sl hsl rest (headNot_sub hr (by decide +kernel)) (f + 1) hf)
      (bind_ok (miss_ok (headNot_sub hr (by decide +kernel)) rfl)
        (bind_ok (hasNext_short rest (hshort rfl)) ?_))
    simp only [Bool.false_eq_true, ↓reduceIte, hv]
    exact bind_ok (miss_ok (headNot_sub hr (by decide +kernel)) rfl)
      (bind_ok (bind_ok (limitLoop_done _ _ _ (headNot_sub hr (by decide +kernel))) rfl) rfl)
  | some tr =>
    simp only [Bool.and_eq_true] at hrestw
    rw [tokSelect, List.append_assoc, List.append_assoc, List.append_assoc, List.append_assoc, List.append_assoc]
    have f1 := fuelR hf
    have f2 := fuelR f1
    have f3 := fuelR f2
    have f4 := fuelR f3
    -- what follows each clause begins with the keyword of a later clause, or is `rest`
    refine bind_ok (selectList_tok o ok hlit sl hsl _ (headNot_cons rfl) f (fuelL hf))
      (bind_ok (fromClause_tok o ok hlit (some tr) (fun tr' h => by cases h; exact hrestw.1) _
          (headNot_tokWhere o w rfl (headNot_tokGroupBy o gb rfl (headNot_tokOrderBy o ob rfl
            (headNot_tokLimit o _ rfl rfl (headNot_sub hr (by decide +kernel)))))) f (fuelL f1))
        (bind_ok (whereClause_tok o ok hlit w hrestw.2 _
            (headNot_tokGroupBy o gb rfl (headNot_tokOrderBy o ob rfl
              (headNot_tokLimit o _ rfl rfl (headNot_sub hr (by decide +kernel))))) f (fuelL f2))
          (bind_ok (groupByClause_tok o gb _ (headNot_tokOrderBy o ob rfl
              (headNot_tokLimit o _ rfl rfl (headNot_sub hr (by decide +kernel)))) f (fuelL f3)) ?_)))
    simp only [hv]
    exact bind_ok (sortSpecList_tok o ob _ (headNot_tokLimit o _ rfl rfl (headNot_sub hr (by decide +kernel))) f (fuelL f4))
      (bind_ok (limitOffsetClause_tok o ok hlit _ hlim rest (headNot_sub hr (by decide +kernel)) f (fuelR f4)) rfl)

/-! ## CREATE -/

/-- the body of the loop of `TableElements` -/
def colDefBody : Token → P (ColDef × Bool) := fun nameTok => do
    let cur ← curTok
    advance
    let ty ← (do
      if cur.ty == t_T_INT then pure ColType.int
      else if cur.ty == t_T_BIGINT then pure ColType.bigint
      else if cur.ty == t_T_VARCHAR then
        let _ ← requireMatch [t_LPAREN]
        let n ← requireInt
        let _ ← requireMatch [t_RPAREN]
        pure (ColType.varchar n)
      else if cur.ty == t_T_BOOL then pure ColType.boolean
      else fail .syntax)
    pure (⟨nameTok.text, ty⟩, ← commaFollows)

theorem tableElements_eq (f : Nat) : tableElements f = (do
    let _ ← requireMatch [t_LPAREN]
    let cols ← guardedLoop f [t_IDENT] colDefBody
    let _ ← requireMatch [t_RPAREN]
    pure cols) := rfl

theorem colDefBody_tok (o : ROpts) (ok : Lit → Bool) (hlit : ∀ l, ok l = true → GoodLit o.lit l)
    (c : ColDef) (hw : wfColType ok c.ty = true) (r' : List Token) :
    colDefBody (I c.name) (tokColType o c.ty ++ r') = withComma c r' := by
  obtain ⟨n, ty⟩ := c
  cases ty with
  | int => exact cur_ok (bind_ok rfl (pure_withComma _ _))
  | bigint => exact cur_ok (bind_ok rfl (pure_withComma _ _))
  | boolean => exact cur_ok (bind_ok rfl (pure_withComma _ _))
  | varchar k =>
    exact cur_ok (bind_ok
      (require_ok rfl (bind_ok (requireInt_tok o.lit k (hlit _ hw) _) (require_ok rfl rfl)))
      (pure_withComma _ _))

/-- **column definitions are not cut**: every column with its type (INT, BIGINT, VARCHAR(n), BOOLEAN). -/
theorem tableElements_tok (o : ROpts) (ok : Lit → Bool) (hlit : ∀ l, ok l = true → GoodLit o.lit l)
    (cols : List ColDef) (hw : (cols.all fun c => wfColType ok c.ty) = true) (rest : List Token)
    (f : Nat) (hf : (tokSep (tokColDef o) (K o t_COMMA) 0 cols).length + 2 ≤ f) :
    tableElements f (K o t_LPAREN :: (tokSep (tokColDef o) (K o t_COMMA) 0 cols ++ K o t_RPAREN :: rest)) =
      .ok cols rest := by
  have hpos : ∀ j (x : ColDef), 1 ≤ (tokColDef o j x).length := fun _ _ => Nat.le_add_left 1 _
  have hlen := length_le_tokSep (tokColDef o) (K o t_COMMA) hpos cols 0
  have hloop := guardedLoop_tok [t_IDENT] colDefBody (tokColDef o) (K o t_COMMA) rfl [] rfl
    (K o t_RPAREN :: rest) (headNot_cons rfl) f cols
    (fun j x r' hx _ _ => ⟨I x.name, tokColType o x.ty, rfl, rfl,
      colDefBody_tok o ok hlit x (List.all_eq_true.mp hw x hx) r'⟩)
    (fun _ => headNot_cons rfl) 0 f (fuel_rounds hlen hf) (Nat.le_of_add_right_le hf)
  rw [tableElements_eq]
  exact require_ok rfl (bind_ok hloop (require_ok rfl rfl))

theorem parseCreate_db (o : ROpts) (n : Bytes) (rest : List Token) (f : Nat) :
    parseCreate f (K o t_DATABASE :: I n :: rest) = .ok (.createDatabase n) rest :=
  cur_ok (require_ok rfl rfl)

theorem parseCreate_table (o : ROpts) (ok : Lit → Bool) (hlit : ∀ l, ok l = true → GoodLit o.lit l)
    (n : Bytes) (cols : List ColDef) (hw : (cols.all fun c => wfColType ok c.ty) = true) (rest : List Token)
    (f : Nat) (hf : (tokSep (tokColDef o) (K o t_COMMA) 0 cols).length + 2 ≤ f) :
    parseCreate f (K o t_TABLE :: ((if n.isEmpty then [] else [I n]) ++
      K o t_LPAREN :: (tokSep (tokColDef o) (K o t_COMMA) 0 cols ++ [K o t_RPAREN])) ++ rest) =
      .ok (.createTable n cols) rest := by
  have ht := tableElements_tok o ok hlit cols hw rest f hf
  simp only [List.cons_append, List.append_assoc, List.nil_append]
  cases n with
  | nil =>
    exact cur_ok (miss_ok (headNot_cons rfl) (bind_ok ht rfl))
  | cons b t =>
    exact cur_ok (match_ok rfl (bind_ok ht rfl))

/-! ## INSERT -/

def insColBody : Token → P (Bytes × Bool) := fun t => do pure (t.text, ← commaFollows)

def valBody : Token → P (Lit × Bool) := fun t => do
      match tokenVal t with
      | .error e => fail e
      | .ok l => pure (l, ← commaFollows)

def rowBody (f : Nat) : Token → P (List Lit × Bool) := fun _ => do
    let vals ← guardedLoop f literalTys valBody
    let _ ← requireMatch [t_RPAREN]
    pure (vals, ← commaFollows)

def insColsP (f : Nat) : P (List Bytes) := do
    match ← matchTy [t_LPAREN] with
    | none => pure []
    | some _ =>
      let cs ← guardedLoop f [t_IDENT] insColBody
      let _ ← requireMatch [t_RPAREN]
      pure cs

theorem parseInsert_eq (f : Nat) : parseInsert f = (do
    let _ ← requireMatch [t_INTO]
    let tbl ← requireMatch [t_IDENT]
    let cols ← insColsP f
    let _ ← requireMatch [t_VALUES]
    let rows ← guardedLoop f [t_LPAREN] (rowBody f)
    pure (.insert tbl.text cols rows)) := rfl

theorem insColsP_tok (o : ROpts) (cols : List Bytes) (rest : List Token) (hr : HeadNot [t_LPAREN] rest)
    (f : Nat) (hf : (tokInsCols o cols).length + 2 ≤ f) :
    insColsP f (tokInsCols o cols ++ rest) = .ok cols rest := by
  have hpos : ∀ j (x : Bytes), 1 ≤ (tokInsCol j x).length := fun _ _ => Nat.le_add_left 1 _
  have hlen := length_le_tokSep tokInsCol (K o t_COMMA) hpos cols 0
  have hN : (tokSep tokInsCol (K o t_COMMA) 0 cols).length + 2 ≤ f := by
    cases cols with
    | nil => exact Nat.le_trans (Nat.add_le_add_right (Nat.zero_le _) 2) hf
    | cons c t => exact fuelL (fuelT hf)
  have hloop := guardedLoop_tok [t_IDENT] insColBody tokInsCol (K o t_COMMA) rfl [] rfl
    (K o t_RPAREN :: rest) (headNot_cons rfl) f cols
    (fun j x r' _ _ _ => ⟨I x, [], rfl, rfl, pure_withComma _ _⟩)
    (fun _ => headNot_cons rfl) 0 f (fuel_rounds hlen hN) (Nat.le_of_add_right_le hN)
  have hparen : insColsP f (K o t_LPAREN :: (tokSep tokInsCol (K o t_COMMA) 0 cols ++ K o t_RPAREN :: rest)) =
      .ok cols rest :=
    match_ok rfl (bind_ok hloop (require_ok rfl rfl))
  cases cols with
  | nil =>
    cases hp : o.emptyColParens with
    | true =>
      simp only [tokInsCols, List.isEmpty_nil, hp, ↓reduceIte, List.cons_append, List.nil_append]
      exact hparen
    | false =>
      simp only [tokInsCols, List.isEmpty_nil, hp, Bool.false_eq_true, ↓reduceIte, List.nil_append]
      exact miss_ok hr rfl
  | cons c t =>
    simp only [tokInsCols, List.isEmpty_cons, Bool.false_eq_true, ↓reduceIte, List.cons_append, List.append_assoc,
      List.nil_append]
    exact hparen

theorem valBody_tok (o : ROpts) (l : Lit) (h : GoodLit o.lit l) (r' : List Token) :
    valBody (o.lit l) r' = withComma l r' := by
  simp only [valBody, h.2]; exact pure_withComma _ _

/-- **VALUES rows are not cut**: every value of a row. -/
theorem rowBody_tok (o : ROpts) (ok : Lit → Bool) (hlit : ∀ l, ok l = true → GoodLit o.lit l)
    (row : List Lit) (hw : row.all ok = true) (r' : List Token) (f : Nat) (hf : row.length + 1 ≤ f) (g : Token) :
    rowBody f g (tokSep (tokLitItem o) (K o t_COMMA) 0 row ++ K o t_RPAREN :: r') = withComma row r' := by
  have hloop := guardedLoop_tok literalTys valBody (tokLitItem o) (K o t_COMMA) rfl [] rfl
    (K o t_RPAREN :: r') (headNot_cons rfl) (tokSep (tokLitItem o) (K o t_COMMA) 0 row).length row
    (fun j x r'' hx _ _ => ⟨o.lit x, [], rfl, (hlit x (List.all_eq_true.mp hw x hx)).1,
      valBody_tok o x (hlit x (List.all_eq_true.mp hw x hx)) _⟩)
    (fun _ => headNot_cons rfl) 0 f hf (Nat.le_refl _)
  exact bind_ok hloop (require_ok rfl (pure_withComma _ _))

theorem tokRow_length (o : ROpts) (j : Nat) (row : List Lit) : row.length + 2 ≤ (tokRow o j row).length := by
  have hpos : ∀ j (x : Lit), 1 ≤ (tokLitItem o j x).length := fun _ _ => Nat.le_add_left 1 _
  have := length_le_tokSep (tokLitItem o) (K o t_COMMA) hpos row 0
  simp only [tokRow, List.length_cons, List.length_append, List.length_nil]; omega

/-- **INSERT round trip**: with or without a column list, any number of VALUES rows. -/
theorem parseInsert_tok (o : ROpts) (ok : Lit → Bool) (hlit : ∀ l, ok l = true → GoodLit o.lit l)
    (t : Bytes) (cols : List Bytes) (rows : List (List Lit)) (hw : (rows.all fun r => r.all ok) = true)
    (rest : List Token) (hr : HeadNot [t_COMMA, t_LPAREN] rest) (f : Nat)
    (hf : (tokInsCols o cols ++ K o t_VALUES :: tokSep (tokRow o) (K o t_COMMA) 0 rows).length + 2 ≤ f) :
    parseInsert f (K o t_INTO :: I t :: (tokInsCols o cols ++
      K o t_VALUES :: tokSep (tokRow o) (K o t_COMMA) 0 rows) ++ rest) = .ok (.insert t cols rows) rest := by
  have hcols := insColsP_tok o cols (K o t_VALUES :: (tokSep (tokRow o) (K o t_COMMA) 0 rows ++ rest))
    (headNot_cons rfl) f (fuelL hf)
  have hf := fuelT (fuelR hf)
  have hpos : ∀ j (x : List Lit), 1 ≤ (tokRow o j x).length := by
    intro j x; have := tokRow_length o j x; omega
  have hlen := length_le_tokSep (tokRow o) (K o t_COMMA) hpos rows 0
  have hloop := guardedLoop_tok [t_LPAREN] (rowBody f) (tokRow o) (K o t_COMMA) rfl [] rfl
    rest (headNot_sub hr (by decide +kernel)) (f - 2) rows
    (fun j x r' hx hN _ => ⟨K o t_LPAREN, tokSep (tokLitItem o) (K o t_COMMA) 0 x ++ [K o t_RPAREN], rfl, rfl, by
      have := tokRow_length o j x
      simp only [List.append_assoc, List.cons_append, List.nil_append]
      exact rowBody_tok o ok hlit x (List.all_eq_true.mp hw x hx) r' f (by omega) _⟩)
    (fun _ => headNot_sub hr (by decide +kernel)) 0 f (fuel_rounds hlen hf) (Nat.le_sub_of_add_le hf)
  rw [parseInsert_eq]
  simp only [List.cons_append, List.append_assoc]
  exact require_ok rfl (require_ok rfl (bind_ok hcols (require_ok rfl
    (bind_ok hloop rfl))))

/-! ## UPDATE, DELETE -/

def setBody : Token → P ((Bytes × VExpr) × Bool) := fun col => do
    let _ ← requireMatch [t_EQ]
    let v ← valueExpression
    pure ((col.text, v), ← commaFollows)

theorem parseUpdate_eq (f : Nat) : parseUpdate f = (do
    let tbl ← requireMatch [t_IDENT]
    let _ ← requireMatch [t_SET]
    let sets ← guardedLoop f [t_IDENT] setBody
    let w ← whereClause f
    pure (.update tbl.text sets w)) := rfl

theorem setBody_tok (o : ROpts) (ok : Lit → Bool) (hlit : ∀ l, ok l = true → GoodLit o.lit l)
    (a : Bytes × VExpr) (hw : wfV ok a.2 = true) (r' : List Token) (hr : HeadNot [t_DOT] r') :
    setBody (I a.1) (K o t_EQ :: tokVE o a.2 ++ r') = withComma a r' := by
  obtain ⟨c, v⟩ := a
  exact require_ok rfl (bind_ok (valueExpression_tok2 o ok hlit v hw r' hr) (pure_withComma _ _))

/-- **UPDATE round trip**: every SET assignment, and the WHERE clause. -/
theorem parseUpdate_tok (o : ROpts) (ok : Lit → Bool) (hlit : ∀ l, ok l = true → GoodLit o.lit l)
    (t : Bytes) (sets : List (Bytes × VExpr)) (w : Option Cond)
    (hw : ((sets.all fun a => wfV ok a.2) && wfOptCond ok w) = true)
    (rest : List Token) (hr : HeadNot stmtBad rest) (f : Nat)
    (hf : (tokSep (tokSet o) (K o t_COMMA) 0 sets ++ tokWhere o w).length + 2 ≤ f) :
    parseUpdate f (I t :: K o t_SET :: (tokSep (tokSet o) (K o t_COMMA) 0 sets ++ tokWhere o w) ++ rest) =
      .ok (.update t sets w) rest := by
  simp only [Bool.and_eq_true] at hw
  have hpos : ∀ j (x : Bytes × VExpr), 1 ≤ (tokSet o j x).length := fun _ _ => Nat.le_add_left 1 _
  have hlen := length_le_tokSep (tokSet o) (K o t_COMMA) hpos sets 0
  have hfs := fuelL hf
  have hloop := guardedLoop_tok [t_IDENT] setBody (tokSet o) (K o t_COMMA) rfl [t_DOT] rfl
    (tokWhere o w ++ rest) (headNot_tokWhere o w rfl (headNot_sub hr (by decide +kernel))) f sets
    (fun j x r' hx _ hb => ⟨I x.1, K o t_EQ :: tokVE o x.2, rfl, rfl,
      setBody_tok o ok hlit x (List.all_eq_true.mp hw.1 x hx) r' hb⟩)
    (fun _ => headNot_tokWhere o w rfl (headNot_sub hr (by decide +kernel))) 0 f
    (fuel_rounds hlen hfs) (Nat.le_of_add_right_le hfs)
  have hwh := whereClause_tok o ok hlit w hw.2 rest (headNot_sub hr (by decide +kernel)) f (fuelR hf)
  rw [parseUpdate_eq]
  simp only [List.cons_append, List.append_assoc]
  exact require_ok rfl (require_ok rfl (bind_ok hloop (bind_ok hwh rfl)))

theorem parseDelete_tok (o : ROpts) (ok : Lit → Bool) (hlit : ∀ l, ok l = true → GoodLit o.lit l)
    (t : Bytes) (w : Option Cond) (hw : wfOptCond ok w = true)
    (rest : List Token) (hr : HeadNot stmtBad rest) (f : Nat) (hf : (tokWhere o w).length + 2 ≤ f) :
    parseDelete f (K o t_FROM :: I t :: tokWhere o w ++ rest) = .ok (.delete t w) rest := by
  have hwh := whereClause_tok o ok hlit w hw rest (headNot_sub hr (by decide +kernel)) f hf
  exact require_ok rfl (require_ok rfl (bind_ok hwh rfl))

/-! ## SHOW -/

theorem databases_eq : "databases".toUTF8.toList = databasesBytes := by with_unfolding_all decide

theorem parseShow_tok (o : ROpts) (rest : List Token) : parseShow (tokShow o ++ rest) = .ok .showDatabases rest := by
  have hkw : parseShow (K o t_DATABASE :: rest) = .ok .showDatabases rest :=
    cur_ok rfl
  unfold tokShow
  split
  · rename_i b _
    split
    · rename_i hb
      have h1 : ((I b).ty == t_DATABASE) = false := rfl
      have h2 : ((I b).ty == t_IDENT) = true := rfl
      have h3 : (asciiLower (I b).text == "databases".toUTF8.toList) = true := by
        rw [databases_eq]; exact beq_iff_eq.mpr hb
      refine cur_ok ?_
      simp only [h1, h2, h3, Bool.and_self, Bool.false_eq_true, ↓reduceIte]; rfl
    · exact hkw
  · exact hkw

/-! ## Statements -/

/-- **`parseStatement` round trip**: every well-formed statement, every spelling, is read back, and
exactly its tokens are consumed - provided the next token is none a production would go on
reading (`stmtBad`), that at most one token follows a SELECT without FROM, and `f` is at least
the number of tokens + 2. -/
theorem parseStmt_tok (o : ROpts) (ok : Lit → Bool) (hlit : ∀ l, ok l = true → GoodLit o.lit l)
    (s : Stmt) (hw : wfStmt ok s = true) (rest : List Token) (hr : HeadNot stmtBad rest)
    (hshort : needsShortTail s = true → rest.length ≤ 1)
    (f : Nat) (hf : (renderStmt o s).length + 2 ≤ f) :
    parseStmt f (renderStmt o s ++ rest) = .ok s rest := by
  -- `parseStatement` looks at the first token and hands the others to its production
  cases s with
  | createDatabase n => exact cur_ok (parseCreate_db o n rest f)
  | createTable n cols =>
    exact cur_ok (parseCreate_table o ok hlit n cols hw rest f (fuelL (fuelT (fuelR (fuelT (fuelT hf))))))
  | select sel =>
    exact cur_ok (bind_ok (parseSelect_tok o ok hlit sel hw rest hr
      (fun hn => hshort (by simp only [needsShortTail, hn, Option.isNone_none])) f (fuelT hf)) rfl)
  | insert t cols rows =>
    exact cur_ok (parseInsert_tok o ok hlit t cols rows hw rest (headNot_sub hr (by decide +kernel)) f
      (fuelT (fuelT (fuelT hf))))
  | update t sets w => exact cur_ok (parseUpdate_tok o ok hlit t sets w hw rest hr f (fuelT (fuelT (fuelT hf))))
  | delete t w => exact cur_ok (parseDelete_tok o ok hlit t w hw rest hr f (fuelT (fuelT (fuelT hf))))
  | use db => exact cur_ok (require_ok rfl rfl)
  | showDatabases => exact cur_ok (parseShow_tok o rest)

end Mkdb.Sql
end

section
namespace Mkdb.Sql
open Mkdb.Scan Mkdb.Generated

/-- what may close a statement: `k` semicolons, then an explicit EOF token or nothing (the scanner
ends the token list without an EOF token; the parser's `Cur()` supplies one) -/
def closing (o : ROpts) (k : Nat) (e : Bool) : List Token :=
  List.replicate k (K o t_SEMICOLON) ++ (if e then [K o t_EOF] else [])

theorem closing_length (o : ROpts) (k : Nat) (e : Bool) : (closing o k e).length = k + e.toNat := by
  cases e <;> simp [closing]

theorem headNot_closing (o : ROpts) (k : Nat) (e : Bool) : HeadNot stmtBad (closing o k e) := by
  cases k with
  | zero => cases e <;> simp only [closing, List.replicate_zero, List.nil_append] <;> first | trivial | exact rfl
  | succ k => exact rfl

theorem atEnd_closing (o : ROpts) (k : Nat) (e : Bool) : atEnd (closing o k e) = true := by
  have hd : dropSemis (closing o k e) = (if e then [K o t_EOF] else []) := by
    induction k with
    | zero =>
      cases e
      · rfl
      · simp only [closing, List.replicate_zero, List.nil_append, ↓reduceIte]
        rfl
    | succ k ih =>
      have h : ((K o t_SEMICOLON).ty == t_SEMICOLON) = true := rfl
      simp only [closing, List.replicate_succ, List.cons_append, dropSemis, h, ↓reduceIte] at ih ⊢
      exact ih
  unfold atEnd
  rw [hd]
  cases e <;> rfl

/-- the closings the parser accepts behind `s`: any for a statement with a complete clause
structure; at most one token behind a SELECT without FROM (`p.HasNext()`) -/
def closingOK (s : Stmt) (k : Nat) (e : Bool) : Bool := !needsShortTail s || decide (k + e.toNat ≤ 1)

/-- **`Parser.Parse` round trip** for any literal tokens that are good on the literals `ok` accepts. -/
theorem parseTokens_render (o : ROpts) (ok : Lit → Bool) (hlit : ∀ l, ok l = true → GoodLit o.lit l)
    (s : Stmt) (hw : wfStmt ok s = true) (k : Nat) (e : Bool) (hc : closingOK s k e = true) :
    parseTokens (renderStmt o s ++ closing o k e) = .ok s := by
  have hp := parseStmt_tok o ok hlit s hw (closing o k e) (headNot_closing o k e)
    (fun hn => by
      rw [closing_length]
      simpa [closingOK, hn] using hc)
    ((renderStmt o s ++ closing o k e).length + 2) (by simp only [List.length_append]; omega)
  simp only [parseTokens, hp, atEnd_closing, ↓reduceIte]

end Mkdb.Sql
end
