import Mkdb.Proofs.Join
/-!
One name for two tables of a FROM clause (C06).

A table id - the alias of a table when it has one, else its name - is used once in a FROM clause.
When `l JOIN r` brings `r` in under an id some field of `l` already carries, the executor refuses
the clause (`fieldAmbiguous`) and the relational definition `Spec.fromRows` is undefined; whenever
the relational definition is defined, the table ids are pairwise distinct, and a qualified
reference matches fields of at most one table.
-/
namespace Mkdb.Exec.JoinP
open Mkdb.Sql Mkdb.Tuple

/-! ### the tables of a FROM clause, their ids and their fields -/

/-- the table id of a table of a FROM clause: its alias if it has one, else its name -/
def tableId (t : TableName) : Bytes := t.alias.getD t.name

/-- the tables of a FROM clause, left to right -/
def tablesOf : TableRef → List TableName
  | .table t => [t]
  | .join l _ r _ => tablesOf l ++ [r]

/-- the table ids of a FROM clause (alias, else name), left to right -/
def tableIds : TableRef → List Bytes
  | .table t => [tableId t]
  | .join l _ r _ => tableIds l ++ [tableId r]

/-- the fields one table contributes to the header (none when the table does not exist) -/
def tableFields (fetch : Bytes → Option Table) (t : TableName) : List Field :=
  match fetch t.name with
  | some tbl => tbl.cols.map fun c => ⟨tableId t, c⟩
  | none => []

/-- the header of a FROM clause, table by table, left to right -/
def tableBlocks (fetch : Bytes → Option Table) (tr : TableRef) : List (List Field) :=
  (tablesOf tr).map (tableFields fetch)

theorem tableIds_eq_map (tr : TableRef) : tableIds tr = (tablesOf tr).map tableId := by
  induction tr with
  | table t => rfl
  | join l jt r on ih => simp only [tableIds, tablesOf, ih, List.map_append, List.map_cons, List.map_nil]

theorem fieldsOf_some {fetch : Bytes → Option Table} {t : TableName} {R : List Row}
    {rf : List Field} (h : Spec.fieldsOf fetch t = some (R, rf)) :
    ∃ tbl, fetch t.name = some tbl ∧ R = tbl.rows ∧ rf = tbl.cols.map (fun c => ⟨tableId t, c⟩) := by
  obtain ⟨tbl, hf, hR, hrf, _, _⟩ := fetchTable_alias fetch t R rf (fieldsOf_iff_fetchTable.1 h)
  exact ⟨tbl, hf, hR, hrf⟩

theorem fieldsOf_tableFields {fetch : Bytes → Option Table} {t : TableName} {R : List Row}
    {rf : List Field} (h : Spec.fieldsOf fetch t = some (R, rf)) : rf = tableFields fetch t := by
  obtain ⟨tbl, hf, _, hrf⟩ := fieldsOf_some h
  unfold tableFields
  rw [hf, hrf]

theorem tableFields_id (fetch : Bytes → Option Table) (t : TableName) :
    ∀ g ∈ tableFields fetch t, g.tableId = tableId t := by
  intro g hg
  unfold tableFields at hg
  split at hg
  · obtain ⟨c, _, rfl⟩ := List.mem_map.mp hg
    rfl
  · cases hg

/-! ### one name for two tables: refused -/

/-- The executor: `l JOIN r` where some field gathered for `l` already carries the table id of `r`
(and `r` has a column to show it) is refused as ambiguous, whatever the ON condition and the join
type - the loops are not entered. -/
theorem nestedLoopJoin_one_name_for_two_tables (fetch : Bytes → Option Table) (l : TableRef)
    (jt : JoinType) (r : TableName) (on : Cond) (lRows rRows : List Row)
    (lFields rFields : List Field)
    (hl : nestedLoopJoin fetch l = .ok (lRows, lFields))
    (hr : fetchTable fetch r = .ok (rRows, rFields))
    (hne : rFields ≠ [])
    (hc : ∃ f ∈ lFields, f.tableId = tableId r) :
    nestedLoopJoin fetch (.join l jt r on) = .err .fieldAmbiguous := by
  have hh : headClash lFields rFields = true := by
    unfold headClash
    cases rFields with
    | nil => exact absurd rfl hne
    | cons g0 rest =>
      obtain ⟨f, hf, hid⟩ := hc
      simp only [List.head?_cons]
      refine List.any_eq_true.mpr ⟨f, hf, ?_⟩
      rw [hid, fetchTable_one_id hr g0 List.mem_cons_self]
      exact beq_self_eq_true _
  rw [nestedLoopJoin_join_unfold fetch l jt r on lRows rRows lFields rFields hl hr, hh]
  rfl

/-- the same, with the clash read off the head field of the right table as the executor does -/
theorem nestedLoopJoin_one_name_for_two_tables' (fetch : Bytes → Option Table) (l : TableRef)
    (jt : JoinType) (r : TableName) (on : Cond) (lRows rRows : List Row)
    (lFields rFields : List Field) (f0 : Field)
    (hl : nestedLoopJoin fetch l = .ok (lRows, lFields))
    (hr : fetchTable fetch r = .ok (rRows, rFields))
    (h0 : rFields.head? = some f0)
    (hc : ∃ f ∈ lFields, f.tableId = f0.tableId) :
    nestedLoopJoin fetch (.join l jt r on) = .err .fieldAmbiguous := by
  have hm : f0 ∈ rFields := List.mem_of_head? h0
  refine nestedLoopJoin_one_name_for_two_tables fetch l jt r on lRows rRows lFields rFields hl hr
    (List.ne_nil_of_mem hm) ?_
  obtain ⟨f, hf, hid⟩ := hc
  exact ⟨f, hf, hid.trans (fetchTable_one_id hr f0 hm)⟩

/-- The relational definition agrees: the clause has no meaning. -/
theorem fromRows_one_name_for_two_tables (fetch : Bytes → Option Table) (l : TableRef)
    (jt : JoinType) (r : TableName) (on : Cond) (L R : List Row) (lf rf : List Field)
    (hL : Spec.fromRows fetch l = some (L, lf))
    (hR : Spec.fieldsOf fetch r = some (R, rf))
    (hc : rf.any (fun g => lf.any (·.tableId == g.tableId)) = true) :
    Spec.fromRows fetch (.join l jt r on) = none := by
  unfold Spec.fromRows
  simp only [hL, hR, Option.bind_eq_bind, Option.bind_some, hc, if_true]

/-! ### whenever the relational definition is defined, the table ids are distinct -/

theorem fromRows_fields_eq_blocks (fetch : Bytes → Option Table) (tr : TableRef) :
    ∀ (rows : List Row) (fields : List Field), Spec.fromRows fetch tr = some (rows, fields) →
      fields = (tableBlocks fetch tr).flatten := by
  induction tr with
  | table t =>
    intro rows fields h
    have h' : Spec.fieldsOf fetch t = some (rows, fields) := by simpa [Spec.fromRows] using h
    simp only [tableBlocks, tablesOf, List.map_cons, List.map_nil, List.flatten_cons,
      List.flatten_nil, List.append_nil]
    exact fieldsOf_tableFields h'
  | join l jt r on ih =>
    intro rows fields h
    obtain ⟨L, lf, R, rf, hL, hR, rfl, _, _, _⟩ := fromRows_join_some' h
    simp only [tableBlocks, tablesOf, List.map_append, List.map_cons, List.map_nil,
      List.flatten_append, List.flatten_cons, List.flatten_nil, List.append_nil]
    rw [← fieldsOf_tableFields hR]
    exact congrArg (· ++ rf) (ih L lf hL)

/-- fields of two different tables of a defined FROM clause never share a table id (no hypothesis
on the tables: a table without columns has no field to share anything with) -/
theorem fromRows_blocks_disjoint (fetch : Bytes → Option Table) (tr : TableRef) :
    ∀ (rows : List Row) (fields : List Field), Spec.fromRows fetch tr = some (rows, fields) →
      (tableBlocks fetch tr).Pairwise fun b₁ b₂ => ∀ f ∈ b₁, ∀ g ∈ b₂, f.tableId ≠ g.tableId := by
  induction tr with
  | table t =>
    intro rows fields _
    simp only [tableBlocks, tablesOf, List.map_cons, List.map_nil, List.pairwise_cons,
      List.not_mem_nil, false_imp_iff, implies_true, List.Pairwise.nil, and_self]
  | join l jt r on ih =>
    intro rows fields h
    obtain ⟨L, lf, R, rf, hL, hR, rfl, hd, _, _⟩ := fromRows_join_some' h
    simp only [tableBlocks, tablesOf, List.map_append, List.map_cons, List.map_nil]
    refine List.pairwise_append.mpr ⟨ih L lf hL, List.pairwise_singleton _ _, ?_⟩
    intro b₁ hb₁ b₂ hb₂ f hf g hg heq
    rw [List.mem_singleton] at hb₂
    subst hb₂
    rw [← fieldsOf_tableFields hR] at hg
    have hfl : f ∈ lf := by
      rw [fromRows_fields_eq_blocks fetch l L lf hL]
      exact List.mem_flatten.mpr ⟨b₁, hb₁, hf⟩
    have : anyClash lf rf = true :=
      List.any_eq_true.mpr ⟨g, hg, List.any_eq_true.mpr ⟨f, hfl, by rw [heq]; exact beq_self_eq_true _⟩⟩
    rw [hd] at this
    cases this

theorem filter_length_le_one_of_pairwise {α : Type} (p : α → Bool) (R : α → α → Prop)
    (hR : ∀ a b, R a b → p a = true → p b = true → False) :
    ∀ l : List α, l.Pairwise R → (l.filter p).length ≤ 1
  | [], _ => Nat.zero_le _
  | a :: t, h => by
    obtain ⟨ha, ht⟩ := List.pairwise_cons.mp h
    rw [List.filter_cons]
    cases hp : p a with
    | false => exact filter_length_le_one_of_pairwise p R hR t ht
    | true =>
      have : t.filter p = [] :=
        List.filter_eq_nil_iff.mpr fun b hb hpb => hR a b (ha b hb) hp hpb
      simp only [if_true, List.length_cons, this, List.length_nil]
      exact Nat.le_refl _

/-- A qualified reference `id.col` matches fields of at most one table of a defined FROM clause:
at most one of the tables (counted by position, so one table joined to itself counts twice) has a
field carrying the table id `id`. -/
theorem qualified_ref_at_most_one_table (fetch : Bytes → Option Table) (tr : TableRef)
    (rows : List Row) (fields : List Field) (h : Spec.fromRows fetch tr = some (rows, fields))
    (id : Bytes) :
    ((tableBlocks fetch tr).filter fun b => b.any (·.tableId == id)).length ≤ 1 := by
  refine filter_length_le_one_of_pairwise _ _ ?_ _ (fromRows_blocks_disjoint fetch tr rows fields h)
  intro b₁ b₂ hR h₁ h₂
  obtain ⟨f, hf, hfi⟩ := List.any_eq_true.mp h₁
  obtain ⟨g, hg, hgi⟩ := List.any_eq_true.mp h₂
  exact hR f hf g hg ((beq_iff_eq.mp hfi).trans (beq_iff_eq.mp hgi).symm)

theorem fromRows_tables_exist (fetch : Bytes → Option Table) (tr : TableRef) :
    ∀ (rows : List Row) (fields : List Field), Spec.fromRows fetch tr = some (rows, fields) →
      ∀ t ∈ tablesOf tr, ∃ tbl, fetch t.name = some tbl := by
  induction tr with
  | table t =>
    intro rows fields h t' ht'
    rw [List.mem_singleton.1 ht']
    obtain ⟨tbl, hf, _⟩ := fieldsOf_some (show Spec.fieldsOf fetch t = some (rows, fields) from h)
    exact ⟨tbl, hf⟩
  | join l jt r on ih =>
    intro rows fields h t ht
    obtain ⟨L, lf, R, rf, hL, hR, _⟩ := fromRows_join_some' h
    rcases List.mem_append.1 ht with ht | ht
    · exact ih L lf hL t ht
    · rw [List.mem_singleton.1 ht]
      obtain ⟨tbl, hf, _⟩ := fieldsOf_some hR
      exact ⟨tbl, hf⟩

/-- Whenever the relational definition of a FROM clause is defined, the table ids of its tables
(alias, else name) are pairwise distinct - provided every table of the clause has at least one
column.  (A table without columns contributes no field to the header; the test, which looks at
fields, cannot see it, and no reference can name a column of it either.) -/
theorem fromRows_tableIds_nodup (fetch : Bytes → Option Table) (tr : TableRef)
    (rows : List Row) (fields : List Field) (h : Spec.fromRows fetch tr = some (rows, fields))
    (hcols : ∀ t ∈ tablesOf tr, ∀ tbl, fetch t.name = some tbl → tbl.cols ≠ []) :
    (tableIds tr).Nodup := by
  -- a table that exists and has a column contributes a field, which carries its id
  have hfield : ∀ t ∈ tablesOf tr, ∃ f ∈ tableFields fetch t, f.tableId = tableId t := by
    intro t ht
    obtain ⟨tbl, hf⟩ := fromRows_tables_exist fetch tr rows fields h t ht
    obtain ⟨c, cs, hc⟩ := List.exists_cons_of_ne_nil (hcols t ht tbl hf)
    exact ⟨⟨tableId t, c⟩, by simp only [tableFields, hf, hc, List.map_cons, List.mem_cons, true_or], rfl⟩
  have hd := fromRows_blocks_disjoint fetch tr rows fields h
  rw [tableBlocks, List.pairwise_map] at hd
  rw [tableIds_eq_map, List.Nodup, List.pairwise_map]
  refine hd.imp_of_mem fun {t t'} ht ht' hdis e => ?_
  obtain ⟨f, hf, hfi⟩ := hfield t ht
  obtain ⟨g, hg, hgi⟩ := hfield t' ht'
  exact hdis f hf g hg (by rw [hfi, hgi, e])

/-- the executor's side, directly: a join it answers has passed the test - no field gathered for
the left side shares a table id with a field of the right table -/
theorem nestedLoopJoin_ok_no_clash (fetch : Bytes → Option Table) (l : TableRef) (jt : JoinType)
    (r : TableName) (on : Cond) (lRows rRows rows : List Row) (lFields rFields fields : List Field)
    (hl : nestedLoopJoin fetch l = .ok (lRows, lFields))
    (hr : fetchTable fetch r = .ok (rRows, rFields))
    (h : nestedLoopJoin fetch (.join l jt r on) = .ok (rows, fields)) :
    ∀ f ∈ lFields, ∀ g ∈ rFields, f.tableId ≠ g.tableId := by
  intro f hf g hg heq
  have hany : anyClash lFields rFields = true :=
    List.any_eq_true.mpr ⟨g, hg, List.any_eq_true.mpr ⟨f, hf, by rw [heq]; exact beq_self_eq_true _⟩⟩
  rw [((nestedLoopJoin_join_iff hl hr).1 h).1.1] at hany
  cases hany

/-! ### concrete instances: `t(k)` with two rows -/
namespace Example

def bk : Bytes := [107]       -- "k"
def bxx : Bytes := [120]      -- "x"
def byy : Bytes := [121]      -- "y"

def fetchT (n : Bytes) : Option Table :=
  if n = bt then some ⟨[bk], [[.int 1], [.int 2]]⟩ else none

/-- `t JOIN t ON t.k = t.k` -/
def trTT : TableRef :=
  .join (.table ⟨bt, none⟩) .inner ⟨bt, none⟩ (.pred ⟨.col ⟨bt, bk⟩, Generated.t_EQ, .col ⟨bt, bk⟩⟩)

/-- `t x JOIN t y ON x.k = y.k` -/
def trXY : TableRef :=
  .join (.table ⟨bt, some bxx⟩) .inner ⟨bt, some byy⟩
    (.pred ⟨.col ⟨bxx, bk⟩, Generated.t_EQ, .col ⟨byy, bk⟩⟩)

/-- one name for two tables: refused by the executor (an answer would be all four pairs, `t.k`
being the left `k` on both sides of the comparison) ... -/
example : nestedLoopJoin fetchT trTT = .err .fieldAmbiguous := by decide +kernel

/-- ... by the general theorem ... -/
example : nestedLoopJoin fetchT trTT = .err .fieldAmbiguous :=
  nestedLoopJoin_one_name_for_two_tables fetchT _ _ ⟨bt, none⟩ _ [[.int 1], [.int 2]]
    [[.int 1], [.int 2]] [⟨bt, bk⟩] [⟨bt, bk⟩] (by decide +kernel) (by decide +kernel) (by decide +kernel)
    ⟨⟨bt, bk⟩, by decide +kernel, by decide +kernel⟩

/-- ... and without a meaning in the relational definition -/
example : Spec.fromRows fetchT trTT = none := by decide +kernel

/-- also when only the alias of one table is the name of the other: `t JOIN t x ... ` is fine, but
`t x JOIN t x` and `t JOIN t t` are not -/
example : nestedLoopJoin fetchT (.join (.table ⟨bt, some bxx⟩) .left ⟨bt, some bxx⟩
    (.val (.lit (.bool true)))) = .err .fieldAmbiguous := by decide +kernel

example : nestedLoopJoin fetchT (.join (.table ⟨bt, none⟩) .right ⟨bt, some bt⟩
    (.val (.lit (.bool true)))) = .err .fieldAmbiguous := by decide +kernel

/-- under two aliases the self-join is answered: the two rows pair with themselves -/
example : nestedLoopJoin fetchT trXY =
    .ok ([[.int 1, .int 1], [.int 2, .int 2]], [⟨bxx, bk⟩, ⟨byy, bk⟩]) := by decide +kernel

example : Spec.fromRows fetchT trXY =
    some ([[.int 1, .int 1], [.int 2, .int 2]], [⟨bxx, bk⟩, ⟨byy, bk⟩]) := by decide +kernel

example : tableIds trTT = [bt, bt] ∧ tableIds trXY = [bxx, byy] := by decide +kernel

example : (tableIds trXY).Nodup :=
  fromRows_tableIds_nodup fetchT trXY [[.int 1, .int 1], [.int 2, .int 2]]
    [⟨bxx, bk⟩, ⟨byy, bk⟩] (by decide +kernel) (by
    intro t ht tbl hf
    simp only [trXY, tablesOf, List.cons_append, List.nil_append, List.mem_cons, List.not_mem_nil,
      or_false] at ht
    rcases ht with rfl | rfl <;>
    · simp only [fetchT, if_true, Option.some.injEq] at hf
      subst hf
      exact List.cons_ne_nil _ _)

end Example

end Mkdb.Exec.JoinP

section Axioms
open Mkdb.Exec Mkdb.Exec.JoinP
#print axioms nestedLoopJoin_one_name_for_two_tables
#print axioms nestedLoopJoin_one_name_for_two_tables'
#print axioms fromRows_one_name_for_two_tables
#print axioms fromRows_fields_eq_blocks
#print axioms fromRows_blocks_disjoint
#print axioms qualified_ref_at_most_one_table
#print axioms fromRows_tableIds_nodup
#print axioms nestedLoopJoin_ok_no_clash
end Axioms
