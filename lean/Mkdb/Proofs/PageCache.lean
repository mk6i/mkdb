import Mkdb.Model.PageCache
import Mkdb.Proofs.Recency
/-!
C16: the bounded page cache (`Mkdb/Model/PageCache.lean`) is observationally the cache-less reference,
for every capacity, on every workload it does not refuse.  The one idea: what a cache does unasked - it
reorders the recency list and drops clean pages (`Quiet`) - changes neither the invariant nor the logical
contents, because a clean resident page equals its disk image (`Quiet.inv`); a history with such moves
between its operations (`RunQ`) is therefore the reference (`RunQ.sim`).
-/
namespace Mkdb.PageCache

variable {α : Type}

/-! ### the logical content over a bare recency list -/

/-- `view` over a bare list and a disk (`view s = lview s.items s.disk` by `rfl`) -/
def lview (l : List (Ent α)) (d : Nat → α) (k : Nat) : α :=
  match find? l k with
  | some e => e.val
  | none => d k

theorem view_eq (s : St α) (k : Nat) : view s k = lview s.items s.disk k := rfl

theorem find?_cons (e : Ent α) (l : List (Ent α)) (k : Nat) :
    find? (e :: l) k = if e.key = k then some e else find? l k := Recency.find?_cons e l k

theorem lview_cons (e : Ent α) (l : List (Ent α)) (d : Nat → α) (k : Nat) :
    lview (e :: l) d k = if e.key = k then e.val else lview l d k := by
  unfold lview
  rw [find?_cons]
  by_cases h : e.key = k <;> simp [h]

theorem find?_of_mem {l : List (Ent α)} (hnd : (l.map (·.key)).Nodup) {e : Ent α} (he : e ∈ l) :
    find? l e.key = some e := Mkdb.find?_of_mem hnd he

theorem find?_remove_ne (l : List (Ent α)) {k k' : Nat} (h : k ≠ k') :
    find? (remove l k') k = find? l k := Recency.find?_remove_ne l h

/-! ### `evict`: `Recency.evict` on the dirty bit -/

theorem evict_eq (l : List (Ent α)) : evict l = Recency.evict Ent.dirty l := by
  induction l with
  | nil => rfl
  | cons e t ih => rw [evict, Recency.evict, ih]; cases Recency.evict Ent.dirty t <;> rfl

theorem evict_none_iff {l : List (Ent α)} : evict l = none ↔ ∀ e ∈ l, e.dirty = true := by
  rw [evict_eq]; exact Recency.evict_none_iff

theorem evict_some {l l' : List (Ent α)} (h : evict l = some l') :
    ∃ pre v post, l = pre ++ v :: post ∧ l' = pre ++ post ∧ v.dirty = false ∧
      ∀ e ∈ post, e.dirty = true :=
  Recency.evict_some (evict_eq l ▸ h)

theorem evict_sublist {l l' : List (Ent α)} (h : evict l = some l') : l'.Sublist l :=
  Recency.evict_sublist (evict_eq l ▸ h)

/-! ### what a cache may do unasked -/

/-- `s'` is `s` with the recency list in another order and some clean pages dropped: what an eviction, a hit and
the flush of the code do to the list, and all a replacement policy could do -/
structure Quiet (s s' : St α) : Prop where
  disk : s'.disk = s.disk
  cap : s'.cap = s.cap
  sub : ∃ l : List (Ent α), l.Perm s'.items ∧ l.Sublist s.items
  clean : ∀ e ∈ s.items, e ∉ s'.items → e.dirty = false

theorem Quiet.refl (s : St α) : Quiet s s := ⟨rfl, rfl, ⟨_, .refl _, .refl _⟩, fun _ h hn => absurd h hn⟩

theorem Quiet.of_perm {s s' : St α} (hp : s'.items.Perm s.items) (hd : s'.disk = s.disk) (hc : s'.cap = s.cap) :
    Quiet s s' := ⟨hd, hc, ⟨_, hp.symm, .refl _⟩, fun _ h hn => absurd (hp.mem_iff.mpr h) hn⟩

theorem Quiet.subset {s s' : St α} (q : Quiet s s') {e : Ent α} (he : e ∈ s'.items) : e ∈ s.items := by
  obtain ⟨l, hp, hs⟩ := q.sub
  exact hs.subset (hp.mem_iff.mpr he)

/-- the crux: a clean resident page equals its disk image, so dropping it does not change the contents; and the
contents do not depend on the order of the list -/
theorem Quiet.inv {s s' : St α} (h : Inv s) (q : Quiet s s') : Inv s' ∧ ∀ k, view s' k = view s k := by
  obtain ⟨hnd, hlen, hcl⟩ := h
  obtain ⟨l, hp, hs⟩ := q.sub
  refine ⟨⟨(hp.map _).nodup_iff.mp ((hs.map _).nodup hnd), ?_, fun e he => ?_⟩, fun k => ?_⟩
  · rw [q.cap, ← hp.length_eq]; exact Nat.le_trans hs.length_le hlen
  · rw [q.disk]; exact hcl e (q.subset he)
  · unfold view
    cases hf' : find? s'.items k with
    | some e =>
      obtain ⟨hm, rfl⟩ := Recency.find?_some hf'
      rw [find?_of_mem hnd (q.subset hm)]
    | none =>
      rw [q.disk]
      cases hf : find? s.items k with
      | none => rfl
      | some e =>
        -- `k` was resident and is not any more: its page was dropped, so it was clean
        obtain ⟨hm, rfl⟩ := Recency.find?_some hf
        exact hcl e hm (q.clean e hm fun hm' => Recency.find?_eq_none.mp hf' e hm' rfl)

/-! ### `insertNew`, `fetch` -/

theorem insertNew_eq (s : St α) (e : Ent α) :
    insertNew s e = (Recency.insert Ent.dirty s.cap e s.items).map fun l => { s with items := l } := by
  unfold insertNew Recency.insert
  rw [← evict_eq]
  by_cases hfull : s.items.length = s.cap
  · simp only [hfull, beq_self_eq_true, ↓reduceIte]
    cases evict s.items <;> rfl
  · simp [hfull]

/-- room for the new entry is made by a quiet move -/
theorem insertNew_some {s s1 : St α} {e : Ent α} (hlen : s.items.length ≤ s.cap) (hi : insertNew s e = some s1) :
    ∃ t, Quiet s t ∧ t.items.length + 1 ≤ s.cap ∧ s1 = { t with items := e :: t.items } := by
  rw [insertNew_eq] at hi
  obtain ⟨l, hl, rfl⟩ := Option.map_eq_some_iff.mp hi
  obtain ⟨t, rfl, hsub, hkept, _⟩ := Recency.insert_some hl
  refine ⟨{ s with items := t }, ⟨rfl, rfl, ⟨t, .refl _, hsub⟩, fun x hx hn => ?_⟩, Recency.insert_length hl hlen, rfl⟩
  cases hd : x.dirty with
  | false => rfl
  | true => exact absurd (hkept x hx hd) hn

theorem fetch_spec {s s1 : St α} {k : Nat} {v : α} (h : Inv s) (hf : fetch s k = some (s1, v)) :
    Inv s1 ∧ v = view s k ∧ (∀ k', view s1 k' = view s k') ∧ s1.disk = s.disk ∧ s1.cap = s.cap ∧
      ∃ e, find? s1.items k = some e := by
  unfold fetch at hf
  cases hfk : find? s.items k with
  | some e =>
    simp only [hfk, Option.some.injEq, Prod.mk.injEq] at hf
    obtain ⟨rfl, rfl⟩ := hf
    -- a hit only changes the order
    obtain ⟨hinv, hview⟩ := Quiet.inv (s' := { s with items := e :: remove s.items k }) h
      (.of_perm (Recency.perm_cons_remove h.1 hfk).symm rfl rfl)
    exact ⟨hinv, by simp only [view, hfk], hview, rfl, rfl, e,
      by rw [find?_cons, if_pos (Recency.find?_some hfk).2]⟩
  | none =>
    simp only [hfk] at hf
    cases hi : insertNew s ⟨k, s.disk k, false⟩ with
    | none => simp [hi] at hf
    | some s2 =>
      simp only [hi, Option.some.injEq, Prod.mk.injEq] at hf
      obtain ⟨rfl, rfl⟩ := hf
      -- a miss: a quiet move to `t`, then the clean copy of the file's page in front
      obtain ⟨t, q, hl, rfl⟩ := insertNew_some h.2.1 hi
      obtain ⟨⟨hnd, _, hc⟩, hv⟩ := q.inv h
      have hnk : find? t.items k = none :=
        Recency.find?_eq_none.mpr fun x hx => Recency.find?_eq_none.mp hfk x (q.subset hx)
      refine ⟨⟨?_, ?_, ?_⟩, ?_, fun k' => ?_, q.disk, q.cap, ⟨k, s.disk k, false⟩, by rw [find?_cons]; simp⟩
      · exact Recency.nodup_cons_of_sublist hnd (List.Sublist.refl _) (Recency.find?_eq_none.mp hnk)
      · show t.items.length + 1 ≤ t.cap
        rw [q.cap]; exact hl
      · intro x hx
        rcases List.mem_cons.mp hx with rfl | hx'
        · intro _; exact congrFun q.disk k
        · exact hc x hx'
      · simp only [view, hfk]
      · rw [← hv k']
        show lview _ _ k' = lview _ _ k'
        rw [lview_cons]
        by_cases hk : k = k'
        · subst hk
          simp only [↓reduceIte, lview, hnk, q.disk]
        · simp only [hk, ↓reduceIte]

/-! ### `write`, `flush` -/

/-- the in-place change of `write` -/
def upd (k : Nat) (f : α → α) (e : Ent α) : Ent α :=
  if e.key == k then { e with val := f e.val, dirty := true } else e

theorem upd_key (k : Nat) (f : α → α) (e : Ent α) : (upd k f e).key = e.key := by
  unfold upd; split <;> rfl

theorem upd_dirty (k : Nat) (f : α → α) (e : Ent α) : (upd k f e).dirty = true ↔ e.dirty = true ∨ e.key = k := by
  unfold upd
  split <;> simp_all

theorem find?_map_of_key {g : Ent α → Ent α} (hg : ∀ e, (g e).key = e.key) (l : List (Ent α))
    (k : Nat) : find? (l.map g) k = (find? l k).map g := Recency.find?_map hg l k

theorem keys_map_of_key {g : Ent α → Ent α} (hg : ∀ e, (g e).key = e.key) (l : List (Ent α)) :
    (l.map g).map (·.key) = l.map (·.key) := Recency.keys_map hg l

/-- a change of the entries in place that keeps their keys (the dirtying of `write`, the cleaning of `flush`),
with a new data file: the invariant holds again when every entry that is clean afterwards is the file's page -/
theorem inv_map {s : St α} (h : Inv s) {g : Ent α → Ent α} (hg : ∀ e, (g e).key = e.key) (d : Nat → α)
    (hc : ∀ e ∈ s.items, (g e).dirty = false → d e.key = (g e).val) :
    Inv { s with items := s.items.map g, disk := d } :=
  ⟨by show ((s.items.map g).map (·.key)).Nodup; rw [keys_map_of_key hg]; exact h.1,
   by show (s.items.map g).length ≤ s.cap; rw [List.length_map]; exact h.2.1,
   fun x hx => by
    obtain ⟨e, he, rfl⟩ := List.mem_map.mp (hx : x ∈ s.items.map g)
    show (g e).dirty = false → d (g e).key = (g e).val
    rw [hg]; exact hc e he⟩

theorem lview_map {g : Ent α → Ent α} (hg : ∀ e, (g e).key = e.key) (l : List (Ent α)) (d : Nat → α) (k : Nat) :
    lview (l.map g) d k = match find? l k with | some e => (g e).val | none => d k := by
  unfold lview
  rw [find?_map_of_key hg]
  cases find? l k <;> rfl

theorem write_spec {s s' : St α} {k : Nat} {f : α → α} (h : Inv s) (hw : write s k f = some s') :
    Inv s' ∧ ∀ k', view s' k' = if k' = k then f (view s k) else view s k' := by
  unfold write at hw
  cases hf : fetch s k with
  | none => simp [hf] at hw
  | some r =>
    obtain ⟨s1, v⟩ := r
    simp only [hf, Option.some.injEq] at hw
    obtain ⟨hinv1, _, hview, _, _, e0, he0⟩ := fetch_spec h hf
    subst hw
    refine ⟨inv_map hinv1 (upd_key k f) s1.disk fun e he => ?_, fun k' => ?_⟩
    · unfold upd
      split
      · intro hd; cases hd
      · exact hinv1.2.2 e he
    · show lview (s1.items.map (upd k f)) s1.disk k' = _
      rw [lview_map (upd_key k f), ← hview k, ← hview k']
      show _ = if k' = k then f (lview s1.items s1.disk k) else lview s1.items s1.disk k'
      unfold lview
      by_cases hk : k' = k
      · subst hk
        simp [he0, upd, (Recency.find?_some he0).2]
      · simp only [hk, ↓reduceIte]
        cases hfk : find? s1.items k' with
        | none => rfl
        | some e =>
          have : ¬ e.key = k := fun hh => hk ((Recency.find?_some hfk).2.symm.trans hh)
          simp [upd, this]

theorem flush_inv (s : St α) (h : Inv s) : Inv (flush s) := by
  refine inv_map h (g := fun e => { e with dirty := false }) (fun _ => rfl) (flush s).disk fun e he _ => ?_
  show (match find? s.items e.key with
    | some e' => if e'.dirty then e'.val else s.disk e.key
    | none => s.disk e.key) = e.val
  rw [find?_of_mem h.1 he]
  cases hd : e.dirty with
  | true => simp [hd]
  | false => simpa [hd] using h.2.2 e he hd

theorem flush_view (s : St α) (k : Nat) : view (flush s) k = view s k := by
  show lview (s.items.map fun e => ({ e with dirty := false } : Ent α)) (flush s).disk k = lview s.items s.disk k
  rw [lview_map (g := fun e => ({ e with dirty := false } : Ent α)) (fun _ => rfl)]
  unfold lview
  cases hf : find? s.items k with
  | some e => rfl
  | none =>
    show (match find? s.items k with
      | some e' => if e'.dirty then e'.val else s.disk k
      | none => s.disk k) = s.disk k
    rw [hf]

theorem flush_disk (s : St α) (h : Inv s) : ∀ k, (flush s).disk k = view s k := by
  obtain ⟨_, _, hc⟩ := h
  intro k
  show (match find? s.items k with
      | some e' => if e'.dirty then e'.val else s.disk k
      | none => s.disk k) = lview s.items s.disk k
  unfold lview
  cases hf : find? s.items k with
  | none => rfl
  | some e =>
    obtain ⟨hm, hek⟩ := Recency.find?_some hf
    cases hd : e.dirty with
    | true => simp [hd]
    | false =>
      have := hc e hm hd
      rw [hek] at this
      simpa [hd] using this

/-! ### one step, a run, capacity independence -/

theorem step_sim (s : St α) (op : Op α) (h : Inv s) (s' : St α) (o : Option α)
    (hs : step s op = some (s', o)) :
    Inv s' ∧ o = (refStep (view s) op).2 ∧ view s' = (refStep (view s) op).1 := by
  cases op with
  | fetch k =>
    simp only [step, Option.map_eq_some_iff, Prod.mk.injEq, Prod.exists] at hs
    obtain ⟨s1, v, hf, rfl, rfl⟩ := hs
    obtain ⟨hinv, hv, hview, _⟩ := fetch_spec h hf
    exact ⟨hinv, by simp only [refStep, hv], funext hview⟩
  | write k f =>
    simp only [step, Option.map_eq_some_iff, Prod.mk.injEq] at hs
    obtain ⟨s1, hw, rfl, rfl⟩ := hs
    obtain ⟨hinv, hview⟩ := write_spec h hw
    exact ⟨hinv, rfl, funext hview⟩
  | flush =>
    simp only [step, Option.some.injEq, Prod.mk.injEq] at hs
    obtain ⟨rfl, rfl⟩ := hs
    exact ⟨flush_inv s h, rfl, funext (flush_view s)⟩

/-- a history in which the cache may make a quiet move after every operation -/
inductive RunQ : St α → List (Op α) → St α → List (Option α) → Prop
  | nil (s : St α) : RunQ s [] s []
  | cons {s t s1 s' : St α} {op : Op α} {o : Option α} {ops : List (Op α)} {os : List (Option α)} :
      step s op = some (t, o) → Quiet t s1 → RunQ s1 ops s' os → RunQ s (op :: ops) s' (o :: os)

theorem RunQ.sim {s s' : St α} {ops : List (Op α)} {outs : List (Option α)} (hr : RunQ s ops s' outs) (h : Inv s) :
    Inv s' ∧ outs = (refRun (view s) ops).2 ∧ ∀ k, view s' k = (refRun (view s) ops).1 k := by
  induction hr with
  | nil s => exact ⟨h, rfl, fun _ => rfl⟩
  | cons hs q _ ih =>
    obtain ⟨hinv1, ho, hv1⟩ := step_sim _ _ h _ _ hs
    obtain ⟨hinv2, hv2⟩ := q.inv hinv1
    obtain ⟨hinv3, hos, hv3⟩ := ih hinv2
    rw [funext hv2, hv1] at hos hv3
    exact ⟨hinv3, by simp only [refRun, ho, hos], fun k => by simp only [refRun, hv3 k]⟩

theorem run_cons_some {s s' : St α} {op : Op α} {rest : List (Op α)} {outs : List (Option α)}
    (hr : run s (op :: rest) = some (s', outs)) :
    ∃ t o os, step s op = some (t, o) ∧ run t rest = some (s', os) ∧ outs = o :: os := by
  rw [run] at hr
  split at hr
  · cases hr
  · rename_i t o hs
    split at hr
    · cases hr
    · rename_i os hr1
      cases hr
      exact ⟨t, o, os, hs, hr1, rfl⟩

theorem run_runQ {s s' : St α} {ops : List (Op α)} {outs : List (Option α)} (hr : run s ops = some (s', outs)) :
    RunQ s ops s' outs := by
  induction ops generalizing s outs with
  | nil => cases hr; exact .nil _
  | cons op rest ih =>
    obtain ⟨t, o, os, hs, hr1, rfl⟩ := run_cons_some hr
    exact .cons hs (.refl t) (ih hr1)

theorem run_sim (s : St α) (ops : List (Op α)) (h : Inv s) (s' : St α) (outs : List (Option α))
    (hr : run s ops = some (s', outs)) :
    Inv s' ∧ outs = (refRun (view s) ops).2 ∧ ∀ k, view s' k = (refRun (view s) ops).1 k :=
  (run_runQ hr).sim h

theorem RunQ.independent {s1 s2 s1' s2' : St α} {ops : List (Op α)} {o1 o2 : List (Option α)}
    (r1 : RunQ s1 ops s1' o1) (r2 : RunQ s2 ops s2' o2) (h1 : Inv s1) (h2 : Inv s2)
    (hv : ∀ k, view s1 k = view s2 k) : o1 = o2 ∧ ∀ k, view s1' k = view s2' k := by
  obtain ⟨_, ho1, hv1⟩ := r1.sim h1
  obtain ⟨_, ho2, hv2⟩ := r2.sim h2
  rw [funext hv] at ho1 hv1
  exact ⟨ho1.trans ho2.symm, fun k => (hv1 k).trans (hv2 k).symm⟩

theorem cap_independent (s1 s2 : St α) (ops : List (Op α)) (h1 : Inv s1) (h2 : Inv s2)
    (hv : ∀ k, view s1 k = view s2 k) (s1' s2' : St α) (o1 o2 : List (Option α))
    (r1 : run s1 ops = some (s1', o1)) (r2 : run s2 ops = some (s2', o2)) :
    o1 = o2 ∧ ∀ k, view s1' k = view s2' k :=
  (run_runQ r1).independent (run_runQ r2) h1 h2 hv

theorem refRun_congr (m1 m2 : Nat → α) (ops : List (Op α)) (hm : ∀ k, m1 k = m2 k) :
    (refRun m1 ops).2 = (refRun m2 ops).2 ∧ ∀ k, (refRun m1 ops).1 k = (refRun m2 ops).1 k := by
  have : m1 = m2 := funext hm
  subst this
  exact ⟨rfl, fun _ => rfl⟩

/-! ### refusal happens exactly when the cache is full of dirty pages -/

theorem insertNew_none_iff (s : St α) (e : Ent α) :
    insertNew s e = none ↔ (s.items.length = s.cap ∧ ∀ x ∈ s.items, x.dirty = true) := by
  rw [insertNew_eq, Option.map_eq_none_iff]
  exact Recency.insert_none_iff

theorem fetch_none_iff (s : St α) (k : Nat) :
    fetch s k = none ↔
      (find? s.items k = none ∧ s.items.length = s.cap ∧ ∀ e ∈ s.items, e.dirty = true) := by
  unfold fetch
  cases hf : find? s.items k with
  | some e => simp
  | none =>
    simp only [true_and]
    rw [← insertNew_none_iff s ⟨k, s.disk k, false⟩]
    cases insertNew s ⟨k, s.disk k, false⟩ <;> simp

theorem never_refuses_when_clean_fits (s : St α) (k : Nat)
    (h : s.items.length < s.cap ∨ ∃ e ∈ s.items, e.dirty = false) : fetch s k ≠ none := by
  intro hn
  obtain ⟨_, hlen, hall⟩ := (fetch_none_iff s k).mp hn
  rcases h with h | ⟨e, he, hd⟩
  · omega
  · rw [hall e he] at hd; cases hd

theorem write_none_iff (s : St α) (k : Nat) (f : α → α) :
    write s k f = none ↔
      (find? s.items k = none ∧ s.items.length = s.cap ∧ ∀ e ∈ s.items, e.dirty = true) := by
  rw [← fetch_none_iff]
  unfold write
  cases fetch s k with
  | none => simp
  | some r => simp

/-! ### non-vacuity -/

namespace Example

/-- capacity 2, page 1 resident and clean, the file holds `10 * k` in page `k` -/
def s0 : St Nat := { cap := 2, items := [⟨1, 10, false⟩], disk := fun k => 10 * k }

theorem s0_inv : Inv s0 := by unfold Inv; decide

def w : List (Op Nat) :=
  [.fetch 1, .fetch 2, .fetch 3, .write 1 (· + 1), .flush, .fetch 2, .fetch 1, .fetch 4]

def obs (r : Option (St Nat × List (Option Nat))) : Option (List Nat × List (Option Nat)) :=
  r.map fun (s, o) => (s.items.map (·.key), o)

/-- the run succeeds; resident keys and outputs -/
example : obs (run s0 w) =
    some ([4, 1], [some 10, some 20, some 30, none, none, some 20, some 11, some 40]) := by decide

/-- evictions on the way: fetch 3 evicts page 1, the write to 1 evicts page 2, … -/
example : obs (run s0 (w.take 2)) = some ([2, 1], [some 10, some 20]) := by decide
example : obs (run s0 (w.take 3)) = some ([3, 2], [some 10, some 20, some 30]) := by decide
example : obs (run s0 (w.take 4)) = some ([1, 3], [some 10, some 20, some 30, none]) := by decide
example : obs (run s0 (w.take 6)) =
    some ([2, 1], [some 10, some 20, some 30, none, none, some 20]) := by decide

/-- the reference gives the same outputs (as `run_sim` says it must) -/
example : (refRun (view s0) w).2 =
    [some 10, some 20, some 30, none, none, some 20, some 11, some 40] := by decide

/-- the same workload through a cache of capacity 5: no eviction, same outputs -/
example : obs (run { s0 with cap := 5 } w) =
    some ([4, 1, 2, 3], [some 10, some 20, some 30, none, none, some 20, some 11, some 40]) := by
  decide

/-- two dirty pages fill the cache: the third page is refused -/
example : (run s0 [.write 1 (· + 1), .write 2 (· + 1), .fetch 3]).isNone = true := by decide

/-- … and with a flush in between it is not -/
example : obs (run s0 [.write 1 (· + 1), .write 2 (· + 1), .flush, .fetch 3]) =
    some ([3, 2], [none, none, none, some 30]) := by decide

end Example

end Mkdb.PageCache
