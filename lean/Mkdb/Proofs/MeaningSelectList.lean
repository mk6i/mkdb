import Mkdb.Proofs.MeaningClauses
import Mkdb.Proofs.NoPanicExec
/-!
`evaluateSelect` against `Spec.meaning` / `Spec.satisfies`: the select list
(`projectColumns` against the `mapM` of `Spec.itemVal`) and the discharge of `Spec.satisfies`.
-/
namespace Mkdb.Exec.MeaningP
open Mkdb.Sql Mkdb.Tuple Mkdb.Spec Mkdb.Exec.SelectP

/-! ### the select list -/

theorem itemVal_eq_okOf (item : SelItem) (fields : List Field) (row : Row) :
    itemVal item fields row = okOf (projectItem item fields row) := by
  unfold itemVal
  cases projectItem item fields row <;> rfl

theorem itemVal_some_iff {item : SelItem} {fields : List Field} {row : Row} {v : Val} :
    itemVal item fields row = some v ↔ projectItem item fields row = .ok v := by
  rw [itemVal_eq_okOf]
  exact okOf_eq_some.symm

/-- every column named in the select list resolves -/
def ColumnsResolve (sl : List DerivedCol) (fields : List Field) : Prop :=
  ∀ d ∈ sl, ∀ c ∈ itemColumns d.item, ∃ i, findColumn c fields = .ok i

theorem lookupsX_ok_iff {sl : List DerivedCol} {fields : List Field} :
    (∃ r, mapX (fun d => mapX (fun c => findColumn c fields) (itemColumns d.item)) sl = .ok r) ↔
      ColumnsResolve sl fields := by
  constructor
  · rintro ⟨r, h⟩ d hd c hc
    obtain ⟨is, his⟩ := mapX_ok_forall h d hd
    exact mapX_ok_forall his c hc
  · intro h
    exact mapX_ok_of_forall (fun d hd => mapX_ok_of_forall (fun c hc => h d hd c hc))

theorem lookupsS_some_iff {sl : List DerivedCol} {fields : List Field} :
    (∃ r, (sl.flatMap fun d => itemColumns d.item).mapM (fun c =>
        match findColumn c fields with | .ok i => some i | _ => none) = some r) ↔
      ColumnsResolve sl fields := by
  constructor
  · rintro ⟨r, h⟩ d hd c hc
    obtain ⟨i, hi⟩ := mapM_some_forall h c (List.mem_flatMap.2 ⟨d, hd, hc⟩)
    cases hf : findColumn c fields with
    | ok j => exact ⟨j, rfl⟩
    | err e => simp [hf] at hi
    | panic s => simp [hf] at hi
  · intro h
    apply mapM_some_of_forall
    intro c hc
    obtain ⟨d, hd, hcd⟩ := List.mem_flatMap.1 hc
    obtain ⟨i, hi⟩ := h d hd c hcd
    exact ⟨i, by rw [hi]⟩

theorem headers_ok {sl : List DerivedCol} {fields : List Field} (h : ColumnsResolve sl fields) :
    ∃ hdr, mapX (fun d => headerOf d fields) sl = .ok hdr := by
  apply mapX_ok_of_forall
  intro d hd
  unfold headerOf
  have hcols := h d hd
  cases hi : d.item with
  | star => exact ⟨_, rfl⟩
  | count c => cases c <;> exact ⟨_, rfl⟩
  | avg c => exact ⟨_, rfl⟩
  | expr e =>
    cases e with
    | val v =>
      cases v with
      | lit l => exact ⟨_, rfl⟩
      | col c =>
        obtain ⟨i, hfc⟩ := hcols c (by rw [hi]; exact List.mem_cons_self)
        have hlt := NoPanicP.findColumn_lt hfc
        simp only [hfc, bind_ok, List.getElem?_eq_getElem hlt, pure_eq_ok]
        exact ⟨_, rfl⟩
    | pred p => exact ⟨_, rfl⟩
    | and p r => exact ⟨_, rfl⟩
    | or l r => exact ⟨_, rfl⟩

theorem projectColumns_iff {sl : List DerivedCol} {fields : List Field} {rows p : List Row}
    {hdr : List Field} :
    projectColumns sl fields rows = .ok (p, hdr) ↔
      sl ≠ [] ∧
      if isStar sl then p = rows ∧ hdr = fields
      else ColumnsResolve sl fields ∧
        mapX (fun row => mapX (fun d => projectItem d.item fields row) sl) rows = .ok p ∧
        mapX (fun d => headerOf d fields) sl = .ok hdr := by
  by_cases hne : sl = []
  · subst hne
    exact ⟨fun h => (by cases h), fun h => absurd rfl h.1⟩
  unfold projectColumns
  simp only [List.isEmpty_eq_false_iff.2 hne, Bool.false_eq_true, if_false, ne_eq, hne,
    not_false_eq_true, true_and]
  cases isStar sl with
  | true =>
    simp only [if_true, X.ok.injEq, Prod.mk.injEq]
    exact ⟨fun h => ⟨h.1.symm, h.2.symm⟩, fun h => ⟨h.1.symm, h.2.symm⟩⟩
  | false =>
    simp only [Bool.false_eq_true, if_false]
    constructor
    · intro h
      obtain ⟨r, hr, h⟩ := bind_eq_ok.1 h
      obtain ⟨p', hp', h⟩ := bind_eq_ok.1 h
      obtain ⟨hdr', hh', h⟩ := bind_eq_ok.1 h
      simp only [pure_eq_ok, X.ok.injEq, Prod.mk.injEq] at h
      obtain ⟨rfl, rfl⟩ := h
      exact ⟨lookupsX_ok_iff.1 ⟨r, hr⟩, hp', hh'⟩
    · rintro ⟨hres, hp, hh⟩
      obtain ⟨r, hr⟩ := lookupsX_ok_iff.2 hres
      simp only [hr, hp, hh, bind_ok, pure_eq_ok]

theorem projectColumns_nostar_iff {sl : List DerivedCol} {fields : List Field} {rows p : List Row}
    {hdr : List Field} (hs : isStar sl = false) :
    projectColumns sl fields rows = .ok (p, hdr) ↔
      sl ≠ [] ∧ ColumnsResolve sl fields ∧
      mapX (fun row => mapX (fun d => projectItem d.item fields row) sl) rows = .ok p ∧
      mapX (fun d => headerOf d fields) sl = .ok hdr := by
  rw [projectColumns_iff, hs, if_neg Bool.false_ne_true]

/-- the output header does not depend on the rows: it is the header the judge computes from the
empty row list -/
theorem projectColumns_header {sl : List DerivedCol} {fields : List Field} {rows p : List Row}
    {hdr : List Field} (h : projectColumns sl fields rows = .ok (p, hdr)) :
    projectColumns sl fields [] = .ok ([], hdr) := by
  rw [projectColumns_iff] at h ⊢
  obtain ⟨hne, h2⟩ := h
  refine ⟨hne, ?_⟩
  cases hs : isStar sl with
  | true => rw [hs, if_pos rfl] at h2; exact ⟨rfl, h2.2⟩
  | false => rw [hs, if_neg Bool.false_ne_true] at h2; exact ⟨h2.1, rfl, h2.2.2⟩

theorem projectRows_iff_spec {sl : List DerivedCol} {fields : List Field} {rows p : List Row} :
    mapX (fun row => mapX (fun d => projectItem d.item fields row) sl) rows = .ok p ↔
      rows.mapM (fun r => sl.mapM fun d => itemVal d.item fields r) = some p := by
  apply mapX_ok_iff_mapM
  intro row _ vs
  apply mapX_ok_iff_mapM
  intro d _ v
  exact itemVal_some_iff.symm

theorem bind_const_some {α β : Type} {o : Option α} {m : Option β} {w : β} :
    (o.bind fun _ => m) = some w ↔ (∃ r, o = some r) ∧ m = some w := by
  cases o with
  | none => simp
  | some r => simp

theorem specTail_iff {q : Select} {fields : List Field} {src w : List Row} :
    specTail q fields src = some w ↔
      if isStar q.list then groups q = false ∧ w = src
      else ColumnsResolve q.list fields ∧
        (if groups q then specAgg q fields src = some w
          else src.mapM (fun r => q.list.mapM fun d => itemVal d.item fields r) = some w) := by
  have hg : (!hasAggr q.list && q.groupBy.isEmpty) = !groups q := by
    unfold groups; cases hasAggr q.list <;> cases q.groupBy.isEmpty <;> rfl
  unfold specTail
  rw [any_isAgg_eq_hasAggr, Bool.and_comm, hg]
  cases isStar q.list with
  | true => cases groups q <;> simp [eq_comm]
  | false =>
    simp only [Bool.false_eq_true, if_false, Option.bind_eq_bind]
    rw [bind_const_some]
    refine and_congr lookupsS_some_iff ?_
    cases groups q <;> exact Iff.rfl

theorem specTail_plain {q : Select} {fields : List Field} {src want : List Row}
    (hagg : hasAggr q.list = false) (hgb : q.groupBy = []) :
    specTail q fields src = some want ↔
      if isStar q.list then want = src
      else ColumnsResolve q.list fields ∧
        src.mapM (fun r => q.list.mapM fun d => itemVal d.item fields r) = some want := by
  rw [specTail_iff, groups_eq_false.2 ⟨hagg, hgb⟩]
  simp only [true_and, Bool.false_eq_true, if_false]

/-- **the select list, executor = specification** (no aggregate, no GROUP BY): `projectColumns`
returns the rows `p` (under some header) exactly when the select-list part of the meaning is `p` -/
theorem projectColumns_iff_specTail {q : Select} {fields : List Field} {rows p : List Row}
    (hne : q.list ≠ []) (hagg : hasAggr q.list = false) (hgb : q.groupBy = []) :
    (∃ hdr, projectColumns q.list fields rows = .ok (p, hdr)) ↔ specTail q fields rows = some p := by
  simp only [specTail_plain hagg hgb, projectColumns_iff, ne_eq, hne, not_false_eq_true, true_and]
  split
  · exact ⟨fun ⟨_, h, _⟩ => h, fun h => ⟨fields, h, rfl⟩⟩
  · constructor
    · rintro ⟨hdr, hres, hp, _⟩
      exact ⟨hres, projectRows_iff_spec.1 hp⟩
    · rintro ⟨hres, hp⟩
      obtain ⟨hdr, hh⟩ := headers_ok hres
      exact ⟨hdr, hres, projectRows_iff_spec.2 hp, hh⟩

/-! ### multisets -/

theorem count_le_of_sublist {a b : List Row} (r : Row) (h : a.Sublist b) :
    Spec.count r a ≤ Spec.count r b := by
  unfold Spec.count
  exact (h.filter _).length_le

theorem count_eq_of_perm {a b : List Row} (r : Row) (h : a.Perm b) :
    Spec.count r a = Spec.count r b := by
  unfold Spec.count
  exact (h.filter _).length_eq

theorem subMultiset_of_sublist_perm {res s want : List Row} (h1 : res.Sublist s) (h2 : s.Perm want) :
    subMultiset res want = true := by
  unfold subMultiset
  rw [List.all_eq_true]
  intro r _
  rw [decide_eq_true_eq, ← count_eq_of_perm r h2]
  exact count_le_of_sublist r h1

theorem sameMultiset_of_perm {a b : List Row} (h : a.Perm b) : sameMultiset a b = true := by
  unfold sameMultiset
  rw [Bool.and_eq_true, Bool.and_eq_true, beq_iff_eq]
  exact ⟨⟨h.length_eq, subMultiset_of_sublist_perm (List.Sublist.refl _) h⟩,
    subMultiset_of_sublist_perm (List.Sublist.refl _) h.symm⟩

theorem cut_sublist (lim : LimitOffset) (l : List Row) : (cut lim l).Sublist l := by
  unfold cut
  dsimp only
  split <;> split
  · exact (List.take_sublist _ _).trans (List.drop_sublist _ _)
  · exact List.take_sublist _ _
  · exact List.drop_sublist _ _
  · exact List.Sublist.refl _

theorem cut_length_congr (lim : LimitOffset) {l l' : List Row} (h : l.length = l'.length) :
    (cut lim l).length = (cut lim l').length := by
  unfold cut
  dsimp only
  split <;> split <;> simp [List.length_take, List.length_drop, h]

/-- OFFSET / LIMIT cut a window out of the list, at an offset that does not depend on the list -/
theorem cut_window (lim : LimitOffset) :
    ∃ off, ∀ l : List Row, cut lim l = (l.drop off).take (cut lim l).length := by
  refine ⟨if lim.offsetActive then lim.offset.toNat else 0, fun l => ?_⟩
  rw [cut_eq]
  dsimp only
  split
  · rw [List.length_take, List.take_eq_take_iff]; omega
  · rw [List.take_length]

/-! ### `Spec.satisfies` -/

/-- `Spec.satisfies` with its local definitions replaced by `cut` -/
theorem satisfies_eq (q : Select) (hdr : List Field) (want result : List Row) :
    satisfies q hdr want result =
      if q.orderBy.isEmpty then
        if (match q.from_ with | some (.table _) => true | _ => false) &&
            !(q.list.any fun d => isAgg d.item) && q.groupBy.isEmpty then result == cut q.lim want
        else if q.lim.offsetActive || q.lim.limitActive then
          result.length == (cut q.lim want).length && subMultiset result want
        else sameMultiset result want
      else
        match sortKeys q hdr with
        | none => false
        | some keys =>
          result.length == (cut q.lim (sortRows keys want)).length && sortedBy keys result &&
          result.map (keyProj keys) == (cut q.lim (sortRows keys want)).map (keyProj keys) &&
          subMultiset result want := by
  unfold satisfies
  simp only [cut_eq]
  rfl

theorem cut_inactive {lim : LimitOffset} (h : (lim.offsetActive || lim.limitActive) = false)
    (l : List Row) : cut lim l = l := by
  rw [Bool.or_eq_false_iff] at h
  unfold cut
  simp only [h.1, h.2, Bool.false_eq_true, if_false]

theorem cut_map_congr {β : Type} (f : Row → β) (lim : LimitOffset) {l l' : List Row}
    (h : l.map f = l'.map f) : (cut lim l).map f = (cut lim l').map f := by
  unfold cut
  dsimp only
  split <;> split <;> simp only [List.map_take, List.map_drop, h]

/-- the test `Spec.satisfies` makes to decide for the exact comparison: one table, no aggregate, no
GROUP BY -/
def comparedExactly (q : Select) : Bool :=
  (match q.from_ with | some (.table _) => true | _ => false) &&
    !(q.list.any fun d => isAgg d.item) && q.groupBy.isEmpty

theorem comparedExactly_iff {q : Select} :
    comparedExactly q = true ↔ (∃ t, q.from_ = some (.table t)) ∧ groups q = false := by
  unfold comparedExactly groups
  rw [any_isAgg_eq_hasAggr, Bool.and_assoc, Bool.and_eq_true]
  refine and_congr ?_ (by cases hasAggr q.list <;> cases q.groupBy.isEmpty <;> simp)
  cases q.from_ with
  | none => simp
  | some tr => cases tr <;> simp

/-- no ORDER BY, compared exactly: the judge accepts the insertion order only - the meaning as it
is, cut -/
theorem satisfies_no_order_by_iff {q : Select} (hdr : List Field) (want result : List Row)
    (hob : q.orderBy = []) (hm : comparedExactly q = true) :
    satisfies q hdr want result = true ↔ result = cut q.lim want := by
  rw [satisfies_eq]
  unfold comparedExactly at hm
  simp only [hob, hm, List.isEmpty_nil, if_true, beq_iff_eq]

/-- no ORDER BY, compared as a multiset (a join, an aggregate or a GROUP BY): a permutation of the
meaning, cut, satisfies it -/
theorem satisfies_multiset {q : Select} (hdr : List Field) {want got : List Row}
    (hob : q.orderBy = []) (hm : comparedExactly q = false) (hp : got.Perm want) :
    satisfies q hdr want (cut q.lim got) = true := by
  rw [satisfies_eq]
  unfold comparedExactly at hm
  simp only [hob, List.isEmpty_nil, if_true, hm, Bool.false_eq_true, if_false]
  split
  · rw [Bool.and_eq_true, beq_iff_eq]
    exact ⟨cut_length_congr _ hp.length_eq, subMultiset_of_sublist_perm (cut_sublist _ _) hp⟩
  · rename_i hl
    rw [cut_inactive (by simpa using hl)]
    exact sameMultiset_of_perm hp

/-- ORDER BY: the judge compares with the sorted meaning, cut: the length, the sequence of key values
and, as multisets, the rows; and it asks for a sorted result -/
theorem satisfies_order_by_iff {q : Select} {hdr : List Field} {keys : List (Nat × Bool)}
    {want result : List Row} (hob : q.orderBy ≠ []) (hk : sortKeys q hdr = some keys) :
    satisfies q hdr want result = true ↔
      result.length = (cut q.lim (sortRows keys want)).length ∧ sortedBy keys result = true ∧
      result.map (keyProj keys) = (cut q.lim (sortRows keys want)).map (keyProj keys) ∧
      subMultiset result want = true := by
  rw [satisfies_eq]
  have hne : q.orderBy.isEmpty = false := List.isEmpty_eq_false_iff.2 hob
  simp only [hne, Bool.false_eq_true, if_false, hk]
  rw [Bool.and_eq_true, Bool.and_eq_true, Bool.and_eq_true, beq_iff_eq, beq_iff_eq, and_assoc, and_assoc]

/-- ORDER BY: a sorted permutation of the meaning that shows the key sequence of the sorted meaning,
cut, satisfies it -/
theorem satisfies_sorted {q : Select} {hdr : List Field} {keys : List (Nat × Bool)}
    {want out : List Row} (hob : q.orderBy ≠ []) (hk : sortKeys q hdr = some keys)
    (hp : out.Perm want) (hs : sortedBy keys out = true)
    (hseq : out.map (keyProj keys) = (sortRows keys want).map (keyProj keys)) :
    satisfies q hdr want (cut q.lim out) = true :=
  (satisfies_order_by_iff hob hk).2 ⟨cut_length_congr _ (hp.trans (sortRows_perm keys want).symm).length_eq,
    sortedBy_cut _ _ _ hs, cut_map_congr _ _ hseq, subMultiset_of_sublist_perm (cut_sublist _ _) hp⟩

theorem sortKeys_nil {q : Select} (hdr : List Field) (hob : q.orderBy = []) :
    sortKeys q hdr = some [] := by
  unfold sortKeys; rw [hob]; rfl

theorem keys_nil_of_no_order_by {q : Select} {hdr : List Field} {keys : List (Nat × Bool)}
    (hob : q.orderBy = []) (hk : Spec.sortKeys q hdr = some keys) : keys = [] := by
  rw [sortKeys_nil hdr hob] at hk
  exact (Option.some.inj hk).symm

end Mkdb.Exec.MeaningP
