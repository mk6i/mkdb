import Mkdb.Proofs.ReplayInsert
import Mkdb.Proofs.TornHist
/-!
One record of the replay on a data file whose leaf pages are, each, as of some moment of a history.

`k o` = the number of log records the page at offset `o` had seen when it was last written.  After `i`
records of the replay the store holds, at the leaf offset `o`, the page `mixAt c k ρ i o`: the flushed
version `c (k o) o` (clean) while `i < k o` - the page is *ahead* of the replay -, and the live page of
time `i` afterwards (dirty iff a record was redone on it, `ρ`).  If the record's page is ahead the
record is skipped (page LSN) or tolerated (INSERT of a key the leaf holds) and nothing changes
(`torn_step_ahead`); if it is current the record is redone exactly as the live statement did it
(`torn_step_cur`): the pages the replay sees have the keys of the moment, all below the key of a logged
INSERT (`Hist.keys_mix`, `fresh_in_mix`), and the root page it sees is older than the record
(`rootLSN_mix_lt`).
-/
set_option autoImplicit false
namespace Mkdb.Store
open Mkdb.Page Mkdb.Tuple Mkdb.Generated Mkdb.Tree Mkdb.Engine

/-- the leaf pages the replay sees after `i` records -/
def mixAt (c : Nat → Pages) (k : Nat → Nat) (ρ : Nat → Bool) (i : Nat) : Pages :=
  fun o => if i < k o then ((c (k o) o).1, false) else ((c i o).1, ρ o)

theorem mixAt_ahead {c : Nat → Pages} {k : Nat → Nat} {ρ : Nat → Bool} {i o : Nat} (h : i < k o) :
    mixAt c k ρ i o = ((c (k o) o).1, false) := by simp [mixAt, h]

theorem mixAt_cur {c : Nat → Pages} {k : Nat → Nat} {ρ : Nat → Bool} {i o : Nat} (h : k o ≤ i) :
    mixAt c k ρ i o = ((c i o).1, ρ o) := by
  have : ¬ i < k o := by omega
  simp [mixAt, this]

theorem mixAt_succ_other {c : Nat → Pages} {k : Nat → Nat} {ρ : Nat → Bool} {i os : Nat} {q : Leaf × Bool}
    (hc' : c (i + 1) = setAt (c i) os q) (hρ : ∀ o, ρ o = true → k o ≤ i) {o : Nat} (ho : o = os → i < k os) :
    mixAt c k ρ (i + 1) o = mixAt c k ρ i o := by
  by_cases h1 : i + 1 < k o
  · rw [mixAt_ahead h1, mixAt_ahead (by omega)]
  · by_cases h2 : k o = i + 1
    · rw [mixAt_cur (by omega), mixAt_ahead (by omega), h2]
      have : ρ o = false := by
        cases hr : ρ o with
        | false => rfl
        | true => have := hρ o hr; omega
      rw [this]
    · have hne : o ≠ os := by intro e; subst e; have := ho rfl; omega
      rw [mixAt_cur (by omega), mixAt_cur (by omega), hc', setAt_other _ _ _ hne]

theorem mixAt_succ_ahead {c : Nat → Pages} {k : Nat → Nat} {ρ : Nat → Bool} {i os : Nat} {q : Leaf × Bool}
    (hc' : c (i + 1) = setAt (c i) os q) (hah : i < k os) (hρ : ∀ o, ρ o = true → k o ≤ i) :
    mixAt c k ρ (i + 1) = mixAt c k ρ i :=
  funext fun _ => mixAt_succ_other hc' hρ fun _ => hah

theorem mixAt_succ_cur {c : Nat → Pages} {k : Nat → Nat} {ρ : Nat → Bool} {i os : Nat} {l' : Leaf}
    (hc' : c (i + 1) = setAt (c i) os (l', true)) (hcur : k os ≤ i) (hρ : ∀ o, ρ o = true → k o ≤ i) :
    mixAt c k (fun o => if o = os then true else ρ o) (i + 1) = setAt (mixAt c k ρ i) os (l', true) := by
  funext o
  by_cases e : o = os
  · subst e
    rw [setAt_same, mixAt_cur (by omega), hc', setAt_same]
    simp
  · rw [setAt_other _ _ _ e, ← mixAt_succ_other hc' hρ (fun h => absurd h e)]
    simp [mixAt, e]

section
variable {pt sch : Levels} {D0 : List (Bytes × Levels)} {nf K : Nat} {log : List WalRec} {c : Nat → Pages}

theorem Hist.mix_filed (H : Hist pt sch D0 nf K log c) (k : Nat → Nat) (hk : ∀ o, k o ≤ log.length) (ρ : Nat → Bool)
    {i : Nat} (hi : i ≤ log.length) : ∀ e ∈ D0, PFiled (mixAt c k ρ i) e.2 := by
  intro e he p hp
  unfold mixAt
  split
  · exact H.filed _ (hk _) e he p hp
  · exact H.filed _ hi e he p hp

theorem mem_keysOf_leafApp (l : Leaf) (key lsn : Nat) (buf : Bytes) (d : Bool) :
    key ∈ keysOf (leafApp l key lsn buf, d) := by
  simp [keysOf, leafApp]

theorem keys_of_leaf_mem {t : Levels} {p : Leaf × Bool} (hp : p ∈ t.leaves) {k : Nat} (hk : k ∈ keysOf p) :
    k ∈ keys t := by
  obtain ⟨x, hx, rfl⟩ := List.mem_map.mp hk
  exact List.mem_map.mpr ⟨x, leaf_cells_sub (l := p.1) (d := p.2) hp x hx, rfl⟩

/-- **The record's page is ahead of the replay**: the record is skipped by the page LSN, or - an INSERT
below an internal root - tolerated because the leaf already holds the key.  Nothing visible changes. -/
theorem torn_step_ahead (H : Hist pt sch D0 nf K log c) (k : Nat → Nat) (hk : ∀ o, k o ≤ log.length)
    (ρ : Nat → Bool) {i : Nat} (hi : i < log.length) (r : Store)
    (hcat : Cat r pt sch (fillT (mixAt c k ρ i) D0)) (hnf : r.hdr.nextFree = nf)
    (hρ : ∀ o, ρ o = true → k o ≤ i)
    {table : Bytes} {t0 : Levels} {o : Nat} {l l' : Leaf} (ht : (table, t0) ∈ D0) (ho : o ∈ leafOffs t0)
    (hc' : c (i + 1) = setAt (c i) o (l', true))
    (hkind : StepKind nf (c i) t0 o l log[i] l')
    (htail : ∀ j', i + 1 ≤ j' → j' ≤ log.length →
      log[i].lsn ≤ (c j' o).1.lsn ∧ ∀ x ∈ keysOf (l', true), x ∈ keysOf (c j' o))
    (hah : i < k o) :
    ∃ r', replayOne log[i] r = (r', none, false) ∧ Cat r' pt sch (fillT (mixAt c k ρ (i + 1)) D0) ∧
      r'.hdr.nextFree = nf := by
  rw [mixAt_succ_ahead hc' hah hρ]
  have hfe := H.mix_filed k hk ρ (Nat.le_of_lt hi)
  have htE : (table, fill (mixAt c k ρ i) t0) ∈ fillT (mixAt c k ρ i) D0 := mem_fillT ht
  obtain ⟨hHt, hIt, _, _, _⟩ := hcat.tree _ (Cat.tb_mem htE)
  have heo : mixAt c k ρ i o = ((c (k o) o).1, false) := mixAt_ahead hah
  have hoff : (c (k o) o).1.off = o := H.step_off (hk o) ht ho
  have hmem : ((c (k o) o).1, false) ∈ (fill (mixAt c k ρ i) t0).leaves := heo ▸ fill_leaf_mem ho
  have hview : view r o = some (.leaf (c (k o) o).1, false) := by
    have := holds_leaf hHt hmem
    simp only at this
    rw [hoff] at this
    exact this
  obtain ⟨hl1, hl2⟩ := htail (k o) (by omega) (hk o)
  -- a record naming the leaf page itself is skipped
  have skip : ∀ rec : WalRec, rec.page = o → rec.lsn = log[i].lsn →
      ∃ r', replayOne rec r = (r', none, false) ∧ Cat r' pt sch (fillT (mixAt c k ρ i) D0) ∧ r'.hdr.nextFree = nf := by
    intro rec hp hl
    obtain ⟨s1, e1, _, hh, hc⟩ := replay_skips_applied rec r (.leaf (c (k o) o).1) false (by rw [hp]; exact hview)
      (by rw [hp]; exact hoff) (by rw [hl]; exact hl1)
    exact ⟨s1, e1, hc _ _ _ hcat, by rw [hh]; exact hnf⟩
  generalize log[i] = rec at hkind hl1 skip ⊢
  induction rec, l', hkind using StepKind.cellCases with
  | ins pre p0 key lsn buf hl' hpo hfresh hv hcap hbig =>
    have hkey : key ∈ keys (fill (mixAt c k ρ i) t0) := by
      apply keys_of_leaf_mem hmem
      exact hl2 _ (mem_keysOf_leafApp l key lsn buf true)
    obtain ⟨s1, e1, _, hh, hc⟩ := replay_tolerates_present r pt sch _ hcat table _ htE key lsn buf hkey
    rw [rootOff_fill (hfe _ ht)] at e1
    exact ⟨s1, e1, hc, by rw [hh]; exact hnf⟩
  | cell rec f _ hpage _ _ => exact skip _ hpage rfl

end

section
variable {pt sch : Levels} {D0 : List (Bytes × Levels)} {nf K : Nat} {log : List WalRec} {c : Nat → Pages}

theorem Hist.inv_at (H : Hist pt sch D0 nf K log c) {j : Nat} (hj : j ≤ log.length) {table : Bytes} {t0 : Levels}
    (ht : (table, t0) ∈ D0) : Inv (fill (c j) t0) nf := by
  obtain ⟨s, hc, hn, _⟩ := H.snap j hj
  have := (hc.tree _ (Cat.tb_mem (mem_fillT (c := c j) ht))).2.1
  rw [hn] at this
  exact this

/-- **Once the last leaf is current the mixture has the keys of moment `i`**: the key list of a leaf other than
the last never changes (`Hist.keys_const`). -/
theorem Hist.keys_mix (H : Hist pt sch D0 nf K log c) (k : Nat → Nat) (hk : ∀ o, k o ≤ log.length) (ρ : Nat → Bool)
    {i : Nat} (hi : i ≤ log.length) {table : Bytes} {t0 : Levels} (ht : (table, t0) ∈ D0)
    {pre : List (Leaf × Bool)} {p0 : Leaf × Bool} (hl : t0.leaves = pre ++ [p0]) (hcur : k p0.1.off ≤ i) :
    keys (fill (mixAt c k ρ i) t0) = keys (fill (c i) t0) := by
  rw [keys_fill, keys_fill, List.flatMap_def, List.flatMap_def]
  congr 1
  apply List.map_congr_left
  intro p hp
  by_cases h : k p.1.off ≤ i
  · rw [mixAt_cur h]; rfl
  · rw [mixAt_ahead (by omega)]
    rw [hl] at hp
    rcases List.mem_append.mp hp with hp | hp
    · exact H.keys_const (hk _) hi ht hl hp
    · rw [List.mem_singleton.mp hp] at h
      exact absurd hcur h

theorem fresh_in_mix (H : Hist pt sch D0 nf K log c) (k : Nat → Nat) (hk : ∀ o, k o ≤ log.length) (ρ : Nat → Bool)
    {i : Nat} (hi : i ≤ log.length) {table : Bytes} {t0 : Levels} (ht : (table, t0) ∈ D0)
    {pre : List (Leaf × Bool)} {p0 : Leaf × Bool} (hl : t0.leaves = pre ++ [p0]) (hcur : k p0.1.off ≤ i) {key : Nat}
    (hfresh : ∀ x ∈ cells (fill (c i) t0), x.key < key) : ∀ x ∈ cells (fill (mixAt c k ρ i) t0), x.key < key := by
  intro x hx
  have hx' : x.key ∈ keys (fill (c i) t0) := H.keys_mix k hk ρ hi ht hl hcur ▸ List.mem_map.mpr ⟨x, hx, rfl⟩
  obtain ⟨y, hy, e⟩ := List.mem_map.mp hx'
  exact e ▸ hfresh y hy

theorem rootLSN_mix_lt (H : Hist pt sch D0 nf K log c) (k : Nat → Nat) (ρ : Nat → Bool)
    {i : Nat} (hi : i ≤ log.length) {table : Bytes} {t0 : Levels} (ht : (table, t0) ∈ D0)
    {pre : List (Leaf × Bool)} {p0 : Leaf × Bool} (hl : t0.leaves = pre ++ [p0]) (hcur : k p0.1.off ≤ i)
    {lsn : Nat} (hlsn : ∀ x ∈ flatten (fill (c i) t0), nodeLSN x.2.1 < lsn) :
    rootLSN (fill (mixAt c k ρ i) t0) < lsn := by
  have hIi := H.inv_at hi ht
  have hsame : rootLSN (fill (mixAt c k ρ i) t0) = rootLSN (fill (c i) t0) := by
    rcases eq_nil_or_snoc t0.inner with hin | ⟨lo, top, hin⟩
    · have hlk := hIi.link
      unfold LinkOK at hlk
      rw [fill_inner, hin] at hlk
      simp only [linked, List.length_map, fill_leaves_length] at hlk
      have hpre : pre = [] := by
        rw [hl] at hlk
        simp only [List.length_append, List.length_cons, List.length_nil] at hlk
        exact List.length_eq_zero_iff.mp (by omega)
      unfold rootLSN
      rw [fill_inner, fill_inner, hin]
      simp only [List.getLast?_nil, fill_leaves, hl, hpre, List.nil_append, List.map_cons, List.map_nil,
        List.head?_cons, Option.map_some, Option.getD_some]
      rw [mixAt_cur hcur]
    · unfold rootLSN
      rw [fill_inner, fill_inner, hin]
      simp only [List.getLast?_append, List.getLast?_singleton, Option.some_or]
  rw [hsame]
  obtain ⟨n, d, hm, _, hln⟩ := root_entry_lsn (fill (c i) t0) nf hIi
  rw [← hln]
  exact hlsn _ hm

/-- **The record's page is current**: the record is redone, and the store then holds the live page of
the moment after the record, dirty. -/
theorem torn_step_cur (H : Hist pt sch D0 nf K log c) (hself : PtSelf pt) (k : Nat → Nat)
    (hk : ∀ o, k o ≤ log.length) (ρ : Nat → Bool) {i : Nat} (hi : i < log.length) (r : Store)
    (hcat : Cat r pt sch (fillT (mixAt c k ρ i) D0)) (hnf : r.hdr.nextFree = nf)
    (hρ : ∀ o, ρ o = true → k o ≤ i)
    {table : Bytes} {t0 : Levels} {o : Nat} {l l' : Leaf} {d : Bool} (ht : (table, t0) ∈ D0) (ho : o ∈ leafOffs t0)
    (hc : c i o = (l, d)) (hc' : c (i + 1) = setAt (c i) o (l', true))
    (hlsn : ∀ x ∈ flatten (fill (c i) t0), nodeLSN x.2.1 < log[i].lsn)
    (hkind : StepKind nf (c i) t0 o l log[i] l') (hcur : k o ≤ i) :
    ∃ r', replayOne log[i] r = (r', none, false) ∧
      Cat r' pt sch (fillT (mixAt c k (fun x => if x = o then true else ρ x) (i + 1)) D0) ∧
      r'.hdr.nextFree = nf := by
  rw [mixAt_succ_cur hc' hcur hρ]
  have hfe := H.mix_filed k hk ρ (Nat.le_of_lt hi)
  have htE : (table, fill (mixAt c k ρ i) t0) ∈ fillT (mixAt c k ρ i) D0 := mem_fillT ht
  obtain ⟨hHt, hIt, hdt, hlt, _⟩ := hcat.tree _ (Cat.tb_mem htE)
  have heo : mixAt c k ρ i o = (l, ρ o) := by rw [mixAt_cur hcur, hc]
  have hm : (l, ρ o) ∈ (fill (mixAt c k ρ i) t0).leaves := heo ▸ fill_leaf_mem ho
  have hset := setTable_fill_setAt H.skel ht ho (mixAt c k ρ i) (l', true)
  have hlo : l.off = o := (H.filed _ (Nat.le_of_lt hi) _ ht).off ho hc
  generalize log[i] = rec at hkind hlsn ⊢
  induction rec, l', hkind using StepKind.cellCases with
  | ins pre p0 key lsn buf hl' hpo hfresh hv hcap hbig =>
    subst hpo
    have hfreshE := fresh_in_mix H k hk ρ (Nat.le_of_lt hi) ht hl' hcur hfresh
    have hins := insertAppend_fill (c := mixAt c k ρ i) (nf := nf) hl' (H.lnd _ ht) heo
      (fun x hx => Nat.ne_of_lt (hfreshE x hx)) (fun x hx => hfreshE x (leaf_cells_sub hm x hx)) hv hcap
    have hroot := rootLSN_mix_lt H k ρ (Nat.le_of_lt hi) ht hl' hcur hlsn
    have hposR : 0 < rootOff (fill (mixAt c k ρ i) t0) := by rw [rootOff_fill (hfe _ ht)]; exact H.pos _ ht
    obtain ⟨s', ptF, e1, hc1, _, hnf', _, _, _, _, hcase, _⟩ := replay_insert_record r pt sch _ hcat hself table _ htE key lsn
      buf hroot hposR _ nf (by rw [hnf]; exact hins) (by rw [fill_inner]; rw [fill_inner] at hdt; exact hdt)
      (by rw [fill_leaves_length]; rw [fill_leaves_length] at hlt; exact hlt) hbig
    have hpF : ptF = pt := by
      rcases hcase with ⟨_, h2⟩ | ⟨h1, _⟩
      · exact h2
      · exfalso
        apply h1
        rw [rootOff_fill ((hfe _ ht).setAt (q := (leafApp l key lsn buf, true)) hlo), rootOff_fill (hfe _ ht)]
    rw [hpF, hset] at hc1
    rw [rootOff_fill (hfe _ ht)] at e1
    exact ⟨s', e1, hc1, hnf'⟩
  | cell rec f hcr hpage hany _ =>
    obtain ⟨r', e1, hc1, hh1, _⟩ := replay_cell_record r pt sch _ hcat table _ htE l (ρ o) hm rec f hcr
      (hpage.trans hlo.symm) hany (fill_leaf_lsn ho hc hlsn)
    rw [updLeaves_fill _ _ _ (hfe _ ht) hIt.asc ho heo hany] at hc1
    rw [← hset]
    exact ⟨r', e1, hc1, by rw [hh1]; exact hnf⟩

/-- **One record of the replay** on a store whose leaf pages are `mixAt … i`. -/
theorem torn_step (H : Hist pt sch D0 nf K log c) (hself : PtSelf pt) (k : Nat → Nat)
    (hk : ∀ o, k o ≤ log.length) (ρ : Nat → Bool) {i : Nat} (hi : i < log.length) (r : Store)
    (hcat : Cat r pt sch (fillT (mixAt c k ρ i) D0)) (hnf : r.hdr.nextFree = nf)
    (hρ : ∀ o, ρ o = true → k o ≤ i)
    (hcl : ∀ o, ρ o = false → k o ≤ i → (c i o).1 = (c (k o) o).1) :
    ∃ r' ρ', replayOne log[i] r = (r', none, false) ∧ Cat r' pt sch (fillT (mixAt c k ρ' (i + 1)) D0) ∧
      r'.hdr.nextFree = nf ∧ (∀ o, ρ' o = true → k o ≤ i + 1) ∧
      (∀ o, ρ' o = false → k o ≤ i + 1 → (c (i + 1) o).1 = (c (k o) o).1) := by
  obtain ⟨table, t0, o, l, d, l', ht, ho, hc, hc', hlsn, hkind, htail⟩ := H.at_step hi
  -- a clean page other than the record's, or ahead of the replay, is still the page of the data file
  have hcl' : ∀ x, (x = o → i < k o) → ρ x = false → k x ≤ i + 1 → (c (i + 1) x).1 = (c (k x) x).1 := by
    intro x hxo hx hkx
    by_cases h2 : k x = i + 1
    · rw [h2]
    · have hne : x ≠ o := by intro e; subst e; have := hxo rfl; omega
      rw [hc', setAt_other _ _ _ hne]
      exact hcl x hx (by omega)
  by_cases hah : i < k o
  · obtain ⟨r', e1, hc1, hn1⟩ := torn_step_ahead H k hk ρ hi r hcat hnf hρ ht ho hc' hkind htail hah
    exact ⟨r', ρ, e1, hc1, hn1, fun x hx => Nat.le_succ_of_le (hρ x hx), fun x => hcl' x fun _ => hah⟩
  · have hcur : k o ≤ i := by omega
    obtain ⟨r', e1, hc1, hn1⟩ := torn_step_cur H hself k hk ρ hi r hcat hnf hρ ht ho hc hc' hlsn hkind hcur
    refine ⟨r', _, e1, hc1, hn1, ?_, ?_⟩
    · intro x hx
      by_cases e : x = o
      · subst e; omega
      · simp only [e, if_false] at hx
        exact Nat.le_succ_of_le (hρ x hx)
    · intro x hx
      by_cases e : x = o
      · subst e; simp at hx
      · simp only [e, if_false] at hx
        exact hcl' x (fun h => absurd h e) hx

end

end Mkdb.Store
