import Mkdb.Proofs.StoreDecEq
import Mkdb.Proofs.UnchangedWrites
/-!
C14: CREATE TABLE that is refused.

`createTable` pre-validates: existence, column lengths (`intOutOfRange`) and repeated column names
(`fieldAmbiguous`) - `checkFieldsFrom` -, and - `checkCatalogRows` -
that the `sys_pages` row and every `sys_schema` row of the new table encode and fit a page cell.
A pre-validation failure returns in the store the (read-only) catalog lookup left.  After a passed
pre-validation the body calls `btInsert` with exactly the buffers that were measured (the
`sys_pages` row is re-encoded with the real offset: same length), so the body cannot fail with
`rowTooLarge`; nor can `updatePageTable … "sys_schema"` (its row is 24 bytes).
-/
set_option autoImplicit false
namespace Mkdb.Store
open Mkdb.Page Mkdb.Tuple Mkdb.Generated Mkdb.Bin

/-! ### the flush cannot fail; the page-table row CREATE TABLE writes -/

theorem ErrIn.flushPages {P : SErr → Prop} (order : List Nat) : ErrIn P (flushPages order) := by
  intro s e s' h; cases h

/-- the row `insertPageTable` writes has the same length as the row `checkCatalogRows` measured
(offset 0): `file_offset` is a fixed-width `bigint` -/
theorem encode_newPagesRow (name : Bytes) (off : Nat) :
    encodeTuple pageTableSchema [("table_name", Val.str name), ("file_offset", Val.int off)]
      = .ok (ptRow name off) :=
  encode_ptRow _ name off (by simp [Tuple.get]) (by simp [Tuple.get])

/-! ### CREATE TABLE -/

theorem checkCatalogRows_none {fields : List FieldDef} {name : Bytes}
    (h : checkCatalogRows fields name = none) :
    name.length + 14 ≤ c_maxValueSize ∧
    ∀ fd ∈ fields, ∃ b, encodeTuple schemaTableSchema (schemaRow name fd) = .ok b ∧
      b.length ≤ c_maxValueSize := by
  unfold checkCatalogRows at h
  simp only [List.findSome?_eq_none_iff, List.mem_cons, List.mem_map] at h
  constructor
  · have h0 := h _ (.inl rfl)
    simp only at h0
    have henc := encode_newPagesRow name 0
    simp only [Int.natCast_zero] at henc  -- `((0 : Nat) : Int)` is the literal `0`
    rw [henc] at h0
    simp only [ptRow_length] at h0
    by_cases hgt : name.length + 14 > c_maxValueSize
    · rw [if_pos hgt] at h0; cases h0
    · omega
  · intro fd hfd
    have h1 := h _ (.inr ⟨fd, hfd, rfl⟩)
    simp only at h1
    show ∃ b, encodeTuple schemaTableSchema (schemaRow name fd) = .ok b ∧ _
    unfold schemaRow
    split at h1
    · rename_i b hb
      refine ⟨b, hb, ?_⟩
      by_cases hgt : b.length > c_maxValueSize
      · rw [if_pos hgt] at h1; cases h1
      · omega
    · cases h1
    · cases h1
    · cases h1

/-- the errors the body of CREATE TABLE can return after a passed pre-validation:
`rowTooLarge` is not among them -/
def BodyErr (e : SErr) : Prop :=
  e = .keyExists ∨ e = .decode ∨ e = .tableNotExist ∨ e = .pageTableEntryMissing ∨ e = .cellNotFound

theorem insertPageTable_errIn (pageOff : Nat) (name : Bytes)
    (hname : name.length + 14 ≤ c_maxValueSize) :
    ErrIn (fun e => e = .keyExists) (insertPageTable pageOff name) := by
  unfold insertPageTable
  refine ErrIn.bind_post (OkPost.encodeRow _ _) (encodeRow_noErr ⟨_, encode_newPagesRow _ _⟩)
    (fun buf hbuf => ?_)
  have hlen : buf.length ≤ c_maxValueSize := by
    rw [encode_newPagesRow] at hbuf
    cases hbuf
    rw [ptRow_length]; exact hname
  refine ErrIn.bind ErrIn.getS (fun s => ?_)
  refine ErrIn.bind (ErrIn.fetch _) (fun _ => ?_)
  refine ErrIn.bind (btInsert_fits _ _ hlen) (fun r => ?_)
  obtain ⟨bt, _, _⟩ := r
  exact ErrIn.bind ErrIn.getS fun _ => ErrIn.ite (fun _ => ErrIn.modifyS _) fun _ => ErrIn.pure _

theorem sysSchemaName_short : "sys_schema".toUTF8.toList.length + 14 ≤ c_maxValueSize := by
  decide +kernel

/-- `insertSchemaRows` with rows that were measured: `btInsert` gets exactly the measured buffers -/
theorem insertSchemaRows_errIn (fields : List FieldDef) (name : Bytes) (root : Nat)
    (hrows : ∀ fd ∈ fields, ∃ b, encodeTuple schemaTableSchema (schemaRow name fd) = .ok b ∧
      b.length ≤ c_maxValueSize) :
    ErrIn BodyErr (insertSchemaRows fields name root) := by
  induction fields generalizing root with
  | nil => exact ErrIn.pure _
  | cons fd rest ih =>
    have ih' := fun r => ih r (fun fd' h' => hrows fd' (List.mem_cons_of_mem _ h'))
    obtain ⟨b, hb, hblen⟩ := hrows fd List.mem_cons_self
    refine ErrIn.bind_post (OkPost.encodeRow _ _) (encodeRow_noErr ⟨b, hb⟩) (fun buf hbuf => ?_)
    have hlen : buf.length ≤ c_maxValueSize := by
      have : encodeTuple schemaTableSchema (schemaRow name fd) = .ok buf := hbuf
      rw [hb] at this; cases this; exact hblen
    refine ErrIn.bind ((btInsert_fits _ _ hlen).mono (fun e he => .inl he)) (fun r => ?_)
    split
    split
    · refine ErrIn.bind ((updatePageTable_errIn_short _ _ sysSchemaName_short).mono ?_)
        (fun _ => ih' _)
      intro e he
      rcases he with rfl | rfl | rfl
      · exact .inr (.inr (.inr (.inl rfl)))
      · exact .inr (.inl rfl)
      · exact .inr (.inr (.inr (.inr rfl)))
    · exact ih' _

/-- After a passed pre-validation the body cannot fail with `rowTooLarge` (nor with any encode
error): no catalog invariant is needed. -/
theorem createBody_errIn (fields : List FieldDef) (name : Bytes) (flushOrder : List Nat)
    (doFlush : Bool) (hchk : checkCatalogRows fields name = none) :
    ErrIn BodyErr (createBody fields name flushOrder doFlush) := by
  obtain ⟨hname, hrows⟩ := checkCatalogRows_none hchk
  unfold createBody
  refine ErrIn.bind ?_ fun _ => ErrIn.ite (fun _ => ErrIn.flushPages _) fun _ => ErrIn.pure _
  unfold createBodyNF
  exact ErrIn.bind (ErrIn.appendNode _ _) fun pgOff =>
    ErrIn.bind ((insertPageTable_errIn _ _ hname).mono fun e he => .inl he) fun _ =>
    ErrIn.bind (ErrIn.relationOffset (.inr (.inl rfl)) (.inr (.inr (.inl rfl))) _) fun schemaRoot =>
    ErrIn.bind (ErrIn.fetch _) fun _ => insertSchemaRows_errIn _ _ _ hrows

theorem createTable_exists_err (fields : List FieldDef) (name : Bytes) (flushOrder : List Nat)
    (doFlush : Bool) (s s1 : Store) (off : Nat) (hf : Filed s)
    (h : relationOffset name s = .ok off s1) :
    createTable fields name flushOrder doFlush s = .err .tableAlreadyExist s1 ∧
      Filed s1 ∧ SameData s s1 := by
  refine ⟨?_, (ReadOnly.relationOffset name).ok hf h⟩
  rw [createTable_eq, bind_err (checkAbsent_of_found h)]

theorem checkFieldsFrom_some {seen : List String} {fields : List FieldDef} {e : SErr}
    (h : checkFieldsFrom seen fields = some e) : e = .intOutOfRange ∨ e = .fieldAmbiguous := by
  induction fields generalizing seen with
  | nil => cases h
  | cons fd rest ih =>
    unfold checkFieldsFrom at h
    split at h
    · cases h; exact .inl rfl
    · split at h
      · cases h; exact .inr rfl
      · exact ih h

theorem checkFieldsFrom_of_len {seen : List String} {fields : List FieldDef}
    (hlen : fields.any (fun fd => fd.len > 2147483647 || fd.len < -2147483648) = true) :
    ∃ e, checkFieldsFrom seen fields = some e := by
  induction fields generalizing seen with
  | nil => cases hlen
  | cons fd rest ih =>
    unfold checkFieldsFrom
    split
    · exact ⟨_, rfl⟩
    · split
      · exact ⟨_, rfl⟩
      · rename_i h1 _
        rw [List.any_cons, Bool.or_eq_true] at hlen
        rcases hlen with hl | hl
        · exact absurd hl h1
        · exact ih hl

theorem checkFieldsFrom_none_len {seen : List String} {fields : List FieldDef}
    (h : checkFieldsFrom seen fields = none) :
    fields.any (fun fd => fd.len > 2147483647 || fd.len < -2147483648) = false := by
  cases hany : fields.any (fun fd => fd.len > 2147483647 || fd.len < -2147483648) with
  | false => rfl
  | true =>
    obtain ⟨e, he⟩ := checkFieldsFrom_of_len (seen := seen) hany
    rw [h] at he; cases he

theorem createTable_fields_err (fields : List FieldDef) (name : Bytes) (flushOrder : List Nat)
    (doFlush : Bool) (s s1 : Store) (e : SErr) (hf : Filed s)
    (h : relationOffset name s = .err .tableNotExist s1)
    (hfld : checkFieldsFrom [] fields = some e) :
    createTable fields name flushOrder doFlush s = .err e s1 ∧ Filed s1 ∧ SameData s s1 := by
  refine ⟨?_, (ReadOnly.relationOffset name).err hf h⟩
  rw [createTable_eq, bind_ok (checkAbsent_ok.mpr h)]
  simp only [hfld]
  rfl

theorem createTable_length_err (fields : List FieldDef) (name : Bytes) (flushOrder : List Nat)
    (doFlush : Bool) (s s1 : Store) (hf : Filed s)
    (h : relationOffset name s = .err .tableNotExist s1)
    (hlen : fields.any (fun fd => fd.len > 2147483647 || fd.len < -2147483648) = true) :
    (createTable fields name flushOrder doFlush s = .err .intOutOfRange s1 ∨
      createTable fields name flushOrder doFlush s = .err .fieldAmbiguous s1) ∧
      Filed s1 ∧ SameData s s1 := by
  obtain ⟨e, he⟩ := checkFieldsFrom_of_len (seen := []) hlen
  obtain ⟨h1, h2⟩ := createTable_fields_err fields name flushOrder doFlush s s1 e hf h he
  refine ⟨?_, h2⟩
  rcases checkFieldsFrom_some he with rfl | rfl
  · exact .inl h1
  · exact .inr h1

theorem createTable_prevalidation_err (fields : List FieldDef) (name : Bytes)
    (flushOrder : List Nat) (doFlush : Bool) (s s1 : Store) (e : SErr) (hf : Filed s)
    (h : relationOffset name s = .err .tableNotExist s1)
    (hfld : checkFieldsFrom [] fields = none)
    (hchk : checkCatalogRows fields name = some e) :
    createTable fields name flushOrder doFlush s = .err e s1 ∧ Filed s1 ∧ SameData s s1 := by
  refine ⟨?_, (ReadOnly.relationOffset name).err hf h⟩
  rw [createTable_eq, bind_ok (checkAbsent_ok.mpr h)]
  simp only [hfld, hchk]
  rfl

/-- The exact shape of an error of `createTable`: a pre-validation refusal (name taken or catalog
unreadable; column length outside `int32`; a column name used twice; a catalog row `checkCatalogRows` rejects) - nothing
changed; or the pre-validation passed and the body failed with one of `BodyErr`, after the root
page of the new table was allocated. -/
theorem createTable_err_cases (fields : List FieldDef) (name : Bytes) (flushOrder : List Nat)
    (doFlush : Bool) (s : Store) (e : SErr) (s' : Store) (hf : Filed s)
    (h : createTable fields name flushOrder doFlush s = .err e s') :
    ((e = .tableAlreadyExist ∨ e = .intOutOfRange ∨ e = .fieldAmbiguous ∨
        checkCatalogRows fields name = some e) ∧
      Filed s' ∧ SameData s s') ∨
    (∃ s1, relationOffset name s = .err .tableNotExist s1 ∧ Filed s1 ∧ SameData s s1 ∧
      checkCatalogRows fields name = none ∧
      createBody fields name flushOrder doFlush s1 = .err e s' ∧ BodyErr e) := by
  rw [createTable_eq] at h
  rcases bind_eq_err h with h1 | ⟨_, s1, h1, h2⟩
  · rw [checkAbsent_err h1]
    exact .inl ⟨.inl rfl, (ReadOnly.checkAbsent name).err hf h1⟩
  obtain ⟨f1, d1⟩ := (ReadOnly.checkAbsent name).ok hf h1
  cases hfld : checkFieldsFrom [] fields with
  | some e1 =>
    rw [hfld] at h2
    cases h2
    exact .inl ⟨(checkFieldsFrom_some hfld).elim (fun h => .inr (.inl h)) fun h => .inr (.inr (.inl h)), f1, d1⟩
  | none =>
    rw [hfld] at h2
    cases hchk : checkCatalogRows fields name with
    | some e1 =>
      rw [hchk] at h2
      cases h2
      exact .inl ⟨.inr (.inr (.inr rfl)), f1, d1⟩
    | none =>
      rw [hchk] at h2
      exact .inr ⟨s1, checkAbsent_ok.mp h1, f1, d1, rfl, h2,
        createBody_errIn fields name flushOrder doFlush hchk _ _ _ h2⟩

theorem createTable_err_of_not_bodyErr (fields : List FieldDef) (name : Bytes)
    (flushOrder : List Nat) (doFlush : Bool) (s : Store) (e : SErr) (s' : Store) (hf : Filed s)
    (h : createTable fields name flushOrder doFlush s = .err e s') (he : ¬ BodyErr e) :
    Filed s' ∧ SameData s s' := by
  rcases createTable_err_cases fields name flushOrder doFlush s e s' hf h with h1 | ⟨s1, _, _, _, _, _, hb⟩
  · exact h1.2
  · exact absurd hb he

/-- CREATE TABLE refused because the table exists (or the catalog is unreadable), because a
column length is outside `int32`, because a column name is used twice (`fieldAmbiguous`), because a
table or column name is too long (`rowTooLarge`), or with `typeMismatch` / `colCountMismatch`:
nothing changed. -/
theorem createTable_err (fields : List FieldDef) (name : Bytes) (flushOrder : List Nat)
    (doFlush : Bool) (s : Store) (e : SErr) (s' : Store) (hf : Filed s)
    (h : createTable fields name flushOrder doFlush s = .err e s')
    (he : e = .tableAlreadyExist ∨ e = .intOutOfRange ∨ e = .rowTooLarge ∨ e = .typeMismatch ∨
          e = .colCountMismatch ∨ e = .fieldAmbiguous) : Filed s' ∧ SameData s s' := by
  apply createTable_err_of_not_bodyErr fields name flushOrder doFlush s e s' hf h
  unfold BodyErr
  rcases he with rfl | rfl | rfl | rfl | rfl | rfl <;> intro hb <;>
    rcases hb with hb | hb | hb | hb | hb <;> cases hb

/-! ### non-vacuity: an over-long name on an empty catalog is refused before anything is allocated -/

/-- a catalog with no tables: one empty leaf at 4096 as the page table -/
def emptyCatalog : Store :=
  { hdr := { ptRoot := 4096, nextFree := 8192 }, mem := [],
    disk := [(4096, .leaf ⟨4096, 0, false, false, 0, 0, []⟩)],
    dhdr := { ptRoot := 4096, nextFree := 8192 } }

theorem emptyCatalog_filed : Filed emptyCatalog := by unfold Filed; decide

/-- `emptyCatalog` after the catalog lookup: the page table's leaf is cached, clean -/
def emptyCatalogRead : Store :=
  { emptyCatalog with mem := [(4096, ⟨.leaf ⟨4096, 0, false, false, 0, 0, []⟩, false⟩)] }

/-- a table name of 400 bytes: its catalog row (414 bytes) exceeds `c_maxValueSize` = 400 -/
def longName : Bytes := List.replicate 400 97

def longColumn : String := String.ofList (List.replicate 400 'c')

/-- CREATE TABLE with a 400-byte table name is refused with `rowTooLarge` by the pre-validation; the
store returned is `emptyCatalog` with the page-table leaf cached clean - nothing allocated,
nothing dirty - and by `createTable_err` it is well filed and holds the same data.  (The body allocates the root
page before it writes the catalog row; the pre-validation is what keeps `nextFree` at 8192 here.) -/
theorem createTable_longName_unchanged :
    createTable [] longName [] true emptyCatalog = .err .rowTooLarge emptyCatalogRead ∧
      Filed emptyCatalogRead ∧ SameData emptyCatalog emptyCatalogRead := by
  have heq : createTable [] longName [] true emptyCatalog = .err .rowTooLarge emptyCatalogRead := by
    decide +kernel
  exact ⟨heq, createTable_err _ _ _ _ _ _ _ emptyCatalog_filed heq (.inr (.inr (.inl rfl)))⟩

/-- An over-long name in the SECOND column - where the body would already have written the first column's
`sys_schema` row - is refused up front as well: nothing changed. -/
theorem createTable_longColumn_unchanged :
    createTable [⟨"a", .int, 0⟩, ⟨longColumn, .int, 0⟩] [116] [] true emptyCatalog
        = .err .rowTooLarge emptyCatalogRead ∧
      Filed emptyCatalogRead ∧ SameData emptyCatalog emptyCatalogRead := by
  have heq : createTable [⟨"a", .int, 0⟩, ⟨longColumn, .int, 0⟩] [116] [] true emptyCatalog
      = .err .rowTooLarge emptyCatalogRead := by decide +kernel
  exact ⟨heq, createTable_err _ _ _ _ _ _ _ emptyCatalog_filed heq (.inr (.inr (.inl rfl)))⟩

end Mkdb.Store
