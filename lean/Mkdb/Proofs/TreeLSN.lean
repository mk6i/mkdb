import Mkdb.Proofs.Forest
/-!
Levels model only.  `bubble_top` says once what the propagation of a split leaves at the top of the
levels; from it, the root page of the tree after `insertAppend` is the old root page or a page stamped
with the insert's LSN (`insertAppend_rootLSN`), and when an insert moves the root the old root page
carries the insert's LSN (`insertAppend_old_root`: the leaf that split, or the internal node whose split
made the tree grow).  Every page of the tree before a statement is, after it, the same page object or a
page at its offset stamped with the statement's LSN and marked dirty (`Tree.Touched`); so `PageLsn`
survives later statements, which carry larger LSNs.
-/

section
set_option autoImplicit false
namespace Mkdb.Store
open Mkdb.Page Mkdb.Generated Mkdb.Tree

/-- the LSN field of the root node of a tree (mirrors `rootOff`) -/
def rootLSN (t : Levels) : Nat :=
  match t.inner.getLast? with
  | some lvl => (lvl.head?.map (·.1.lsn)).getD 0
  | none => (t.leaves.head?.map (·.1.lsn)).getD 0

/-- a field of the top node of the inner levels (`dflt` when there is none): `rootOff`, `rootLSN`.  For the offset
alone there are a recursive form, `Lookup.rootOf` (`Lookup.rootOff_eq`, TreeLookup), and the whole top row, `topRow`
(`topRow_root`, Forest). -/
def topOf (f : Internal → Nat) (lvls : List (List (Internal × Bool))) (dflt : Nat) : Nat :=
  match lvls.getLast? with
  | some lvl => (lvl.head?.map (f ·.1)).getD 0
  | none => dflt

theorem rootLSN_eq (t : Levels) :
    rootLSN t = topOf (·.lsn) t.inner ((t.leaves.head?.map (·.1.lsn)).getD 0) := by
  unfold rootLSN topOf
  cases t.inner.getLast? <;> rfl

theorem rootOff_eq_topOf (t : Levels) :
    rootOff t = topOf (·.off) t.inner ((t.leaves.head?.map (·.1.off)).getD 0) := by
  unfold rootOff topOf
  cases t.inner.getLast? <;> rfl

theorem topOf_cons_ne (f : Internal → Nat) (X : List (Internal × Bool)) (B : List (List (Internal × Bool)))
    (d d' : Nat) (h : B ≠ []) : topOf f (X :: B) d = topOf f B d' := by
  cases B with
  | nil => exact absurd rfl h
  | cons b bs =>
    unfold topOf
    rw [List.getLast?_cons_cons]
    cases hb : (b :: bs).getLast? with
    | none => simp at hb
    | some x => rfl

def LevelsWF (lvls : List (List (Internal × Bool))) : Prop :=
  (∀ lvl ∈ lvls, lvl ≠ []) ∧ ∀ top, lvls.getLast? = some top → top.length = 1

theorem LevelsWF.tail {lvl : List (Internal × Bool)} {rest : List (List (Internal × Bool))}
    (h : LevelsWF (lvl :: rest)) : LevelsWF rest := by
  refine ⟨fun x hx => h.1 x (List.mem_cons_of_mem _ hx), ?_⟩
  intro top ht
  apply h.2 top
  cases rest with
  | nil => simp at ht
  | cons r rs => rw [List.getLast?_cons_cons]; exact ht

theorem LevelsWF.pre_nil {pre : List (Internal × Bool)} {x : Internal × Bool} (h : LevelsWF [pre ++ [x]]) :
    pre = [] :=
  List.eq_nil_of_length_eq_zero (by simpa using h.2 (pre ++ [x]) rfl)

theorem levelsWF_of_inv {t : Levels} {nf : Nat} (hI : Inv t nf) : LevelsWF t.inner := by
  refine ⟨linked_levels_ne t.inner _ hI.link, ?_⟩
  intro top ht
  obtain ⟨lo, hin⟩ := List.getLast?_eq_some_iff.mp ht
  exact hI.link.top_len hin

/-- **The top of the levels after a split was propagated**: it is where and what it was (the split
stopped below it); or it carries the LSN, and is at the old place (the old top took the separator) or
above the old top, whose left half - at the old offset - carries the LSN too (the root moved). -/
theorem bubble_top (lsn : Nat) (lvls : List (List (Internal × Bool))) (sep l nc nf : Nat) :
    LevelsWF lvls → (bubble lsn lvls sep l nc nf).1 ≠ [] ∧ ∀ o o' d d',
      (lvls ≠ [] ∧ topOf (·.off) (bubble lsn lvls sep l nc nf).1 o' = topOf (·.off) lvls o ∧
        topOf (·.lsn) (bubble lsn lvls sep l nc nf).1 d' = topOf (·.lsn) lvls d) ∨
      (topOf (·.lsn) (bubble lsn lvls sep l nc nf).1 d' = lsn ∧ (lvls ≠ [] →
        topOf (·.off) (bubble lsn lvls sep l nc nf).1 o' = topOf (·.off) lvls o ∨
        ∃ lvl' ∈ (bubble lsn lvls sep l nc nf).1, ∃ p' ∈ lvl', p'.1.off = topOf (·.off) lvls o ∧ p'.1.lsn = lsn)) := by
  refine bubble_induct lsn (motive := fun lvls _ _ _ _ r => LevelsWF lvls → r.1 ≠ [] ∧ ∀ o o' d d',
    (lvls ≠ [] ∧ topOf (·.off) r.1 o' = topOf (·.off) lvls o ∧ topOf (·.lsn) r.1 d' = topOf (·.lsn) lvls d) ∨
    (topOf (·.lsn) r.1 d' = lsn ∧ (lvls ≠ [] → topOf (·.off) r.1 o' = topOf (·.off) lvls o ∨
      ∃ lvl' ∈ r.1, ∃ p' ∈ lvl', p'.1.off = topOf (·.off) lvls o ∧ p'.1.lsn = lsn))) ?_ ?_ ?_ ?_ lvls sep l nc nf
  · exact fun sep l nc nf _ => ⟨List.cons_ne_nil _ _, fun _ _ _ _ => .inr ⟨rfl, fun h => absurd rfl h⟩⟩
  · exact fun rest _ _ _ _ hwf => absurd rfl (hwf.1 [] List.mem_cons_self)
  · intro pre p dp rest sep l nc nf _ hwf
    refine ⟨List.cons_ne_nil _ _, fun o o' d d' => ?_⟩
    cases rest with
    | nil =>
      -- the top level is one node: it took the separator
      obtain rfl := hwf.pre_nil
      exact .inr ⟨rfl, fun _ => .inl rfl⟩
    | cons r rs =>
      exact .inl ⟨List.cons_ne_nil _ _,
        (topOf_cons_ne _ _ (r :: rs) o' o (List.cons_ne_nil _ _)).trans
          (topOf_cons_ne _ _ (r :: rs) o o (List.cons_ne_nil _ _)).symm,
        (topOf_cons_ne _ _ (r :: rs) d' d (List.cons_ne_nil _ _)).trans
          (topOf_cons_ne _ _ (r :: rs) d d (List.cons_ne_nil _ _)).symm⟩
  · intro pre p dp rest sep l nc nf _ r ih hwf
    obtain ⟨hB, hT⟩ := ih hwf.tail
    refine ⟨List.cons_ne_nil _ _, fun o o' d d' => ?_⟩
    simp only
    rw [topOf_cons_ne _ _ _ o' o' hB, topOf_cons_ne _ _ _ d' d' hB]
    cases rest with
    | nil =>
      -- the old top was split: the root moved
      obtain rfl := hwf.pre_nil
      rcases hT o o' d d' with ⟨h, _⟩ | ⟨h, _⟩
      · exact absurd rfl h
      · exact .inr ⟨h, fun _ => .inr ⟨_, List.mem_cons_self, (intL (intApp p sep nc lsn), true),
          List.mem_cons_self, rfl, rfl⟩⟩
    | cons r0 rs =>
      rw [topOf_cons_ne _ _ (r0 :: rs) o o (List.cons_ne_nil _ _),
        topOf_cons_ne _ _ (r0 :: rs) d d (List.cons_ne_nil _ _)]
      rcases hT o o' d d' with ⟨_, h1, h2⟩ | ⟨h1, h2⟩
      · exact .inl ⟨List.cons_ne_nil _ _, h1, h2⟩
      · refine .inr ⟨h1, fun _ => ?_⟩
        rcases h2 (List.cons_ne_nil _ _) with h | ⟨lvl', hl', p', hp', h3, h4⟩
        · exact .inl h
        · exact .inr ⟨lvl', List.mem_cons_of_mem _ hl', p', hp', h3, h4⟩

theorem insertAppend_rootLSN (t t' : Levels) (k lsn nf nf' : Nat) (v : Bytes) (hI : Inv t nf)
    (h : insertAppend t k lsn v nf = .ok (t', nf')) : rootLSN t' = lsn ∨ rootLSN t' = rootLSN t := by
  obtain ⟨pre, last, d, hpre, _, _, hcase⟩ := insertAppend_inv_cases h
  rcases hcase with ⟨_, rfl, _⟩ | ⟨_, rfl, _⟩
  · -- no split
    cases hin : t.inner.getLast? with
    | none =>
      left
      obtain rfl := hI.link.only_leaf (List.getLast?_eq_none_iff.mp hin) hpre
      simp [rootLSN, hin, leafApp]
    | some top =>
      right
      simp [rootLSN, hin]
  · -- split
    obtain ⟨_, hT⟩ := bubble_top lsn t.inner
      (((leafR (leafApp last k lsn v) lsn nf).cells.head?.map (·.key)).getD 0) last.off nf (nf + c_pageSize)
      (levelsWF_of_inv hI)
    rw [rootLSN_eq, rootLSN_eq]
    rcases hT 0 0 ((t.leaves.head?.map (·.1.lsn)).getD 0) _ with ⟨_, _, h1⟩ | ⟨h1, _⟩
    · exact .inr h1
    · exact .inl h1

theorem insertAppend_offs_pos (t t' : Levels) (k lsn nf nf' : Nat) (v : Bytes)
    (h : insertAppend t k lsn v nf = .ok (t', nf')) (hnf : 0 < nf) (hpos : ∀ o ∈ offs t, 0 < o) :
    ∀ o ∈ offs t', 0 < o := by
  intro o ho
  rcases insertAppend_offs_new t t' k lsn nf nf' v h o ho with h1 | h1
  · exact hpos o h1
  · omega

end Mkdb.Store
end

section
set_option autoImplicit false
namespace Mkdb.Store
open Mkdb.Page Mkdb.Generated Mkdb.Tree

/-! ### the pages of a tree -/

theorem flatten_nodeOff {t : Levels} {e : Nat × Node × Bool} (he : e ∈ flatten t) : nodeOff e.2.1 = e.1 := by
  rcases mem_flatten.mp he with ⟨p, _, rfl⟩ | ⟨lvl, _, p, _, rfl⟩ <;> rfl

/-- the tree has a page at offset `page` whose LSN is at least `lsn` -/
def PageLsn (x : Levels) (page lsn : Nat) : Prop := ∃ e ∈ flatten x, e.1 = page ∧ lsn ≤ nodeLSN e.2.1

theorem PageLsn.of_touched {x x' : Levels} {page lsn L : Nat} (h : PageLsn x page lsn) (hL : lsn ≤ L)
    (ht : Touched L x x') : PageLsn x' page lsn := by
  obtain ⟨e, he, hp, hl⟩ := h
  obtain ⟨e', he', ho, hc⟩ := ht.2 e he
  refine ⟨e', he', by rw [ho, hp], ?_⟩
  rcases hc with rfl | ⟨h1, _⟩
  · exact hl
  · omega

theorem PageLsn.ins {t t' : Levels} {page lsn k L nf nf' : Nat} {v : Bytes} (h : PageLsn t page lsn)
    (hL : lsn ≤ L) (hI : Inv t nf) (hins : insertAppend t k L v nf = .ok (t', nf')) : PageLsn t' page lsn :=
  h.of_touched hL (insertAppend_touched hI hins)

theorem PageLsn.upd {t : Levels} {page lsn L : Nat} (h : PageLsn t page lsn) (hL : lsn ≤ L)
    (f : LeafCell → LeafCell) (key : Nat) : PageLsn (updLeaves f key L t) page lsn :=
  h.of_touched hL (updLeaves_touched f key L t)

theorem updLeaves_stamps (f : LeafCell → LeafCell) (key lsn : Nat) (t : Levels) (l : Leaf) (d : Bool)
    (hm : (l, d) ∈ t.leaves) (hany : l.cells.any (fun c => c.key == key) = true) :
    PageLsn (updLeaves f key lsn t) l.off lsn := by
  refine ⟨_, mem_flatten.mpr (.inl ⟨updLeaf f key lsn (l, d), List.mem_map.mpr ⟨(l, d), hm, rfl⟩, rfl⟩),
    updLeaf_off f key lsn (l, d), ?_⟩
  unfold updLeaf
  simp only [hany, if_true]
  exact Nat.le_refl _

/-! ### the root page -/

theorem root_entry_lsn (t : Levels) (nf : Nat) (hI : Inv t nf) :
    ∃ n d, (rootOff t, n, d) ∈ flatten t ∧ nodeOff n = rootOff t ∧ nodeLSN n = rootLSN t := by
  rcases eq_nil_or_snoc t.inner with hin | ⟨lo, top, hin⟩
  · obtain ⟨p, hp⟩ := List.length_eq_one_iff.mp (hI.link.leaves_len hin)
    have hr : rootOff t = p.1.off := by simp [rootOff, hin, hp]
    have hls : rootLSN t = p.1.lsn := by simp [rootLSN, hin, hp]
    refine ⟨.leaf p.1, p.2, ?_, by rw [hr]; rfl, by rw [hls]; rfl⟩
    rw [hr]
    exact List.mem_append_left _ (List.mem_map.mpr ⟨p, by rw [hp]; simp, rfl⟩)
  · obtain ⟨p, rfl⟩ := List.length_eq_one_iff.mp (hI.link.top_len hin)
    have hr : rootOff t = p.1.off := by simp [rootOff, hin]
    have hls : rootLSN t = p.1.lsn := by simp [rootLSN, hin]
    refine ⟨.internal p.1, p.2, ?_, by rw [hr]; rfl, by rw [hls]; rfl⟩
    rw [hr]
    exact List.mem_append_right _ (List.mem_flatMap.mpr ⟨[p], by rw [hin]; simp,
      List.mem_map.mpr ⟨p, by simp, rfl⟩⟩)

theorem root_entry (t : Levels) (nf : Nat) (hI : Inv t nf) :
    ∃ n d, (rootOff t, n, d) ∈ flatten t ∧ nodeOff n = rootOff t :=
  let ⟨n, d, hm, ho, _⟩ := root_entry_lsn t nf hI
  ⟨n, d, hm, ho⟩

theorem rootOff_mem_offs (t : Levels) (nf : Nat) (hI : Inv t nf) : rootOff t ∈ offs t := by
  obtain ⟨n, d, hm, _⟩ := root_entry t nf hI
  exact List.mem_map.mpr ⟨_, hm, rfl⟩

/-! ### the old root after a root move -/

theorem insertAppend_old_root (t t' : Levels) (k lsn nf nf' : Nat) (v : Bytes) (hI : Inv t nf)
    (h : insertAppend t k lsn v nf = .ok (t', nf')) :
    rootOff t' = rootOff t ∨ PageLsn t' (rootOff t) lsn := by
  obtain ⟨pre, last, d, hpre, _, _, hcase⟩ := insertAppend_inv_cases h
  rcases hcase with ⟨_, rfl, _⟩ | ⟨_, rfl, _⟩
  · left
    rw [rootOff_eq_topOf, rootOff_eq_topOf]
    simp only [hpre]
    congr 1
    cases pre <;> rfl
  · rcases eq_nil_or_snoc t.inner with hin | ⟨lo, top, hin⟩
    · -- the root is the only leaf
      right
      obtain rfl := hI.link.only_leaf hin hpre
      have hr : rootOff t = last.off := by simp [rootOff, hin, hpre]
      refine ⟨_, mem_flatten.mpr (.inl ⟨(leafL (leafApp last k lsn v) nf, true), List.mem_cons_self, rfl⟩), ?_, ?_⟩
      · rw [hr]; rfl
      · exact Nat.le_refl _
    · have hne : t.inner ≠ [] := by rw [hin]; simp
      rw [rootOff_eq_topOf, rootOff_eq_topOf t]
      obtain ⟨_, hT⟩ := bubble_top lsn t.inner
        (((leafR (leafApp last k lsn v) lsn nf).cells.head?.map (·.key)).getD 0) last.off nf (nf + c_pageSize)
        (levelsWF_of_inv hI)
      rcases hT ((t.leaves.head?.map (·.1.off)).getD 0) _ 0 0 with ⟨_, h1, _⟩ | ⟨_, h2⟩
      · exact .inl h1
      · rcases h2 hne with h1 | ⟨lvl', hl', p', hp', h1, h2⟩
        · exact .inl h1
        · exact .inr ⟨_, mem_flatten.mpr (.inr ⟨lvl', hl', p', hp', rfl⟩), h1, by show lsn ≤ p'.1.lsn; omega⟩

end Mkdb.Store
end
