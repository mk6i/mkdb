import Mkdb.Model.Engine
import Mkdb.Proofs.Preserves
/-!
# The row loops of the statement evaluators are `mapS`

`evalInsert`, `evalUpdate`, `evalDelete` each end in a local loop `go` that runs one store operation per row, collects
the log records in a batch and stops at the first error.  That is the store model's own `mapS` of the row operation
(`rowsM`), consumed the way `Engine.liftS` consumes a store program (`rowLoop_eq`, the one induction over a loop;
`evalInsert_eq`, `evalDelete_eq`, `evalUpdate_eq`).  So a statement is a store program under `liftS`: what `bind` and
`mapS` keep, it keeps, and a run of its rows is an equation `rowsM op rows s = .ok logs s'`.  The second part draws the
consequence: a statement is a fetch, a filter that touches nothing, and a run of row operations, so a reflexive and
transitive relation that the primitives of the row operations keep (`KeptByWrites R`: the data file is the same, the
cache stays filed, …) relates the store of the database to the store of the result, accepted or refused
(`evalInsert_keeps`, `evalDelete_keeps`, `evalUpdate_keeps`, stated with `Engine.Res.After`).
-/

section
set_option autoImplicit false
namespace Mkdb.Engine

/-- `Q` holds of the store of the database an `.ok` or `.err` result carries -/
def Res.After {α} (Q : Store.Store → Prop) : Res α → Prop
  | .ok _ db' => Q db'.store
  | .err _ db' => Q db'.store
  | _ => True

theorem Res.After.ok {α} {Q : Store.Store → Prop} {r : Res α} {a : α} {db' : DB} (h : r.After Q)
    (e : r = .ok a db') : Q db'.store := by subst e; exact h

theorem Res.After.err {α} {Q : Store.Store → Prop} {r : Res α} {x : StmtErr} {db' : DB} (h : r.After Q)
    (e : r = .err x db') : Q db'.store := by subst e; exact h

theorem Res.After.mono {α} {Q Q' : Store.Store → Prop} (hq : ∀ s', Q s' → Q' s') {r : Res α}
    (h : r.After Q) : r.After Q' := by
  cases r with
  | ok a db' => exact hq _ h
  | err e db' => exact hq _ h
  | _ => trivial

theorem liftS_ok {α β} {db : DB} {m : Store.SM α} {k : α → Store.Store → Res β} {a : α} {s' : Store.Store}
    (h : m db.store = .ok a s') : liftS db m k = k a s' := by rw [liftS, h]

theorem liftS_err {α β} {db : DB} {m : Store.SM α} {k : α → Store.Store → Res β} {e : Store.SErr} {s' : Store.Store}
    (h : m db.store = .err e s') : liftS db m k = .err (.store e) { db with store := s' } := by rw [liftS, h]

theorem liftS_after {α β} {R : Store.Store → Store.Store → Prop}
    (db : DB) {m : Store.SM α} (hm : Store.Preserves R m)
    {k : α → Store.Store → Res β} (hk : ∀ a s, R db.store s → (k a s).After (R db.store)) :
    (liftS db m k).After (R db.store) := by
  rw [liftS]
  cases e : m db.store with
  | ok a s' => exact hk a s' (hm.ok e)
  | err x s' => exact hm.err e
  | _ => trivial

end Mkdb.Engine

namespace Mkdb.Store
open Mkdb.Page Mkdb.Tuple Mkdb.Generated

/-- the row operations of a statement one after the other, as one store program returning the log
records of all rows in order -/
def rowsM {α} (op : α → SM (List WalRec)) (l : List α) : SM (List WalRec) :=
  mapS op l >>= fun ls => pure ls.flatten

theorem rowsM_nil {α} (op : α → SM (List WalRec)) (s : Store) : rowsM op [] s = .ok [] s := rfl

theorem rowsM_cons {α} (op : α → SM (List WalRec)) (a : α) (rest : List α) :
    rowsM op (a :: rest) = op a >>= fun l => rowsM op rest >>= fun ls => pure (l ++ ls) := by
  funext s
  simp only [rowsM, mapS, bind_def]
  cases op a s with
  | ok l s1 =>
    simp only
    cases mapS op rest s1 <;> rfl
  | _ => rfl

theorem rowsM_cons_ok {α} {op : α → SM (List WalRec)} {a : α} {rest : List α} {s s1 s2 : Store}
    {l ls : List WalRec} (h1 : op a s = .ok l s1) (h2 : rowsM op rest s1 = .ok ls s2) :
    rowsM op (a :: rest) s = .ok (l ++ ls) s2 := by
  rw [rowsM_cons, bind_ok h1, bind_ok h2]
  rfl

theorem rowsM_cons_inv {α} {op : α → SM (List WalRec)} {a : α} {rest : List α} {s s2 : Store}
    {logs : List WalRec} (h : rowsM op (a :: rest) s = .ok logs s2) :
    ∃ l ls s1, op a s = .ok l s1 ∧ rowsM op rest s1 = .ok ls s2 ∧ logs = l ++ ls := by
  rw [rowsM_cons] at h
  obtain ⟨l, s1, h1, h2⟩ := bind_eq_ok h
  obtain ⟨ls, s2', h3, h4⟩ := bind_eq_ok h2
  cases h4
  exact ⟨l, ls, s1, h1, h3, rfl⟩

theorem rowsM_append {α} (op : α → SM (List WalRec)) (l1 l2 : List α) :
    rowsM op (l1 ++ l2) = rowsM op l1 >>= fun a => rowsM op l2 >>= fun b => pure (a ++ b) := by
  induction l1 with
  | nil =>
    funext s
    rw [List.nil_append, bind_ok (rowsM_nil op s), bind_def]
    cases rowsM op l2 s <;> rfl
  | cons a rest ih =>
    funext s
    rw [List.cons_append, rowsM_cons, ih, rowsM_cons]
    simp only [bind_def]
    cases op a s with
    | ok l s1 =>
      simp only
      cases rowsM op rest s1 with
      | ok ls s2 =>
        simp only [pure_apply]
        cases rowsM op l2 s2 with
        | ok ls2 s3 => simp only [List.append_assoc]
        | _ => rfl
      | _ => rfl
    | _ => rfl

theorem rowsM_err_at {α} (op : α → SM (List WalRec)) {good : List α} {bad : α} (rest : List α)
    {s s1 s2 : Store} {logs : List WalRec} {e : SErr}
    (h1 : rowsM op good s = .ok logs s1) (h2 : op bad s1 = .err e s2) :
    rowsM op (good ++ bad :: rest) s = .err e s2 := by
  rw [rowsM_append, bind_ok h1, rowsM_cons, bind_err (bind_err h2)]

theorem rowsM_take {α} {op : α → SM (List WalRec)} {l : List α} {s sC : Store} {logs : List WalRec}
    (h : rowsM op l s = .ok logs sC) (j : Nat) :
    ∃ lJ sJ l2, rowsM op (l.take j) s = .ok lJ sJ ∧ rowsM op (l.drop j) sJ = .ok l2 sC ∧ logs = lJ ++ l2 := by
  rw [← List.take_append_drop j l, rowsM_append] at h
  obtain ⟨lJ, sJ, h1, h2⟩ := bind_eq_ok h
  obtain ⟨l2, s2, h3, h4⟩ := bind_eq_ok h2
  cases h4
  exact ⟨lJ, sJ, l2, h1, h3, rfl⟩

/-- **The first `k` records of a row loop**: the records `lJ` of `j` whole rows, and, when the cut falls inside the
records `l1` of row `j`, `k'` of them. -/
theorem rowsM_cut {α} {op : α → SM (List WalRec)} : ∀ {l : List α} {s sC : Store} {logs : List WalRec},
    rowsM op l s = .ok logs sC → ∀ k, ∃ j lJ sJ, j ≤ l.length ∧ rowsM op (l.take j) s = .ok lJ sJ ∧
      (logs.take k = lJ ∨
        ∃ (hj : j < l.length) (l1 l2 : List WalRec) (s1 : Store) (k' : Nat), op l[j] sJ = .ok l1 s1 ∧
          rowsM op (l.take (j + 1)) s = .ok (lJ ++ l1) s1 ∧ logs = lJ ++ l1 ++ l2 ∧
          k = lJ.length + k' ∧ 0 < k' ∧ k' < l1.length)
  | [], s, _, _, h, k => by
    cases h
    exact ⟨0, [], s, Nat.le_refl _, rfl, .inl List.take_nil⟩
  | a :: rest, s, sC, _, h, k => by
    obtain ⟨la, ls, s1, h1, h2, rfl⟩ := rowsM_cons_inv h
    by_cases hk : la.length ≤ k
    · obtain ⟨j, lJ, sJ, hj, hW, hcut⟩ := rowsM_cut h2 (k - la.length)
      refine ⟨j + 1, la ++ lJ, sJ, Nat.succ_le_succ hj, rowsM_cons_ok h1 hW, hcut.imp (fun e => ?_) ?_⟩
      · rw [List.take_append, List.take_of_length_le hk, e]
      · rintro ⟨hjlt, l1, l2, s2, k', hop, hW1, rfl, hk', h0, hl⟩
        exact ⟨Nat.succ_lt_succ hjlt, l1, l2, s2, k', hop, by rw [List.append_assoc]; exact rowsM_cons_ok h1 hW1,
          by simp only [List.append_assoc], by rw [List.length_append]; omega, h0, hl⟩
    · by_cases h0 : k = 0
      · exact ⟨0, [], s, Nat.zero_le _, rfl, .inl (by rw [h0, List.take_zero])⟩
      · exact ⟨0, [], s, Nat.zero_le _, rfl, .inr ⟨Nat.zero_lt_succ _, la, ls, s1, k, h1,
          by rw [List.nil_append, ← List.append_nil la]; exact rowsM_cons_ok h1 (rowsM_nil op s1), rfl,
          (Nat.zero_add k).symm, Nat.pos_of_ne_zero h0, Nat.lt_of_not_le hk⟩⟩

/-- the log of a prefix of the rows is a prefix of the log -/
theorem rowsM_prefix {α} {op : α → SM (List WalRec)} {l : List α} {s sC sJ : Store} {logs lJ : List WalRec} {j : Nat}
    (h : rowsM op l s = .ok logs sC) (hJ : rowsM op (l.take j) s = .ok lJ sJ) : lJ <+: logs := by
  obtain ⟨_, _, l2, hJ', _, rfl⟩ := rowsM_take h j
  obtain ⟨rfl, _⟩ := SRes.ok.inj (hJ.symm.trans hJ')
  exact List.prefix_append _ _

theorem ClosedReads.rowsM {C : ∀ {α : Type}, SM α → Prop} (h : ClosedReads @C) {α} {op : α → SM (List WalRec)}
    (hop : ∀ a, C (op a)) (l : List α) : C (rowsM op l) :=
  h.bind (h.mapS hop l) fun _ => h.pure _

/-- the model's per-row inserts, one after the other (the loop of `evalInsert` without the log) -/
inductive InsApplies (table : Bytes) (cols : List String) :
    List (List Val) → Store → List WalRec → Store → Prop
  | nil (s : Store) : InsApplies table cols [] s [] s
  | cons {r : List Val} {rest : List (List Val)} {s s1 s2 : Store} {logs logs' : List WalRec} :
      insert table cols r s = .ok logs s1 → InsApplies table cols rest s1 logs' s2 →
      InsApplies table cols (r :: rest) s (logs ++ logs') s2

theorem insApplies_iff {table : Bytes} {cols : List String} {rows : List (List Val)} {s s' : Store}
    {logs : List WalRec} : InsApplies table cols rows s logs s' ↔ rowsM (insert table cols) rows s = .ok logs s' := by
  constructor
  · intro h
    induction h with
    | nil s => rfl
    | cons h1 _ ih => exact rowsM_cons_ok h1 ih
  · induction rows generalizing s logs with
    | nil =>
      intro h
      cases h
      exact .nil _
    | cons r rest ih =>
      intro h
      obtain ⟨l, ls, s1, h1, h2, rfl⟩ := rowsM_cons_inv h
      exact .cons h1 (ih h2)

/-! ### the loops -/

/-- **A row loop is `rowsM` under `liftS`.**  `go` is any of the three local loops (`hnil`, `hcons`: its two
equations); `ret` makes the value of the statement from the number of rows. -/
theorem rowLoop_eq {α β} (db : Engine.DB) (op : α → SM (List WalRec)) (ret : Nat → β)
    (go : Store → List WalRec → Nat → List α → Engine.Res β)
    (hnil : ∀ s batch n, go s batch n [] = .ok (ret n) { store := s, wal := db.wal ++ batch })
    (hcons : ∀ s batch n a rest, go s batch n (a :: rest) =
      match op a s with
      | .ok logs s' => go s' (batch ++ logs) (n + 1) rest
      | .err e s' => .err (.store e) { db with store := s' }
      | .panic p => .panic p
      | .unmodelled w => .unmodelled w
      | .fuel => .fuel) :
    ∀ (l : List α) (s : Store) (batch : List WalRec) (n : Nat),
      go s batch n l = Engine.liftS { db with store := s } (rowsM op l)
        fun logs s' => .ok (ret (n + l.length)) { store := s', wal := db.wal ++ (batch ++ logs) }
  | [], s, batch, n => by
    simp only [hnil, Engine.liftS, rowsM_nil, List.append_nil, List.length_nil, Nat.add_zero]
  | a :: rest, s, batch, n => by
    rw [hcons, rowsM_cons]
    simp only [Engine.liftS, bind_def]
    cases op a s with
    | ok l s1 =>
      simp only
      rw [rowLoop_eq db op ret go hnil hcons rest s1 (batch ++ l) (n + 1), Engine.liftS]
      cases rowsM op rest s1 with
      | ok ls s2 => simp only [pure_apply, List.length_cons, List.append_assoc, Nat.add_assoc, Nat.add_comm 1]
      | _ => rfl
    | _ => rfl

theorem evalInsert_eq (db : Engine.DB) (table : Bytes) (cols : List Bytes) (rows : List (List Val)) :
    Engine.evalInsert db table cols rows =
      Engine.liftS db (rowsM (insert table (cols.map Engine.bytesToName)) rows)
        fun logs s' => .ok rows.length { store := s', wal := db.wal ++ logs } := by
  rw [Engine.evalInsert, rowLoop_eq db (insert table (cols.map Engine.bytesToName)) id
    (Engine.evalInsert.go db table cols) (fun _ _ _ => rfl) (fun _ _ _ _ _ => rfl)]
  simp only [Nat.zero_add, List.nil_append, id]

theorem evalInsert_of_ok (db : Engine.DB) (table : Bytes) (cols : List Bytes) {rows : List (List Val)}
    {s1 : Store} {logs : List WalRec}
    (h : rowsM (insert table (cols.map Engine.bytesToName)) rows db.store = .ok logs s1) :
    Engine.evalInsert db table cols rows = .ok rows.length { store := s1, wal := db.wal ++ logs } := by
  rw [evalInsert_eq, Engine.liftS_ok h]

theorem evalInsert_of_err (db : Engine.DB) (table : Bytes) (cols : List Bytes) {good : List (List Val)}
    {bad : List Val} (rest : List (List Val)) {s1 s2 : Store} {logs : List WalRec} {e : SErr}
    (h1 : rowsM (insert table (cols.map Engine.bytesToName)) good db.store = .ok logs s1)
    (h2 : insert table (cols.map Engine.bytesToName) bad s1 = .err e s2) :
    Engine.evalInsert db table cols (good ++ bad :: rest) = .err (.store e) { db with store := s2 } := by
  rw [evalInsert_eq, Engine.liftS_err (rowsM_err_at _ rest h1 h2)]

theorem evalInsert_first_err (db : Engine.DB) (table : Bytes) (cols : List Bytes) {r : List Val}
    (rest : List (List Val)) {s' : Store} {e : SErr}
    (h : insert table (cols.map Engine.bytesToName) r db.store = .err e s') :
    Engine.evalInsert db table cols (r :: rest) = .err (.store e) { db with store := s' } :=
  evalInsert_of_err db table cols (good := []) rest rfl h

theorem evalDelete_eq (db : Engine.DB) (table : Bytes) (w : Option Sql.Cond) :
    Engine.evalDelete db table w =
      Engine.fetchForExec db table fun rows fields s =>
        match Engine.filterIds w fields rows with
        | .err e => .err (.exec e) { db with store := s }
        | .panic p => .panic p
        | .ok sel =>
          Engine.liftS { db with store := s } (rowsM (fun r => markDeleted table r.1) sel)
            fun logs s' => .ok sel.length { store := s', wal := db.wal ++ logs } := by
  unfold Engine.evalDelete
  congr 1
  funext rows fields s
  cases Engine.filterIds w fields rows with
  | ok sel =>
    simp only
    rw [rowLoop_eq db (fun r : Nat × List Val => markDeleted table r.1) id (Engine.evalDelete.go db table)
      (fun _ _ _ => rfl) (fun _ _ _ _ _ => rfl)]
    simp only [Nat.zero_add, List.nil_append, id]
  | _ => rfl

theorem any_col_iff (sets : List (Bytes × Sql.VExpr)) :
    (sets.any fun p => match p.2 with | .col _ => true | _ => false) = true ↔ ∃ p ∈ sets, ∃ c, p.2 = .col c := by
  rw [List.any_eq_true]
  constructor
  · rintro ⟨p, hp, hpe⟩
    cases hp2 : p.2 with
    | lit l => rw [hp2] at hpe; cases hpe
    | col c => exact ⟨p, hp, c, hp2⟩
  · rintro ⟨p, hp, c, hpc⟩
    exact ⟨p, hp, by rw [hpc]⟩

theorem evalUpdate_col (db : Engine.DB) (table : Bytes) (sets : List (Bytes × Sql.VExpr)) (w : Option Sql.Cond)
    (hcol : ∃ p ∈ sets, ∃ c, p.2 = .col c) : Engine.evalUpdate db table sets w = .err .unsupported db := by
  unfold Engine.evalUpdate
  exact if_pos ((any_col_iff sets).mpr hcol)

theorem evalUpdate_go_eq (db : Engine.DB) (table : Bytes) (cols : List String) (src : List Val)
    (ids : List (Nat × List Val)) (s : Store) :
    Engine.evalUpdate.go db table cols src s [] ids =
      Engine.liftS { db with store := s } (rowsM (fun r => update table r.1 cols src) ids)
        fun logs s' => .ok () { store := s', wal := db.wal ++ logs } := by
  rw [rowLoop_eq db (fun r : Nat × List Val => update table r.1 cols src) (fun _ => ())
    (fun s batch _ l => Engine.evalUpdate.go db table cols src s batch l) (fun _ _ _ => rfl) (fun _ _ _ _ _ => rfl)
    ids s [] 0]
  simp only [List.nil_append]

theorem evalUpdate_eq (db : Engine.DB) (table : Bytes) (sets : List (Bytes × Sql.VExpr)) (w : Option Sql.Cond)
    (hnocol : ∀ p ∈ sets, ∀ c, p.2 ≠ .col c) :
    Engine.evalUpdate db table sets w =
      Engine.fetchForExec db table fun rows fields s =>
        match Engine.checkSetColumns fields [] (sets.map (·.1)) with
        | some e => .err (.store e) { db with store := s }
        | none =>
        match Engine.filterIds w fields rows with
        | .err e => .err (.exec e) { db with store := s }
        | .panic p => .panic p
        | .ok sel =>
          Engine.liftS { db with store := s }
            (rowsM (fun r => update table r.1 (sets.map fun p => Engine.bytesToName p.1)
              (sets.map fun p => match p.2 with | .lit l => Engine.litToVal l | .col _ => Val.null)) sel)
            fun logs s' => .ok () { store := s', wal := db.wal ++ logs } := by
  unfold Engine.evalUpdate
  rw [if_neg fun hany => by
    obtain ⟨p, hp, c, hpc⟩ := (any_col_iff sets).mp hany
    exact hnocol p hp c hpc]
  simp only [evalUpdate_go_eq]
  rfl

end Mkdb.Store
end

section
/-! ## What every write of the store keeps, the statement evaluators keep -/
set_option autoImplicit false
namespace Mkdb.Store
open Mkdb.Page Mkdb.Tuple Mkdb.Generated

variable {R : Store → Store → Prop}

theorem rowsM_keeps {α β} (h : KeptByReads R) (db : Engine.DB) {op : α → SM (List WalRec)}
    (hop : ∀ a, Preserves R (op a)) (l : List α) {s : Store} (hd : R db.store s)
    (ret : List WalRec → Store → β) :
    (Engine.liftS { db with store := s } (rowsM op l) fun logs s' =>
      .ok (ret logs s') { store := s', wal := db.wal ++ logs }).After (R db.store) :=
  (Engine.liftS_after (R := R) { db with store := s } (h.closed.rowsM hop l)
    (k := fun logs s' => .ok (ret logs s') { store := s', wal := db.wal ++ logs })
    fun _ _ hd' => hd').mono fun _ => h.trans hd

theorem fetchForExec_keeps {β} (h : KeptByReads R) (db : Engine.DB) (table : Bytes)
    (k : List (Nat × List Val) → List Exec.Field → Store → Engine.Res β)
    (hk : ∀ rows fields s, R db.store s → (k rows fields s).After (R db.store)) :
    (Engine.fetchForExec db table k).After (R db.store) :=
  Engine.liftS_after (R := R) db (h.fetchTable table) fun _ _ hd => hk _ _ _ hd

theorem evalInsert_keeps (h : KeptByWrites R) (db : Engine.DB) (table : Bytes) (cols : List Bytes)
    (rows : List (List Val)) : (Engine.evalInsert db table cols rows).After (R db.store) := by
  rw [evalInsert_eq]
  exact rowsM_keeps h.toKeptByReads db (fun _ => h.insert _ _ _) rows (h.refl _) fun _ _ => rows.length

theorem evalDelete_keeps (h : KeptByWrites R) (db : Engine.DB) (table : Bytes) (w : Option Sql.Cond) :
    (Engine.evalDelete db table w).After (R db.store) := by
  rw [evalDelete_eq]
  refine fetchForExec_keeps h.toKeptByReads db table _ fun rows fields s hd => ?_
  cases Engine.filterIds w fields rows with
  | ok sel => exact rowsM_keeps h.toKeptByReads db (fun _ => h.markDeleted _ _) sel hd fun _ _ => sel.length
  | err x => exact hd
  | panic p => trivial

theorem evalUpdate_keeps (h : KeptByWrites R) (db : Engine.DB) (table : Bytes)
    (sets : List (Bytes × Sql.VExpr)) (w : Option Sql.Cond) :
    (Engine.evalUpdate db table sets w).After (R db.store) := by
  by_cases hcol : ∃ p ∈ sets, ∃ c, p.2 = .col c
  · rw [evalUpdate_col db table sets w hcol]; exact h.refl _
  · rw [evalUpdate_eq db table sets w fun p hp c hpc => hcol ⟨p, hp, c, hpc⟩]
    refine fetchForExec_keeps h.toKeptByReads db table _ fun rows fields s hd => ?_
    cases Engine.checkSetColumns fields [] (sets.map (·.1)) with
    | some ec => exact hd
    | none =>
    cases Engine.filterIds w fields rows with
    | ok sel => exact rowsM_keeps h.toKeptByReads db (fun _ => h.update _ _ _ _) sel hd fun _ _ => ()
    | err x => exact hd
    | panic p => trivial

end Mkdb.Store
end
