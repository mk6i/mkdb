import Mkdb.Proofs.MemFiledInsert
import Mkdb.Proofs.ReplayMixed
/-!
What every run of statements and the redo of the log keep.  A relation on stores that the primitives of the
page store keep holds between the two ends of a run of statements (`SpecRun.keeps`) and of one record of the
redo (`KeptByAllocs.replayOne`: the branches of `replayOne` are walked once, `replayOne_ind`, for an arbitrary
relation that its steps keep).  Two instances: `MemFiled` ("every cached page object is filed under the
offset it carries"), and `DiskSame` - no operation but the flush writes the data file.
-/

section
set_option autoImplicit false
namespace Mkdb.Store
open Mkdb.Page Mkdb.Tuple Mkdb.Generated Mkdb.Tree Mkdb.Engine

/-! ### a run of statements -/

theorem SpecRun.keeps {R : Store → Store → Prop} (h : KeptByWrites R) {sch : Levels} {db db' : Engine.DB}
    {sdb sdb' : Spec.SDB} {stmts : List EStmt} (run : SpecRun sch db sdb stmts db' sdb') :
    R db.store db'.store := by
  induction run with
  | nil db sdb => exact h.refl _
  | insert table cols rows hvalid hspec hrunok heval hrest ih =>
    exact h.trans ((evalInsert_keeps h _ table cols rows).ok heval) ih
  | delete table w hspec heval hrest ih => exact h.trans ((evalDelete_keeps h _ table w).ok heval) ih
  | update table sets w hvalid hspec heval hrest ih =>
    exact h.trans ((evalUpdate_keeps h _ table sets w).ok heval) ih

theorem specRun_memFiled {sch : Levels} {db db' : Engine.DB} {sdb sdb' : Spec.SDB} {stmts : List EStmt}
    (run : SpecRun sch db sdb stmts db' sdb') (hf : MemFiled db.store) : MemFiled db'.store :=
  SpecRun.keeps memFiled_writes run hf

/-! ### the redo of the log -/

/-- A relation that the tree insert keeps, and also a raise of the row-id counter and the filing of a
leaf under the offset of another, holds between the store with the raised counters and the store
after `replayOne`: every branch of `replayOne` is made of these steps (`replayOne_ind`). -/
theorem KeptByAllocs.replayOne {R : Store → Store → Prop} (h : KeptByAllocs R)
    (hkey : ∀ s k, R s (raiseKey s k))
    (hfile : ∀ s (l l' : Leaf), l'.off = l.off → R s { s with mem := assocSet s.mem l.off ⟨.leaf l', true⟩ })
    (r : WalRec) (s : Store) : R (raiseRec s r) (replayOne r s).1 :=
  replayOne_ind r s _ (R (raiseRec s r)) (h.refl _) id
    (fun ha e => h.trans ha ((h.fetch _).ok e))
    (fun _ ha e => h.trans ha ((h.insertKey _ _ _ _).ok e))
    (fun _ ha e => h.trans ha ((h.insertKey _ _ _ _).err e))
    (fun _ ha => h.trans ha (hkey _ _))
    (fun _ ha e => h.trans ha ((h.repointPageTable _ _ _).ok e))
    (fun _ ha e => h.trans ha ((h.repointPageTable _ _ _).err e))
    (fun l l' ha ho => h.trans ha (hfile _ l l' ho))

theorem replayOne_memFiled (r : WalRec) (s : Store) (hf : MemFiled s) : MemFiled (replayOne r s).1 :=
  memFiled_writes.replayOne (fun _ _ h => h.of_mem_eq rfl)
    (fun _ _ l' ho h => h.set (v := ⟨.leaf l', true⟩) ho rfl) r s (hf.of_mem_eq rfl)

theorem replayAll_memFiled (log : List WalRec) (s : Store) (hf : MemFiled s) :
    MemFiled (replayAll log s).1 :=
  replayAll_keeps replayOne_memFiled log s hf

end Mkdb.Store
end

section
/-!
No operation but the flush writes the data file.

`DiskSame s s'`: the data file pages and the header last written to the data file are the same in
`s'` as in `s`, and the LSN counter of `s'` is not below that of `s` (every operation only ever
raises `hdr.nextLSN`).  `KeepsDisk m` is `Preserves DiskSame m`: the primitives of the page store and
the counter bumps keep `DiskSame` (`diskSame_writes`), hence so do the B-tree insert, the scans, the
catalog, `insert`, `update`, `markDeleted`, `fetchTable` and `repointPageTable` - everything except
`flushPages` (and hence `createTable`, `createDB`), the only writers of `disk` and `dhdr`.

Consequences: the statement evaluators, a run of statements (`specRun_disk`) and the redo of the log
(`replayAll_disk`) leave the data file alone; after the redo the LSN counter is at least every replayed
LSN (`replayAll_lsn`).
-/
set_option autoImplicit false
namespace Mkdb.Store
open Mkdb.Page Mkdb.Tuple Mkdb.Generated Mkdb.Tree Mkdb.Engine

/-- same data file (pages and written header); the LSN counter did not go down -/
def DiskSame (s s' : Store) : Prop :=
  s'.disk = s.disk ∧ s'.dhdr = s.dhdr ∧ s.hdr.nextLSN ≤ s'.hdr.nextLSN

theorem DiskSame.refl (s : Store) : DiskSame s s := ⟨rfl, rfl, Nat.le_refl _⟩

theorem DiskSame.trans {a b c : Store} (h1 : DiskSame a b) (h2 : DiskSame b c) : DiskSame a c :=
  ⟨h2.1.trans h1.1, h2.2.1.trans h1.2.1, Nat.le_trans h1.2.2 h2.2.2⟩

/-! ### the closure predicate -/

/-- `m` does not write the data file (and does not lower the LSN counter) -/
def KeepsDisk {α} (m : SM α) : Prop :=
  ∀ s, match m s with
    | .ok _ s' => DiskSame s s'
    | .err _ s' => DiskSame s s'
    | _ => True

theorem KeepsDisk.ok {α} {m : SM α} (h : KeepsDisk m) {s s' : Store} {a : α}
    (e : m s = .ok a s') : DiskSame s s' := by have := h s; rw [e] at this; exact this

theorem KeepsDisk.err {α} {m : SM α} (h : KeepsDisk m) {s s' : Store} {x : SErr}
    (e : m s = .err x s') : DiskSame s s' := by have := h s; rw [e] at this; exact this

/-! ### the primitives: the cache and the in-memory header only -/

theorem KeepsDisk.fetch (off : Nat) : KeepsDisk (fetch off) := by
  intro s
  unfold Store.fetch
  cases assocGet s.mem off with
  | some m => exact DiskSame.refl s
  | none => exact ⟨rfl, rfl, Nat.le_refl _⟩

theorem KeepsDisk.putNode (n : Node) (d : Option Bool) : KeepsDisk (putNode n d) :=
  fun _ => ⟨rfl, rfl, Nat.le_refl _⟩

theorem KeepsDisk.markDirty (off lsn : Nat) : KeepsDisk (markDirty off lsn) := by
  intro s
  unfold Store.markDirty
  cases assocGet s.mem off with
  | none => trivial
  | some m => exact ⟨rfl, rfl, Nat.le_refl _⟩

theorem KeepsDisk.appendNode (n : Node) (d : Bool) : KeepsDisk (appendNode n d) :=
  fun _ => ⟨rfl, rfl, Nat.le_refl _⟩

/-- `KeepsDisk m` is `Preserves DiskSame m`; the primitives above and the counter bumps are all the
store operations other than the flush are made of -/
theorem diskSame_writes : KeptByWrites DiskSame where
  refl := DiskSame.refl
  trans := DiskSame.trans
  fetch := KeepsDisk.fetch
  putNode := KeepsDisk.putNode
  markDirty := KeepsDisk.markDirty
  appendNode := KeepsDisk.appendNode
  ghost _ := ⟨rfl, rfl, Nat.le_refl _⟩
  lsn _ := ⟨rfl, rfl, Nat.le_succ _⟩
  keyLsn _ := ⟨rfl, rfl, Nat.le_succ _⟩
  ptRoot _ _ := ⟨rfl, rfl, Nat.le_refl _⟩

/-! ### the B-tree insert -/

theorem KeepsDisk.insertLeaf (parent : Option Nat) (cur : Leaf) (key lsn : Nat) (value : Bytes) (root : Nat) :
    KeepsDisk (insertLeaf parent cur key lsn value root) :=
  diskSame_writes.insertLeaf _ _ _ _ _ _

theorem KeepsDisk.insertInternal : ∀ (fuel : Nat) (parent : Option Nat) (cur : Internal) (key lsn : Nat)
    (value : Bytes) (root : Nat), KeepsDisk (insertInternal fuel parent cur key lsn value root) :=
  diskSame_writes.insertInternal

theorem KeepsDisk.insertKeyHeap (bt : BT) (key lsn : Nat) (value : Bytes) :
    KeepsDisk (Store.insertKeyHeap bt key lsn value) :=
  diskSame_writes.insertKeyHeap _ _ _ _

/-- the `ghost` counter is not the data file -/
theorem KeepsDisk.insertKey (bt : BT) (key lsn : Nat) (value : Bytes) :
    KeepsDisk (Store.insertKey bt key lsn value) :=
  diskSame_writes.insertKey _ _ _ _

/-! ### scans -/

theorem KeepsDisk.scanLeaves : ∀ (fuel : Nat) (l : Leaf), KeepsDisk (scanLeaves fuel l) :=
  diskSame_writes.scanLeaves

theorem KeepsDisk.scanRight (root : Nat) : KeepsDisk (scanRight root) :=
  diskSame_writes.scanRight _

theorem KeepsDisk.findLeaf : ∀ (fuel off key : Nat), KeepsDisk (findLeaf fuel off key) :=
  diskSame_writes.findLeaf

/-! ### the catalog and the row operations -/

theorem KeepsDisk.updateCellAt (off key : Nat) (value : Bytes) (lsn : Nat) :
    KeepsDisk (updateCellAt off key value lsn) :=
  diskSame_writes.updateCellAt _ _ _ _

theorem KeepsDisk.updatePageTable (newRoot : Nat) (name : Bytes) :
    KeepsDisk (updatePageTable newRoot name) :=
  diskSame_writes.updatePageTable _ _

theorem KeepsDisk.insert (table : Bytes) (cols : List String) (vals : List Val) :
    KeepsDisk (Store.insert table cols vals) :=
  diskSame_writes.insert _ _ _

theorem KeepsDisk.fetchTable (table : Bytes) : KeepsDisk (fetchTable table) :=
  diskSame_writes.fetchTable _

theorem KeepsDisk.markDeleted (table : Bytes) (rowId : Nat) : KeepsDisk (markDeleted table rowId) :=
  diskSame_writes.markDeleted _ _

theorem KeepsDisk.update (table : Bytes) (rowId : Nat) (cols : List String) (src : List Val) :
    KeepsDisk (update table rowId cols src) :=
  diskSame_writes.update _ _ _ _

/-! ### statements and runs of statements -/

/-- the store of an `.ok` / `.err` result has the data file of `s` -/
def ResDisk {α} (s : Store) (r : Engine.Res α) : Prop := r.After (DiskSame s)

theorem specRun_disk {sch : Levels} {db db' : Engine.DB} {sdb sdb' : Spec.SDB} {stmts : List EStmt}
    (run : SpecRun sch db sdb stmts db' sdb') : DiskSame db.store db'.store :=
  SpecRun.keeps diskSame_writes run

/-! ### the redo of the log -/

/-- the key counter is not the data file -/
theorem DiskSame.lastKey {a s : Store} (h : DiskSame a s) (k : Nat) :
    DiskSame a { s with hdr := { s.hdr with lastKey := k } } := h

theorem replayOne_disk_raised (r : WalRec) (s : Store) : DiskSame (raiseRec s r) (replayOne r s).1 :=
  diskSame_writes.replayOne (fun s _ => (DiskSame.refl s).lastKey _) (fun _ _ _ _ => ⟨rfl, rfl, Nat.le_refl _⟩) r s

theorem replayOne_disk (r : WalRec) (s : Store) : DiskSame s (replayOne r s).1 :=
  DiskSame.trans (b := raiseRec s r) ⟨rfl, rfl, Nat.le_max_left _ _⟩ (replayOne_disk_raised r s)

theorem replayOne_lsn (r : WalRec) (s : Store) : r.lsn ≤ (replayOne r s).1.hdr.nextLSN :=
  Nat.le_trans (Nat.le_max_right s.hdr.nextLSN r.lsn) (replayOne_disk_raised r s).2.2

theorem replayAll_disk (log : List WalRec) (s : Store) : DiskSame s (replayAll log s).1 :=
  replayAll_keeps (P := DiskSame s) (fun r _ h => h.trans (replayOne_disk r _)) log s (DiskSame.refl s)

theorem replayAll_lsn (log : List WalRec) (s s' : Store) (h : replayAll log s = (s', none, false)) :
    ∀ r ∈ log, r.lsn ≤ s'.hdr.nextLSN := fun r hr =>
  replayAll_reaches (·.hdr.nextLSN) (·.lsn) (fun _ => True) (fun r a => (replayOne_disk r a).2.2)
    (fun r a _ => replayOne_lsn r a) log s s' h r hr trivial

end Mkdb.Store
end
