import Mkdb.Proofs.Aggregate
import Mkdb.Proofs.MeaningSelectList
/-!
`evaluateSelect` against `Spec.meaning` / `Spec.satisfies`: aggregates and GROUP BY (C07),
cell by cell and row by row.

The executor projects every source row first (`projectColumns`: `COUNT(*)` becomes `1`,
`COUNT(c)` becomes `0`/`1`) and aggregates the *projected* rows by the values at the GROUP BY
positions; the specification groups the *source* rows by the values of the designated select-list
items and computes each aggregate on the source rows of the group.  Both are functions of the
column of values the element has on the rows of the group (`cellOf`, `aggOf`), which agree on a
column that is constant or counted.  Here: one cell (`cell_agree`), one result row (`row_agree`),
all groups (`groups_agree`).

"Constant on each group" comes on three levels; rows are in one group when `key` agrees on their projections:

| of a select list, for one `key` (here) | for every resolved GROUP BY (`MeaningAggregateRows`) | as a test on a query (`MeaningPipeline`) |
|---|---|---|
| `PlainConst`: the elements that are neither COUNT nor AVG (what `Spec.meaning` demands) | | |
| `AvgConst`: the values an AVG averages (`noAvg sl`: there is none) | `AvgOnGroups` | `avgConstB`, `avgGroupsConstant` |
| `GroupConst` = `PlainConst` and `AvgConst` (`GroupConst.of_plain_avg`, `.avgConst`): all but the COUNTs | `ConstOnGroups` | `groupConstB`, `nonCountsConstantOnGroups` |
| | `groupedItems`: a syntactic sufficient condition (COUNTs, literals, the grouped columns) | `groupedQuery` |

The tests decide the predicates on the rows the FROM clause delivers (`constOnGroups_of_nonCountsConstantOnGroups`,
`avgOnGroups_of_avgGroupsConstant`, `constOnGroups_of_groupedQuery`).
-/
namespace Mkdb.Exec.MeaningP
open Mkdb.Sql Mkdb.Tuple Mkdb.Spec Mkdb.Exec.SelectP Mkdb.Exec.AggP

/-! ### projected rows as a function of the source row -/

/-- the value of one select-list element on a source row (`NULL` where it has none) -/
def pv (fields : List Field) (d : DerivedCol) (r : Row) : Val := (itemVal d.item fields r).getD .null

def projRow (sl : List DerivedCol) (fields : List Field) (r : Row) : Row := sl.map fun d => pv fields d r

/-- every select-list element has a value on every row -/
def Projects (sl : List DerivedCol) (fields : List Field) (rows : List Row) : Prop :=
  ∀ r ∈ rows, ∀ d ∈ sl, itemVal d.item fields r = some (pv fields d r)

theorem projects_of_mapM {sl : List DerivedCol} {fields : List Field} {rows p : List Row}
    (h : rows.mapM (fun r => sl.mapM fun d => itemVal d.item fields r) = some p) :
    p = rows.map (projRow sl fields) ∧ Projects sl fields rows := by
  have inner : ∀ r vs, sl.mapM (fun d => itemVal d.item fields r) = some vs →
      vs = projRow sl fields r ∧ ∀ d ∈ sl, itemVal d.item fields r = some (pv fields d r) := by
    intro r vs hvs
    exact mapM_some_eq_map (g := fun d => pv fields d r) hvs
      (by intro d _ b hb; simp only [pv, hb, Option.getD_some])
  obtain ⟨hp, hall⟩ := mapM_some_eq_map (g := projRow sl fields) h
    (by intro r _ b hb; exact (inner r b hb).1)
  exact ⟨hp, fun r hr => (inner r _ (hall r hr)).2⟩

theorem mapM_of_projects {sl : List DerivedCol} {fields : List Field} {rows : List Row}
    (h : Projects sl fields rows) :
    rows.mapM (fun r => sl.mapM fun d => itemVal d.item fields r) = some (rows.map (projRow sl fields)) :=
  mapM_eq_some_map (fun r hr => mapM_eq_some_map (g := fun d => pv fields d r) (h r hr))

theorem Projects.sublist {sl : List DerivedCol} {fields : List Field} {rows rows' : List Row}
    (h : Projects sl fields rows) (hs : ∀ r ∈ rows', r ∈ rows) : Projects sl fields rows' :=
  fun r hr => h r (hs r hr)

theorem projRow_getElem? {sl : List DerivedCol} {fields : List Field} {i : Nat} {d : DerivedCol}
    (hd : sl[i]? = some d) (r : Row) : (projRow sl fields r)[i]? = some (pv fields d r) := by
  unfold projRow
  rw [List.getElem?_map, hd]; rfl

/-! ### one cell -/

theorem itemVal_count_star (fields : List Field) (r : Row) :
    itemVal (.count none) fields r = some (.int 1) := rfl

theorem itemVal_count_col {c : ColRef} {fields : List Field} {j : Nat} {r : Row} {v : Val}
    (hfc : findColumn c fields = .ok j) (h : itemVal (.count (some c)) fields r = some v) :
    v = .int (if (r[j]?).getD .null != .null then 1 else 0) := by
  rw [itemVal_some_iff] at h
  simp only [projectItem, hfc, bind_ok] at h
  cases hr : r[j]? with
  | none => rw [hr] at h; cases h
  | some x =>
    rw [hr] at h
    cases x <;> simp only [pure_eq_ok, X.ok.injEq] at h <;> subst h <;> rfl

theorem itemVal_avg {c : ColRef} {fields : List Field} {j : Nat} {r : Row} {v : Val}
    (hfc : findColumn c fields = .ok j) (h : itemVal (.avg c) fields r = some v) :
    ∃ x, r[j]? = some (.int x) ∧ v = .int x := by
  rw [itemVal_some_iff] at h
  simp only [projectItem, hfc, bind_ok] at h
  cases hr : r[j]? with
  | none => rw [hr] at h; cases h
  | some y =>
    rw [hr] at h
    cases y with
    | int x => simp only [pure_eq_ok, X.ok.injEq] at h; exact ⟨x, rfl, h.symm⟩
    | str s => cases h
    | bool b => cases h
    | null => cases h

theorem foldl_add_const {α : Type} (x : Int) (l : List α) (acc : Int) :
    (l.map fun _ => x).foldl (· + ·) acc = acc + x * l.length := by
  induction l generalizing acc with
  | nil => simp
  | cons a t ih =>
    rw [List.map_cons, List.foldl_cons, ih, List.length_cons]
    rw [Int.natCast_succ, Int.mul_add, Int.mul_one]
    omega

def noAvg (sl : List DerivedCol) : Bool :=
  sl.all fun d => match d.item with | .avg _ => false | _ => true

theorem noAvg_item {sl : List DerivedCol} (h : noAvg sl = true) {d : DerivedCol} (hd : d ∈ sl)
    (c : ColRef) : d.item ≠ .avg c := by
  unfold noAvg at h
  rw [List.all_eq_true] at h
  intro e
  have := h d hd
  rw [e] at this
  cases this

/-- the value of a list of values that are all the same -/
def constAll (o : Option (List Val)) : Option Val :=
  match o with
  | some (v :: vs) => if vs.all (· == v) then some v else none
  | _ => none

theorem constAll_some_iff {vs : List Val} {v : Val} :
    constAll (some vs) = some v ↔ ∃ rest, vs = v :: rest ∧ ∀ w ∈ rest, w = v := by
  cases vs with
  | nil => exact ⟨fun h => (nomatch h), fun ⟨_, h, _⟩ => (nomatch h)⟩
  | cons w ws =>
    simp only [constAll, List.cons.injEq]
    constructor
    · intro h
      split at h
      · rename_i hall
        cases h
        exact ⟨ws, ⟨rfl, rfl⟩, fun x hx => beq_iff_eq.1 (List.all_eq_true.1 hall x hx)⟩
      · cases h
    · rintro ⟨_, ⟨rfl, rfl⟩, hall⟩
      rw [if_pos (List.all_eq_true.2 fun x hx => beq_iff_eq.2 (hall x hx))]

/-! ### one cell, as a function of the column of values -/

/-- the integer a cell contributes to the sums of `aggregateRows` -/
def intOr0 : Val → Int
  | .int i => i
  | _ => 0

/-- the executor's cell for a group, as a function of the column of values it is computed from -/
def cellOf (item : SelItem) (vs : List Val) : X Val :=
  match item with
  | .count _ => .ok (.int (vs.foldl (fun acc v => acc + intOr0 v) 0))
  | .avg _ => .ok (.int (runningAvg (vs.map intOr0)))
  | _ => match vs.head? with
    | some v => .ok v
    | none => .panic "aggregateRows: empty group"

theorem foldl_add_map {α : Type} {f : α → Int} {g : Val → Int} {col : α → Val} :
    ∀ {l : List α} (_ : ∀ a ∈ l, f a = g (col a)) (acc : Int),
      l.foldl (fun acc a => acc + f a) acc = (l.map col).foldl (fun acc v => acc + g v) acc
  | [], _, _ => rfl
  | a :: rest, h, acc => by
    rw [List.foldl_cons, List.map_cons, List.foldl_cons, h a List.mem_cons_self]
    exact foldl_add_map (fun a ha => h a (List.mem_cons_of_mem _ ha)) _

theorem aggCell_eq_cellOf (item : SelItem) {i : Nat} {k : List Val} {α : Type} {src : List α}
    {proj : α → Row} {col : α → Val} (h : ∀ a ∈ src, (proj a)[i]? = some (col a)) :
    aggCell item i ⟨k, src.map proj⟩ = cellOf item (src.map col) := by
  have hhead : aggCell .star i ⟨k, src.map proj⟩ = cellOf .star (src.map col) := by
    cases src with
    | nil => rfl
    | cons a rest =>
      simp only [aggCell, cellOf, List.head?_cons, List.map_cons, h a List.mem_cons_self]; rfl
  cases item with
  | count c =>
    refine congrArg (fun n => X.ok (Val.int n)) ?_
    rw [List.foldl_map]
    exact foldl_add_map (fun a ha => by rw [h a ha]; cases col a <;> rfl) 0
  | avg c =>
    refine congrArg (fun xs => X.ok (Val.int (runningAvg xs))) ?_
    rw [List.map_map, List.map_map]
    exact List.map_congr_left fun a ha => by
      show (match (proj a)[i]? with | some (Val.int x) => x | _ => 0) = intOr0 (col a)
      rw [h a ha]; cases col a <;> rfl
  | star => exact hhead
  | expr e => exact hhead

/-- the reference aggregate of a group, as a function of the values the element has on its rows -/
def aggOf (item : SelItem) (vs : List Val) : Option Val :=
  match item with
  | .count _ => some (.int (vs.foldl (fun acc v => acc + intOr0 v) 0))
  | .avg _ => some (.int (roundDiv ((vs.map intOr0).foldl (· + ·) 0) vs.length))
  | _ => constAll (some vs)

theorem mapM_map_some {α β γ : Type} (f : α → Option β) (g : β → γ) (l : List α) :
    l.mapM (fun a => (f a).map g) = (l.mapM f).map (List.map g) := by
  induction l with
  | nil => rfl
  | cons a t ih =>
    simp only [List.mapM_cons, ih, Option.bind_eq_bind]
    cases f a <;> cases t.mapM f <;> rfl

/-- **the reference aggregate of a group is computed from the values the element has on its rows**
(its columns resolve; for a `COUNT(col)`, which reads a missing cell as NULL where the element has no
value, every row has one) -/
theorem aggVal_eq_bind {item : SelItem} {fields : List Field} {grp : List Row}
    (hres : ∀ c ∈ itemColumns item, ∃ j, findColumn c fields = .ok j)
    (hdef : ∀ c, item = .count (some c) → ∀ r ∈ grp, ∃ w, itemVal item fields r = some w) :
    aggVal item fields grp = (grp.mapM fun r => itemVal item fields r).bind (aggOf item) := by
  have hplain : ∀ o : Option (List Val), constAll o = o.bind fun vs => constAll (some vs) :=
    fun o => by cases o <;> rfl
  have hcount : ∀ nonNull : Row → Bool,
      (∀ r ∈ grp, itemVal item fields r = some (.int (if nonNull r then 1 else 0))) →
      (grp.mapM fun r => itemVal item fields r).bind (aggOf (.count none)) =
        some (.int ((grp.filter nonNull).length : Int)) := by
    intro nonNull h
    rw [mapM_eq_some_map h, Option.bind_some]
    simp only [aggOf]
    rw [List.foldl_map, count_fold (fun r => intOr0 (Val.int (if nonNull r then 1 else 0))) nonNull grp 0
      (fun r _ => by cases nonNull r <;> rfl), Int.zero_add]
  cases item with
  | star => exact hplain _
  | expr e => exact hplain _
  | count oc =>
    cases oc with
    | none =>
      refine Eq.trans ?_ (hcount (fun _ => true) fun r _ => rfl).symm
      rw [List.filter_eq_self.2 (fun _ _ => rfl)]
      rfl
    | some c =>
      obtain ⟨j, hfc⟩ := hres c List.mem_cons_self
      refine Eq.trans ?_ (hcount (fun r => (r[j]?).getD .null != .null) fun r hr => ?_).symm
      · simp only [aggVal, hfc]
      · obtain ⟨w, hw⟩ := hdef c rfl r hr
        rw [hw, itemVal_count_col hfc hw]
  | avg c =>
    obtain ⟨j, hfc⟩ := hres c List.mem_cons_self
    have hiv : (fun r => itemVal (.avg c) fields r) =
        fun r => (match r[j]? with | some (Val.int x) => some x | _ => none).map Val.int := by
      funext r
      simp only [itemVal, projectItem, hfc, bind_ok]
      cases hr : r[j]? with
      | none => rfl
      | some y => cases y <;> rfl
    simp only [aggVal, hfc, Option.bind_eq_bind]
    rw [hiv, mapM_map_some]
    cases hm : grp.mapM (fun r => match r[j]? with | some (Val.int x) => some x | _ => none) with
    | none => rfl
    | some xs =>
      simp only [Option.bind_some, Option.map_some, aggOf, List.map_map, List.length_map]
      rw [mapM_some_length hm]
      congr 3
      exact (List.map_id' xs).symm ▸ rfl

theorem aggVal_eq_aggOf {sl : List DerivedCol} {fields : List Field} {grp : List Row} {d : DerivedCol}
    (hd : d ∈ sl) (hproj : Projects sl fields grp)
    (hres : ∀ c ∈ itemColumns d.item, ∃ j, findColumn c fields = .ok j) :
    aggVal d.item fields grp = aggOf d.item (grp.map (pv fields d)) := by
  rw [aggVal_eq_bind hres fun c _ r hr => ⟨_, hproj r hr d hd⟩,
    mapM_eq_some_map fun r hr => hproj r hr d hd]
  rfl

/-- executor and reference agree on a column of values: always for a COUNT, for any other element
when the column is constant -/
theorem cellOf_eq_aggOf {item : SelItem} {v0 : Val} {vs : List Val}
    (hconst : (∀ c, item ≠ .count c) → ∀ v ∈ vs, v = v0) :
    ∃ v, cellOf item (v0 :: vs) = .ok v ∧ aggOf item (v0 :: vs) = some v := by
  have hplain : (∀ c, item ≠ .count c) → constAll (some (v0 :: vs)) = some v0 :=
    fun hc => constAll_some_iff.2 ⟨vs, rfl, hconst hc⟩
  cases item with
  | count c => exact ⟨_, rfl, rfl⟩
  | star => exact ⟨v0, rfl, hplain (fun c e => by cases e)⟩
  | expr e => exact ⟨v0, rfl, hplain (fun c e => by cases e)⟩
  | avg c =>
    have hrep : (v0 :: vs).map intOr0 = List.replicate (vs.length + 1) (intOr0 v0) := by
      rw [List.eq_replicate_iff]
      refine ⟨by simp, fun b hb => ?_⟩
      obtain ⟨v, hv, rfl⟩ := List.mem_map.1 hb
      rcases List.mem_cons.1 hv with rfl | hv
      · rfl
      · rw [hconst (fun c e => by cases e) v hv]
    refine ⟨.int (intOr0 v0), ?_, ?_⟩
    · simp only [cellOf, hrep, runningAvg_const]
    · simp only [aggOf, hrep, List.length_cons]
      rw [← List.length_cons (a := v0), ← List.map_const', foldl_add_const, Int.zero_add]
      rw [roundDiv_exact _ _ (List.length_pos_iff.2 (List.cons_ne_nil _ _))]

/-- the reference aggregate of a column does not depend on the order of its values: always for a
COUNT, for any other element when the column is constant -/
theorem aggOf_perm {item : SelItem} {vs vs' : List Val} (hp : vs'.Perm vs)
    (hconst : (∀ c, item ≠ .count c) → ∀ v ∈ vs, ∀ w ∈ vs, v = w) :
    aggOf item vs' = aggOf item vs := by
  by_cases hcnt : ∀ c, item ≠ .count c
  · have : vs' = vs := by
      cases vs with
      | nil => exact List.Perm.eq_nil hp
      | cons v0 rest =>
        have h1 : vs' = List.replicate vs'.length v0 :=
          List.eq_replicate_iff.2 ⟨rfl, fun b hb => hconst hcnt b (hp.mem_iff.1 hb) v0 List.mem_cons_self⟩
        have h2 : v0 :: rest = List.replicate (v0 :: rest).length v0 :=
          List.eq_replicate_iff.2 ⟨rfl, fun b hb => hconst hcnt b hb v0 List.mem_cons_self⟩
        rw [h1, h2, hp.length_eq]
    rw [this]
  · cases item with
    | count c =>
      simp only [aggOf]
      rw [hp.foldl_eq' (fun x _ y _ z => by omega)]
    | star => exact absurd (fun c e => by cases e) hcnt
    | expr e => exact absurd (fun c e => by cases e) hcnt
    | avg c => exact absurd (fun c e => by cases e) hcnt

/-- **one cell**: on a non-empty group of source rows the executor's cell (computed on the
projected rows of the group) and the specification's aggregate (computed on the source rows) are
defined together and equal - `COUNT(*)`, `COUNT(col)`; an `AVG` or a non-aggregate element when it
has one value on all rows of the group (`hconst`: the reference meaning demands it of a
non-aggregate element, and it is the case in which the cumulative `AVG` of the code is the mean).
Both are functions of the column of values the element has on the rows of the group. -/
theorem cell_agree {sl : List DerivedCol} {fields : List Field} {grp : List Row} {k : List Val}
    {i : Nat} {d : DerivedCol} (hd : sl[i]? = some d) (hne : grp ≠ [])
    (hproj : Projects sl fields grp)
    (hres : ∀ c ∈ itemColumns d.item, ∃ j, findColumn c fields = .ok j)
    (hconst : (∀ c, d.item ≠ .count c) → ∀ r ∈ grp, ∀ r' ∈ grp, pv fields d r = pv fields d r') :
    ∃ v, aggCell d.item i ⟨k, grp.map (projRow sl fields)⟩ = .ok v ∧
      aggVal d.item fields grp = some v := by
  rw [aggCell_eq_cellOf d.item (col := pv fields d) (fun r _ => projRow_getElem? hd r),
    aggVal_eq_aggOf (List.mem_of_getElem? hd) hproj hres]
  obtain ⟨r0, rest, rfl⟩ := List.exists_cons_of_ne_nil hne
  refine cellOf_eq_aggOf fun hc v hv => ?_
  obtain ⟨r, hr, rfl⟩ := List.mem_map.1 hv
  exact hconst hc r (List.mem_cons_of_mem _ hr) r0 List.mem_cons_self

/-! ### one result row -/

theorem mapM_map_eq {α β γ : Type} (g : β → Option γ) (h : α → β) (l : List α) :
    (l.map h).mapM g = l.mapM (fun a => g (h a)) :=
  List.mapM_map

theorem mapX_mapM_map {α β γ : Type} {f : α → X γ} {g : β → Option γ} {h : α → β} {l : List α}
    (H : ∀ a ∈ l, ∃ c, f a = .ok c ∧ g (h a) = some c) :
    ∃ cs, mapX f l = .ok cs ∧ (l.map h).mapM g = some cs := by
  induction l with
  | nil => exact ⟨[], rfl, rfl⟩
  | cons a l ih =>
    obtain ⟨c, hf, hg⟩ := H a List.mem_cons_self
    obtain ⟨cs, hfs, hgs⟩ := ih (fun a ha => H a (List.mem_cons_of_mem _ ha))
    refine ⟨c :: cs, mapX_cons_ok_iff.2 ⟨c, cs, hf, hfs, rfl⟩, ?_⟩
    rw [List.map_cons]
    exact mapM_cons_some.2 ⟨c, cs, hg, hgs, rfl⟩

/-- **one result row**: the row the executor builds for a non-empty group and the row of the
specification are defined together and equal -/
theorem row_agree {sl : List DerivedCol} {fields : List Field} {grp : List Row} (k : List Val)
    (hne : grp ≠ []) (hproj : Projects sl fields grp) (hres : ColumnsResolve sl fields)
    (hconst : ∀ d ∈ sl, (∀ c, d.item ≠ .count c) → ∀ r ∈ grp, ∀ r' ∈ grp,
      pv fields d r = pv fields d r') :
    ∃ row, mapX (fun (p : Nat × DerivedCol) => aggCell p.2.item p.1 ⟨k, grp.map (projRow sl fields)⟩)
        ((List.range sl.length).zip sl) = .ok row ∧
      sl.mapM (fun d => aggVal d.item fields grp) = some row := by
  have := mapX_mapM_map (f := fun (p : Nat × DerivedCol) =>
      aggCell p.2.item p.1 ⟨k, grp.map (projRow sl fields)⟩)
    (g := fun d => aggVal d.item fields grp) (h := Prod.snd)
    (l := (List.range sl.length).zip sl) (by
      intro p hp
      have hd := mem_zip_range hp
      have hmem : p.2 ∈ sl := List.mem_of_getElem? hd
      exact cell_agree hd hne hproj (hres p.2 hmem) (hconst p.2 hmem))
  rw [List.map_snd_zip (by simp)] at this
  exact this

/-! ### all groups -/

theorem zip_map_filterMap_key {α : Type} (f : α → List Val) (k : List Val) (l : List α) :
    ((l.zip (l.map f)).filterMap fun (x : α × List Val) => if x.2 == k then some x.1 else none) =
      l.filter (fun a => f a == k) := by
  induction l with
  | nil => rfl
  | cons a t ih =>
    simp only [List.map_cons, List.zip_cons_cons, List.filterMap_cons, List.filter_cons, ih]
    cases f a == k <;> rfl

/-- within a group (rows of equal key) the values an `AVG` averages are all equal: the case in
which the code's cumulative average, rounded after every row, is the rounded mean
(`C07_avg_partial`); vacuous for a select list without `AVG` -/
def AvgConst (sl : List DerivedCol) (fields : List Field) (key : Row → List Val) (src : List Row) : Prop :=
  ∀ d ∈ sl, ∀ c, d.item = .avg c → ∀ r ∈ src, ∀ r' ∈ src,
    key (projRow sl fields r) = key (projRow sl fields r') → pv fields d r = pv fields d r'

theorem AvgConst.of_noAvg {sl : List DerivedCol} (h : noAvg sl = true) (fields : List Field)
    (key : Row → List Val) (src : List Row) : AvgConst sl fields key src :=
  fun _ hd c hc => absurd hc (noAvg_item h hd c)

theorem AvgConst.sublist {sl : List DerivedCol} {fields : List Field} {key : Row → List Val}
    {src src' : List Row} (h : AvgConst sl fields key src) (hs : ∀ r ∈ src', r ∈ src) :
    AvgConst sl fields key src' :=
  fun d hd c hc r hr r' hr' hk => h d hd c hc r (hs r hr) r' (hs r' hr') hk

/-- every select-list element that is not a COUNT has one value on all rows of a group -/
def GroupConst (sl : List DerivedCol) (fields : List Field) (key : Row → List Val) (src : List Row) : Prop :=
  ∀ d ∈ sl, (∀ c, d.item ≠ .count c) → ∀ r ∈ src, ∀ r' ∈ src,
    key (projRow sl fields r) = key (projRow sl fields r') → pv fields d r = pv fields d r'

/-- every select-list element that is neither a COUNT nor an AVG has one value on all rows of a
group: what the reference meaning demands of a grouping query -/
def PlainConst (sl : List DerivedCol) (fields : List Field) (key : Row → List Val) (src : List Row) : Prop :=
  ∀ d ∈ sl, (∀ c, d.item ≠ .count c) → (∀ c, d.item ≠ .avg c) → ∀ r ∈ src, ∀ r' ∈ src,
    key (projRow sl fields r) = key (projRow sl fields r') → pv fields d r = pv fields d r'

theorem GroupConst.avgConst {sl : List DerivedCol} {fields : List Field} {key : Row → List Val}
    {src : List Row} (h : GroupConst sl fields key src) : AvgConst sl fields key src :=
  fun d hd c hc => h d hd (fun c' e => by rw [hc] at e; cases e)

theorem GroupConst.sublist {sl : List DerivedCol} {fields : List Field} {key : Row → List Val}
    {src src' : List Row} (h : GroupConst sl fields key src) (hs : ∀ r ∈ src', r ∈ src) :
    GroupConst sl fields key src' :=
  fun d hd hc r hr r' hr' hk => h d hd hc r (hs r hr) r' (hs r' hr') hk

theorem GroupConst.of_plain_avg {sl : List DerivedCol} {fields : List Field} {key : Row → List Val}
    {src : List Row} (hp : PlainConst sl fields key src) (ha : AvgConst sl fields key src) :
    GroupConst sl fields key src := by
  intro d hd hcnt
  by_cases hav : ∃ c, d.item = .avg c
  · obtain ⟨c, hc⟩ := hav
    exact ha d hd c hc
  · exact hp d hd hcnt (fun c e => hav ⟨c, e⟩)

/-- **all groups**: the rows the executor builds from the groups of the projected rows and the
rows of the specification (one per distinct key of the source rows, in first-occurrence order) are
defined together and equal -/
theorem groups_agree {sl : List DerivedCol} {fields : List Field} {src : List Row}
    (key : Row → List Val) (hproj : Projects sl fields src) (hres : ColumnsResolve sl fields)
    (hconst : GroupConst sl fields key src) :
    ∃ out, mapX (fun g => mapX (fun (p : Nat × DerivedCol) => aggCell p.2.item p.1 g)
          ((List.range sl.length).zip sl)) (groupsOf key (src.map (projRow sl fields))) = .ok out ∧
      (distinctKeys (src.map fun r => key (projRow sl fields r))).mapM (fun k =>
        sl.mapM fun d => aggVal d.item fields
          (src.filter fun r => key (projRow sl fields r) == k)) = some out := by
  have hkeys : distinctKeys (src.map fun r => key (projRow sl fields r)) =
      (groupsOf key (src.map (projRow sl fields))).map (·.key) := by
    rw [groups_keys_first_occurrence, List.map_map]; rfl
  rw [hkeys]
  apply mapX_mapM_map
  intro g hg
  have hrows := groups_rows_eq_filter key _ g hg
  rw [List.filter_map] at hrows
  have hkmem : g.key ∈ (src.map (projRow sl fields)).map key := by
    rw [← List.mem_eraseDups, ← groups_keys_first_occurrence]
    exact List.mem_map.2 ⟨g, hg, rfl⟩
  obtain ⟨pr, hpr, hk⟩ := List.mem_map.1 hkmem
  obtain ⟨r, hr, rfl⟩ := List.mem_map.1 hpr
  have hne : (src.filter fun r => key (projRow sl fields r) == g.key) ≠ [] := by
    intro e
    have : r ∈ src.filter fun r => key (projRow sl fields r) == g.key :=
      List.mem_filter.2 ⟨hr, by rw [hk]; exact beq_self_eq_true _⟩
    rw [e] at this; cases this
  have hg' : g = ⟨g.key, (src.filter fun r => key (projRow sl fields r) == g.key).map
      (projRow sl fields)⟩ := by
    cases g; simp only [Group.mk.injEq, true_and]; exact hrows
  rw [hg']
  refine row_agree g.key hne (hproj.sublist (fun r hr => (List.mem_filter.1 hr).1)) hres ?_
  intro d hd hc r1 hr1 r2 hr2
  obtain ⟨h1, k1⟩ := List.mem_filter.1 hr1
  obtain ⟨h2, k2⟩ := List.mem_filter.1 hr2
  exact hconst d hd hc r1 h1 r2 h2 ((beq_iff_eq.1 k1).trans (beq_iff_eq.1 k2).symm)

end Mkdb.Exec.MeaningP
