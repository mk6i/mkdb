import Mkdb.Proofs.ReplayInsertRecord
import Mkdb.Proofs.StmtRowOps
import Mkdb.Proofs.TreeLSN
/-!
Redo of logged statements, the parts below the step lemmas of `ReplaySteps`.  A log whose records are all
already applied (`Applied`: skipped by LSN, or the INSERT of a key that is present) changes nothing but
the LSN counter and - an INSERT record with a key beyond it - the row-id counter (`replay_clean_gen`,
`replay_clean`).  `PtRestamp`: the page table when the log was cut between the two records of an insert
that moved a root.  `LiveRun`: a list of INSERT statements run live; `Fresh`, the side condition its replay
needs (`replay_history` in `ReplayHistories`), and `FreshM`, the same for mixed histories (`LiveRunM` of
`ReplayMixedHistory`; their replay is `replay_run` of `ReplaySteps`, the theorem the crash results rest on): *all*
pages of the user tables, not only the roots.  `replay_cell_record`: one UPDATE / DELETE record under `Cat`.
-/

section
set_option autoImplicit false
namespace Mkdb.Store
open Mkdb.Page Mkdb.Tuple Mkdb.Generated Mkdb.Tree Mkdb.Engine

/-! ### the page table between the two records of an insert that moved a root -/

/-- The live page table `ptS` is the replayed one `ptR` with the row `key` written once more (`setVal`:
value `v`, the leaf stamped `lsn` and dirty), the entries staying as they are; both name the same roots.
This is the state of the page table when the log was cut between the INSERT record of a row whose insert
moved the root of its table and the catalog record that follows it: redo of the INSERT record repoints
the page table itself, stamping the leaf with the INSERT record's LSN; the catalog record would write the
same value and stamp it once more, one LSN later (`Behind.ins` of `ReplaySteps`).  Of that the relation
keeps only the equal entries: it compares neither the stamps nor the values. -/
def PtRestamp (ptR ptS : Levels) : Prop :=
  ∃ key lsn v, ptS = setVal ptR key lsn v ∧ ptEntries ptR = ptEntries ptS

theorem PtRestamp.root {ptR ptS : Levels} (h : PtRestamp ptR ptS) : rootOff ptS = rootOff ptR := by
  obtain ⟨key, lsn, v, rfl, _⟩ := h
  exact (PtLike.facts (.inr ⟨key, lsn, v, rfl⟩)).2.1

theorem PtRestamp.offs {ptR ptS : Levels} (h : PtRestamp ptR ptS) : offs ptS = offs ptR := by
  obtain ⟨key, lsn, v, rfl, _⟩ := h
  exact offs_setVal ptR key lsn v

theorem PtRestamp.setVal (pt : Levels) (k l l' : Nat) (v : Bytes) :
    PtRestamp (setVal pt k l v) (setVal pt k l' v) :=
  ⟨k, l', v, (setVal_setVal pt k l l' v).symm, congrArg (·.filterMap ptEntry) (live_setVal_stamp pt k l l' v)⟩

theorem Cat.same_pages {s r : Store} {pt sch : Levels} {tbls : List (Bytes × Levels)}
    (h : Cat s pt sch tbls) (hr : Cat r pt sch tbls) :
    ∀ x ∈ catTrees pt sch tbls, ∀ o ∈ offs x, view r o = view s o := by
  intro x hx o ho
  obtain ⟨e, he, rfl⟩ := List.mem_map.mp ho
  rw [(h.tree x hx).1 e he, (hr.tree x hx).1 e he]

/-! ### a log that is already applied -/

/-- a record recovery has nothing to do for: its page already carries its LSN (any kind of record),
or it is the INSERT of a key that is already in the tree of its table -/
def Applied (tbls : List (Bytes × Levels)) (s : Store) (r : WalRec) : Prop :=
  (∃ n d, view s r.page = some (n, d) ∧ nodeOff n = r.page ∧ r.lsn ≤ nodeLSN n) ∨
  (r.op = c_OpInsert ∧ ∃ table t, (table, t) ∈ tbls ∧ r.page = rootOff t ∧ r.cell ∈ keys t)

/-- the row-id counter after the replay of a log: raised to the key of every INSERT record in it -/
def maxKey (log : List WalRec) (m : Nat) : Nat :=
  log.foldl (fun m r => if r.op == c_OpInsert then max m r.cell else m) m

theorem maxKey_of_le (log : List WalRec) (m : Nat) (h : ∀ r ∈ log, r.op = c_OpInsert → r.cell ≤ m) :
    maxKey log m = m := by
  induction log with
  | nil => rfl
  | cons r rest ih =>
    have hr : (if r.op == c_OpInsert then max m r.cell else m) = m := by
      split
      · rename_i hb
        exact Nat.max_eq_left (h r List.mem_cons_self (by simpa using hb))
      · rfl
    unfold maxKey at ih ⊢
    rw [List.foldl_cons, hr]
    exact ih (fun r' hr' => h r' (List.mem_cons_of_mem _ hr'))

/-- **Recovery of a fully flushed database changes no table** (general form): a log all of whose
records are already applied (skipped by LSN, or INSERTs of keys already present) is replayed without
error and without any visible change; of the header only the two counters move: `nextLSN` to the
largest LSN seen, and the row-id counter to the largest key of an INSERT record seen - also of a
skipped one (the pages of a torn flush may be ahead of the header). -/
theorem replay_clean_gen (log : List WalRec) (s : Store) (pt sch : Levels) (tbls : List (Bytes × Levels))
    (h : Cat s pt sch tbls) (hall : ∀ r ∈ log, Applied tbls s r) :
    ∃ s', replayAll log s = (s', none, false) ∧ view s' = view s ∧ Cat s' pt sch tbls ∧
      s'.hdr = { s.hdr with nextLSN := log.foldl (fun m r => max m r.lsn) s.hdr.nextLSN,
                            lastKey := maxKey log s.hdr.lastKey } := by
  induction log generalizing s with
  | nil => exact ⟨s, rfl, rfl, h, rfl⟩
  | cons r rest ih =>
    have hstep : ∃ s1, replayOne r s = (s1, none, false) ∧ view s1 = view s ∧ Cat s1 pt sch tbls ∧
        s1.hdr = { s.hdr with nextLSN := max s.hdr.nextLSN r.lsn,
                              lastKey := if r.op == c_OpInsert then max s.hdr.lastKey r.cell else s.hdr.lastKey } := by
      rcases hall r List.mem_cons_self with ⟨n, d, hv, ho, hl⟩ | ⟨hop, table, t, ht, hpg, hk⟩
      · obtain ⟨s1, e, v, hh, hc⟩ := replay_skips_applied r s n d hv ho hl
        exact ⟨s1, e, v, hc _ _ _ h, hh⟩
      · obtain ⟨s1, e, v, hh, hc⟩ := replay_tolerates_present s pt sch tbls h table t ht r.cell r.lsn r.val hk
        have hr : r = ⟨c_OpInsert, r.lsn, rootOff t, r.cell, r.val⟩ := by
          cases r; simp only at hop hpg; subst hop hpg; rfl
        rw [← hr] at e
        refine ⟨s1, e, v, hc, ?_⟩
        have hop1 : (r.op == c_OpInsert) = true := by rw [hop]; decide
        rw [hh]
        simp only [hop1, if_true]
    obtain ⟨s1, e1, v1, hc1, hh1⟩ := hstep
    have hall1 : ∀ r' ∈ rest, Applied tbls s1 r' := by
      intro r' hr'
      have := hall r' (List.mem_cons_of_mem _ hr')
      unfold Applied at this ⊢
      rw [v1]
      exact this
    obtain ⟨s', e', v', hc', hh'⟩ := ih s1 hc1 hall1
    refine ⟨s', by rw [replayAll_cons_ok' e1]; exact e', v'.trans v1, hc', ?_⟩
    rw [hh', hh1]
    simp only [maxKey, List.foldl_cons]

/-- **Recovery of a fully flushed database changes no table**: a log all of whose records are
already applied (skipped by LSN, or INSERTs of keys already present) and none of whose INSERT records
carries a key beyond the row-id counter (every logged key was handed out by the counter, and a
complete flush wrote the counter) is replayed without error and without any visible change; of the
header only `nextLSN` moves, to the largest LSN seen. -/
theorem replay_clean (log : List WalRec) (s : Store) (pt sch : Levels) (tbls : List (Bytes × Levels))
    (h : Cat s pt sch tbls) (hall : ∀ r ∈ log, Applied tbls s r)
    (hkeys : ∀ r ∈ log, r.op = c_OpInsert → r.cell ≤ s.hdr.lastKey) :
    ∃ s', replayAll log s = (s', none, false) ∧ view s' = view s ∧ Cat s' pt sch tbls ∧
      s'.hdr = { s.hdr with nextLSN := log.foldl (fun m r => max m r.lsn) s.hdr.nextLSN } := by
  obtain ⟨s', e, v, c, hh⟩ := replay_clean_gen log s pt sch tbls h hall
  refine ⟨s', e, v, c, ?_⟩
  rw [hh, maxKey_of_le log _ hkeys]

/-! ### a history of statements -/

/-- an INSERT statement -/
structure Stmt where
  table : Bytes
  cols  : List String
  vals  : List Val

/-- A run of INSERT statements, live, from the store `s` with user tables `tbls` to the store `s'`
with user tables `tbls'`, producing the log `logs`; every statement satisfies the side conditions
of `insert_refines` (its table exists, the row encodes and fits, the levels insert succeeds within
the fuels). -/
inductive LiveRun (sch : Levels) : Store → List (Bytes × Levels) → List Stmt → Store →
    List (Bytes × Levels) → List WalRec → Prop
  | nil (s : Store) (tbls : List (Bytes × Levels)) : LiveRun sch s tbls [] s tbls []
  | cons {s s1 s2 : Store} {tbls tbls2 : List (Bytes × Levels)} {st : Stmt} {rest : List Stmt}
      {logs logs2 : List WalRec} (t : Levels) (schema : List FieldDef) (buf : Bytes) (t' : Levels) (nf' : Nat)
      (ht : (st.table, t) ∈ tbls) (hsch : schemaOf sch st.table = some schema)
      (hcols : (colsOf schema st.cols).length = st.vals.length)
      (hnames : checkColumns schema (colsOf schema st.cols) = none)
      (henc : encodeTuple schema ((colsOf schema st.cols).zip st.vals).reverse = .ok buf)
      (hlen : buf.length ≤ c_maxValueSize)
      (hins : insertAppend t (s.hdr.lastKey + 1) s.hdr.nextLSN buf s.hdr.nextFree = .ok (t', nf'))
      (hd' : t'.inner.length + 2 ≤ treeFuel) (hl' : t'.leaves.length ≤ scanFuel)
      (hbig : (nf' : Int) ≤ 9223372036854775807)
      (hrun : insert st.table st.cols st.vals s = .ok logs s1)
      (hrest : LiveRun sch s1 (setTable tbls st.table t') rest s2 tbls2 logs2) :
      LiveRun sch s tbls (st :: rest) s2 tbls2 (logs ++ logs2)

/-- side conditions on the store a history starts from, which every statement keeps true: the root
pages of the user tables are older than the LSN counter; no page lies at offset 0 (the file header) -/
structure Fresh (s : Store) (tbls : List (Bytes × Levels)) : Prop where
  lsn : ∀ e ∈ tbls, rootLSN e.2 < s.hdr.nextLSN
  nf  : 0 < s.hdr.nextFree
  pos : ∀ e ∈ tbls, ∀ o ∈ offs e.2, 0 < o

theorem Fresh.step {s s' : Store} {tbls : List (Bytes × Levels)} (hf : Fresh s tbls)
    {table : Bytes} {t t' : Levels} {key nf' : Nat} {buf : Bytes} (ht : (table, t) ∈ tbls)
    (hI : Inv t s.hdr.nextFree)
    (hins : insertAppend t key s.hdr.nextLSN buf s.hdr.nextFree = .ok (t', nf'))
    (hlsn : s.hdr.nextLSN < s'.hdr.nextLSN) (hnf : s'.hdr.nextFree = nf') :
    Fresh s' (setTable tbls table t') := by
  have hle : s.hdr.nextFree ≤ nf' := insertAppend_nextFree t t' _ _ _ nf' buf hins
  refine ⟨?_, by have := hf.nf; omega, ?_⟩
  · intro e he
    rcases mem_setTable he with ⟨rfl, _⟩ | ⟨he, _⟩
    · rcases insertAppend_rootLSN t t' _ _ _ nf' buf hI hins with h | h
      · simp only; omega
      · have := hf.lsn _ ht
        simp only at this ⊢; omega
    · have := hf.lsn e he; omega
  · intro e he
    rcases mem_setTable he with ⟨rfl, _⟩ | ⟨he, _⟩
    · exact insertAppend_offs_pos t t' _ _ _ nf' buf hins hf.nf (hf.pos _ ht)
    · exact hf.pos e he

end Mkdb.Store
end

section
set_option autoImplicit false
namespace Mkdb.Store
open Mkdb.Page Mkdb.Tuple Mkdb.Generated Mkdb.Tree Mkdb.Engine

/-- side conditions on the store a mixed history starts from, which every statement keeps true:
*every* page of every user table is older than the LSN counter; no page lies at offset 0 -/
structure FreshM (s : Store) (tbls : List (Bytes × Levels)) : Prop where
  lsn : ∀ e ∈ tbls, ∀ x ∈ flatten e.2, nodeLSN x.2.1 < s.hdr.nextLSN
  nf  : 0 < s.hdr.nextFree
  pos : ∀ e ∈ tbls, ∀ o ∈ offs e.2, 0 < o

theorem FreshM.leaf {s : Store} {tbls : List (Bytes × Levels)} (hf : FreshM s tbls) {e : Bytes × Levels}
    (he : e ∈ tbls) {l : Leaf} {d : Bool} (hm : (l, d) ∈ e.2.leaves) : l.lsn < s.hdr.nextLSN :=
  hf.lsn e he (l.off, .leaf l, d) (List.mem_append_left _ (List.mem_map.mpr ⟨(l, d), hm, rfl⟩))

theorem FreshM.root {s : Store} {tbls : List (Bytes × Levels)} (hf : FreshM s tbls) {e : Bytes × Levels}
    (he : e ∈ tbls) {nf : Nat} (hI : Inv e.2 nf) : rootLSN e.2 < s.hdr.nextLSN := by
  obtain ⟨n, d, hm, _, hl⟩ := root_entry_lsn e.2 nf hI
  rw [← hl]
  exact hf.lsn e he _ hm

theorem FreshM.toFresh {s : Store} {pt sch : Levels} {tbls : List (Bytes × Levels)} (hf : FreshM s tbls)
    (h : Cat s pt sch tbls) : Fresh s tbls :=
  ⟨fun e he => hf.root he (h.tree e.2 (Cat.tb_mem he)).2.1, hf.nf, hf.pos⟩

theorem FreshM.of_hdr {s s' : Store} {tbls : List (Bytes × Levels)} (hf : FreshM s tbls)
    (h1 : s.hdr.nextLSN ≤ s'.hdr.nextLSN) (h2 : s.hdr.nextFree ≤ s'.hdr.nextFree) : FreshM s' tbls :=
  ⟨fun e he x hx => Nat.lt_of_lt_of_le (hf.lsn e he x hx) h1, Nat.lt_of_lt_of_le hf.nf h2, hf.pos⟩

/-- a statement that stamps the pages it writes in the tree of `table` with the LSN counter, then bumps it -/
theorem FreshM.step {s s' : Store} {tbls : List (Bytes × Levels)} (hf : FreshM s tbls) {table : Bytes}
    {t t2 : Levels} (ht : (table, t) ∈ tbls)
    (hnew : ∀ x ∈ flatten t2, x ∈ flatten t ∨ (nodeLSN x.2.1 = s.hdr.nextLSN ∧ x.2.2 = true))
    (hpos : ∀ o ∈ offs t2, 0 < o) (hlsn : s.hdr.nextLSN < s'.hdr.nextLSN)
    (hnf : s.hdr.nextFree ≤ s'.hdr.nextFree) : FreshM s' (setTable tbls table t2) := by
  refine ⟨?_, Nat.lt_of_lt_of_le hf.nf hnf, ?_⟩
  · intro e he x hx
    rcases mem_setTable he with ⟨rfl, _⟩ | ⟨he, _⟩
    · rcases hnew x hx with h | ⟨h, _⟩
      · exact Nat.lt_trans (hf.lsn _ ht x h) hlsn
      · rw [h]; exact hlsn
    · exact Nat.lt_trans (hf.lsn e he x hx) hlsn
  · intro e he
    rcases mem_setTable he with ⟨rfl, _⟩ | ⟨he, _⟩
    · exact hpos
    · exact hf.pos e he

theorem FreshM.ins_step {s s' : Store} {tbls : List (Bytes × Levels)} (hf : FreshM s tbls)
    {table : Bytes} {t t' : Levels} {key nf' : Nat} {buf : Bytes} (ht : (table, t) ∈ tbls)
    (hins : insertAppend t key s.hdr.nextLSN buf s.hdr.nextFree = .ok (t', nf'))
    (hlsn : s.hdr.nextLSN < s'.hdr.nextLSN) (hnf : s'.hdr.nextFree = nf') :
    FreshM s' (setTable tbls table t') :=
  hf.step ht (insertAppend_pages_new t t' _ _ _ nf' buf hins)
    (insertAppend_offs_pos t t' _ _ _ nf' buf hins hf.nf (hf.pos _ ht)) hlsn
    (by rw [hnf]; exact insertAppend_nextFree t t' _ _ _ nf' buf hins)

theorem FreshM.upd_step {s s' : Store} {tbls : List (Bytes × Levels)} (hf : FreshM s tbls)
    {table : Bytes} {t : Levels} (ht : (table, t) ∈ tbls) (f : LeafCell → LeafCell) (key : Nat)
    (hlsn : s.hdr.nextLSN < s'.hdr.nextLSN) (hnf : s'.hdr.nextFree = s.hdr.nextFree) :
    FreshM s' (setTable tbls table (updLeaves f key s.hdr.nextLSN t)) :=
  hf.step ht (updLeaves_pages_new f key _ t) (by rw [offs_updLeaves]; exact hf.pos _ ht) hlsn (Nat.le_of_eq hnf.symm)

/-- **Replay of the UPDATE or DELETE record of a row of a user table.**  The store satisfies `Cat` with
the tree `t` for `table`; `(l, d)` is the leaf of `t` holding the row id, older than the record.
`replayOne` applies the record; the store then satisfies `Cat` with the changed tree in place of `t` -
the tree the live statement built. -/
theorem replay_cell_record (r0 : Store) (pt sch : Levels) (tbls : List (Bytes × Levels))
    (hr0 : Cat r0 pt sch tbls) (table : Bytes) (t : Levels) (ht : (table, t) ∈ tbls)
    (l : Leaf) (d : Bool) (hm : (l, d) ∈ t.leaves) (r : WalRec) (f : LeafCell → LeafCell)
    (hr : RedoLink.CellRec r f) (hpage : r.page = l.off)
    (hany : l.cells.any (fun c => c.key == r.cell) = true) (hl : l.lsn < r.lsn) :
    ∃ r', replayOne r r0 = (r', none, false) ∧
      Cat r' pt sch (setTable tbls table (updLeaves f r.cell r.lsn t)) ∧
      r'.hdr = { r0.hdr with nextLSN := max r0.hdr.nextLSN r.lsn } ∧
      ∀ off, off ≠ l.off → view r' off = view r0 off := by
  obtain ⟨hHt, hIt, _, _, _⟩ := hr0.tree t (Cat.tb_mem ht)
  obtain ⟨r', e, hH', hh, hfr⟩ := replay_cell_held r0 t hHt hIt l d hm r f hr hpage hany hl
  refine ⟨r', e, ?_, hh, hfr⟩
  exact hr0.updTable ht f r.cell r.lsn hr.key hH' (by rw [hh]) (by rw [hh]) (by rw [hh])
    (fun off hoff => hfr off (fun heq => hoff (heq ▸ leaf_off_mem_offs hm)))

end Mkdb.Store
end
