import Mkdb.Model.Store
/-!
CREATE TABLE at the statement level: shared definitions.

* `clean t`: the tree `t` with every dirty bit cleared (what a flush leaves in the cache).
* `MemFiled s`: every cached page object is filed under the offset it carries (the cache half of
  `Filed`, without the clause about offset 0).  Every primitive of the page store keeps it: the
  cache is only ever written through `assocSet mem (nodeOff n) ⟨n, _⟩`.
-/
set_option autoImplicit false
namespace Mkdb.Store
open Mkdb.Page Mkdb.Tuple Mkdb.Generated Mkdb.Tree

/-- all dirty bits cleared -/
def clean (t : Levels) : Levels :=
  { leaves := t.leaves.map fun p => (p.1, false),
    inner := t.inner.map fun lvl => lvl.map fun p => (p.1, false) }

/-- every cached page object sits under the offset it carries -/
def MemFiled (s : Store) : Prop := ∀ p ∈ s.mem, nodeOff p.2.node = p.1

end Mkdb.Store
