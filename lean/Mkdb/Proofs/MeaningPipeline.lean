import Mkdb.Proofs.MeaningAggregateRows
import Mkdb.Proofs.SortAny
import Mkdb.Proofs.TypedWalk
/-!
`evaluateSelect` against `Spec.meaning` / `Spec.satisfies`: the pipeline composed once, for any FROM
clause and any select list, with or without grouping, in both directions (`select_result`,
`select_answered`).  Before it, what the aggregate / GROUP BY SELECT (C07) adds: the projection part of
the pipeline, the hypothesis on `AVG` as a test.
-/

section
namespace Mkdb.Exec.MeaningP
open Mkdb.Sql Mkdb.Tuple Mkdb.Spec Mkdb.Exec.SelectP Mkdb.Exec.AggP

theorem projectColumns_projects {sl : List DerivedCol} {fields : List Field} {rows p : List Row}
    {hdr : List Field} (hs : isStar sl = false) (h : projectColumns sl fields rows = .ok (p, hdr)) :
    ColumnsResolve sl fields ∧ p = rows.map (projRow sl fields) ∧ Projects sl fields rows := by
  obtain ⟨_, hres, hp, _⟩ := (projectColumns_nostar_iff hs).1 h
  obtain ⟨h1, h2⟩ := projects_of_mapM (projectRows_iff_spec.1 hp)
  exact ⟨hres, h1, h2⟩

theorem projectColumns_of_projects {sl : List DerivedCol} {fields : List Field} {rows : List Row}
    (hne : sl ≠ []) (hs : isStar sl = false) (hres : ColumnsResolve sl fields)
    (hproj : Projects sl fields rows) :
    ∃ hdr, projectColumns sl fields rows = .ok (rows.map (projRow sl fields), hdr) := by
  obtain ⟨hdr, hh⟩ := headers_ok hres
  exact ⟨hdr, (projectColumns_nostar_iff hs).2
    ⟨hne, hres, projectRows_iff_spec.2 (mapM_of_projects hproj), hh⟩⟩

/-! ### the hypothesis on `AVG`, as a decidable test -/

/-- `AvgConst` as a test -/
def avgConstB (sl : List DerivedCol) (fields : List Field) (key : Row → List Val) (src : List Row) : Bool :=
  sl.all fun d => match d.item with
    | .avg _ => src.all fun r => src.all fun r' =>
        !(key (projRow sl fields r) == key (projRow sl fields r')) || pv fields d r == pv fields d r'
    | _ => true

/-- the test both `avgConstB` and `groupConstB` make of one select-list element: on rows with equal
keys it has equal values -/
theorem const_of_allB {sl : List DerivedCol} {fields : List Field} {key : Row → List Val}
    {src : List Row} {d : DerivedCol}
    (h : (src.all fun r => src.all fun r' =>
      !(key (projRow sl fields r) == key (projRow sl fields r')) || pv fields d r == pv fields d r') = true)
    {r r' : Row} (hr : r ∈ src) (hr' : r' ∈ src)
    (hk : key (projRow sl fields r) = key (projRow sl fields r')) : pv fields d r = pv fields d r' := by
  simp only [List.all_eq_true, Bool.or_eq_true, Bool.not_eq_true', beq_eq_false_iff_ne, ne_eq,
    beq_iff_eq] at h
  exact (h r hr r' hr').resolve_left (fun hn => hn hk)

theorem avgConst_of_avgConstB {sl : List DerivedCol} {fields : List Field} {key : Row → List Val}
    {src : List Row} (h : avgConstB sl fields key src = true) : AvgConst sl fields key src := by
  intro d hd c hc r hr r' hr' hk
  unfold avgConstB at h
  have := List.all_eq_true.1 h d hd
  rw [hc] at this
  exact const_of_allB this hr hr' hk

/-- in every group of the query - the rows of the FROM clause with equal values at the GROUP BY
positions - the values an `AVG` of the select list averages are all equal (true of every query
without `AVG`): the case `C07_avg_partial` in which the code's cumulative average is the mean -/
def avgGroupsConstant (fetch : Bytes → Option Table) (q : Select) : Bool :=
  match q.from_ with
  | none => true
  | some tr =>
    match Spec.fromRows fetch tr with
    | none => true
    | some (src, fields) =>
      match q.groupBy.mapM (groupIdx q.list) with
      | none => true
      | some idxs => avgConstB q.list fields (keyAt idxs) src

theorem avgOnGroups_of_avgGroupsConstant {fetch : Bytes → Option Table} {q : Select} {tr : TableRef}
    {src : List Row} {fields : List Field}
    (hfrom : q.from_ = some tr) (h : avgGroupsConstant fetch q = true)
    (hfr : Spec.fromRows fetch tr = some (src, fields)) : AvgOnGroups q fields src := by
  intro idxs hgi
  unfold avgGroupsConstant at h
  simp only [hfrom, hfr, hgi] at h
  exact avgConst_of_avgConstB h

theorem avgConstB_of_noAvg {sl : List DerivedCol} (h : noAvg sl = true) (fields : List Field)
    (key : Row → List Val) (src : List Row) : avgConstB sl fields key src = true := by
  unfold avgConstB
  rw [List.all_eq_true]
  intro d hd
  have := noAvg_item h hd
  cases hi : d.item with
  | avg c => exact absurd hi (this c)
  | star => rfl
  | count c => rfl
  | expr e => rfl

theorem fromRows_rows_length {fetch : Bytes → Option Table} (hws : NoPanicP.WellShaped fetch)
    {tr : TableRef} {src : List Row} {fields : List Field}
    (h : Spec.fromRows fetch tr = some (src, fields)) : ∀ r ∈ src, r.length = fields.length := by
  obtain ⟨rowsM, fieldsM, hM, rfl, hp⟩ := JoinP.nestedLoopJoin_perm_fromRows fetch tr src fields h
  intro r hr
  exact NoPanicP.nestedLoopJoin_lengths hws hM r (hp.mem_iff.2 hr)

theorem table_rows_length {fetch : Bytes → Option Table} (hws : NoPanicP.WellShaped fetch)
    {t : TableName} {src : List Row} {fields : List Field}
    (h : Spec.fromRows fetch (.table t) = some (src, fields)) :
    ∀ r ∈ src, r.length = fields.length :=
  fromRows_rows_length hws h

end Mkdb.Exec.MeaningP
end

section
/-!
Stage by stage the executor computes the reference meaning OF ITS OWN SOURCE ROWS (`run_result`,
`run_answered`: WHERE against `specWhere`, `projectColumns` then `aggregateRows` against `specTail`,
the judge's header, the sort keys, `cut (sort …)`).  FROM is the one stage where executor and
meaning differ - by the order of the rows - and the meaning of a permutation of the source rows is
a permutation of the meaning (`meaning_perm`).  Together: `select_result`, `select_answered`; on one
table the permutation is the identity.
-/
namespace Mkdb.Exec.MeaningP
open Mkdb.Sql Mkdb.Tuple Mkdb.Spec Mkdb.Exec.SelectP Mkdb.Exec.AggP

/-! ### the select-list stage: `projectColumns` then `aggregateRows` against `specTail` -/

theorem tail_result {q : Select} {fields : List Field} {src p agg : List Row} {hdr : List Field}
    (hgrp : groups q = true → isStar q.list = false ∧ ConstOnGroups q fields src)
    (hp : projectColumns q.list fields src = .ok (p, hdr))
    (ha : aggregateRows q.list q.groupBy p = .ok agg) : specTail q fields src = some agg := by
  cases hg : groups q with
  | false =>
    obtain ⟨hagg, hgb⟩ := groups_eq_false.1 hg
    rw [aggregateRows_noAggr _ hagg hgb] at ha
    cases ha
    exact (projectColumns_iff_specTail (NoPanicP.projectColumns_ok_ne_nil hp) hagg hgb).1 ⟨hdr, hp⟩
  | true =>
    obtain ⟨hs, hc⟩ := hgrp hg
    obtain ⟨hres, rfl, hP⟩ := projectColumns_projects hs hp
    refine (specTail_nostar_iff hs).2 ⟨hres, ?_⟩
    rw [hg, if_pos rfl]
    exact (aggregate_agree hg hres hP hc).1 ha

/-- what a defined select-list part of the meaning of a grouping query says of rows as long as the
header: no `*`, every element has a value on every row, and - with the hypothesis on AVG -
everything but the COUNTs is constant on each group -/
theorem specTail_groups_inv {q : Select} {fields : List Field} {src w : List Row}
    (hg : groups q = true) (hlen : ∀ r ∈ src, r.length = fields.length)
    (havg : AvgOnGroups q fields src) (h : specTail q fields src = some w) :
    isStar q.list = false ∧ ColumnsResolve q.list fields ∧ specAgg q fields src = some w ∧
      Projects q.list fields src ∧ ConstOnGroups q fields src := by
  have hs := specTail_groups_nostar hg h
  obtain ⟨hres, hsa⟩ := (specTail_nostar_iff hs).1 h
  rw [hg, if_pos rfl] at hsa
  refine ⟨hs, hres, hsa, ?_⟩
  by_cases hz : q.groupBy = [] ∧ src = []
  · obtain ⟨_, rfl⟩ := hz
    exact ⟨fun r hr => (nomatch hr), fun _ _ _ _ _ r hr => (nomatch hr)⟩
  · obtain ⟨idxs, _, hgi, _⟩ := specAgg_some_keys hsa
    obtain ⟨hP, hC⟩ := specAgg_inv hgi hz hres hlen hsa
    exact ⟨hP, fun idxs' hi => by
      rw [hgi] at hi; cases hi; exact GroupConst.of_plain_avg hC (havg idxs hgi)⟩

theorem tail_answered {q : Select} {fields : List Field} {src agg : List Row} (hne : q.list ≠ [])
    (hgrp : groups q = true → (∀ r ∈ src, r.length = fields.length) ∧ AvgOnGroups q fields src)
    (h : specTail q fields src = some agg) :
    ∃ p hdr, projectColumns q.list fields src = .ok (p, hdr) ∧
      aggregateRows q.list q.groupBy p = .ok agg := by
  cases hg : groups q with
  | false =>
    obtain ⟨hagg, hgb⟩ := groups_eq_false.1 hg
    obtain ⟨hdr, hp⟩ := (projectColumns_iff_specTail hne hagg hgb).2 h
    exact ⟨agg, hdr, hp, aggregateRows_noAggr _ hagg hgb⟩
  | true =>
    obtain ⟨hs, hres, hsa, hP, hC⟩ := specTail_groups_inv hg (hgrp hg).1 (hgrp hg).2 h
    obtain ⟨hdr, hp⟩ := projectColumns_of_projects hne hs hres hP
    exact ⟨_, hdr, hp, (aggregate_agree hg hres hP hC).2 hsa⟩

theorem specTail_perm {q : Select} {fields : List Field} {src src' w : List Row}
    (hp : src'.Perm src) (h : specTail q fields src = some w)
    (hgrp : groups q = true → Projects q.list fields src ∧ ConstOnGroups q fields src) :
    ∃ w', specTail q fields src' = some w' ∧ w'.Perm w := by
  cases hg : groups q with
  | false =>
    obtain ⟨hagg, hgb⟩ := groups_eq_false.1 hg
    exact specTail_plain_perm hagg hgb hp h
  | true =>
    have hs := specTail_groups_nostar hg h
    obtain ⟨hres, hsa⟩ := (specTail_nostar_iff hs).1 h
    rw [hg, if_pos rfl] at hsa
    obtain ⟨idxs, _, hgi, _⟩ := specAgg_some_keys hsa
    obtain ⟨hP, hC⟩ := hgrp hg
    have hsub : ∀ r ∈ src', r ∈ src := fun r hr => hp.mem_iff.1 hr
    obtain ⟨w', hw', hpw⟩ := specAgg_perm hp.symm hgi hres (hP.sublist hsub)
      ((hC idxs hgi).sublist hsub) hsa
    refine ⟨w', (specTail_nostar_iff hs).2 ⟨hres, ?_⟩, hpw.symm⟩
    rw [hg, if_pos rfl]
    exact hw'

/-! ### the pipeline after FROM -/

/-- **what the executor answers is the meaning of its own source rows**, stage by stage -/
theorem run_result {fetch : Bytes → Option Table} {q : Select} {tr : TableRef}
    (hfrom : q.from_ = some tr) (hw : whereIsBoolean q = true)
    (hgrp : groups q = true → isStar q.list = false ∧
      ∀ src fields, nestedLoopJoin fetch tr = .ok (src, fields) → ConstOnGroups q fields src)
    {rows : List Row} {hdr : List Field} (h : evaluateSelect fetch q = .ok (rows, hdr)) :
    ∃ src fields filtered got keys, nestedLoopJoin fetch tr = .ok (src, fields) ∧
      specWhere q.where_ fields src = some filtered ∧ specTail q fields filtered = some got ∧
      (groups q = true → Projects q.list fields filtered) ∧
      projectColumns q.list fields [] = .ok ([], hdr) ∧ Spec.sortKeys q hdr = some keys ∧
      (∀ a ∈ got, ∀ b ∈ got, KeyComparable keys a b) ∧
      rows = cut q.lim (sortRows keys got) ∧ Spec.boundsOK q.lim = true := by
  obtain ⟨src, fields, filtered, projected, agg, keys, hj, hwh, hproj, hag, hkeys, hcomp, rfl, hb⟩ :=
    (evaluateSelect_iff hfrom).1 h
  have hsw := whereX_ok_spec (by unfold whereIsBoolean at hw; exact hw) hwh
  exact ⟨src, fields, filtered, agg, keys, hj, hsw,
    tail_result (fun hg => ⟨(hgrp hg).1, ((hgrp hg).2 src fields hj).sublist (specWhere_subset hsw)⟩)
      hproj hag,
    fun hg => (projectColumns_projects (hgrp hg).1 hproj).2.2,
    projectColumns_header hproj, resolveSortKeys_iff_spec.1 hkeys, hcomp, rfl, hb⟩

/-- **a meaning of its own source rows is what the executor answers** -/
theorem run_answered {fetch : Bytes → Option Table} {q : Select} {tr : TableRef}
    (hfrom : q.from_ = some tr) (hne : q.list ≠ []) (hb : Spec.boundsOK q.lim = true)
    {src filtered got : List Row} {fields : List Field}
    (hj : nestedLoopJoin fetch tr = .ok (src, fields))
    (hgrp : groups q = true → (∀ r ∈ src, r.length = fields.length) ∧ AvgOnGroups q fields src)
    (hsw : specWhere q.where_ fields src = some filtered)
    (hst : specTail q fields filtered = some got) :
    ∃ hdr, projectColumns q.list fields [] = .ok ([], hdr) ∧
      ∀ keys, Spec.sortKeys q hdr = some keys → (∀ a ∈ got, ∀ b ∈ got, KeyComparable keys a b) →
        evaluateSelect fetch q = .ok (cut q.lim (sortRows keys got), hdr) := by
  have hsub := specWhere_subset hsw
  obtain ⟨p, hdr, hproj, hag⟩ := tail_answered hne
    (fun hg => ⟨fun r hr => (hgrp hg).1 r (hsub r hr), (hgrp hg).2.sublist hsub⟩) hst
  refine ⟨hdr, projectColumns_header hproj, fun keys hk hcomp => ?_⟩
  rw [evaluateSelect_iff hfrom]
  exact ⟨src, fields, filtered, p, got, keys, hj, specWhere_whereX hsw, hproj, hag,
    resolveSortKeys_iff_spec.2 hk, hcomp, rfl, hb⟩

/-- **the meaning of a permutation of the source rows is a permutation of the meaning** (the
meaning itself, of the same rows) -/
theorem meaning_perm {q : Select} {fields : List Field} {src src' filtered got : List Row}
    (hp : src'.Perm src) (hsw : specWhere q.where_ fields src = some filtered)
    (hst : specTail q fields filtered = some got)
    (hgrp : groups q = true → Projects q.list fields filtered ∧ ConstOnGroups q fields filtered) :
    ∃ filtered' got', specWhere q.where_ fields src' = some filtered' ∧
      specTail q fields filtered' = some got' ∧ got'.Perm got ∧ (src' = src → got' = got) := by
  obtain ⟨filtered', hsw', hpf⟩ := specWhere_perm hp hsw
  obtain ⟨got', hst', hpg⟩ := specTail_perm hpf hst hgrp
  refine ⟨filtered', got', hsw', hst', hpg, fun e => ?_⟩
  subst e
  rw [hsw] at hsw'
  cases hsw'
  rw [hst] at hst'
  exact (Option.some.inj hst').symm

/-! ### the whole pipeline -/

theorem table_source {fetch : Bytes → Option Table} {t : TableName} {src srcS : List Row}
    {fields fieldsS : List Field} (hj : nestedLoopJoin fetch (.table t) = .ok (src, fields))
    (hfr : Spec.fromRows fetch (.table t) = some (srcS, fieldsS)) : src = srcS := by
  rw [JoinP.nestedLoopJoin_table.1 hj] at hfr
  cases hfr
  rfl

/-- **what the executor answers is what the query means**: the query has a meaning `want`, the
header is the judge's, the sort keys resolve against it and are comparable on `want`, the answer is
`cut (sort got)` for a permutation `got` of `want` - the order in which the nested loops deliver the
rows; `want` itself on one table -, and the judge accepts it.  (`hw`: a WHERE clause that is a bare
integer or string is answered although ill-typed; `hgrp`: a grouping query is answered whatever its
select list, with the value on the first row of each group.) -/
theorem select_result {fetch : Bytes → Option Table} {q : Select} {tr : TableRef}
    (hfrom : q.from_ = some tr) (hw : whereIsBoolean q = true)
    (hgrp : groups q = true → isStar q.list = false ∧
      ∀ src fields, Spec.fromRows fetch tr = some (src, fields) → ConstOnGroups q fields src)
    {rows : List Row} {hdr : List Field} (h : evaluateSelect fetch q = .ok (rows, hdr)) :
    ∃ want got keys, Spec.meaning fetch q = some want ∧ hdr = judgeHeader fetch q ∧
      Spec.sortKeys q hdr = some keys ∧ got.Perm want ∧ (∀ t, tr = .table t → got = want) ∧
      (∀ a ∈ want, ∀ b ∈ want, KeyComparable keys a b) ∧
      rows = cut q.lim (sortRows keys got) ∧ Spec.satisfies q hdr want rows = true ∧
      q.list ≠ [] ∧ Spec.boundsOK q.lim = true := by
  have hc : groups q = true → ∀ src fields, nestedLoopJoin fetch tr = .ok (src, fields) →
      ConstOnGroups q fields src := fun hg src fields hj => by
    obtain ⟨srcS, hfr, hp⟩ := JoinP.fromRows_of_nestedLoopJoin fetch tr src fields hj
    exact ((hgrp hg).2 srcS fields hfr).sublist fun r hr => hp.mem_iff.1 hr
  obtain ⟨src, fields, filtered, got, keys, hj, hsw, hst, hP, hh, hk, hcomp, rfl, hb⟩ :=
    run_result hfrom hw (fun hg => ⟨(hgrp hg).1, hc hg⟩) h
  obtain ⟨srcS, hfr, hp⟩ := JoinP.fromRows_of_nestedLoopJoin fetch tr src fields hj
  obtain ⟨filteredS, want, hswS, hstS, hpw, hself⟩ := meaning_perm hp.symm hsw hst
    (fun hg => ⟨hP hg, (hc hg src fields hj).sublist (specWhere_subset hsw)⟩)
  have hcomp' : ∀ a ∈ want, ∀ b ∈ want, KeyComparable keys a b :=
    fun a ha b hb => hcomp a (hpw.mem_iff.1 ha) b (hpw.mem_iff.1 hb)
  have hex : ∀ t, tr = .table t → got = want := fun t e => by
    subst e; exact (hself (table_source hj hfr).symm).symm
  refine ⟨want, got, keys, ?_, ?_, hk, hpw.symm, hex, hcomp', rfl,
    SortAnyP.satisfies_cut_sort hk hpw.symm (fun hm => ?_) hcomp',
    NoPanicP.projectColumns_ok_ne_nil hh, hb⟩
  · rw [meaning_of hfrom hfr, hswS]; exact hstS
  · rw [← judgeHeader_of (hdr := hdr) (by rw [judgeFields_of hfrom hfr]; exact hh)]
  · obtain ⟨⟨t, ht⟩, _⟩ := comparedExactly_iff.1 hm
    rw [hfrom] at ht
    exact hex t (Option.some.inj ht)

/-- **a query with a meaning is answered** (`q.list ≠ []`, `boundsOK`: as the parser builds it), with
the judge's header and `cut (sort got)` for a permutation `got` of the meaning - the meaning itself
on one table -, and the judge accepts the answer.  (`hgrp`: a grouping query needs stored rows as
long as their header, where the meaning reads a missing value as NULL, and AVG only over equal
values, where the code's running average is the mean.) -/
theorem select_answered {fetch : Bytes → Option Table} {q : Select} {tr : TableRef}
    (hfrom : q.from_ = some tr) (hne : q.list ≠ []) (hb : Spec.boundsOK q.lim = true)
    (hgrp : groups q = true → NoPanicP.WellShaped fetch ∧
      ∀ src fields, Spec.fromRows fetch tr = some (src, fields) → AvgOnGroups q fields src)
    {want : List Row} {keys : List (Nat × Bool)}
    (hm : Spec.meaning fetch q = some want)
    (hk : Spec.sortKeys q (judgeHeader fetch q) = some keys)
    (hcomp : ∀ a ∈ want, ∀ b ∈ want, KeyComparable keys a b) :
    ∃ got, got.Perm want ∧ (∀ t, tr = .table t → got = want) ∧
      evaluateSelect fetch q = .ok (cut q.lim (sortRows keys got), judgeHeader fetch q) ∧
      Spec.satisfies q (judgeHeader fetch q) want (cut q.lim (sortRows keys got)) = true := by
  obtain ⟨tr', srcS, fields, hf, hfr⟩ := meaning_some_from hm
  rw [hfrom] at hf
  cases hf
  rw [meaning_of hfrom hfr] at hm
  obtain ⟨filteredS, hswS, hstS⟩ := Option.bind_eq_some_iff.1 hm
  obtain ⟨src, fieldsM, hj, rfl, hp⟩ := JoinP.nestedLoopJoin_perm_fromRows fetch tr srcS fields hfr
  have hsubS := specWhere_subset hswS
  have hshape : groups q = true → (∀ r ∈ srcS, r.length = fieldsM.length) ∧
      AvgOnGroups q fieldsM srcS :=
    fun hg => ⟨fromRows_rows_length (hgrp hg).1 hfr, (hgrp hg).2 srcS fieldsM hfr⟩
  obtain ⟨filtered, got, hsw, hst, hpg, hself⟩ := meaning_perm hp hswS hstS (fun hg => by
    obtain ⟨_, _, _, hP, hC⟩ := specTail_groups_inv hg (fun r hr => (hshape hg).1 r (hsubS r hr))
      ((hshape hg).2.sublist hsubS) hstS
    exact ⟨hP, hC⟩)
  obtain ⟨hdr, hh, hrun⟩ := run_answered hfrom hne hb hj (fun hg =>
    ⟨fun r hr => (hshape hg).1 r (hp.mem_iff.1 hr), (hshape hg).2.sublist fun r hr => hp.mem_iff.1 hr⟩)
    hsw hst
  rw [judgeHeader_of (by rw [judgeFields_of hfrom hfr]; exact hh)] at hk ⊢
  have hex : ∀ t, tr = .table t → got = want := fun t e => by
    subst e; exact hself (table_source hj hfr)
  refine ⟨got, hpg, hex,
    hrun keys hk fun a ha b hb' => hcomp a (hpg.mem_iff.1 ha) b (hpg.mem_iff.1 hb'),
    SortAnyP.satisfies_cut_sort hk hpg (fun hm => ?_) hcomp⟩
  obtain ⟨⟨t, ht⟩, _⟩ := comparedExactly_iff.1 hm
  rw [hfrom] at ht
  exact hex t (Option.some.inj ht)


/-! ### the hypothesis, as a test on the query alone and as a test on the data -/

/-- every select-list element is a COUNT, a literal or a column a GROUP BY reference designates
(no AVG, no element computed from a column outside the GROUP BY) -/
def groupedQuery (q : Select) : Bool :=
  match q.groupBy.mapM (groupIdx q.list) with
  | some idxs => groupedItems q.list idxs
  | none => true

theorem constOnGroups_of_groupedQuery {q : Select} (h : groupedQuery q = true) (fields : List Field)
    (src : List Row) : ConstOnGroups q fields src := by
  intro idxs hgi
  unfold groupedQuery at h
  rw [hgi] at h
  exact groupConst_of_grouped h fields src

/-- `GroupConst` as a test on the data -/
def groupConstB (sl : List DerivedCol) (fields : List Field) (key : Row → List Val) (src : List Row) : Bool :=
  sl.all fun d => match d.item with
    | .count _ => true
    | _ => src.all fun r => src.all fun r' =>
        !(key (projRow sl fields r) == key (projRow sl fields r')) || pv fields d r == pv fields d r'

theorem groupConst_of_groupConstB {sl : List DerivedCol} {fields : List Field} {key : Row → List Val}
    {src : List Row} (h : groupConstB sl fields key src = true) : GroupConst sl fields key src := by
  intro d hd hc r hr r' hr' hk
  unfold groupConstB at h
  have hdd := List.all_eq_true.1 h d hd
  refine const_of_allB ?_ hr hr' hk
  cases hi : d.item with
  | count c => exact absurd hi (hc c)
  | star => rw [hi] at hdd; exact hdd
  | avg c => rw [hi] at hdd; exact hdd
  | expr e => rw [hi] at hdd; exact hdd

/-- on the rows of the FROM clause, every select-list element that is not a COUNT is constant on
each group of the query (a decidable test on the tables and the query) -/
def nonCountsConstantOnGroups (fetch : Bytes → Option Table) (q : Select) : Bool :=
  match q.from_ with
  | none => true
  | some tr =>
    match Spec.fromRows fetch tr with
    | none => true
    | some (src, fields) =>
      match q.groupBy.mapM (groupIdx q.list) with
      | none => true
      | some idxs => groupConstB q.list fields (keyAt idxs) src

theorem constOnGroups_of_nonCountsConstantOnGroups {fetch : Bytes → Option Table} {q : Select}
    {tr : TableRef} {src : List Row} {fields : List Field}
    (hfrom : q.from_ = some tr) (h : nonCountsConstantOnGroups fetch q = true)
    (hfr : Spec.fromRows fetch tr = some (src, fields)) : ConstOnGroups q fields src := by
  intro idxs hgi
  unfold nonCountsConstantOnGroups at h
  simp only [hfrom, hfr, hgi] at h
  exact groupConst_of_groupConstB h

/-- **A query with a reference meaning is answered by the executor on a typed plain database** - the
"meaningful query is answered" theorems of C05 / C06 / C07 in one statement: any FROM clause; without
aggregates and GROUP BY no further hypothesis; with them `avgGroupsConstant` (the known finding about
AVG; a select list that starts with `*` has no meaning then).  `hne`, `hb`: a select list that is not
empty, no negative LIMIT / OFFSET (every parsed statement). -/
theorem meaningful_answered {fetch : Bytes → Option Table} (hws : NoPanicP.WellShaped fetch) {q : Select}
    (hne : q.list ≠ []) (hb : Spec.boundsOK q.lim = true)
    {want : List Row} {keys : List (Nat × Bool)}
    (hm : Spec.meaning fetch q = some want)
    (hk : Spec.sortKeys q (judgeHeader fetch q) = some keys)
    (hcomp : ∀ a ∈ want, ∀ b ∈ want, KeyComparable keys a b)
    (hgrp : groups q = true → avgGroupsConstant fetch q = true) :
    ∃ got, got.Perm want ∧
      evaluateSelect fetch q = .ok (cut q.lim (sortRows keys got), judgeHeader fetch q) := by
  obtain ⟨tr, _, _, hfrom, _⟩ := meaning_some_from hm
  obtain ⟨got, hp, _, he, _⟩ := select_answered hfrom hne hb
    (fun hg => ⟨hws, fun _ _ => avgOnGroups_of_avgGroupsConstant hfrom (hgrp hg)⟩) hm hk hcomp
  exact ⟨got, hp, he⟩

end Mkdb.Exec.MeaningP
end
