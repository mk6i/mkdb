import Mkdb.Proofs.BaseCaseTable
import Mkdb.Proofs.CountersHistory
import Mkdb.Proofs.PtSelfHistories
/-!
The header counters: **the histories of the crash theorems (`SpecRun`, `Rounds`, `HistCT`)
are histories `Hist`; in them the log measures the work, and recovery costs no page.**

In these histories - every statement accepted, every database checkpointed - the counters are bounded
by the LOG (never truncated): a run of accepted statements consumes exactly one LSN per record, one row id
and at most 66 pages per INSERT record, and a recovery re-allocates exactly the pages the crash lost
(`Ckpt.recover_round_full`), however many recoveries (`histR_bounds`).
-/
set_option autoImplicit false
namespace Mkdb.Store
open Mkdb.Page Mkdb.Tuple Mkdb.Generated Mkdb.Tree Mkdb.Engine

/-- what a run of accepted statements did: the records it appended account for the LSNs, the row ids and
the pages; the data-file header is untouched -/
structure RunAdv (db dbN : Engine.DB) : Prop where
  logs : ∃ logs, dbN.wal = db.wal ++ logs ∧ Logged db.store dbN.store logs
  f_mono : db.store.hdr.nextFree ≤ dbN.store.hdr.nextFree
  dhdr : dbN.store.dhdr = db.store.dhdr

theorem RunAdv.refl (db : Engine.DB) : RunAdv db db :=
  ⟨⟨[], by rw [List.append_nil], Logged.nil (Adv.refl _)⟩, Nat.le_refl _, rfl⟩

theorem RunAdv.trans {a b c : Engine.DB} (h1 : RunAdv a b) (h2 : RunAdv b c) : RunAdv a c := by
  obtain ⟨⟨l1, w1, g1⟩, f1, d1⟩ := h1
  obtain ⟨⟨l2, w2, g2⟩, f2, d2⟩ := h2
  exact ⟨⟨l1 ++ l2, by rw [w2, w1, List.append_assoc], g1.append g2 g1.k_mono g2.k_mono⟩,
    Nat.le_trans f1 f2, d2.trans d1⟩

theorem RunAdv.counters {db dbN : Engine.DB} (h : RunAdv db dbN) :
    dbN.store.hdr.lastKey + insCount db.wal = db.store.hdr.lastKey + insCount dbN.wal ∧
    dbN.store.hdr.nextLSN + db.wal.length = db.store.hdr.nextLSN + dbN.wal.length ∧
    dbN.store.hdr.nextFree + 270336 * insCount db.wal ≤ db.store.hdr.nextFree + 270336 * insCount dbN.wal ∧
    db.wal.length ≤ dbN.wal.length ∧ insCount db.wal ≤ insCount dbN.wal := by
  obtain ⟨⟨l, w, g⟩, _, _⟩ := h
  have e1 := g.kexact
  have e2 := g.exact
  have e3 := g.pages
  rw [w, insCount_append, List.length_append]
  exact ⟨by omega, by omega, by omega, by omega, by omega⟩

def insRows : List EStmt → Nat
  | [] => 0
  | .insert _ _ rows :: rest => rows.length + insRows rest
  | .delete _ _ :: rest => insRows rest
  | .update _ _ _ :: rest => insRows rest

theorem evalInsert_runAdv {db db' : Engine.DB} {table : Bytes} {cols : List Bytes} {rows : List (List Val)}
    {n : Nat} (h : Engine.evalInsert db table cols rows = .ok n db') : RunAdv db db' := by
  have hc := evalInsert_counters db table cols rows
  rw [h] at hc
  exact ⟨hc.2, hc.1.f_mono, hc.1.dhdr⟩

theorem resUD_runAdv {α} {db db' : Engine.DB} {r : Engine.Res α} {a : α} (hc : ResUD db r) (h : r = .ok a db') :
    RunAdv db db' := by
  subst h
  exact ⟨hc.2, by rw [hc.1.f_eq]; exact Nat.le_refl _, hc.1.dhdr⟩

theorem resUD_insCount {α} {db db' : Engine.DB} {r : Engine.Res α} (hc : ResUD db r) (hr : resDB r = some db') :
    insCount db'.wal = insCount db.wal := by
  rcases resDB_ok hr with ⟨a, e⟩ | ⟨x, e⟩
  · rw [e] at hc
    obtain ⟨ha, logs, hw, hl⟩ := hc
    have := hl.kexact
    have := ha.k_eq
    rw [hw, insCount_append]
    omega
  · rw [e] at hc
    rw [hc.2]

/-- **A run of accepted statements**: `RunAdv`, and the INSERT records it logged are as many as the rows it
was given. -/
theorem specRun_adv {sch : Levels} {db dbN : Engine.DB} {sdb sdbN : Spec.SDB} {stmts : List EStmt}
    (run : SpecRun sch db sdb stmts dbN sdbN) :
    RunAdv db dbN ∧ insCount dbN.wal = insCount db.wal + insRows stmts := by
  induction run with
  | nil db sdb => exact ⟨RunAdv.refl _, rfl⟩
  | insert table cols rows hvalid hspec hrunok heval hrest ih =>
    obtain ⟨logs, hw, hc⟩ := evalInsert_ok_count heval
    refine ⟨(evalInsert_runAdv heval).trans ih.1, ?_⟩
    rw [ih.2, hw, insCount_append, hc]
    simp only [insRows]
    omega
  | @delete db db1 db2 sdb sdb1 sdb2 rest n table w hspec heval hrest ih =>
    refine ⟨(resUD_runAdv (evalDelete_counters db table w) heval).trans ih.1, ?_⟩
    rw [ih.2, resUD_insCount (evalDelete_counters db table w) (by rw [heval]; rfl)]
    rfl
  | @update db db1 db2 sdb sdb1 sdb2 rest table sets w hvalid hspec heval hrest ih =>
    refine ⟨(resUD_runAdv (evalUpdate_counters db table sets w) heval).trans ih.1, ?_⟩
    rw [ih.2, resUD_insCount (evalUpdate_counters db table sets w) (by rw [heval]; rfl)]
    rfl

/-- **After any history from CREATE DATABASE and a run of accepted statements, the counters fit**, when
the work of the history plus the number of records the run logged is at most `2^32 - 9`. -/
theorem hist_run_fit {db0 dbC : Engine.DB} {w : Work} (hist : Hist newDB w db0) (hr : RunAdv db0 dbC)
    (hN : w.total + (dbC.wal.length - db0.wal.length) ≤ maxRows) :
    dbC.store.hdr.lastKey < 2 ^ 32 ∧ dbC.store.hdr.nextLSN < 2 ^ 64 ∧ dbC.store.hdr.nextFree < 2 ^ 63 := by
  obtain ⟨h1, h2, h3⟩ := hist_from_create_database hist
  obtain ⟨⟨l, hw, g⟩, _, _⟩ := hr
  have e1 := g.kexact
  have e2 := g.exact
  have e3 := g.pages
  have e4 := insCount_le l
  rw [hw, List.length_append] at hN
  unfold Work.total maxRows at hN
  have p32 : (2 : Nat) ^ 32 = 4294967296 := by decide
  have p64 : (2 : Nat) ^ 64 = 18446744073709551616 := by decide
  have p63 : (2 : Nat) ^ 63 = 9223372036854775808 := by decide
  exact ⟨by omega, by omega, by omega⟩

/-- `CREATE TABLE t (a INT)` on the new database, as a history: two catalog rows, one table -/
theorem hist_tableDB : Hist newDB ⟨2, 1, 0, 0, 0⟩ tableDB := by
  have e : Engine.evalCreateTable newDB tname acols [] true = .ok () tableDB := create_table_eq
  exact Hist.createTable (w := {}) .nil tname acols [] true (by rw [e]; rfl)

/-- **Every INSERT record in the log is a row some INSERT statement of the history was given.** -/
theorem hist_insCount {db0 db : Engine.DB} {w : Work} (hist : Hist db0 w db) :
    insCount db.wal ≤ insCount db0.wal + w.rows := by
  induction hist with
  | nil => exact Nat.le_add_right _ _
  | @insert w db db' _ table cols rows hr ih =>
    rcases resDB_ok hr with ⟨a, e⟩ | ⟨x, e⟩
    · obtain ⟨logs, hw, hc⟩ := evalInsert_ok_count e
      rw [hw, insCount_append, hc]
      show _ ≤ _ + (w.rows + rows.length)
      omega
    · have := evalInsert_counters db table cols rows
      rw [e] at this
      rw [this.2]
      show _ ≤ _ + (w.rows + rows.length)
      omega
  | @update w db db' _ table sets wh hr ih =>
    rw [resUD_insCount (evalUpdate_counters db table sets wh) hr]; exact ih
  | @delete w db db' _ table wh hr ih =>
    rw [resUD_insCount (evalDelete_counters db table wh) hr]; exact ih
  | @createTable w db db' _ name cols order doFlush hr ih =>
    have hc := evalCreateTable_counters db name cols order doFlush
    have hw : db'.wal = db.wal := by
      rcases resDB_ok hr with ⟨a, e⟩ | ⟨x, e⟩ <;> rw [e] at hc <;> exact hc.2
    rw [hw]
    show _ ≤ _ + (w.rows + (cols.length + 1))
    omega
  | @flush w db db' _ order hr ih =>
    obtain ⟨db2, e, _, _, hw⟩ := flush_counters db order
    rw [e] at hr
    simp only [resDB, Option.some.injEq] at hr
    subst hr
    rw [hw]; exact ih
  | @recover w db db' _ o1 o2 hr ih =>
    rw [(recDB_adv hr).wal]; exact ih
  | torn _ order j ih => exact ih
  | reopen _ ih => exact ih

/-- each recovery replays at most the INSERT records in the log, which are at most the rows given so far
(`hist_insCount`), hence at most the final rows: `replayed ≤ recoveries × rows` -/
theorem hist_replayed_le {db : Engine.DB} {w : Work} (hist : Hist newDB w db) : w.replayed ≤ w.recs * w.rows := by
  induction hist using Hist.ev_induct with
  | nil => exact Nat.le_refl _
  | step e h hr ih =>
    have := hist_insCount h
    have e0 : insCount newDB.wal = 0 := rfl
    cases e <;> simp only [workEv, Nat.mul_add, Nat.add_mul] <;> omega

/-- **The frontier without the replay term**: after any history from CREATE DATABASE the allocation frontier
is at most `12288 + 66 pages × rows × (1 + recoveries) + 1 page × creates`. -/
theorem hist_frontier {db : Engine.DB} {w : Work} (hist : Hist newDB w db) :
    db.store.hdr.nextFree ≤ 12288 + 270336 * (w.rows * (1 + w.recs)) + 4096 * w.creates := by
  have h1 := (hist_from_create_database hist).2.2
  have h2 := hist_replayed_le hist
  have e : w.rows * (1 + w.recs) = w.rows + w.recs * w.rows := by rw [Nat.mul_add, Nat.mul_one, Nat.mul_comm]
  rw [e]
  omega

/-- **A `SpecRun` is a `Hist`**: its work is the rows it inserts and, for UPDATE / DELETE, LSNs that are
all accounted for by records in the log. -/
theorem specRun_hist {db0 : Engine.DB} {sch : Levels} {db dbN : Engine.DB} {sdb sdbN : Spec.SDB}
    {stmts : List EStmt} (run : SpecRun sch db sdb stmts dbN sdbN) :
    ∀ {w : Work}, Hist db0 w db → ∃ u, u + db.wal.length ≤ dbN.wal.length ∧
      Hist db0 ⟨w.rows + insRows stmts, w.creates, w.lsns + u, w.recs, w.replayed⟩ dbN := by
  induction run with
  | nil db sdb => intro w h; exact ⟨0, by omega, h⟩
  | insert table cols rows hvalid hspec hrunok heval hrest ih =>
    intro w h
    have h1 := h.insert table cols rows (db' := _) (by rw [heval]; rfl)
    obtain ⟨u, hu, h2⟩ := ih h1
    have := (evalInsert_runAdv heval).counters.2.2.2.1
    refine ⟨u, by omega, ?_⟩
    simp only [insRows, ← Nat.add_assoc]
    exact h2
  | @delete db db1 db2 sdb sdb1 sdb2 rest n table wh hspec heval hrest ih =>
    intro w h
    have h1 := h.delete table wh (db' := db1) (by rw [heval]; rfl)
    obtain ⟨u, hu, h2⟩ := ih h1
    have hc := (resUD_runAdv (evalDelete_counters db table wh) heval).counters
    refine ⟨(db1.store.hdr.nextLSN - db.store.hdr.nextLSN) + u, by omega, ?_⟩
    simp only [insRows, ← Nat.add_assoc]
    exact h2
  | @update db db1 db2 sdb sdb1 sdb2 rest table sets wh hvalid hspec heval hrest ih =>
    intro w h
    have h1 := h.update table sets wh (db' := db1) (by rw [heval]; rfl)
    obtain ⟨u, hu, h2⟩ := ih h1
    have hc := (resUD_runAdv (evalUpdate_counters db table sets wh) heval).counters
    refine ⟨(db1.store.hdr.nextLSN - db.store.hdr.nextLSN) + u, by omega, ?_⟩
    simp only [insRows, ← Nat.add_assoc]
    exact h2

theorem rounds_hist {db0 : Engine.DB} {sch : Levels} {db db' : Engine.DB} {sdb sdb' : Spec.SDB}
    (hr : Rounds sch db sdb db' sdb') {w : Work} (h : Hist db0 w db) : ∃ w', Hist db0 w' db' := by
  induction hr with
  | nil => exact ⟨w, h⟩
  | flush _ run hfl ih =>
    obtain ⟨w1, h1⟩ := ih
    obtain ⟨u, _, h2⟩ := specRun_hist run h1
    exact ⟨_, h2.flush _ (by rw [hfl]; rfl)⟩
  | crash _ run hrec ih =>
    obtain ⟨w1, h1⟩ := ih
    obtain ⟨u, _, h2⟩ := specRun_hist run h1
    exact ⟨_, h2.recover _ _ (by rw [hrec]; rfl)⟩

theorem histCT_hist {sch0 sch : Levels} {db0 db : Engine.DB} {sdb0 sdb : Spec.SDB}
    (hist : HistCT sch0 db0 sdb0 sch db sdb) : ∃ w, Hist db0 w db := by
  induction hist with
  | nil => exact ⟨_, .nil⟩
  | rounds _ hr ih =>
    obtain ⟨w, h⟩ := ih
    exact rounds_hist hr h
  | create _ name cols order hfind hn1 hn2 hfld hchk hroom heval hsch ih =>
    obtain ⟨w, h⟩ := ih
    have e : Engine.evalCreateTable _ name cols order true = .ok () _ := heval
    exact ⟨_, h.createTable name cols order true (by rw [e]; rfl)⟩

/-- **The histories `HistCT` from CREATE DATABASE, with what the final state does not show counted: `r`
recoveries, `c` catalog rows and `t` tables created** (constructors: a round ending in a flush, a round ending
in a crash and its recovery, an accepted CREATE TABLE - exactly those of `Rounds` / `HistCT`). -/
inductive HistR : Nat → Nat → Nat → Levels → Engine.DB → Spec.SDB → Prop
  | nil : HistR 0 0 0 schNew newDB []
  | flush {r c t : Nat} {sch : Levels} {db1 dbN db2 : Engine.DB} {sdb1 sdbN : Spec.SDB} {stmts : List EStmt}
      {order : List Nat} (h : HistR r c t sch db1 sdb1) (run : SpecRun sch db1 sdb1 stmts dbN sdbN)
      (hfl : Engine.flush dbN order = .ok () db2) : HistR r c t sch db2 sdbN
  | crash {r c t : Nat} {sch : Levels} {db1 dbN db2 : Engine.DB} {sdb1 sdbN : Spec.SDB} {stmts : List EStmt}
      {o1 o2 : List Nat} (h : HistR r c t sch db1 sdb1) (run : SpecRun sch db1 sdb1 stmts dbN sdbN)
      (hrec : Engine.recover dbN o1 o2 = .ok db2) : HistR (r + 1) c t sch db2 sdbN
  | create {r c t : Nat} {sch1 sch2 : Levels} {db1 db2 : Engine.DB} {sdb1 : Spec.SDB}
      (h : HistR r c t sch1 db1 sdb1) (name : Bytes) (cols : List Sql.ColDef) (order : List Nat)
      (hfind : Spec.findTable sdb1 name = none) (hn1 : name ≠ sysPages) (hn2 : name ≠ sysSchema)
      (hfld : checkFieldsFrom [] (cols.map Engine.colTypeToField) = none)
      (hchk : checkCatalogRows (cols.map Engine.colTypeToField) name = none)
      (hroom : CreateRoom db1 sch1 cols)
      (heval : evalStmt db1 order (.createTable name cols) = .ok () db2)
      {pt2 : Levels} {tbls2 : List (Bytes × Levels)} (hsch : Cat db2.store pt2 sch2 tbls2) :
      HistR r (c + (cols.length + 1)) (t + 1) sch2 db2 (sdb1 ++ [⟨name, cols.map Spec.colField, []⟩])

theorem histR_histCT {r c t : Nat} {sch : Levels} {db : Engine.DB} {sdb : Spec.SDB}
    (h : HistR r c t sch db sdb) : HistCT schNew newDB [] sch db sdb := by
  induction h with
  | nil => exact .nil
  | flush _ run hfl ih => exact .rounds ih (.flush .nil run hfl)
  | crash _ run hrec ih => exact .rounds ih (.crash .nil run hrec)
  | create _ name cols order hfind hn1 hn2 hfld hchk hroom heval hsch ih =>
    exact .create ih name cols order hfind hn1 hn2 hfld hchk hroom heval hsch

theorem rounds_histR {r c t : Nat} {sch : Levels} {db db' : Engine.DB} {sdb sdb' : Spec.SDB}
    (h : HistR r c t sch db sdb) (hr : Rounds sch db sdb db' sdb') : ∃ r', HistR r' c t sch db' sdb' := by
  induction hr with
  | nil => exact ⟨r, h⟩
  | flush _ run hfl ih => obtain ⟨r1, h1⟩ := ih; exact ⟨r1, h1.flush run hfl⟩
  | crash _ run hrec ih => obtain ⟨r1, h1⟩ := ih; exact ⟨r1 + 1, h1.crash run hrec⟩

theorem histCT_histR {sch : Levels} {db : Engine.DB} {sdb : Spec.SDB}
    (hist : HistCT schNew newDB [] sch db sdb) : ∃ r c t, HistR r c t sch db sdb := by
  induction hist with
  | nil => exact ⟨0, 0, 0, .nil⟩
  | rounds _ hr ih =>
    obtain ⟨r, c, t, h⟩ := ih
    obtain ⟨r', h'⟩ := rounds_histR h hr
    exact ⟨r', c, t, h'⟩
  | create _ name cols order hfind hn1 hn2 hfld hchk hroom heval hsch ih =>
    obtain ⟨r, c, t, h⟩ := ih
    exact ⟨r, _, _, h.create name cols order hfind hn1 hn2 hfld hchk hroom heval hsch⟩

/-- the counters of `db` bounded by its log, `r` recoveries, `c` catalog rows and `t` tables created since CREATE
DATABASE (the indices of `HistR`): one row id per logged INSERT, one LSN per record, at most 66 pages per insert -/
structure LogBnd (db : Engine.DB) (r c t : Nat) : Prop where
  k : db.store.hdr.lastKey ≤ 8 + c + insCount db.wal
  l : db.store.hdr.nextLSN ≤ 8 + 2 * c + db.wal.length + r
  f : db.store.hdr.nextFree ≤ 12288 + 4096 * t + 270336 * (c + insCount db.wal)

theorem LogBnd.run {db dbN : Engine.DB} {r c t : Nat} (h : LogBnd db r c t) (hr : RunAdv db dbN) :
    LogBnd dbN r c t := by
  obtain ⟨a1, a2, a3, a4, a5⟩ := hr.counters
  obtain ⟨b1, b2, b3⟩ := h
  exact ⟨by omega, by omega, by omega⟩

/-- **In the histories of the crash theorems the log bounds the counters.** -/
theorem histR_bounds {r c t : Nat} {sch : Levels} {db : Engine.DB} {sdb : Spec.SDB}
    (h : HistR r c t sch db sdb) : LogBnd db r c t := by
  induction h with
  | nil => exact ⟨Nat.le_refl _, Nat.le_refl _, Nat.le_refl _⟩
  | @flush r c t sch db1 dbN db2 sdb1 sdbN stmts order _ run hfl ih =>
    have hN := ih.run (specRun_adv run).1
    obtain ⟨db', e, hh, _, hw⟩ := flush_counters dbN order
    rw [hfl] at e
    simp only [Engine.Res.ok.injEq, true_and] at e
    subst e
    obtain ⟨b1, b2, b3⟩ := hN
    exact ⟨by rw [hh, hw]; exact b1, by rw [hh, hw]; exact b2, by rw [hh, hw]; exact b3⟩
  | @crash r c t sch db1 dbN db2 sdb1 sdbN stmts o1 o2 h1 run hrec ih =>
    have hN := ih.run (specRun_adv run).1
    obtain ⟨pt, tbls, hk, _⟩ := histCT_ckpt (histR_histCT h1) ckpt_newDB noStale_new
    obtain ⟨_, _, hw, _, _, e1, e2, _, _, e5⟩ := hk.recover_step run hrec
    obtain ⟨b1, b2, b3⟩ := hN
    exact ⟨by rw [e2, hw]; exact b1, by rw [hw]; omega, by rw [e1, hw]; exact b3⟩
  | @create r c t sch1 sch2 db1 db2 sdb1 _ name cols order hfind hn1 hn2 hfld hchk hroom heval _ _ hsch ih =>
    have e : Engine.evalCreateTable db1 name cols order true = .ok () db2 := heval
    have hc := evalCreateTable_counters db1 name cols order true
    rw [e] at hc
    obtain ⟨⟨a1, a2, a3, a4, a5, a6, _⟩, hw⟩ := hc
    obtain ⟨b1, b2, b3⟩ := ih
    exact ⟨by rw [hw]; omega, by rw [hw]; omega, by rw [hw]; omega⟩

theorem histR_run_bounds {r c t : Nat} {sch : Levels} {db dbN : Engine.DB} {sdb sdbN : Spec.SDB}
    {stmts : List EStmt} (h : HistR r c t sch db sdb) (run : SpecRun sch db sdb stmts dbN sdbN) :
    LogBnd dbN r c t := (histR_bounds h).run (specRun_adv run).1

end Mkdb.Store
