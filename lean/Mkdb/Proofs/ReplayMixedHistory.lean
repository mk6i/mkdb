import Mkdb.Proofs.CatalogInv
/-!
Mixed histories of the storage layer: `RStmt`, and `LiveRunM`, a live run of INSERT / UPDATE / DELETE
statements with its log.  (What one step of such a run does, and the replay of its log: `ReplaySteps`.)
Nothing is replayed here: the module stands directly on `CatalogInv`, below the statements against the plain model
(`SpecRefineInsert` / `Delete` / `Update`), whose accepted-statement theorems each carry a `LiveRunM` conjunct: it
records WHICH row operations ran and what they logged.  The crash theorems (C02, C03) replay that log; C01 drops
the conjunct.
-/
set_option autoImplicit false
namespace Mkdb.Store
open Mkdb.Page Mkdb.Tuple Mkdb.Generated Mkdb.Tree Mkdb.Engine

/-- a row statement of the storage layer -/
inductive RStmt where
  | ins (table : Bytes) (cols : List String) (vals : List Val)
  | upd (table : Bytes) (rowId : Nat) (cols : List String) (src : List Val)
  | del (table : Bytes) (rowId : Nat)

/-- A run of row statements, live, from the store `s` with user tables `tbls` to the store `s'` with
user tables `tbls'`, producing the log `logs`.  The steps: `Store.insert` under the side conditions of
`insert_refines`; `Store.update` matching one live row (`update_cat`) or none (`update_cat_absent`);
`Store.markDeleted` of a live row (`markDeleted_cat`); and `same`: anything that only reads (a SELECT,
the scan phase of the engine's UPDATE / DELETE) - the cache may grow, no page and no header field
changes (`Same`). -/
inductive LiveRunM (sch : Levels) : Store → List (Bytes × Levels) → List RStmt → Store →
    List (Bytes × Levels) → List WalRec → Prop
  | nil (s : Store) (tbls : List (Bytes × Levels)) : LiveRunM sch s tbls [] s tbls []
  | same {s s1 s2 : Store} {tbls tbls2 : List (Bytes × Levels)} {stmts : List RStmt} {logs : List WalRec}
      (hs : Same s s1) (hrest : LiveRunM sch s1 tbls stmts s2 tbls2 logs) :
      LiveRunM sch s tbls stmts s2 tbls2 logs
  | ins {s s1 s2 : Store} {tbls tbls2 : List (Bytes × Levels)} {rest : List RStmt}
      {logs logs2 : List WalRec} (table : Bytes) (cols : List String) (vals : List Val)
      (t : Levels) (schema : List FieldDef) (buf : Bytes) (t' : Levels) (nf' : Nat)
      (ht : (table, t) ∈ tbls) (hsch : schemaOf sch table = some schema)
      (hcols : (colsOf schema cols).length = vals.length)
      (hnames : checkColumns schema (colsOf schema cols) = none)
      (henc : encodeTuple schema ((colsOf schema cols).zip vals).reverse = .ok buf)
      (hlen : buf.length ≤ c_maxValueSize)
      (hins : insertAppend t (s.hdr.lastKey + 1) s.hdr.nextLSN buf s.hdr.nextFree = .ok (t', nf'))
      (hd' : t'.inner.length + 2 ≤ treeFuel) (hl' : t'.leaves.length ≤ scanFuel)
      (hbig : (nf' : Int) ≤ 9223372036854775807)
      (hrun : insert table cols vals s = .ok logs s1)
      (hrest : LiveRunM sch s1 (setTable tbls table t') rest s2 tbls2 logs2) :
      LiveRunM sch s tbls (.ins table cols vals :: rest) s2 tbls2 (logs ++ logs2)
  | upd {s s1 s2 : Store} {tbls tbls2 : List (Bytes × Levels)} {rest : List RStmt}
      {logs logs2 : List WalRec} (table : Bytes) (rowId : Nat) (cols : List String) (src : List Val)
      (t : Levels) (schema : List FieldDef) (c : LeafCell) (m : Vals) (buf : Bytes)
      (ht : (table, t) ∈ tbls) (hsch : schemaOf sch table = some schema)
      (hc : c ∈ live t) (hk : c.key = rowId)
      (hdec : decodeTuple schema c.val [] = .ok m)
      (henc : encodeTuple schema ((cols.zip src).reverse ++ m) = .ok buf)
      (hlen : buf.length ≤ c_maxValueSize)
      (hrun : update table rowId cols src s = .ok logs s1)
      (hrest : LiveRunM sch s1 (setTable tbls table (setVal t rowId s.hdr.nextLSN buf)) rest s2 tbls2 logs2) :
      LiveRunM sch s tbls (.upd table rowId cols src :: rest) s2 tbls2 (logs ++ logs2)
  | updAbsent {s s1 s2 : Store} {tbls tbls2 : List (Bytes × Levels)} {rest : List RStmt}
      {logs logs2 : List WalRec} (table : Bytes) (rowId : Nat) (cols : List String) (src : List Val)
      (t : Levels) (schema : List FieldDef)
      (ht : (table, t) ∈ tbls) (hsch : schemaOf sch table = some schema)
      (habs : ∀ c ∈ live t, c.key ≠ rowId)
      (hrun : update table rowId cols src s = .ok logs s1)
      (hrest : LiveRunM sch s1 tbls rest s2 tbls2 logs2) :
      LiveRunM sch s tbls (.upd table rowId cols src :: rest) s2 tbls2 (logs ++ logs2)
  | del {s s1 s2 : Store} {tbls tbls2 : List (Bytes × Levels)} {rest : List RStmt}
      {logs logs2 : List WalRec} (table : Bytes) (rowId : Nat) (t : Levels) (c : LeafCell)
      (ht : (table, t) ∈ tbls) (hc : c ∈ live t) (hk : c.key = rowId)
      (hrun : markDeleted table rowId s = .ok logs s1)
      (hrest : LiveRunM sch s1 (setTable tbls table (setDeleted t rowId s.hdr.nextLSN)) rest s2 tbls2 logs2) :
      LiveRunM sch s tbls (.del table rowId :: rest) s2 tbls2 (logs ++ logs2)

theorem LiveRunM.append {sch : Levels} {s s1 s2 : Store} {tbls tbls1 tbls2 : List (Bytes × Levels)}
    {A B : List RStmt} {l1 l2 : List WalRec} (h1 : LiveRunM sch s tbls A s1 tbls1 l1)
    (h2 : LiveRunM sch s1 tbls1 B s2 tbls2 l2) : LiveRunM sch s tbls (A ++ B) s2 tbls2 (l1 ++ l2) := by
  induction h1 with
  | nil s tbls => exact h2
  | same hs _ ih => exact .same hs (ih h2)
  | ins table cols vals t schema buf t' nf' ht hsch hcols hnames henc hlen hins hd' hl' hbig hrun _ ih =>
    rw [List.cons_append, List.append_assoc]
    exact .ins table cols vals t schema buf t' nf' ht hsch hcols hnames henc hlen hins hd' hl' hbig hrun (ih h2)
  | upd table rowId cols src t schema c m buf ht hsch hc hk hdec henc hlen hrun _ ih =>
    rw [List.cons_append, List.append_assoc]
    exact .upd table rowId cols src t schema c m buf ht hsch hc hk hdec henc hlen hrun (ih h2)
  | updAbsent table rowId cols src t schema ht hsch habs hrun _ ih =>
    rw [List.cons_append, List.append_assoc]
    exact .updAbsent table rowId cols src t schema ht hsch habs hrun (ih h2)
  | del table rowId t c ht hc hk hrun _ ih =>
    rw [List.cons_append, List.append_assoc]
    exact .del table rowId t c ht hc hk hrun (ih h2)

end Mkdb.Store
