import Mkdb.Proofs.Forest
import Mkdb.Proofs.RefineInsertPieces
/-!
The heap insert IS the levels insert.  An insert that succeeds appends at the right end of the tree, so
the heap code walks the rightmost spine: what the invariant says about the spine, one level of the
unwinding (the state `After` between two levels of the recursion), the leaf level, the descent, and the
theorems: `insertKeyHeap_refines` for an insert that succeeds, two like it for the refusals `keyExists`
and `rowTooLarge`; with them the runtime cross-check of `insertKey` never fires.
-/

section
/-!
What the shape invariant says about the rightmost spine (separators below the new key, right pointers
to the last node of the level below), used by the descent of `insertInternal`.
-/
set_option autoImplicit false
namespace Mkdb.Tree
open Mkdb.Page Mkdb.Generated

/-! ### the separators lie below the new key -/

theorem keys_snoc {t : Levels} {lpre : List (Leaf × Bool)} {last : Leaf} {d : Bool}
    (hpre : t.leaves = lpre ++ [(last, d)]) :
    keys t = (lpre.flatMap (·.1.cells)).map (·.key) ++ last.cells.map (·.key) := by
  simp [keys, cells, hpre, List.flatMap_append]

theorem seps_lt_key {t : Levels} {nf : Nat} (hinv : Inv t nf) {key : Nat} (hk : ∀ a ∈ keys t, a < key)
    {lvl} (hl : lvl ∈ t.inner) {p} (hp : p ∈ lvl) {c : ICell} (hc : c ∈ p.1.cells) : c.key < key :=
  hk _ (seps_in_keys hinv hl hp hc)

/-- Every separator is below the separator a split of the last leaf pushes up: a separator is the
lowest key of some leaf, hence at most the first key of the last leaf, and the new separator is a later
key of that leaf. -/
theorem seps_lt_newsep {t : Levels} {nf : Nat} (hinv : Inv t nf) {lpre : List (Leaf × Bool)} {last : Leaf}
    {d : Bool} (hpre : t.leaves = lpre ++ [(last, d)]) {key lsn : Nat} {value : Bytes}
    (hk : ∀ a ∈ keys t, a < key) (hfull : ¬ (leafApp last key lsn value).cells.length < c_maxLeafNodeCells)
    {lvl} (hl : lvl ∈ t.inner) {p} (hp : p ∈ lvl) {c : ICell} (hc : c ∈ p.1.cells) (nf1 : Nat) :
    c.key < ((leafR (leafApp last key lsn value) lsn nf1).cells.head?.map (·.key)).getD 0 := by
  have h9 : c_maxLeafNodeCells = 9 := rfl
  have hmid : (leafApp last key lsn value).cells.length / 2 < (leafApp last key lsn value).cells.length := by
    omega
  have hsep : ((leafR (leafApp last key lsn value) lsn nf1).cells.head?.map (·.key)).getD 0 =
      ((leafApp last key lsn value).cells[(leafApp last key lsn value).cells.length / 2]'hmid).key := by
    simp only [leafR, List.head?_drop, List.getElem?_eq_getElem hmid, Option.map_some, Option.getD_some]
  rw [hsep]
  -- `c.key` is at most the lowest key of the last leaf
  have hlos : (t.leaves.map Lookup.headKey).Pairwise (· < ·) := los_sorted t hinv.asc hinv.ne
  have hcm : c.key ∈ t.leaves.map Lookup.headKey :=
    (seps_sublist_los hinv hl hp).subset (List.mem_map.mpr ⟨c, hc, rfl⟩)
  have hle : c.key ≤ Lookup.headKey (last, d) := by
    rw [hpre, List.map_append, List.map_cons, List.map_nil] at hcm hlos
    rcases List.mem_append.mp hcm with h | h
    · exact Nat.le_of_lt ((List.pairwise_append.mp hlos).2.2 _ h _ List.mem_cons_self)
    · exact Nat.le_of_eq (List.mem_singleton.mp h)
  -- which is the first key of the leaf with the new cell, and the middle is a later one
  have hlast : last.cells ≠ [] :=
    leaves_ne_of_inner hinv (List.ne_nil_of_mem hl) (last, d) (by rw [hpre]; simp)
  have hasc : ((leafApp last key lsn value).cells.map (·.key)).Pairwise (· < ·) := by
    have h1 : (keys t ++ [key]).Pairwise (· < ·) :=
      List.pairwise_append.mpr ⟨hinv.asc, List.pairwise_singleton _ _, fun a ha b hb => by
        rw [List.mem_singleton.mp hb]; exact hk a ha⟩
    rw [keys_snoc hpre, List.append_assoc] at h1
    simpa [leafApp] using (List.pairwise_append.mp h1).2.1
  have hlt := List.pairwise_iff_getElem.mp hasc 0 ((leafApp last key lsn value).cells.length / 2)
    (by rw [List.length_map]; omega) (by rw [List.length_map]; exact hmid) (by omega)
  simp only [List.getElem_map] at hlt
  have h0 : ((leafApp last key lsn value).cells[0]'(by omega)).key = Lookup.headKey (last, d) := by
    cases hlc : last.cells with
    | nil => exact absurd hlc hlast
    | cons x xs => simp [leafApp, Lookup.headKey, hlc]
  omega

/-! ### right pointers along the spine -/

theorem childOffs_snoc_last (ipre : List (Internal × Bool)) (c : Internal) (d : Bool) :
    (childOffs (ipre ++ [(c, d)])).getLast? = some c.right := by
  rw [childOffs_append, childOffs_cons, childOffs_nil, List.append_nil, ← List.append_assoc]
  exact List.getLast?_concat

theorem right_leaf {t : Levels} (hl : LinkOK t) {lpre : List (Leaf × Bool)} {last : Leaf} {d : Bool}
    (hpre : t.leaves = lpre ++ [(last, d)]) {ipre} {c : Internal} {dc : Bool} {hi}
    (hin : t.inner = (ipre ++ [(c, dc)]) :: hi) : c.right = last.off := by
  unfold LinkOK at hl
  rw [hin, hpre] at hl
  have h1 := congrArg List.getLast? hl.1
  rw [childOffs_snoc_last] at h1
  simpa using h1

theorem right_int {t : Levels} (hl : LinkOK t) {lo jpre} {c : Internal} {dcc : Bool} {ipre} {cur : Internal}
    {dc : Bool} {hi} (hin : t.inner = (lo ++ [jpre ++ [(c, dcc)]]) ++ (ipre ++ [(cur, dc)]) :: hi) :
    cur.right = c.off := by
  unfold LinkOK at hl
  rw [hin] at hl
  have h0 := linked_mid _ _ _ _ hl
  rw [topRow_snoc] at h0
  have h1 := congrArg List.getLast? h0
  rw [childOffs_snoc_last] at h1
  simpa using h1

theorem rootOff_snoc (leaves : List (Leaf × Bool)) (low : List (List (Internal × Bool))) (top) :
    rootOff ⟨leaves, low ++ [top]⟩ = (top.head?.map (·.1.off)).getD 0 := by
  simp [rootOff]

end Mkdb.Tree
end

section
/-!
One level of the unwinding.  A step of `bubble` has two halves, and the heap code does them in two
different calls: a child *pushes* its separator into the last node of the parent level (`leafSplitUp`,
`intSplitUp`); the parent, when the child has returned, *settles* (`afterChild`): it keeps the node if it
fits, else splits it and pushes the middle key one level up.  `settle` is the second half on the levels.
-/
set_option autoImplicit false
namespace Mkdb.Store
open Mkdb.Page Mkdb.Generated Mkdb.Tree

/-- what `bubble` still does once the separator stands in the node `p'` (last of its level, after `ppre`) -/
def settle (lsn : Nat) (ppre : List (Internal × Bool)) (p' : Internal) (d' : Bool)
    (rest : List (List (Internal × Bool))) (nf : Nat) : List (List (Internal × Bool)) × Nat :=
  if p'.cells.length < c_maxInternalNodeCells then ((ppre ++ [(p', d')]) :: rest, nf)
  else
    ((ppre ++ [(intL p', true), (intR p' lsn nf, true)]) ::
        (bubble lsn rest (midCell p').key p'.off nf (nf + c_pageSize)).1,
      (bubble lsn rest (midCell p').key p'.off nf (nf + c_pageSize)).2)

theorem settle_fits (lsn : Nat) (ppre : List (Internal × Bool)) {p' : Internal} (d' : Bool) (rest) (nf : Nat)
    (h : p'.cells.length < c_maxInternalNodeCells) :
    settle lsn ppre p' d' rest nf = ((ppre ++ [(p', d')]) :: rest, nf) := if_pos h

theorem settle_full (lsn : Nat) (ppre : List (Internal × Bool)) {p' : Internal} (d' : Bool) (rest) (nf : Nat)
    (h : ¬ p'.cells.length < c_maxInternalNodeCells) :
    settle lsn ppre p' d' rest nf =
      ((ppre ++ [(intL p', true), (intR p' lsn nf, true)]) ::
          (bubble lsn rest (midCell p').key p'.off nf (nf + c_pageSize)).1,
        (bubble lsn rest (midCell p').key p'.off nf (nf + c_pageSize)).2) := if_neg h

theorem bubble_settle (lsn : Nat) (pre : List (Internal × Bool)) (p : Internal) (d : Bool) (rest)
    (sep l nc nf : Nat) :
    bubble lsn ((pre ++ [(p, d)]) :: rest) sep l nc nf = settle lsn pre (intApp p sep nc lsn) true rest nf :=
  bubble_cons_snoc lsn pre p d rest sep l nc nf

/-- The heap after the call on the child of the spine node `p` (last of its level, after `ppre`; `rest` are the
levels above) has returned: the leaves and the levels `low` below `p` are final; at `p.off` stands `p'` - `p`
itself, or `p` with a separator pushed into it, then dirty - and the tree to be reached is what `settle`
makes of it. -/
def After (lsn : Nat) (v0 : View) (t' : Levels) (nf' : Nat) (ppre : List (Internal × Bool))
    (p : Internal) (rest : List (List (Internal × Bool))) (s' : Store) : Prop :=
  ∃ leaves' low p' d', p'.off = p.off ∧
    (¬ p'.cells.length < c_maxInternalNodeCells → d' = true) ∧
    Rep (view s') s'.hdr.nextFree v0 ⟨leaves', low ++ (ppre ++ [(p', d')]) :: rest⟩ ∧
    t' = ⟨leaves', low ++ (settle lsn ppre p' d' rest s'.hdr.nextFree).1⟩ ∧
    nf' = (settle lsn ppre p' d' rest s'.hdr.nextFree).2

/-- the heap when the insert is complete -/
def Final (v0 : View) (t' : Levels) (nf' : Nat) (r : Nat) (s' : Store) : Prop :=
  r = rootOff t' ∧ Rep (view s') nf' v0 t' ∧ s'.hdr.nextFree = nf'

theorem intL_off (p : Internal) : (intL p).off = p.off := rfl
theorem intR_off (p : Internal) (lsn nf : Nat) : (intR p lsn nf).off = nf := rfl

/-- one level of the unwinding, below the root -/
theorem stepSome (lsn : Nat) (v0 : View) (t' : Levels) (nf' : Nat) (ppre : List (Internal × Bool))
    (p : Internal) (qpre : List (Internal × Bool)) (q : Internal) (dq : Bool) (rest)
    (s2 : Store) (root : Nat) (hcap : q.cells.length < c_maxInternalNodeCells)
    (hA : After lsn v0 t' nf' ppre p ((qpre ++ [(q, dq)]) :: rest) s2) :
    ∃ s3, afterChild (some q.off) p.off lsn root s2 = .ok root s3 ∧
      After lsn v0 t' nf' qpre q rest s3 := by
  obtain ⟨leaves', low, p', d', hoff, hd, hrep, ht', hnf'⟩ := hA
  have hps := pageSize_pos
  have hat := Rep.atInt hrep
  rw [← hoff]
  by_cases hsmall : p'.cells.length < c_maxInternalNodeCells
  · rw [settle_fits _ _ _ _ _ hsmall] at ht' hnf'
    obtain ⟨s3, e3, v3, n3⟩ := afterChild_nosplit s2 (some q.off) p'.off lsn root p' d' hat.1 rfl hsmall
    refine ⟨s3, e3, leaves', low ++ [ppre ++ [(p', d')]], q, dq, rfl, fun h => absurd hcap h, ?_, ?_, ?_⟩
    · rw [v3, n3]
      simp only [List.append_assoc, List.singleton_append]; exact hrep
    · simp only [settle_fits _ _ _ _ _ hcap, List.append_assoc, List.singleton_append]; exact ht'
    · simp only [settle_fits _ _ _ _ _ hcap, n3]; exact hnf'
  · rw [settle_full _ _ _ _ _ hsmall, bubble_settle] at ht' hnf'
    obtain rfl := hd hsmall
    have hq := Rep.atInt (c := q) (d := dq) (List.append_cons low .. ▸ hrep)
    have hne : p'.off ≠ q.off := Rep.int_ne_int hrep
    obtain ⟨s3, e3, v3, n3⟩ := afterChild_split_some s2 q.off p'.off lsn root p' q true dq
      hat.1 rfl hsmall hq.1 rfl (by omega) hne (by omega)
    refine ⟨s3, e3, leaves',
      low ++ [ppre ++ [(intL p', true)] ++ [(intR p' lsn s2.hdr.nextFree, true)]],
      intApp q (midCell p').key s2.hdr.nextFree lsn, true, rfl, fun _ => rfl, ?_, ?_, ?_⟩
    · rw [v3, n3]
      refine Rep.setInt (c := q) (d := dq) ?_ rfl
      rw [← List.append_cons low]
      exact Rep.addInt (Rep.setInt hrep rfl) rfl (Nat.lt_add_of_pos_right hps)
    · simp only [List.append_assoc, List.cons_append, List.nil_append, n3]; exact ht'
    · rw [n3]; exact hnf'

theorem head_snoc_off (ppre : List (Internal × Bool)) (p p' : Internal) (d d' : Bool) (h : p'.off = p.off) :
    ((ppre ++ [(p', d')]).head?.map (·.1.off)).getD 0 = ((ppre ++ [(p, d)]).head?.map (·.1.off)).getD 0 := by
  cases ppre with
  | nil => simp [h]
  | cons x xs => simp

/-- the last level of the unwinding: the root -/
theorem stepNone (lsn : Nat) (v0 : View) (t' : Levels) (nf' : Nat) (ppre : List (Internal × Bool))
    (p : Internal) (dp : Bool) (s2 : Store) (root : Nat)
    (hroot : root = ((ppre ++ [(p, dp)]).head?.map (·.1.off)).getD 0)
    (hA : After lsn v0 t' nf' ppre p [] s2) :
    ∃ s3 r, afterChild none p.off lsn root s2 = .ok r s3 ∧ Final v0 t' nf' r s3 := by
  obtain ⟨leaves', low, p', d', hoff, hd, hrep, ht', hnf'⟩ := hA
  have hps := pageSize_pos
  have hat := Rep.atInt hrep
  rw [← hoff]
  by_cases hsmall : p'.cells.length < c_maxInternalNodeCells
  · rw [settle_fits _ _ _ _ _ hsmall] at ht' hnf'
    obtain ⟨s3, e3, v3, n3⟩ := afterChild_nosplit s2 none p'.off lsn root p' d' hat.1 rfl hsmall
    refine ⟨s3, root, e3, ?_, ?_, ?_⟩
    · rw [ht', rootOff_snoc, hroot]
      exact (head_snoc_off ppre p p' dp d' hoff).symm
    · rw [v3, hnf', ht']; exact hrep
    · rw [n3, hnf']
  · rw [settle_full _ _ _ _ _ hsmall, bubble_nil] at ht' hnf'
    obtain rfl := hd hsmall
    obtain ⟨s3, e3, v3, n3⟩ := afterChild_split_none s2 p'.off lsn root p' true hat.1 rfl hsmall (by omega)
    refine ⟨s3, _, e3, ?_, ?_, ?_⟩
    · rw [ht', List.append_cons low, rootOff_snoc]
      rfl
    · rw [v3, hnf', ht', List.append_cons low, List.append_cons ppre]
      exact Rep.addRoot (Rep.addInt (Rep.setInt hrep rfl) rfl (Nat.lt_add_of_pos_right hps)) rfl
        (Nat.lt_add_of_pos_right hps)
    · rw [n3, hnf']

end Mkdb.Store
end

section
/-! ### the leaf level: `insertLeaf` against the first step of `insertAppend` -/
set_option autoImplicit false
namespace Mkdb.Store
open Mkdb.Page Mkdb.Generated Mkdb.Tree

/-- what `insertAppend_inv_cases` says about a successful `insertAppend` -/
def AppCases (t t' : Levels) (k lsn nf nf' : Nat) (v : Bytes) (pre : List (Leaf × Bool)) (last : Leaf) : Prop :=
  ((leafApp last k lsn v).cells.length < c_maxLeafNodeCells ∧
      t' = { t with leaves := pre ++ [(leafApp last k lsn v, true)] } ∧ nf' = nf) ∨
  (¬ (leafApp last k lsn v).cells.length < c_maxLeafNodeCells ∧
      t' = { leaves := pre ++ [(leafL (leafApp last k lsn v) nf, true),
                                (leafR (leafApp last k lsn v) lsn nf, true)],
             inner := (bubble lsn t.inner
                (((leafR (leafApp last k lsn v) lsn nf).cells.head?.map (·.key)).getD 0)
                last.off nf (nf + c_pageSize)).1 } ∧
      nf' = (bubble lsn t.inner
                (((leafR (leafApp last k lsn v) lsn nf).cells.head?.map (·.key)).getD 0)
                last.off nf (nf + c_pageSize)).2)

theorem leaf_keys_lt {t : Levels} {lpre : List (Leaf × Bool)} {last : Leaf} {d : Bool}
    (hpre : t.leaves = lpre ++ [(last, d)]) {key : Nat} (hk : ∀ a ∈ keys t, a < key) :
    ∀ x ∈ keysOfLeaf last, x < key := by
  intro x hx
  apply hk
  rw [keys_snoc hpre]
  exact List.mem_append_right _ hx

theorem chainFrom_last_hasR : ∀ (ls : List Leaf) (prev : Option Nat) (last : Leaf),
    chainFrom prev (ls ++ [last]) → last.hasR = false
  | [], _, _, h => h.2.1
  | [_], _, last, h => chainFrom_last_hasR [] _ last h.2.2
  | _ :: b :: ls, _, last, h => chainFrom_last_hasR (b :: ls) _ last h.2.2

theorem last_hasR_of_chain {t : Levels} {lpre : List (Leaf × Bool)} {last : Leaf} {d : Bool}
    (hch : ChainOK t) (hpre : t.leaves = lpre ++ [(last, d)]) : last.hasR = false := by
  unfold ChainOK at hch
  rw [hpre, List.map_append] at hch
  exact chainFrom_last_hasR _ _ _ hch

/-- the leaf level below an internal node -/
theorem leafSome (v0 : View) (t t' : Levels) (key lsn nf nf' : Nat) (value : Bytes) (s : Store) (root : Nat)
    (hnf : s.hdr.nextFree = nf) (hinv : Inv t nf) (hrep : Rep (view s) nf v0 t)
    (lpre : List (Leaf × Bool)) (last : Leaf) (d : Bool) (hpre : t.leaves = lpre ++ [(last, d)])
    (hk : ∀ a ∈ keys t, a < key) (hv : value.length ≤ c_maxValueSize)
    (hcase : AppCases t t' key lsn nf nf' value lpre last)
    (ppre : List (Internal × Bool)) (p : Internal) (dp : Bool) (rest)
    (hin : t.inner = (ppre ++ [(p, dp)]) :: rest) :
    ∃ s', insertLeaf (some p.off) last key lsn value root s = .ok root s' ∧
      After lsn v0 t' nf' ppre p rest s' := by
  subst hnf
  have hpos := leaf_keys_lt hpre hk
  have hR := last_hasR_of_chain hinv.chain hpre
  have hps := pageSize_pos
  have hmem : (ppre ++ [(p, dp)]) ∈ t.inner := by rw [hin]; simp
  have hpm : (p, dp) ∈ ppre ++ [(p, dp)] := by simp
  have hcap := hinv.cap.2 _ hmem _ hpm
  obtain ⟨leaves, inner⟩ := t
  simp only at hpre hin
  subst hpre hin
  rw [insertLeaf_append _ _ _ _ _ _ hpos hR hv]
  rcases hcase with ⟨hsmall, rfl, rfl⟩ | ⟨hfull, rfl, rfl⟩
  · obtain ⟨s', e, v, n⟩ := leafWrite_nosplit s (some p.off) (leafApp last key lsn value) lsn root hsmall
    refine ⟨s', e, lpre ++ [(leafApp last key lsn value, true)], [], p, dp, rfl,
      fun h => absurd hcap.2 h, ?_, ?_, ?_⟩
    · rw [v, n]
      exact Rep.setLeaf (l := last) hrep rfl
    · simp [settle_fits _ _ _ _ _ hcap.2]
    · simp [settle_fits _ _ _ _ _ hcap.2, n]
  · obtain ⟨cs, lastc, hcs⟩ := (eq_nil_or_snoc p.cells).resolve_left fun h => by simp [h] at hcap
    have hlastc : p.cells.getLast? = some lastc := by rw [hcs]; exact List.getLast?_concat
    have hkey := seps_lt_newsep hinv rfl hk hfull hmem hpm (c := lastc) (by simp [hcs]) s.hdr.nextFree
    have haL := Rep.atLeaf hrep
    have haP := Rep.atInt (lo := []) hrep
    have hne := Rep.leaf_ne_int hrep
    obtain ⟨s', e, v, n⟩ := leafWrite_split_some s p.off (leafApp last key lsn value) lsn root p dp lastc rfl
      hfull haP.1 rfl hlastc hkey (Nat.ne_of_lt haL.2) hne (Nat.ne_of_lt haP.2)
    refine ⟨s', e, lpre ++ [(leafL (leafApp last key lsn value) s.hdr.nextFree, true)] ++
        [(leafR (leafApp last key lsn value) lsn s.hdr.nextFree, true)], [],
      intApp p (((leafR (leafApp last key lsn value) lsn s.hdr.nextFree).cells.head?.map (·.key)).getD 0)
        s.hdr.nextFree lsn, true, rfl, fun _ => rfl, ?_, ?_, ?_⟩
    · rw [v, n]
      exact Rep.setInt (lo := []) (Rep.addLeaf (Rep.setLeaf (l := last) hrep rfl) rfl
        (Nat.lt_add_of_pos_right hps)) rfl
    · simp only [List.append_assoc, List.cons_append, List.nil_append, bubble_settle, n]
    · simp only [bubble_settle, n]

/-- the tree whose root is a leaf -/
theorem leafNone (v0 : View) (t t' : Levels) (key lsn nf nf' : Nat) (value : Bytes) (s : Store) (root : Nat)
    (hnf : s.hdr.nextFree = nf) (hrep : Rep (view s) nf v0 t)
    (last : Leaf) (d : Bool) (hpre : t.leaves = [(last, d)]) (hR : last.hasR = false)
    (hk : ∀ a ∈ keys t, a < key) (hv : value.length ≤ c_maxValueSize)
    (hcase : AppCases t t' key lsn nf nf' value [] last)
    (hin : t.inner = []) (hroot : root = last.off) :
    ∃ s' r, insertLeaf none last key lsn value root s = .ok r s' ∧ Final v0 t' nf' r s' := by
  subst hnf
  have hpos := leaf_keys_lt (lpre := []) hpre hk
  have hps := pageSize_pos
  obtain ⟨leaves, inner⟩ := t
  simp only at hpre hin
  subst hpre hin
  have hrep' : Rep (view s) s.hdr.nextFree v0 ⟨[] ++ [(last, d)], []⟩ := hrep
  rw [insertLeaf_append _ _ _ _ _ _ hpos hR hv]
  rcases hcase with ⟨hsmall, rfl, rfl⟩ | ⟨hfull, rfl, rfl⟩
  · obtain ⟨s', e, v, n⟩ := leafWrite_nosplit s none (leafApp last key lsn value) lsn root hsmall
    refine ⟨s', root, e, ?_, ?_, n⟩
    · simp [rootOff, hroot, leafApp]
    · rw [v]
      exact Rep.setLeaf (l := last) hrep' rfl
  · have haL := Rep.atLeaf hrep'
    obtain ⟨s', e, v, n⟩ := leafWrite_split_none s (leafApp last key lsn value) lsn root rfl hfull
      (Nat.ne_of_lt haL.2) (Nat.ne_of_lt (Nat.lt_add_right _ haL.2))
    rw [bubble_nil]
    refine ⟨s', _, e, ?_, ?_, n⟩
    · simp [rootOff]
    · rw [v]
      -- the tree in the shape `Rep.addLeaf` and `Rep.addRoot` build it in
      show Rep _ _ _ ⟨[] ++ [(_, true)] ++ [(_, true)], [] ++ [[_]]⟩
      exact Rep.addRoot (Rep.addLeaf (Rep.setLeaf (l := last) hrep' rfl) rfl (Nat.lt_add_of_pos_right hps)) rfl
        (Nat.lt_add_of_pos_right hps)

end Mkdb.Store
end

section
/-! ### the descent along the rightmost spine -/
set_option autoImplicit false
namespace Mkdb.Store
open Mkdb.Page Mkdb.Generated Mkdb.Tree

theorem levels_eta (t : Levels) {a : List (Leaf × Bool)} {b : List (List (Internal × Bool))}
    (h1 : t.leaves = a) (h2 : t.inner = b) : t = ⟨a, b⟩ := by
  cases t; simp only at h1 h2; rw [h1, h2]

theorem insertInternal_descend (fuel : Nat) (parent : Option Nat) (cur : Internal) (key lsn : Nat)
    (value : Bytes) (root : Nat) (hsep : ∀ c ∈ cur.cells, c.key < key) :
    insertInternal (fuel+1) parent cur key lsn value root =
      (fetch cur.right >>= fun child =>
        callOn fuel (some cur.off) child key lsn value root >>= afterChild parent cur.off lsn) := by
  have hf : findPos (keysOfInternal cur) key = ((keysOfInternal cur).length, false) :=
    findPos_beyond _ _ fun x hx => by
      obtain ⟨c, hc, rfl⟩ := List.mem_map.mp hx
      exact hsep c hc
  have hc : childOf cur key = cur.right := by
    unfold childOf
    rw [hf, keysOfInternal, List.length_map, List.getElem?_eq_none (Nat.le_refl _)]
  rw [insertInternal_eq', hf, hc]
  rfl

section
variable (v0 : View) (t t' : Levels) (key lsn nf nf' : Nat) (value : Bytes)
  (hinv : Inv t nf) (lpre : List (Leaf × Bool)) (last : Leaf) (d : Bool)
  (hpre : t.leaves = lpre ++ [(last, d)]) (hk : ∀ a ∈ keys t, a < key)
  (hv : value.length ≤ c_maxValueSize) (hcase : AppCases t t' key lsn nf nf' value lpre last)
include hinv hpre hk hv hcase

/-- The call on the spine node `cur` of level `n`, whatever its parent, comes to its own `afterChild` with the
levels below `cur` final and a separator pending for `cur`.  (Induction over the level: the child of a higher
node is itself a spine node; its call is the induction hypothesis, `stepSome` its `afterChild`.) -/
theorem spineCall : ∀ (n : Nat) (lo : List (List (Internal × Bool))) (ipre : List (Internal × Bool))
    (cur : Internal) (dc : Bool) (hi) (s : Store) (fuel root : Nat) (parent : Option Nat),
    lo.length = n → t.inner = lo ++ (ipre ++ [(cur, dc)]) :: hi → n < fuel →
    s.hdr.nextFree = nf → Rep (view s) nf v0 t →
    ∃ s', insertInternal fuel parent cur key lsn value root s = afterChild parent cur.off lsn root s' ∧
      After lsn v0 t' nf' ipre cur hi s' := by
  intro n
  induction n with
  | zero =>
    intro lo ipre cur dc hi s fuel root parent hlo hin hfuel hnf hrep
    obtain ⟨f, rfl⟩ : ∃ f, fuel = f + 1 := ⟨fuel - 1, by omega⟩
    obtain rfl := List.eq_nil_of_length_eq_zero hlo
    rw [List.nil_append] at hin
    have hsep : ∀ x ∈ cur.cells, x.key < key := fun x hx =>
      seps_lt_key hinv hk (lvl := ipre ++ [(cur, dc)]) (by rw [hin]; simp) (p := (cur, dc)) (by simp) hx
    rw [insertInternal_descend _ _ _ _ _ _ _ hsep, right_leaf hinv.link hpre hin]
    obtain ⟨s1, e1, v1, n1, _⟩ := fetch_spec s last.off (.leaf last) d
      (Rep.atLeaf (levels_eta t hpre hin ▸ hrep)).1 rfl
    obtain ⟨s2, e2, hA⟩ := leafSome v0 t t' key lsn nf nf' value s1 root (n1.trans hnf) hinv (v1 ▸ hrep)
      lpre last d hpre hk hv hcase ipre cur dc _ hin
    exact ⟨s2, (bind_ok e1).trans (bind_ok e2), hA⟩
  | succ n ih =>
    intro lo ipre cur dc hi s fuel root parent hlo hin hfuel hnf hrep
    obtain ⟨f, rfl⟩ : ∃ f, fuel = f + 1 := ⟨fuel - 1, by omega⟩
    obtain ⟨lo', jl, rfl⟩ := (eq_nil_or_snoc lo).resolve_left fun h => by simp [h] at hlo
    obtain ⟨jpre, ⟨c, dcc⟩, rfl⟩ := (eq_nil_or_snoc jl).resolve_left
      (linked_levels_ne t.inner _ hinv.link jl (by rw [hin]; simp))
    have hsep : ∀ x ∈ cur.cells, x.key < key := fun x hx =>
      seps_lt_key hinv hk (lvl := ipre ++ [(cur, dc)]) (by rw [hin]; simp) (p := (cur, dc)) (by simp) hx
    rw [insertInternal_descend _ _ _ _ _ _ _ hsep, right_int hinv.link hin]
    have hin2 : t.inner = lo' ++ (jpre ++ [(c, dcc)]) :: (ipre ++ [(cur, dc)]) :: hi := by
      rw [hin]; simp
    obtain ⟨s1, e1, v1, n1, _⟩ := fetch_spec s c.off (.internal c) dcc
      (Rep.atInt (levels_eta t hpre hin2 ▸ hrep)).1 rfl
    obtain ⟨s2, e2, hA⟩ := ih lo' jpre c dcc ((ipre ++ [(cur, dc)]) :: hi) s1 f root (some cur.off)
      (by simpa using hlo) hin2 (by omega) (n1.trans hnf) (v1 ▸ hrep)
    obtain ⟨s3, e3, hA'⟩ := stepSome lsn v0 t' nf' jpre c ipre cur dc hi s2 root
      (hinv.cap.2 (ipre ++ [(cur, dc)]) (by rw [hin2]; simp) (cur, dc) (by simp)).2 hA
    exact ⟨s3, (bind_ok e1).trans (bind_ok (e2.trans e3)), hA'⟩

end
end Mkdb.Store
end

section
/-!
The theorems.  The two refusals are both from `refusal_at_route`: a refused insert walks down the route
of its key and only reads.
-/
set_option autoImplicit false
namespace Mkdb.Store
open Mkdb.Page Mkdb.Generated Mkdb.Tree

theorem insertKeyHeap_refines (s : Store) (t : Levels) (key lsn : Nat) (value : Bytes)
    (hH : Holds s t) (hI : Inv t s.hdr.nextFree) (hdepth : t.inner.length ≤ treeFuel)
    (t' : Levels) (nf' : Nat) (h : insertAppend t key lsn value s.hdr.nextFree = .ok (t', nf')) :
    ∃ s', insertKeyHeap ⟨rootOff t⟩ key lsn value s = .ok ⟨rootOff t'⟩ s' ∧
      Holds s' t' ∧ s'.hdr.nextFree = nf' ∧
      ∀ off, off ∉ offs t' → view s' off = view s off := by
  have hrep := Rep.of_holds hH hI
  obtain ⟨lpre, last, d, hpre, hlt, hv, hcase⟩ := insertAppend_inv_cases h
  have hk : ∀ a ∈ keys t, a < key := keys_lt_of_append hI.asc hI.ne hpre hlt
  suffices hfin : ∃ pg s1 s' r, fetch (rootOff t) s = .ok pg s1 ∧
      callOn treeFuel none pg key lsn value (rootOff t) s1 = .ok r s' ∧ Final (view s) t' nf' r s' by
    obtain ⟨pg, s1, s', r, e1, e2, hr, hrep', hn⟩ := hfin
    refine ⟨s', ?_, fun e he => hrep'.holds e he, hn, fun off ho => hrep'.frame off ho⟩
    rw [insertKeyHeap_eq, bind_ok e1, bind_ok e2, hr]
    rfl
  rcases eq_nil_or_snoc t.inner with hin | ⟨lo, top, hin⟩
  · -- the root is the only leaf
    obtain rfl := hI.link.only_leaf hin hpre
    rw [List.nil_append] at hpre
    have hroot : rootOff t = last.off := by simp [rootOff, hin, hpre]
    obtain ⟨s1, e1, v1, n1, _⟩ := fetch_spec s last.off (.leaf last) d
      (Rep.atLeaf (lpre := []) (levels_eta t hpre hin ▸ hrep)).1 rfl
    obtain ⟨s2, r, e2, hF⟩ := leafNone (view s) t t' key lsn _ nf' value s1 (rootOff t) n1 (v1 ▸ hrep)
      last d hpre (last_hasR_of_chain (lpre := []) hI.chain hpre) hk hv hcase hin hroot
    exact ⟨.leaf last, s1, s2, r, hroot ▸ e1, e2, hF⟩
  · -- the root is the only node of the last level: its call, then the last step of the unwinding
    obtain ⟨⟨p, dp⟩, rfl⟩ := List.length_eq_one_iff.mp (hI.link.top_len hin)
    have hroot : rootOff t = p.off := by rw [levels_eta t rfl hin, rootOff_snoc]; rfl
    have hin' : t.inner = lo ++ ([] ++ [(p, dp)]) :: [] := hin
    obtain ⟨s0, e0, v0, n0, _⟩ := fetch_spec s p.off (.internal p) dp
      (Rep.atInt (levels_eta t hpre hin' ▸ hrep)).1 rfl
    obtain ⟨s1, e1, hA⟩ := spineCall (view s) t t' key lsn _ nf' value hI lpre last d hpre hk hv hcase
      lo.length lo [] p dp [] s0 treeFuel p.off none rfl hin' (by rw [hin] at hdepth; simp at hdepth; exact hdepth)
      n0 (v0 ▸ hrep)
    obtain ⟨s2, r, e2, hF⟩ := stepNone lsn (view s) t' nf' [] p dp s1 p.off rfl hA
    exact ⟨.internal p, s0, s2, r, hroot ▸ e0, hroot ▸ e1.trans e2, hF⟩

/-- The representation is inductive, and other trees in the same file are not disturbed. -/
theorem insertKeyHeap_refines_forest (s : Store) (t : Levels) (key lsn : Nat) (value : Bytes)
    (hH : Holds s t) (hI : Inv t s.hdr.nextFree) (hdepth : t.inner.length ≤ treeFuel)
    (t' : Levels) (nf' : Nat) (h : insertAppend t key lsn value s.hdr.nextFree = .ok (t', nf')) :
    ∃ s', insertKeyHeap ⟨rootOff t⟩ key lsn value s = .ok ⟨rootOff t'⟩ s' ∧
      Holds s' t' ∧ Inv t' s'.hdr.nextFree ∧ s'.hdr.nextFree = nf' ∧ s.hdr.nextFree ≤ s'.hdr.nextFree ∧
      ∀ u, Holds s u → (∀ o ∈ offs u, o < s.hdr.nextFree ∧ o ∉ offs t) → Holds s' u := by
  obtain ⟨s', e, hH', hn, hframe⟩ := insertKeyHeap_refines s t key lsn value hH hI hdepth t' nf' h
  refine ⟨s', e, hH', by rw [hn]; exact insertAppend_inv t t' key lsn _ nf' value hI h, hn,
    by rw [hn]; exact insertAppend_nextFree t t' key lsn _ nf' value h, ?_⟩
  intro u hu hdis x hx
  have hxo : x.1 ∈ offs u := List.mem_map.mpr ⟨x, hx, rfl⟩
  obtain ⟨hlt, hnot⟩ := hdis x.1 hxo
  rw [hframe x.1 ?_]
  · exact hu x hx
  · intro hm
    rcases insertAppend_offs_new t t' key lsn _ nf' value h x.1 hm with h1 | h1
    · exact hnot h1
    · omega

/-! ### the refusals -/

/-- A refusal at the leaf the key is routed to is a refusal of the whole insert, and nothing the engine
sees changes: on its way down `insertInternal` only reads, and it takes the child `routeChild` names
unless the key is a separator - a stored key, so that the refusal is `keyExists` on the spot. -/
theorem refusal_at_route (e : SErr) (s : Store) (t : Levels) (nf key lsn : Nat) (value : Bytes)
    (hH : Holds s t) (hI : Inv t nf) (hdepth : t.inner.length ≤ treeFuel)
    (he : key ∈ keys t → e = .keyExists)
    (hleaf : ∀ p ∈ t.leaves, p.1.off = routeOff t key → ErrAt e s key lsn value 0 (.leaf p.1)) :
    ∃ s', insertKeyHeap ⟨rootOff t⟩ key lsn value s = .err e s' ∧
      Holds s' t ∧ s'.hdr.nextFree = s.hdr.nextFree ∧ ∀ off, view s' off = view s off := by
  obtain ⟨hm, hP⟩ := Lookup.descend (fun n => routeChild n key) (fun n => Lookup.routeChild_mem n key)
    (fun j off => ∃ n d, view s off = some (n, d) ∧ nodeOff n = off ∧ ErrAt e s key lsn value j n)
    t.inner (t.leaves.map (·.1.off)) 0 (show linked (t.leaves.map (·.1.off)) t.inner from hI.link) (by
      intro j lvl hl p hp ih
      refine ⟨.internal p.1, p.2, holds_int hH hl hp, rfl, errAt_internal e s p.1 key lsn value j ?_ ?_⟩
      · intro hf
        obtain ⟨c, hc, hck⟩ := List.mem_map.mp (findPos_found_mem _ _ hf)
        exact he (hck ▸ seps_in_keys hI hl hp hc)
      · intro hf
        rw [childOf_route _ _ hf]
        exact ih)
  rw [← Lookup.routeOff_eq] at hm hP
  rw [← Lookup.rootOff_eq, Nat.zero_add] at hP
  obtain ⟨p, hp, hpo⟩ := List.mem_map.mp hm
  obtain ⟨n, d, hvn, hoff, herr⟩ := hP ⟨.leaf p.1, p.2, hpo ▸ holds_leaf hH hp, hpo, hleaf p hp hpo⟩
  obtain ⟨s', e, v, nf⟩ := insertKeyHeap_err _ s (rootOff t) key lsn value _ n d hvn hoff herr hdepth
  exact ⟨s', e, fun e he => by rw [v]; exact hH e he, nf, fun off => by rw [v]⟩

theorem insertKeyHeap_refines_rowTooLarge (s : Store) (t : Levels) (key lsn : Nat) (value : Bytes)
    (hH : Holds s t) (hI : Inv t s.hdr.nextFree) (hdepth : t.inner.length ≤ treeFuel)
    (h : insertAppend t key lsn value s.hdr.nextFree = .error .rowTooLarge) :
    ∃ s', insertKeyHeap ⟨rootOff t⟩ key lsn value s = .err .rowTooLarge s' ∧
      Holds s' t ∧ s'.hdr.nextFree = s.hdr.nextFree ∧ ∀ off, view s' off = view s off := by
  obtain ⟨hnokey, hv⟩ := insertAppend_error h
  have hnk : key ∉ keys t := fun hm => by
    obtain ⟨c, hc, hck⟩ := List.mem_map.mp hm
    exact hnokey c hc hck
  refine refusal_at_route _ s t _ key lsn value hH hI hdepth (fun hm => absurd hm hnk) fun p hp _ => ?_
  refine errAt_leaf_tooLarge _ _ _ _ _ (fun hm => ?_) hv
  obtain ⟨c, hc, hck⟩ := List.mem_map.mp hm
  exact hnokey c (List.mem_flatMap.mpr ⟨p, hp, hc⟩) hck

theorem insertKeyHeap_refines_keyExists (s : Store) (t : Levels) (key lsn : Nat) (value : Bytes)
    (hH : Holds s t) (hI : Inv t s.hdr.nextFree) (hdepth : t.inner.length ≤ treeFuel)
    (h : insertAppend t key lsn value s.hdr.nextFree = .error .keyExists) :
    ∃ s', insertKeyHeap ⟨rootOff t⟩ key lsn value s = .err .keyExists s' ∧
      Holds s' t ∧ s'.hdr.nextFree = s.hdr.nextFree ∧ ∀ off, view s' off = view s off := by
  obtain ⟨c, hc, rfl⟩ := insertAppend_error h
  refine refusal_at_route _ s t _ c.key lsn value hH hI hdepth (fun _ => rfl) fun p hp hpo => ?_
  have hfind := find_at_route hI hp hpo hc
  exact errAt_leaf_exists _ _ _ _ _ (List.mem_map.mpr ⟨c, List.mem_of_find?_eq_some hfind, rfl⟩)
    (List.pairwise_map.mpr ((Lookup.keysAsc_split t hI.asc).1 p hp))

/-! ### the runtime cross-check never fires -/

theorem shows_of_holds {s : Store} {t : Levels} (hH : Holds s t) : Shows (view s) t :=
  ⟨fun _ hp => holds_leaf hH hp, fun _ hl _ hp => holds_int hH hl hp⟩

/-- the tree the cross-check reads out of the heap is the tree the heap holds -/
theorem ofHeap_view {s : Store} {t : Levels} (hH : Holds s t) (hI : Inv t s.hdr.nextFree)
    (hdepth : t.inner.length + 2 ≤ treeFuel) : Tree.ofHeap (view s) 64 (rootOff t) = some t := by
  have h64 : 64 = t.inner.length + 2 + (62 - t.inner.length) := by
    have : treeFuel = 64 := rfl
    omega
  rw [h64]
  exact ofHeap_of_pages (view s) t (shows_of_holds hH) hI.link _

theorem insertKey_eq_insertKeyHeap (s : Store) (t : Levels) (key lsn : Nat) (value : Bytes)
    (hH : Holds s t) (hI : Inv t s.hdr.nextFree) (hdepth : t.inner.length + 2 ≤ treeFuel)
    (hres : (∃ r, insertAppend t key lsn value s.hdr.nextFree = .ok r) ∨
      insertAppend t key lsn value s.hdr.nextFree = .error .keyExists ∨
      insertAppend t key lsn value s.hdr.nextFree = .error .rowTooLarge) :
    insertKey ⟨rootOff t⟩ key lsn value s = insertKeyHeap ⟨rootOff t⟩ key lsn value s := by
  have hd : t.inner.length ≤ treeFuel := by omega
  have hghost : ghostAgrees s ⟨rootOff t⟩ key lsn value (insertKeyHeap ⟨rootOff t⟩ key lsn value s) = true := by
    unfold ghostAgrees
    simp only [ofHeap_view hH hI hdepth]
    rcases hres with ⟨⟨t', nf'⟩, h⟩ | h | h
    · obtain ⟨s', e, hH', hn, _⟩ := insertKeyHeap_refines s t key lsn value hH hI hd t' nf' h
      rw [h, e]
      simp only [hn, beq_self_eq_true, Bool.true_and, List.all_eq_true]
      intro x hx
      obtain ⟨off, n, d⟩ := x
      have := hH' (off, n, d) hx
      simp only at this ⊢
      rw [this]
      exact beq_self_eq_true _
    · obtain ⟨s', e, _⟩ := insertKeyHeap_refines_keyExists s t key lsn value hH hI hd h
      rw [h, e]
    · obtain ⟨s', e, _⟩ := insertKeyHeap_refines_rowTooLarge s t key lsn value hH hI hd h
      rw [h, e]
  unfold insertKey
  simp only [hghost, if_true]

end Mkdb.Store
end
