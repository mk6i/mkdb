import Mkdb.Proofs.Select
/-!
C18: no SELECT can crash the engine (model level) - the ground the walk of the pipeline stands on.

`Wp E P m`: an `ok` result of `m` satisfies `P`, a panic site satisfies `E`.  Here: its rules, the loop
`mapX`, the column lookups (they return positions of the header), the comparison predicates, the header
of a select-list element, the sort (its one panic, `sortMsg`, and when it cannot occur: `Comparable`), the
shape of a parsed SELECT (`ParsedShape`; statements without it panic: the counterexamples of
`Mkdb/Props/C18.lean`).  The stages of
`evaluateSelect` are walked in `TypedWalk`, where also is what follows for well-shaped tables (every row
has as many values as the table has columns: the only `.panic` left is the sort comparator meeting two
values of different non-NULL types in one column).
-/
namespace Mkdb.Exec.NoPanicP
open Mkdb.Sql

/-! ### the result monad -/

@[simp] theorem bind_ok {α β} (a : α) (f : α → X β) : (X.ok a >>= f) = f a := rfl
@[simp] theorem bind_err {α β} (e : EErr) (f : α → X β) : ((X.err e : X α) >>= f) = X.err e := rfl
@[simp] theorem bind_panic {α β} (s : String) (f : α → X β) :
    ((X.panic s : X α) >>= f) = X.panic s := rfl
@[simp] theorem pure_eq_ok {α} (a : α) : (pure a : X α) = X.ok a := rfl

/-- weakest-precondition style predicate: an `ok` result satisfies `P`, a panic site satisfies `E`
(errors are always allowed) -/
def Wp {α} (E : String → Prop) (P : α → Prop) : X α → Prop
  | .ok a => P a
  | .err _ => True
  | .panic s => E s

@[simp] theorem Wp_ok {α} (E : String → Prop) (P : α → Prop) (a : α) : Wp E P (.ok a) = P a := rfl
@[simp] theorem Wp_pure {α} (E : String → Prop) (P : α → Prop) (a : α) :
    Wp E P (pure a) = P a := rfl
@[simp] theorem Wp_err {α} (E : String → Prop) (P : α → Prop) (e : EErr) :
    Wp E P (.err e) = True := rfl
@[simp] theorem Wp_panic {α} (E : String → Prop) (P : α → Prop) (s : String) :
    Wp E P (.panic s) = E s := rfl

theorem Wp.bind {α β} {E : String → Prop} {P : α → Prop} {Q : β → Prop} {m : X α} {f : α → X β}
    (hm : Wp E P m) (hf : ∀ a, P a → Wp E Q (f a)) : Wp E Q (m >>= f) := by
  cases m with
  | ok a => exact hf a hm
  | err e => trivial
  | panic s => exact hm

theorem Wp.mono {α} {E E' : String → Prop} {P Q : α → Prop} {m : X α}
    (hm : Wp E P m) (hP : ∀ a, P a → Q a) (hE : ∀ s, E s → E' s) : Wp E' Q m := by
  cases m with
  | ok a => exact hP a hm
  | err e => trivial
  | panic s => exact hE s hm

theorem Wp.ite {α} {E : String → Prop} {P : α → Prop} {c : Prop} [Decidable c] {a b : X α}
    (ha : Wp E P a) (hb : Wp E P b) : Wp E P (if c then a else b) := by
  split <;> assumption

theorem Wp.of_ok {α} {E : String → Prop} {P : α → Prop} {m : X α} {a : α}
    (hm : Wp E P m) (h : m = .ok a) : P a := by subst h; exact hm

theorem Wp.of_panic {α} {E : String → Prop} {P : α → Prop} {m : X α} {s : String}
    (hm : Wp E P m) (h : m = .panic s) : E s := by subst h; exact hm

/-- "never panics" -/
abbrev NoP : String → Prop := fun _ => False

theorem Wp.not_panic {α} {P : α → Prop} {m : X α} (hm : Wp NoP P m) (s : String) :
    m ≠ .panic s := fun h => hm.of_panic h

/-! ### the loops `mapX`, `filterX` -/

theorem mapX_wp {α β} {E : String → Prop} (Q : α → β → Prop) (f : α → X β) :
    ∀ l : List α, (∀ a ∈ l, Wp E (Q a) (f a)) →
      Wp E (fun bs => bs.length = l.length ∧ ∀ b ∈ bs, ∃ a ∈ l, Q a b) (mapX f l)
  | [], _ => ⟨rfl, fun _ hb => nomatch hb⟩
  | a :: rest, h => by
    unfold mapX
    apply Wp.bind (h a (by simp))
    intro b hb
    apply Wp.bind (mapX_wp Q f rest (fun a' ha' => h a' (List.mem_cons_of_mem _ ha')))
    intro tl htl
    simp only [Wp_pure, List.length_cons, List.mem_cons]
    refine ⟨by rw [htl.1], ?_⟩
    intro b' hb'
    rcases hb' with rfl | hb'
    · exact ⟨a, Or.inl rfl, hb⟩
    · obtain ⟨a', ha', hq⟩ := htl.2 b' hb'
      exact ⟨a', Or.inr ha', hq⟩

theorem mapX_safe {α β} {E : String → Prop} {f : α → X β} {l : List α}
    (h : ∀ a ∈ l, Wp E (fun _ => True) (f a)) : Wp E (fun _ => True) (mapX f l) :=
  (mapX_wp (fun _ _ => True) f l h).mono (fun _ _ => trivial) (fun _ e => e)

theorem filterX_wp {α : Type} {E : String → Prop} {p : α → X Bool} :
    ∀ l : List α, (∀ a ∈ l, Wp E (fun _ => True) (p a)) → Wp E (fun out => out.Sublist l) (filterX p l)
  | [], _ => List.Sublist.refl _
  | a :: rest, h => by
    unfold filterX
    apply Wp.bind (h a List.mem_cons_self)
    intro b _
    apply Wp.bind (filterX_wp rest fun a' ha' => h a' (List.mem_cons_of_mem _ ha'))
    intro tl htl
    simp only [Wp_pure]
    split
    · exact htl.cons_cons a
    · exact htl.cons a

theorem mapX_ok_length {α β} {f : α → X β} {l : List α} {bs : List β}
    (h : mapX f l = .ok bs) : bs.length = l.length := by
  have := mapX_wp (E := fun _ => True) (fun _ _ => True) f l (fun a _ => by
    cases f a <;> trivial)
  exact (this.of_ok h).1

theorem mapX_no_panic {α β} {f : α → X β} {l : List α}
    (h : ∀ a ∈ l, ∀ s, f a ≠ .panic s) (s : String) : mapX f l ≠ .panic s := by
  have := mapX_wp (E := NoP) (fun _ _ => True) f l (fun a ha => by
    have := h a ha
    cases hfa : f a with
    | ok b => trivial
    | err e => trivial
    | panic s => exact absurd hfa (this s))
  exact this.not_panic s

/-! ### lookups return valid positions -/

theorem lookupFieldIdx_wp {E : String → Prop} (fields : List Field) (n : Bytes) :
    Wp E (· < fields.length) (lookupFieldIdx fields n) := by
  unfold lookupFieldIdx
  split
  · trivial
  · rename_i i heq
    have : i ∈ List.filter (fun i => (fields[i]?.map (·.column)) == some n)
        (List.range fields.length) := by rw [heq]; simp
    exact List.mem_range.mp (List.mem_filter.mp this).1
  · trivial

theorem lookupColIdxByID_wp {E : String → Prop} (fields : List Field) (tid n : Bytes) :
    Wp E (· < fields.length) (lookupColIdxByID fields tid n) := by
  unfold lookupColIdxByID
  split
  · rename_i i heq
    exact List.mem_range.mp (List.mem_of_find?_eq_some heq)
  · trivial

theorem findColumn_wp {E : String → Prop} (c : ColRef) (fields : List Field) :
    Wp E (· < fields.length) (findColumn c fields) := by
  unfold findColumn
  split
  · exact lookupFieldIdx_wp _ _
  · exact lookupColIdxByID_wp _ _ _

theorem lookupFieldIdx_lt {fields : List Field} {n : Bytes} {i : Nat}
    (h : lookupFieldIdx fields n = .ok i) : i < fields.length :=
  (lookupFieldIdx_wp (E := NoP) fields n).of_ok h

theorem lookupColIdxByID_lt {fields : List Field} {tid n : Bytes} {i : Nat}
    (h : lookupColIdxByID fields tid n = .ok i) : i < fields.length :=
  (lookupColIdxByID_wp (E := NoP) fields tid n).of_ok h

theorem findColumn_lt {c : ColRef} {fields : List Field} {i : Nat}
    (h : findColumn c fields = .ok i) : i < fields.length :=
  (findColumn_wp (E := NoP) c fields).of_ok h

theorem okOf_findColumn_nil (c : ColRef) : okOf (findColumn c []) = none :=
  okOf_eq_of_iff fun i => ⟨fun h => absurd (findColumn_lt h) (Nat.not_lt_zero i), nofun⟩

theorem findColumn_no_panic (c : ColRef) (fields : List Field) (s : String) :
    findColumn c fields ≠ .panic s :=
  (findColumn_wp (E := NoP) c fields).not_panic s

/-! ### the expression evaluator -/

/-- a column that resolves is a position of every row as long as the header: the lookup followed by
an access to the row cannot panic on the access -/
theorem findColumn_bind_wp {α} {E : String → Prop} {P : α → Prop} (c : ColRef) {fields : List Field}
    {n : Nat} (h : n = fields.length) {k : Nat → X α} (hk : ∀ idx, idx < n → Wp E P (k idx)) :
    Wp E P (findColumn c fields >>= k) :=
  Wp.bind (findColumn_wp c fields) fun idx hidx => hk idx (h ▸ hidx)

theorem evalPrimary_wp {E : String → Prop} (v : VExpr) {fields : List Field} {row : Row}
    (h : row.length = fields.length) : Wp E (fun _ => True) (evalPrimary v fields row) := by
  unfold evalPrimary
  split
  · trivial
  · refine findColumn_bind_wp _ h fun idx hidx => ?_
    rw [List.getElem?_eq_getElem hidx]
    trivial

theorem evalPred_wp {E : String → Prop} (p : Pred) {fields : List Field} {row : Row}
    (h : row.length = fields.length) : Wp E (fun _ => True) (evalPred p fields row) := by
  unfold evalPred
  apply Wp.bind (evalPrimary_wp _ h)
  intro lhs _
  apply Wp.bind (evalPrimary_wp _ h)
  intro rhs _
  -- the four ordering comparisons share one table on the two values: no entry of it is a panic
  have ord : ∀ (f : Int → Int → Bool) (g : Bytes → Bytes → Bool) (d : EErr),
      Wp E (fun _ => True) (match lhs, rhs with
        | .int a, .int b => X.ok (f a b)
        | .int _, _ => .err .incompat
        | .str a, .str b => .ok (g a b)
        | .str _, _ => .err .incompat
        | _, _ => .err d) := by
    intro f g d
    cases lhs <;> cases rhs <;> trivial
  exact .ite trivial (.ite trivial (.ite trivial (.ite (ord ..) (.ite (ord ..) (.ite (ord ..)
    (.ite (ord ..) trivial))))))

/-! ### well-shaped tables -/

/-- every row of every table the executor can read has one value per column -/
def WellShaped (fetch : Bytes → Option Table) : Prop :=
  ∀ n t, fetch n = some t → ∀ r ∈ t.rows, r.length = t.cols.length

/-- a fetch that knows finitely many names is well shaped if its tables for those names are: a finite check -/
theorem WellShaped.of_names {fetch : Bytes → Option Table} (names : List Bytes)
    (hout : ∀ n, n ∉ names → fetch n = none)
    (hin : ∀ n ∈ names, ∀ t ∈ fetch n, ∀ r ∈ t.rows, r.length = t.cols.length) : WellShaped fetch := by
  intro n t h r hr
  by_cases hn : n ∈ names
  · exact hin n hn t h r hr
  · rw [hout n hn] at h; cases h

/-! ### projection -/

theorem headerOf_wp {E : String → Prop} (d : DerivedCol) (fields : List Field) :
    Wp E (fun _ => True) (headerOf d fields) := by
  unfold headerOf
  dsimp only
  split
  · trivial
  · trivial
  · trivial
  · refine findColumn_bind_wp _ rfl fun idx hidx => ?_
    rw [List.getElem?_eq_getElem hidx]
    trivial
  · trivial

theorem projectColumns_ok_ne_nil {sl : List DerivedCol} {fields : List Field} {rows : List Row}
    {p : List Row × List Field} (h : projectColumns sl fields rows = .ok p) : sl ≠ [] := by
  rintro rfl
  cases h

/-! ### aggregation -/

/-- a select list that is just `*` has no column a GROUP BY reference could designate: the rows come back
as they are, or the GROUP BY is refused -/
theorem aggregateRows_star (a : Bytes) (groupBy : List ColRef) (rows : List Row) :
    aggregateRows [⟨.star, a⟩] groupBy rows = if groupBy = [] then .ok rows else .err .groupByNotSelected := by
  cases groupBy <;> rfl

/-- the positions in the select list of the GROUP BY columns, as `aggregateRows` resolves them -/
def groupIdxs (sl : List DerivedCol) (groupBy : List ColRef) : X (List Nat) :=
  mapX (fun g => match groupIdx sl g with | some i => pure i | none => X.err .groupByNotSelected) groupBy

/-! ### sorting: the one panic, and the values that cause it -/

/-- the message of the one panic the executor has: the sort comparator on two values it cannot compare -/
def sortMsg : String := "sortColumns: no comparison available"

/-- two values the sort comparator can compare: one is NULL, or both are of one type -/
def Comparable (a b : Val) : Prop :=
  a = .null ∨ b = .null ∨ (∃ x y, a = .int x ∧ b = .int y) ∨ (∃ x y, a = .str x ∧ b = .str y) ∨
    (∃ x y, a = .bool x ∧ b = .bool y)

/-- the same condition as `SelectP.Comparable`, spelled as a disjunction -/
theorem comparable_iff {a b : Val} : Comparable a b ↔ SelectP.Comparable a b := by
  cases a <;> cases b <;> simp [Comparable, SelectP.Comparable]

theorem cmpVal_comparable {a b : Val} (h : Comparable a b) (s : String) : cmpVal a b ≠ .panic s :=
  fun e => (SelectP.cmpVal_panic_iff a b).mp ⟨s, e⟩ (comparable_iff.mp h)

theorem sortKeys_wp {E : String → Prop} (ob : List SortSpec) (hdr : List Field) :
    Wp E (fun keys : List (Nat × Bool) =>
        ∀ k ∈ keys, ∃ s ∈ ob, findColumn s.key hdr = .ok k.1)
      (mapX (fun (s : SortSpec) => match findColumn s.key hdr with
        | .ok i => X.ok (i, s.desc)
        | .err .fieldNotFound => .err .sortFieldNotFound
        | .err e => .err e
        | .panic p => .panic p) ob) := by
  refine (mapX_wp (fun (s : SortSpec) (k : Nat × Bool) => findColumn s.key hdr = .ok k.1) _ ob ?_).mono
    (fun keys hk => hk.2) (fun _ e => e)
  intro s _
  split
  · rename_i i heq; exact heq
  · trivial
  · trivial
  · rename_i p heq
    exact absurd heq (findColumn_no_panic _ _ _)

/-- `sortColumns` returns rows of its input; its only panic is `sortMsg`, raised when two rows hold
incomparable values in a column an ORDER BY key resolves to -/
theorem sortColumns_wp (ob : List SortSpec) (hdr : List Field) (rows : List Row) :
    Wp (fun s => s = sortMsg ∧ ∃ sp ∈ ob, ∃ i, findColumn sp.key hdr = .ok i ∧ ∃ a ∈ rows, ∃ b ∈ rows,
          ¬ Comparable ((a[i]?).getD .null) ((b[i]?).getD .null))
      (fun out => ∀ r ∈ out, r ∈ rows) (sortColumns ob hdr rows) := by
  unfold sortColumns
  apply Wp.bind (sortKeys_wp ob hdr)
  intro keys hkeys
  dsimp only
  split
  · rename_i hbad
    refine ⟨rfl, ?_⟩
    simp only [List.any_eq_true] at hbad
    obtain ⟨a, ha, b, hb, ⟨i, d⟩, hk, hpan⟩ := hbad
    obtain ⟨sp, hsp, hfc⟩ := hkeys (i, d) hk
    refine ⟨sp, hsp, i, hfc, a, ha, b, hb, fun hc => ?_⟩
    dsimp only at hpan
    split at hpan
    · rename_i p heq
      exact cmpVal_comparable hc p heq
    · cases hpan
  · exact fun r hr => (SelectP.sortRows_perm keys rows).mem_iff.mp hr

/-! ### OFFSET / LIMIT -/

/-- no written bound negative: `cutRows` slices within range -/
theorem cutRows_wp {E : String → Prop} {lim : LimitOffset} (h : Spec.boundsOK lim = true) (rows : List Row) :
    Wp E (fun out => ∀ r ∈ out, r ∈ rows) (cutRows lim rows) := by
  rw [SelectP.cutRows_of_boundsOK h]
  intro r hr
  unfold SelectP.cut at hr
  split at hr
  · split at hr
    · exact List.mem_of_mem_drop (List.mem_of_mem_take hr)
    · exact List.mem_of_mem_drop hr
  · split at hr
    · exact List.mem_of_mem_take hr
    · exact hr

/-! ### the select lists and bounds the parser builds -/

/-- **The shape of a SELECT the parser builds, as far as `EvaluateSelect` relies on it** (every parsed
SELECT has it: `C18_parsed_select_has_the_shape` in `Mkdb/Props/C18.lean`): the select list is not empty
(`selectList[0]`), it is `*` alone or does not start with `*` (the grouping loop indexes the rows with
select-list positions), and no written LIMIT / OFFSET is negative (`rows[offset:]`, `rows[0:limit]`).
Decidable. -/
def ParsedShape (q : Select) : Prop :=
  q.list ≠ [] ∧ (isStar q.list = true → q.list.length = 1) ∧ Spec.boundsOK q.lim = true

instance (q : Select) : Decidable (ParsedShape q) := by unfold ParsedShape; infer_instance

theorem ParsedShape.ne_nil {q : Select} (h : ParsedShape q) : q.list ≠ [] := h.1
theorem ParsedShape.bounds {q : Select} (h : ParsedShape q) : Spec.boundsOK q.lim = true := h.2.2

theorem ParsedShape.star {q : Select} (h : ParsedShape q) :
    (∃ a, q.list = [⟨.star, a⟩]) ∨ isStar q.list = false := by
  cases hs : isStar q.list with
  | false => exact .inr rfl
  | true =>
    left
    have hl := h.2.1 hs
    cases hq : q.list with
    | nil => rw [hq] at hl; cases hl
    | cons d rest =>
      rw [hq] at hl hs
      cases rest with
      | nil =>
        obtain ⟨item, a⟩ := d
        simp only [isStar, beq_iff_eq] at hs
        exact ⟨a, by rw [show item = SelItem.star from hs]⟩
      | cons _ _ => simp at hl

/-- the select lists the grouping code is safe on: no leading `*` (the rows are projected), or no
grouping, or `*` alone (a GROUP BY is refused) -/
def ListOK (q : Select) : Prop :=
  isStar q.list = false ∨ (hasAggr q.list = false ∧ q.groupBy = []) ∨ ∃ a, q.list = [⟨.star, a⟩]

theorem ParsedShape.listOK {q : Select} (h : ParsedShape q) : ListOK q :=
  h.star.elim (fun e => .inr (.inr e)) .inl

theorem ParsedShape.of_star {q : Select} (hb : Spec.boundsOK q.lim = true) {a : Bytes}
    (h : q.list = [⟨.star, a⟩]) : ParsedShape q :=
  ⟨by rw [h]; exact List.cons_ne_nil _ _, fun _ => (by rw [h]; rfl), hb⟩

theorem ParsedShape.of_nostar {q : Select} (hne : q.list ≠ []) (hb : Spec.boundsOK q.lim = true)
    (h : isStar q.list = false) : ParsedShape q :=
  ⟨hne, fun e => (by rw [h] at e; cases e), hb⟩

/-! ### examples -/

private def exT : Table := ⟨[[105], [110]], [[.int 1, .str [97]], [.int 2, .null], [.int 2, .str [98]]]⟩
private def exFetch : Bytes → Option Table := fun n => if n = [116] then some exT else none

private theorem exFetch_wellShaped : WellShaped exFetch :=
  .of_names [[116]] (fun n hn => if_neg (by simpa using hn)) (by decide)

/-- on a LEFT JOIN of `t` with itself: every row has 4 values -/
example : nestedLoopJoin exFetch
    (.join (.table ⟨[116], some [97]⟩) .left ⟨[116], some [98]⟩
      (.pred ⟨.col ⟨[97], [105]⟩, Generated.t_LT, .col ⟨[98], [105]⟩⟩)) =
    .ok ([[.int 1, .str [97], .int 2, .null], [.int 1, .str [97], .int 2, .str [98]],
          [.int 2, .null, .null, .null], [.int 2, .str [98], .null, .null]],
         [⟨[97], [105]⟩, ⟨[97], [110]⟩, ⟨[98], [105]⟩, ⟨[98], [110]⟩]) := rfl

example : findColumn ⟨[], [110]⟩ [⟨[116], [105]⟩, ⟨[116], [110]⟩] = .ok 1 := by decide +kernel

/-- a query with WHERE, GROUP BY, COUNT and ORDER BY evaluates without panic -/
example : evaluateSelect exFetch
    { list := [⟨.expr (.val (.col ⟨[], [105]⟩)), []⟩, ⟨.count (some ⟨[], [110]⟩), [99]⟩],
      from_ := some (.table ⟨[116], none⟩),
      groupBy := [⟨[], [105]⟩],
      orderBy := [⟨⟨[], [99]⟩, true⟩] } =
    .ok ([[.int 1, .int 1], [.int 2, .int 1]], [⟨[116], [105]⟩, ⟨[], [99]⟩]) := by decide +kernel

/-- `SELECT *, count(*), 1` (hand-built: the parser builds `*` alone) -/
def exStarAgg : Select :=
  { list := [⟨.star, []⟩, ⟨.count none, []⟩, ⟨.expr (.val (.lit (.int 1))), []⟩],
    from_ := some (.table ⟨[116], none⟩) }

/-- GROUP BY without an aggregate goes through the grouping code without panic:
`SELECT i FROM t GROUP BY i` is one row per distinct `i` -/
example : evaluateSelect exFetch
    { list := [⟨.expr (.val (.col ⟨[], [105]⟩)), []⟩],
      from_ := some (.table ⟨[116], none⟩),
      groupBy := [⟨[], [105]⟩] } =
    .ok ([[.int 1], [.int 2]], [⟨[116], [105]⟩]) := by decide +kernel

/-- the one remaining panic: an output column holding an int and a string, sorted -/
example : sortColumns [⟨⟨[], [105]⟩, false⟩] [⟨[], [105]⟩] [[.int 1], [.str [97]]] =
    .panic "sortColumns: no comparison available" := by decide +kernel

example : sortColumns [⟨⟨[], [105]⟩, true⟩] [⟨[], [105]⟩] [[.int 1], [.null], [.int 3]] =
    .ok [[.int 3], [.int 1], [.null]] := by decide +kernel

example : aggregateRows [⟨.expr (.val (.col ⟨[], [107]⟩)), []⟩, ⟨.count none, []⟩] [⟨[], [107]⟩]
    [[.str [97], .int 1], [.str [98], .int 1], [.str [97], .int 1]]
    = .ok [[.str [97], .int 2], [.str [98], .int 1]] := by decide +kernel

end Mkdb.Exec.NoPanicP
