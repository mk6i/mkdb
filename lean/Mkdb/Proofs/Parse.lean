import Mkdb.Proofs.ParseRunSelect
import Mkdb.Proofs.ParseRunStmt
import Mkdb.Proofs.ScanSize
/-!
The pass over the productions (`ParseRun*`) closed with `parseStmt`, and what is read off it: panic-freedom
(`NoPanic`), the size and depth bounds (`Sz`), sufficient fuel (`Tri`), independence of the texts the parser
does not read (`Sim`); then `parseSQL`: scanner and parser composed, and the witness inputs of `Mkdb/Props/C09.lean`.
-/

section
namespace Mkdb.Sql
open Mkdb.Scan Mkdb.Generated RunTac

section
variable {f n : Nat}

/-- `p.Cur()` followed by `p.Advance()`: the token looked at is the token consumed, unless the
list is empty (then it is the EOF token and nothing is consumed). -/
theorem Run.curAdvance {β} {E : Prop} {g g' : Token → P β} {V : β → β → Nat → Nat → Prop}
    (h1 : ∀ ty x x', (textual ty = true → x = x') → 1 ≤ n →
      Run (g ⟨ty, x⟩) (g' ⟨ty, x'⟩) (n - 1) E fun b b' l y => V b b' (1 + l) (x.length + y))
    (h0 : n = 0 → Run (g eofToken) (g' eofToken) 0 E V) :
    Run (Sql.curTok >>= fun cur => Sql.advance >>= fun _ => g cur)
      (Sql.curTok >>= fun cur => Sql.advance >>= fun _ => g' cur) n E V := by
  intro ts ts' hs hts
  cases hs with
  | nil => exact h0 hts.symm [] [] .nil rfl
  | @cons t t' r r' h hr =>
    obtain ⟨ty, x, x', hx⟩ := h.ts
    rw [List.length_cons] at hts
    obtain ⟨g2, g3⟩ := h1 ty x x' hx (by omega) r r' hr (by omega)
    show (E → g ⟨ty, x⟩ r ≠ .fuel) ∧ Agree V (⟨ty, x⟩ :: r) (g ⟨ty, x⟩ r) (g' ⟨ty, x'⟩ r')
    refine ⟨g2, ?_⟩
    cases hg : g ⟨ty, x⟩ r <;> cases hg' : g' ⟨ty, x'⟩ r' <;> rw [hg, hg'] at g3 <;> try exact g3
    obtain ⟨hr2, pre, e, v⟩ := g3
    exact ⟨hr2, ⟨ty, x⟩ :: pre, by rw [e]; rfl, by rw [List.length_cons, Nat.add_comm]; exact v⟩

/-- The statement is paid for by the tokens consumed, the keyword it starts with included. -/
theorem Run.parseStmt : Run (parseStmt f) (parseStmt f) n (n + 2 ≤ f) (Same (StmtQ 9)) := by
  unfold Sql.parseStmt
  refine Run.curAdvance (fun ty x x' _ _ => ?_) fun _ =>
    (Run.fail : Run (Sql.fail .syntax) (Sql.fail .syntax) _ _ _)
  dsimp only
  refine Run.ite ?_ ?_
  · lastw Run.parseCreate.fuel
  refine Run.ite ?_ ?_
  · step Run.parseSelect.fuel
    retw
  refine Run.ite ?_ ?_
  · lastw Run.parseInsert.fuel
  refine Run.ite ?_ ?_
  · lastw Run.parseUpdate.fuel
  refine Run.ite ?_ ?_
  · step Run.requireIdent
    retw
  refine Run.ite ?_ ?_
  · lastw Run.parseDelete.fuel
  refine Run.ite ?_ ?_
  · lastw Run.parseShow
  · exact Run.fail

end

end Mkdb.Sql
end

section
/-!
Panic-freedom of the parser (C09): the predicate `NoPanic`, which the productions have by their
`Run` lemmas (`Run.noPanic`). -/
namespace Mkdb.Sql
open Mkdb.Scan Mkdb.Generated

structure NoPanic {α} (p : P α) : Prop where
  h : ∀ ts s, p ts ≠ .panic s

theorem NoPanic.advance : NoPanic advance := by constructor; intro ts s h; cases h

theorem requireMatch_ty (tys : List Int) (ts : List Token) (t : Token) (rest : List Token)
    (h : requireMatch tys ts = .ok t rest) : tys.contains t.ty = true := by
  obtain ⟨_, _, q⟩ := ((Run.requireKw (E := True)).diag ts rfl).2.2 t rest h
  exact q.2

/-- panic-freedom is the first part of `Run` -/
theorem Run.noPanic {α} {p : P α} {E : Nat → Prop} {V : α → α → Nat → Nat → Prop}
    (h : ∀ n, Run p p n (E n) V) : NoPanic p :=
  ⟨fun ts s => ((h _).diag ts rfl).1 s⟩

theorem NoPanic.requireInt : NoPanic requireInt := Run.noPanic fun _ => Run.requireInt (E := True)

theorem NoPanic.predicate : NoPanic predicate := Run.noPanic fun _ => Run.predicate (E := True)

theorem NoPanic.orCond (f : Nat) : NoPanic (orCond f) := Run.noPanic fun _ => Run.orCond

theorem NoPanic.parseStmt (f : Nat) : NoPanic (parseStmt f) := Run.noPanic fun _ => Run.parseStmt

end Mkdb.Sql
end

section
/-!
C09 "never exhausts memory": the size of what a production returns is bounded by the
weight `3 * tokens + text bytes` of the consumed prefix (plus a constant), its condition depth
by the number of tokens consumed: `Sz` read off `Run`.
-/
namespace Mkdb.Sql
open Mkdb.Scan Mkdb.Generated

section
variable {α : Type} {p : P α} {E : Nat → Prop} {Q : α → Nat → Nat → Prop} {Q' : α → Nat → Prop}
  {n : Nat}

/-- `Sz` for a weight that is a function of the number of tokens and their text bytes -/
theorem Run.sz {tw : Token → Nat} {w : Nat → Nat → Nat} (h : ∀ k, Run p p k (E k) (Same Q))
    (hw : ∀ pre, wsum tw pre = w pre.length (textBytes pre))
    (hQ : ∀ a l x, Q a l x → Q' a (n + w l x)) : Sz tw p n Q' := by
  intro ts a rest hr
  obtain ⟨pre, e, q⟩ := ((h _).same ts rfl).2.2 a rest hr
  exact ⟨pre, e, hw pre ▸ hQ _ _ _ q⟩

theorem Run.szCost (h : ∀ k, Run p p k (E k) (Same Q)) (hQ : ∀ a l x, Q a l x → Q' a (n + (3 * l + x))) :
    Sz tokCost p n Q' :=
  Run.sz h wsum_tokCost hQ

theorem Run.szOne (h : ∀ k, Run p p k (E k) (Same Q)) (hQ : ∀ a l x, Q a l x → Q' a (n + l)) :
    Sz tokOne p n Q' :=
  Run.sz (w := fun l _ => l) h wsum_tokOne hQ

end

section
variable {tw : Token → Nat}

theorem Sz.requireInt {n : Nat} : Sz tw requireInt n (fun _ m => n ≤ m) := by
  intro ts a rest h
  obtain ⟨pre, e, _⟩ := ((Run.requireInt (E := True)).same ts rfl).2.2 a rest h
  exact ⟨pre, e, Nat.le_add_right _ _⟩

end

theorem Sz.predicate {n : Nat} : Sz tokCost predicate n (fun c m => c.size + n ≤ m) :=
  Run.szCost (fun _ => Run.predicate (E := True)) fun _ _ _ h => by simp only [CondQ] at h; omega

theorem Sz.orCond {f n : Nat} : Sz tokCost (orCond f) n (fun c m => c.size + n ≤ m) :=
  Run.szCost (fun _ => Run.orCond) fun _ _ _ h => by simp only [CondQ] at h; omega

/-- **The AST of a statement is linear in the tokens consumed**: `parseStmt` returns the token
list it did not consume (a suffix), and the size of the statement is at most 3 per consumed
token plus the text bytes of the consumed tokens plus 9. -/
theorem Sz.parseStmt {f n : Nat} :
    Sz tokCost (parseStmt f) n (fun s m => s.size + n ≤ m + 9) :=
  Run.szCost (fun _ => Run.parseStmt) fun _ _ _ h => by simp only [StmtQ] at h; omega

theorem parseStmt_size (f : Nat) (ts : List Token) (s : Stmt) (rest : List Token)
    (h : parseStmt f ts = .ok s rest) :
    ∃ pre, ts = pre ++ rest ∧ s.size ≤ 3 * pre.length + textBytes pre + 9 := by
  obtain ⟨pre, e, q⟩ := (Run.parseStmt.same _ rfl).2.2 s rest h
  exact ⟨pre, e, q.1.1⟩

theorem SzD.predicate {n : Nat} : Sz tokOne predicate n (fun c m => c.depth + n ≤ m) :=
  Run.szOne (fun _ => Run.predicate (E := True)) fun _ _ _ h => by simp only [CondQ] at h; omega

/-- **The depth of a condition is at most the number of tokens it was parsed from.** -/
theorem SzD.orCond {f n : Nat} : Sz tokOne (orCond f) n (fun c m => c.depth + n ≤ m) :=
  Run.szOne (fun _ => Run.orCond) fun _ _ _ h => by simp only [CondQ] at h; omega

theorem SzD.parseStmt {f n : Nat} :
    Sz tokOne (parseStmt f) n (fun s m => s.condDepth + n ≤ m) :=
  Run.szOne (fun _ => Run.parseStmt) fun _ _ _ h => by simp only [StmtQ] at h; omega

theorem parseStmt_condDepth (f : Nat) (ts : List Token) (s : Stmt) (rest : List Token)
    (h : parseStmt f ts = .ok s rest) :
    ∃ pre, ts = pre ++ rest ∧ s.condDepth ≤ pre.length := by
  obtain ⟨pre, e, q⟩ := (Run.parseStmt.same _ rfl).2.2 s rest h
  exact ⟨pre, e, q.1.2⟩

end Mkdb.Sql
end

section
/-!
The initial fuel of the parser model is sufficient: `.fuel` is unreachable (for the scanner:
`scanSQL_ne_fuel` in `Mkdb/Proofs/ScanSize.lean`).  `Tri` is read off the pass over the productions in
`Mkdb/Proofs/ParseRun.lean`. -/

namespace Mkdb.Sql
open Mkdb.Scan Mkdb.Generated

/-- On every token list of length `n` the action `p` does not run out of fuel, and when it
succeeds its value and the length of the remaining token list satisfy `Q`. -/
def Tri {α} (p : P α) (n : Nat) (Q : α → Nat → Prop) : Prop :=
  ∀ ts : List Token, ts.length = n →
    p ts ≠ .fuel ∧ ∀ a rest, p ts = .ok a rest → Q a rest.length

/-- `Tri` from `Run`: with enough fuel, what `Run` says of the tokens consumed says as much of
the tokens left -/
theorem Run.tri {α} {p : P α} {n : Nat} {E : Prop} {Q : α → Nat → Nat → Prop} {Q' : α → Nat → Prop}
    (h : Run p p n E (Same Q)) (hE : E) (hQ : ∀ a l x, Q a l x → l ≤ n → Q' a (n - l)) : Tri p n Q' := by
  intro ts hts
  obtain ⟨_, h2, h3⟩ := h.same ts hts
  refine ⟨h2 hE, fun a rest hr => ?_⟩
  obtain ⟨pre, e, q⟩ := h3 a rest hr
  have hl : pre.length + rest.length = n := by rw [← hts, e, List.length_append]
  have := hQ a _ _ q (by omega)
  rwa [show n - pre.length = rest.length by omega] at this

theorem Tri.ite {α} {c : Prop} [Decidable c] {p q : P α} {n : Nat} {Q : α → Nat → Prop}
    (hp : c → Tri p n Q) (hq : ¬c → Tri q n Q) : Tri (if c then p else q) n Q := by
  split
  · exact hp ‹_›
  · exact hq ‹_›

theorem Tri.advance {n : Nat} : Tri advance n (fun _ m => m = n - 1) := by
  intro ts hts
  refine ⟨(by intro h; cases h), ?_⟩
  intro a rest h; cases h; rw [List.length_tail, hts]

theorem Tri.requireInt {n : Nat} : Tri requireInt n (fun _ m => m + 1 = n) :=
  (Run.requireInt (E := True)).tri trivial fun _ _ _ h _ => by omega

theorem Tri.panic {α} {s : String} {n : Nat} {Q : α → Nat → Prop} : Tri (panic s : P α) n Q := by
  intro ts _
  exact ⟨(by intro h; cases h), (by intro a rest h; cases h)⟩

theorem Tri.predicate {n : Nat} : Tri predicate n (fun _ m => m + 1 ≤ n) :=
  Run.predicate.tri trivial fun _ _ _ h _ => by simp only [CondQ] at h; omega

theorem Tri.orCond {f n : Nat} (h : n + 2 ≤ f) : Tri (orCond f) n (fun _ m => m + 1 ≤ n) :=
  Run.orCond.tri h fun _ _ _ h _ => by simp only [CondQ] at h; omega

theorem Tri.parseStmt {f n : Nat} (h : n + 2 ≤ f) :
    Tri (parseStmt f) n (fun _ m => m ≤ n) :=
  Run.parseStmt.tri h fun _ _ _ _ _ => by omega

theorem parseStmt_ne_fuel (ts : List Token) (f : Nat) (h : ts.length + 2 ≤ f) :
    parseStmt f ts ≠ .fuel :=
  (Tri.parseStmt h ts rfl).1

theorem parseTokens_ne_fuel (ts : List Token) : parseTokens ts ≠ .fuel :=
  fun h => parseStmt_ne_fuel ts (ts.length + 2) (Nat.le_refl _) (parseTokens_fuel h)

theorem parseSQL_ne_fuel (input : Input) : parseSQL input ≠ .fuel := by
  unfold parseSQL
  have := scanSQL_ne_fuel input
  split
  · exact parseTokens_ne_fuel _
  · contradiction

end Mkdb.Sql
end

section
/-!
The parser model reads the `text` of a token only when its type is IDENT, INT or STR: two token lists
that agree on every type, and on the text of the IDENT/INT/STR tokens (`ToksSim`, in
`Mkdb/Proofs/TokSim.lean`), parse to the same outcome.  For the productions this is what their `Run`
lemmas say of the two runs (`Mkdb/Proofs/ParseRun.lean`).
-/
namespace Mkdb.Sql
open Mkdb.Scan Mkdb.Generated

theorem Run.simEq {α} {p : P α} {E : Nat → Prop} {Q : α → Nat → Nat → Prop}
    (h : ∀ n, Run p p n (E n) (Same Q)) : Sim Eq p p :=
  Run.sim h fun _ _ _ _ h => h.1

theorem Sim.advance : Sim Eq advance advance := Run.simEq fun _ => Run.advance (E := True)

theorem Sim.requireInt : Sim Eq Sql.requireInt Sql.requireInt := Run.simEq fun _ => Run.requireInt (E := True)

theorem Sim.predicate : Sim Eq Sql.predicate Sql.predicate := Run.simEq fun _ => Run.predicate (E := True)

theorem Sim.orCond (f : Nat) : Sim Eq (Sql.orCond f) (Sql.orCond f) := Run.simEq fun _ => Run.orCond

theorem Sim.parseStmt (f : Nat) : Sim Eq (Sql.parseStmt f) (Sql.parseStmt f) := Run.simEq fun _ => Run.parseStmt

theorem dropSemis_sim {ts ts' : List Token} (h : ToksSim ts ts') :
    ToksSim (dropSemis ts) (dropSemis ts') := by
  induction h with
  | nil => exact .nil
  | @cons t t' r r' h hr ih =>
    unfold dropSemis
    rw [← h.1]
    split
    · exact ih
    · exact .cons h hr

theorem atEnd_sim {ts ts' : List Token} (h : ToksSim ts ts') : atEnd ts = atEnd ts' := by
  unfold atEnd
  rw [(headD_sim (dropSemis_sim h)).1]

/-- `Parser.Parse` does not depend on the text of any token other than IDENT, INT, STR tokens. -/
theorem parseTokens_textSim (ts ts' : List Token) (h : ToksSim ts ts') :
    parseTokens ts = parseTokens ts' := by
  unfold parseTokens
  have hs := Sim.parseStmt (ts.length + 2) ts ts' h
  rw [← ToksSim.length_eq h]
  revert hs
  cases parseStmt (ts.length + 2) ts <;> cases parseStmt (ts.length + 2) ts' <;>
    simp only [RSim, false_imp_iff, imp_self]
  · intro ⟨h1, h2⟩
    rw [h1, atEnd_sim h2]
  · intro h1; rw [h1]
  · intro h1; rw [h1]

/-- `select x from T where y = true;` with the keywords spelled in two ways -/
example :
    parseTokens [⟨t_SELECT, "select".toUTF8.toList⟩, ⟨t_IDENT, [120]⟩, ⟨t_FROM, "from".toUTF8.toList⟩,
        ⟨t_IDENT, [84]⟩, ⟨t_WHERE, "where".toUTF8.toList⟩, ⟨t_IDENT, [121]⟩, ⟨t_EQ, [61]⟩,
        ⟨t_TRUE, "true".toUTF8.toList⟩, ⟨t_SEMICOLON, [59]⟩, ⟨t_EOF, []⟩] =
      parseTokens [⟨t_SELECT, "SELECT".toUTF8.toList⟩, ⟨t_IDENT, [120]⟩, ⟨t_FROM, "From".toUTF8.toList⟩,
        ⟨t_IDENT, [84]⟩, ⟨t_WHERE, []⟩, ⟨t_IDENT, [121]⟩, ⟨t_EQ, []⟩,
        ⟨t_TRUE, "TRUE".toUTF8.toList⟩, ⟨t_SEMICOLON, []⟩, ⟨t_EOF, [1, 2, 3]⟩] :=
  parseTokens_textSim _ _ (by
    repeat' (first | exact .nil | apply ToksSim.cons)
    all_goals exact ⟨rfl, by decide⟩)

/-- (the statement of the example above is parsed successfully, so the equality is not one of errors) -/
example :
    (match parseTokens [⟨t_SELECT, "SELECT".toUTF8.toList⟩, ⟨t_IDENT, [120]⟩, ⟨t_FROM, "From".toUTF8.toList⟩,
        ⟨t_IDENT, [84]⟩, ⟨t_WHERE, []⟩, ⟨t_IDENT, [121]⟩, ⟨t_EQ, []⟩,
        ⟨t_TRUE, "TRUE".toUTF8.toList⟩, ⟨t_SEMICOLON, []⟩, ⟨t_EOF, [1, 2, 3]⟩] with
      | .ok (.select _) => true
      | _ => false) = true := by decide

/-- the text of an IDENT token does matter (the hypothesis of the theorem cannot drop `textual`) -/
example : parseTokens [⟨t_USE, []⟩, ⟨t_IDENT, [97]⟩, ⟨t_EOF, []⟩] ≠
    parseTokens [⟨t_USE, []⟩, ⟨t_IDENT, [98]⟩, ⟨t_EOF, []⟩] := by
  have h1 : parseTokens [⟨t_USE, []⟩, ⟨t_IDENT, [97]⟩, ⟨t_EOF, []⟩] = .ok (.use [97]) := rfl
  have h2 : parseTokens [⟨t_USE, []⟩, ⟨t_IDENT, [98]⟩, ⟨t_EOF, []⟩] = .ok (.use [98]) := rfl
  rw [h1, h2]
  intro h
  injection h with h
  injection h with h
  exact absurd h (by decide)

end Mkdb.Sql
end

section
/-!
C09 "never exhausts memory": what a successful `parseSQL` went through (`parseSQL_ok`), and the concrete inputs
used as non-vacuity / tightness witnesses in `Mkdb/Props/C09.lean`, where the bounds are combined.
-/
namespace Mkdb.Sql
open Mkdb.Scan Mkdb.Generated

theorem parseSQL_ok (input : Input) (s : Stmt) (h : parseSQL input = .ok s) :
    ∃ ts rest, scanSQL input = .ok ts ∧ parseStmt (ts.length + 2) ts = .ok s rest := by
  unfold parseSQL at h
  split at h
  · obtain ⟨rest, hp, _⟩ := parseTokens_ok h
    exact ⟨_, rest, ‹_›, hp⟩
  · cases h

/-! ## Witness inputs -/

def asciiInput (cs : List Nat) : Input := cs.map asciiRune

/-- `SELECT a` -/
def inSelectA : Input := asciiInput [83, 69, 76, 69, 67, 84, 32, 97]
/-- `SELECT a,a,a,a` -/
def inSelectAAAA : Input := asciiInput [83, 69, 76, 69, 67, 84, 32, 97, 44, 97, 44, 97, 44, 97]
/-- `SELECT a OR a OR a` -/
def inSelectOr : Input :=
  asciiInput [83, 69, 76, 69, 67, 84, 32, 97, 32, 79, 82, 32, 97, 32, 79, 82, 32, 97]
/-- `a,b,c` -/
def inCommas : Input := asciiInput [97, 44, 98, 44, 99]
/-- `/*` (a comment that is never closed) -/
def inOpenComment : Input := asciiInput [47, 42]
/-- `/*` as two runes WITHOUT source bytes: not something UTF-8 decoding produces, but an
`Input` of the model -/
def inOpenCommentNoBytes : Input := [⟨47, [], false, false, 47⟩, ⟨42, [], false, false, 42⟩]

def tkSelectA : List Token := [⟨t_SELECT, [83, 69, 76, 69, 67, 84]⟩, ⟨t_IDENT, [97]⟩]
/-- `SELECT a` as tokens whose keyword carries no text (what `3 * tokens + text + 9` charges exactly) -/
def tkSelectA0 : List Token := [⟨t_SELECT, []⟩, ⟨t_IDENT, [97]⟩]
def tkSelectOr : List Token :=
  [⟨t_SELECT, [83, 69, 76, 69, 67, 84]⟩, ⟨t_IDENT, [97]⟩, ⟨t_OR, [79, 82]⟩, ⟨t_IDENT, [97]⟩,
   ⟨t_OR, [79, 82]⟩, ⟨t_IDENT, [97]⟩]

def stSelectA : Stmt := .select { list := [⟨.expr (.val (.col ⟨[], [97]⟩)), []⟩] }

def sizeOfParse (input : Input) : Nat := match parseSQL input with | .ok s => s.size | _ => 0
def depthOfParse (input : Input) : Nat := match parseSQL input with | .ok s => s.condDepth | _ => 0

end Mkdb.Sql
end
