import Mkdb.Proofs.Redo
import Mkdb.Proofs.RefineScan
import Mkdb.Proofs.ReplayParts
import Mkdb.Proofs.TreeUpdate
/-!
The concrete replay of UPDATE and DELETE records (`Mkdb.Engine.replayOne`, `replayAll`) **is** the
abstract redo rule (`Mkdb.Redo.redo`, `replay`) under the abstraction `absPages`: the page the engine
sees at an offset (`view`), with the LSN the node carries.  Hence the abstract theorems
(`Redo.replay_image`, ...) speak about the concrete recovery model for such logs.

The link covers cell records only: an INSERT record names the root of its table, not the page it changes, so it
is no page-local record of `Redo`.  The theorems about real logs (`Torn*`: `torn_replay` over `mixAt`, the
concrete form of `Redo.Image`) therefore do not go through `absPages`; they take from here the computation of
one cell record (`CellRec`, `replayOne_cell_eq`).  Nothing discharges `absPages s = Redo.Image …` for a run of
the engine beyond the two-record example below.
-/
set_option autoImplicit false
namespace Mkdb.RedoLink
open Mkdb.Page Mkdb.Generated Mkdb.Store Mkdb.Engine Mkdb.Refine

/-! ### the abstraction -/

/-- what the engine sees at every offset, as abstract pages: LSN = the LSN the node carries -/
def absPages (s : Store) : Redo.Pages (Option Node) := fun off =>
  match view s off with
  | some (n, _) => ⟨nodeLSN n, some n⟩
  | none => ⟨0, none⟩

/-- the leaf after `updateCell` + `markDirty(lsn)` -/
def updLeaf (lsn cell : Nat) (val : Bytes) (l : Leaf) : Leaf :=
  { l with cells := l.cells.map (fun c => if c.key == cell then { c with val := val } else c), lsn := lsn }

/-- the leaf after the tombstone of `cell` was set, + `markDirty(lsn)` -/
def delLeaf (lsn cell : Nat) (l : Leaf) : Leaf :=
  { l with cells := l.cells.map (fun c => if c.key == cell then { c with deleted := true } else c), lsn := lsn }

/-- page-local change of an UPDATE record (the node's own `lsn` field is stamped too, so that the
abstract page LSN stays the LSN of the content) -/
def updF (lsn cell : Nat) (val : Bytes) : Option Node → Option Node
  | some (.leaf l) => some (.leaf (updLeaf lsn cell val l))
  | some (.internal i) => some (.internal { i with lsn := lsn })
  | none => none

def delF (lsn cell : Nat) : Option Node → Option Node
  | some (.leaf l) => some (.leaf (delLeaf lsn cell l))
  | some (.internal i) => some (.internal { i with lsn := lsn })
  | none => none

/-- the record as a record of the abstract rule `Redo`; meant for UPDATE and DELETE records only: every other
operation code is read as a DELETE, and the theorems about `toAbs` assume `RecFits` -/
def toAbs (r : WalRec) : Redo.Rec (Option Node) :=
  ⟨r.lsn, r.page, if r.op = c_OpUpdate then updF r.lsn r.cell r.val else delF r.lsn r.cell⟩

def bumpHdr (h : Header) (lsn : Nat) : Header := { h with nextLSN := max h.nextLSN lsn }

/-! ### fetch of a present page -/

theorem fetch_frame (s s' : Store) (off : Nat) (n : Node) (h : fetch off s = .ok n s') :
    s' = { s with mem := s'.mem } := by
  unfold fetch at h
  split at h
  · injection h with _ h2; subst h2; rfl
  · injection h with _ h2; subst h2; rfl

theorem fetch_present (s : Store) (off : Nat) (n : Node) (d : Bool)
    (hv : view s off = some (n, d)) (hoff : nodeOff n = off) :
    ∃ mem1, fetch off s = .ok n { s with mem := mem1 } ∧
      ∀ k, view { s with mem := mem1 } k = view s k := by
  obtain ⟨s', hf, hsv⟩ := fetch_held s off n d hv hoff
  have hfr := fetch_frame s s' off n hf
  refine ⟨s'.mem, ?_, ?_⟩
  · rw [← hfr]; exact hf
  · intro k; rw [← hfr]; exact hsv k

theorem view_setMem (s : Store) (h : Header) (mem1 : List (Nat × MNode)) (k : Nat) (m : MNode) (o : Nat) :
    view { s with hdr := h, mem := assocSet mem1 k m } o =
      if o = k then some (m.node, m.dirty) else view { s with mem := mem1 } o := by
  simp only [view, assocGet_assocSet]
  by_cases ho : o = k
  · simp [ho]
  · simp [ho]

/-! ### one record -/

/-- an UPDATE or DELETE record that can be redone, with the cell change `f` it redoes -/
def CellRec (r : WalRec) (f : LeafCell → LeafCell) : Prop :=
  (r.op = c_OpUpdate ∧ r.val.length ≤ c_maxValueSize ∧ f = fun c => { c with val := r.val }) ∨
  (r.op = c_OpDelete ∧ f = fun c => { c with deleted := true })

theorem CellRec.key {r : WalRec} {f : LeafCell → LeafCell} (h : CellRec r f) (c : LeafCell) :
    (f c).key = c.key := by
  rcases h with ⟨_, _, rfl⟩ | ⟨_, rfl⟩ <;> rfl

/-- the leaf after its cell `cell` was changed by `f`, + `markDirty(lsn)`: `updLeaf` and `delLeaf` -/
def cellLeaf (f : LeafCell → LeafCell) (lsn cell : Nat) (l : Leaf) : Leaf :=
  { l with cells := l.cells.map (Tree.updCell f cell), lsn := lsn }

theorem replayOne_cell_eq (r : WalRec) (s : Store) (l : Leaf) (d : Bool) (f : LeafCell → LeafCell)
    (hr : CellRec r f) (hv : view s r.page = some (.leaf l, d)) (hoff : l.off = r.page)
    (hcell : l.cells.any (fun c => c.key == r.cell) = true) :
    ∃ mem1, (∀ k, view { s with mem := mem1 } k = view s k) ∧
      replayOne r s =
        (if r.lsn ≤ l.lsn then { s with hdr := bumpHdr s.hdr r.lsn, mem := mem1 }
         else { s with hdr := bumpHdr s.hdr r.lsn,
                       mem := assocSet mem1 l.off ⟨.leaf (cellLeaf f r.lsn r.cell l), true⟩ },
         none, false) := by
  have hins : r.op ≠ c_OpInsert := by
    rcases hr with ⟨h, _⟩ | ⟨h, _⟩ <;> rw [h] <;> decide
  have hrr : raiseRec s r = { s with hdr := bumpHdr s.hdr r.lsn } := by
    unfold raiseRec bumpHdr
    rw [if_neg (by simpa using hins)]
  obtain ⟨mem1, hf, hsv⟩ := fetch_present { s with hdr := bumpHdr s.hdr r.lsn } r.page (.leaf l) d hv hoff
  refine ⟨mem1, fun k => hsv k, ?_⟩
  rw [replayOne_eq_body, hrr, replayBody_fetched hf]
  by_cases hl : r.lsn ≤ l.lsn
  · rw [if_pos hl, replayOn_skip (show r.lsn ≤ nodeLSN (.leaf l) from hl)]
  rw [if_neg hl]
  rcases hr with ⟨hop, hlen, rfl⟩ | ⟨hop, rfl⟩
  · rw [replayOn_upd (Nat.not_le.mp hl) hop]
    have hlen' : ¬ r.val.length > c_maxValueSize := Nat.not_lt.mpr hlen
    simp only [replayUpd, hcell, hlen', decide_false, Bool.not_true, Bool.or_false, Bool.false_eq_true, if_false]
    rfl
  · rw [replayOn_del (Nat.not_le.mp hl) hop]
    simp only [replayDel, hcell, Bool.not_true, Bool.false_eq_true, if_false]
    rfl

theorem view_hdr_irrel (s : Store) (h : Header) (mem1 : List (Nat × MNode)) (o : Nat) :
    view { s with hdr := h, mem := mem1 } o = view { s with mem := mem1 } o := rfl

theorem absPages_present (s : Store) (off : Nat) (n : Node) (d : Bool) (hv : view s off = some (n, d)) :
    absPages s off = ⟨nodeLSN n, some n⟩ := by
  simp only [absPages, hv]

theorem abs_of_step (r : WalRec) (s : Store) (l l' : Leaf) (d : Bool) (mem1 : List (Nat × MNode))
    (f : Option Node → Option Node)
    (hv : view s r.page = some (.leaf l, d)) (hoff : l.off = r.page)
    (hsv : ∀ k, view { s with mem := mem1 } k = view s k)
    (hl' : l'.lsn = r.lsn) (hf : f (some (.leaf l)) = some (.leaf l')) :
    absPages (if r.lsn ≤ l.lsn then { s with hdr := bumpHdr s.hdr r.lsn, mem := mem1 }
              else { s with hdr := bumpHdr s.hdr r.lsn, mem := assocSet mem1 l.off ⟨.leaf l', true⟩ }) =
      Redo.redo ⟨r.lsn, r.page, f⟩ (absPages s) := by
  have hp : absPages s r.page = ⟨l.lsn, some (.leaf l)⟩ := absPages_present s r.page _ d hv
  funext o
  unfold Redo.redo
  simp only [hp]
  by_cases hle : r.lsn ≤ l.lsn
  · simp only [hle, if_true]
    simp only [absPages, view_hdr_irrel, hsv]
  · simp only [hle, if_false]
    by_cases ho : o = r.page
    · subst ho
      rw [Redo.apply_same]
      simp only [hp, hf]
      simp only [absPages, view_setMem, hoff, if_true, nodeLSN, hl']
    · rw [Redo.apply_other _ _ _ ho]
      simp only [absPages, view_setMem, hoff, ho, if_false, hsv]

/-! ### a whole log -/

/-- the side conditions of one record: UPDATE or DELETE, its page is a present leaf filed under
its own offset and holding the cell, and (UPDATE) the value fits a cell -/
def RecFits (r : WalRec) (s : Store) : Prop :=
  (r.op = c_OpUpdate ∨ r.op = c_OpDelete) ∧
  ∃ l d, view s r.page = some (.leaf l, d) ∧ l.off = r.page ∧
    l.cells.any (fun c => c.key == r.cell) = true ∧ (r.op = c_OpUpdate → r.val.length ≤ c_maxValueSize)

/-- the side conditions hold for every record at the moment the concrete replay reaches it -/
def LogFits : List WalRec → Store → Prop
  | [], _ => True
  | r :: rest, s => RecFits r s ∧ LogFits rest (replayOne r s).1

theorem RecFits.cellRec {r : WalRec} {s : Store} (h : RecFits r s) :
    ∃ f, CellRec r f ∧ ∀ l : Leaf, (toAbs r).f (some (.leaf l)) = some (.leaf (cellLeaf f r.lsn r.cell l)) := by
  obtain ⟨hop, _, _, _, _, _, hlen⟩ := h
  rcases hop with hop | hop
  · exact ⟨_, .inl ⟨hop, hlen hop, rfl⟩, fun l => by simp only [toAbs, hop, if_true]; rfl⟩
  · have hne : ¬ r.op = c_OpUpdate := by rw [hop]; decide
    exact ⟨_, .inr ⟨hop, rfl⟩, fun l => by simp only [toAbs, hne, if_false]; rfl⟩

/-- **Replay of an UPDATE or DELETE record is the abstract redo step** (the skip case included): no
error, no silent abort, the abstract pages change by `Redo.redo`, and data file, file header and the
other header fields stay (`nextLSN` is raised to at least the record's LSN). -/
theorem replayOne_is_redo (r : WalRec) (s : Store) (h : RecFits r s) :
    (replayOne r s).2 = (none, false) ∧
    absPages (replayOne r s).1 = Redo.redo (toAbs r) (absPages s) ∧
    (replayOne r s).1.disk = s.disk ∧ (replayOne r s).1.dhdr = s.dhdr ∧
    (replayOne r s).1.ghost = s.ghost ∧
    (replayOne r s).1.hdr = { s.hdr with nextLSN := max s.hdr.nextLSN r.lsn } := by
  obtain ⟨f, hf, hfa⟩ := h.cellRec
  obtain ⟨_, l, d, hv, hoff, hcell, _⟩ := h
  obtain ⟨mem1, hsv, he⟩ := replayOne_cell_eq r s l d f hf hv hoff hcell
  rw [he]
  exact ⟨rfl, abs_of_step r s l _ d mem1 (toAbs r).f hv hoff hsv rfl (hfa l),
    by split <;> exact ⟨rfl, rfl, rfl, rfl⟩⟩

/-- **The concrete replay of a log of UPDATE / DELETE records is the abstract replay**: it runs to
the end without error or silent abort, and what the engine sees afterwards is `Redo.replay` of the
abstracted log over what it saw before. -/
theorem replayAll_is_replay (log : List WalRec) (s : Store) (h : LogFits log s) :
    (replayAll log s).2 = (none, false) ∧
    absPages (replayAll log s).1 = Redo.replay (log.map toAbs) (absPages s) := by
  induction log generalizing s with
  | nil => exact ⟨rfl, rfl⟩
  | cons r rest ih =>
    obtain ⟨hr, hrest⟩ := h
    obtain ⟨hflag, habs, _⟩ := replayOne_is_redo r s hr
    rw [replayAll_cons_ok r rest s hflag, List.map_cons, Redo.replay_cons, ← habs]
    exact ih _ hrest

theorem replayAll_frame (log : List WalRec) (s : Store) (h : LogFits log s) :
    (replayAll log s).1.disk = s.disk ∧ (replayAll log s).1.dhdr = s.dhdr ∧
    (replayAll log s).1.ghost = s.ghost ∧
    (replayAll log s).1.hdr =
      { s.hdr with nextLSN := log.foldl (fun m r => max m r.lsn) s.hdr.nextLSN } := by
  induction log generalizing s with
  | nil => exact ⟨rfl, rfl, rfl, rfl⟩
  | cons r rest ih =>
    obtain ⟨hr, hrest⟩ := h
    obtain ⟨hflag, _, hd, hdh, hg, hh⟩ := replayOne_is_redo r s hr
    rw [replayAll_cons_ok r rest s hflag]
    obtain ⟨i1, i2, i3, i4⟩ := ih _ hrest
    refine ⟨i1.trans hd, i2.trans hdh, i3.trans hg, ?_⟩
    rw [i4, hh, List.foldl_cons]

/-! ### side conditions checked on the crashed store only

UPDATE and DELETE keep a page a leaf, keep its offset and keep its keys, so it is enough that
every record fits the store the replay starts from. -/

theorem any_key_map (cells : List LeafCell) (g : LeafCell → LeafCell) (hg : ∀ c, (g c).key = c.key)
    (k : Nat) : (cells.map g).any (fun c => c.key == k) = cells.any (fun c => c.key == k) := by
  rw [List.any_map]
  congr 1
  funext c
  simp only [Function.comp, hg]

theorem recFits_step (r r' : WalRec) (s : Store) (h : RecFits r s) (h' : RecFits r' s) :
    RecFits r' (replayOne r s).1 := by
  obtain ⟨f, hf, _⟩ := h.cellRec
  obtain ⟨_, l, d, hv, hoff, hcell, _⟩ := h
  obtain ⟨hop', l1, d1, hv1, hoff1, hcell1, hlen1⟩ := h'
  obtain ⟨mem1, hsv, he⟩ := replayOne_cell_eq r s l d f hf hv hoff hcell
  refine ⟨hop', ?_⟩
  rw [he]
  by_cases hle : r.lsn ≤ l.lsn
  · rw [if_pos hle]
    exact ⟨l1, d1, by rw [view_hdr_irrel, hsv]; exact hv1, hoff1, hcell1, hlen1⟩
  rw [if_neg hle]
  by_cases hpg : r'.page = r.page
  · -- the page of `r`: its leaf with the cell changed, which keeps the keys
    have hl : l1 = l := by
      rw [hpg, hv] at hv1
      simp only [Option.some.injEq, Prod.mk.injEq, Node.leaf.injEq] at hv1
      exact hv1.1.symm
    subst hl
    refine ⟨cellLeaf f r.lsn r.cell l1, true, ?_, hoff1, ?_, hlen1⟩
    · rw [view_setMem, if_pos (hpg.trans hoff.symm)]
    · show (l1.cells.map (Tree.updCell f r.cell)).any _ = true
      rw [any_key_map _ _ (Tree.updCell_key f r.cell hf.key)]
      exact hcell1
  · refine ⟨l1, d1, ?_, hoff1, hcell1, hlen1⟩
    rw [view_setMem, if_neg (fun h => hpg (h.trans hoff)), hsv]
    exact hv1

/-- every record fits the store the replay STARTS from (`LogFits` asks it of the store the replay has reached) -/
def StaticFits (log : List WalRec) (s : Store) : Prop := ∀ r ∈ log, RecFits r s

theorem logFits_of_static (log : List WalRec) (s : Store) (h : StaticFits log s) : LogFits log s := by
  induction log generalizing s with
  | nil => trivial
  | cons r rest ih =>
    have hr : RecFits r s := h r (List.mem_cons_self ..)
    refine ⟨hr, ih _ ?_⟩
    intro r' hr'
    exact recFits_step r r' s hr (h r' (List.mem_cons_of_mem _ hr'))

/-! ### the abstract theorems, about the concrete replay -/

/-- **Concrete recovery reconstructs the state the statements built.**  If what the engine sees of
the crashed store is an image of the history (`Redo.Image`: every page is the cached page as of
*some* earlier moment `k p`, i.e. any flush schedule, any torn flush) and LSNs increase
(`Redo.LogOK`), then `replayAll` runs through and every page afterwards is the page the
statements had built. -/
theorem concrete_recovery_reconstructs (log : List WalRec) (s : Store)
    (init : Redo.Pages (Option Node)) (k : Nat → Nat)
    (hfit : LogFits log s)
    (himg : absPages s = Redo.Image (log.map toAbs) init k)
    (hok : Redo.LogOK (log.map toAbs) init) :
    (replayAll log s).2 = (none, false) ∧
    ∀ p, absPages (replayAll log s).1 p = Redo.run (log.map toAbs) init p := by
  obtain ⟨hflag, habs⟩ := replayAll_is_replay log s hfit
  refine ⟨hflag, fun p => ?_⟩
  rw [habs, himg]
  exact Redo.replay_image (log.map toAbs) init k hok p

theorem concrete_recovery_reconstructs_static (log : List WalRec) (s : Store)
    (init : Redo.Pages (Option Node)) (k : Nat → Nat)
    (hfit : StaticFits log s)
    (himg : absPages s = Redo.Image (log.map toAbs) init k)
    (hok : Redo.LogOK (log.map toAbs) init) :
    (replayAll log s).2 = (none, false) ∧
    ∀ p, absPages (replayAll log s).1 p = Redo.run (log.map toAbs) init p :=
  concrete_recovery_reconstructs log s init k (logFits_of_static log s hfit) himg hok

theorem recFits_replayAll (log : List WalRec) (s : Store) (h : StaticFits log s) (r' : WalRec)
    (h' : RecFits r' s) : RecFits r' (replayAll log s).1 := by
  induction log generalizing s with
  | nil => exact h'
  | cons r rest ih =>
    have hr : RecFits r s := h r (List.mem_cons_self ..)
    rw [replayAll_cons_ok r rest s (replayOne_is_redo r s hr).1]
    refine ih _ ?_ (recFits_step r r' s hr h')
    intro r'' hr''
    exact recFits_step r r'' s hr (h r'' (List.mem_cons_of_mem _ hr''))

/-- **Running the concrete recovery a second time changes no page.** -/
theorem concrete_recovery_idempotent (log : List WalRec) (s : Store)
    (init : Redo.Pages (Option Node)) (k : Nat → Nat)
    (hfit : StaticFits log s)
    (himg : absPages s = Redo.Image (log.map toAbs) init k)
    (hok : Redo.LogOK (log.map toAbs) init) :
    (replayAll log (replayAll log s).1).2 = (none, false) ∧
    ∀ p, absPages (replayAll log (replayAll log s).1).1 p = absPages (replayAll log s).1 p := by
  have hfit2 : StaticFits log (replayAll log s).1 := fun r hr => recFits_replayAll log s hfit r (hfit r hr)
  obtain ⟨_, habs1⟩ := replayAll_is_replay log s (logFits_of_static log s hfit)
  obtain ⟨hflag2, habs2⟩ := replayAll_is_replay log _ (logFits_of_static log _ hfit2)
  refine ⟨hflag2, fun p => ?_⟩
  rw [habs2, habs1, himg]
  exact Redo.replay_idempotent (log.map toAbs) init k hok p

/-! ### non-vacuity -/

/-- one leaf page with two cells in the data file, nothing cached -/
def exLeaf : Leaf := ⟨4096, 5, false, false, 0, 0, [⟨1, false, [1]⟩, ⟨2, false, [2]⟩]⟩
def exStore : Store := { disk := [(4096, .leaf exLeaf)] }

/-- an UPDATE of cell 1 and a DELETE of cell 2 -/
def exLog : List WalRec := [⟨c_OpUpdate, 6, 4096, 1, [9]⟩, ⟨c_OpDelete, 7, 4096, 2, []⟩]

/-- the data file after a flush between the two statements -/
def exStore1 : Store :=
  { disk := [(4096, .leaf ⟨4096, 6, false, false, 0, 0, [⟨1, false, [9]⟩, ⟨2, false, [2]⟩]⟩)] }

/-- what both statements built -/
def exFinal : Leaf := ⟨4096, 7, false, false, 0, 0, [⟨1, false, [9]⟩, ⟨2, true, [2]⟩]⟩

theorem ex_static : StaticFits exLog exStore := by
  intro r hr
  simp only [exLog, List.mem_cons, List.not_mem_nil, or_false] at hr
  rcases hr with rfl | rfl
  · exact ⟨Or.inl rfl, exLeaf, false, rfl, rfl, by decide, fun _ => by decide⟩
  · exact ⟨Or.inr rfl, exLeaf, false, rfl, rfl, by decide, fun _ => by decide⟩

theorem ex_static1 : StaticFits exLog exStore1 := by
  intro r hr
  simp only [exLog, List.mem_cons, List.not_mem_nil, or_false] at hr
  rcases hr with rfl | rfl
  · exact ⟨Or.inl rfl, _, false, rfl, rfl, by decide, fun _ => by decide⟩
  · exact ⟨Or.inr rfl, _, false, rfl, rfl, by decide, fun _ => by decide⟩

/-- the concrete replay, evaluated: both records redone over the unflushed file … -/
example : (replayAll exLog exStore).2 = (none, false) ∧
    view (replayAll exLog exStore).1 4096 = some (.leaf exFinal, true) := by decide

/-- … and only the second over the file flushed in between (the first is skipped: LSN 6 ≤ 6) -/
example : (replayAll exLog exStore1).2 = (none, false) ∧
    view (replayAll exLog exStore1).1 4096 = some (.leaf exFinal, true) := by decide

/-- the abstract side of the same computation -/
example : Redo.run (exLog.map toAbs) (absPages exStore) 4096 = ⟨7, some (.leaf exFinal)⟩ := rfl

theorem absPages_oneDisk (off : Nat) (n : Node) (p : Nat) :
    absPages { disk := [(off, n)] } p = if p = off then ⟨nodeLSN n, some n⟩ else ⟨0, none⟩ := by
  by_cases hp : p = off
  · subst hp
    simp [absPages, view, assocGet]
  · have : ¬ off = p := fun h => hp h.symm
    simp [absPages, view, assocGet, hp, this]

theorem ex_logOK : Redo.LogOK (exLog.map toAbs) (absPages exStore) := by
  refine ⟨by decide, ?_⟩
  intro r hr p
  have hle : (absPages exStore p).lsn ≤ 5 := by
    rw [exStore, absPages_oneDisk]
    split
    · exact Nat.le_refl 5
    · exact Nat.zero_le 5
  simp only [exLog, List.map_cons, List.map_nil, List.mem_cons, List.not_mem_nil, or_false] at hr
  rcases hr with rfl | rfl
  · exact Nat.lt_of_le_of_lt hle (by decide)
  · exact Nat.lt_of_le_of_lt hle (by decide)

/-- the unflushed file is the image "no page ever written" … -/
theorem ex_image0 : absPages exStore = Redo.Image (exLog.map toAbs) (absPages exStore) (fun _ => 0) := rfl

/-- … and the file flushed in between is the image "page written after the first record" -/
theorem ex_image1 : absPages exStore1 = Redo.Image (exLog.map toAbs) (absPages exStore) (fun _ => 1) := by
  funext p
  by_cases hp : p = 4096
  · subst hp; rfl
  · show _ = Redo.apply _ _ p
    rw [Redo.apply_other _ _ _ (by exact hp), exStore1, exStore, absPages_oneDisk, absPages_oneDisk,
      if_neg hp, if_neg hp]

/-- the hypotheses of `concrete_recovery_reconstructs_static` are satisfiable, for both images -/
example : (replayAll exLog exStore).2 = (none, false) ∧
    ∀ p, absPages (replayAll exLog exStore).1 p = Redo.run (exLog.map toAbs) (absPages exStore) p :=
  concrete_recovery_reconstructs_static exLog exStore _ _ ex_static ex_image0 ex_logOK

example : (replayAll exLog exStore1).2 = (none, false) ∧
    ∀ p, absPages (replayAll exLog exStore1).1 p = Redo.run (exLog.map toAbs) (absPages exStore) p :=
  concrete_recovery_reconstructs_static exLog exStore1 _ _ ex_static1 ex_image1 ex_logOK

end Mkdb.RedoLink
