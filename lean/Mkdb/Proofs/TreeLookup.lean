import Mkdb.Proofs.ListOption
import Mkdb.Proofs.TreeSplit
/-!
Walks from the root to a leaf.  A walk moves, at every internal node, to a child chosen by a function
of the node (`walkOff`); `descend` carries a property of offsets from the end of such a walk up to the
root, and is how the heap model's descents (`findLeaf`, the refusals of `insertInternal`) are read off
the levels.  For the routing of `lookup` (`routeChild`): a key in the range of a leaf is routed to that
leaf (`route_levels`, through one node, one level, then all levels), so the routing under a stored key
ends at the leaf that stores it (`routeOff_of_mem`) and `lookup` finds every cell (`lookup_finds`).
-/
set_option autoImplicit false
namespace Mkdb.Tree
open Mkdb.Page Mkdb.Generated
namespace Lookup

theorem sorted_le {l : List Nat} (h : l.Pairwise (· < ·)) {i j : Nat} (hij : i ≤ j) (hj : j < l.length) :
    l[i]'(Nat.lt_of_le_of_lt hij hj) ≤ l[j] := by
  rcases Nat.eq_or_lt_of_le hij with rfl | hlt
  · exact Nat.le_refl _
  · exact Nat.le_of_lt (List.pairwise_iff_getElem.mp h i j _ hj hlt)

theorem routeChild_getElem (p : Internal) (key : Nat) :
    ∀ (i : Nat), i ≤ p.cells.length →
      (∀ j (hj : j < p.cells.length), j < i → p.cells[j].key ≤ key) →
      (∀ h : i < p.cells.length, key < p.cells[i].key) →
      (p.cells.map (·.child) ++ [p.right])[i]? = some (routeChild p key) := by
  unfold routeChild
  generalize p.cells = cs
  induction cs with
  | nil => intro i hi _ _; rw [Nat.le_zero.mp hi]; rfl
  | cons c cs ih =>
    intro i hi h1 h2
    cases i with
    | zero => rw [List.find?_cons_of_pos (by simpa using h2 (Nat.zero_lt_succ _))]; rfl
    | succ i =>
      rw [List.find?_cons_of_neg (by simpa using h1 0 (Nat.zero_lt_succ _) (Nat.zero_lt_succ _))]
      exact ih i (Nat.le_of_succ_le_succ hi)
        (fun j hj hji => h1 (j + 1) (Nat.succ_lt_succ hj) (Nat.succ_lt_succ hji))
        (fun h => h2 (Nat.succ_lt_succ h))

theorem sep_key (cs : List ICell) (los : List Nat) (hlen : cs.length + 1 ≤ los.length)
    (hsep : (los.take (cs.length + 1)).tail = cs.map (·.key)) (j : Nat) (hj : j < cs.length) :
    cs[j].key = los[j+1]'(Nat.lt_of_lt_of_le (Nat.succ_lt_succ hj) hlen) := by
  have := List.getElem_of_eq hsep (i := j) (by rw [hsep, List.length_map]; exact hj)
  simpa using this.symm

theorem sepsOK_length : ∀ (lvl : List (Internal × Bool)) (los : List Nat),
    sepsOK los lvl → los.length = (childOffs lvl).length :=
  Mkdb.Tree.sepsOK_length

/-- One level of the routing.  `los` are the lowest keys below the children of the level `lvl`, left to right.  If
`key` lies in the bracket of the `i`-th child (`los[i] ≤ key < los[i+1]`, an end of the list being no bound), then
some node `a` of the level has that child as its `routeChild` for `key`, and `key` lies in the bracket of `a` among
the lowest keys of the level itself (`levelLos`). -/
theorem level_route (key : Nat) : ∀ (lvl : List (Internal × Bool)) (los : List Nat) (i : Nat),
    sepsOK los lvl → los.Pairwise (· < ·) → i < los.length →
    (∀ lo, los[i]? = some lo → lo ≤ key) → (∀ hi, los[i+1]? = some hi → key < hi) →
    ∃ a, ∃ h : a < lvl.length, (childOffs lvl)[i]? = some (routeChild lvl[a].1 key) ∧
      (∀ lo, (levelLos los lvl)[a]? = some lo → lo ≤ key) ∧
      (∀ hi, (levelLos los lvl)[a+1]? = some hi → key < hi)
  | [], los, i, h, _, hi, _, _ => by rw [h] at hi; cases hi
  | p :: ps, los, i, ⟨h1, h2, h3⟩, hpw, hi, hlo, hhi => by
    have hlo' : los[i] ≤ key := hlo _ (List.getElem?_eq_getElem hi)
    have hhi' : ∀ h : i + 1 < los.length, key < los[i+1] := fun h => hhi _ (List.getElem?_eq_getElem h)
    rw [childOffs_cons]
    by_cases hin : i ≤ p.1.cells.length
    · refine ⟨0, Nat.zero_lt_succ _, ?_, ?_, ?_⟩
      · rw [List.getElem?_append_left (by simp; omega)]
        refine routeChild_getElem p.1 key i hin (fun j hj hji => ?_) (fun h => ?_)
        · rw [sep_key _ los h1 h2 j hj]
          exact Nat.le_trans (sorted_le hpw hji hi) hlo'
        · rw [sep_key _ los h1 h2 i h]
          exact hhi' (by omega)
      · intro lo hl
        cases los with
        | nil => cases hi
        | cons x xs =>
          cases hl
          exact Nat.le_trans (sorted_le hpw (Nat.zero_le i) hi) hlo'
      · intro hi' hl
        cases ps with
        | nil => cases hl
        | cons q qs =>
          have h4 : p.1.cells.length + 1 < los.length := by have := h3.1; simp only [List.length_drop] at this; omega
          have : hi' = los[p.1.cells.length + 1] := by
            simpa [levelLos, List.getElem?_eq_getElem h4] using hl.symm
          rw [this]
          exact Nat.lt_of_lt_of_le (hhi' (by omega)) (sorted_le hpw (Nat.succ_le_succ hin) h4)
    · obtain ⟨a, ha, e1, e2, e3⟩ := level_route key ps (los.drop (p.1.cells.length + 1))
        (i - (p.1.cells.length + 1)) h3 hpw.drop (by simp; omega)
        (by rw [List.getElem?_drop, Nat.add_sub_cancel' (by omega)]; exact hlo)
        (by rw [List.getElem?_drop, ← Nat.add_assoc, Nat.add_sub_cancel' (by omega)]; exact hhi)
      refine ⟨a + 1, Nat.succ_lt_succ ha, ?_, e2, e3⟩
      rw [List.getElem?_append_right (by simp; omega)]
      simpa using e1

/-- one step of a walk from the root: from the node at `off` in `lvl` to the child `choose` picks
(at `choose := (routeChild · key)`, the body of the fold in `routeOff`) -/
def stepBy (choose : Internal → Nat) (off : Nat) (lvl : List (Internal × Bool)) : Nat :=
  match lvl.find? (fun p => p.1.off == off) with
  | some p => choose p.1
  | none => off

/-- the root offset of a stack of levels over a bottom row of offsets -/
def rootOf : List Nat → List (List (Internal × Bool)) → Nat
  | below, [] => below.head?.getD 0
  | _, lvl :: rest => rootOf (lvl.map (·.1.off)) rest

theorem rootOf_eq : ∀ (lvls : List (List (Internal × Bool))) (below : List Nat),
    (match lvls.getLast? with
      | some lvl => (lvl.head?.map (·.1.off)).getD 0
      | none => below.head?.getD 0) = rootOf below lvls
  | [], below => rfl
  | [lvl], below => by simp [rootOf, List.head?_map]
  | lvl :: l2 :: rest, below => by
    have := rootOf_eq (l2 :: rest) (lvl.map (·.1.off))
    rw [rootOf, ← this, List.getLast?_cons_cons]
    cases h : (l2 :: rest).getLast? with
    | none => simp at h
    | some x => rfl

theorem rootOff_eq (t : Levels) : rootOff t = rootOf (t.leaves.map (·.1.off)) t.inner := by
  unfold rootOff
  rw [← rootOf_eq t.inner (t.leaves.map (·.1.off)), List.head?_map]
  rfl

/-- where the walk from the root ends in the bottom row -/
def walkOff (choose : Internal → Nat) (below : List Nat) (lvls : List (List (Internal × Bool))) : Nat :=
  lvls.foldr (fun lvl off => stepBy choose off lvl) (rootOf below lvls)

theorem routeOff_eq (t : Levels) (key : Nat) :
    routeOff t key = walkOff (fun n => routeChild n key) (t.leaves.map (·.1.off)) t.inner := by
  unfold routeOff
  rw [List.foldl_reverse, rootOff_eq]
  rfl

/-- The walk ends in the bottom row; and a property of offsets that passes from the chosen child to
its parent passes from the end of the walk to the root (`P j off`: `off` lies `j` levels above the end).
The levels only: a heap enters through `P`. -/
theorem descend (choose : Internal → Nat)
    (hch : ∀ n : Internal, choose n ∈ n.cells.map (·.child) ++ [n.right]) (P : Nat → Nat → Prop) :
    ∀ (lvls : List (List (Internal × Bool))) (below : List Nat) (k : Nat), linked below lvls →
    (∀ j, ∀ lvl ∈ lvls, ∀ p ∈ lvl, P j (choose p.1) → P (j + 1) p.1.off) →
    walkOff choose below lvls ∈ below ∧
      (P k (walkOff choose below lvls) → P (k + lvls.length) (rootOf below lvls))
  | [], below, k, hl, _ => by
    simp only [linked] at hl
    match below, hl with
    | [x], _ => exact ⟨by simp [walkOff, rootOf], fun h => h⟩
  | lvl :: rest, below, k, ⟨hl1, hl2⟩, hstep => by
    obtain ⟨hm, hP⟩ := descend choose hch P rest (lvl.map (·.1.off)) (k + 1) hl2
      (fun j l hl => hstep j l (List.mem_cons_of_mem _ hl))
    have hw : walkOff choose below (lvl :: rest) =
        stepBy choose (walkOff choose (lvl.map (·.1.off)) rest) lvl := rfl
    rw [hw]
    generalize walkOff choose (lvl.map (·.1.off)) rest = tgt at hm hP ⊢
    obtain ⟨p, hp, hpo⟩ := List.mem_map.mp hm
    cases hfind : lvl.find? (fun q => q.1.off == tgt) with
    | none =>
      have := List.find?_eq_none.mp hfind p hp
      simp [hpo] at this
    | some q =>
      have hq : q ∈ lvl := List.mem_of_find?_eq_some hfind
      have hqo : q.1.off = tgt := by simpa using List.find?_some hfind
      have hs : stepBy choose tgt lvl = choose q.1 := by unfold stepBy; rw [hfind]
      rw [hs]
      refine ⟨?_, fun h => ?_⟩
      · rw [← hl1]; exact List.mem_flatMap.mpr ⟨q, hq, hch q.1⟩
      · have hlen : k + (lvl :: rest).length = k + 1 + rest.length := by
          simp only [List.length_cons]; omega
        rw [hlen]
        exact hP (hqo ▸ hstep k lvl List.mem_cons_self q hq h)

theorem routeChild_mem (n : Internal) (key : Nat) :
    routeChild n key ∈ n.cells.map (·.child) ++ [n.right] := by
  unfold routeChild
  cases h : n.cells.find? (fun c => key < c.key) with
  | none => simp
  | some c =>
    exact List.mem_append_left _ (List.mem_map.mpr ⟨c, List.mem_of_find?_eq_some h, rfl⟩)

/-- the choice of `leftmostLeaf`: the first child -/
def firstChild (n : Internal) : Nat := (n.cells.head?.map (·.child)).getD n.right

theorem firstChild_mem (n : Internal) : firstChild n ∈ n.cells.map (·.child) ++ [n.right] := by
  unfold firstChild
  cases n.cells <;> simp

theorem walkOff_first : ∀ (lvls : List (List (Internal × Bool))) (below : List Nat), linked below lvls →
    (∀ lvl ∈ lvls, ∀ p ∈ lvl, 1 ≤ p.1.cells.length) → walkOff firstChild below lvls = below.head?.getD 0
  | [], _, _, _ => rfl
  | lvl :: rest, below, ⟨hl1, hl2⟩, hcap => by
    have ih := walkOff_first rest _ hl2 (fun l hl => hcap l (List.mem_cons_of_mem _ hl))
    have hw : walkOff firstChild below (lvl :: rest) =
        stepBy firstChild (walkOff firstChild (lvl.map (·.1.off)) rest) lvl := rfl
    rw [hw, ih]
    match lvl, linked_below_ne rest _ hl2, hl1, hcap with
    | p :: ps, _, hl1, hcap =>
      have hc := hcap (p :: ps) List.mem_cons_self p List.mem_cons_self
      match hcs : p.1.cells, hc with
      | c :: cs, _ =>
        rw [← hl1, childOffs_cons, hcs]
        simp [stepBy, firstChild, hcs]

theorem find_by_key {α : Type} (f : α → Nat) (l : List α) (hnd : (l.map f).Nodup)
    (a : Nat) (h : a < l.length) : l.find? (fun p => f p == f l[a]) = some l[a] :=
  find?_of_mem hnd (List.getElem_mem h)

theorem route_levels (key : Nat) : ∀ (lvls : List (List (Internal × Bool))) (below los : List Nat) (i : Nat),
    linked below lvls → sepsAll los lvls → los.length = below.length → los.Pairwise (· < ·) →
    (∀ lvl ∈ lvls, (lvl.map (·.1.off)).Nodup) → i < los.length →
    (∀ lo, los[i]? = some lo → lo ≤ key) → (∀ hi, los[i+1]? = some hi → key < hi) →
    below[i]? = some (walkOff (fun n => routeChild n key) below lvls)
  | [], below, los, i, hl, _, hlen, _, _, hi, _, _ => by
    simp only [linked] at hl
    have : i = 0 := by omega
    subst this
    simp [walkOff, rootOf, List.head?_eq_getElem?]
    rw [List.getElem?_eq_getElem (by omega)]; rfl
  | lvl :: rest, below, los, i, hl, hs, hlen, hpw, hnd, hi, hlo, hhi => by
    obtain ⟨hl1, hl2⟩ := hl
    obtain ⟨hs1, hs2⟩ := hs
    obtain ⟨a, ha, e1, e2, e3⟩ := level_route key lvl los i hs1 hpw hi hlo hhi
    have ih := route_levels key rest (lvl.map (·.1.off)) (levelLos los lvl) a hl2 hs2
      (by simp [levelLos_length]) (hpw.sublist (levelLos_sublist lvl los hs1))
      (fun l hl => hnd l (List.mem_cons_of_mem _ hl)) (by simp [levelLos_length, ha]) e2 e3
    rw [List.getElem?_map, List.getElem?_eq_getElem ha] at ih
    simp only [Option.map_some, Option.some.injEq] at ih
    rw [← hl1, e1]
    show _ = some (stepBy (fun n => routeChild n key) (walkOff (fun n => routeChild n key) (lvl.map (·.1.off)) rest) lvl)
    rw [← ih]
    unfold stepBy
    rw [find_by_key (fun p : Internal × Bool => p.1.off) lvl (hnd lvl (List.mem_cons_self)) a ha]

/-- lowest key of a leaf, as used by `SepsOK` -/
def headKey (p : Leaf × Bool) : Nat := (p.1.cells.head?.map (·.key)).getD 0

theorem headKey_spec (p : Leaf × Bool) (hne : p.1.cells ≠ [])
    (hpw : p.1.cells.Pairwise (fun a b => a.key < b.key)) :
    ∃ h ∈ p.1.cells, headKey p = h.key ∧ ∀ c ∈ p.1.cells, h.key ≤ c.key := by
  unfold headKey
  match hc : p.1.cells, hne with
  | h :: tl, _ =>
    rw [hc] at hpw
    refine ⟨h, by simp, by simp, ?_⟩
    intro c hcm
    rcases List.mem_cons.mp hcm with rfl | hm
    · exact Nat.le_refl _
    · exact Nat.le_of_lt (List.rel_of_pairwise_cons hpw hm)

theorem keysAsc_split (t : Levels) (h : KeysAsc t) :
    (∀ p ∈ t.leaves, p.1.cells.Pairwise (fun a b => a.key < b.key)) ∧
    t.leaves.Pairwise (fun p q => ∀ x ∈ p.1.cells, ∀ y ∈ q.1.cells, x.key < y.key) := by
  unfold KeysAsc keys cells at h
  rw [List.pairwise_map, List.pairwise_flatMap] at h
  exact h

theorem offs_split (t : Levels) (nf : Nat) (h : OffsOK t nf) :
    (t.leaves.map (·.1.off)).Nodup ∧ ∀ lvl ∈ t.inner, (lvl.map (·.1.off)).Nodup := by
  have h := h.1
  unfold offs flatten at h
  simp only [List.map_append, List.map_map, List.map_flatMap] at h
  unfold List.Nodup at h
  rw [List.pairwise_append, List.pairwise_flatMap] at h
  exact ⟨h.1, fun lvl hl => h.2.1.1 lvl hl⟩

end Lookup
open Lookup

theorem keys_eq_flatMap (t : Levels) : keys t = t.leaves.flatMap fun p => p.1.cells.map (·.key) := by
  simp [keys, cells, List.map_flatMap]

theorem los_sublist_keys : ∀ (L : List (Leaf × Bool)), (∀ p ∈ L, p.1.cells ≠ []) →
    (L.map fun p => (p.1.cells.head?.map (·.key)).getD 0).Sublist (L.flatMap fun p => p.1.cells.map (·.key)) := by
  intro L
  induction L with
  | nil => intro _; simp
  | cons a rest ih =>
    intro h
    have ha := h a (by simp)
    have ih' := ih (fun p hp => h p (by simp [hp]))
    cases hc : a.1.cells with
    | nil => exact absurd hc ha
    | cons c cs =>
      simp only [List.map_cons, List.flatMap_cons, hc, List.head?_cons, Option.map_some, Option.getD_some,
        List.cons_append]
      exact List.Sublist.cons_cons _ (ih'.trans (List.sublist_append_right _ _))

theorem los_sorted (t : Levels) (hasc : KeysAsc t) (hne : LeavesNonempty t) :
    (t.leaves.map fun p => (p.1.cells.head?.map (·.key)).getD 0).Pairwise (· < ·) := by
  by_cases h2 : 2 ≤ t.leaves.length
  · have := los_sublist_keys t.leaves (hne h2)
    unfold KeysAsc at hasc
    rw [keys_eq_flatMap] at hasc
    exact hasc.sublist this
  · match hl : t.leaves with
    | [] => simp
    | [a] => simp
    | a :: b :: r => rw [hl] at h2; simp at h2

/-! ### the separators are stored keys, in order -/

theorem sepsOK_sublist : ∀ (lvl : List (Internal × Bool)) (los : List Nat), sepsOK los lvl →
    ∀ p ∈ lvl, (p.1.cells.map (·.key)).Sublist los
  | [], _, _ => fun _ hp => nomatch hp
  | q :: rest, los, ⟨_, hk, hrest⟩ => by
    intro p hp
    rcases List.mem_cons.mp hp with rfl | hp
    · rw [← hk]
      exact (List.tail_sublist _).trans (List.take_sublist _ _)
    · exact (sepsOK_sublist rest _ hrest p hp).trans (List.drop_sublist _ _)

theorem sepsAll_sublist : ∀ (inner : List (List (Internal × Bool))) (los : List Nat), sepsAll los inner →
    ∀ lvl ∈ inner, ∀ p ∈ lvl, (p.1.cells.map (·.key)).Sublist los
  | [], _, _ => fun _ hl => nomatch hl
  | l :: rest, los, ⟨h1, h2⟩ => by
    intro lvl hl
    rcases List.mem_cons.mp hl with rfl | hl
    · exact sepsOK_sublist lvl los h1
    · exact fun p hp => (sepsAll_sublist rest _ h2 lvl hl p hp).trans (levelLos_sublist l los h1)

/-- a tree with an internal level has two leaves, so (`LeavesNonempty`) none of its leaves is empty -/
theorem leaves_ne_of_inner {t : Levels} {nf : Nat} (hinv : Inv t nf) (hin : t.inner ≠ []) :
    ∀ p ∈ t.leaves, p.1.cells ≠ [] := by
  apply hinv.ne
  have hne := linked_below_ne t.inner _ hinv.link
  match hlv : t.leaves, hne with
  | [a], _ => exact absurd (inner_nil_of_single t hinv.cap hinv.link (by rw [hlv]; rfl)) hin
  | _ :: _ :: _, _ => simp
  | [], hne => simp at hne

theorem seps_sublist_los {t : Levels} {nf : Nat} (hinv : Inv t nf) {lvl} (hl : lvl ∈ t.inner)
    {p : Internal × Bool} (hp : p ∈ lvl) : (p.1.cells.map (·.key)).Sublist (t.leaves.map headKey) :=
  sepsAll_sublist t.inner _ hinv.seps lvl hl p hp

theorem seps_sublist_keys {t : Levels} {nf : Nat} (hinv : Inv t nf) {lvl} (hl : lvl ∈ t.inner)
    {p : Internal × Bool} (hp : p ∈ lvl) : (p.1.cells.map (·.key)).Sublist (keys t) := by
  rw [keys_eq_flatMap]
  exact (seps_sublist_los hinv hl hp).trans
    (los_sublist_keys t.leaves (leaves_ne_of_inner hinv (List.ne_nil_of_mem hl)))

theorem seps_in_keys {t : Levels} {nf : Nat} (hinv : Inv t nf) {lvl} (hl : lvl ∈ t.inner) {p : Internal × Bool}
    (hp : p ∈ lvl) {c : ICell} (hc : c ∈ p.1.cells) : c.key ∈ keys t :=
  (seps_sublist_keys hinv hl hp).subset (List.mem_map.mpr ⟨c, hc, rfl⟩)

theorem routeOff_of_mem (t : Levels) (nf : Nat) (hinv : Inv t nf) (i : Nat) (hi : i < t.leaves.length)
    (c : LeafCell) (hcp : c ∈ t.leaves[i].1.cells) : routeOff t c.key = t.leaves[i].1.off := by
  obtain ⟨hin, hcross⟩ := keysAsc_split t hinv.asc
  obtain ⟨_, hndi⟩ := offs_split t nf hinv.offs
  have hlink : linked (t.leaves.map (·.1.off)) t.inner := hinv.link
  have hseps : sepsAll (t.leaves.map headKey) t.inner := hinv.seps
  have hroute := route_levels c.key t.inner (t.leaves.map (·.1.off)) (t.leaves.map headKey) i
    hlink hseps (by simp) (los_sorted t hinv.asc hinv.ne) hndi (by simpa using hi) ?_ ?_
  · rw [← routeOff_eq, List.getElem?_map, List.getElem?_eq_getElem hi] at hroute
    exact (Option.some.inj hroute).symm
  · intro lo hl
    rw [List.getElem?_map, List.getElem?_eq_getElem hi] at hl
    obtain ⟨x, _, ex, hmin⟩ := headKey_spec t.leaves[i] (List.ne_nil_of_mem hcp) (hin _ (List.getElem_mem hi))
    rw [← Option.some.inj hl, ex]
    exact hmin c hcp
  · intro hi' hl
    rw [List.getElem?_map] at hl
    by_cases hi1 : i + 1 < t.leaves.length
    · rw [List.getElem?_eq_getElem hi1] at hl
      obtain ⟨y, hy, ey, _⟩ := headKey_spec t.leaves[i+1] (hinv.ne (by omega) _ (List.getElem_mem hi1))
        (hin _ (List.getElem_mem hi1))
      rw [← Option.some.inj hl, ey]
      exact List.pairwise_iff_getElem.mp hcross i (i+1) hi hi1 (by omega) c hcp y hy
    · rw [List.getElem?_eq_none (by omega)] at hl
      cases hl

theorem find_at_route {t : Levels} {nf : Nat} (hinv : Inv t nf) {p : Leaf × Bool} (hp : p ∈ t.leaves)
    {c : LeafCell} (ho : p.1.off = routeOff t c.key) (hc : c ∈ cells t) :
    p.1.cells.find? (fun x => x.key == c.key) = some c := by
  obtain ⟨q, hq, hcq⟩ := List.mem_flatMap.mp hc
  obtain ⟨i, hi, rfl⟩ := List.mem_iff_getElem.mp hq
  obtain ⟨hndl, _⟩ := offs_split t nf hinv.offs
  rw [routeOff_of_mem t nf hinv i hi c hcq] at ho
  obtain rfl : p = t.leaves[i] := inj_of_nodup_map (·.1.off) _ hndl p hp _ (List.getElem_mem hi) ho
  have hnd : (t.leaves[i].1.cells.map (·.key)).Nodup :=
    (List.pairwise_map.mpr ((keysAsc_split t hinv.asc).1 _ (List.getElem_mem hi))).imp Nat.ne_of_lt
  exact find?_of_mem hnd hcq

theorem lookup_finds (t : Levels) (nf : Nat) (hinv : Inv t nf) (c : LeafCell) (hc : c ∈ cells t) :
    lookup t c.key = some c := by
  obtain ⟨q, hq, hcq⟩ := List.mem_flatMap.mp hc
  obtain ⟨i, hi, rfl⟩ := List.mem_iff_getElem.mp hq
  obtain ⟨hndl, _⟩ := offs_split t nf hinv.offs
  unfold lookup
  rw [routeOff_of_mem t nf hinv i hi c hcq, find_by_key (fun p : Leaf × Bool => p.1.off) t.leaves hndl i hi]
  exact find_at_route hinv (List.getElem_mem hi) (routeOff_of_mem t nf hinv i hi c hcq).symm hc

/-- sanity: a concrete two-leaf tree under one internal node -/
example :
    lookup { leaves := [(⟨4096, 0, false, true, 0, 8192, [⟨1, false, []⟩, ⟨2, false, []⟩]⟩, false),
                        (⟨8192, 0, true, false, 4096, 0, [⟨3, false, []⟩, ⟨4, true, []⟩]⟩, false)],
             inner := [[(⟨12288, 0, 8192, [⟨3, 4096⟩]⟩, false)]] } 4
      = some ⟨4, true, []⟩ := by decide +kernel

end Mkdb.Tree
