import Mkdb.Proofs.KeepsDisk
import Mkdb.Proofs.SpecRefineRefused
/-!
# What a row statement does to the store, whatever its outcome

The outcome: accepted, refused before a change, or refused at a later row (the known finding of C14: the rows before
the refused one stay applied in the cache, nothing is logged).  The totality theorems (`evalInsert_total`,
`evalUpdate_total`; `SpecRefineRefused`) say that the result is `.ok` or `.err`, not what the database of that result
looks like; the outcome theorems (`evalInsert_outcome`, `evalUpdate_outcome`) say it exactly, plain database included.
Here that is forgotten again (`evalInsert_effect`, `evalUpdate_effect`, `evalDelete_effect`):

* `RowEffect sch db tbls db'`: the store of `db'` is reached from the store of `db` by a live run of
  row operations (`LiveRunM`: the applied rows) followed by a refusal that changes no page of the
  catalog description (counters may advance); the store reached abstracts (`Abs`) to SOME plain
  database; the log grew by exactly the records of the live run, or not at all.  (WHICH of the two is not
  recorded: the effect theorems prove the first for `.ok` and the second for `.err`, the definition keeps
  the disjunction only - that `.err` leaves the log alone is `Total`, `SpecRefineRefused`.)
* `ResEffect`: the result is `.ok` or `.err` - not a crash - with such a database (the same clause for both).
-/

section
set_option autoImplicit false
namespace Mkdb.Store
open Mkdb.Page Mkdb.Tuple Mkdb.Generated Mkdb.Tree

/-- what a row statement did: a live run of row operations to `s1`, then a refusal that leaves the
catalog description alone -/
def RowEffect (sch : Levels) (db : Engine.DB) (tbls : List (Bytes × Levels)) (db' : Engine.DB) : Prop :=
  ∃ s1 ptN tblsN stmtsM logs sdbN,
    LiveRunM sch db.store tbls stmtsM s1 tblsN logs ∧
    Abs s1 ptN sch tblsN sdbN ∧ Abs db'.store ptN sch tblsN sdbN ∧
    tblsN.map (·.1) = tbls.map (·.1) ∧
    s1.hdr.nextLSN ≤ db'.store.hdr.nextLSN ∧ s1.hdr.lastKey ≤ db'.store.hdr.lastKey ∧
    (db'.wal = db.wal ++ logs ∨ db'.wal = db.wal)

/-- the result is not a crash, and its database is reached by a `RowEffect` -/
def ResEffect {α} (sch : Levels) (db : Engine.DB) (tbls : List (Bytes × Levels)) : Engine.Res α → Prop
  | .ok _ db' => RowEffect sch db tbls db'
  | .err _ db' => RowEffect sch db tbls db'
  | _ => False

theorem RowEffect.refused {sch : Levels} {db db' : Engine.DB} {pt : Levels} {tbls : List (Bytes × Levels)}
    {sdb : Spec.SDB} (h : Abs db.store pt sch tbls sdb) (h' : Abs db'.store pt sch tbls sdb)
    (h1 : db.store.hdr.nextLSN ≤ db'.store.hdr.nextLSN) (h2 : db.store.hdr.lastKey ≤ db'.store.hdr.lastKey)
    (hw : db'.wal = db.wal) : RowEffect sch db tbls db' :=
  ⟨db.store, pt, tbls, [], [], sdb, .nil _ _, h, h', rfl, h1, h2, .inr hw⟩

theorem RowEffect.same {sch : Levels} {db db' : Engine.DB} {pt : Levels} {tbls : List (Bytes × Levels)}
    {sdb : Spec.SDB} (h : Abs db.store pt sch tbls sdb) (hs : Same db.store db'.store)
    (hw : db'.wal = db.wal) : RowEffect sch db tbls db' :=
  RowEffect.refused h (h.of_same hs) (by rw [hs.2]; exact Nat.le_refl _) (by rw [hs.2]; exact Nat.le_refl _) hw

/-- **INSERT, whatever its outcome.**  Hypotheses as for `evalInsert_total`. -/
theorem evalInsert_effect (db : Engine.DB) (pt sch : Levels) (tbls : List (Bytes × Levels))
    (sdb : Spec.SDB) (h : Abs db.store pt sch tbls sdb) (table : Bytes) (cols : List Bytes)
    (rows : List (List Val)) (hvalid : ∀ r ∈ rows, ∀ v ∈ r, ValidVal v)
    (hsys : table ∉ tbls.map (·.1) → table ≠ sysPages ∧ table ≠ sysSchema)
    (hrun : ∀ t schema, (table, t) ∈ tbls → schemaOf sch table = some schema →
      InsRunOK schema (cols.map Engine.bytesToName) t db.store.hdr.lastKey db.store.hdr.nextLSN
        db.store.hdr.nextFree rows) :
    ResEffect sch db tbls (Engine.evalInsert db table cols rows) := by
  cases rows with
  | nil =>
    show RowEffect sch db tbls { store := db.store, wal := db.wal ++ [] }
    exact RowEffect.same h (Same.refl _) (by simp)
  | cons r0 rest0 =>
  by_cases hn : table ∈ tbls.map (·.1)
  · obtain ⟨e, he, hen⟩ := List.mem_map.mp hn
    obtain ⟨tn, t⟩ := e
    simp only at hen
    subst hen
    have ht : (tn, t) ∈ tbls := he
    obtain ⟨schema, hsch, _, _⟩ := h.tabs.find h.cat.tnames ht
    obtain ⟨good, tail, _, s1, ptF, t1, logs, _, _, _, hlive, habs1, _, hres⟩ := evalInsert_outcome db pt sch tbls sdb h tn t
      ht schema hsch cols _ hvalid (hrun t schema ht hsch)
    rcases hres with ⟨_, eres⟩ | ⟨bad, _, e, s2, _, _, he, eres, _, habs2, _, _, hlk⟩
    · rw [eres]
      exact ⟨s1, ptF, _, _, logs, _, hlive, habs1, habs1, setTable_names tbls tn t1, Nat.le_refl _, Nat.le_refl _,
        .inl rfl⟩
    · rw [eres]
      exact ⟨s1, ptF, _, _, logs, _, hlive, habs1, habs2, setTable_names tbls tn t1,
        ((KeepsDisk.insert tn _ bad).err he).2.2, hlk, .inr rfl⟩
  · obtain ⟨h1, h2⟩ := hsys hn
    obtain ⟨s', e, hs, _⟩ := insert_unknown_table db.store pt sch tbls h.cat table (cols.map Engine.bytesToName) r0
      h1 h2 hn
    rw [evalInsert_first_err db table cols rest0 e]
    exact RowEffect.same h hs rfl

end Mkdb.Store
end

section
set_option autoImplicit false
namespace Mkdb.Store
open Mkdb.Page Mkdb.Tuple Mkdb.Generated Mkdb.Tree

/-! ### UPDATE -/

/-- **UPDATE, whatever its outcome**: refused at once (column source, unknown table, SET columns, WHERE),
run to the end, or stopped at the first selected row that cannot be rewritten with the rows before it
rewritten (the known finding).  `hvalid`: the SET literals are values a Go program can hold (the
rewritten rows must decode again). -/
theorem evalUpdate_effect (db : Engine.DB) (pt sch : Levels) (tbls : List (Bytes × Levels))
    (sdb : Spec.SDB) (h : Abs db.store pt sch tbls sdb) (table : Bytes)
    (sets : List (Bytes × Sql.VExpr)) (w : Option Sql.Cond)
    (hvalid : ∀ p ∈ sets, ∀ l, p.2 = .lit l → ValidVal (Engine.litToVal l))
    (hsys : table ∉ tbls.map (·.1) → table ≠ sysPages ∧ table ≠ sysSchema) :
    ResEffect sch db tbls (Engine.evalUpdate db table sets w) := by
  by_cases hcol : ∃ p ∈ sets, ∃ c, p.2 = .col c
  · rw [evalUpdate_col db table sets w hcol]
    exact RowEffect.same h (Same.refl _) rfl
  have hnocol : ∀ p ∈ sets, ∀ c, p.2 ≠ .col c := fun p hp c hpc => hcol ⟨p, hp, c, hpc⟩
  by_cases hn : table ∈ tbls.map (·.1)
  · obtain ⟨⟨_, t⟩, ht, rfl⟩ := List.mem_map.mp hn
    obtain ⟨schema, hsch, hdec, _⟩ := h.tabs.find h.cat.tnames ht
    have hearly : _ → ResEffect sch db tbls (Engine.evalUpdate db _ sets w) := fun hbad => by
      obtain ⟨e, s1, he, _, hs1, _⟩ := evalUpdate_early db h.cat _ t ht schema hsch hdec sets w hnocol hbad
      rw [he]
      exact RowEffect.same h hs1 rfl
    cases hset : Engine.checkSetColumns (schema.map fun fd => (⟨[], fd.name.toUTF8.toList⟩ : Exec.Field)) []
        (sets.map (·.1)) with
    | some ec => exact hearly (.inl fun h0 => nomatch hset.symm.trans h0)
    | none =>
    cases hsel : Spec.selects (absTable _ schema t) w with
    | none => exact hearly (.inr (.inl hsel))
    | some sel =>
      -- the selected rows up to the first one that cannot be rewritten
      obtain ⟨pre, tail, hsplit, hpre, htail⟩ := cut_first_none (specAssign schema sets)
        (selVals (absTable _ schema t) sel)
      obtain ⟨s1, t', logs, _, hrun, hc1, habs, _, _, _, hres⟩ := evalUpdate_outcome db h.cat _ t ht schema hsch hdec sets w
        hnocol sel pre tail hsel hset hsplit hpre htail
      have habs1 := habs sdb h.tabs hvalid (fun rs => rewriteFirst schema sets pre.length (rs.zip sel)) rfl
      rcases hres with ⟨_, e⟩ | ⟨_, s2, _, e, _, hs2, hc2⟩
      · rw [e]
        exact ⟨s1, pt, _, _, logs, _, hrun, ⟨hc1, habs1⟩, ⟨hc1, habs1⟩, setTable_names tbls _ t', Nat.le_refl _,
          Nat.le_refl _, .inl rfl⟩
      · rw [e]
        exact ⟨s1, pt, _, _, logs, _, hrun, ⟨hc1, habs1⟩, ⟨hc2, habs1⟩, setTable_names tbls _ t',
          by rw [hs2.2]; exact Nat.le_refl _, by rw [hs2.2]; exact Nat.le_refl _, .inr rfl⟩
  · obtain ⟨h1, h2⟩ := hsys hn
    obtain ⟨s', e, hs, _⟩ := fetchTable_unknown_table h.cat table h1 h2 hn
    rw [evalUpdate_eq db table sets w hnocol, Engine.fetchForExec, Engine.liftS_err e]
    exact RowEffect.same h hs rfl

/-! ### DELETE -/

/-- **DELETE, whatever its outcome**: accepted by the plain model (all selected rows tombstoned) or
refused before a change. -/
theorem evalDelete_effect (db : Engine.DB) (pt sch : Levels) (tbls : List (Bytes × Levels))
    (sdb : Spec.SDB) (h : Abs db.store pt sch tbls sdb) (table : Bytes) (w : Option Sql.Cond)
    (hsys : table ∉ tbls.map (·.1) → table ≠ sysPages ∧ table ≠ sysSchema) :
    ResEffect sch db tbls (Engine.evalDelete db table w) := by
  cases hspec : Spec.specDelete sdb table w with
  | some sdb' =>
    obtain ⟨n, db', t', logs, stmts, e, hw, _, hlive, ⟨_, habs', _⟩, _⟩ := evalDelete_refines_specV db pt sch tbls sdb sdb'
      h.toV table w hspec
    rw [e]
    exact ⟨db'.store, pt, _, _, logs, _, hlive, habs', habs', setTable_names tbls table t', Nat.le_refl _,
      Nat.le_refl _, .inl hw⟩
  | none =>
    obtain ⟨e, db', he, _, _, _, hw, hs, _⟩ := evalDelete_refused_specV db pt sch tbls sdb h.toV table w
      (fun h0 => hsys (h.not_mem h0)) hspec
    rw [he]
    exact RowEffect.same h hs hw

end Mkdb.Store
end
