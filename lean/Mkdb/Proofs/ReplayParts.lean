import Mkdb.Model.Engine
/-!
`Engine.replayOne` (one record of `WALBatch.replay`) in named pieces: the raise of the two counters
(`raiseRec`), the fetch of the record's page (`replayBody`), the test of the page LSN and the dispatch on
the operation code (`replayOn`), and the three redo branches (`replayIns`, `replayUpd`, `replayDel`);
`replayOne_eq_body` says that this is `replayOne`.  `replayOne_fetched`, `replayOn_skip`, `replayOn_ins`,
`replayIns_same`, ... compute along one path; `replayOne_ind` gives every path at once, as an induction
principle for properties of the store (its everyday form for a relation that the store primitives keep:
`KeptByAllocs.replayOne` of `KeepsDisk`, which needs `Preserves` and so cannot sit here).  Then `replayAll`,
record by record: `replayAll_keeps` (an invariant of every record), `replayAll_reaches` (a measure that every
record of a kind raises to its own value and none lowers).
-/
set_option autoImplicit false
namespace Mkdb.Store
open Mkdb.Page Mkdb.Generated Mkdb.Engine

/-! ### the counters -/

def raiseLSN (s : Store) (lsn : Nat) : Store :=
  { s with hdr := { s.hdr with nextLSN := max s.hdr.nextLSN lsn } }

/-- the store after a replayed insert: the row-id counter raised to at least the record's key -/
def raiseKey (s : Store) (key : Nat) : Store :=
  { s with hdr := { s.hdr with lastKey := max s.hdr.lastKey key } }

/-- the store `replayOne` starts from: `nextLSN` raised to at least the record's LSN, and - for
an INSERT record, redone or skipped - the row-id counter raised to at least the record's key -/
def raiseRec (s : Store) (r : WalRec) : Store :=
  { s with hdr := { s.hdr with nextLSN := max s.hdr.nextLSN r.lsn,
                               lastKey := if r.op == c_OpInsert then max s.hdr.lastKey r.cell else s.hdr.lastKey } }

theorem view_raiseLSN (s : Store) (lsn : Nat) : view (raiseLSN s lsn) = view s := rfl
theorem view_raiseRec (s : Store) (r : WalRec) : view (raiseRec s r) = view s := rfl
theorem view_raiseKey (s : Store) (key : Nat) : view (raiseKey s key) = view s := rfl

theorem raiseKey_idle {s : Store} {key : Nat} (h : key ≤ s.hdr.lastKey) : raiseKey s key = s := by
  unfold raiseKey
  rw [Nat.max_eq_left h]

theorem raiseRec_of_le (s : Store) (r : WalRec) (hk : r.op = c_OpInsert → r.cell ≤ s.hdr.lastKey) :
    raiseRec s r = raiseLSN s r.lsn := by
  unfold raiseRec raiseLSN
  by_cases hop : r.op = c_OpInsert
  · have hop1 : (r.op == c_OpInsert) = true := by rw [hop]; decide
    simp only [hop1, if_true, Nat.max_eq_left (hk hop)]
  · have hop1 : (r.op == c_OpInsert) = false := by simpa using hop
    simp only [hop1, Bool.false_eq_true, if_false]

theorem raiseRec_insert (s : Store) (r : WalRec) (hop : r.op = c_OpInsert) :
    (raiseRec s r).hdr = { s.hdr with nextLSN := max s.hdr.nextLSN r.lsn, lastKey := max s.hdr.lastKey r.cell } := by
  have hop1 : (r.op == c_OpInsert) = true := by rw [hop]; decide
  unfold raiseRec
  simp only [hop1, if_true]

/-! ### the pieces -/

def replayIns (r : WalRec) (node : Node) (s1 : Store) : Store × Option String × Bool :=
  match insertKey ⟨nodeOff node⟩ r.cell r.lsn r.val s1 with
  | .ok bt s2 =>
    if bt.root != nodeOff node then
      match repointPageTable (nodeOff node) bt.root r.lsn (raiseKey s2 r.cell) with
      | .ok _ s4 => (s4, none, false)
      | .err _ s4 => (s4, some "replay insert: repoint", false)
      | .panic p => (raiseKey s2 r.cell, some ("panic:" ++ p), false)
      | .unmodelled w => (raiseKey s2 r.cell, some ("unmodelled:" ++ w), false)
      | .fuel => (raiseKey s2 r.cell, some "hang", false)
    else (raiseKey s2 r.cell, none, false)
  | .err .keyExists s2 => (raiseKey s2 r.cell, none, false)
  | .err _ s2 => (s2, some "replay insert", false)
  | .panic p => (s1, some ("panic:" ++ p), false)
  | .unmodelled w => (s1, some ("unmodelled:" ++ w), false)
  | .fuel => (s1, some "hang", false)

def replayUpd (r : WalRec) (node : Node) (s1 : Store) : Store × Option String × Bool :=
  match node with
  | .internal n =>
    if r.val.length > c_maxValueSize || !(n.cells.any fun c => c.key == r.cell) then (s1, none, true)
    else (s1, some "panic:updateCell on internal node", false)
  | .leaf l =>
    if r.val.length > c_maxValueSize || !(l.cells.any fun c => c.key == r.cell) then (s1, none, true)
    else
      let l' : Leaf := { l with cells := l.cells.map (fun c => if c.key == r.cell then { c with val := r.val } else c), lsn := r.lsn }
      ({ s1 with mem := assocSet s1.mem l.off ⟨.leaf l', true⟩ }, none, false)

def replayDel (r : WalRec) (node : Node) (s1 : Store) : Store × Option String × Bool :=
  match node with
  | .internal n =>
    if n.cells.any fun c => c.key == r.cell then (s1, some "panic:delete on internal node", false)
    else (s1, some "replay delete: cell not found", false)
  | .leaf l =>
    if !(l.cells.any fun c => c.key == r.cell) then (s1, some "replay delete: cell not found", false)
    else
      let l' : Leaf := { l with cells := l.cells.map (fun c => if c.key == r.cell then { c with deleted := true } else c), lsn := r.lsn }
      ({ s1 with mem := assocSet s1.mem l.off ⟨.leaf l', true⟩ }, none, false)

/-- what `replayOne` does with the fetched page `node` -/
def replayOn (r : WalRec) (node : Node) (s1 : Store) : Store × Option String × Bool :=
  if r.lsn ≤ nodeLSN node then (s1, none, false)
  else if r.op == c_OpInsert then replayIns r node s1
  else if r.op == c_OpUpdate then replayUpd r node s1
  else if r.op == c_OpDelete then replayDel r node s1
  else (s1, none, false)

/-- `replayOne` after its first step (the raise of the two counters, `raiseRec`) -/
def replayBody (r : WalRec) (s : Store) : Store × Option String × Bool :=
  match fetch r.page s with
  | .ok node s1 => replayOn r node s1
  | _ => (s, some "fetch", false)

theorem replayOne_eq_body (r : WalRec) (s : Store) : replayOne r s = replayBody r (raiseRec s r) := by
  rfl

/-! ### along one path -/

section
variable {r : WalRec} {s s1 s2 : Store} {n : Node}

theorem replayBody_fetched (hf : fetch r.page s = .ok n s1) : replayBody r s = replayOn r n s1 := by
  rw [replayBody, hf]

theorem replayOne_fetched (hf : fetch r.page (raiseRec s r) = .ok n s1) : replayOne r s = replayOn r n s1 :=
  replayBody_fetched hf

theorem replayOn_skip (hl : r.lsn ≤ nodeLSN n) : replayOn r n s1 = (s1, none, false) := if_pos hl

theorem replayOn_ins (hl : nodeLSN n < r.lsn) (hop : r.op = c_OpInsert) : replayOn r n s1 = replayIns r n s1 := by
  unfold replayOn
  rw [if_neg (Nat.not_le.mpr hl), if_pos (by rw [hop]; decide)]

theorem replayOn_upd (hl : nodeLSN n < r.lsn) (hop : r.op = c_OpUpdate) : replayOn r n s1 = replayUpd r n s1 := by
  unfold replayOn
  rw [if_neg (Nat.not_le.mpr hl), if_neg (by rw [hop]; decide), if_pos (by rw [hop]; decide)]

theorem replayOn_del (hl : nodeLSN n < r.lsn) (hop : r.op = c_OpDelete) : replayOn r n s1 = replayDel r n s1 := by
  unfold replayOn
  rw [if_neg (Nat.not_le.mpr hl), if_neg (by rw [hop]; decide), if_neg (by rw [hop]; decide),
    if_pos (by rw [hop]; decide)]

/-- the `switch` has no default: a record with any other operation code changes no page -/
theorem replayOn_other (h0 : r.op ≠ c_OpInsert) (h1 : r.op ≠ c_OpUpdate) (h2 : r.op ≠ c_OpDelete) :
    replayOn r n s1 = (s1, none, false) := by
  unfold replayOn
  rw [if_neg (show ¬ (r.op == c_OpInsert) = true by simpa using h0),
    if_neg (show ¬ (r.op == c_OpUpdate) = true by simpa using h1),
    if_neg (show ¬ (r.op == c_OpDelete) = true by simpa using h2)]
  exact ite_self _

end

/-! ### the paths of a redone INSERT that go on -/

section
variable {r : WalRec} {s1 s2 s4 : Store} {n : Node} {bt : BT}

theorem replayIns_same (hi : insertKey ⟨nodeOff n⟩ r.cell r.lsn r.val s1 = .ok bt s2) (hroot : bt.root = nodeOff n) :
    replayIns r n s1 = (raiseKey s2 r.cell, none, false) := by
  unfold replayIns
  rw [hi]
  exact if_neg (by rw [hroot, bne_self_eq_false]; decide)

theorem replayIns_moved (hi : insertKey ⟨nodeOff n⟩ r.cell r.lsn r.val s1 = .ok bt s2) (hroot : bt.root ≠ nodeOff n)
    (hr : repointPageTable (nodeOff n) bt.root r.lsn (raiseKey s2 r.cell) = .ok () s4) :
    replayIns r n s1 = (s4, none, false) := by
  unfold replayIns
  rw [hi]
  show (if (bt.root != nodeOff n) = true then _ else _) = _
  rw [if_pos (by simpa using hroot), hr]

theorem replayIns_exists (hi : insertKey ⟨nodeOff n⟩ r.cell r.lsn r.val s1 = .err .keyExists s2) :
    replayIns r n s1 = (raiseKey s2 r.cell, none, false) := by
  unfold replayIns
  rw [hi]

end

/-! ### every path -/

/-- **Every path of `replayOne`.**  The store a record leaves behind - on the redo, skip, tolerated
and error paths alike - is reached from `raiseRec s r` by the fetch of the record's page and then
either, for an INSERT record, the tree insert, the raise of the row-id counter and the catalog re-point,
or the filing of one rewritten leaf under its own offset in the cache.  So a property `P` of stores that
the fetch and the filing keep, passed on as `Q` by the tree insert and kept by what follows it, gives `Q`
afterwards (`P = Q`: a property all these steps keep). -/
theorem replayOne_ind (r : WalRec) (s : Store) (P Q : Store → Prop) (start : P (raiseRec s r))
    (weaken : ∀ {a : Store}, P a → Q a)
    (fetched : ∀ {a b : Store} {n : Node}, P a → fetch r.page a = .ok n b → P b)
    (ins_ok : ∀ {a b : Store} {bt bt' : BT}, r.op = c_OpInsert → P a →
      insertKey bt r.cell r.lsn r.val a = .ok bt' b → Q b)
    (ins_err : ∀ {a b : Store} {bt : BT} {e : SErr}, r.op = c_OpInsert → P a →
      insertKey bt r.cell r.lsn r.val a = .err e b → Q b)
    (raised : ∀ {a : Store}, r.op = c_OpInsert → Q a → Q (raiseKey a r.cell))
    (rep_ok : ∀ {a b : Store} {old new : Nat}, r.op = c_OpInsert → Q a →
      repointPageTable old new r.lsn a = .ok () b → Q b)
    (rep_err : ∀ {a b : Store} {old new : Nat} {e : SErr}, r.op = c_OpInsert → Q a →
      repointPageTable old new r.lsn a = .err e b → Q b)
    (filed : ∀ {a : Store} (l l' : Leaf), P a → l'.off = l.off →
      P { a with mem := assocSet a.mem l.off ⟨.leaf l', true⟩ }) :
    Q (replayOne r s).1 := by
  rw [replayOne_eq_body]
  unfold replayBody
  split
  · rename_i node s1 hfe
    have h1 := fetched start hfe
    by_cases hl : r.lsn ≤ nodeLSN node
    · rw [replayOn_skip hl]; exact weaken h1
    have hl := Nat.not_le.mp hl
    by_cases hop : r.op = c_OpInsert
    · rw [replayOn_ins hl hop]
      unfold replayIns
      split
      · rename_i bt s2 hik
        have h3 := raised hop (ins_ok hop h1 hik)
        split
        · split
          · rename_i hrp; exact rep_ok hop h3 hrp
          · rename_i hrp; exact rep_err hop h3 hrp
          · exact h3
          · exact h3
          · exact h3
        · exact h3
      · rename_i s2 hik; exact raised hop (ins_err hop h1 hik)
      · rename_i s2 _ hik; exact ins_err hop h1 hik
      · exact weaken h1
      · exact weaken h1
      · exact weaken h1
    by_cases hupd : r.op = c_OpUpdate
    · rw [replayOn_upd hl hupd]
      unfold replayUpd
      split
      · split <;> exact weaken h1
      · split
        · exact weaken h1
        · exact weaken (filed _ _ h1 rfl)
    by_cases hdel : r.op = c_OpDelete
    · rw [replayOn_del hl hdel]
      unfold replayDel
      split
      · split <;> exact weaken h1
      · split
        · exact weaken h1
        · exact weaken (filed _ _ h1 rfl)
    · rw [replayOn_other hop hupd hdel]; exact weaken h1
  · exact weaken start

/-! ### the log, record by record -/

theorem replayAll_cons_ok' {r : WalRec} {rest : List WalRec} {s s' : Store}
    (h : replayOne r s = (s', none, false)) : replayAll (r :: rest) s = replayAll rest s' := by
  rw [replayAll, h]

theorem replayAll_cons_ok (r : WalRec) (rest : List WalRec) (s : Store)
    (h : (replayOne r s).2 = (none, false)) :
    replayAll (r :: rest) s = replayAll rest (replayOne r s).1 :=
  replayAll_cons_ok' (by rw [← h])

theorem replayAll_cons_inv {r : WalRec} {rest : List WalRec} {s s' : Store}
    (h : replayAll (r :: rest) s = (s', none, false)) :
    ∃ s1, replayOne r s = (s1, none, false) ∧ replayAll rest s1 = (s', none, false) := by
  rw [replayAll] at h
  rcases hr : replayOne r s with ⟨s1, msg, ab⟩
  rw [hr] at h
  cases msg with
  | some m => simp only [Prod.mk.injEq] at h; exact absurd h.2.1 (by simp)
  | none =>
    cases ab with
    | true => simp only [Prod.mk.injEq] at h; exact absurd h.2.2 (by simp)
    | false => exact ⟨s1, rfl, h⟩

theorem replayAll_append {l1 l2 : List WalRec} {s s' : Store}
    (h : replayAll l1 s = (s', none, false)) : replayAll (l1 ++ l2) s = replayAll l2 s' := by
  induction l1 generalizing s with
  | nil =>
    simp only [replayAll, Prod.mk.injEq, and_true] at h
    subst h
    rfl
  | cons r rest ih =>
    obtain ⟨s1, e1, h1⟩ := replayAll_cons_inv h
    rw [List.cons_append, replayAll_cons_ok' e1]
    exact ih h1

/-- what every record keeps, the replay keeps - wherever it stops -/
theorem replayAll_keeps {P : Store → Prop} (h1 : ∀ r s, P s → P (replayOne r s).1) (log : List WalRec)
    (s : Store) (hs : P s) : P (replayAll log s).1 := by
  induction log generalizing s with
  | nil => exact hs
  | cons r rest ih =>
    have h := h1 r s hs
    unfold Engine.replayAll
    split
    · rename_i s' he
      rw [he] at h
      exact ih s' h
    · exact h

/-- a measure `μ` of the store that no record lowers, and that every record `r` of the kind `G` raises to at least
its own value `x r`, has reached the value of every such record of the log when the replay has run to its end
(`μ` the row-id counter, `x` the key of an INSERT record: `replayAll_counter`; `μ` the LSN counter: `replayAll_lsn`) -/
theorem replayAll_reaches (μ : Store → Nat) (x : WalRec → Nat) (G : WalRec → Prop)
    (mono : ∀ r s, μ s ≤ μ (replayOne r s).1) (hit : ∀ r s, G r → x r ≤ μ (replayOne r s).1)
    (log : List WalRec) (s s' : Store) (h : replayAll log s = (s', none, false)) :
    ∀ r ∈ log, G r → x r ≤ μ s' := by
  induction log generalizing s with
  | nil => exact fun _ hr => nomatch hr
  | cons r0 rest ih =>
    obtain ⟨s1, e1, h1⟩ := replayAll_cons_inv h
    intro r hr hG
    rcases List.mem_cons.mp hr with rfl | hr'
    · have h2 := replayAll_keeps (P := fun a => μ s1 ≤ μ a) (fun r a ha => Nat.le_trans ha (mono r a)) rest s1
        (Nat.le_refl _)
      rw [h1] at h2
      have h3 := hit r s hG
      rw [e1] at h3
      exact Nat.le_trans h3 h2
    · exact ih s1 h1 r hr' hG

end Mkdb.Store
