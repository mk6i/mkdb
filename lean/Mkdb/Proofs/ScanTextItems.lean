import Mkdb.Proofs.ScanTextPieces
/-!
# The scanner on text in standard form: the token loop over a whole text

A text is a list of (gap, piece) pairs and a trailing gap (`renderItems`).  When every piece can end
where it ends (`ItemsOK`), each turn of the token loop `scanAll` skips one gap and reports one piece's
token (`scanAll_piece`), so `scanSQL` gives exactly the tokens of the pieces (`scanSQL_items`).
-/
namespace Mkdb.Scan
open Mkdb.Generated

/-! ## The token loop, one token at a time -/

/-- a round of the token loop at a token that is neither the end of the input nor an open comment
(`scanLoop_cases` for `scanAll`) -/
theorem scanAll_round (F : Nat) (l : Input) (acc : List Token) (k : Kind) (rs rest : Input)
    (h : scanTok (F + 1) l = some (k, rs, rest)) (hk : k ≠ .eof) (hk' : k ≠ .openComment) :
    scanAll (F + 1) l acc =
      if (tokenOf keywordOf k rs rest).2 then
        behindNext (F + 1) rest fun rest' => scanAll F rest' ((tokenOf keywordOf k rs rest).1 :: acc)
      else scanAll F rest ((tokenOf keywordOf k rs rest).1 :: acc) := by
  rcases scanLoop_cases keywordOf acc h with ⟨e, _⟩ | ⟨e, _⟩ | ⟨_, e⟩
  · exact absurd e hk
  · exact absurd e hk'
  · rw [scanAll_eq_loop, e]
    simp only [scanAll_eq_loop]

/-- One step of the token loop: when the scanner stands (after a gap) at a well-formed piece that can end
where it ends, `scanAll` appends the piece's token and goes on behind the piece. -/
theorem scanAll_piece (p : Piece) (hok : p.ok = true) (X : Input) (hX : HeadP p.stop X = true)
    (F k : Nat) (l : Input) (hl : scanTok (F + 1) l = scanTok (k + 1) (p.runes ++ X)) (acc : List Token) :
    scanAll (F + 1) l acc = scanAll F X (p.tok :: acc) := by
  cases Piece.ok_inv hok with
  | word r w h1 h2 h3 _ =>
    rw [scanAll_round F l acc _ _ X (hl.trans (scanTok_word k r w X h1 h2 hX h3)) nofun nofun]
    rfl
  | int d ds hd hds =>
    rw [scanAll_round F l acc _ _ X (hl.trans (scanTok_int k d ds X hd hds hX)) nofun nofun, Piece.tok, ← textOf_ascii]
    rfl
  | str body hb =>
    rw [scanAll_round F l acc _ _ X (hl.trans (scanTok_str k body X hb)) nofun nofun, tokenOf_str body X hb]
    rfl
  | punct c hc =>
    rw [scanAll_round F l acc _ _ X (hl.trans (scanTok_punct k c X hc hX)) nofun nofun, tokenOf_punct c hc X,
      Piece.stop_punct_next c X hX]
    rfl
  | op2 c hc3 =>
    obtain ⟨hc, h46⟩ : c ∈ punctCodes ∧ c ≠ 46 := by
      simp only [Bool.or_eq_true, beq_iff_eq] at hc3
      rcases hc3 with (h | h) | h <;> subst h <;> decide
    obtain ⟨h1, h2, h3, h4, -⟩ := punct_facts c hc
    rw [scanAll_round F l acc _ _ (asciiRune 61 :: X) (hl.trans (scanTok_char k c _ h1 h2 h3 (h4 h46))) nofun nofun,
      tokenOf_punct c hc, hc3]
    -- the `=` is scanned as a token of its own and dropped
    have heq : scanTok (F + 1) (asciiRune 61 :: X) = some (.char 61, [asciiRune 61], X) :=
      scanTok_char F 61 X (by decide) (by decide) (by decide) (by decide)
    simp only [nextIsEq, asciiRune_code, beq_self_eq_true, Bool.and_self, ↓reduceIte, behindNext, heq]

/-- The text: gap, piece, gap, piece, ..., trailing gap. -/
def renderItems : List (Gap × Piece) → Gap → Input
  | [], tail => Gap.runes tail
  | (g, p) :: rest, tail => Gap.runes g ++ (p.runes ++ renderItems rest tail)

/-- Every gap and piece is well formed and every piece can end where it ends: the rune behind it
(the first rune of the following gap, or of the next piece when the gap is empty) satisfies `Piece.stop`. -/
def ItemsOK : List (Gap × Piece) → Gap → Bool
  | [], tail => Gap.ok tail
  | (g, p) :: rest, tail =>
    Gap.ok g && p.ok && HeadP p.stop (renderItems rest tail) && ItemsOK rest tail

/-- fuel the token loop needs: one per token, one per comment, one for the end -/
def itemsFuel : List (Gap × Piece) → Gap → Nat
  | [], tail => Gap.cost tail + 1
  | (g, _) :: rest, tail => Gap.cost g + 1 + itemsFuel rest tail

theorem scanTok_nil (f : Nat) : scanTok (f + 1) [] = some (.eof, [], []) := by
  simp only [scanTok, skipWs]

theorem scanAll_items : ∀ (items : List (Gap × Piece)) (tail : Gap), ItemsOK items tail = true →
    ∀ (F : Nat) (acc : List Token), itemsFuel items tail ≤ F →
      scanAll F (renderItems items tail) acc = .ok (acc.reverse ++ items.map (·.2.tok)) := by
  intro items
  induction items with
  | nil =>
    intro tail hok F acc hF
    simp only [itemsFuel] at hF
    obtain ⟨k, rfl⟩ : ∃ k, F = Gap.cost tail + k + 1 := ⟨F - Gap.cost tail - 1, by omega⟩
    have h := scanTok_gap tail hok [] k
    rw [List.append_nil, scanTok_nil] at h
    rw [renderItems, scanAll, h]
    simp
  | cons it rest ih =>
    intro tail hok F acc hF
    obtain ⟨g, p⟩ := it
    simp only [ItemsOK, Bool.and_eq_true] at hok
    obtain ⟨⟨⟨hg, hp⟩, hstop⟩, hrest⟩ := hok
    simp only [itemsFuel] at hF
    obtain ⟨F', rfl⟩ : ∃ F', F = F' + 1 := ⟨F - 1, by omega⟩
    obtain ⟨k, hk⟩ : ∃ k, F' = Gap.cost g + k := ⟨F' - Gap.cost g, by omega⟩
    have hgap := scanTok_gap g hg (p.runes ++ renderItems rest tail) k
    rw [← hk] at hgap
    rw [renderItems, scanAll_piece p hp _ hstop F' k _ hgap acc, ih tail hrest F' _ (by omega)]
    simp

/-! ## From `scanAll` to `scanSQL`: the byte order mark and the initial fuel -/

theorem dropBOM_of_head (l : Input) (h : HeadP (fun r => !(r.code == 0xFEFF)) l = true) : dropBOM l = l := by
  cases l with
  | nil => rfl
  | cons r l =>
    simp only [HeadP, Bool.not_eq_true'] at h
    simp only [dropBOM, h, Bool.false_eq_true, ↓reduceIte]

/-- what a gap can begin with: white space, or the `/` of a comment -/
def gapHeads : List Nat := [9, 10, 11, 12, 13, 32, 47]

theorem Gap.head (g : Gap) (hg : Gap.ok g = true) (hne : g ≠ []) :
    ∃ c X, Gap.runes g = asciiRune c :: X ∧ c ∈ gapHeads := by
  cases g with
  | nil => exact absurd rfl hne
  | cons e g =>
    simp only [Gap.ok, List.all_cons, Bool.and_eq_true] at hg
    rw [Gap.runes_cons]
    cases e with
    | ws c =>
      refine ⟨c, Gap.runes g, rfl, ?_⟩
      have : isWs c = true := hg.1
      simp only [isWs, Bool.or_eq_true, beq_iff_eq] at this
      simp only [gapHeads, List.mem_cons, List.not_mem_nil, or_false]
      omega
    | block body => exact ⟨47, _, rfl, by decide⟩
    | line body => exact ⟨47, _, rfl, by decide⟩

theorem gapHead_facts : ∀ c ∈ gapHeads,
    isIdentRune (asciiRune c) false = false ∧ isDecimal c = false ∧ (c == 95) = false ∧
      notFloatCont (asciiRune c) = true ∧ notBasePrefix (asciiRune c) = true ∧ (c == 61) = false ∧
      (c == 0xFEFF) = false := by decide

theorem Piece.stop_gapHead (p : Piece) (c : Nat) (hc : c ∈ gapHeads) :
    p.stop (asciiRune c) = true := by
  obtain ⟨a1, a2, a3, a4, a5, a6, -⟩ := gapHead_facts c hc
  cases p with
  | word rs => simp only [Piece.stop, a1, Bool.not_false]
  | int ds => simp only [Piece.stop, asciiRune_code, a2, a3, a4, a5, Bool.or_self, Bool.not_false, Bool.or_true, Bool.and_self]
  | str body => rfl
  | punct c' =>
    simp only [Piece.stop, asciiRune_code, a2, a6, Bool.not_false]
    split
    · rfl
    · split <;> rfl
  | op2 c' => rfl

theorem Piece.stop_gap (p : Piece) (g : Gap) (hg : Gap.ok g = true) (hne : g ≠ []) (X : Input) :
    HeadP p.stop (Gap.runes g ++ X) = true := by
  obtain ⟨c, Y, hY, hc⟩ := Gap.head g hg hne
  rw [hY, List.cons_append, HeadP_cons]
  exact Piece.stop_gapHead p c hc

theorem Piece.runes_head (p : Piece) (hp : p.ok = true) :
    ∃ r X, p.runes = r :: X ∧ (r.code == 0xFEFF) = false := by
  cases Piece.ok_inv hp with
  | word r w _ _ _ hbom => exact ⟨r, w, rfl, hbom⟩
  | int d ds hd _ =>
    refine ⟨asciiRune d, ds.map asciiRune, rfl, ?_⟩
    simp only [isDecimal, Bool.and_eq_true, decide_eq_true_eq] at hd
    simp only [asciiRune_code, beq_eq_false_iff_ne]; omega
  | str body _ => exact ⟨asciiRune 39, _, rfl, by decide⟩
  | punct c hc => exact ⟨asciiRune c, [], rfl, (by decide : ∀ c ∈ punctCodes, (c == 0xFEFF) = false) c hc⟩
  | op2 c hc3 =>
    refine ⟨asciiRune c, [asciiRune 61], rfl, ?_⟩
    simp only [Bool.or_eq_true, beq_iff_eq] at hc3
    simp only [asciiRune_code, beq_eq_false_iff_ne]; omega

theorem renderItems_head (items : List (Gap × Piece)) (tail : Gap) (hok : ItemsOK items tail = true) :
    HeadP (fun r => !(r.code == 0xFEFF)) (renderItems items tail) = true := by
  have hgap : ∀ (g : Gap) (X : Input), Gap.ok g = true → g ≠ [] →
      HeadP (fun r => !(r.code == 0xFEFF)) (Gap.runes g ++ X) = true := by
    intro g X hg hne
    obtain ⟨c, Y, hY, hc⟩ := Gap.head g hg hne
    rw [hY, List.cons_append, HeadP_cons, asciiRune_code, (gapHead_facts c hc).2.2.2.2.2.2]
    rfl
  cases items with
  | nil =>
    simp only [ItemsOK] at hok
    by_cases hne : tail = []
    · subst hne; rfl
    · have := hgap tail [] hok hne
      rwa [List.append_nil] at this
  | cons it rest =>
    obtain ⟨g, p⟩ := it
    simp only [ItemsOK, Bool.and_eq_true] at hok
    obtain ⟨⟨⟨hg, hp⟩, _⟩, _⟩ := hok
    rw [renderItems]
    by_cases hne : g = []
    · subst hne
      obtain ⟨r, X, hr, hcode⟩ := Piece.runes_head p hp
      simp only [Gap.runes, List.flatMap_nil, List.nil_append, hr, List.cons_append, HeadP_cons, hcode, Bool.not_false]
    · exact hgap g _ hg hne

theorem Gap.cost_le (g : Gap) : Gap.cost g ≤ (Gap.runes g).length := by
  induction g with
  | nil => simp [Gap.cost]
  | cons e g ih =>
    rw [Gap.runes_cons, List.length_append]
    have : Gap.cost (e :: g) = e.cost + Gap.cost g := by simp [Gap.cost]
    rw [this]
    have : e.cost ≤ e.runes.length := by
      cases e <;> simp [GapEl.cost, GapEl.runes]
    omega

theorem itemsFuel_le (items : List (Gap × Piece)) (tail : Gap) (hok : ItemsOK items tail = true) :
    itemsFuel items tail ≤ (renderItems items tail).length + 1 := by
  induction items with
  | nil => simp only [itemsFuel, renderItems]; have := Gap.cost_le tail; omega
  | cons it rest ih =>
    obtain ⟨g, p⟩ := it
    simp only [ItemsOK, Bool.and_eq_true] at hok
    obtain ⟨⟨⟨_, hp⟩, _⟩, hrest⟩ := hok
    obtain ⟨r, X, hr, _⟩ := Piece.runes_head p hp
    have := ih hrest
    have := Gap.cost_le g
    simp only [itemsFuel, renderItems, List.length_append, hr, List.length_cons]
    omega

/-- **The scanner on standard-form text.**  A text made of well-formed gaps and pieces in which every
piece can end where it ends scans - with the fuel `scanSQL` starts with - to exactly the tokens of its
pieces, in order, and nothing else. -/
theorem scanSQL_items (items : List (Gap × Piece)) (tail : Gap) (hok : ItemsOK items tail = true) :
    scanSQL (renderItems items tail) = .ok (items.map (·.2.tok)) := by
  unfold scanSQL
  rw [dropBOM_of_head _ (renderItems_head items tail hok),
    scanAll_items items tail hok _ [] (by have := itemsFuel_le items tail hok; omega)]
  rfl

end Mkdb.Scan
