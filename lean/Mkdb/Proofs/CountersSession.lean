import Mkdb.Proofs.CountersHistory
import Mkdb.Proofs.SessInvHistory
/-!
The header counters: **the session model.**  Every database of every session state that
`Session.exec` (CREATE DATABASE, USE - which closes, i.e. flushes and re-opens, the database selected
before -, the four DML / DDL statements on the selected database, accepted or refused) and
`Session.restart` (close, start-up recovery of every database, re-open) reach from the empty session is
reached from `newDB` by a history `Hist`; and the row ids its history put at stake are at most the rows of
the INSERT statements plus the catalog rows of the CREATE TABLE statements the SESSION was given - whatever
database they went to, whether they were accepted, refused, or given with no database selected.
-/
set_option autoImplicit false
namespace Mkdb.Session
open Mkdb.Engine Mkdb.Store Mkdb.Sql Mkdb.Tree

/-- the row ids a statement can put at stake: the rows of an INSERT, the catalog rows of a CREATE TABLE -/
def stmtRows : Sql.Stmt → Nat
  | .insert _ _ rows => rows.length
  | .createTable _ cols => cols.length + 1
  | _ => 0

/-- every database of the session is reached from `newDB` by a history that put at most `B` row ids at
stake -/
def SessRows (s : Sess) (B : Nat) : Prop := ∀ p ∈ s.dbs, ∃ w, Hist newDB w p.2 ∧ w.rows ≤ B

theorem SessRows.mono {s : Sess} {B B' : Nat} (h : SessRows s B) (hb : B ≤ B') : SessRows s B' :=
  fun p hp => by obtain ⟨w, hw, hr⟩ := h p hp; exact ⟨w, hw, Nat.le_trans hr hb⟩

/-- closing a database (flush, then the next open reads the data file) -/
theorem closed_hist {db db' : Engine.DB} {w : Work} (hw : Hist newDB w db) (hfl : Engine.flush db [] = .ok () db') :
    Hist newDB w (closed db') :=
  (hw.flush [] (by rw [hfl]; rfl)).reopen

theorem exec_sessRows {s : Sess} {B : Nat} (h : SessRows s B) (st : Sql.Stmt) :
    SessRows (exec s st).1 (B + stmtRows st) := by
  refine exec_pointwise (P := fun db => ∃ w, Hist newDB w db ∧ w.rows ≤ B + stmtRows st) st
    (h.mono (Nat.le_add_right _ _)) ⟨{}, .nil, Nat.zero_le _⟩ (fun p hp _ db' hf => ?_) (fun p hp _ db' hr => ?_)
  · obtain ⟨w, hw, hb⟩ := h p hp
    exact ⟨w, closed_hist hw hf, Nat.le_trans hb (Nat.le_add_right _ _)⟩
  · obtain ⟨w, hw, hb⟩ := h p hp
    have hres : resDB (evalStmt p.2 [] st) = some db' := by
      rcases hr with e | ⟨x, e⟩ <;> rw [e] <;> rfl
    -- `evalStmt` back into the statement kinds of `Hist`
    cases st with
    | createTable name cols => exact ⟨_, hw.createTable name cols [] true hres, Nat.add_le_add_right hb _⟩
    | insert t cols rows =>
      have hres' : resDB (Engine.evalInsert p.2 t cols (rows.map fun r => r.map litToVal)) = some db' := by
        simp only [evalStmt] at hres
        cases hx : Engine.evalInsert p.2 t cols (rows.map fun r => r.map litToVal) <;> rw [hx] at hres <;> exact hres
      have := hw.insert t cols (rows.map fun r => r.map litToVal) hres'
      rw [List.length_map] at this
      exact ⟨_, this, Nat.add_le_add_right hb _⟩
    | update t sets wh => exact ⟨_, hw.update t sets wh hres, hb⟩
    | delete t wh =>
      have hres' : resDB (Engine.evalDelete p.2 t wh) = some db' := by
        simp only [evalStmt] at hres
        cases hx : Engine.evalDelete p.2 t wh <;> rw [hx] at hres <;> exact hres
      exact ⟨_, hw.delete t wh hres', hb⟩
    | _ =>
      simp only [evalStmt, resDB, Option.some.injEq] at hres
      subst hres
      exact ⟨w, hw, Nat.le_trans hb (Nat.le_add_right _ _)⟩

theorem runAll_sessRows : ∀ (sts : List Sql.Stmt) {s : Sess} {B : Nat}, SessRows s B →
    SessRows (runAll s sts).1 (B + (sts.map stmtRows).sum)
  | [], _, _, h => h
  | st :: rest, s, B, h => by
    have := runAll_sessRows rest (exec_sessRows h st)
    simp only [runAll, List.map_cons, List.sum_cons]
    rw [← Nat.add_assoc]
    exact this

theorem restart_sessRows {s s' : Sess} {B : Nat} (h : SessRows s B) (hr : restart s = some s') : SessRows s' B := by
  rw [restart_eq] at hr
  cases e : recoverEvery (closeCur s).dbs with
  | none => rw [e] at hr; cases hr
  | some out =>
    rw [e] at hr
    cases hr
    refine (recoverEvery_all (P := fun _ db => ∃ w, Hist newDB w db ∧ w.rows ≤ B)
      (R := fun _ db => ∃ w, Hist newDB w db ∧ w.rows ≤ B)
      (fun n db r ⟨w, hw, hb⟩ hr => ⟨_, (hw.recover [] [] (by rw [hr]; rfl)).reopen, hb⟩) _ out (fun p hp => ?_) e).2
    rcases mem_closeCur hp with ⟨hp', _⟩ | ⟨db, _, hg, hf⟩
    · exact h p hp'
    · obtain ⟨w, hw, hb⟩ := h _ (getDB_mem hg)
      exact ⟨w, hw.flush [] (by rw [hf]; rfl), hb⟩

theorem sessRows_empty : SessRows {} 0 := fun p hp => by cases hp

/-- **The row ids of a session fit.**  After any list of statements run from the empty session, every
database of the session is reached from `newDB` by a history `Hist` whose row-id work is at most the rows of
the INSERT statements plus the catalog rows of the CREATE TABLE statements in the list; so its row-id
counter is at most 8 plus that, and below `2^32` if the list carries at most `2^32 - 9` such rows. -/
theorem session_row_ids_fit (sts : List Sql.Stmt) :
    ∀ p ∈ (runAll {} sts).1.dbs, (∃ w, Hist newDB w p.2 ∧ w.rows ≤ (sts.map stmtRows).sum) ∧
      p.2.store.hdr.lastKey ≤ 8 + (sts.map stmtRows).sum ∧
      ((sts.map stmtRows).sum ≤ maxRows → p.2.store.hdr.lastKey < 2 ^ 32) := by
  intro p hp
  have h := runAll_sessRows sts sessRows_empty p hp
  rw [Nat.zero_add] at h
  obtain ⟨w, hw, hr⟩ := h
  have h1 := (hist_from_create_database hw).1
  refine ⟨⟨w, hw, hr⟩, by omega, fun hN => ?_⟩
  have p32 : (2 : Nat) ^ 32 = 4294967296 := by decide
  unfold maxRows at hN
  omega

end Mkdb.Session
