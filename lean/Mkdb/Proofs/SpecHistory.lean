import Mkdb.Proofs.SpecRefine
import Mkdb.Proofs.SpecRefineStmt
/-!
# Histories of statements: the engine model follows the plain model through any history

`specHist` is what the judge of the correspondence runs does with a history: a statement the plain model refuses
leaves the plain database as it was.  `runHist` runs the history on the engine model, going on after an error value
with the database the error left.  `HistOK` collects the side conditions statement by statement: an accepted
statement has `StmtRoom`, a refused one is refused before any change (`StmtRefusal`; the refusal at a later row of a
multi-row INSERT / UPDATE is the known finding of C14 and is NOT among them).  Before the histories, the
statement-level theorems are run on the hand-written store `st1`, for non-vacuity.
-/

section
/-!
## The statement-level theorems on a concrete store

Non-vacuity, on the hand-written store `st1` of `SpecRefine` (table `t (a INT)`), of the theorems over
`Sql.Stmt` (`SpecRefineStmt`), of CREATE TABLE (`SpecRefineCreateTable`), of the refusals of DELETE and
UPDATE and of totality (`SpecRefineRefused`): `Rel` holds of the store, and each kind of statement - accepted
or refused - is run on it.
-/
set_option autoImplicit false
namespace Mkdb.Store
open Mkdb.Page Mkdb.Tuple Mkdb.Generated Mkdb.Tree

theorem noStale1 : NoStale sch1 [(tname, t0)] := fun n hn _ _ =>
  schemaOf_of_names (sch := sch1)
    (rows := [[("field_length", .int 0), ("field_type", .int 0), ("field_name", .str [97]), ("table_name", .str [116])]])
    (by decide +kernel) [tname] (by decide +kernel) hn

/-- **Non-vacuity of `Rel`.** -/
theorem rel1 : Rel dbA pt0 sch1 [(tname, t0)] sdbA0 := ⟨abs1.toV, noStale1, st1_memFiled⟩

/-! ### CREATE TABLE u (b VARCHAR(10)) -/

def bcols : List Sql.ColDef := [⟨[98], .varchar 10⟩]
theorem bcheck : checkCatalogRows (bcols.map Engine.colTypeToField) uname = none := by decide +kernel

/-- **Non-vacuity of `evalStmt_refines_spec` (CREATE TABLE).** -/
theorem create_stmt_example :
    ∃ db' pt' sch' tbls', evalStmt dbA [] (.createTable uname bcols) = .ok () db' ∧
      Rel db' pt' sch' tbls' (sdbA0 ++ [⟨uname, [⟨"b", .varchar, 10⟩], []⟩]) := by
  apply evalStmt_refines_spec dbA [] pt0 sch1 [(tname, t0)] sdbA0 _ rel1 (.createTable uname bcols)
  · refine ⟨?_, bcheck, by decide, by decide, by decide, by decide, by decide⟩
    intro c hc k hk
    simp only [bcols, List.mem_singleton] at hc
    subst hc
    simp only [Sql.ColType.varchar.injEq] at hk
    omega
  · have h1 : (uname == "sys_pages".toUTF8.toList) = false := by
      have := sysPages_eq
      unfold sysPages at this
      rw [this]; decide
    have h2 : (uname == "sys_schema".toUTF8.toList) = false := by
      have := sysSchema_eq
      unfold sysSchema at this
      rw [this]; decide
    have h0 : (Spec.findTable sdbA0 uname).isSome = false := rfl
    simp only [Spec.specStmt, Spec.specCreate, h0, h1, h2, Bool.or_self, Bool.false_eq_true, if_false]
    rfl

/-- … and it is refused when the name is taken (`CREATE TABLE t …`): nothing changes. -/
theorem create_refused_example :
    Spec.specStmt sdbA0 (.createTable tname bcols) = none ∧
    ∃ e db', evalStmt dbA [] (.createTable tname bcols) = .err e db' ∧ db'.wal = dbA.wal ∧
      Rel db' pt0 sch1 [(tname, t0)] sdbA0 :=
  evalStmt_refused_spec dbA [] pt0 sch1 [(tname, t0)] sdbA0 rel1 _ (.create tname bcols (.exists_ rfl))

/-- **Non-vacuity of the refusals by column name.**  On the concrete store, `UPDATE t SET b = 1` (the
table `t (a INT)` has no column `b`; no row need be selected) and
`CREATE TABLE u (b VARCHAR(10), b VARCHAR(10))` (one column name twice) are refused by the spec and by
the model. -/
theorem names_refusals_example :
    (Spec.specStmt sdbA0 (.update tname [([98], .lit (.int 1))] none) = none ∧
      ∃ e db', evalStmt dbA [] (.update tname [([98], .lit (.int 1))] none) = .err e db' ∧ db'.wal = dbA.wal ∧
        Rel db' pt0 sch1 [(tname, t0)] sdbA0) ∧
    (Spec.specStmt sdbA0 (.createTable uname (bcols ++ bcols)) = none ∧
      ∃ e db', evalStmt dbA [] (.createTable uname (bcols ++ bcols)) = .err e db' ∧ db'.wal = dbA.wal ∧
        Rel db' pt0 sch1 [(tname, t0)] sdbA0) := by
  constructor
  · exact evalStmt_refused_spec dbA [] pt0 sch1 [(tname, t0)] sdbA0 rel1 _
      (.update tname _ none (.names ⟨tname, schemaA, []⟩
        (by intro p hp c hc; simp only [List.mem_singleton] at hp; subst hp; cases hc) rfl (by decide)))
  · have h1 : uname ≠ sysPages := by rw [sysPages_eq]; decide
    have h2 : uname ≠ sysSchema := by rw [sysSchema_eq]; decide
    exact evalStmt_refused_spec dbA [] pt0 sch1 [(tname, t0)] sdbA0 rel1 _
      (.create uname _ (.dupColumn rfl h1 h2 (by simp [bcols])))

/-! ### refused DELETE / UPDATE on the table with the rows `(5), (6)` -/

/-- `b = 1`: no such column -/
def condB : Sql.Cond := .pred ⟨.col ⟨[], [98]⟩, t_EQ, .lit (.int 1)⟩

theorem selB : Spec.selects ⟨tname, schemaA, [⟨none, [.int 5]⟩, ⟨none, [.int 6]⟩]⟩ (some condB) = none := by
  simp only [Spec.selects, fieldsA]
  rfl

theorem specB_delete : Spec.specDelete sdbA1 tname (some condB) = none := by
  have hf : Spec.findTable sdbA1 tname = some ⟨tname, schemaA, [⟨none, [.int 5]⟩, ⟨none, [.int 6]⟩]⟩ := rfl
  unfold Spec.specDelete
  rw [hf]
  simp only [Option.bind_eq_bind, Option.bind_some, selB]
  rfl

theorem selA5 : Spec.selects ⟨tname, schemaA, [⟨none, [.int 5]⟩, ⟨none, [.int 6]⟩]⟩ (some (condEq 5)) =
    some [true, false] := by
  simp only [Spec.selects, fieldsA]
  rfl

/-- **Non-vacuity of the DELETE / UPDATE refusals and of totality.**  After
`INSERT INTO t VALUES (5), (6)` on the concrete store:
`DELETE FROM t WHERE b = 1` (no such column) fails with an executor error;
`UPDATE t SET a = 3000000000 WHERE a = 5` (the first selected row cannot be rewritten: INT out of
range) fails; `UPDATE t SET a = a` fails with `unsupported`; each time pages, header and log are as
before and the store still abstracts to the table holding `(5), (6)`. -/
theorem refusals_example :
    ∃ db1 pt1 tbls1,
      Engine.evalInsert dbA tname [] [[.int 5], [.int 6]] = .ok 2 db1 ∧
      AbsV db1.store pt1 sch1 tbls1 sdbA1 ∧
      (∃ x db', Engine.evalDelete db1 tname (some condB) = .err (.exec x) db' ∧ db'.wal = db1.wal ∧
        Same db1.store db'.store ∧ AbsV db'.store pt1 sch1 tbls1 sdbA1) ∧
      (∃ e db', Engine.evalUpdate db1 tname [([97], .lit (.int 3000000000))] (some (condEq 5)) = .err e db' ∧
        db'.wal = db1.wal ∧ Same db1.store db'.store ∧ AbsV db'.store pt1 sch1 tbls1 sdbA1) ∧
      (∃ db', Engine.evalUpdate db1 tname [([97], .col ⟨[], [97]⟩)] none = .err .unsupported db' ∧
        db'.wal = db1.wal) ∧
      Total db1 (Engine.evalUpdate db1 tname [([97], .lit (.int 3000000000))] none) := by
  obtain ⟨db1, pt1, t1', logs1, e1, _, _, _, habs1, _⟩ := evalInsert_refines_specV dbA pt0 sch1 [(tname, t0)]
    sdbA0 sdbA1 abs1.toV tname t0 (List.mem_singleton.mpr rfl) schemaA sch1_t [] [[.int 5], [.int 6]]
    rows56_valid
    specA1 runA
  refine ⟨db1, pt1, _, e1, habs1, ?_, ?_, ?_, ?_⟩
  · obtain ⟨e, db', he, _, _, hsome, hw, hs, habs'⟩ := evalDelete_refused_specV db1 pt1 sch1 _ sdbA1 habs1 tname
      (some condB) (fun h0 => by cases h0) specB_delete
    obtain ⟨x, rfl⟩ := hsome rfl
    exact ⟨x, db', he, hw, hs, habs'⟩
  · obtain ⟨_, e, db', he, _, hw, hs, habs'⟩ := evalUpdate_refused_specV db1 pt1 sch1 _ sdbA1 habs1 tname
      [([97], .lit (.int 3000000000))] (some (condEq 5))
      (.firstRow ⟨tname, schemaA, [⟨none, [.int 5]⟩, ⟨none, [.int 6]⟩]⟩ [true, false] [.int 5] []
        (by intro p hp c hc; simp only [List.mem_singleton] at hp; subst hp; cases hc) rfl selA5 rfl rfl)
    exact ⟨e, db', he, hw, hs, habs'⟩
  · exact ⟨db1, evalUpdate_col db1 tname _ none ⟨_, List.mem_singleton.mpr rfl, _, rfl⟩, rfl⟩
  · exact evalUpdate_total db1 pt1 sch1 _ sdbA1 habs1 tname _ none
      (fun hn => by exfalso; apply hn; rw [setTable_names]; simp)

end Mkdb.Store
end

section
/-! ## Histories -/
set_option autoImplicit false
namespace Mkdb.Store
open Mkdb.Page Mkdb.Tuple Mkdb.Generated Mkdb.Tree

def specHist (sdb : Spec.SDB) : List Sql.Stmt → Spec.SDB
  | [] => sdb
  | st :: rest => specHist ((Spec.specStmt sdb st).getD sdb) rest

def runHist (order : List Nat) (db : Engine.DB) : List Sql.Stmt → Option Engine.DB
  | [] => some db
  | st :: rest =>
    match evalStmt db order st with
    | .ok _ db' => runHist order db' rest
    | .err _ db' => runHist order db' rest
    | _ => none

def HistOK (order : List Nat) : List Sql.Stmt → Engine.DB → Spec.SDB → Prop
  | [], _, _ => True
  | st :: rest, db, sdb =>
    ((Spec.specStmt sdb st).isSome → ∀ pt sch tbls, Rel db pt sch tbls sdb → StmtRoom db pt sch tbls st) ∧
    (Spec.specStmt sdb st = none → ∀ pt sch tbls, Rel db pt sch tbls sdb → StmtRefusal sdb pt st) ∧
    ∀ db', (evalStmt db order st = .ok () db' ∨ ∃ e, evalStmt db order st = .err e db') →
      HistOK order rest db' ((Spec.specStmt sdb st).getD sdb)

/-- `runHist_refines_spec` with a property `J` of the catalog description carried along: a property of the page
table and `sys_schema` that every accepted statement keeps (`hacc`) holds at the end.  (A refused statement leaves
the description as it was.) -/
theorem runHist_carries (J : Levels → Levels → Prop) (order : List Nat)
    (hacc : ∀ {db db' : Engine.DB} {pt sch pt' sch' : Levels} {tbls tbls' : List (Bytes × Levels)}
      {sdb sdb' : Spec.SDB} {st : Sql.Stmt}, Rel db pt sch tbls sdb → J pt sch → StmtRoom db pt sch tbls st →
      Spec.specStmt sdb st = some sdb' → evalStmt db order st = .ok () db' → Rel db' pt' sch' tbls' sdb' →
      J pt' sch') (sts : List Sql.Stmt) :
    ∀ (db : Engine.DB) (pt sch : Levels) (tbls : List (Bytes × Levels)) (sdb : Spec.SDB),
      Rel db pt sch tbls sdb → J pt sch → HistOK order sts db sdb →
      ∃ db' pt' sch' tbls', runHist order db sts = some db' ∧ Rel db' pt' sch' tbls' (specHist sdb sts) ∧
        J pt' sch' := by
  induction sts with
  | nil => intro db pt sch tbls sdb h hj _; exact ⟨db, pt, sch, tbls, rfl, h, hj⟩
  | cons st rest ih =>
    intro db pt sch tbls sdb h hj hok
    obtain ⟨hroom, hbad, hnext⟩ := hok
    cases hs : Spec.specStmt sdb st with
    | none =>
      obtain ⟨_, e, db', he, _, hrel'⟩ := evalStmt_refused_spec db order pt sch tbls sdb h st (hbad hs pt sch tbls h)
      have hn := hnext db' (Or.inr ⟨e, he⟩)
      rw [hs] at hn
      obtain ⟨db2, pt2, sch2, tbls2, hr, hrel2⟩ := ih db' pt sch tbls sdb hrel' hj hn
      refine ⟨db2, pt2, sch2, tbls2, ?_, ?_⟩
      · simp only [runHist, he]; exact hr
      · simp only [specHist, hs]; exact hrel2
    | some sdb' =>
      have hr0 := hroom (by rw [hs]; rfl) pt sch tbls h
      obtain ⟨db', pt', sch', tbls', he, hrel'⟩ := evalStmt_refines_spec db order pt sch tbls sdb sdb' h st hr0 hs
      have hn := hnext db' (Or.inl he)
      rw [hs] at hn
      obtain ⟨db2, pt2, sch2, tbls2, hr, hrel2⟩ := ih db' pt' sch' tbls' sdb' hrel' (hacc h hj hr0 hs he hrel') hn
      refine ⟨db2, pt2, sch2, tbls2, ?_, ?_⟩
      · simp only [runHist, he]; exact hr
      · simp only [specHist, hs]; exact hrel2

/-- **Every history.**  From related states, through any list of statements each of which the plain
model accepts (with room) or refuses before a change, the engine model never crashes and ends related
to the plain database the history implies. -/
theorem runHist_refines_spec (order : List Nat) (sts : List Sql.Stmt)
    (db : Engine.DB) (pt sch : Levels) (tbls : List (Bytes × Levels)) (sdb : Spec.SDB)
    (h : Rel db pt sch tbls sdb) (hok : HistOK order sts db sdb) :
    ∃ db' pt' sch' tbls', runHist order db sts = some db' ∧ Rel db' pt' sch' tbls' (specHist sdb sts) := by
  obtain ⟨db', pt', sch', tbls', hr, hrel, _⟩ := runHist_carries (fun _ _ => True) order (fun _ _ _ _ _ _ => trivial) sts
    db pt sch tbls sdb h trivial hok
  exact ⟨db', pt', sch', tbls', hr, hrel⟩

theorem runHist_never_crashes (order : List Nat) (sts : List Sql.Stmt)
    (db : Engine.DB) (pt sch : Levels) (tbls : List (Bytes × Levels)) (sdb : Spec.SDB)
    (h : Rel db pt sch tbls sdb) (hok : HistOK order sts db sdb) : (runHist order db sts).isSome := by
  obtain ⟨db', _, _, _, hr, _⟩ := runHist_refines_spec order sts db pt sch tbls sdb h hok
  rw [hr]; rfl

/-- a history of DELETE statements on user-table names always meets the side conditions: whatever
its WHERE clauses, each DELETE is accepted by the plain model or refused before a change -/
theorem histOK_deletes (order : List Nat) (sts : List Sql.Stmt)
    (h : ∀ st ∈ sts, ∃ t w, st = .delete t w ∧ t ≠ sysPages ∧ t ≠ sysSchema) :
    ∀ (db : Engine.DB) (sdb : Spec.SDB), HistOK order sts db sdb := by
  induction sts with
  | nil => intro _ _; trivial
  | cons st rest ih =>
    intro db sdb
    obtain ⟨t, w, rfl, h1, h2⟩ := h _ (List.mem_cons_self ..)
    refine ⟨fun _ _ _ _ _ => trivial, fun hs pt sch tbls _ => .delete t w (fun _ => ⟨h1, h2⟩) hs, fun db' _ => ?_⟩
    exact ih (fun st hst => h st (List.mem_cons_of_mem _ hst)) _ _

/-! ### non-vacuity: `CREATE TABLE t …` (refused: exists), `DELETE FROM t`, `DELETE FROM t WHERE b = 1` -/

theorem tname_ne_sys : tname ≠ sysPages ∧ tname ≠ sysSchema := by
  rw [sysPages_eq, sysSchema_eq]; decide

theorem hist_example :
    ∃ db' pt' sch' tbls',
      runHist [] dbA [.createTable tname bcols, .delete tname none, .delete tname (some condB)] = some db' ∧
      Rel db' pt' sch' tbls'
        (specHist sdbA0 [.createTable tname bcols, .delete tname none, .delete tname (some condB)]) := by
  apply runHist_refines_spec [] _ dbA pt0 sch1 [(tname, t0)] sdbA0 rel1
  have hnone := create_refused_example.1
  refine ⟨fun hsome => ?_, fun _ pt _ _ _ => .create tname bcols (.exists_ rfl), fun db' _ => ?_⟩
  · rw [hnone] at hsome; cases hsome
  · rw [hnone]
    apply histOK_deletes
    intro st hst
    simp only [List.mem_cons, List.mem_nil_iff, or_false] at hst
    rcases hst with rfl | rfl
    · exact ⟨tname, none, rfl, tname_ne_sys⟩
    · exact ⟨tname, some condB, rfl, tname_ne_sys⟩

end Mkdb.Store
end
