import Mkdb.Proofs.CatalogRepoint
import Mkdb.Proofs.TreeInsert
/-!
CREATE TABLE at the statement level: how much one `insertAppend` can grow a tree; the
`sys_schema` row of a column (`schemaRowBytes`), its encoding and decoding; `schemaOf` after rows
of one table were appended.
-/
set_option autoImplicit false
namespace Mkdb.Store
open Mkdb.Page Mkdb.Tuple Mkdb.Generated Mkdb.Tree Mkdb.Bin

/-! ### growth of a tree under one insert -/

theorem bubble_growth (lsn : Nat) (lvls : List (List (Internal × Bool))) (sep l nc nf : Nat) :
    (bubble lsn lvls sep l nc nf).1.length ≤ lvls.length + 1 ∧
    (bubble lsn lvls sep l nc nf).2 ≤ nf + 4096 * (lvls.length + 1) := by
  have hp : c_pageSize = 4096 := rfl
  refine bubble_induct lsn (motive := fun lvls _ _ _ nf r =>
    r.1.length ≤ lvls.length + 1 ∧ r.2 ≤ nf + 4096 * (lvls.length + 1)) ?_ ?_ ?_ ?_ lvls sep l nc nf
  · intro sep l nc nf
    simp only [List.length_cons, List.length_nil, hp]; omega
  · intro rest sep l nc nf
    simp only [List.length_nil, List.length_cons]; omega
  · intro pre p d rest sep l nc nf _
    simp only [List.length_cons]; omega
  · intro pre p d rest sep l nc nf _ r ih
    simp only [hp] at ih
    simp only [List.length_cons]
    omega

theorem insertAppend_growth {t t' : Levels} {k lsn nf nf' : Nat} {v : Bytes}
    (h : insertAppend t k lsn v nf = .ok (t', nf')) :
    t'.inner.length ≤ t.inner.length + 1 ∧ t'.leaves.length ≤ t.leaves.length + 1 ∧
      nf' ≤ nf + 4096 * (t.inner.length + 2) := by
  obtain ⟨pre, last, d, hpre, _, _, hcase⟩ := insertAppend_inv_cases h
  rcases hcase with ⟨_, rfl, rfl⟩ | ⟨_, rfl, rfl⟩
  · simp only [hpre, List.length_append, List.length_cons, List.length_nil]; omega
  · have hb := bubble_growth lsn t.inner
      (((leafR (leafApp last k lsn v) lsn nf).cells.head?.map (·.key)).getD 0) last.off nf (nf + c_pageSize)
    have : c_pageSize = 4096 := rfl
    simp only [this] at hb ⊢
    simp only [hpre, List.length_append, List.length_cons, List.length_nil]
    omega

/-- one insert into a tree with a level to spare: the shape stays within the fuels, the frontier moves
by at most `treeFuel` pages -/
theorem insertAppend_step {t t' : Levels} {k lsn nf nf' : Nat} {v : Bytes}
    (h : insertAppend t k lsn v nf = .ok (t', nf')) (hd : t.inner.length + 3 ≤ treeFuel) :
    t'.inner.length + 2 ≤ treeFuel ∧ t'.inner.length ≤ t.inner.length + 1 ∧
      t'.leaves.length ≤ t.leaves.length + 1 ∧ nf ≤ nf' ∧ nf' ≤ nf + 262144 := by
  obtain ⟨g1, g2, g3⟩ := insertAppend_growth h
  have hle := insertAppend_nextFree t t' k lsn nf nf' v h
  have : treeFuel = 64 := rfl
  omega

/-- the code `insertSchemaRows` stores for a column type -/
def tyCode (ty : DataType) : Int :=
  match ty with | .int => 0 | .varchar => 1 | .boolean => 2 | .bigint => 3

theorem typeOfCode_tyCode (ty : DataType) : typeOfCode (tyCode ty) = ty := by
  cases ty <;> rfl

theorem knownTypeCode_tyCode (ty : DataType) : knownTypeCode (tyCode ty) = true := by
  cases ty <;> rfl

/-- the bytes of the `sys_schema` row of column `fd` of table `name` -/
def schemaRowBytes (name : Bytes) (fd : FieldDef) : Bytes :=
  (encBool false ++ encU32 name.length ++ name) ++
  ((encBool false ++ encU32 fd.name.toUTF8.toList.length ++ fd.name.toUTF8.toList) ++
  ((encBool false ++ encI 4 (tyCode fd.ty)) ++ ((encBool false ++ encI 4 fd.len) ++ [])))

theorem schemaRowBytes_length (name : Bytes) (fd : FieldDef) :
    (schemaRowBytes name fd).length = name.length + fd.name.toUTF8.toList.length + 20 := by
  simp only [schemaRowBytes, encBool, encU32, encI, List.length_append, List.length_cons, List.length_nil,
    encLE_length]
  omega

theorem schemaRow_eq (name : Bytes) (fd : FieldDef) : schemaRow name fd =
    [("table_name", .str name), ("field_name", .str fd.name.toUTF8.toList),
     ("field_type", .int (tyCode fd.ty)), ("field_length", .int fd.len)] := rfl

theorem get_schemaRow (name : Bytes) (fd : FieldDef) :
    Tuple.get (schemaRow name fd) "table_name" = .str name ∧
    Tuple.get (schemaRow name fd) "field_name" = .str fd.name.toUTF8.toList ∧
    Tuple.get (schemaRow name fd) "field_type" = .int (tyCode fd.ty) ∧
    Tuple.get (schemaRow name fd) "field_length" = .int fd.len := by
  rw [schemaRow_eq]
  exact ⟨rfl, rfl, rfl, rfl⟩

theorem encodeTuple_cons_ok {fd : FieldDef} {rest : List FieldDef} {vals : Vals} {b bs : Bytes}
    (h1 : encField fd (Tuple.get vals fd.name) = .ok b) (h2 : encodeTuple rest vals = .ok bs) :
    encodeTuple (fd :: rest) vals = .ok (b ++ bs) := by
  rw [encodeTuple, h1, h2]

theorem encField_int (n : String) (l i : Int) (h1 : -2147483648 ≤ i) (h2 : i ≤ 2147483647) :
    encField ⟨n, .int, l⟩ (.int i) = .ok (encBool false ++ encI 4 i) := by
  have hr : ¬ (i > 2147483647 ∨ i < -2147483648) := by omega
  simp only [encField, validate, hr, if_false]

theorem tyCode_range (ty : DataType) : -2147483648 ≤ tyCode ty ∧ tyCode ty ≤ 2147483647 := by
  cases ty <;> decide

theorem encode_schemaRow (name : Bytes) (fd : FieldDef) (h1 : -2147483648 ≤ fd.len) (h2 : fd.len ≤ 2147483647) :
    encodeTuple schemaTableSchema (schemaRow name fd) = .ok (schemaRowBytes name fd) := by
  obtain ⟨g1, g2, g3, g4⟩ := get_schemaRow name fd
  exact encodeTuple_cons_ok (by rw [g1]; rfl) <| encodeTuple_cons_ok (by rw [g2]; rfl) <|
    encodeTuple_cons_ok (by rw [g3]; exact encField_int _ _ _ (tyCode_range _).1 (tyCode_range _).2) <|
    encodeTuple_cons_ok (by rw [g4]; exact encField_int _ _ _ h1 h2) rfl

theorem decRow_schemaRow (name : Bytes) (fd : FieldDef) (hn : name.length < 2 ^ 32)
    (hf : fd.name.toUTF8.toList.length < 2 ^ 32)
    (h1 : -2147483648 ≤ fd.len) (h2 : fd.len ≤ 2147483647) :
    ∃ m, decRow schemaTableSchema (schemaRowBytes name fd) = some m ∧
      Tuple.get m "table_name" = .str name ∧ fieldOf m = some fd := by
  obtain ⟨g1, g2, g3, g4⟩ := get_schemaRow name fd
  obtain ⟨t1, t2⟩ := tyCode_range fd.ty
  obtain ⟨m, hm, hget⟩ := decode_of_encode schemaTableSchema (schemaRow name fd)
    (by
      rw [schemaRow_eq]
      simp only [List.mem_cons, List.not_mem_nil, or_false, forall_eq_or_imp, forall_eq, ValidVal]
      exact ⟨hn, hf, ⟨by omega, by omega⟩, by omega, by omega⟩)
    (by decide) (encode_schemaRow name fd h1 h2)
  have e1 := hget ⟨"table_name", .varchar, 255⟩ List.mem_cons_self
  have e2 := hget ⟨"field_name", .varchar, 255⟩ (List.mem_cons_of_mem _ List.mem_cons_self)
  have e3 := hget ⟨"field_type", .int, 0⟩ (List.mem_cons_of_mem _ (List.mem_cons_of_mem _ List.mem_cons_self))
  have e4 := hget ⟨"field_length", .int, 255⟩
    (List.mem_cons_of_mem _ (List.mem_cons_of_mem _ (List.mem_cons_of_mem _ List.mem_cons_self)))
  simp only at e1 e2 e3 e4
  rw [g1] at e1; rw [g2] at e2; rw [g3] at e3; rw [g4] at e4
  refine ⟨m, decRow_of_decode hm, e1, ?_⟩
  unfold fieldOf
  rw [e2, e3, e4]
  simp only [nameOfBytes_toUTF8, typeOfCode_tyCode, knownTypeCode_tyCode, Bool.not_true, Bool.false_eq_true, if_false]

/-! ### `schemaOf` after more rows -/

theorem schemaOf_append_rows {sch sch' : Levels} {cs : List LeafCell} {ms : List Vals} {name : Bytes}
    {fds : List FieldDef} (hl : live sch' = live sch ++ cs)
    (hd : mapO (fun c : LeafCell => decRow schemaTableSchema c.val) cs = some ms)
    (hn : ∀ m ∈ ms, Tuple.get m "table_name" = .str name) (hf : mapO fieldOf ms = some fds) :
    schemaOf sch' name = (schemaOf sch name).map (· ++ fds) ∧
    ∀ n, n ≠ name → schemaOf sch' n = schemaOf sch n := by
  unfold schemaOf
  rw [hl, mapO_append, hd]
  cases mapO (fun c : LeafCell => decRow schemaTableSchema c.val) (live sch) with
  | none => exact ⟨rfl, fun _ _ => rfl⟩
  | some rows =>
    simp only
    refine ⟨?_, fun n hne => ?_⟩
    · have : ms.filter (fun m => Tuple.get m "table_name" == Val.str name) = ms :=
        List.filter_eq_self.mpr fun m hm => by rw [hn m hm, val_str_beq]; simp
      rw [List.filter_append, this, mapO_append, hf]
      cases mapO fieldOf (rows.filter fun m => Tuple.get m "table_name" == Val.str name) <;> rfl
    · have : ms.filter (fun m => Tuple.get m "table_name" == Val.str n) = [] :=
        List.filter_eq_nil_iff.mpr fun m hm => by rw [hn m hm, val_str_beq]; simp [Ne.symm hne]
      rw [List.filter_append, this, List.append_nil]

theorem schemaRows_decode (name : Bytes) (hn : name.length < 2 ^ 32) : ∀ (fields : List FieldDef),
    (∀ fd ∈ fields, -2147483648 ≤ fd.len ∧ fd.len ≤ 2147483647 ∧
      (schemaRowBytes name fd).length ≤ c_maxValueSize) →
    ∃ ms, mapO (decRow schemaTableSchema) (fields.map (schemaRowBytes name)) = some ms ∧
      (∀ m ∈ ms, Tuple.get m "table_name" = .str name) ∧ mapO fieldOf ms = some fields
  | [], _ => ⟨[], rfl, fun _ h => absurd h List.not_mem_nil, rfl⟩
  | fd :: rest, h => by
    obtain ⟨r1, r2, r3⟩ := h fd List.mem_cons_self
    have hfl : fd.name.toUTF8.toList.length < 2 ^ 32 := by
      rw [schemaRowBytes_length] at r3
      have : c_maxValueSize = 400 := rfl
      omega
    obtain ⟨m, hdec, hmn, hfo⟩ := decRow_schemaRow name fd hn hfl r1 r2
    obtain ⟨ms, h1, h2, h3⟩ := schemaRows_decode name hn rest fun x hx => h x (List.mem_cons_of_mem _ hx)
    refine ⟨m :: ms, by simp only [List.map_cons, mapO, hdec, h1], ?_, by simp only [mapO, hfo, h3]⟩
    intro x hx
    rcases List.mem_cons.mp hx with rfl | hx
    · exact hmn
    · exact h2 x hx

end Mkdb.Store
