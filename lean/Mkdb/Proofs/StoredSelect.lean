import Mkdb.Proofs.DbInvAccepted
import Mkdb.Proofs.RoundtripRender
import Mkdb.Proofs.TypedSpec
/-!
C18, typed tables: the tables SELECT reads from a stored database are kinded, so a SELECT on a stored database never panics.

Two parts: (1) `fetchOf db`, what `Fetch` returns for any store (`fetchTable_kinded`, `fetchOf_wellShaped`), and
`AbsV.typed`: the plain database a store abstracts to is typed; (2) `FetchKinded`, `select_never_panics`,
`select_on_stored_never_panics` (user tables), the check `catalogOK` for the two catalog tables, and the parser's
shape (`wfSelect_shape`: the reason for the import of `RoundtripRender`).
-/

section
/-!
`fetchOf db` is the `fetch` function `evaluateSelect` is run with on a stored database.  Every row
`RelationService.Fetch` returns - for ANY store, any table name - is one tuple decoded by `Tuple.Decode`
and read in schema order, and a decoded tuple holds, under a schema with distinct column names, NULL or a
value of the column's kind in every column: so `fetchOf db` is well shaped for every database, and a store
that abstracts to a plain database abstracts to a TYPED one.
-/
set_option autoImplicit false
namespace Mkdb.Store
open Mkdb.Page Mkdb.Tuple Mkdb.Generated Mkdb.Tree Mkdb.Engine Mkdb.Exec.TypedP Mkdb.Bin

/-- **The `fetch` of a SELECT on a stored database**: `RelationService.Fetch` of the table
(`Store.fetchTable`); the executor gets the column names and the rows without their row ids - as
`Engine.fetchForExec` hands them to UPDATE / DELETE (names as `fd.name.toUTF8.toList`, no table id:
`Exec.fetchTable` puts the alias or table name there).  An error value of `Fetch` (unknown table, a row
that does not decode) is `none`, which `Exec.fetchTable` turns into an error value; the outcomes of the
store model that are not values (`panic`, `unmodelled`, `fuel`) are `none` too - that none of them
occurs is stated separately (`FetchTotal`). -/
def fetchOf (db : Engine.DB) (name : Bytes) : Option Exec.Table :=
  match fetchTable name db.store with
  | .ok (rows, schema) _ => some ⟨schema.map fun fd => fd.name.toUTF8.toList, rows.map (·.2)⟩
  | _ => none

/-- `Fetch` of the table returns rows or an error value: no panic, no unmodelled path, no exhausted fuel -/
def FetchTotal (db : Engine.DB) (name : Bytes) : Prop :=
  (∃ r s', fetchTable name db.store = .ok r s') ∨ ∃ e s', fetchTable name db.store = .err e s'

theorem fetchOf_ok {db : Engine.DB} {n : Bytes} {rows : List (Nat × List Val)} {schema : List FieldDef} {s' : Store}
    (e : fetchTable n db.store = .ok (rows, schema) s') :
    fetchOf db n = some ⟨schema.map fun fd => fd.name.toUTF8.toList, rows.map (·.2)⟩ := by
  unfold fetchOf
  rw [e]

theorem fetchOf_err {db : Engine.DB} {n : Bytes} {x : SErr} {s' : Store} (e : fetchTable n db.store = .err x s') :
    fetchOf db n = none := by
  unfold fetchOf
  rw [e]

theorem fetchOf_some {db : Engine.DB} {n : Bytes} {t : Exec.Table} (h : fetchOf db n = some t) :
    ∃ rows schema s', fetchTable n db.store = .ok (rows, schema) s' ∧
      t = ⟨schema.map fun fd => fd.name.toUTF8.toList, rows.map (·.2)⟩ := by
  unfold fetchOf at h
  split at h
  · rename_i rows schema s' heq
    exact ⟨rows, schema, s', heq, (Option.some.inj h).symm⟩
  · cases h

/-! ### decoding gives typed values -/

theorem decField_kind {fd : FieldDef} {bs rest : Bytes} {v : Val} (h : decField fd bs = .ok (some v, rest)) :
    hasKind (Spec.kindOf fd.ty) v = true := by
  obtain ⟨_, _, h⟩ := decField_some h
  rcases h with ⟨e, _, rfl, _⟩ | ⟨e, _, rfl, _⟩ | ⟨e, _, rfl, _⟩ | ⟨e, _, _, _, rfl, _⟩ <;> rw [e] <;> rfl

/-- **What `Tuple.Decode` returns is typed**: with distinct column names, every column reads as NULL or as
a value of its kind. -/
theorem decodeTuple_kinds {sch : List FieldDef} {bs : Bytes} {m : Vals} (h : decodeTuple sch bs [] = .ok m)
    (hnd : (sch.map (·.name)).Nodup) : ∀ fd ∈ sch, hasKind (Spec.kindOf fd.ty) (get m fd.name) = true := by
  intro fd hfd
  unfold Tuple.get
  cases hf : m.find? (fun p => p.1 == fd.name) with
  | none => rfl
  | some p =>
    rcases decodeTuple_mem sch bs [] m h p (List.mem_of_find?_eq_some hf) with h0 | ⟨fd', hfd', _, _, e, hd⟩
    · cases h0
    · have hn : fd'.name = fd.name := by rw [← e]; simpa using List.find?_some hf
      rw [← inj_of_nodup_map (·.name) sch hnd fd' hfd' fd hfd hn]
      exact decField_kind hd

/-! ### what `Fetch` returns, for any store -/

theorem mapS_out_mem {α β} (f : α → SM β) : ∀ (l : List α) (s s' : Store) (out : List β), mapS f l s = .ok out s' →
    ∀ b ∈ out, ∃ a ∈ l, ∃ s1 s2, f a s1 = .ok b s2
  | [], s, s', out, h, b, hb => by
    simp only [mapS] at h
    cases h
    cases hb
  | a :: rest, s, s', out, h, b, hb => by
    unfold mapS at h
    obtain ⟨b0, s1, h1, h⟩ := bind_eq_ok h
    obtain ⟨tl, s2, h2, h⟩ := bind_eq_ok h
    cases h
    rcases List.mem_cons.mp hb with rfl | hb'
    · exact ⟨a, by simp, s, s1, h1⟩
    · obtain ⟨a', ha', x⟩ := mapS_out_mem f rest _ _ _ h2 b hb'
      exact ⟨a', List.mem_cons_of_mem _ ha', x⟩

/-- **every row `RelationService.Fetch` returns is one decoded tuple, read in schema order** - for any
store and any table name (also the two catalog tables, also a store no statement produced) -/
theorem fetchTable_rows {table : Bytes} {s s' : Store} {rows : List (Nat × List Val)} {schema : List FieldDef}
    (h : fetchTable table s = .ok (rows, schema) s') :
    ∀ r ∈ rows, ∃ bs m, decodeTuple schema bs [] = .ok m ∧ r.2 = schema.map fun fd => get m fd.name := by
  rw [fetchTable_eq] at h
  obtain ⟨off, s1, _, h⟩ := bind_eq_ok h
  obtain ⟨schema0, s2, _, h⟩ := bind_eq_ok h
  obtain ⟨_, s3, _, h⟩ := bind_eq_ok h
  obtain ⟨cells, s4, _, h⟩ := bind_eq_ok h
  obtain ⟨rows0, s5, hmap, h⟩ := bind_eq_ok h
  cases h
  intro r hr
  obtain ⟨c, _, sa, sb, hc⟩ := mapS_out_mem _ cells _ _ _ hmap r hr
  unfold fetchRow at hc
  obtain ⟨m, sc, hm, hc⟩ := bind_eq_ok hc
  cases hc
  refine ⟨c.1.val, m, ?_, rfl⟩
  unfold decodeRow at hm
  split at hm
  · rename_i m' hm'
    cases hm
    exact hm'
  · cases hm

/-- **The tables a SELECT reads from a stored database are well shaped** - every row has one value per
column - whatever the database (no invariant is needed). -/
theorem fetchOf_wellShaped (db : Engine.DB) : Exec.NoPanicP.WellShaped (fetchOf db) := by
  intro n t hn r hr
  obtain ⟨rows, schema, s', heq, rfl⟩ := fetchOf_some hn
  obtain ⟨r0, hr0, rfl⟩ := List.mem_map.mp hr
  obtain ⟨_, m, _, e⟩ := fetchTable_rows heq r0 hr0
  simp only [e, List.length_map]

theorem fetchTable_kinded {table : Bytes} {s s' : Store} {rows : List (Nat × List Val)} {schema : List FieldDef}
    (h : fetchTable table s = .ok (rows, schema) s') (hnd : (schema.map (·.name)).Nodup) :
    ∀ r ∈ rows, rowHas (Spec.colKinds schema) r.2 = true := by
  intro r hr
  obtain ⟨bs, m, hm, e⟩ := fetchTable_rows h r hr
  rw [e]
  exact Spec.rowHas_map_cols _ schema (decodeTuple_kinds hm hnd)

/-! ### a stored database abstracts to a typed plain database -/

theorem typed_of_valsOf {sdb0 sdb : Spec.SDB} (hv : valsOf sdb0 = valsOf sdb) (h : Spec.Typed sdb0) : Spec.Typed sdb := by
  constructor
  · have e : ∀ d : Spec.SDB, d.map (·.name) = (valsOf d).map (·.1) := by
      intro d
      simp only [valsOf, List.map_map]
      rfl
    rw [e, ← hv, ← e]
    exact h.names
  · intro t ht r hr
    have : tv t ∈ valsOf sdb0 := by
      rw [hv, valsOf_eq_map]
      exact List.mem_map_of_mem ht
    rw [valsOf_eq_map] at this
    obtain ⟨t0, ht0, e⟩ := List.mem_map.mp this
    have hr' : r.vals ∈ t0.rows.map (·.vals) := by
      rw [tv_rows e]
      exact List.mem_map_of_mem hr
    obtain ⟨r0, hr0, e0⟩ := List.mem_map.mp hr'
    have := h.rows t0 ht0 r0 hr0
    rw [tv_cols e, e0] at this
    exact this

theorem rowsOf_kinded {schema : List FieldDef} (hnd : (schema.map (·.name)).Nodup) (cs : List LeafCell) :
    ∀ r ∈ rowsOf schema cs, rowHas (Spec.colKinds schema) r.2 = true := by
  intro r hr
  obtain ⟨c, _, _, m, hm, e⟩ := mem_rowsOf_cell hr
  rw [e]
  exact Spec.rowHas_map_cols _ schema (decodeTuple_kinds hm hnd)

theorem AbsTables.typedRows {sch : Levels} {tbls : List (Bytes × Levels)} {sdb : Spec.SDB} (h : AbsTables sch tbls sdb) :
    Spec.TypedRows sdb := by
  induction h with
  | nil => exact fun _ ht => absurd ht List.not_mem_nil
  | cons hx _ ih =>
    intro t ht r hr
    rcases List.mem_cons.mp ht with rfl | ht'
    · obtain ⟨schema, _, hnd, _, rfl⟩ := hx
      simp only [absTable, List.mem_map] at hr
      obtain ⟨r0, hr0, rfl⟩ := hr
      exact rowsOf_kinded hnd _ r0 hr0
    · exact ih t ht' r hr

/-- **A stored database abstracts to a TYPED plain database**: the table names are distinct (the
catalog's are), and every row is a tuple decoded with the table's schema, whose column names are distinct -
so the hypothesis `Typed` is not an assumption about the database but a consequence of the invariant. -/
theorem AbsV.typed {s : Store} {pt sch : Levels} {tbls : List (Bytes × Levels)} {sdb : Spec.SDB}
    (h : AbsV s pt sch tbls sdb) : Spec.Typed sdb := by
  obtain ⟨sdb0, habs, hv⟩ := h
  apply typed_of_valsOf hv
  exact ⟨by rw [habs.tabs.names]; exact habs.cat.tnames, habs.tabs.typedRows⟩

theorem DbInv.typed {db : Engine.DB} {sdb : Spec.SDB} {pt sch : Levels} {tbls : List (Bytes × Levels)}
    (h : DbInv db sdb pt sch tbls) : Spec.Typed sdb := h.abs.typed

end Mkdb.Store
end

section
/-!
All a SELECT of a parser-produced shape needs of the tables its FROM clause names is `FetchKinded`: `Fetch`
returns rows or an error value, and the rows are kinded (`select_never_panics`).  On a store that abstracts
to a plain database, `Fetch` of a name other than the two catalog tables returns an error value (unknown
table) or the table of the plain database, whose rows are kinded by the declared column types.

The FROM clause is restricted to user tables because the invariant (`AbsV`, `DbInv`) describes the rows
`sys_schema` holds for the USER tables only: what `Fetch` returns for the two catalog tables themselves
(their own schema rows, written by `CREATE DATABASE` and never touched) is not determined by it.  Their
rows are well shaped whatever they are (`fetchOf_wellShaped`) and typed as soon as the schema `Fetch`
returns has distinct column names (`fetchTable_kinded`); what `DbInv` does not give for them is that
`Fetch` itself returns a value (for `sys_pages` that needs the page table to list itself) and that
distinctness - `catalogOK` checks exactly these two on a given database, and the invariant `CatSelf`
(CatSelf) implies them.
-/
set_option autoImplicit false
namespace Mkdb.Store
open Mkdb.Page Mkdb.Tuple Mkdb.Generated Mkdb.Tree Mkdb.Engine Mkdb.Exec Mkdb.Exec.TypedP Mkdb.Sql

def selectNames (q : Select) : List Bytes :=
  match q.from_ with
  | some tr => fromNames tr
  | none => []

/-- the SELECT reads user tables only: its FROM clause names neither `sys_pages` nor `sys_schema` -/
def UserTables (q : Select) : Prop := ∀ n ∈ selectNames q, n ≠ sysPages ∧ n ≠ sysSchema

instance (q : Select) : Decidable (UserTables q) := by unfold UserTables; infer_instance

/-- **the `fetch` of a SELECT on a plain database** - the one the differential-testing judge of the session
runs builds (`Mkdb/Driver/Sess.lean`) -/
def fetchOfPlain (sdb : Spec.SDB) (name : Bytes) : Option Exec.Table :=
  (Spec.findTable sdb name).map fun tb => ⟨tb.cols.map fun fd => fd.name.toUTF8.toList, tb.rows.map (·.vals)⟩

/-- a typed plain database is a kinded `fetch`: the kinds of a table are those of its declared columns -/
theorem fetchOfPlain_kinded {sdb : Spec.SDB} (h : Spec.Typed sdb) : KindedFetch (fetchOfPlain sdb) := by
  intro n t hn
  obtain ⟨tb, hf, rfl⟩ := Option.map_eq_some_iff.mp hn
  refine ⟨Spec.colKinds tb.cols, by simp [Spec.colKinds], fun r hr => ?_⟩
  obtain ⟨r0, hr0, rfl⟩ := List.mem_map.mp hr
  exact h.rows tb (Spec.findTable_mem hf).1 r0 hr0

/-- **What a SELECT reads from a stored database is the plain database** (user table names): `Fetch` returns
the table of the plain database, or an error value if it has none of that name. -/
theorem stored_reads_plain {db : Engine.DB} {sdb : Spec.SDB} {pt sch : Levels} {tbls : List (Bytes × Levels)}
    (h : AbsV db.store pt sch tbls sdb) (n : Bytes) (h1 : n ≠ sysPages) (h2 : n ≠ sysSchema) :
    FetchTotal db n ∧ fetchOf db n = fetchOfPlain sdb n := by
  cases hf : Spec.findTable sdb n with
  | some tb =>
    obtain ⟨rows, s', e, hrows⟩ := h.reads hf
    refine ⟨.inl ⟨_, s', e⟩, ?_⟩
    rw [fetchOf_ok e, fetchOfPlain, hf, hrows]
    rfl
  | none =>
    obtain ⟨sdb0, habs, hv⟩ := h
    obtain ⟨s', e, _, _⟩ := fetchTable_unknown_table habs.cat n h1 h2
      (habs.not_mem ((findTable_none_congr hv n).mpr hf))
    refine ⟨.inr ⟨_, s', e⟩, ?_⟩
    rw [fetchOf_err e, fetchOfPlain, hf]
    rfl

theorem fetchOf_eq_plain {db : Engine.DB} {sdb : Spec.SDB} {pt sch : Levels} {tbls : List (Bytes × Levels)}
    (h : AbsV db.store pt sch tbls sdb) (n : Bytes) (h1 : n ≠ sysPages) (h2 : n ≠ sysSchema) :
    fetchOf db n = fetchOfPlain sdb n :=
  (stored_reads_plain h n h1 h2).2

/-- **What a SELECT reads from a user table name**: an error value (the name is unknown) or the table of
the plain database, and then every row is kinded by the declared column types. -/
theorem stored_table_typed {db : Engine.DB} {sdb : Spec.SDB} {pt sch : Levels} {tbls : List (Bytes × Levels)}
    (h : AbsV db.store pt sch tbls sdb) (n : Bytes) (h1 : n ≠ sysPages) (h2 : n ≠ sysSchema) :
    FetchTotal db n ∧ ∀ t, fetchOf db n = some t → ∃ tb, Spec.findTable sdb n = some tb ∧
      t.cols = tb.cols.map (fun fd => fd.name.toUTF8.toList) ∧ t.rows = tb.rows.map (·.vals) ∧
      ∀ r ∈ t.rows, rowHas (Spec.colKinds tb.cols) r = true := by
  obtain ⟨ht, he⟩ := stored_reads_plain h n h1 h2
  refine ⟨ht, fun t hfo => ?_⟩
  rw [he] at hfo
  obtain ⟨tb, hf, rfl⟩ := Option.map_eq_some_iff.mp hfo
  refine ⟨tb, hf, rfl, rfl, fun r hr => ?_⟩
  obtain ⟨r0, hr0, rfl⟩ := List.mem_map.mp hr
  exact h.typed.rows tb (Spec.findTable_mem hf).1 r0 hr0

/-- `Fetch` of the name returns rows or an error value, and the rows are kinded: one list of kinds, one per
column, that every row meets - all a SELECT needs of a table it reads -/
def FetchKinded (db : Engine.DB) (n : Bytes) : Prop :=
  FetchTotal db n ∧ ∀ t, fetchOf db n = some t →
    ∃ ks : List Kind, ks.length = t.cols.length ∧ ∀ r ∈ t.rows, rowHas ks r = true

/-- **A SELECT never panics on a database on which `Fetch` of the tables it names behaves** (`FetchKinded`),
for a select list of the shape the parser builds: the evaluation returns rows or an error value, and every
column of the rows holds values of one kind or NULL. -/
theorem select_never_panics {db : Engine.DB} (q : Select) (hq : Exec.NoPanicP.ParsedShape q)
    (hok : ∀ n ∈ selectNames q, FetchKinded db n) :
    (∀ n ∈ selectNames q, FetchTotal db n) ∧ (∀ s, evaluateSelect (fetchOf db) q ≠ .panic s) ∧
      ∀ rows hdr, evaluateSelect (fetchOf db) q = .ok (rows, hdr) →
        ∃ ks : List Kind, ∀ r ∈ rows, rowHas ks r = true := by
  have hk := evaluateSelect_kinded (fetch := fetchOf db) q (fun tr htr n hn t ht => by
    obtain ⟨ks, hl, hr⟩ := (hok n (by unfold selectNames; rw [htr]; exact hn)).2 t ht
    exact ⟨ks, hl, fun r hr' => rowOf_hasKind.mpr (hr r hr')⟩) hq
  exact ⟨fun n hn => (hok n hn).1, hk.not_panic, fun rows hdr e => hk.of_ok e⟩

theorem AbsV.fetchKinded {db : Engine.DB} {sdb : Spec.SDB} {pt sch : Levels} {tbls : List (Bytes × Levels)}
    (h : AbsV db.store pt sch tbls sdb) {n : Bytes} (h1 : n ≠ sysPages) (h2 : n ≠ sysSchema) : FetchKinded db n := by
  obtain ⟨ht, he⟩ := stored_reads_plain h n h1 h2
  exact ⟨ht, fun t hfo => fetchOfPlain_kinded h.typed n t (he ▸ hfo)⟩

/-- **A SELECT on a stored database never panics.**  For a store that abstracts to a plain database, a
select list of the shape the parser builds and a FROM clause over user tables: `Fetch` of every table
read returns rows or an error value, and the evaluation returns rows or an error value. -/
theorem select_on_stored_never_panics {db : Engine.DB} {sdb : Spec.SDB} {pt sch : Levels}
    {tbls : List (Bytes × Levels)} (h : AbsV db.store pt sch tbls sdb) (q : Select)
    (hq : Exec.NoPanicP.ParsedShape q) (hn : UserTables q) :
    (∀ n ∈ selectNames q, FetchTotal db n) ∧ (∀ s, evaluateSelect (fetchOf db) q ≠ .panic s) ∧
      ∀ rows hdr, evaluateSelect (fetchOf db) q = .ok (rows, hdr) →
        ∃ ks : List Kind, ∀ r ∈ rows, rowHas ks r = true :=
  select_never_panics q hq fun n hm => h.fetchKinded (hn n hm).1 (hn n hm).2

/-! ### the two catalog tables, by a check on the database -/

/-- a Boolean check of the two catalog tables: `Fetch` of `sys_pages` and of `sys_schema` returns an
error value, or rows under a schema whose column names are distinct -/
def catalogOK (db : Engine.DB) : Bool :=
  [sysPages, sysSchema].all fun n =>
    match fetchTable n db.store with
    | .ok (_, schema) _ => decide ((schema.map (·.name)).Nodup)
    | .err _ _ => true
    | _ => false

theorem fetchKinded_catalog {db : Engine.DB} (hc : catalogOK db = true) (n : Bytes)
    (hn : n = sysPages ∨ n = sysSchema) : FetchKinded db n := by
  unfold catalogOK at hc
  have hc' := List.all_eq_true.mp hc n (by rcases hn with rfl | rfl <;> simp)
  cases e : fetchTable n db.store with
  | ok r s' =>
    obtain ⟨rows, schema⟩ := r
    rw [e] at hc'
    refine ⟨.inl ⟨_, s', e⟩, fun t ht => ?_⟩
    rw [fetchOf_ok e] at ht
    cases ht
    refine ⟨Spec.colKinds schema, by simp [Spec.colKinds], fun r hr => ?_⟩
    obtain ⟨r0, hr0, rfl⟩ := List.mem_map.mp hr
    exact fetchTable_kinded e (of_decide_eq_true hc') r0 hr0
  | err x s' =>
    refine ⟨.inr ⟨_, s', e⟩, fun t ht => ?_⟩
    rw [fetchOf_err e] at ht
    cases ht
  | panic p => rw [e] at hc'; cases hc'
  | unmodelled w => rw [e] at hc'; cases hc'
  | fuel => rw [e] at hc'; cases hc'

theorem fetchKinded_any {db : Engine.DB} {sdb : Spec.SDB} {pt sch : Levels} {tbls : List (Bytes × Levels)}
    (h : AbsV db.store pt sch tbls sdb) (hc : catalogOK db = true) (n : Bytes) : FetchKinded db n := by
  by_cases hsys : n = sysPages ∨ n = sysSchema
  · exact fetchKinded_catalog hc n hsys
  · exact h.fetchKinded (fun e => hsys (.inl e)) (fun e => hsys (.inr e))

theorem fetchOf_kinded {db : Engine.DB} {sdb : Spec.SDB} {pt sch : Levels} {tbls : List (Bytes × Levels)}
    (h : AbsV db.store pt sch tbls sdb) (hc : catalogOK db = true) : KindedFetch (fetchOf db) :=
  fun n t hn => (fetchKinded_any h hc n).2 t hn

theorem select_any_table_never_panics {db : Engine.DB} {sdb : Spec.SDB} {pt sch : Levels}
    {tbls : List (Bytes × Levels)} (h : AbsV db.store pt sch tbls sdb) (hc : catalogOK db = true) (q : Select)
    (hq : Exec.NoPanicP.ParsedShape q) :
    (∀ n ∈ selectNames q, FetchTotal db n) ∧ (∀ s, evaluateSelect (fetchOf db) q ≠ .panic s) ∧
      ∀ rows hdr, evaluateSelect (fetchOf db) q = .ok (rows, hdr) →
        ∃ ks : List Kind, ∀ r ∈ rows, rowHas ks r = true :=
  select_never_panics q hq fun n _ => fetchKinded_any h hc n

/-! ### the shape hypothesis holds of parsed statements -/

theorem wfLimit_boundsOK {ok : Lit → Bool} {l : LimitOffset} (h : wfLimit ok l = true) :
    Spec.boundsOK l = true := by
  unfold wfLimit at h
  unfold Spec.boundsOK
  cases ho : l.offsetActive <;> cases hl : l.limitActive <;>
    simp only [ho, hl, Bool.false_eq_true, if_false, if_true, Bool.and_eq_true, decide_eq_true_eq] at h <;>
    simp only [Bool.not_false, Bool.not_true, Bool.true_or, Bool.false_or, Bool.and_self, Bool.and_true,
      Bool.true_and, decide_eq_true_eq, Bool.and_eq_true]
  · exact h.1.1
  · exact h.2.1
  · exact ⟨h.2.1, h.1.1⟩

theorem wfSelect_shape {ok : Lit → Bool} {q : Select} (h : wfSelect ok q = true) :
    Exec.NoPanicP.ParsedShape q := by
  unfold wfSelect at h
  simp only [Bool.and_eq_true] at h
  have hb := wfLimit_boundsOK h.1.2
  have hl := h.1.1.1
  unfold wfSelList at hl
  simp only [Bool.or_eq_true, decide_eq_true_eq, Bool.and_eq_true] at hl
  rcases hl with hl | ⟨hne, hl⟩
  · exact Exec.NoPanicP.ParsedShape.of_star hb hl
  · refine Exec.NoPanicP.ParsedShape.of_nostar ?_ hb ?_
    · intro e
      rw [e] at hne
      cases hne
    cases hql : q.list with
    | nil => rfl
    | cons d rest =>
      rw [hql] at hl
      have := List.all_eq_true.mp hl d (by simp)
      unfold isStar
      cases hd : d.item with
      | star => rw [hd] at this; cases this
      | count c => simp [hd]
      | avg c => simp [hd]
      | expr c => simp [hd]

end Mkdb.Store
end
