import Mkdb.Model.LRU
import Mkdb.Proofs.Recency
/-! The LRU model (C15): eviction and the victim, what a step does to the list (`step_shape`) and hence to the
invariant and to a lookup, and the recency change of a flush (`touchAll`) as a run of `set` steps. -/
namespace Mkdb.LRU

def keys (items : List Entry) : List Nat := items.map (·.key)

/-! ### eviction: `Recency.evict` on the dirty bit -/

theorem evict_eq (l : List Entry) : evict l = Recency.evict Entry.dirty l := by
  induction l with
  | nil => rfl
  | cons e t ih => rw [evict, Recency.evict, ih]; cases Recency.evict Entry.dirty t <;> rfl

theorem evict_none_iff {l : List Entry} : evict l = none ↔ ∀ e ∈ l, e.dirty = true := by
  rw [evict_eq]; exact Recency.evict_none_iff

theorem evict_some {l l' : List Entry} (h : evict l = some l') :
    ∃ pre v post, l = pre ++ v :: post ∧ l' = pre ++ post ∧ v.dirty = false ∧
      ∀ e ∈ post, e.dirty = true :=
  Recency.evict_some (evict_eq l ▸ h)

theorem evict_sublist {l l' : List Entry} (h : evict l = some l') : l'.Sublist l :=
  Recency.evict_sublist (evict_eq l ▸ h)

theorem victim_none_of_evict_none {l : List Entry} (h : evict l = none) : victim l = none := by
  induction l with
  | nil => rfl
  | cons a t ih =>
    have hall := evict_none_iff.mp h
    have ht : evict t = none := evict_none_iff.mpr (fun e he => hall e (List.mem_cons_of_mem _ he))
    simp [victim, ih ht, hall a List.mem_cons_self]

theorem victim_of_split {pre post : List Entry} {v : Entry} (hv : v.dirty = false)
    (hpost : ∀ e ∈ post, e.dirty = true) : victim (pre ++ v :: post) = some v := by
  induction pre with
  | nil => simp [victim, victim_none_of_evict_none (evict_none_iff.mpr hpost), hv]
  | cons a t ih => simp [victim, ih]

theorem victim_eq {l l' : List Entry} (h : evict l = some l') :
    ∃ v, victim l = some v := by
  obtain ⟨pre, v, post, rfl, _, h3, h4⟩ := evict_some h
  exact ⟨v, victim_of_split h3 h4⟩

/-! ### `LRUCache.set` -/

/-- The three ways `LRUCache.set` goes: the key is resident (it moves to the front); it is not and is inserted
(`Recency.insert`: in front of the list, or of the list after an eviction when that was full); or the cache is
full of dirty entries and the insertion is refused. -/
theorem set_cases (c : Cache) (k id : Nat) (d : Bool) :
    (∃ e, find? c.items k = some e ∧ c.set k id d = ({ c with items := ⟨k, id, d⟩ :: remove c.items k }, true)) ∨
    find? c.items k = none ∧
      ((∃ l, Recency.insert Entry.dirty c.cap ⟨k, id, d⟩ c.items = some l ∧ c.set k id d = ({ c with items := l }, true)) ∨
       Recency.insert Entry.dirty c.cap ⟨k, id, d⟩ c.items = none ∧ c.set k id d = (c, false)) := by
  unfold Cache.set Recency.insert
  cases hf : find? c.items k with
  | some e => exact .inl ⟨e, rfl, rfl⟩
  | none =>
    refine .inr ⟨rfl, ?_⟩
    rw [← evict_eq]
    by_cases hfull : c.items.length = c.cap
    · simp only [hfull, beq_self_eq_true, ↓reduceIte]
      cases evict c.items with
      | none => exact .inr ⟨rfl, rfl⟩
      | some items' => exact .inl ⟨_, rfl, rfl⟩
    · exact .inl ⟨⟨k, id, d⟩ :: c.items, by simp [hfull], by simp [hfull]⟩

/-! ### what a step does to the list -/

/-- A step leaves the cache as it is; or it puts one entry in front - the entry of a `set`, or the entry a `get`
found - of a part of the list that has no entry of that key and still holds every dirty entry of another key; or it
changes dirty bits in place. -/
theorem step_shape (c : Cache) (op : Op) :
    (step c op).1 = c ∨
    (∃ e t, (step c op).1 = { c with items := e :: t } ∧
      (op = .set e.key e.id e.dirty ∨ op = .get e.key ∧ find? c.items e.key = some e) ∧
      t.Sublist c.items ∧ (∀ x ∈ t, x.key ≠ e.key) ∧
      (∀ x ∈ c.items, x.dirty = true → x.key ≠ e.key → x ∈ t) ∧
      (c.items.length ≤ c.cap → t.length + 1 ≤ c.cap)) ∨
    ∃ k d, op = .flip k d := by
  -- the list without the key of a resident entry
  have front : ∀ {k : Nat} {e0 : Entry}, find? c.items k = some e0 →
      (remove c.items k).Sublist c.items ∧ (∀ x ∈ remove c.items k, x.key ≠ k) ∧
      (∀ x ∈ c.items, x.dirty = true → x.key ≠ k → x ∈ remove c.items k) ∧
      (c.items.length ≤ c.cap → (remove c.items k).length + 1 ≤ c.cap) := fun hf =>
    ⟨List.filter_sublist, fun _ hx => Recency.key_ne_of_mem_remove hx,
      fun x hx _ hne => List.mem_filter.mpr ⟨hx, by simpa using hne⟩,
      fun hl => Nat.le_trans (Recency.remove_length_lt hf) hl⟩
  cases op with
  | set k id d =>
    simp only [step]
    rcases set_cases c k id d with ⟨_, hf, hs⟩ | ⟨hf, ⟨l, hi, hs⟩ | ⟨_, hs⟩⟩ <;> rw [hs]
    · exact .inr (.inl ⟨⟨k, id, d⟩, _, rfl, .inl rfl, front hf⟩)
    · obtain ⟨t, rfl, hsub, hkept, _⟩ := Recency.insert_some hi
      exact .inr (.inl ⟨⟨k, id, d⟩, t, rfl, .inl rfl, hsub,
        fun x hx => Recency.find?_eq_none.mp hf x (hsub.subset hx), fun x hx hd _ => hkept x hx hd,
        fun hl => Recency.insert_length hi hl⟩)
    · exact .inl rfl
  | get k =>
    simp only [step, Cache.get]
    cases hf : find? c.items k with
    | none => exact .inl rfl
    | some e =>
      obtain rfl := (Recency.find?_some hf).2
      exact .inr (.inl ⟨e, _, rfl, .inr ⟨rfl, hf⟩, front hf⟩)
  | flip k d => exact .inr (.inr ⟨k, d, rfl⟩)

/-! ### the invariant -/

/-- Capacity bound and one entry per key. -/
def Inv (c : Cache) : Prop := c.items.length ≤ c.cap ∧ (keys c.items).Nodup

theorem step_cap (c : Cache) (op : Op) : (step c op).1.cap = c.cap := by
  rcases step_shape c op with h | ⟨_, _, h, _⟩ | ⟨_, _, rfl⟩
  · rw [h]
  · rw [h]
  · rfl

theorem flip_key (k : Nat) (d : Bool) (e : Entry) :
    (if e.key == k then { e with dirty := d } else e).key = e.key := by
  split <;> rfl

theorem step_inv (c : Cache) (op : Op) (h : Inv c) : Inv (step c op).1 := by
  rcases step_shape c op with hs | ⟨e, t, hs, _, hsub, hne, _, hlen⟩ | ⟨k, d, rfl⟩
  · rw [hs]; exact h
  · rw [hs]; exact ⟨hlen h.1, Recency.nodup_cons_of_sublist h.2 hsub hne⟩
  · exact ⟨by simpa [step, Cache.flip] using h.1, by
      simp only [step, Cache.flip]; rw [keys, Recency.keys_map (flip_key k d)]; exact h.2⟩

theorem run_inv (c : Cache) (ops : List Op) (h : Inv c) : Inv (run c ops) := by
  induction ops generalizing c with
  | nil => exact h
  | cons op ops ih => exact ih _ (step_inv c op h)

theorem run_cap (c : Cache) (ops : List Op) : (run c ops).cap = c.cap := by
  induction ops generalizing c with
  | nil => rfl
  | cons op ops ih =>
    show (run (step c op).1 ops).cap = c.cap
    rw [ih, step_cap]

/-! ### a step and the page filed under a key -/

theorem find?_cons_sublist {l X : List Entry} (hnd : (keys l).Nodup) (hs : X.Sublist l) {e : Entry} {k : Nat}
    (he : e.key ≠ k) : find? (e :: X) k = none ∨ find? (e :: X) k = find? l k := by
  have : find? (e :: X) k = find? X k := by
    unfold find?
    rw [Recency.find?_cons, if_neg he]
  rw [this]
  exact Recency.find?_sublist hnd hs k

theorem find?_step_other (c : Cache) (k : Nat) (op : Op)
    (hop : ∀ id d, op ≠ .set k id d) (hnd : (keys c.items).Nodup) :
    find? (step c op).1.items k = none ∨
      (find? (step c op).1.items k).map (·.id) = (find? c.items k).map (·.id) := by
  rcases step_shape c op with hs | ⟨e, t, hs, hop', hsub, _⟩ | ⟨k', d, rfl⟩
  · rw [hs]; exact .inr rfl
  · rw [hs]
    by_cases hk : e.key = k
    · -- not a `set` of `k`: the entry in front is the one a `get` found under `k`
      rcases hop' with rfl | ⟨_, hf⟩
      · exact absurd (hk ▸ rfl) (hop e.id e.dirty)
      · right
        rw [← hk, hf]
        unfold find?
        rw [Recency.find?_cons, if_pos rfl]
    · exact (find?_cons_sublist hnd hsub hk).imp id (congrArg _)
  · right
    simp only [step, Cache.flip, find?, Recency.find?_map (flip_key k' d), Option.map_map]
    congr 1
    funext e
    simp only [Function.comp]
    split <;> rfl

theorem find?_run_other (c : Cache) (k : Nat) (ops : List Op) (hops : ∀ op ∈ ops, ∀ id d, op ≠ .set k id d)
    (h : Inv c) : find? (run c ops).items k = none ∨
      (find? (run c ops).items k).map (·.id) = (find? c.items k).map (·.id) := by
  induction ops generalizing c with
  | nil => exact .inr rfl
  | cons op ops ih =>
    show find? (run (step c op).1 ops).items k = none ∨ (find? (run (step c op).1 ops).items k).map _ = _
    rcases ih (step c op).1 (fun op' h' => hops op' (List.mem_cons_of_mem _ h')) (step_inv c op h) with h1 | h1
    · exact .inl h1
    · rcases find?_step_other c k op (hops op List.mem_cons_self) h.2 with h2 | h2
      · rw [h2] at h1
        exact .inl (by simpa using h1)
      · exact .inr (h1.trans h2)

/-! ### the recency change of a flush

`flushPagesLocked` calls, for every dirty page in the order of a map iteration, `LRUCache.set` of that
page's own key with the page itself (`MoveToFront`) and marks it clean.  `touchAll c order` is that loop on
`Cache`.  (Defined here and not in Model/LRU.lean, which is compared with the code by the driver: nothing
new is compared.)  Each turn is the identity or a `set` step of the model, so a flush is a run of the
existing operations and every theorem about reachable states covers the states after flushes. -/

/-- one turn of the loop at key `k`: a resident dirty entry moves to the front and becomes clean -/
def visit (c : Cache) (k : Nat) : Cache :=
  match find? c.items k with
  | some e => if e.dirty then { c with items := { e with dirty := false } :: remove c.items k } else c
  | none => c

/-- the recency change of `flushPagesLocked` meeting the keys in the order `order` -/
def touchAll (c : Cache) (order : List Nat) : Cache := order.foldl visit c

theorem visit_eq_set (c : Cache) (k : Nat) (e : Entry) (hf : find? c.items k = some e)
    (hd : e.dirty = true) : visit c k = (step c (.set k e.id false)).1 := by
  have hk := (Recency.find?_some hf).2
  simp only [visit, hf, hd, ↓reduceIte, step, Cache.set]
  cases e
  simp_all

theorem visit_skip (c : Cache) (k : Nat) (h : ∀ e, find? c.items k = some e → e.dirty = false) :
    visit c k = c := by
  unfold visit
  cases hf : find? c.items k with
  | none => rfl
  | some e => simp [h e hf]

theorem visit_cases (c : Cache) (k : Nat) :
    visit c k = c ∨ ∃ e, find? c.items k = some e ∧ e.dirty = true ∧ visit c k = (step c (.set k e.id false)).1 := by
  cases hf : find? c.items k with
  | none => left; exact visit_skip c k (by simp [hf])
  | some e =>
    cases hd : e.dirty with
    | false =>
      left
      apply visit_skip
      intro e' he'
      rw [hf] at he'
      cases he'
      exact hd
    | true => right; exact ⟨e, rfl, hd, visit_eq_set c k e hf hd⟩

theorem run_append (c : Cache) (a b : List Op) : run c (a ++ b) = run (run c a) b := by
  simp [run, List.foldl_append]

theorem touchAll_is_run (c : Cache) (order : List Nat) :
    ∃ ops, touchAll c order = run c ops ∧ ∀ op ∈ ops, ∃ k id, op = .set k id false := by
  induction order generalizing c with
  | nil => exact ⟨[], rfl, by simp⟩
  | cons k rest ih =>
    obtain ⟨ops, h1, h2⟩ := ih (visit c k)
    rcases visit_cases c k with h | ⟨e, _, _, h⟩
    · exact ⟨ops, by show touchAll (visit c k) rest = _; rw [h1, h], h2⟩
    · refine ⟨.set k e.id false :: ops, ?_, ?_⟩
      · show touchAll (visit c k) rest = run (step c (.set k e.id false)).1 ops
        rw [h1, h]
      · intro op hop
        rcases List.mem_cons.mp hop with rfl | hop
        · exact ⟨k, e.id, rfl⟩
        · exact h2 op hop

theorem touchAll_inv (c : Cache) (h : Inv c) (order : List Nat) : Inv (touchAll c order) := by
  obtain ⟨ops, h1, _⟩ := touchAll_is_run c order
  rw [h1]
  exact run_inv c ops h

theorem touchAll_cap (c : Cache) (order : List Nat) : (touchAll c order).cap = c.cap := by
  obtain ⟨ops, h1, _⟩ := touchAll_is_run c order
  rw [h1]
  exact run_cap c ops

theorem find?_visit (c : Cache) (k' k : Nat) :
    (find? (visit c k').items k).map (·.id) = (find? c.items k).map (·.id) := by
  unfold visit
  cases hf : find? c.items k' with
  | none => rfl
  | some e =>
    simp only
    split
    · have hek : e.key = k' := (Recency.find?_some hf).2
      show (List.find? _ (_ :: remove c.items k')).map _ = _
      rw [Recency.find?_cons]
      by_cases hk : k' = k
      · subst hk
        rw [if_pos hek, hf]
        rfl
      · rw [if_neg (hek ▸ hk)]
        exact congrArg _ (Recency.find?_remove_ne c.items (Ne.symm hk))
    · rfl

theorem find?_touchAll (c : Cache) (order : List Nat) (k : Nat) :
    (find? (touchAll c order).items k).map (·.id) = (find? c.items k).map (·.id) := by
  induction order generalizing c with
  | nil => rfl
  | cons k' rest ih =>
    show (find? (touchAll (visit c k') rest).items k).map (·.id) = _
    rw [ih, find?_visit]

end Mkdb.LRU
