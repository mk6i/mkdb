import Mkdb.Proofs.Console
import Mkdb.Proofs.Utf8Arith
/-!
Byte level of the console model: `decodeRune` on a well-formed UTF-8 sequence (`Utf8.Enc`) gives the rune whose
digits to base 64 the bytes carry, so the encoding of a Unicode scalar value is decoded to it; the encoding of a
printable key or Enter is decoded by `bytesToKey` to exactly that key.  Then the editing keys: the bytes a
terminal sends for backspace, ^U, the arrow keys, Home/End, Alt-arrows, ^L, ^W, ^K are decoded by `bytesToKey`
to those keys (`key_bytes`, for these and for the typed keys).
-/

section
namespace Mkdb.Console

/-! ## `utf8Class` (the table `first` of unicode/utf8), by ranges of the first byte

(the branch is named by `if_pos` / `if_neg`: `split` on the ten `if`s of the table is slow) -/

theorem utf8Class_ascii {b : Nat} (h : b < 0x80) : utf8Class b = (1, 0, 0) := by
  rw [utf8Class, if_pos h]

theorem utf8Class_two {b : Nat} (h1 : 0xC2 ≤ b) (h2 : b < 0xE0) : utf8Class b = (2, 0x80, 0xBF) := by
  rw [utf8Class, if_neg (by omega), if_neg (by omega), if_pos h2]

theorem utf8Class_three {b : Nat} (h1 : 0xE0 < b) (h2 : b < 0xF0) (h3 : b ≠ 0xED) :
    utf8Class b = (3, 0x80, 0xBF) := by
  simp only [utf8Class, beq_iff_eq]
  rw [if_neg (by omega), if_neg (by omega), if_neg (by omega), if_neg (by omega), if_neg h3, if_pos h2]

theorem utf8Class_four {b : Nat} (h1 : 0xF0 < b) (h2 : b < 0xF4) : utf8Class b = (4, 0x80, 0xBF) := by
  simp only [utf8Class, beq_iff_eq]
  iterate 7 rw [if_neg (by omega)]
  rw [if_pos h2]

/-! ## `decodeRune` on a well-formed sequence: the digits to base 64 behind the first byte's own bits -/

theorem cont_mod {x : Nat} (h : x < 64) : (0x80 + x) % 64 = x := by omega

theorem isCont_cont {x : Nat} (h : x < 64) : isCont (0x80 + x) = true := by
  simp only [isCont, Bool.and_eq_true, decide_eq_true_eq]; omega

theorem second_ok {lo hi x : Nat} (h1 : lo ≤ 0x80 + x) (h2 : 0x80 + x ≤ hi) :
    ¬ (decide (0x80 + x < lo) || decide (hi < 0x80 + x)) = true := by
  simp only [Bool.or_eq_true, decide_eq_true_eq]; omega

theorem decode1 {b : Nat} (h : b < 0x80) (r : List Nat) : decodeRune (b :: r) = some (b, r) := by
  simp only [decodeRune, utf8Class_ascii h, beq_self_eq_true, if_true]

/-- By length: the class of the first byte (for three and four bytes with the range of the second: `hcl`),
the tests, the digits. -/
theorem decode_enc {k : Nat} {bs : List Nat} (h : Utf8.Enc k bs) (r : List Nat) :
    decodeRune (bs ++ r) = some (k, r) := by
  cases h with
  | one h => exact decode1 h r
  | @two a b ha ha' hb =>
    simp only [List.cons_append, List.nil_append, decodeRune, utf8Class_two (b := 0xC0 + a) (by omega) (by omega)]
    rw [if_neg (by decide), if_neg (by decide), if_neg (second_ok (by omega) (by omega)), if_pos (by decide),
      cont_mod hb, show (0xC0 + a) % 32 = a by omega]
  | @three a b c ha hb hc h0 h13 =>
    have hcl : ∃ lo hi, utf8Class (0xE0 + a) = (3, lo, hi) ∧ lo ≤ 0x80 + b ∧ 0x80 + b ≤ hi := by
      by_cases e0 : a = 0
      · exact ⟨0xA0, 0xBF, by rw [e0]; rfl, by omega, by omega⟩
      · by_cases e1 : a = 13
        · exact ⟨0x80, 0x9F, by rw [e1]; rfl, by omega, by omega⟩
        · exact ⟨0x80, 0xBF, utf8Class_three (by omega) (by omega) (by omega), by omega, by omega⟩
    obtain ⟨lo, hi, hcl, hlo, hhi⟩ := hcl
    simp only [List.cons_append, List.nil_append, decodeRune, hcl, isCont_cont hc]
    rw [if_neg (by decide), if_neg (by decide), if_neg (second_ok hlo hhi), if_neg (by decide),
      if_neg (by decide), if_pos (by decide), cont_mod hb, cont_mod hc, show (0xE0 + a) % 16 = a by omega]
  | @four a b c d ha hb hc hd h0 h4 =>
    have hcl : ∃ lo hi, utf8Class (0xF0 + a) = (4, lo, hi) ∧ lo ≤ 0x80 + b ∧ 0x80 + b ≤ hi := by
      by_cases e0 : a = 0
      · exact ⟨0x90, 0xBF, by rw [e0]; rfl, by omega, by omega⟩
      · by_cases e1 : a = 4
        · exact ⟨0x80, 0x8F, by rw [e1]; rfl, by omega, by omega⟩
        · exact ⟨0x80, 0xBF, utf8Class_four (by omega) (by omega), by omega, by omega⟩
    obtain ⟨lo, hi, hcl, hlo, hhi⟩ := hcl
    simp only [List.cons_append, List.nil_append, decodeRune, hcl, isCont_cont hc, isCont_cont hd]
    rw [if_neg (by decide), if_neg (by decide), if_neg (second_ok hlo hhi), if_neg (by decide),
      if_neg (by decide), if_neg (by decide), if_neg (by decide), cont_mod hb, cont_mod hc, cont_mod hd,
      show (0xF0 + a) % 8 = a by omega]

theorem validRune_valid (k : Nat) : (validRune k).isValidChar := by
  unfold validRune
  by_cases hc : ((0xd800 ≤ k && k ≤ 0xdfff) || k > 0x10ffff) = true
  · rw [if_pos hc]; decide
  · rw [if_neg hc]
    simp only [Bool.or_eq_true, Bool.and_eq_true, decide_eq_true_eq] at hc
    unfold Nat.isValidChar
    omega

theorem enc_encodeRune (k : Nat) : Utf8.Enc (validRune k) (encodeRune k) := Utf8.enc_encode (validRune_valid k)

theorem decode_encode {k : Nat} (hv : validRune k = k) (r : List Nat) :
    decodeRune (encodeRune k ++ r) = some (k, r) := by
  have := decode_enc (enc_encodeRune k) r
  rwa [hv] at this

/-! ## `bytesToKey` on the encoding of a key -/

theorem ctrlKey_none {b : Nat} (h : b = 13 ∨ 32 ≤ b) : ctrlKey b = none := by
  simp only [ctrlKey, beq_iff_eq]
  iterate 10 rw [if_neg (by omega)]

theorem encodeRune_head (k : Nat) :
    ∃ b0 r0, encodeRune k = b0 :: r0 ∧ (b0 = validRune k ∨ 0xC0 ≤ b0) := by
  have h := enc_encodeRune k
  generalize validRune k = c at h
  generalize encodeRune k = bs at h
  cases h with
  | one _ => exact ⟨_, _, rfl, Or.inl rfl⟩
  | two _ _ _ => exact ⟨_, _, rfl, Or.inr (Nat.le_add_right _ _)⟩
  | three _ _ _ _ _ => exact ⟨_, _, rfl, Or.inr (by omega)⟩
  | four _ _ _ _ _ _ => exact ⟨_, _, rfl, Or.inr (by omega)⟩

theorem encode_head {k : Nat} (hk : k = 13 ∨ isPrintable k = true) :
    ∃ b0 r0, encodeRune k = b0 :: r0 ∧ ctrlKey b0 = none ∧ b0 ≠ 27 := by
  have hr : k = 13 ∨ 32 ≤ k := by
    rcases hk with h | h
    · exact Or.inl h
    · simp only [isPrintable, Bool.and_eq_true, decide_eq_true_eq] at h; exact Or.inr h.1.1
  have hv32 : validRune k = 13 ∨ 32 ≤ validRune k := by
    unfold validRune; split <;> omega
  obtain ⟨b0, r0, he, hb⟩ := encodeRune_head k
  exact ⟨b0, r0, he, ctrlKey_none (by omega), by omega⟩

theorem bytesToKey_encode {k : Nat} (hk : k = 13 ∨ isPrintable k = true) (hv : validRune k = k)
    (r : List Nat) (paste : Bool) : bytesToKey (encodeRune k ++ r) paste = some (k, r) := by
  obtain ⟨b0, r0, he, hc, hne⟩ := encode_head hk
  have hd := decode_encode hv r
  rw [he] at hd ⊢
  simp only [List.cons_append] at hd ⊢
  unfold bytesToKey
  have h1 : (if paste = true then none else ctrlKey b0) = none := by
    cases paste <;> simp [hc]
  simp only [h1]
  rw [if_pos (by simp [keyEscape, hne])]
  exact hd

/-! ## a stream of printable keys and Enters -/

/-- `[]byte(string(keys))` -/
def encodeKeys (keys : List Nat) : List Nat := keys.flatMap encodeRune

/-- a printable key or Enter that is a Unicode scalar value -/
abbrev TypedKey (k : Nat) : Prop := (k = 13 ∨ (isPrintable k = true ∧ k ≠ 13)) ∧ validRune k = k

/-- a typed key is none of the keys that `readLine` takes for itself -/
theorem typedKey_facts {k : Nat} (h : TypedKey k) :
    k ≠ keyCtrlD ∧ k ≠ keyCtrlC ∧ k ≠ keyPasteStart ∧ k ≠ keyPasteEnd := by
  have : k = 13 ∨ 32 ≤ k ∧ ¬ (0xd800 ≤ k ∧ k ≤ 0xdbff) := by
    rcases h.1 with h | ⟨h, _⟩
    · exact Or.inl h
    · simp only [isPrintable, Bool.and_eq_true, decide_eq_true_eq, Bool.not_eq_true',
        Bool.and_eq_false_iff, decide_eq_false_iff_not, bne_iff_ne] at h
      exact Or.inr (by omega)
  simp only [keyCtrlD, keyCtrlC, keyPasteStart, keyPasteEnd]
  omega

end Mkdb.Console
end

section
namespace Mkdb.Console

def keyBytes (k : Nat) : List Nat :=
  if k = keyBackspace then [127] else if k = keyCtrlU then [21]
  else if k = keyUp then [27, 91, 65] else if k = keyDown then [27, 91, 66]
  else if k = keyRight then [27, 91, 67] else if k = keyLeft then [27, 91, 68]
  else if k = keyHome then [27, 91, 72] else if k = keyEnd then [27, 91, 70]
  else if k = keyAltLeft then [27, 91, 49, 59, 51, 68] else if k = keyAltRight then [27, 91, 49, 59, 51, 67]
  else if k = keyClearScreen then [12] else if k = keyDeleteWord then [23] else if k = keyDeleteLine then [11]
  else encodeRune k

def isEditKey (k : Nat) : Bool :=
  k == keyBackspace || k == keyCtrlU || k == keyUp || k == keyDown || k == keyRight || k == keyLeft ||
  k == keyHome || k == keyEnd || k == keyAltLeft || k == keyAltRight || k == keyClearScreen ||
  k == keyDeleteWord || k == keyDeleteLine

theorem editKey_bytes {k : Nat} (h : isEditKey k = true) (r : List Nat) :
    bytesToKey (keyBytes k ++ r) false = some (k, r) := by
  simp only [isEditKey, Bool.or_eq_true, beq_iff_eq] at h
  rcases h with (((((((((((h | h) | h) | h) | h) | h) | h) | h) | h) | h) | h) | h) | h <;> subst h <;>
    simp [keyBytes, bytesToKey, ctrlKey, csiKey, decode1, keyEscape, keyBackspace, keyCtrlU, keyUp, keyDown, keyRight,
      keyLeft, keyHome, keyEnd, keyAltLeft, keyAltRight, keyClearScreen, keyDeleteWord, keyDeleteLine]

/-- a typed key (printable or Enter, a Unicode scalar value) or one of the editing keys -/
def EditKey (k : Nat) : Prop := TypedKey k ∨ isEditKey k = true

instance (k : Nat) : Decidable (EditKey k) := by unfold EditKey; exact inferInstance

theorem keyBytes_typed {k : Nat} (h : TypedKey k) : keyBytes k = encodeRune k := by
  have hne : k ≠ keyBackspace ∧ k ≠ keyAltLeft ∧ k ≠ keyAltRight ∧ k ≠ keyLeft ∧ k ≠ keyRight ∧ k ≠ keyHome ∧
      k ≠ keyEnd ∧ k ≠ keyUp ∧ k ≠ keyDown ∧ k ≠ keyDeleteWord ∧ k ≠ keyDeleteLine ∧ k ≠ keyCtrlD ∧
      k ≠ keyCtrlU ∧ k ≠ keyClearScreen := by
    rcases h.1 with e | ⟨hp, _⟩
    · subst e; decide
    · exact printable_ne hp
  obtain ⟨h1, h2, h3, h4, h5, h6, h7, h8, h9, h10, h11, _, h13, h14⟩ := hne
  simp [keyBytes, h1, h2, h3, h4, h5, h6, h7, h8, h9, h10, h11, h13, h14]

theorem editKey_facts {k : Nat} (h : isEditKey k = true) :
    k ≠ keyCtrlD ∧ k ≠ keyCtrlC ∧ k ≠ keyPasteStart := by
  simp only [isEditKey, Bool.or_eq_true, beq_iff_eq] at h
  rcases h with (((((((((((h | h) | h) | h) | h) | h) | h) | h) | h) | h) | h) | h) | h <;> subst h <;> decide

theorem key_bytes {k : Nat} (h : EditKey k) (r : List Nat) :
    bytesToKey (keyBytes k ++ r) false = some (k, r) ∧ k ≠ keyCtrlD ∧ k ≠ keyCtrlC ∧ k ≠ keyPasteStart := by
  rcases h with h | h
  · obtain ⟨h1, h2, h3, _⟩ := typedKey_facts h
    have hk' : k = 13 ∨ isPrintable k = true := h.1.elim Or.inl (fun h => Or.inr h.1)
    rw [keyBytes_typed h]
    exact ⟨bytesToKey_encode hk' h.2 r false, h1, h2, h3⟩
  · exact ⟨editKey_bytes h r, editKey_facts h⟩

def keysBytes (keys : List Nat) : List Nat := keys.flatMap keyBytes

theorem keysBytes_typed : ∀ {keys : List Nat}, (∀ k ∈ keys, TypedKey k) → keysBytes keys = encodeKeys keys
  | [], _ => rfl
  | k :: ks, hv => by
    have ih := keysBytes_typed (fun x hx => hv x (List.mem_cons_of_mem _ hx))
    simp only [keysBytes, encodeKeys, List.flatMap_cons] at ih ⊢
    rw [keyBytes_typed (hv k List.mem_cons_self), ih]

end Mkdb.Console
end
