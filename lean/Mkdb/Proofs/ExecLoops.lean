import Mkdb.Model.Exec
import Mkdb.Proofs.ListOption
/-!
The result monad `X` of the executor model and its loop `mapX`, against `List.mapM` in `Option`
(the comprehensions of the reference meaning): when is a loop defined, and what does it return.
The row loops of the model are instances: `filterRows` and `joinMatches` of the filtering loop
`filterX`, `joinOuter` of `mapX`.
-/
namespace Mkdb.Exec

-- results are compared by evaluation in the concrete examples
deriving instance DecidableEq for X

theorem bind_eq_ok {α β} {m : X α} {f : α → X β} {b : β} :
    (m >>= f) = .ok b ↔ ∃ a, m = .ok a ∧ f a = .ok b := by
  cases m with
  | ok a => exact ⟨fun h => ⟨a, rfl, h⟩, fun ⟨_, e, h⟩ => by cases e; exact h⟩
  | err e => exact ⟨fun h => (by cases h), fun ⟨_, e, _⟩ => (by cases e)⟩
  | panic s => exact ⟨fun h => (by cases h), fun ⟨_, e, _⟩ => (by cases e)⟩

/-! ### `mapX` -/

theorem mapX_cons_ok_iff {α β : Type} {f : α → X β} {a : α} {l : List α} {r : List β} :
    mapX f (a :: l) = .ok r ↔ ∃ b bs, f a = .ok b ∧ mapX f l = .ok bs ∧ r = b :: bs := by
  simp only [mapX, bind_eq_ok]
  constructor
  · rintro ⟨b, hb, bs, hbs, h⟩; exact ⟨b, bs, hb, hbs, (X.ok.inj h).symm⟩
  · rintro ⟨b, bs, hb, hbs, rfl⟩; exact ⟨b, hb, bs, hbs, rfl⟩

theorem mapX_ok_iff_mapM {α β : Type} {f : α → X β} {g : α → Option β} {l : List α}
    (hfg : ∀ a ∈ l, ∀ b, f a = .ok b ↔ g a = some b) {r : List β} :
    mapX f l = .ok r ↔ l.mapM g = some r := by
  induction l generalizing r with
  | nil =>
    simp only [mapX, X.ok.injEq, List.mapM_nil, Option.pure_def, Option.some.injEq]
  | cons a l ih =>
    rw [mapX_cons_ok_iff, mapM_cons_some]
    have ih' := fun r => @ih (fun a ha => hfg a (List.mem_cons_of_mem _ ha)) r
    constructor
    · rintro ⟨b, bs, hb, hbs, rfl⟩
      exact ⟨b, bs, (hfg a List.mem_cons_self b).1 hb, (ih' bs).1 hbs, rfl⟩
    · rintro ⟨b, bs, hb, hbs, rfl⟩
      exact ⟨b, bs, (hfg a List.mem_cons_self b).2 hb, (ih' bs).2 hbs, rfl⟩

/-- read through `X.ok`, the loop is a comprehension -/
def okOf {β : Type} : X β → Option β
  | .ok b => some b
  | _ => none

theorem okOf_eq_some {β : Type} {m : X β} {b : β} : m = .ok b ↔ okOf m = some b := by
  cases m <;> simp [okOf]

theorem mapX_ok_iff {α β : Type} {f : α → X β} {l : List α} {r : List β} :
    mapX f l = .ok r ↔ l.mapM (fun a => okOf (f a)) = some r :=
  mapX_ok_iff_mapM fun _ _ _ => okOf_eq_some

/-- "answers `b` exactly when the meaning is `some b`", for every `b`, is one equation -/
theorem okOf_eq_of_iff {β : Type} {m : X β} {o : Option β} (h : ∀ b, m = .ok b ↔ o = some b) :
    okOf m = o :=
  Option.ext fun b => okOf_eq_some.symm.trans (h b)

theorem okOf_bind {α β : Type} (m : X α) (f : α → X β) :
    okOf (m >>= f) = (okOf m).bind fun a => okOf (f a) := by
  cases m <;> rfl

theorem okOf_mapX {α β : Type} (f : α → X β) (l : List α) :
    okOf (mapX f l) = l.mapM fun a => okOf (f a) :=
  okOf_eq_of_iff fun _ => mapX_ok_iff

theorem mapX_ok_forall {α β : Type} {f : α → X β} {l : List α} {r : List β}
    (h : mapX f l = .ok r) : ∀ a ∈ l, ∃ b, f a = .ok b := fun a ha => by
  obtain ⟨b, hb⟩ := mapM_some_forall (mapX_ok_iff.1 h) a ha
  exact ⟨b, okOf_eq_some.2 hb⟩

theorem mapX_ok_of_forall {α β : Type} {f : α → X β} {l : List α}
    (h : ∀ a ∈ l, ∃ b, f a = .ok b) : ∃ r, mapX f l = .ok r := by
  obtain ⟨r, hr⟩ := mapM_some_of_forall (f := fun a => okOf (f a)) (l := l)
    (fun a ha => by obtain ⟨b, hb⟩ := h a ha; exact ⟨b, okOf_eq_some.1 hb⟩)
  exact ⟨r, mapX_ok_iff.2 hr⟩

theorem mapX_eq_ok_map {α β : Type} {f : α → X β} (g : α → β) (l : List α)
    (h : ∀ a ∈ l, f a = .ok (g a)) : mapX f l = .ok (l.map g) :=
  mapX_ok_iff.2 (mapM_eq_some_map fun a ha => okOf_eq_some.1 (h a ha))

/-! ### the filtering loop -/

/-- keep the elements whose test answers `true`; the first test that does not answer ends the loop
with its outcome -/
def filterX {α : Type} (p : α → X Bool) : List α → X (List α)
  | [] => .ok []
  | a :: rest => do
    let b ← p a
    let tl ← filterX p rest
    pure (if b then a :: tl else tl)

theorem filterX_ok_iff {α : Type} {p : α → X Bool} {l out : List α} :
    filterX p l = .ok out ↔
      (∀ a ∈ l, ∃ b, p a = .ok b) ∧ out = l.filter fun a => p a == .ok true := by
  induction l generalizing out with
  | nil => simp [filterX, eq_comm]
  | cons a rest ih =>
    simp only [filterX, bind_eq_ok, ih, List.forall_mem_cons, List.filter_cons]
    constructor
    · rintro ⟨b, hb, tl, ⟨hall, rfl⟩, h⟩
      refine ⟨⟨⟨b, hb⟩, hall⟩, ?_⟩
      rw [hb, ← X.ok.inj h]
      cases b <;> rfl
    · rintro ⟨⟨⟨b, hb⟩, hall⟩, rfl⟩
      refine ⟨b, hb, _, ⟨hall, rfl⟩, ?_⟩
      rw [hb]
      cases b <;> rfl

open Mkdb.Sql

/-- the test of `filterRows`: the WHERE condition evaluates to `TRUE` -/
def whereTest (c : Cond) (fields : List Field) (r : Row) : X Bool :=
  evaluate c fields r >>= fun v => pure (v == .bool true)

theorem filterRows_eq_filterX (c : Cond) (fields : List Field) (rows : List Row) :
    filterRows c fields rows = filterX (whereTest c fields) rows := by
  induction rows with
  | nil => rfl
  | cons r rest ih =>
    simp only [filterRows, filterX, whereTest, ih]
    cases evaluate c fields r <;> rfl

/-- the test of `joinMatches`: the truth value of the ON condition; anything but a boolean is an
error -/
def onTest (on : Cond) (fields : List Field) (row : Row) : X Bool :=
  evaluate on fields row >>= fun v => match v with
    | .bool b => pure b
    | _ => .err .nonBoolJoin

theorem onTest_ok_iff {on : Cond} {fields : List Field} {row : Row} {b : Bool} :
    onTest on fields row = .ok b ↔ evaluate on fields row = .ok (.bool b) := by
  unfold onTest
  cases evaluate on fields row with
  | ok v => cases v <;> simp [bind, pure]
  | err e => simp [bind]
  | panic s => simp [bind]

theorem joinMatches_eq_filterX (on : Cond) (fields : List Field) (mk : Row → Row) (rs : List Row) :
    joinMatches on fields mk rs = filterX (onTest on fields) (rs.map mk) := by
  induction rs with
  | nil => rfl
  | cons r rest ih =>
    simp only [joinMatches, List.map_cons, filterX, onTest, ih]
    cases evaluate on fields (mk r) with
    | ok v => cases v <;> rfl
    | err e => rfl
    | panic s => rfl

/-- what one outer row contributes to a join: its matches, or its padding when there is none -/
def outerRows (on : Cond) (fields : List Field) (inner : List Row) (mk : Row → Row → Row)
    (pad : Option (Row → Row)) (o : Row) : X (List Row) :=
  joinMatches on fields (mk o) inner >>= fun ms =>
    pure (if ms.isEmpty then (match pad with | some p => [p o] | none => []) else ms)

theorem joinOuter_eq_mapX (on : Cond) (fields : List Field) (outer inner : List Row)
    (mk : Row → Row → Row) (pad : Option (Row → Row)) :
    joinOuter on fields outer inner mk pad =
      mapX (outerRows on fields inner mk pad) outer >>= fun bs => pure bs.flatten := by
  induction outer with
  | nil => rfl
  | cons o rest ih =>
    simp only [joinOuter, mapX, outerRows, ih]
    cases joinMatches on fields (mk o) inner with
    | ok ms => cases mapX (outerRows on fields inner mk pad) rest <;> rfl
    | err e => rfl
    | panic s => rfl

end Mkdb.Exec
