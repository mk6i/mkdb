import Mkdb.Proofs.ReplayHistories
/-!
Crash while a statement appends its records to the log (storage level): replaying any prefix of the log
of a live run yields the live state after a prefix of its row statements.  A row statement writes one
record, except an INSERT that moves the root of its table, which writes the row's INSERT record and then
the UPDATE record of the catalog row: a cut between these two leaves the row in the tree and the page
table re-pointed by the replay itself, equal to the live one up to one LSN stamp (`PtRestamp`).  `CutAt`
is the statement of the induction over the live run.
-/
set_option autoImplicit false
namespace Mkdb.Store
open Mkdb.Page Mkdb.Tuple Mkdb.Generated Mkdb.Tree Mkdb.Engine

/-- the step common to the four row-statement cases of `LiveRunM.split`: `hpre` puts the statement `x`
with its log `l1` in front of a run -/
theorem LiveRunM.split_step {sch : Levels} {s s1 sN : Store} {tbls tbls1 tblsN : List (Bytes × Levels)} {x : RStmt}
    {rest : List RStmt} {l1 logs2 : List WalRec}
    (hpre : ∀ st' sK tblsK lK, LiveRunM sch s1 tbls1 st' sK tblsK lK →
      LiveRunM sch s tbls (x :: st') sK tblsK (l1 ++ lK))
    (hrest : LiveRunM sch s1 tbls1 rest sN tblsN logs2)
    (ih : ∀ A B, rest = A ++ B → ∃ sK tblsK la lb, LiveRunM sch s1 tbls1 A sK tblsK la ∧
      LiveRunM sch sK tblsK B sN tblsN lb ∧ logs2 = la ++ lb) :
    ∀ A B, x :: rest = A ++ B → ∃ sK tblsK la lb, LiveRunM sch s tbls A sK tblsK la ∧
      LiveRunM sch sK tblsK B sN tblsN lb ∧ l1 ++ logs2 = la ++ lb := by
  intro A B hAB
  cases A with
  | nil =>
    rw [List.nil_append] at hAB
    subst hAB
    exact ⟨s, tbls, [], _, .nil _ _, hpre _ _ _ _ hrest, rfl⟩
  | cons a A' =>
    rw [List.cons_append, List.cons.injEq] at hAB
    obtain ⟨rfl, hAB⟩ := hAB
    obtain ⟨sK, tblsK, la, lb, r1, r2, e⟩ := ih A' B hAB
    exact ⟨sK, tblsK, l1 ++ la, lb, hpre _ _ _ _ r1, r2, by rw [e, List.append_assoc]⟩

theorem LiveRunM.split {sch : Levels} {s sN : Store} {tbls tblsN : List (Bytes × Levels)}
    {stmts : List RStmt} {logs : List WalRec} (run : LiveRunM sch s tbls stmts sN tblsN logs) :
    ∀ (A B : List RStmt), stmts = A ++ B →
      ∃ sK tblsK l1 l2, LiveRunM sch s tbls A sK tblsK l1 ∧ LiveRunM sch sK tblsK B sN tblsN l2 ∧
        logs = l1 ++ l2 := by
  induction run with
  | nil s tbls =>
    intro A B hAB
    obtain ⟨rfl, rfl⟩ := List.append_eq_nil_iff.mp hAB.symm
    exact ⟨s, tbls, [], [], .nil _ _, .nil _ _, rfl⟩
  | same hs _ ih =>
    intro A B hAB
    obtain ⟨sK, tblsK, l1, l2, r1, r2, e⟩ := ih A B hAB
    exact ⟨sK, tblsK, l1, l2, .same hs r1, r2, e⟩
  | ins table cols vals t schema buf t' nf' ht hsch hcols hnames henc hlen hins hd' hl' hbig hrun hrest ih =>
    exact split_step (fun _ _ _ _ r =>
      .ins table cols vals t schema buf t' nf' ht hsch hcols hnames henc hlen hins hd' hl' hbig hrun r) hrest ih
  | upd table rowId cols src t schema c m buf ht hsch hc hk hdec henc hlen hrun hrest ih =>
    exact split_step (fun _ _ _ _ r =>
      .upd table rowId cols src t schema c m buf ht hsch hc hk hdec henc hlen hrun r) hrest ih
  | updAbsent table rowId cols src t schema ht hsch habs hrun hrest ih =>
    exact split_step (fun _ _ _ _ r => .updAbsent table rowId cols src t schema ht hsch habs hrun r) hrest ih
  | del table rowId t c ht hc hk hrun hrest ih =>
    exact split_step (fun _ _ _ _ r => .del table rowId t c ht hc hk hrun r) hrest ih

/-- What a cut of the log after `k` records leaves, the log being replayed on `r0`: the replay of
`logs.take k` succeeds, and its result `rK` has the catalog description, with the same tables, of the
live state `sK` after some number `j` of the row statements, and agrees with `sK` on the allocation
frontier and the row-id counter.  Either the cut is a boundary between row statements - the log of the
`j` statements is exactly `logs.take k` and the page tables are equal - or the cut fell between the two
records of the `j`-th statement, an INSERT that moved the root of its table: the log of the `j`
statements is `logs.take (k+1)`, and the replayed page table is the live one up to one LSN stamp
(`PtRestamp`). -/
def CutAt (sch : Levels) (s : Store) (tbls : List (Bytes × Levels)) (stmts : List RStmt)
    (logs : List WalRec) (r0 : Store) (k : Nat) : Prop :=
  ∃ j sK tblsK logsK ptK ptR rK,
    j ≤ stmts.length ∧
    LiveRunM sch s tbls (stmts.take j) sK tblsK logsK ∧
    replayAll (logs.take k) r0 = (rK, none, false) ∧
    Cat sK ptK sch tblsK ∧ Cat rK ptR sch tblsK ∧ PtSelf ptK ∧ FreshM sK tblsK ∧
    rK.hdr.nextFree = sK.hdr.nextFree ∧ rK.hdr.lastKey = sK.hdr.lastKey ∧
    rK.hdr.nextLSN ≤ sK.hdr.nextLSN ∧
    ((logsK = logs.take k ∧ ptR = ptK) ∨
     (logsK = logs.take (k + 1) ∧ k + 1 ≤ logs.length ∧ PtRestamp ptR ptK ∧
       ∃ table cols vals, (stmts.take j).getLast? = some (.ins table cols vals)))

theorem CutAt.zero {sch : Levels} {s r0 : Store} {pt : Levels} {tbls : List (Bytes × Levels)}
    (stmts : List RStmt) (logs : List WalRec) (hb : Behind sch s r0 pt tbls)
    (hlk : r0.hdr.lastKey = s.hdr.lastKey) (hf : FreshM s tbls) : CutAt sch s tbls stmts logs r0 0 :=
  ⟨0, s, tbls, [], pt, pt, r0, Nat.zero_le _, by rw [List.take_zero]; exact .nil _ _,
    by rw [List.take_zero]; rfl, hb.live, hb.redo, hb.self, hf, hb.nf, hlk, hb.lsn,
    .inl ⟨by rw [List.take_zero], rfl⟩⟩

/-- a step (the statements `x` - one, or none for a read - with the log `l1`) in front of a cut run -/
theorem CutAt.step {sch : Levels} {s s1 r0 r1 : Store} {tbls tbls1 : List (Bytes × Levels)} {x rest : List RStmt}
    {l1 logs2 : List WalRec} {k' : Nat}
    (hpre : ∀ {st' sK tblsK lK}, LiveRunM sch s1 tbls1 st' sK tblsK lK →
      LiveRunM sch s tbls (x ++ st') sK tblsK (l1 ++ lK))
    (hrep : replayAll l1 r0 = (r1, none, false))
    (hc : CutAt sch s1 tbls1 rest logs2 r1 k') :
    CutAt sch s tbls (x ++ rest) (l1 ++ logs2) r0 (l1.length + k') := by
  obtain ⟨j, sK, tblsK, logsK, ptK, ptR, rK, hj, run, hre, c1, c2, c3, c4, c5, c6, c7, hcase⟩ := hc
  refine ⟨x.length + j, sK, tblsK, l1 ++ logsK, ptK, ptR, rK, by rw [List.length_append]; omega, ?_, ?_, c1, c2,
    c3, c4, c5, c6, c7, ?_⟩
  · rw [List.take_length_add_append]; exact hpre run
  · rw [List.take_length_add_append, replayAll_append hrep]; exact hre
  · rcases hcase with ⟨a, b⟩ | ⟨a, b, c, table, cols, vals, d⟩
    · exact .inl ⟨by rw [List.take_length_add_append, a], b⟩
    · refine .inr ⟨by rw [Nat.add_assoc, List.take_length_add_append, a],
        by rw [List.length_append]; omega, c, table, cols, vals, ?_⟩
      rw [List.take_length_add_append, List.getLast?_append, d]
      rfl

/-- **Replay of any prefix of the log of a live run**, on a store that is behind the start of the run
with the same row-id counter: a step whose records all lie before the cut is replayed whole
(`RowStep.replay`), and the only cut inside a step is the one between the two records of an insert
that moved the root. -/
theorem replay_prefix_gen (sch : Levels) {s0 sN : Store} {tbls tblsN : List (Bytes × Levels)}
    {stmts : List RStmt} {logs : List WalRec} (run : LiveRunM sch s0 tbls stmts sN tblsN logs)
    {pt : Levels} {r0 : Store} (hb : Behind sch s0 r0 pt tbls) (hlk : r0.hdr.lastKey = s0.hdr.lastKey)
    (hf : FreshM s0 tbls) (k : Nat) (hk : k ≤ logs.length) : CutAt sch s0 tbls stmts logs r0 k := by
  refine run.induct (motive := fun s pt tbls stmts logs => ∀ r0, Behind sch s r0 pt tbls →
    r0.hdr.lastKey = s.hdr.lastKey → FreshM s tbls → ∀ k, k ≤ logs.length → CutAt sch s tbls stmts logs r0 k)
    ?_ ?_ pt hb.live r0 hb hlk hf k hk
  · intro pt _ r0 hb hlk hf k hk
    obtain rfl : k = 0 := Nat.le_zero.mp hk
    exact CutAt.zero _ _ hb hlk hf
  · intro s pt tbls s1 pt1 tbls1 x rest l1 l2 _ st hc1 hpre hx _ ih r0 hb hlk hf k hk
    by_cases hk0 : k = 0
    · subst hk0; exact CutAt.zero _ _ hb hlk hf
    obtain ⟨r1, e1, hb1, k1, _, hcut⟩ := st.replay hc1 hb hf
    rw [List.length_append] at hk
    by_cases hge : l1.length ≤ k
    · have := CutAt.step hpre e1 (ih r1 hb1 (k1 hlk) (st.freshM hf) (k - l1.length) (by omega))
      rwa [Nat.add_sub_cancel' hge] at this
    · -- the cut between the INSERT record and the catalogue record
      rcases hcut with h1 | ⟨h2, rM, ptM, erM, hcM, hrs, a1, a2, a3⟩
      · omega
      · obtain rfl : k = 1 := by omega
        obtain ⟨table, cols, vals, rfl⟩ : ∃ table cols vals, x = [.ins table cols vals] := by
          cases st with
          | quiet hs => exact absurd h2 (by decide)
          | cell table t l d r f ht hm hr hpage hany hrl hlsn hlk hnf hdel => exact absurd h2 (Nat.succ_ne_succ_iff.mpr (by decide))
          | ins table t t' nf' buf ht hlen hins hd' hl' hbig hlk hnf hroot hent =>
            rcases hroot with ⟨_, _, _, rfl⟩ | ⟨_, _, a, p, _, _, _, _, _, rfl⟩
            · exact absurd h2 (Nat.succ_ne_succ_iff.mpr (by decide))
            · exact hx _ List.mem_cons_self rfl
        refine ⟨1, s1, tbls1, l1 ++ [], pt1, ptM, rM, Nat.le_add_left _ _, hpre (.nil _ _), ?_, hc1, hcM,
          hb1.self, st.freshM hf, a1, a2, a3, .inr ⟨?_, ?_, hrs, table, cols, vals, rfl⟩⟩
        · rw [List.take_append_of_le_length (h2 ▸ Nat.le_succ 1)]; exact erM
        · rw [List.append_nil, show 1 + 1 = l1.length from h2.symm, List.take_left]
        · rw [List.length_append, h2]; exact Nat.le_add_right _ _

theorem Cat.same_pages_tables {s r : Store} {ptS ptR sch : Levels} {tbls : List (Bytes × Levels)}
    (h : Cat s ptS sch tbls) (hr : Cat r ptR sch tbls) :
    ∀ x ∈ sch :: tbls.map (·.2), ∀ o ∈ offs x, view r o = view s o := by
  intro x hx o ho
  obtain ⟨e, he, rfl⟩ := List.mem_map.mp ho
  rw [(h.tree x (List.mem_cons_of_mem _ hx)).1 e he, (hr.tree x (List.mem_cons_of_mem _ hx)).1 e he]

/-- A crash that leaves the first `k` records of the log of a live run: nothing reached the data file, so
recovery replays `logs.take k` on `s0`.  This is `CutAt` with `r0 = s0`, page for page: `rK` and `sK` show
the same page at every offset of `sys_schema` and of every user table and - when the cut is a boundary
between row statements - of the page table.  In the other case the row is completely in the tree, and the
replayed page table names the same roots as the live one and differs from it in one LSN stamp. -/
theorem replay_prefix (sch : Levels) {s0 sN : Store} {tbls tblsN : List (Bytes × Levels)}
    {stmts : List RStmt} {logs : List WalRec} (run : LiveRunM sch s0 tbls stmts sN tblsN logs)
    (pt : Levels) (h : Cat s0 pt sch tbls) (hself : PtSelf pt) (hf : FreshM s0 tbls)
    (k : Nat) (hk : k ≤ logs.length) :
    ∃ j sK tblsK logsK ptK ptR rK,
      j ≤ stmts.length ∧
      LiveRunM sch s0 tbls (stmts.take j) sK tblsK logsK ∧
      replayAll (logs.take k) s0 = (rK, none, false) ∧
      Cat sK ptK sch tblsK ∧ Cat rK ptR sch tblsK ∧
      (∀ x ∈ sch :: tblsK.map (·.2), ∀ o ∈ offs x, view rK o = view sK o) ∧
      rK.hdr.nextFree = sK.hdr.nextFree ∧ rK.hdr.lastKey = sK.hdr.lastKey ∧
      rK.hdr.ptRoot = sK.hdr.ptRoot ∧ rK.hdr.nextLSN ≤ sK.hdr.nextLSN ∧
      ((logsK = logs.take k ∧ ptR = ptK ∧ ∀ o ∈ offs ptK, view rK o = view sK o) ∨
       (logsK = logs.take (k + 1) ∧ k + 1 ≤ logs.length ∧ PtRestamp ptR ptK ∧
         ∃ table cols vals, (stmts.take j).getLast? = some (.ins table cols vals))) := by
  obtain ⟨j, sK, tblsK, logsK, ptK, ptR, rK, hj, hrun, hre, c1, c2, _, _, c5, c6, c7, hcase⟩ :=
    replay_prefix_gen sch run ⟨h, h, hself, rfl, Nat.le_refl _, Nat.le_refl _⟩ rfl hf k hk
  refine ⟨j, sK, tblsK, logsK, ptK, ptR, rK, hj, hrun, hre, c1, c2, c1.same_pages_tables c2, c5, c6, ?_, c7, ?_⟩
  · rw [← c1.root, ← c2.root]
    rcases hcase with ⟨_, rfl⟩ | ⟨_, _, hp, _⟩
    · rfl
    · exact hp.root.symm
  · rcases hcase with ⟨a, rfl⟩ | hm
    · exact .inl ⟨a, rfl, c1.same_pages c2 ptR Cat.pt_mem⟩
    · exact .inr hm

theorem replay_prefix_boundary (sch : Levels) {s0 sN : Store} {tbls tblsN : List (Bytes × Levels)}
    {stmts : List RStmt} {logs : List WalRec} (run : LiveRunM sch s0 tbls stmts sN tblsN logs)
    (pt : Levels) (h : Cat s0 pt sch tbls) (hself : PtSelf pt) (hf : FreshM s0 tbls) (j : Nat) :
    ∃ k sK tblsK ptK rK, k ≤ logs.length ∧
      LiveRunM sch s0 tbls (stmts.take j) sK tblsK (logs.take k) ∧
      replayAll (logs.take k) s0 = (rK, none, false) ∧
      Cat sK ptK sch tblsK ∧ Cat rK ptK sch tblsK ∧
      (∀ x ∈ catTrees ptK sch tblsK, ∀ o ∈ offs x, view rK o = view sK o) ∧
      rK.hdr.nextFree = sK.hdr.nextFree ∧ rK.hdr.lastKey = sK.hdr.lastKey ∧
      rK.hdr.ptRoot = sK.hdr.ptRoot ∧ rK.hdr.nextLSN ≤ sK.hdr.nextLSN := by
  obtain ⟨sK, tblsK, l1, l2, r1, _, rfl⟩ :=
    run.split (stmts.take j) (stmts.drop j) (List.take_append_drop j stmts).symm
  obtain ⟨ptK, rK, e, c⟩ := replay_history_mixed sch r1 pt h hself hf
  refine ⟨l1.length, sK, tblsK, ptK, rK, ?_, ?_, ?_, c⟩
  · rw [List.length_append]; exact Nat.le_add_right _ _
  · rw [List.take_left]; exact r1
  · rw [List.take_left]; exact e

end Mkdb.Store
