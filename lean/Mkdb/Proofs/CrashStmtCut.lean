import Mkdb.Proofs.CountersStatements
import Mkdb.Proofs.CrashReplayPrefix
/-!
A crash while one statement of the engine appends its records to the log: the log of the statement cut anywhere
and replayed (`evalInsert_cut`, `evalDelete_cut`, `evalUpdate_cut`).  A row of an INSERT logs one record, or two
when its insert moves the root of the table (the INSERT record, then the catalog record); so a cut of the log is
a row boundary or falls between the two records of one row, and a prefix of an accepted multi-row INSERT is
itself accepted.  Every row of a DELETE or an UPDATE logs exactly one record, so every cut is a row boundary:
the first `k` records replayed give the table with the first `k` selected rows removed (`deleteFirst`), or
rewritten (`rewriteFirst` of `SpecRefineUpdateStmt`).
-/

section
/-!
`specInsert_inv` / `specInsert_of`, `specDelete_inv`, `specUpdate_inv` say what an accepted statement of the plain
model went through (table found, names, selection, rows): `specX_some_iff` without the result.
-/
set_option autoImplicit false
namespace Mkdb.Store
open Mkdb.Page Mkdb.Tuple Mkdb.Generated Mkdb.Tree

theorem insRunOK_take (schema : List FieldDef) (cols : List String) :
    ∀ (rows : List (List Val)) (t : Levels) (lk lsn nf j : Nat),
      InsRunOK schema cols t lk lsn nf rows → InsRunOK schema cols t lk lsn nf (rows.take j)
  | [], _, _, _, _, _, _ => by simp [InsRunOK]
  | _ :: _, _, _, _, _, 0, _ => by simp [InsRunOK]
  | r :: rest, t, lk, lsn, nf, j + 1, h => by
    rw [List.take_succ_cons]
    intro buf t' nf' he hi
    obtain ⟨a, b, c, d⟩ := h buf t' nf' he hi
    exact ⟨a, b, c, insRunOK_take schema cols rest t' _ _ nf' j d⟩

theorem namesTest_take {st : Spec.STable} {cols : List Bytes} {rows : List (List Val)} (j : Nat)
    (h : rows = [] ∨ Spec.namesOK st (cols.map Spec.nameStr) = true) :
    rows.take j = [] ∨ Spec.namesOK st (cols.map Spec.nameStr) = true :=
  h.imp_left fun e => by rw [e, List.take_nil]

theorem specInsert_inv {sdb sdb' : Spec.SDB} {table : Bytes} {cols : List Bytes} {rows : List (List Val)}
    (h : Spec.specInsert sdb table cols rows = some sdb') :
    ∃ st newRows, Spec.findTable sdb table = some st ∧
      (rows = [] ∨ Spec.namesOK st (cols.map Spec.nameStr) = true) ∧
      rows.mapM (Spec.rowOf st cols) = some newRows :=
  let ⟨st, newRows, hf, hn, hm, _⟩ := specInsert_some_iff.mp h
  ⟨st, newRows, hf, hn, hm⟩

theorem specInsert_of {sdb : Spec.SDB} {table : Bytes} {cols : List Bytes} {rows : List (List Val)}
    {st : Spec.STable} {newRows : List (List Val)} (hf : Spec.findTable sdb table = some st)
    (hn : rows = [] ∨ Spec.namesOK st (cols.map Spec.nameStr) = true)
    (hm : rows.mapM (Spec.rowOf st cols) = some newRows) :
    Spec.specInsert sdb table cols rows =
      some (sdb.map (updRows table fun rs => rs ++ newRows.map fun v => ⟨none, v⟩)) :=
  specInsert_some_iff.mpr ⟨st, newRows, hf, hn, hm, rfl⟩

theorem specDelete_inv {sdb sdb' : Spec.SDB} {table : Bytes} {w : Option Sql.Cond}
    (h : Spec.specDelete sdb table w = some sdb') :
    ∃ st sel, Spec.findTable sdb table = some st ∧ Spec.selects st w = some sel :=
  let ⟨st, sel, hf, hsel, _⟩ := specDelete_some_iff.mp h
  ⟨st, sel, hf, hsel⟩

theorem specUpdate_inv {sdb sdb' : Spec.SDB} {table : Bytes} {sets : List (Bytes × Sql.VExpr)}
    {w : Option Sql.Cond} (h : Spec.specUpdate sdb table sets w = some sdb') :
    ∃ st sel rows', Spec.findTable sdb table = some st ∧ (∀ p ∈ sets, ∀ c, p.2 ≠ .col c) ∧
      Spec.selects st w = some sel ∧ (st.rows.zip sel).mapM (specUpdRow st.cols sets) = some rows' :=
  let ⟨st, sel, rows', hf, hnocol, _, hsel, hrows, _⟩ := specUpdate_some_iff.mp h
  ⟨st, sel, rows', hf, hnocol, hsel, hrows⟩

theorem specInsert_take {sdb sdb' : Spec.SDB} {table : Bytes} {cols : List Bytes} {rows : List (List Val)}
    (h : Spec.specInsert sdb table cols rows = some sdb') (j : Nat) :
    ∃ sdbJ, Spec.specInsert sdb table cols (rows.take j) = some sdbJ := by
  obtain ⟨st, newRows, hf, hn, hm⟩ := specInsert_inv h
  exact ⟨_, specInsert_of hf (namesTest_take j hn) (mapM_take j hm)⟩

/-- **The first `j` rows of an INSERT the spec accepts, and their log replayed.**  The spec accepts them; they run
on the store of `db` (`insert_rows`; the side conditions hold on for the rows that follow), so the engine accepts
them; their log replayed on a store `r` that is behind ends behind the store they leave (`replay_run`). -/
theorem insert_rows_replayed (db : Engine.DB) {r : Store} {pt sch : Levels} {tbls : List (Bytes × Levels)}
    {sdb : Spec.SDB} (h : Abs db.store pt sch tbls sdb) (hb : Behind sch db.store r pt tbls)
    (hf : FreshM db.store tbls) (e2 : r.hdr.lastKey = db.store.hdr.lastKey)
    {table : Bytes} {t : Levels} (ht : (table, t) ∈ tbls) {schema : List FieldDef}
    (hsch : schemaOf sch table = some schema) {cols : List Bytes} {rows newRows : List (List Val)}
    (hvalid : ∀ r ∈ rows, ∀ v ∈ r, ValidVal v)
    (hcond : rows = [] ∨ Spec.namesOK (absTable table schema t) (cols.map Spec.nameStr) = true)
    (hm : rows.mapM (Spec.rowOf (absTable table schema t) cols) = some newRows)
    (hrun : InsRunOK schema (cols.map Engine.bytesToName) t db.store.hdr.lastKey db.store.hdr.nextLSN
      db.store.hdr.nextFree rows) {j : Nat} (hj : j ≤ rows.length) :
    ∃ sJ ptJ tJ lJ rJ,
      rowsM (insert table (cols.map Engine.bytesToName)) (rows.take j) db.store = .ok lJ sJ ∧
      Spec.specInsert sdb table cols (rows.take j) =
        some (sdb.map (updRows table fun x => x ++ (newRows.take j).map fun v => ⟨none, v⟩)) ∧
      Engine.evalInsert db table cols (rows.take j) = .ok j { store := sJ, wal := db.wal ++ lJ } ∧
      Abs sJ ptJ sch (setTable tbls table tJ)
        (sdb.map (updRows table fun x => x ++ idRows db.store.hdr.lastKey (newRows.take j))) ∧
      sJ.hdr.lastKey = db.store.hdr.lastKey + j ∧
      InsRunOK schema (cols.map Engine.bytesToName) tJ sJ.hdr.lastKey sJ.hdr.nextLSN sJ.hdr.nextFree (rows.drop j) ∧
      Engine.replayAll lJ r = (rJ, none, false) ∧ Behind sch sJ rJ ptJ (setTable tbls table tJ) ∧
      FreshM sJ (setTable tbls table tJ) ∧ rJ.hdr.lastKey = sJ.hdr.lastKey := by
  obtain ⟨sJ, _, tJ, lJ, hW, hlive, habs, hlk, htail⟩ := insert_rows table cols sch schema hsch (rows.drop j)
    (rows.take j) (newRows.take j) db.store pt tbls t sdb h ht (fun r hr => hvalid r (List.mem_of_mem_take hr))
    (mapM_take j hm)
    ((namesTest_take j hcond).imp_right
      (checkColumns_of_namesOK (absTable table schema t) cols (h.tabs.names_nodup ht hsch)))
    (by rw [List.take_append_drop]; exact hrun)
  obtain ⟨ptJ, rJ, hre, hbJ, hfJ, hk, _⟩ := replay_run sch hlive hb hf
  have hE := evalInsert_of_ok db table cols hW
  rw [List.length_take_of_le hj] at hE hlk
  exact ⟨sJ, ptJ, tJ, lJ, rJ, hW, specInsert_of (h.find_mem ht hsch).2 (namesTest_take j hcond) (mapM_take j hm), hE,
    ⟨hbJ.live, habs.tabs⟩, hlk, htail, hre, hbJ, hfJ, hk e2⟩

/-- **INSERT of the engine, its log cut anywhere and replayed.**  The database `db` abstracts to the
plain-model database `sdb`; `r` is behind `db.store` (`Behind`: the store recovery has rebuilt from the log
up to the statement) with the same row-id counter.  The plain
model accepts the statement.  Then the engine runs it (`.ok`, the log grows by `logs`), and for EVERY
`k`, replaying the first `k` records of `logs` on `r` ends without error in a store `rK` for which
there is a `j ≤ rows.length` with:
* the plain model accepts `INSERT … (rows.take j)`, with result `sdbJ'`;
* the engine run on `rows.take j` alone ends in `dbJ`, whose store abstracts to `sdbJ` - `sdbJ'` with
  the row ids filled in;
* `rK` abstracts to the same `sdbJ`, with the same trees for all tables (`setTable tbls table tJ`) and
  `sys_schema`, page for page; frontier and row-id counter are those of `dbJ` (row ids are not reused);
* the cut is a row boundary (`logsJ = logs.take k`, equal page tables), or it fell between the INSERT
  record and the catalog record of row `j` (`logsJ = logs.take (k+1)`, page tables equal up to one
  LSN stamp); the second case needs a row that moves the root of the table: when the statement logged as
  many records as it has rows, every row logged one, `j = min k rows.length` and only the first case remains.

The cut is a number `j` of whole rows and at most one record of the next row (`rowsM_cut`).  The whole rows:
`insert_rows_replayed`.  The one record more: row `j` is a step (`RowStep.of_insert`) from the stores the whole
rows left, and `RowStep.replay` says what its first record alone replays to. -/
theorem evalInsert_cut (db : Engine.DB) (r : Store) (pt sch : Levels) (tbls : List (Bytes × Levels))
    (sdb sdb' : Spec.SDB) (h : Abs db.store pt sch tbls sdb) (hb : Behind sch db.store r pt tbls)
    (hf : FreshM db.store tbls) (e2 : r.hdr.lastKey = db.store.hdr.lastKey)
    (table : Bytes) (t : Levels) (ht : (table, t) ∈ tbls)
    (schema : List FieldDef) (hsch : schemaOf sch table = some schema)
    (cols : List Bytes) (rows : List (List Val)) (hvalid : ∀ r ∈ rows, ∀ v ∈ r, ValidVal v)
    (hspec : Spec.specInsert sdb table cols rows = some sdb')
    (hrun : InsRunOK schema (cols.map Engine.bytesToName) t db.store.hdr.lastKey db.store.hdr.nextLSN
      db.store.hdr.nextFree rows) :
    ∃ dbC logs, Engine.evalInsert db table cols rows = .ok rows.length dbC ∧ dbC.wal = db.wal ++ logs ∧
      ∀ k, ∃ j dbJ sdbJ sdbJ' ptJ ptR tJ logsJ rK, j ≤ rows.length ∧
        Spec.specInsert sdb table cols (rows.take j) = some sdbJ' ∧ valsOf sdbJ = valsOf sdbJ' ∧
        Engine.evalInsert db table cols (rows.take j) = .ok j dbJ ∧ dbJ.wal = db.wal ++ logsJ ∧
        Abs dbJ.store ptJ sch (setTable tbls table tJ) sdbJ ∧
        Engine.replayAll (logs.take k) r = (rK, none, false) ∧
        Abs rK ptR sch (setTable tbls table tJ) sdbJ ∧
        (∀ x ∈ sch :: (setTable tbls table tJ).map (·.2), ∀ o ∈ offs x, view rK o = view dbJ.store o) ∧
        rK.hdr.nextFree = dbJ.store.hdr.nextFree ∧ rK.hdr.lastKey = dbJ.store.hdr.lastKey ∧
        rK.hdr.nextLSN ≤ dbJ.store.hdr.nextLSN ∧ dbJ.store.hdr.lastKey = db.store.hdr.lastKey + j ∧
        ((logsJ = logs.take k ∧ ptR = ptJ) ∨
         (logsJ = logs.take (k + 1) ∧ k + 1 ≤ logs.length ∧ PtRestamp ptR ptJ)) ∧
        (logs.length = rows.length → j = min k rows.length ∧ logsJ = logs.take k ∧ ptR = ptJ) := by
  obtain ⟨st, newRows, hf', hcond, hm⟩ := specInsert_inv hspec
  obtain rfl := Option.some.inj ((h.find_mem ht hsch).2.symm.trans hf')
  have pre := fun {j} => insert_rows_replayed db h hb hf e2 ht hsch hvalid hcond hm hrun (j := j)
  obtain ⟨sC, _, _, logs, _, hWC, _, hEC, _⟩ := pre (Nat.le_refl rows.length)
  rw [List.take_length] at hWC hEC
  refine ⟨_, _, hEC, rfl, fun k => ?_⟩
  -- the cut: `j` whole rows, and when it falls inside the records `l1` of row `j`, `k'` of them
  obtain ⟨j, lJ, sJ, hj, hW, hcut⟩ := rowsM_cut hWC k
  obtain ⟨sJ', ptJ, tJ, lJ', rJ, hW', p1, p3, habsJ, p4, htailJ, hreJ, hbJ, hfJ, a2⟩ := pre hj
  obtain ⟨rfl, rfl⟩ := SRes.ok.inj (hW.symm.trans hW')
  rcases hcut with hcutk | ⟨hjlt, l1, l2, s1, k', hop, hW1, hlogs, hk, hk'0, hk'l⟩
  · -- a row boundary
    refine ⟨j, _, _, _, ptJ, ptJ, tJ, _, rJ, hj, p1, valsOf_idRows .., p3, rfl, habsJ, by rw [hcutk]; exact hreJ,
      ⟨hbJ.redo, habsJ.tabs⟩, habsJ.cat.same_pages_tables hbJ.redo, hbJ.nf, a2, hbJ.lsn, p4, .inl ⟨hcutk.symm, rfl⟩,
      fun hno => ?_⟩
    have := congrArg List.length hcutk
    rw [List.length_take, rowsM_insert_take_length hWC hno hj hW, hno] at this
    exact ⟨this.symm, hcutk.symm, rfl⟩
  · -- inside the records of row `j`: the row is a step from the stores the whole rows left
    rw [List.drop_eq_getElem_cons hjlt] at htailJ
    obtain ⟨vs, hrow, _⟩ := mapM_some_getElem? hm (List.getElem?_eq_getElem hjlt)
    have hnames := checkColumns_of_namesOK (absTable table schema t) cols (h.tabs.names_nodup ht hsch)
      (hcond.resolve_left (List.ne_nil_of_length_pos (Nat.zero_lt_of_lt hjlt)))
    have htJ : (table, tJ) ∈ setTable tbls table tJ := mem_setTable_self tJ ht
    obtain ⟨hlen0, buf, henc, hsz0, _⟩ := (specRowOf_some_iff _ cols _ vs).mp hrow
    obtain ⟨_, hIt, _, _, hkt⟩ := habsJ.cat.tree tJ (Cat.tb_mem htJ)
    obtain ⟨⟨t1, nf1⟩, hins⟩ := insertAppend_fresh tJ sJ.hdr.nextFree (sJ.hdr.lastKey + 1) sJ.hdr.nextLSN buf hIt
      (fun a ha => Nat.lt_succ_of_le (hkt a ha)) hsz0
    obtain ⟨hd1, hl1, hbig1, _⟩ := htailJ buf t1 nf1 henc hins
    obtain ⟨ptF, hc', st⟩ := RowStep.of_insert habsJ.cat htJ hsch hlen0 hnames henc hsz0 hins hd1 hl1 hbig1 hop
    -- more than one record: the INSERT record of a row that moved the root, without its catalog record
    obtain ⟨_, _, _, _, _, hcase⟩ := st.replay hc' hbJ hfJ
    rcases hcase with hl1' | ⟨hl2, r1, ptM, hrep1, hc1, hrs, b1, b2, b3⟩
    · omega
    obtain rfl : k' = 1 := by omega
    subst hk
    rw [setTable_setTable] at hc' hc1
    -- the live side: `j + 1` rows
    obtain ⟨s1', _, t1', l1', _, hW1', q1, q3, habs1, q4, _⟩ := pre hjlt
    obtain ⟨rfl, rfl⟩ := SRes.ok.inj (hW1.symm.trans hW1')
    obtain rfl : t1' = t1 := habs1.cat.tree_unique hc' (mem_setTable_self _ ht) (mem_setTable_self _ ht)
    refine ⟨j + 1, _, _, _, ptF, ptM, _, _, r1, hjlt, q1, valsOf_idRows .., q3, rfl, ⟨hc', habs1.tabs⟩, ?_,
      ⟨hc1, habs1.tabs⟩, Cat.same_pages_tables hc' hc1, b1, b2, b3, q4, .inr ⟨?_, ?_, hrs⟩, fun hno => ?_⟩
    · rw [hlogs, List.append_assoc, List.take_length_add_append, List.take_append_of_le_length (by omega),
        replayAll_append hreJ]
      exact hrep1
    · rw [hlogs, List.take_left' (by rw [List.length_append, hl2])]
    · rw [hlogs, List.length_append, List.length_append, hl2]; omega
    · -- as many records as rows: this row logged one
      have h1 := rowsM_insert_take_length hWC hno hjlt hW1
      rw [List.length_append, hl2, rowsM_insert_take_length hWC hno hj hW] at h1
      omega

end Mkdb.Store
end

section
set_option autoImplicit false
namespace Mkdb.Store
open Mkdb.Page Mkdb.Tuple Mkdb.Generated Mkdb.Tree

/-- the rows of a spec table after the first `n` selected rows were removed (the local `goDel` of
`Spec.rowPrefixStates`, on rows instead of values) -/
def deleteFirst : Nat → List (Spec.SRow × Bool) → List Spec.SRow
  | _, [] => []
  | n, (r, s) :: rest =>
    if s && decide (n > 0) then deleteFirst (n - 1) rest else r :: deleteFirst n rest

theorem rows_deleteFirst : ∀ (rows : List (Nat × List Val)) (sel : List Bool) (n : Nat),
    sel.length = rows.length → (rows.map (·.1)).Nodup →
    (rows.filter fun r => !(((selRows rows sel).take n).map (·.1)).contains r.1).map mkRow =
      deleteFirst n ((rows.map mkRow).zip sel)
  | [], _, _, _, _ => by simp [deleteFirst]
  | _ :: _, [], _, hl, _ => by simp at hl
  | r :: rows, b :: sel, n, hl, hnd => by
    simp only [List.map_cons, List.nodup_cons] at hnd
    have hl' : sel.length = rows.length := by simpa using hl
    rw [selRows_cons, List.map_cons, List.zip_cons_cons]
    cases b with
    | false =>
      have hnotK : (((selRows rows sel).take n).map (·.1)).contains r.1 = false := by
        apply Bool.eq_false_iff.mpr
        intro hc
        rw [List.contains_iff_mem] at hc
        exact hnd.1 (selRows_keys_sub rows sel _ (((List.take_sublist n _).map _).subset hc))
      simp only [Bool.false_eq_true, if_false, List.filter_cons, hnotK, Bool.not_false, if_true, List.map_cons,
        deleteFirst, Bool.false_and]
      rw [rows_deleteFirst rows sel n hl' hnd.2]
    | true =>
      cases n with
      | zero =>
        simp only [if_true, List.take_zero, List.map_nil, List.contains_nil, Bool.not_false, List.filter_cons,
          List.map_cons, deleteFirst, Nat.lt_irrefl, decide_false, Bool.and_false, Bool.false_eq_true, if_false]
        have ih := rows_deleteFirst rows sel 0 hl' hnd.2
        simp only [List.take_zero, List.map_nil, List.contains_nil, Bool.not_false] at ih
        rw [ih]
      | succ n' =>
        have hcongr : (rows.filter fun x => !((r.1 :: ((selRows rows sel).take n').map (·.1)).contains x.1)) =
            rows.filter fun x => !((((selRows rows sel).take n').map (·.1)).contains x.1) := by
          apply List.filter_congr
          intro x hx
          have hne : (x.1 == r.1) = false := by
            apply beq_false_of_ne
            intro he
            exact hnd.1 (he ▸ List.mem_map.mpr ⟨x, hx, rfl⟩)
          simp only [List.contains_cons, hne, Bool.false_or]
        simp only [if_true, List.take_succ_cons, List.map_cons, List.filter_cons, List.contains_cons, beq_self_eq_true,
          Bool.true_or, Bool.not_true, Bool.false_eq_true, if_false, deleteFirst, Nat.zero_lt_succ, decide_true,
          Bool.and_self, Nat.add_one_sub_one]
        have ih := rows_deleteFirst rows sel n' hl' hnd.2
        rw [← ih]
        simp only [List.contains_cons] at hcongr
        rw [hcongr]

/-- **DELETE of the engine, its log cut anywhere and replayed.**  The database `db` abstracts to the
plain-model database `sdb`; `r` is behind `db.store` (`Behind`) with the same row-id counter.  The plain model
accepts the statement (table `st`, selection `sel`).
Then the engine runs it; it logs one record per selected row; and for EVERY `k`, with
`j = min k logs.length`: replaying the first `k` records of `logs` on `r` ends without error in a store
`rK`, and there is a live run of `j` row statements from `db.store` to a store `sK` - the store of the
engine's loop after the first `j` selected rows - whose log is exactly `logs.take k`, such that `sK`
abstracts to `sdb` with the first `j` selected rows of the table removed and `rK` is behind `sK` (the same
page table and the same trees, page for page: `Cat.same_pages`), with its row-id counter; frontier and row-id
counter are those before the statement. -/
theorem evalDelete_cut (db : Engine.DB) (r : Store) (pt sch : Levels) (tbls : List (Bytes × Levels))
    (sdb sdb' : Spec.SDB) (h : Abs db.store pt sch tbls sdb) (hb : Behind sch db.store r pt tbls)
    (hf : FreshM db.store tbls) (e2 : r.hdr.lastKey = db.store.hdr.lastKey)
    (table : Bytes) (w : Option Sql.Cond) (hspec : Spec.specDelete sdb table w = some sdb') :
    ∃ n dbC logs st sel, Engine.evalDelete db table w = .ok n dbC ∧ dbC.wal = db.wal ++ logs ∧
      Spec.findTable sdb table = some st ∧ Spec.selects st w = some sel ∧
      logs.length = (sel.filter id).length ∧
      ∀ k, ∃ sK ptK tK rK stmts,
        LiveRunM sch db.store tbls stmts sK (setTable tbls table tK) (logs.take k) ∧
        stmts.length = min k logs.length ∧
        Engine.replayAll (logs.take k) r = (rK, none, false) ∧
        Abs sK ptK sch (setTable tbls table tK)
          (sdb.map (updRows table fun rs => deleteFirst (min k logs.length) (rs.zip sel))) ∧
        Behind sch sK rK ptK (setTable tbls table tK) ∧ rK.hdr.lastKey = sK.hdr.lastKey ∧
        sK.hdr.nextFree = db.store.hdr.nextFree ∧ sK.hdr.lastKey = db.store.hdr.lastKey := by
  obtain ⟨st, sel, hfind, hsel⟩ := specDelete_inv hspec
  obtain ⟨t, schema, ht, hsch, hdec, rfl⟩ := h.find hfind
  obtain ⟨s1, efetch, hs1, hc1⟩ := fetchTable_cat h.cat table t ht schema hsch hdec
  obtain ⟨efilter, hsl⟩ := filterIds_selects table schema (rowsOf schema (live t)) w sel hsel
  have hnd := rowsOf_keys_nodup h.cat ht schema hdec
  -- the first `j` selected rows, for every `j`: the same program on fewer rows
  have run := fun j => delete_rows table pt sch ((selRows (rowsOf schema (live t)) sel).take j) s1 tbls t hc1 ht
    (hnd.sublist (((List.take_sublist j _).trans (selRows_sublist _ sel)).map _))
    (fun q hq => mem_rowsOf ((selRows_sublist _ sel).subset ((List.take_sublist j _).subset hq)))
  -- the whole statement
  obtain ⟨sC, _, logs, hWC, _, _, _, hlenC, _, _⟩ := run (selRows (rowsOf schema (live t)) sel).length
  rw [List.take_length] at hWC hlenC
  refine ⟨(selRows (rowsOf schema (live t)) sel).length, { store := sC, wal := db.wal ++ logs }, logs, _,
    sel, ?_, rfl, hfind, hsel, by rw [hlenC, selRows_length _ _ hsl], fun k => ?_⟩
  · rw [evalDelete_eq]
    simp only [Engine.fetchForExec, Engine.liftS, efetch, efilter, hWC]
  -- the log of the first `min k n` rows is the first `k` records
  obtain ⟨sK, tK, lJ, hWJ, hrunJ, hcJ, hlJ, hlenJ, hlkJ, hnfJ⟩ := run (min k logs.length)
  have hjlen : ((selRows (rowsOf schema (live t)) sel).take (min k logs.length)).length = min k logs.length :=
    List.length_take_of_le (hlenC ▸ Nat.min_le_right _ _)
  obtain rfl : logs.take k = lJ := take_eq_of_prefix (rowsM_prefix hWC hWJ) (hlenJ.trans hjlen)
  obtain ⟨ptK, rK, hre, hbK, _, hk, _⟩ := replay_run sch (.same hs1 hrunJ) hb hf
  have hdec' : ∀ c ∈ live tK, ∃ m, decodeTuple schema c.val [] = .ok m := by
    intro c hc
    rw [hlJ] at hc
    exact hdec c (List.mem_filter.mp hc).1
  have htabs := h.tabs.setTable h.cat.tnames ht schema hsch tK hdec'
    (fun rs => deleteFirst (min k logs.length) (rs.zip sel))
    (by
      simp only [absTable]
      rw [hlJ, rowsOf_filter schema
        (fun key => !(((selRows (rowsOf schema (live t)) sel).take (min k logs.length)).map (·.1)).contains key)]
      exact rows_deleteFirst _ sel _ hsl hnd)
  refine ⟨sK, ptK, tK, rK, delStmts table ((selRows (rowsOf schema (live t)) sel).take (min k logs.length)),
    .same hs1 hrunJ, ?_, hre, ⟨hbK.live, htabs⟩, hbK, hk e2, by rw [hnfJ, hs1.2], by rw [hlkJ, hs1.2]⟩
  simp only [delStmts, List.length_map]; exact hjlen

end Mkdb.Store
end

section
set_option autoImplicit false
namespace Mkdb.Store
open Mkdb.Page Mkdb.Tuple Mkdb.Generated Mkdb.Tree

/-- **UPDATE of the engine, its log cut anywhere and replayed.**  As `evalDelete_cut`: the engine logs
one record per selected row, and for EVERY `k`, with `j = min k logs.length`, replaying the first `k`
records on `r` ends without error in a store `rK` that is behind the store `sK` of the engine's loop after
the first `j` selected rows (reached by a live run of `j` row statements with log `logs.take k`), which
abstracts to `sdb` with the first `j` selected rows of the table rewritten, no other row touched.
(`hsetAll`: the SET columns pass the statement's check - what `evalUpdate_ok_set` reads off a run of
the engine that succeeded.) -/
theorem evalUpdate_cut (db : Engine.DB) (r : Store) (pt sch : Levels) (tbls : List (Bytes × Levels))
    (sdb sdb' : Spec.SDB) (h : Abs db.store pt sch tbls sdb) (hb : Behind sch db.store r pt tbls)
    (hf : FreshM db.store tbls) (e2 : r.hdr.lastKey = db.store.hdr.lastKey)
    (table : Bytes) (sets : List (Bytes × Sql.VExpr)) (w : Option Sql.Cond)
    (hvalid : ∀ p ∈ sets, ∀ l, p.2 = .lit l → ValidVal (Engine.litToVal l))
    (hsetAll : ∀ schema, schemaOf sch table = some schema →
      Engine.checkSetColumns (schema.map fun fd => (⟨[], fd.name.toUTF8.toList⟩ : Exec.Field)) []
        (sets.map (·.1)) = none)
    (hspec : Spec.specUpdate sdb table sets w = some sdb') :
    ∃ dbC logs st sel, Engine.evalUpdate db table sets w = .ok () dbC ∧ dbC.wal = db.wal ++ logs ∧
      Spec.findTable sdb table = some st ∧ Spec.selects st w = some sel ∧
      logs.length = (sel.filter id).length ∧
      ∀ k, ∃ sK ptK tK rK stmts,
        LiveRunM sch db.store tbls stmts sK (setTable tbls table tK) (logs.take k) ∧
        stmts.length = min k logs.length ∧
        Engine.replayAll (logs.take k) r = (rK, none, false) ∧
        Abs sK ptK sch (setTable tbls table tK)
          (sdb.map (updRows table fun rs => rewriteFirst st.cols sets (min k logs.length) (rs.zip sel))) ∧
        Behind sch sK rK ptK (setTable tbls table tK) ∧ rK.hdr.lastKey = sK.hdr.lastKey ∧
        sK.hdr.nextFree = db.store.hdr.nextFree ∧ sK.hdr.lastKey = db.store.hdr.lastKey := by
  obtain ⟨st, sel, rows', hfind, hnocol, hsel, hrows⟩ := specUpdate_inv hspec
  obtain ⟨t, schema, ht, hsch, hdec, rfl⟩ := h.find hfind
  have hset := hsetAll schema hsch
  obtain ⟨s1, efetch, hs1, hc1⟩ := fetchTable_cat h.cat table t ht schema hsch hdec
  obtain ⟨efilter, hsl⟩ := filterIds_selects table schema (rowsOf schema (live t)) w sel hsel
  -- the spec accepts: every selected row can be rewritten
  have hsv : selVals (absTable table schema t) sel = (selRows (rowsOf schema (live t)) sel).map (·.2) :=
    selVals_selRows _ sel
  have hassign : ∀ q ∈ selRows (rowsOf schema (live t)) sel, specAssign schema sets q.2 ≠ none := fun q hq =>
    specUpdate_selected_assign hrows q.2 (hsv ▸ List.mem_map.mpr ⟨q, hq, rfl⟩)
  -- the first `j` selected rows, for every `j`: the same program on fewer rows
  have run := fun j => update_rows table pt sch schema hsch sets _ _ rfl (checkColumns_of_checkSetColumns hset)
    ((selRows (rowsOf schema (live t)) sel).take j) s1 tbls t hc1 ht
    ((rowsOf_keys_nodup h.cat ht schema hdec).sublist (((List.take_sublist j _).trans (selRows_sublist _ sel)).map _))
    (fun q hq => have hq := (List.take_sublist j _).subset hq
      can_rewrite_of_assign ((selRows_sublist _ sel).subset hq) (hassign q hq))
  -- the whole statement
  obtain ⟨sC, _, logs, hWC, _, _, _, hlenC, _, _, _⟩ := run (selRows (rowsOf schema (live t)) sel).length
  rw [List.take_length] at hWC hlenC
  refine ⟨{ store := sC, wal := db.wal ++ logs }, logs, _, sel, ?_, rfl, hfind,
    hsel, by rw [hlenC, selRows_length _ _ hsl], fun k => ?_⟩
  · rw [evalUpdate_eq db table sets w hnocol, Engine.fetchForExec, Engine.liftS_ok efetch]
    simp only [hset, efilter]
    exact Engine.liftS_ok (db := { db with store := s1 }) hWC
  -- the log of the first `min k n` rows is the first `k` records
  obtain ⟨sK, tK, lJ, hWJ, hrunJ, hcJ, hlJ, hlenJ, hlkJ, hnfJ, _⟩ := run (min k logs.length)
  have hjlen : ((selRows (rowsOf schema (live t)) sel).take (min k logs.length)).length = min k logs.length :=
    List.length_take_of_le (hlenC ▸ Nat.min_le_right _ _)
  obtain rfl : logs.take k = lJ := take_eq_of_prefix (rowsM_prefix hWC hWJ) (hlenJ.trans hjlen)
  obtain ⟨ptK, rK, hre, hbK, _, hk, _⟩ := replay_run sch (.same hs1 hrunJ) hb hf
  -- the abstraction: the first `j` selected rows rewritten
  obtain ⟨hd', hrw⟩ := rows_rewriteFirst schema sets (setMap_valid sets hvalid) (live t) sel
    (min k logs.length) hdec (sel_length hdec hsl) (live_keys_nodup (h.cat.tree t (Cat.tb_mem ht)).2.1.asc)
    (fun q hq => hassign q ((List.take_sublist _ _).subset hq))
  rw [← hlJ] at hd' hrw
  have htabs := h.tabs.setTable h.cat.tnames ht schema hsch tK hd'
    (fun rs => rewriteFirst schema sets (min k logs.length) (rs.zip sel))
    (by simp only [absTable]; exact hrw)
  refine ⟨sK, ptK, tK, rK, _, .same hs1 hrunJ, ?_, hre, ⟨hbK.live, htabs⟩, hbK, hk e2,
    by rw [hnfJ, hs1.2], by rw [hlkJ, hs1.2]⟩
  rw [List.length_map]; exact hjlen

end Mkdb.Store
end
