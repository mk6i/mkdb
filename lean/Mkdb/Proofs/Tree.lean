import Mkdb.Proofs.TreeInsert
import Mkdb.Proofs.TreeSplit
import Mkdb.Proofs.TreeUpdate
/-!
The levels model of the B+ tree: one step of a history (`TOp`, `applyOp`: a refused insert, an insert,
or a cell change `updLeaves`; `applyOp_cases`), what every step keeps, the invariant along a run of
inserts (`insertMany_inv`), and non-vacuity.
-/
set_option autoImplicit false
namespace Mkdb.Tree
open Mkdb.Page Mkdb.Generated

/-- a tree operation as the engine and log replay issue them -/
inductive TOp where
  | ins (key lsn : Nat) (v : Bytes)
  | upd (key lsn : Nat) (v : Bytes)
  | del (key lsn : Nat)

def applyOp (s : Levels × Nat) : TOp → Levels × Nat
  | .ins k lsn v => match insertAppend s.1 k lsn v s.2 with
    | .ok r => r
    | .error _ => s
  | .upd k lsn v => (setVal s.1 k lsn v, s.2)
  | .del k lsn => (setDeleted s.1 k lsn, s.2)

def runOps (s : Levels × Nat) (ops : List TOp) : Levels × Nat := ops.foldl applyOp s

/-- What a step can be: nothing (a refused insert), a successful `insertAppend`, or a change of the cell
`key` by a key-preserving function.  Facts about steps that do not depend on the inserted or written
value are read off the three cases. -/
theorem applyOp_cases {motive : Levels × Nat → Prop} (s : Levels × Nat) (op : TOp)
    (same : motive s)
    (ins : ∀ k lsn v r, insertAppend s.1 k lsn v s.2 = .ok r → motive r)
    (upd : ∀ (f : LeafCell → LeafCell) key lsn, (∀ c, (f c).key = c.key) →
      motive (updLeaves f key lsn s.1, s.2)) :
    motive (applyOp s op) := by
  cases op with
  | ins k lsn v =>
    simp only [applyOp]
    cases hr : insertAppend s.1 k lsn v s.2 with
    | ok r => exact ins k lsn v r hr
    | error e => exact same
  | upd k lsn v =>
    simp only [applyOp, setVal_eq]
    exact upd _ k lsn fun _ => rfl
  | del k lsn =>
    simp only [applyOp, setDeleted_eq]
    exact upd _ k lsn fun _ => rfl

theorem applyOp_inv (s : Levels × Nat) (op : TOp) (h : Inv s.1 s.2) : Inv (applyOp s op).1 (applyOp s op).2 :=
  applyOp_cases (motive := fun r => Inv r.1 r.2) s op h
    (fun k lsn v r hr => insertAppend_inv s.1 r.1 k lsn s.2 r.2 v h hr)
    (fun f key lsn hf => updLeaves_inv f key lsn hf s.1 s.2 h)

theorem runOps_inv (ops : List TOp) : ∀ (s : Levels × Nat), Inv s.1 s.2 → Inv (runOps s ops).1 (runOps s ops).2 := by
  induction ops with
  | nil => intro s hs; exact hs
  | cons op rest ih => intro s hs; exact ih _ (applyOp_inv s op hs)

theorem applyOp_nf_mono (s : Levels × Nat) (op : TOp) : s.2 ≤ (applyOp s op).2 :=
  applyOp_cases (motive := fun r => s.2 ≤ r.2) s op (Nat.le_refl _)
    (fun k lsn v r hr => insertAppend_nextFree s.1 r.1 k lsn s.2 r.2 v hr) (fun _ _ _ _ => Nat.le_refl _)

theorem applyOp_offs_new (s : Levels × Nat) (op : TOp) : ∀ o ∈ offs (applyOp s op).1, o ∈ offs s.1 ∨ s.2 ≤ o :=
  applyOp_cases (motive := fun r => ∀ o ∈ offs r.1, o ∈ offs s.1 ∨ s.2 ≤ o) s op (fun _ ho => .inl ho)
    (fun k lsn v r hr o ho => (insertAppend_offs_new s.1 r.1 k lsn s.2 r.2 v hr o ho).imp id And.left)
    (fun f key lsn _ _ ho => .inl (offs_updLeaves f key lsn s.1 ▸ ho))

theorem applyOp_pages_new (s : Levels × Nat) (op : TOp) :
    ∀ x ∈ flatten (applyOp s op).1, x ∈ flatten s.1 ∨ x.2.2 = true :=
  applyOp_cases (motive := fun r => ∀ x ∈ flatten r.1, x ∈ flatten s.1 ∨ x.2.2 = true) s op (fun _ hx => .inl hx)
    (fun k lsn v r hr x hx => (insertAppend_pages_new s.1 r.1 k lsn s.2 r.2 v hr x hx).imp_right (·.2))
    (fun f key lsn _ x hx => (updLeaves_pages_new f key lsn s.1 x hx).imp_right (·.2))

theorem cells_applyOp (s : Levels × Nat) (op : TOp) :
    cells (applyOp s op).1 =
      match op with
      | .ins k lsn v =>
        (match insertAppend s.1 k lsn v s.2 with
          | .ok _ => cells s.1 ++ [⟨k, false, v⟩]
          | .error _ => cells s.1)
      | .upd k _ v => (cells s.1).map (fun c => if c.key == k then { c with val := v } else c)
      | .del k _ => (cells s.1).map (fun c => if c.key == k then { c with deleted := true } else c) := by
  cases op with
  | ins k lsn v =>
    simp only [applyOp]
    cases h : insertAppend s.1 k lsn v s.2 with
    | ok r => exact cells_insertAppend s.1 r.1 k lsn s.2 r.2 v h
    | error e => rfl
  | upd k lsn v => exact cells_setVal s.1 k lsn v
  | del k lsn => exact cells_setDeleted s.1 k lsn

def insertMany (ks : List Nat) (t : Levels) (nf : Nat) : Except InsErr (Levels × Nat) :=
  ks.foldlM (fun (s : Levels × Nat) k => insertAppend s.1 k 0 [] s.2) (t, nf)

theorem insertMany_inv (ks : List Nat) : ∀ (t t' : Levels) (nf nf' : Nat), Inv t nf →
    insertMany ks t nf = .ok (t', nf') → Inv t' nf' ∧ nf ≤ nf' ∧
      cells t' = cells t ++ ks.map (fun k => ⟨k, false, []⟩) := by
  induction ks with
  | nil =>
    intro t t' nf nf' hinv h
    simp only [insertMany, List.foldlM_nil, pure, Except.pure, Except.ok.injEq, Prod.mk.injEq] at h
    obtain ⟨rfl, rfl⟩ := h
    exact ⟨hinv, Nat.le_refl _, by simp⟩
  | cons k ks ih =>
    intro t t' nf nf' hinv h
    simp only [insertMany, List.foldlM_cons, bind, Except.bind] at h
    split at h
    · cases h
    · rename_i s hs
      obtain ⟨t1, nf1⟩ := s
      have h1 := insertAppend_inv t t1 k 0 nf nf1 [] hinv hs
      have h2 := insertAppend_nextFree t t1 k 0 nf nf1 [] hs
      have h3 := cells_insertAppend t t1 k 0 nf nf1 [] hs
      obtain ⟨i1, i2, i3⟩ := ih t1 t' nf1 nf' h1 h
      exact ⟨i1, by omega, by rw [i3, h3]; simp⟩

/-- Non-vacuity: inserting the keys 1..20 into the empty tree succeeds, yields 20 cells in
key order, and forces leaf splits and a root (3 leaves of 4 cells and one of 8 under one internal node). -/
example : (insertMany (List.range' 1 20) (emptyTree 4096) 8192).toOption.map
    (fun r => ((cells r.1).map (·.key), r.1.leaves.map (·.1.cells.length), r.1.inner.map (·.length), r.2)) =
    some (List.range' 1 20, [4, 4, 4, 8], [1], 8192 + 4 * 4096) := by decide +kernel

/-- …and the resulting tree (4 leaves, one internal level) satisfies the invariant — by the
theorems, not by evaluation. -/
example : ∃ t nf, insertMany (List.range' 1 20) (emptyTree 4096) 8192 = .ok (t, nf) ∧ Inv t nf ∧
    t.leaves.length = 4 ∧ t.inner.length = 1 ∧ (cells t).length = 20 := by
  have hs : (insertMany (List.range' 1 20) (emptyTree 4096) 8192).toOption.map
      (fun r => (r.1.leaves.length, r.1.inner.length)) = some (4, 1) := by decide +kernel
  cases h : insertMany (List.range' 1 20) (emptyTree 4096) 8192 with
  | error e => rw [h] at hs; simp [Except.toOption] at hs
  | ok r =>
    obtain ⟨t, nf⟩ := r
    rw [h] at hs
    simp only [Except.toOption, Option.map_some, Option.some.injEq, Prod.mk.injEq] at hs
    obtain ⟨i1, _, i3⟩ := insertMany_inv _ _ _ _ _ (emptyTree_inv 4096 8192 (by decide)) h
    exact ⟨t, nf, rfl, i1, hs.1, hs.2, by rw [i3]; simp [cells, emptyTree]⟩

end Mkdb.Tree
