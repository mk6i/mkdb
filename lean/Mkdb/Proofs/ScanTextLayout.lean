import Mkdb.Proofs.ScanTextItems
import Mkdb.Proofs.ScanTextTokens
/-!
The scanner on text in standard form: a token list written as text scans back; the concrete texts of the examples.
-/

section
/-!
## The token list written as text scans back

A token list is written as text by putting the gap `gap i` before the `i`-th token and `gap n` at the
end (`renderText`).  For the layouts in which no token runs into the next (`layoutOK`) the scanner gives
the tokens back (`scanSQL_renderText`), keyword and punctuation tokens with the spelling that was typed
as their text (`scanned`).
-/
namespace Mkdb.Scan
open Mkdb.Generated

def itemsOf (gap : Nat → Gap) (cs : Nat → List Bool) : Nat → List Token → List (Gap × Piece)
  | _, [] => []
  | i, t :: ts => (gap i, pieceOf (cs i) t) :: itemsOf gap cs (i + 1) ts

/-- The token list `toks` as text: `gap 0`, token 0, `gap 1`, token 1, ..., token `n-1`, `gap n`;
the keyword of token `i` is written in the letter case `cs i` (`true` = lower case, letter by letter;
upper case where the list has run out). -/
def renderText (gap : Nat → Gap) (cs : Nat → List Bool) (toks : List Token) : Input :=
  renderItems (itemsOf gap cs 0 toks) (gap toks.length)

/-- what the scanner reports for the token list: `scannedTok` of each token with its case choice -/
def scanned (cs : Nat → List Bool) : Nat → List Token → List Token
  | _, [] => []
  | i, t :: ts => scannedTok (cs i) t :: scanned cs (i + 1) ts

theorem itemsOf_map_tok (gap : Nat → Gap) (cs : Nat → List Bool) (toks : List Token) :
    ∀ i, (itemsOf gap cs i toks).map (·.2.tok) = scanned cs i toks := by
  induction toks with
  | nil => intro i; rfl
  | cons t ts ih => intro i; simp only [itemsOf, List.map_cons, scanned, scannedTok, ih]

/-- The piece `p` may be followed by the gap `g` and then the piece `next` (or the end of the text):
`g` is not empty, or the first rune of `next` lets `p` end (`Piece.stop`).  Examples of tokens that may
touch: a word or number and punctuation (`COUNT(*)`, `t.a`, `a,b`, `a=1`, `'x';`); not two words, a number
and a word starting with `e p E P` (or `x o b` after `0`), a number and `.`, `.` and a number, or `< > !`
and `=`. -/
def sepOK (p : Piece) (g : Gap) (next : Option Piece) : Bool :=
  !g.isEmpty || match next with
    | none => true
    | some q => HeadP p.stop q.runes

/-- The layout is admissible for the tokens, from index `i`: every gap is well formed and every two
neighbouring tokens are separated (`sepOK`). -/
def layoutOK (gap : Nat → Gap) (cs : Nat → List Bool) : Nat → List Token → Bool
  | i, [] => Gap.ok (gap i)
  | i, t :: ts =>
    Gap.ok (gap i) && sepOK (pieceOf (cs i) t) (gap (i + 1)) (ts.head?.map (pieceOf (cs (i + 1)))) &&
      layoutOK gap cs (i + 1) ts

/-- behind a piece: a gap that is not empty lets every piece end; an empty one leaves it to what follows -/
theorem Piece.stop_sep (p : Piece) (g : Gap) (hg : Gap.ok g = true) (Y : Input)
    (h : g ≠ [] ∨ HeadP p.stop Y = true) : HeadP p.stop (Gap.runes g ++ Y) = true := by
  by_cases hne : g = []
  · subst hne
    exact h.resolve_left (fun h => h rfl)
  · exact Piece.stop_gap p g hg hne Y

theorem itemsOK_of_layoutOK (gap : Nat → Gap) (cs : Nat → List Bool) (toks : List Token)
    (htoks : ∀ t ∈ toks, TokOK t = true) :
    ∀ i, layoutOK gap cs i toks = true → ItemsOK (itemsOf gap cs i toks) (gap (i + toks.length)) = true := by
  induction toks with
  | nil => intro i h; simpa [layoutOK, itemsOf, ItemsOK] using h
  | cons t ts ih =>
    intro i h
    simp only [layoutOK, Bool.and_eq_true] at h
    obtain ⟨⟨hg, hsep⟩, hrest⟩ := h
    have ht := htoks t (List.mem_cons_self ..)
    have hts : ∀ t' ∈ ts, TokOK t' = true := fun t' h' => htoks t' (List.mem_cons_of_mem _ h')
    have ih' := ih hts (i + 1) hrest
    have hidx : i + (t :: ts).length = i + 1 + ts.length := by simp only [List.length_cons]; omega
    rw [hidx]
    simp only [itemsOf, ItemsOK, hg, pieceOf_ok _ t ht, ih', Bool.true_and, Bool.and_true]
    -- the piece can end where it ends: behind it stands the gap `gap (i + 1)`, then the next piece or nothing
    simp only [sepOK, Bool.or_eq_true, Bool.not_eq_true', List.isEmpty_eq_false_iff] at hsep
    cases ts with
    | nil =>
      have hg1 : Gap.ok (gap (i + 1)) = true := by simpa [layoutOK] using hrest
      have := Piece.stop_sep (pieceOf (cs i) t) (gap (i + 1)) hg1 [] (hsep.imp_right fun _ => rfl)
      simpa [itemsOf, renderItems] using this
    | cons t' ts' =>
      simp only [layoutOK, Bool.and_eq_true] at hrest
      obtain ⟨r, X, hr, _⟩ := Piece.runes_head _ (pieceOf_ok (cs (i + 1)) t' (hts t' (List.mem_cons_self ..)))
      simp only [List.head?_cons, Option.map_some, hr, HeadP_cons] at hsep
      simp only [itemsOf, renderItems, hr, List.cons_append]
      exact Piece.stop_sep _ _ hrest.1.1 _ hsep

/-- **Round trip of the scanner** on a token list written as text (see `C10_scan_roundtrip`). -/
theorem scanSQL_renderText (gap : Nat → Gap) (cs : Nat → List Bool) (toks : List Token)
    (htoks : ∀ t ∈ toks, TokOK t = true) (hlay : layoutOK gap cs 0 toks = true) :
    scanSQL (renderText gap cs toks) = .ok (scanned cs 0 toks) := by
  have hok := itemsOK_of_layoutOK gap cs toks htoks 0 hlay
  rw [Nat.zero_add] at hok
  rw [renderText, scanSQL_items _ _ hok, itemsOf_map_tok]

theorem layoutOK_of_spaced (gap : Nat → Gap) (cs : Nat → List Bool) (toks : List Token)
    (hgap : ∀ i, Gap.ok (gap i) = true) :
    ∀ i, (∀ j, i < j → j < i + toks.length → gap j ≠ []) → layoutOK gap cs i toks = true := by
  induction toks with
  | nil => intro i _; exact hgap i
  | cons t ts ih =>
    intro i h
    have ih' := ih (i + 1) (fun j h1 h2 => h j (by omega) (by simp only [List.length_cons]; omega))
    simp only [layoutOK, hgap i, ih', Bool.true_and, Bool.and_true, sepOK]
    cases ts with
    | nil => simp
    | cons t' ts' =>
      have := h (i + 1) (by omega) (by simp only [List.length_cons]; omega)
      have : (gap (i + 1)).isEmpty = false := by
        cases hq : gap (i + 1) with
        | nil => exact absurd hq this
        | cons a b => rfl
      simp [this]

end Mkdb.Scan
end

section
/-!
## The concrete texts of the examples in `Props/C10Text.lean`

They are evaluated as the head of `Proofs/ScanTextKeywords` says (`scanSQL_eq`, `strCodes_ofList`).
-/

namespace Mkdb.Scan.TextEx
open Mkdb.Scan Mkdb.Generated

def asciiText (s : String) : Input := (strCodes s).map asciiRune

theorem asciiText_ofList (cs : List Char) : asciiText (String.ofList cs) = cs.map fun c => asciiRune c.toNat := by
  rw [asciiText, strCodes_ofList, List.map_map]
  rfl

def sp : Gap := [.ws 32]

/-- the tokens of `sElEcT a , COUNT(*) from t\n WHERE a <= 10 AND b != 'x y' GROUP BY a ;` (keyword text empty) -/
def exToks : List Token := [⟨t_SELECT, []⟩, ⟨t_IDENT, [97]⟩, ⟨t_COMMA, []⟩, ⟨t_COUNT, []⟩, ⟨t_LPAREN, []⟩,
  ⟨t_ASTRSK, []⟩, ⟨t_RPAREN, []⟩, ⟨t_FROM, []⟩, ⟨t_IDENT, [116]⟩, ⟨t_WHERE, []⟩, ⟨t_IDENT, [97]⟩, ⟨t_LTE, []⟩,
  ⟨t_INT, [49, 48]⟩, ⟨t_AND, []⟩, ⟨t_IDENT, [98]⟩, ⟨t_NEQ, []⟩, ⟨t_STR, [120, 32, 121]⟩, ⟨t_GROUP, []⟩, ⟨t_BY, []⟩,
  ⟨t_IDENT, [97]⟩, ⟨t_SEMICOLON, []⟩]
/-- its layout: single blanks, a line break, `COUNT(*)` written without blanks -/
def exGap (i : Nat) : Gap :=
  [[], sp, sp, sp, [], [], [], sp, sp, [.ws 10, .ws 32], sp, sp, sp, sp, sp, sp, sp, sp, sp, sp, sp, []].getD i []
/-- its keyword cases: `sElEcT`, `from`, the others upper case -/
def exCase (i : Nat) : List Bool :=
  if i == 0 then [true, false, true, false, true, false] else if i == 7 then [true, true, true, true] else []

theorem exToks_ok : (∀ t ∈ exToks, TokOK t = true) ∧ layoutOK exGap exCase 0 exToks = true := by
  unfold TokOK
  simp only [keywordOf_eq]
  decide +kernel

/-- Comments, tabs, CR LF, tokens that touch: `/* q */select\tt.a,b//x\r\nfrom t;\r\n`. -/
def exToks2 : List Token := [⟨t_SELECT, []⟩, ⟨t_IDENT, [116]⟩, ⟨t_DOT, []⟩, ⟨t_IDENT, [97]⟩, ⟨t_COMMA, []⟩,
  ⟨t_IDENT, [98]⟩, ⟨t_FROM, []⟩, ⟨t_IDENT, [116]⟩, ⟨t_SEMICOLON, []⟩]
def exGap2 (i : Nat) : Gap :=
  [[.block (asciiText " q ")], [.ws 9], [], [], [], [], [.line (asciiText "x\r")], sp, [], [.ws 13, .ws 10]].getD i []
def exCase2 (_ : Nat) : List Bool := [true, true, true, true, true, true]

theorem exToks2_ok : (∀ t ∈ exToks2, TokOK t = true) ∧ layoutOK exGap2 exCase2 0 exToks2 = true := by
  unfold TokOK
  simp only [keywordOf_eq]
  decide +kernel

end Mkdb.Scan.TextEx
end
