import Mkdb.Proofs.BSearch
import Mkdb.Proofs.HeapView
/-!
Refinement of the heap insert: what each piece of `insertLeaf` / `insertInternal` (`leafSplit`,
`leafSplitUp`, `afterChild`, `intSplitUp`) does to the view of the store; a call that ends in an error has
only read pages (`ErrAt`).  The pieces are cut out of the model text in `OpText` (`insertLeaf_eq`,
`insertInternal_eq'`, `insertKeyHeap_eq`; `leafWrite`, `callOn`, `childOf`); `bind_ok` / `bind_err` are of `SMonad`.

Each piece is a chain of primitives, each of which updates the view at one offset (`upd`, the `*_spec` lemmas of
`HeapView`).  The view at the end is brought to the stated one by two facts: updates at distinct offsets commute
(`upd_comm`) and of two updates at one offset the later one stays (`upd_upd_same`) - the distinctness hypotheses
`h1 h2 h3` are there for the first; what is left is the equality of the nodes, by `rfl`.
-/

section
set_option autoImplicit false
namespace Mkdb.Store
open Mkdb.Page Mkdb.Generated Mkdb.Tree

/-! ### the pieces on the view -/

theorem pageSize_pos : 0 < c_pageSize := by decide

theorem leafSplitUp_none (s : Store) (curOff newOff newKey lsn root : Nat) (nL nR : Node) (dL dR : Bool)
    (hrL : Res s curOff) (hrR : Res s newOff)
    (hvL : view s curOff = some (nL, dL)) (hvR : view s newOff = some (nR, dR))
    (h1 : curOff ≠ newOff) (h2 : curOff ≠ s.hdr.nextFree) (h3 : newOff ≠ s.hdr.nextFree) :
    ∃ s', leafSplitUp none curOff newOff newKey lsn root s = .ok s.hdr.nextFree s' ∧
      view s' = upd (upd (upd (view s) newOff (setLSN nR lsn, true)) curOff (setLSN nL lsn, true))
        s.hdr.nextFree (.internal ⟨s.hdr.nextFree, lsn, newOff, [⟨newKey, curOff⟩]⟩, true) ∧
      s'.hdr.nextFree = s.hdr.nextFree + c_pageSize := by
  unfold leafSplitUp
  obtain ⟨s1, e1, v1, n1, r1⟩ := appendNode_spec s (.internal ⟨0, 0, newOff, [⟨newKey, curOff⟩]⟩) false
  simp only [bind_ok e1]
  obtain ⟨s2, e2, v2, n2, r2⟩ := markDirty_spec s1 newOff lsn nR dR
    (by rw [r1]; exact .inl hrR) (by rw [v1]; simp [upd, h3, hvR])
  simp only [bind_ok e2]
  obtain ⟨s3, e3, v3, n3, r3⟩ := markDirty_spec s2 curOff lsn nL dL
    (by rw [r2, r1]; exact .inl hrL) (by rw [v2, v1]; simp [upd, h1, h2, hvL])
  simp only [bind_ok e3]
  obtain ⟨s4, e4, v4, n4, r4⟩ := markDirty_spec s3 s.hdr.nextFree lsn
    (setOff (.internal ⟨0, 0, newOff, [⟨newKey, curOff⟩]⟩) s.hdr.nextFree) false
    (by rw [r3, r2, r1]; exact .inr rfl)
    (by rw [v3, v2, v1]; simp [upd, Ne.symm h2, Ne.symm h3])
  simp only [bind_ok e4]
  refine ⟨s4, rfl, ?_, ?_⟩
  · rw [v4, v3, v2, v1, upd_comm _ _ _ _ _ (Ne.symm h3), upd_comm _ _ _ _ _ (Ne.symm h2), upd_upd_same]
    rfl
  · rw [n4, n3, n2, n1]

theorem leafSplitUp_some (s : Store) (pOff curOff newOff newKey lsn root : Nat) (nL nR : Node) (dL dR dP : Bool)
    (pn : Internal) (last : ICell)
    (hrL : Res s curOff) (hrR : Res s newOff)
    (hvL : view s curOff = some (nL, dL)) (hvR : view s newOff = some (nR, dR))
    (hvP : view s pOff = some (.internal pn, dP)) (hpo : pn.off = pOff)
    (hlast : pn.cells.getLast? = some last) (hkey : newKey > last.key)
    (h1 : curOff ≠ newOff) (h2 : curOff ≠ pOff) (h3 : newOff ≠ pOff) :
    ∃ s', leafSplitUp (some pOff) curOff newOff newKey lsn root s = .ok root s' ∧
      view s' = upd (upd (upd (view s) newOff (setLSN nR lsn, true)) curOff (setLSN nL lsn, true))
        pOff (.internal (intApp pn newKey newOff lsn), true) ∧
      s'.hdr.nextFree = s.hdr.nextFree := by
  unfold leafSplitUp
  subst hpo
  obtain ⟨s0, e0, v0, n0, r0⟩ := fetch_spec s pn.off (.internal pn) dP hvP rfl
  simp only [bind_ok e0, hlast, hkey, if_true]
  obtain ⟨s1, e1, v1, n1, r1⟩ := putNode_none_spec s0
    (.internal { pn with cells := pn.cells ++ [⟨newKey, pn.right⟩], right := newOff }) (.internal pn) dP
    (by rw [v0]; exact hvP)
  simp only [nodeOff] at v1 r1
  simp only [bind_ok e1]
  obtain ⟨s2, e2, v2, n2, r2⟩ := markDirty_spec s1 newOff lsn nR dR
    (by rw [r1, r0]; exact .inl (.inl hrR)) (by rw [v1, v0]; simp [upd, h3, hvR])
  simp only [bind_ok e2]
  obtain ⟨s3, e3, v3, n3, r3⟩ := markDirty_spec s2 curOff lsn nL dL
    (by rw [r2, r1, r0]; exact .inl (.inl hrL)) (by rw [v2, v1, v0]; simp [upd, h1, h2, hvL])
  simp only [bind_ok e3]
  obtain ⟨s4, e4, v4, n4, r4⟩ := markDirty_spec s3 pn.off lsn
    (.internal { pn with cells := pn.cells ++ [⟨newKey, pn.right⟩], right := newOff }) dP
    (by rw [r3, r2, r1]; exact .inr rfl)
    (by rw [v3, v2, v1]; simp [upd, Ne.symm h2, Ne.symm h3])
  simp only [bind_ok e4]
  refine ⟨s4, rfl, ?_, ?_⟩
  · rw [v4, v3, v2, v1, v0]
    rw [upd_comm _ _ _ _ _ (Ne.symm h3), upd_comm _ _ _ _ _ (Ne.symm h2), upd_upd_same]
    rfl
  · rw [n4, n3, n2, n1, n0]

/-- the first half of a leaf split: the new right sibling is allocated and both halves are written -/
theorem leafSplit_prefix (s : Store) (parent : Option Nat) (cur1 : Leaf) (lsn root : Nat) (n0 : Node) (d0 : Bool)
    (hv : view s cur1.off = some (n0, d0)) (hne : cur1.off ≠ s.hdr.nextFree) :
    ∃ s3, leafSplit parent cur1 lsn root s =
        leafSplitUp parent cur1.off s.hdr.nextFree
          (((cur1.cells.drop (cur1.cells.length / 2)).head?.map (·.key)).getD 0) lsn root s3 ∧
      view s3 = upd (upd (view s) s.hdr.nextFree
          (.leaf (leafR cur1 0 s.hdr.nextFree), false))
          cur1.off (.leaf (leafL cur1 s.hdr.nextFree), d0) ∧
      s3.hdr.nextFree = s.hdr.nextFree + c_pageSize ∧ Res s3 cur1.off ∧ Res s3 s.hdr.nextFree := by
  unfold leafSplit
  obtain ⟨s1, e1, v1, n1, r1⟩ := appendNode_spec s
    (.leaf ⟨0, 0, false, false, 0, 0, cur1.cells.drop (cur1.cells.length / 2)⟩) false
  simp only [bind_ok e1]
  obtain ⟨s2, e2, v2, n2, r2⟩ := putNode_none_spec s1
    (.leaf { cur1 with cells := cur1.cells.take (cur1.cells.length / 2), hasR := true, rSib := s.hdr.nextFree })
    n0 d0 (by rw [v1]; simp [upd, nodeOff, hne, hv])
  simp only [nodeOff] at v2 r2
  simp only [bind_ok e2]
  obtain ⟨s3, e3, v3, n3, r3⟩ := putNode_none_spec s2
    (.leaf ⟨s.hdr.nextFree, 0, true, false, cur1.off, 0, cur1.cells.drop (cur1.cells.length / 2)⟩)
    (setOff (.leaf ⟨0, 0, false, false, 0, 0, cur1.cells.drop (cur1.cells.length / 2)⟩) s.hdr.nextFree) false
    (by rw [v2, v1]; simp [upd, nodeOff, Ne.symm hne])
  simp only [nodeOff] at v3 r3
  simp only [bind_ok e3]
  refine ⟨s3, rfl, ?_, by rw [n3, n2, n1], ?_, ?_⟩
  · rw [v3, v2, v1]
    simp only [upd_upd_same, upd_comm _ _ _ _ _ hne]
    rfl
  · rw [r3, r2]; exact .inl (.inr rfl)
  · rw [r3]; exact .inr rfl

/-- an append at the end of a leaf without right sibling passes the guards of `insertLeaf` -/
theorem insertLeaf_append (parent : Option Nat) (cur : Leaf) (key lsn : Nat) (value : Bytes) (root : Nat)
    (hpos : ∀ x ∈ keysOfLeaf cur, x < key) (hR : cur.hasR = false) (hv : value.length ≤ c_maxValueSize) :
    insertLeaf parent cur key lsn value root = leafWrite parent (leafApp cur key lsn value) lsn root := by
  rw [insertLeaf_eq, findPos_beyond _ _ hpos]
  have hlen : (keysOfLeaf cur).length = cur.cells.length := by simp [keysOfLeaf]
  simp only [hlen, hR, bne_self_eq_false, Bool.false_eq_true, if_false, gt_iff_lt, Nat.not_lt.mpr hv]

theorem leafWrite_nosplit (s : Store) (parent : Option Nat) (cur1 : Leaf) (lsn root : Nat)
    (hfull : cur1.cells.length < c_maxLeafNodeCells) :
    ∃ s', leafWrite parent cur1 lsn root s = .ok root s' ∧
      view s' = upd (view s) cur1.off (.leaf cur1, true) ∧ s'.hdr.nextFree = s.hdr.nextFree := by
  have hnf : isFullLeaf cur1 = false := by
    simp only [isFullLeaf, ge_iff_le, decide_eq_false_iff_not]; omega
  obtain ⟨s1, e1, v1, n1, r1⟩ := putNode_some_spec s (.leaf cur1) true
  refine ⟨s1, ?_, v1, n1⟩
  unfold leafWrite
  simp only [bind_ok e1, hnf, Bool.not_false, if_true]
  rfl

/-- the over-full leaf is written and split; what remains is the parent part -/
theorem leafWrite_split (s : Store) (parent : Option Nat) (cur1 : Leaf) (lsn root : Nat)
    (hfull : ¬ cur1.cells.length < c_maxLeafNodeCells) (hne : cur1.off ≠ s.hdr.nextFree) :
    ∃ s3, leafWrite parent cur1 lsn root s =
        leafSplitUp parent cur1.off s.hdr.nextFree
          (((leafR cur1 lsn s.hdr.nextFree).cells.head?.map (·.key)).getD 0) lsn root s3 ∧
      view s3 = upd (upd (view s) s.hdr.nextFree
          (.leaf (leafR cur1 0 s.hdr.nextFree), false))
          cur1.off (.leaf (leafL cur1 s.hdr.nextFree), true) ∧
      s3.hdr.nextFree = s.hdr.nextFree + c_pageSize ∧ Res s3 cur1.off ∧ Res s3 s.hdr.nextFree := by
  have hnf : isFullLeaf cur1 = true := by
    simp only [isFullLeaf, ge_iff_le, decide_eq_true_eq]; omega
  obtain ⟨s1, e1, v1, n1, r1⟩ := putNode_some_spec s (.leaf cur1) true
  simp only [nodeOff] at v1 r1
  obtain ⟨s3, e3, v3, n3, rL, rR⟩ := leafSplit_prefix s1 parent cur1 lsn root (.leaf cur1) true
    (by rw [v1]; exact upd_same _ _ _) (by rw [n1]; exact hne)
  rw [n1] at e3 v3 n3 rR
  refine ⟨s3, ?_, ?_, n3, rL, rR⟩
  · unfold leafWrite
    simp only [bind_ok e1, hnf, Bool.not_true, Bool.false_eq_true, if_false]
    exact e3
  · rw [v3, v1]
    simp only [upd_upd_same, upd_comm _ _ _ _ _ hne]

theorem leafWrite_split_none (s : Store) (cur1 : Leaf) (lsn root : Nat) (hlsn : cur1.lsn = lsn)
    (hfull : ¬ cur1.cells.length < c_maxLeafNodeCells)
    (h1 : cur1.off ≠ s.hdr.nextFree) (h2 : cur1.off ≠ s.hdr.nextFree + c_pageSize) :
    ∃ s', leafWrite none cur1 lsn root s = .ok (s.hdr.nextFree + c_pageSize) s' ∧
      view s' = upd (upd (upd (view s) cur1.off (.leaf (leafL cur1 s.hdr.nextFree), true))
          s.hdr.nextFree (.leaf (leafR cur1 lsn s.hdr.nextFree), true))
          (s.hdr.nextFree + c_pageSize)
          (.internal ⟨s.hdr.nextFree + c_pageSize, lsn, s.hdr.nextFree,
            [⟨((leafR cur1 lsn s.hdr.nextFree).cells.head?.map (·.key)).getD 0, cur1.off⟩]⟩, true) ∧
      s'.hdr.nextFree = s.hdr.nextFree + c_pageSize + c_pageSize := by
  subst hlsn
  obtain ⟨s3, e3, v3, n3, rL, rR⟩ := leafWrite_split s none cur1 cur1.lsn root hfull h1
  have hps := pageSize_pos
  obtain ⟨s4, e4, v4, n4⟩ := leafSplitUp_none s3 cur1.off s.hdr.nextFree
    (((leafR cur1 cur1.lsn s.hdr.nextFree).cells.head?.map (·.key)).getD 0) cur1.lsn root
    (.leaf (leafL cur1 s.hdr.nextFree))
    (.leaf (leafR cur1 0 s.hdr.nextFree)) true false
    rL rR (by rw [v3]; exact upd_same _ _ _) (by rw [v3]; simp [upd, Ne.symm h1]) h1
    (by rw [n3]; exact h2) (by rw [n3]; omega)
  rw [e3, e4, n3]
  refine ⟨s4, rfl, ?_, by rw [n4, n3]⟩
  rw [v4, v3, n3]
  simp only [upd_upd_same, upd_comm _ _ _ _ _ (Ne.symm h1)]
  rfl

theorem leafWrite_split_some (s : Store) (pOff : Nat) (cur1 : Leaf) (lsn root : Nat) (pn : Internal)
    (dP : Bool) (last : ICell) (hlsn : cur1.lsn = lsn) (hfull : ¬ cur1.cells.length < c_maxLeafNodeCells)
    (hvP : view s pOff = some (.internal pn, dP)) (hpo : pn.off = pOff)
    (hlast : pn.cells.getLast? = some last)
    (hkey : ((leafR cur1 lsn s.hdr.nextFree).cells.head?.map (·.key)).getD 0 > last.key)
    (h1 : cur1.off ≠ s.hdr.nextFree) (h2 : cur1.off ≠ pOff) (h3 : pOff ≠ s.hdr.nextFree) :
    ∃ s', leafWrite (some pOff) cur1 lsn root s = .ok root s' ∧
      view s' = upd (upd (upd (view s) cur1.off (.leaf (leafL cur1 s.hdr.nextFree), true))
          s.hdr.nextFree (.leaf (leafR cur1 lsn s.hdr.nextFree), true))
          pOff (.internal (intApp pn
            (((leafR cur1 lsn s.hdr.nextFree).cells.head?.map (·.key)).getD 0) s.hdr.nextFree lsn), true) ∧
      s'.hdr.nextFree = s.hdr.nextFree + c_pageSize := by
  subst hlsn
  obtain ⟨s3, e3, v3, n3, rL, rR⟩ := leafWrite_split s (some pOff) cur1 cur1.lsn root hfull h1
  obtain ⟨s4, e4, v4, n4⟩ := leafSplitUp_some s3 pOff cur1.off s.hdr.nextFree
    (((leafR cur1 cur1.lsn s.hdr.nextFree).cells.head?.map (·.key)).getD 0) cur1.lsn root
    (.leaf (leafL cur1 s.hdr.nextFree))
    (.leaf (leafR cur1 0 s.hdr.nextFree)) true false dP
    pn last rL rR (by rw [v3]; exact upd_same _ _ _) (by rw [v3]; simp [upd, Ne.symm h1])
    (by rw [v3]; simp [upd, Ne.symm h2, h3, hvP]) hpo hlast hkey h1 h2 (Ne.symm h3)
  rw [e3, e4]
  refine ⟨s4, rfl, ?_, by rw [n4, n3]⟩
  rw [v4, v3]
  simp only [upd_upd_same, upd_comm _ _ _ _ _ (Ne.symm h1)]
  rfl

/-! ### `afterChild` on the view -/

theorem afterChild_nosplit (s : Store) (parent : Option Nat) (curOff lsn root1 : Nat) (c1 : Internal) (d : Bool)
    (hv : view s curOff = some (.internal c1, d)) (hoff : c1.off = curOff)
    (hfull : c1.cells.length < c_maxInternalNodeCells) :
    ∃ s', afterChild parent curOff lsn root1 s = .ok root1 s' ∧ view s' = view s ∧
      s'.hdr.nextFree = s.hdr.nextFree := by
  unfold afterChild
  obtain ⟨s0, e0, v0, n0, r0⟩ := fetch_spec s curOff (.internal c1) d hv hoff
  have hnf : isFullInternal c1 = false := by
    simp only [isFullInternal, ge_iff_le, decide_eq_false_iff_not]; omega
  simp only [bind_ok e0, hnf, Bool.not_false, if_true]
  exact ⟨s0, rfl, v0, n0⟩

theorem intSplitUp_none (s : Store) (curOff newOff midKey lsn root1 : Nat) (nR : Node) (dR : Bool)
    (hrR : Res s newOff) (hvR : view s newOff = some (nR, dR)) (h3 : newOff ≠ s.hdr.nextFree) :
    ∃ s', intSplitUp none curOff newOff midKey lsn root1 s = .ok s.hdr.nextFree s' ∧
      view s' = upd (upd (view s) newOff (setLSN nR lsn, true))
        s.hdr.nextFree (.internal ⟨s.hdr.nextFree, lsn, newOff, [⟨midKey, curOff⟩]⟩, true) ∧
      s'.hdr.nextFree = s.hdr.nextFree + c_pageSize := by
  unfold intSplitUp
  obtain ⟨s1, e1, v1, n1, r1⟩ := appendNode_spec s (.internal ⟨0, 0, newOff, [⟨midKey, curOff⟩]⟩) false
  simp only [bind_ok e1]
  obtain ⟨s2, e2, v2, n2, r2⟩ := markDirty_spec s1 newOff lsn nR dR
    (by rw [r1]; exact .inl hrR) (by rw [v1]; simp [upd, h3, hvR])
  simp only [bind_ok e2]
  obtain ⟨s4, e4, v4, n4, r4⟩ := markDirty_spec s2 s.hdr.nextFree lsn
    (setOff (.internal ⟨0, 0, newOff, [⟨midKey, curOff⟩]⟩) s.hdr.nextFree) false
    (by rw [r2, r1]; exact .inr rfl)
    (by rw [v2, v1]; simp [upd, Ne.symm h3])
  simp only [bind_ok e4]
  refine ⟨s4, rfl, ?_, ?_⟩
  · rw [v4, v2, v1]
    simp only [upd_upd_same, upd_comm _ _ _ _ _ (Ne.symm h3)]
    rfl
  · rw [n4, n2, n1]

theorem intSplitUp_some (s : Store) (pOff curOff newOff midKey lsn root1 : Nat) (nR : Node) (dR dP : Bool)
    (pn : Internal) (hrR : Res s newOff) (hvR : view s newOff = some (nR, dR))
    (hvP : view s pOff = some (.internal pn, dP)) (hpo : pn.off = pOff) (h3 : newOff ≠ pOff) :
    ∃ s', intSplitUp (some pOff) curOff newOff midKey lsn root1 s = .ok root1 s' ∧
      view s' = upd (upd (view s) newOff (setLSN nR lsn, true))
        pOff (.internal (intApp pn midKey newOff lsn), true) ∧
      s'.hdr.nextFree = s.hdr.nextFree := by
  unfold intSplitUp
  subst hpo
  obtain ⟨s0, e0, v0, n0, r0⟩ := fetch_spec s pn.off (.internal pn) dP hvP rfl
  simp only [bind_ok e0]
  obtain ⟨s1, e1, v1, n1, r1⟩ := putNode_none_spec s0
    (.internal { pn with cells := pn.cells ++ [⟨midKey, pn.right⟩], right := newOff }) (.internal pn) dP
    (by rw [v0]; exact hvP)
  simp only [nodeOff] at v1 r1
  simp only [bind_ok e1]
  obtain ⟨s2, e2, v2, n2, r2⟩ := markDirty_spec s1 newOff lsn nR dR
    (by rw [r1, r0]; exact .inl (.inl hrR)) (by rw [v1, v0]; simp [upd, h3, hvR])
  simp only [bind_ok e2]
  obtain ⟨s4, e4, v4, n4, r4⟩ := markDirty_spec s2 pn.off lsn
    (.internal { pn with cells := pn.cells ++ [⟨midKey, pn.right⟩], right := newOff }) dP
    (by rw [r2, r1]; exact .inr rfl)
    (by rw [v2, v1]; simp [upd, Ne.symm h3])
  simp only [bind_ok e4]
  refine ⟨s4, rfl, ?_, ?_⟩
  · rw [v4, v2, v1, v0]
    simp only [upd_upd_same, upd_comm _ _ _ _ _ (Ne.symm h3)]
    rfl
  · rw [n4, n2, n1, n0]

/-- the first half of an internal split: the right half is allocated, the left half written back -/
theorem afterChild_prefix (s : Store) (parent : Option Nat) (curOff lsn root1 : Nat) (c1 : Internal) (d : Bool)
    (hv : view s curOff = some (.internal c1, d)) (hoff : c1.off = curOff)
    (hfull : ¬ c1.cells.length < c_maxInternalNodeCells) (hne : curOff ≠ s.hdr.nextFree) :
    ∃ s2, afterChild parent curOff lsn root1 s =
        intSplitUp parent curOff s.hdr.nextFree (midCell c1).key lsn root1 s2 ∧
      view s2 = upd (upd (view s) s.hdr.nextFree
          (.internal (intR c1 0 s.hdr.nextFree), false))
          curOff (.internal (intL c1), d) ∧
      s2.hdr.nextFree = s.hdr.nextFree + c_pageSize ∧ Res s2 s.hdr.nextFree := by
  unfold afterChild
  subst hoff
  obtain ⟨s0, e0, v0, n0, r0⟩ := fetch_spec s c1.off (.internal c1) d hv rfl
  have hnf : isFullInternal c1 = true := by
    simp only [isFullInternal, ge_iff_le, decide_eq_true_eq]; omega
  simp only [bind_ok e0, hnf, Bool.not_true, Bool.false_eq_true, if_false]
  obtain ⟨s1, e1, v1, n1, r1⟩ := appendNode_spec s0
    (.internal ⟨0, 0, c1.right, c1.cells.drop (c1.cells.length / 2 + 1)⟩) false
  simp only [bind_ok e1]
  obtain ⟨s2, e2, v2, n2, r2⟩ := putNode_none_spec s1
    (.internal { c1 with cells := c1.cells.take (c1.cells.length / 2),
                         right := ((c1.cells[c1.cells.length / 2]?).getD ⟨0, 0⟩).child })
    (.internal c1) d (by rw [v1, v0, n0]; simp [upd, nodeOff, hne, hv])
  simp only [nodeOff] at v2 r2
  simp only [bind_ok e2]
  rw [n0] at v1 n1 r1
  refine ⟨s2, by rw [n0]; rfl, ?_, by rw [n2, n1], ?_⟩
  · rw [v2, v1, v0]
    rfl
  · rw [r2, r1]; exact .inl (.inr rfl)

theorem afterChild_split_none (s : Store) (curOff lsn root1 : Nat) (c1 : Internal) (d : Bool)
    (hv : view s curOff = some (.internal c1, d)) (hoff : c1.off = curOff)
    (hfull : ¬ c1.cells.length < c_maxInternalNodeCells)
    (h1 : curOff ≠ s.hdr.nextFree) :
    ∃ s', afterChild none curOff lsn root1 s = .ok (s.hdr.nextFree + c_pageSize) s' ∧
      view s' = upd (upd (upd (view s) curOff (.internal (intL c1), d))
          s.hdr.nextFree (.internal (intR c1 lsn s.hdr.nextFree), true))
          (s.hdr.nextFree + c_pageSize)
          (.internal ⟨s.hdr.nextFree + c_pageSize, lsn, s.hdr.nextFree, [⟨(midCell c1).key, curOff⟩]⟩, true) ∧
      s'.hdr.nextFree = s.hdr.nextFree + c_pageSize + c_pageSize := by
  obtain ⟨s2, e2, v2, n2, rR⟩ := afterChild_prefix s none curOff lsn root1 c1 d hv hoff hfull h1
  have hps := pageSize_pos
  obtain ⟨s4, e4, v4, n4⟩ := intSplitUp_none s2 curOff s.hdr.nextFree (midCell c1).key lsn root1
    (.internal (intR c1 0 s.hdr.nextFree)) false rR
    (by rw [v2]; simp [upd, Ne.symm h1]) (by rw [n2]; omega)
  rw [e2, e4, n2]
  refine ⟨s4, rfl, ?_, by rw [n4, n2]⟩
  rw [v4, v2, n2]
  simp only [upd_upd_same, upd_comm _ _ _ _ _ (Ne.symm h1)]
  rfl

theorem afterChild_split_some (s : Store) (pOff curOff lsn root1 : Nat) (c1 pn : Internal) (d dP : Bool)
    (hv : view s curOff = some (.internal c1, d)) (hoff : c1.off = curOff)
    (hfull : ¬ c1.cells.length < c_maxInternalNodeCells)
    (hvP : view s pOff = some (.internal pn, dP)) (hpo : pn.off = pOff)
    (h1 : curOff ≠ s.hdr.nextFree) (h2 : curOff ≠ pOff) (h3 : pOff ≠ s.hdr.nextFree) :
    ∃ s', afterChild (some pOff) curOff lsn root1 s = .ok root1 s' ∧
      view s' = upd (upd (upd (view s) curOff (.internal (intL c1), d))
          s.hdr.nextFree (.internal (intR c1 lsn s.hdr.nextFree), true))
          pOff (.internal (intApp pn (midCell c1).key s.hdr.nextFree lsn), true) ∧
      s'.hdr.nextFree = s.hdr.nextFree + c_pageSize := by
  obtain ⟨s2, e2, v2, n2, rR⟩ := afterChild_prefix s (some pOff) curOff lsn root1 c1 d hv hoff hfull h1
  obtain ⟨s4, e4, v4, n4⟩ := intSplitUp_some s2 pOff curOff s.hdr.nextFree (midCell c1).key lsn root1
    (.internal (intR c1 0 s.hdr.nextFree)) false dP pn rR
    (by rw [v2]; simp [upd, Ne.symm h1])
    (by rw [v2]; simp [upd, Ne.symm h2, h3, hvP]) hpo (Ne.symm h3)
  rw [e2, e4]
  refine ⟨s4, rfl, ?_, by rw [n4, n2]⟩
  rw [v4, v2]
  simp only [upd_upd_same, upd_comm _ _ _ _ _ (Ne.symm h1)]
  rfl

end Mkdb.Store
end

section
/-! ### the refusals -/
set_option autoImplicit false
namespace Mkdb.Store
open Mkdb.Page Mkdb.Generated Mkdb.Tree

/-- when the key is not a separator, `insertInternal` descends where `findCell` does -/
theorem findPos_route (right : Nat) : ∀ (cells : List ICell) (k : Nat),
    (findPos (cells.map (·.key)) k).2 = false →
    (match cells[(findPos (cells.map (·.key)) k).1]? with | some c => c.child | none => right) =
      (match cells.find? (fun c => k < c.key) with | some c => c.child | none => right)
  | [], _, _ => rfl
  | a :: as, k, h => by
    unfold findPos at h ⊢
    by_cases hak : a.key < k
    · have hnot : ¬ k < a.key := by omega
      simp only [List.map_cons, List.takeWhile_cons, decide_eq_true hak, if_true, List.length_cons,
        List.getElem?_cons_succ, List.find?_cons, decide_eq_false hnot] at h ⊢
      have ih := findPos_route right as k
      unfold findPos at ih
      exact ih h
    · simp only [List.map_cons, List.takeWhile_cons, decide_eq_false hak, Bool.false_eq_true, if_false,
        List.length_nil, List.getElem?_cons_zero, beq_eq_false_iff_ne, ne_eq, Option.some.injEq] at h
      have hlt : k < a.key := by omega
      simp [hak, hlt]

/-- on the node `n`, the insert ends in the error `e` having only read pages, with any fuel of at least `k`: `k` is
what the descent below `n` needs (0 at a leaf, one more at each internal node above) -/
def ErrAt (e : SErr) (s : Store) (key lsn : Nat) (value : Bytes) (k : Nat) (n : Node) : Prop :=
  ∀ fuel, k ≤ fuel → ∀ (parent : Option Nat) (root : Nat) (s1 : Store), view s1 = view s →
    s1.hdr.nextFree = s.hdr.nextFree →
    ∃ s2, callOn fuel parent n key lsn value root s1 = .err e s2 ∧ view s2 = view s ∧
      s2.hdr.nextFree = s.hdr.nextFree

theorem errAt_leaf_exists (s : Store) (l : Leaf) (key lsn : Nat) (value : Bytes)
    (hm : key ∈ keysOfLeaf l) (hpw : (keysOfLeaf l).Pairwise (· < ·)) :
    ErrAt .keyExists s key lsn value 0 (.leaf l) := by
  intro fuel _ parent root s1 hv hn
  refine ⟨s1, ?_, hv, hn⟩
  show insertLeaf parent l key lsn value root s1 = _
  rw [insertLeaf_eq, findPos_found_of_mem _ _ hpw hm]
  rfl

theorem errAt_leaf_tooLarge (s : Store) (l : Leaf) (key lsn : Nat) (value : Bytes)
    (hm : key ∉ keysOfLeaf l) (hv : value.length > c_maxValueSize) :
    ErrAt .rowTooLarge s key lsn value 0 (.leaf l) := by
  intro fuel _ parent root s1 hv1 hn
  refine ⟨s1, ?_, hv1, hn⟩
  show insertLeaf parent l key lsn value root s1 = _
  have hf : (findPos (keysOfLeaf l) key).2 = false := by
    cases h : (findPos (keysOfLeaf l) key).2 with
    | false => rfl
    | true => exact absurd (findPos_found_mem _ _ h) hm
  rw [insertLeaf_eq, hf]
  simp only [Bool.false_eq_true, if_false, hv, if_true]
  rfl

theorem errAt_internal (e : SErr) (s : Store) (cur : Internal) (key lsn : Nat) (value : Bytes) (k : Nat)
    (hfound : (findPos (keysOfInternal cur) key).2 = true → e = .keyExists)
    (hchild : (findPos (keysOfInternal cur) key).2 = false →
      ∃ n d, view s (childOf cur key) = some (n, d) ∧ nodeOff n = childOf cur key ∧
        ErrAt e s key lsn value k n) :
    ErrAt e s key lsn value (k + 1) (.internal cur) := by
  intro fuel hfuel parent root s1 hv hn
  obtain ⟨f, rfl⟩ : ∃ f, fuel = f + 1 := ⟨fuel - 1, by omega⟩
  show ∃ s2, insertInternal (f + 1) parent cur key lsn value root s1 = _ ∧ _
  rw [insertInternal_eq']
  cases hf : (findPos (keysOfInternal cur) key).2 with
  | true =>
    rw [hfound hf]
    exact ⟨s1, rfl, hv, hn⟩
  | false =>
    obtain ⟨n, d, hvn, hoff, herr⟩ := hchild hf
    simp only [Bool.false_eq_true, if_false]
    obtain ⟨s2, e2, v2, n2, _⟩ := fetch_spec s1 (childOf cur key) n d (by rw [hv]; exact hvn) hoff
    rw [bind_ok e2]
    obtain ⟨s3, e3, v3, n3⟩ := herr f (by omega) (some cur.off) root s2 (by rw [v2, hv]) (by rw [n2, hn])
    rw [bind_err e3]
    exact ⟨s3, rfl, v3, n3⟩

theorem childOf_route (cur : Internal) (key : Nat) (h : (findPos (keysOfInternal cur) key).2 = false) :
    childOf cur key = routeChild cur key := by
  unfold childOf routeChild keysOfInternal
  exact findPos_route cur.right cur.cells key h

theorem insertKeyHeap_err (e : SErr) (s : Store) (rootOff : Nat) (key lsn : Nat) (value : Bytes) (k : Nat)
    (n : Node) (d : Bool) (hv : view s rootOff = some (n, d)) (hoff : nodeOff n = rootOff)
    (herr : ErrAt e s key lsn value k n) (hk : k ≤ treeFuel) :
    ∃ s', insertKeyHeap ⟨rootOff⟩ key lsn value s = .err e s' ∧ view s' = view s ∧
      s'.hdr.nextFree = s.hdr.nextFree := by
  obtain ⟨s1, e1, v1, n1, _⟩ := fetch_spec s rootOff n d hv hoff
  obtain ⟨s2, e2, v2, n2⟩ := herr treeFuel hk none rootOff s1 v1 n1
  rw [insertKeyHeap_eq, bind_ok e1, bind_err e2]
  exact ⟨s2, rfl, v2, n2⟩

end Mkdb.Store
end
