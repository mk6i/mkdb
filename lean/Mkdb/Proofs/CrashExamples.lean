import Mkdb.Proofs.BaseCaseTable
import Mkdb.Proofs.CrashBytes
import Mkdb.Proofs.CrashRowPrefix
import Mkdb.Proofs.PtSelfSplitWitness
/-!
Non-vacuity of the C03 theorems on computed databases: on `tableDB` (the byte cut of an INSERT), on `tableDB`
after a history (the byte cuts of an UPDATE and of a DELETE), and on `db8`, whose page table has split.
-/

section
/-!
`tableDB` (`BaseCaseTable`) is the database the model computes for `CREATE DATABASE ; CREATE TABLE t (a INT)`.
`INSERT INTO t VALUES (5), (6)` on it logs two records of 34 bytes each (4 length bytes + 25 header
bytes + 5 value bytes).  The log file is cut after 54 bytes - 16 bytes into the 30-byte body of the second
record; the row-id counter recovered is 11 (= 10 + 1).
-/
set_option autoImplicit false
namespace Mkdb.Store
open Mkdb.Page Mkdb.Tuple Mkdb.Generated Mkdb.Tree Mkdb.Engine

/-- the two records `INSERT INTO t VALUES (5), (6)` logs on `tableDB` -/
def recT1 : WalRec := ⟨0, 10, 12288, 11, [0, 5, 0, 0, 0]⟩
def recT2 : WalRec := ⟨0, 11, 12288, 12, [0, 6, 0, 0, 0]⟩

/-- what the UPDATE and the DELETE that follow it (`historyT`) log -/
def recT3 : WalRec := ⟨1, 12, 12288, 11, [0, 7, 0, 0, 0]⟩
def recT4 : WalRec := ⟨2, 13, 12288, 12, []⟩

def logHdr (db : Engine.DB) (w : List WalRec) (h : Header) : Bool := db.wal == w && db.store.hdr == h

theorem of_logHdr {db : Engine.DB} {w : List WalRec} {h : Header} (hok : logHdr db w h = true) :
    db.wal = w ∧ db.store.hdr = h := by
  simpa only [logHdr, Bool.and_eq_true, beq_iff_eq] using hok

/-- `INSERT INTO t VALUES (5), (6)`, `UPDATE t SET a = 7 WHERE a = 5`, `DELETE FROM t WHERE a = 6` on
`tableDB`, computed one after the other: the log and the counters each leaves.  One closed term for the
three, so that the kernel runs each statement once; a run of the engine known as an equation
(`r = .ok a db`) picks its layer by `of_okThen`, without evaluating anything. -/
theorem statementsT_log :
    okThen (Engine.evalInsert tableDB tname [] [[.int 5], [.int 6]]) (fun _ db1 =>
      logHdr db1 [recT1, recT2] ⟨12, 4096, 16384, 12⟩ &&
      okThen (Engine.evalUpdate db1 tname [([97], .lit (.int 7))] (some (condEq 5))) fun _ db2 =>
        logHdr db2 [recT1, recT2, recT3] ⟨12, 4096, 16384, 13⟩ &&
        okThen (Engine.evalDelete db2 tname (some (condEq 6))) fun _ db3 =>
          logHdr db3 [recT1, recT2, recT3, recT4] ⟨12, 4096, 16384, 14⟩) = true := by
  decide +kernel

/-- **Non-vacuity of `C03_insert_byte_cut_leaves_row_prefix`, and what it yields on a computed database.**  All
its hypotheses hold for `INSERT INTO t VALUES (5), (6)` on `tableDB` (empty history).  The log file
(68 bytes) cut after 54 bytes: `wal.read` returns the first record, 34 good bytes, torn; the truncated
file is the file of that record; replaying it on the store of `tableDB` succeeds and the store
abstracts to the plain database whose table `t` holds exactly the row `(5)`; the row-id counter is 11. -/
theorem byte_cut_example : ∃ db1 rK ptR tblsK,
    Engine.evalInsert tableDB tname [] [[.int 5], [.int 6]] = .ok 2 db1 ∧
    db1.wal = [recT1, recT2] ∧ (walFile db1.wal).length = 68 ∧
    (∀ r ∈ db1.wal, (toRec r).wf) ∧
    ByteCut tableDB.wal db1.wal 54 1 true ∧
    Wal.readLog ((walFile db1.wal).take 54) = .ok [toRec recT1] 34 true ∧
    Wal.afterRead ((walFile db1.wal).take 54) = walFile [recT1] ∧
    replayAll [recT1] tableDB.store = (rK, none, false) ∧
    AbsV rK ptR schT tblsK sdbA5 ∧ rK.hdr.lastKey = 11 := by
  have hmem : (tname, tT) ∈ [(tname, tT)] := List.mem_singleton.mpr rfl
  obtain ⟨db1, _, _, _, e1, _⟩ := evalInsert_refines_specV tableDB ptT schT [(tname, tT)] sdbA0 sdbA1
    abs_tableDB.toV tname tT hmem schemaA schT_t [] [[.int 5], [.int 6]] rows56_valid specA1 runT
  have h1 := of_okThen statementsT_log e1
  simp only [Bool.and_eq_true] at h1
  obtain ⟨hw, hh⟩ := of_logHdr h1.1
  have hrunok := insRunOK_any (sdb := sdbA0) cat_tableDB hmem schT_t runT
  obtain ⟨hwf, k, torn, hcut⟩ := stmt_byte_cut schT (.nil tableDB sdbA0)
    (.insert tname [] [[.int 5], [.int 6]] rows56_valid specA1 hrunok e1 (.nil db1 sdbA1)) rfl ptT [(tname, tT)]
    abs_tableDB.toV (by rw [hh]; decide) (by rw [hh]; decide) (by rw [hh]; decide) 54
  obtain rfl : k = 1 := hcut.k_eq (by rw [hw]; decide) (by rw [hw]; decide) (by rw [hw]; decide)
  obtain rfl : torn = true := hcut.2.2.2.2.1.mpr (by rw [hw]; decide)
  obtain ⟨_, hread, _, _, _, hafter, _⟩ := id hcut
  obtain ⟨j, rK, sdbJ, dbJ, ptJ, ptR, tblsJ, _, hre, hspecJ, hAR, _, _, _, _, hlk, hlkJ, _, _, hno⟩ :=
    insert_crash_prefix schT (.nil tableDB sdbA0) rfl ptT [(tname, tT)] abs_tableDB.toV ptT_self freshM_tableDB
      tname [] [[.int 5], [.int 6]] rows56_valid sdbA1 specA1 hrunok 2 db1 e1 1
  obtain ⟨hj, _, _⟩ := hno (by rw [hw]; rfl)
  have hj1 : j = 1 := by rw [hj]; rfl
  subst hj1
  have hs5 : sdbJ = sdbA5 := by
    have h5 : Spec.specInsert sdbA0 tname [] ([[.int 5], [.int 6]].take 1) = some sdbA5 := rfl
    rw [h5] at hspecJ
    exact (Option.some.inj hspecJ).symm
  subst hs5
  rw [hw] at hre hread hafter
  refine ⟨db1, rK, ptR, tblsJ, e1, hw, by rw [hw]; decide, hwf, hcut, ?_, ?_, hre, hAR, by rw [hlk, hlkJ]; rfl⟩
  · rw [hw]
    exact hread
  · rw [hw]
    exact hafter

end Mkdb.Store
end

section
set_option autoImplicit false
namespace Mkdb.Store
open Mkdb.Page Mkdb.Tuple Mkdb.Generated Mkdb.Tree Mkdb.Engine

theorem historyT : ∃ db1 db2 db3,
    SpecRun schT tableDB sdbA0 [.insert tname [] [[.int 5], [.int 6]]] db1 sdbA1 ∧
    Engine.evalUpdate db1 tname [([97], .lit (.int 7))] (some (condEq 5)) = .ok () db2 ∧
    Engine.evalDelete db2 tname (some (condEq 6)) = .ok 1 db3 ∧
    db1.wal = [recT1, recT2] ∧ db1.store.hdr = ⟨12, 4096, 16384, 12⟩ ∧
    db2.wal = [recT1, recT2, recT3] ∧ db2.store.hdr = ⟨12, 4096, 16384, 13⟩ ∧
    db3.wal = [recT1, recT2, recT3, recT4] ∧ db3.store.hdr = ⟨12, 4096, 16384, 14⟩ := by
  have hmem : (tname, tT) ∈ [(tname, tT)] := List.mem_singleton.mpr rfl
  obtain ⟨db1, pt1, t1', _, run1, e1, _, habs1⟩ := SpecRun.insert_one abs_tableDB.toV hmem schT_t rows56_valid specA1 runT
  obtain ⟨db2, t2', _, e2, habs2⟩ := SpecRun.update_one habs1 set7_valid set7_utf specA2
  obtain ⟨n, db3, t3', _, _, e3, _, _, _, _, _, hn⟩ := evalDelete_refines_specV db2 pt1 schT _ sdbA2 sdbA3 habs2
    tname (some (condEq 6)) specA3
  have hn1 : n = 1 := hn _ _ (rfl : Spec.findTable sdbA2 tname = some _) selA3
  subst hn1
  have h1 := of_okThen statementsT_log e1
  simp only [Bool.and_eq_true] at h1
  have h2 := of_okThen h1.2 e2
  simp only [Bool.and_eq_true] at h2
  obtain ⟨hw1, hh1⟩ := of_logHdr h1.1
  obtain ⟨hw2, hh2⟩ := of_logHdr h2.1
  obtain ⟨hw3, hh3⟩ := of_logHdr (of_okThen h2.2 e3)
  exact ⟨db1, db2, db3, run1, e2, e3, hw1, hh1, hw2, hh2, hw3, hh3⟩

/-- **Non-vacuity of `C03_update_byte_cut_leaves_row_prefix`.**  After the acknowledged INSERT, the UPDATE's record is cut
after 20 of its 34 bytes: the two records of the history are read, flagged torn, the file is truncated
to them; replaying them recovers a row-prefix state of the UPDATE (the rows `(5)`, `(6)`: no row
rewritten). -/
theorem update_byte_cut_example : ∃ db1 db2,
    SpecRun schT tableDB sdbA0 [.insert tname [] [[.int 5], [.int 6]]] db1 sdbA1 ∧
    Engine.evalUpdate db1 tname [([97], .lit (.int 7))] (some (condEq 5)) = .ok () db2 ∧
    db1.wal = [recT1, recT2] ∧ db2.wal = [recT1, recT2, recT3] ∧
    (∀ r ∈ db2.wal, (toRec r).wf) ∧
    ByteCut db1.wal db2.wal 20 0 true ∧
    ∃ rK ptK tblsK sdbK stK,
      replayAll [recT1, recT2] tableDB.store = (rK, none, false) ∧
      AbsV rK ptK schT tblsK sdbK ∧
      Spec.findTable sdbK tname = some stK ∧
      (tname, stK.rows.map (·.vals)) ∈
        Spec.rowPrefixStates sdbA1 (.update tname [([97], .lit (.int 7))] (some (condEq 5))) ∧
      rK.hdr.lastKey = 12 := by
  obtain ⟨db1, db2, _, run1, e2, _, hw1, hh1, hw2, hh2, _⟩ := historyT
  obtain ⟨hwf, k, torn, hcut⟩ := stmt_byte_cut schT run1
    (.update tname [([97], .lit (.int 7))] (some (condEq 5)) set7_valid specA2 e2 (.nil db2 sdbA2)) rfl ptT [(tname, tT)]
    abs_tableDB.toV (by rw [hh2]; decide) (by rw [hh2]; decide) (by rw [hh2]; decide) 20
  obtain ⟨rK, ptK, tblsK, sdbK, stK, hre, hAR, hfind, hmem, _, hlk, _⟩ :=
    update_crash_rowPrefixState schT run1 rfl ptT [(tname, tT)] abs_tableDB.toV ptT_self freshM_tableDB tname
      [([97], .lit (.int 7))] (some (condEq 5)) set7_valid sdbA2 specA2 db2 e2 k
  obtain rfl : k = 0 := hcut.k_eq (by rw [hw1, hw2]; decide) (by rw [hw1, hw2]; decide) (by rw [hw1, hw2]; decide)
  obtain rfl : torn = true := hcut.2.2.2.2.1.mpr (by rw [hw1, hw2]; decide)
  have hlk' : rK.hdr.lastKey = 12 := by rw [hlk, hh1]
  rw [hw1, hw2] at hre
  exact ⟨db1, db2, run1, e2, hw1, hw2, hwf, hcut, rK, ptK, tblsK, sdbK, stK, hre, hAR, hfind, hmem, hlk'⟩

/-- **Non-vacuity of `C03_delete_byte_cut_leaves_row_prefix`.**  After the acknowledged INSERT and UPDATE, the DELETE's
record (29 bytes) reached the file completely (position 40 behind the history, beyond the end of the
file): all four records are read, not torn; replaying them recovers a row-prefix state of the DELETE. -/
theorem delete_byte_cut_example : ∃ db2 db3,
    SpecRun schT tableDB sdbA0 [.insert tname [] [[.int 5], [.int 6]],
      .update tname [([97], .lit (.int 7))] (some (condEq 5))] db2 sdbA2 ∧
    Engine.evalDelete db2 tname (some (condEq 6)) = .ok 1 db3 ∧
    db2.wal = [recT1, recT2, recT3] ∧ db3.wal = [recT1, recT2, recT3, recT4] ∧
    (∀ r ∈ db3.wal, (toRec r).wf) ∧
    ByteCut db2.wal db3.wal 40 1 false ∧
    ∃ rK ptK tblsK sdbK stK,
      replayAll [recT1, recT2, recT3, recT4] tableDB.store = (rK, none, false) ∧
      AbsV rK ptK schT tblsK sdbK ∧
      Spec.findTable sdbK tname = some stK ∧
      (tname, stK.rows.map (·.vals)) ∈ Spec.rowPrefixStates sdbA2 (.delete tname (some (condEq 6))) := by
  obtain ⟨db1, db2, db3, run1, e2, e3, _, _, hw2, _, hw3, hh3⟩ := historyT
  have run2 : SpecRun schT tableDB sdbA0 [.insert tname [] [[.int 5], [.int 6]],
      .update tname [([97], .lit (.int 7))] (some (condEq 5))] db2 sdbA2 :=
    run1.append (.update tname [([97], .lit (.int 7))] (some (condEq 5)) set7_valid specA2 e2 (.nil db2 sdbA2))
  obtain ⟨hwf, k, torn, hcut⟩ := stmt_byte_cut schT run2
    (.delete tname (some (condEq 6)) specA3 e3 (.nil db3 sdbA3)) rfl ptT [(tname, tT)]
    abs_tableDB.toV (by rw [hh3]; decide) (by rw [hh3]; decide) (by rw [hh3]; decide) 40
  obtain ⟨rK, ptK, tblsK, sdbK, stK, hre, hAR, hfind, hmem, _⟩ :=
    delete_crash_rowPrefixState schT run2 rfl ptT [(tname, tT)] abs_tableDB.toV ptT_self freshM_tableDB tname
      (some (condEq 6)) sdbA3 specA3 1 db3 e3 k
  obtain rfl : k = 1 := hcut.k_eq (by rw [hw2, hw3]; decide) (by rw [hw2, hw3]; decide) (by rw [hw2, hw3]; decide)
  obtain rfl : torn = false := Bool.eq_false_iff.mpr fun ht => absurd (hcut.2.2.2.2.1.mp ht) (by rw [hw2, hw3]; decide)
  rw [hw2, hw3] at hre
  exact ⟨db2, db3, run2, e3, hw2, hw3, hwf, hcut, rK, ptK, tblsK, sdbK, stK, hre, hAR, hfind, hmem⟩

end Mkdb.Store
end

section
/-!
On `db8` (eight tables; the page table has
split and its self-row is stale, `db8_stale`), the append of the ten records of `INSERT INTO t1 VALUES
(1), …, (9)` is cut after ANY number `k` of them; the surviving records replayed on the store before the
statement leave `t1` with a row prefix `(1), …, (j)` and every other table untouched.  The cut `k = 9` is
the one inside the root-moving row: the INSERT record of row 9 is there, the UPDATE record of the catalog
row is not, and `replayOne` itself re-points the catalog row of `t1` (`repointPageTable`: the first row of
the page table whose offset is the old root 12288) - in a page table that also holds the stale row
`(sys_pages, 4096)`.
-/
set_option autoImplicit false
namespace Mkdb.Store
open Mkdb.Page Mkdb.Tuple Mkdb.Generated Mkdb.Tree Mkdb.Engine

def lrows9 : List (List Sql.Lit) :=
  [[.int 1], [.int 2], [.int 3], [.int 4], [.int 5], [.int 6], [.int 7], [.int 8], [.int 9]]

theorem lrows9_vals : (lrows9.map fun r => r.map Spec.litVal) = rows9 := rfl

theorem split_page_table_torn_insert (k : Nat) : ∃ sch8 pt8 tbls8,
    Ckpt sch8 db8 sdb8 pt8 tbls8 ∧ ¬ PtSelfRoot pt8 ∧
    ∃ rK ptR tblsK sdbK stK j,
      replayAll (db9.wal.take k) db8.store = (rK, none, false) ∧
      AbsV rK ptR sch8 tblsK sdbK ∧
      Spec.findTable sdbK [116, 49] = some stK ∧
      (([116, 49] : Bytes), stK.rows.map (·.vals)) ∈ Spec.rowPrefixStates sdb8 (.insert [116, 49] [] lrows9) ∧
      (∀ n, n ≠ ([116, 49] : Bytes) → Spec.findTable sdbK n = Spec.findTable sdb8 n) ∧
      j ≤ 9 ∧ rK.hdr.lastKey = db8.store.hdr.lastKey + j := by
  obtain ⟨sch8, pt8, tbls8, _, hk, hstale, run, _, _⟩ := split_page_table_crash
  refine ⟨sch8, pt8, tbls8, hk, hstale, ?_⟩
  cases run with
  | @insert _ db1 _ _ sdb1 _ _ n _ _ _ hvalid hspec hrunok heval hrest =>
    cases hrest
    have h := insert_crash_rowPrefixState sch8 (.nil db8 sdb8) db8_wal pt8 tbls8 hk.abs hk.self hk.fresh
      [116, 49] [] lrows9 (by rw [lrows9_vals]; exact hvalid) sdb9 (by rw [lrows9_vals]; exact hspec)
      (by rw [lrows9_vals]; exact hrunok) n db9 (by rw [lrows9_vals]; exact heval) k
    rw [db8_wal, List.nil_append, List.length_nil, List.drop_zero] at h
    exact h

end Mkdb.Store
end
