import Mkdb.Proofs.TreeBubble
/-!
`insertAppend` preserves the invariant: the leaf level clause by clause from `insertAppend_inv_cases`,
the internal levels from the `bubble_*` lemmas, assembled in `insertAppend_inv`.  Then the outcome by the key (above
all stored keys: `insertAppend_beyond`, `insertAppend_fresh`; a stored key: `insertAppend_present`; what each error
says: `insertAppend_error`), and what the insert does to the pages of the tree (`insertAppend_touched`).
-/
set_option autoImplicit false
namespace Mkdb.Tree
open Mkdb.Page Mkdb.Generated

/-! ### `chainFrom` on lists that change at an end (for the clause `chain` below) -/

theorem chainFrom_tail_congr (a a' : Leaf) (as as' : List Leaf) (hoff : a.off = a'.off)
    (H : ∀ prev, chainFrom prev (a :: as) → chainFrom prev (a' :: as')) (pre : List Leaf) :
    ∀ prev, chainFrom prev (pre ++ a :: as) → chainFrom prev (pre ++ a' :: as') := by
  induction pre with
  | nil => intro prev h; exact H prev h
  | cons l ps ih =>
    intro prev h
    obtain ⟨h1, h2, h3⟩ := h
    refine ⟨h1, ?_, ih _ h3⟩
    cases ps with
    | nil => simpa [← hoff] using h2
    | cons m ms => simpa using h2

theorem chainFrom_app (last : Leaf) (k lsn : Nat) (v : Bytes) (prev : Option Nat)
    (h : chainFrom prev [last]) : chainFrom prev [leafApp last k lsn v] := by
  cases prev <;> simpa [chainFrom, leafApp] using h

theorem chainFrom_split (last : Leaf) (k lsn nf : Nat) (v : Bytes) (prev : Option Nat)
    (h : chainFrom prev [last]) :
    chainFrom prev [leafL (leafApp last k lsn v) nf, leafR (leafApp last k lsn v) lsn nf] := by
  cases prev <;> simp [chainFrom, leafApp, leafL, leafR] at h ⊢ <;> exact h.1

/-! ### ascending keys -/

theorem pre_nil_of_last_empty {t : Levels} {pre : List (Leaf × Bool)} {last : Leaf} {d : Bool}
    (hne : LeavesNonempty t) (hpre : t.leaves = pre ++ [(last, d)]) (h : last.cells = []) : pre = [] := by
  cases pre with
  | nil => rfl
  | cons x xs => exact absurd h (hne (by simp [hpre]) (last, d) (by simp [hpre]))

theorem lt_of_pairwise_snoc (xs : List Nat) (c : Nat) (h : (xs ++ [c]).Pairwise (· < ·)) :
    ∀ a ∈ xs, a < c := by
  intro a ha
  exact (List.pairwise_append.mp h).2.2 a ha c (by simp)

theorem keys_lt_of_append {t : Levels} {pre : List (Leaf × Bool)} {last : Leaf} {d : Bool} {k : Nat}
    (hasc : KeysAsc t) (hne : LeavesNonempty t) (hpre : t.leaves = pre ++ [(last, d)])
    (hk : ∀ c, last.cells.getLast? = some c → c.key < k) : ∀ a ∈ keys t, a < k := by
  have hcells : cells t = pre.flatMap (·.1.cells) ++ last.cells := by
    simp [cells, hpre, List.flatMap_append]
  rcases eq_nil_or_snoc last.cells with hnil | ⟨cs, c, hcs⟩
  · have := pre_nil_of_last_empty hne hpre hnil
    intro a ha
    simp [keys, hcells, this, hnil] at ha
  · have hck : c.key < k := hk c (by rw [hcs]; exact List.getLast?_concat)
    have hkeys : keys t = (pre.flatMap (·.1.cells) ++ cs).map (·.key) ++ [c.key] := by
      simp [keys, hcells, hcs]
    intro a ha
    rw [hkeys] at ha
    rcases List.mem_append.mp ha with ha | ha
    · have := lt_of_pairwise_snoc _ _ (by rw [← hkeys]; exact hasc) a ha
      omega
    · simp only [List.mem_singleton] at ha
      omega

theorem insertAppend_asc (t t' : Levels) (k lsn nf nf' : Nat) (v : Bytes)
    (hasc : KeysAsc t) (hne : LeavesNonempty t)
    (h : insertAppend t k lsn v nf = .ok (t', nf')) : KeysAsc t' := by
  obtain ⟨pre, last, d, hpre, hk, _, _⟩ := insertAppend_inv_cases h
  have hlt := keys_lt_of_append hasc hne hpre hk
  unfold KeysAsc keys
  rw [cells_insertAppend t t' k lsn nf nf' v h, List.map_append, List.pairwise_append]
  refine ⟨hasc, by simp, ?_⟩
  intro a ha b hb
  simp only [List.map_cons, List.map_nil, List.mem_singleton] at hb
  subst hb
  exact hlt a ha

/-! ### nonempty leaves -/

theorem insertAppend_ne (h2 : 2 ≤ c_maxLeafNodeCells) (t t' : Levels) (k lsn nf nf' : Nat) (v : Bytes)
    (hne : LeavesNonempty t) (h : insertAppend t k lsn v nf = .ok (t', nf')) : LeavesNonempty t' := by
  obtain ⟨pre, last, d, hpre, _, _, hcase⟩ := insertAppend_inv_cases h
  have hpre_ne : ∀ p ∈ pre, p.1.cells ≠ [] := by
    intro p hp
    cases pre with
    | nil => cases hp
    | cons x xs => exact hne (by simp [hpre]) p (by rw [hpre]; exact List.mem_append_left _ hp)
  rcases hcase with ⟨_, rfl, _⟩ | ⟨hge, rfl, _⟩
  · intro _ p hp
    rcases List.mem_append.mp hp with hp | hp
    · exact hpre_ne p hp
    · simp only [List.mem_singleton] at hp
      subst hp
      simp [leafApp]
  · intro _ p hp
    rcases List.mem_append.mp hp with hp | hp
    · exact hpre_ne p hp
    · have := leaf_split_len (leafApp last k lsn v) lsn nf (by omega)
      simp only [List.mem_cons, List.not_mem_nil, or_false] at hp
      rcases hp with rfl | rfl
      · exact List.ne_nil_of_length_pos this.1.1
      · exact List.ne_nil_of_length_pos this.2.1

/-! ### capacity -/

theorem insertAppend_cap (h2 : 2 ≤ c_maxLeafNodeCells) (h3 : 3 ≤ c_maxInternalNodeCells)
    (t t' : Levels) (k lsn nf nf' : Nat) (v : Bytes)
    (hcap : CapOK t) (h : insertAppend t k lsn v nf = .ok (t', nf')) : CapOK t' := by
  obtain ⟨pre, last, d, hpre, _, _, hcase⟩ := insertAppend_inv_cases h
  obtain ⟨hl, hi⟩ := hcap
  have hpre_cap : ∀ p ∈ pre, p.1.cells.length < c_maxLeafNodeCells :=
    fun p hp => hl p (by rw [hpre]; exact List.mem_append_left _ hp)
  have hlast : last.cells.length < c_maxLeafNodeCells := hl (last, d) (by simp [hpre])
  have hlen := leafApp_len last k lsn v
  rcases hcase with ⟨hlt, rfl, _⟩ | ⟨hge, rfl, _⟩
  · refine ⟨?_, hi⟩
    intro p hp
    rcases List.mem_append.mp hp with hp | hp
    · exact hpre_cap p hp
    · simp only [List.mem_singleton] at hp
      subst hp
      exact hlt
  · refine ⟨?_, bubble_cap h3 _ _ _ _ _ _ hi⟩
    intro p hp
    rcases List.mem_append.mp hp with hp | hp
    · exact hpre_cap p hp
    · have := leaf_split_len (leafApp last k lsn v) lsn nf (by omega)
      simp only [List.mem_cons, List.not_mem_nil, or_false] at hp
      rcases hp with rfl | rfl
      · exact Nat.lt_of_lt_of_le this.1.2 (by omega)
      · exact Nat.lt_of_lt_of_le this.2.2 (by omega)

/-! ### the leaf chain (`chain`) -/

theorem insertAppend_chain (t t' : Levels) (k lsn nf nf' : Nat) (v : Bytes)
    (hch : ChainOK t) (h : insertAppend t k lsn v nf = .ok (t', nf')) : ChainOK t' := by
  obtain ⟨pre, last, d, hpre, _, _, hcase⟩ := insertAppend_inv_cases h
  unfold ChainOK at hch ⊢
  rw [hpre, List.map_append] at hch
  rcases hcase with ⟨_, rfl, _⟩ | ⟨_, rfl, _⟩
  · simp only [List.map_append, List.map_cons, List.map_nil] at hch ⊢
    exact chainFrom_tail_congr last (leafApp last k lsn v) [] [] rfl (chainFrom_app last k lsn v) _ _ hch
  · simp only [List.map_append, List.map_cons, List.map_nil] at hch ⊢
    exact chainFrom_tail_congr last (leafL (leafApp last k lsn v) nf) []
      [leafR (leafApp last k lsn v) lsn nf] rfl (chainFrom_split last k lsn nf v) _ _ hch

/-! ### links -/

theorem insertAppend_link (t t' : Levels) (k lsn nf nf' : Nat) (v : Bytes)
    (hl : LinkOK t) (h : insertAppend t k lsn v nf = .ok (t', nf')) : LinkOK t' := by
  obtain ⟨pre, last, d, hpre, _, _, hcase⟩ := insertAppend_inv_cases h
  unfold LinkOK at hl ⊢
  rw [hpre] at hl
  rcases hcase with ⟨_, rfl, _⟩ | ⟨_, rfl, _⟩
  · simpa [leafApp] using hl
  · have := bubble_link lsn t.inner
      (((leafR (leafApp last k lsn v) lsn nf).cells.head?.map (·.key)).getD 0)
      last.off nf (nf + c_pageSize) _ hl (by simp)
    simpa [leafApp, leafL, leafR] using this

/-! ### separators -/

theorem insertAppend_seps (h2 : 2 ≤ c_maxLeafNodeCells) (t t' : Levels) (k lsn nf nf' : Nat) (v : Bytes)
    (hcap : CapOK t) (hne : LeavesNonempty t) (hl : LinkOK t) (hs : SepsOK t)
    (h : insertAppend t k lsn v nf = .ok (t', nf')) : SepsOK t' := by
  obtain ⟨pre, last, d, hpre, _, _, hcase⟩ := insertAppend_inv_cases h
  have hlen := leafApp_len last k lsn v
  unfold SepsOK at hs ⊢
  rcases hcase with ⟨_, rfl, _⟩ | ⟨hge, rfl, _⟩
  · cases hcs : last.cells with
    | nil =>
      have := pre_nil_of_last_empty hne hpre hcs
      have hin : t.inner = [] := inner_nil_of_single t hcap hl (by simp [hpre, this])
      simp [hin, sepsAll]
    | cons x xs =>
      have : (leafApp last k lsn v).cells.head? = last.cells.head? := by simp [leafApp, hcs]
      rw [hpre] at hs
      simpa [this] using hs
  · have hlo : (leafL (leafApp last k lsn v) nf).cells.head? = last.cells.head? := by
      cases hcs : last.cells with
      | nil => simp [hcs] at hlen; omega
      | cons x xs =>
        have : (xs.length + 1 + 1) / 2 ≠ 0 := by omega
        simp [leafL, leafApp, hcs, List.head?_take, this]
    have := bubble_seps lsn t.inner
      (((leafR (leafApp last k lsn v) lsn nf).cells.head?.map (·.key)).getD 0)
      last.off nf (nf + c_pageSize) _ _ hl hs (by simp)
    rw [hpre] at this
    simpa [hlo] using this

/-! ### offsets and the allocation frontier -/

theorem offs_insertAppend {t t' : Levels} {k lsn nf nf' : Nat} {v : Bytes}
    (h : insertAppend t k lsn v nf = .ok (t', nf')) :
    (offs t' = offs t ∧ nf' = nf) ∨
    ∃ sep l, offs t' = t.leaves.map (·.1.off) ++ [nf] ++
        innerOffs (bubble lsn t.inner sep l nf (nf + c_pageSize)).1 ∧
      nf' = (bubble lsn t.inner sep l nf (nf + c_pageSize)).2 := by
  obtain ⟨pre, last, d, hpre, _, _, hcase⟩ := insertAppend_inv_cases h
  rcases hcase with ⟨_, rfl, rfl⟩ | ⟨_, rfl, rfl⟩
  · left
    simp [offs_eq, hpre, leafApp]
  · right
    refine ⟨_, _, ?_, rfl⟩
    simp [offs_eq, hpre, leafApp, leafL, leafR]

theorem insertAppend_nextFree (t t' : Levels) (k lsn nf nf' : Nat) (v : Bytes)
    (h : insertAppend t k lsn v nf = .ok (t', nf')) : nf ≤ nf' := by
  rcases offs_insertAppend h with ⟨_, rfl⟩ | ⟨sep, l, _, rfl⟩
  · exact Nat.le_refl _
  · exact Nat.le_trans (Nat.le_add_right _ _) (bubble_offs (by decide) lsn t.inner sep l nf (nf + c_pageSize)).1

theorem insertAppend_offs_new (t t' : Levels) (k lsn nf nf' : Nat) (v : Bytes)
    (h : insertAppend t k lsn v nf = .ok (t', nf')) :
    ∀ o ∈ offs t', o ∈ offs t ∨ (nf ≤ o ∧ o < nf') := by
  intro o ho
  rcases offs_insertAppend h with ⟨e, _⟩ | ⟨sep, l, e, rfl⟩
  · exact .inl (e ▸ ho)
  · obtain ⟨b1, b2, _⟩ := bubble_offs (by decide) lsn t.inner sep l nf (nf + c_pageSize)
    rw [e] at ho
    rw [offs_eq]
    rcases List.mem_append.mp ho with ho | ho
    · rcases List.mem_append.mp ho with ho | ho
      · exact .inl (List.mem_append_left _ ho)
      · rw [List.mem_singleton.mp ho]
        exact .inr ⟨Nat.le_refl _, Nat.lt_of_lt_of_le (Nat.lt_add_of_pos_right (by decide)) b1⟩
    · exact (b2 o ho).imp (List.mem_append_right _) (fun hm => ⟨Nat.le_trans (Nat.le_add_right _ _) hm.1, hm.2⟩)

theorem insertAppend_offs (hps : 0 < c_pageSize) (t t' : Levels) (k lsn nf nf' : Nat) (v : Bytes)
    (ho : OffsOK t nf) (h : insertAppend t k lsn v nf = .ok (t', nf')) : OffsOK t' nf' := by
  refine ⟨?_, fun o hmem => ?_⟩
  · rcases offs_insertAppend h with ⟨e, _⟩ | ⟨sep, l, e, rfl⟩
    · exact e ▸ ho.1
    · obtain ⟨_, b2, b3⟩ := bubble_offs hps lsn t.inner sep l nf (nf + c_pageSize)
      rw [e]
      exact nodup_aux _ _ _ nf c_pageSize _ hps (offs_eq t ▸ ho.1) (offs_eq t ▸ ho.2) b3 b2
  · rcases insertAppend_offs_new t t' k lsn nf nf' v h o hmem with hm | hm
    · exact Nat.lt_of_lt_of_le (ho.2 o hm) (insertAppend_nextFree t t' k lsn nf nf' v h)
    · exact hm.2

/-! ### the clauses together; the outcome by the key; the pages after -/

theorem insertAppend_inv (t t' : Levels) (k lsn nf nf' : Nat) (v : Bytes) (hinv : Inv t nf)
    (h : insertAppend t k lsn v nf = .ok (t', nf')) : Inv t' nf' :=
  have h2 : 2 ≤ c_maxLeafNodeCells := by decide
  have h3 : 3 ≤ c_maxInternalNodeCells := by decide
  have hps : 0 < c_pageSize := by decide
  { cap := insertAppend_cap h2 h3 t t' k lsn nf nf' v hinv.cap h
    asc := insertAppend_asc t t' k lsn nf nf' v hinv.asc hinv.ne h
    ne := insertAppend_ne h2 t t' k lsn nf nf' v hinv.ne h
    chain := insertAppend_chain t t' k lsn nf nf' v hinv.chain h
    link := insertAppend_link t t' k lsn nf nf' v hinv.link h
    seps := insertAppend_seps h2 t t' k lsn nf nf' v hinv.cap hinv.ne hinv.link hinv.seps h
    offs := insertAppend_offs hps t t' k lsn nf nf' v hinv.offs h }

theorem insertAppend_beyond (t : Levels) (nf key lsn : Nat) (value : Bytes) (hI : Inv t nf)
    (hk : ∀ a ∈ keys t, a < key) :
    if value.length > c_maxValueSize then insertAppend t key lsn value nf = .error .rowTooLarge
    else ∃ r, insertAppend t key lsn value nf = .ok r := by
  obtain ⟨lpre, ⟨last, d⟩, hpre⟩ : ∃ lpre x, t.leaves = lpre ++ [x] :=
    (eq_nil_or_snoc t.leaves).resolve_left fun h => linked_below_ne t.inner _ hI.link (by rw [h]; rfl)
  have hlast : t.leaves.getLast? = some (last, d) := by rw [hpre]; exact List.getLast?_concat
  have hany : (cells t).any (fun c => c.key == key) = false := by
    rw [List.any_eq_false]
    intro c hc hck
    have := hk c.key (List.mem_map.mpr ⟨c, hc, rfl⟩)
    simp only [beq_iff_eq] at hck
    omega
  unfold insertAppend
  simp only [hlast, hany, Bool.false_eq_true, if_false]
  split
  · rfl
  · have hnot : ((last.cells.getLast?.map (·.key)).getD 0 ≥ key && !last.cells.isEmpty) = false := by
      rcases eq_nil_or_snoc last.cells with h | ⟨cs, c, h⟩
      · simp [h]
      · have hc : c ∈ cells t := List.mem_flatMap.mpr ⟨(last, d), by simp [hpre], by simp [h]⟩
        have := hk c.key (List.mem_map.mpr ⟨c, hc, rfl⟩)
        simp only [h, List.getLast?_concat, Option.map_some, Option.getD_some, ge_iff_le,
          Bool.and_eq_false_imp, decide_eq_true_eq]
        intro hle
        omega
    simp only [hnot, Bool.false_eq_true, if_false]
    split <;> exact ⟨_, rfl⟩

theorem insertAppend_present {t : Levels} {key : Nat} (hk : key ∈ keys t) (lsn : Nat) (value : Bytes) (nf : Nat) :
    insertAppend t key lsn value nf = .error .keyExists := by
  obtain ⟨c, hc, hck⟩ := List.mem_map.mp hk
  have hany : (cells t).any (fun c => c.key == key) = true := List.any_eq_true.mpr ⟨c, hc, by simp [hck]⟩
  unfold insertAppend
  cases hlast : t.leaves.getLast? with
  | none =>
    rw [cells, List.getLast?_eq_none_iff.mp hlast] at hc
    exact absurd hc List.not_mem_nil
  | some x => simp only [hany, if_true]

theorem insertAppend_pages_new (t t' : Levels) (k lsn nf nf' : Nat) (v : Bytes)
    (h : insertAppend t k lsn v nf = .ok (t', nf')) :
    ∀ x ∈ flatten t', x ∈ flatten t ∨ (Mkdb.Store.nodeLSN x.2.1 = lsn ∧ x.2.2 = true) := by
  obtain ⟨pre, last, d, hpre, _, _, hcase⟩ := insertAppend_inv_cases h
  have hold : ∀ q ∈ pre, (q.1.off, Node.leaf q.1, q.2) ∈ flatten t := fun q hq =>
    mem_flatten.mpr (.inl ⟨q, by rw [hpre]; exact List.mem_append_left _ hq, rfl⟩)
  intro x hx
  rcases hcase with ⟨_, rfl, _⟩ | ⟨_, rfl, _⟩
  · rcases mem_flatten.mp hx with ⟨q, hq, rfl⟩ | ⟨lvl, hl, q, hq, rfl⟩
    · rcases List.mem_append.mp hq with hq | hq
      · exact .inl (hold q hq)
      · obtain rfl := List.mem_singleton.mp hq
        exact .inr ⟨rfl, rfl⟩
    · exact .inl (mem_flatten.mpr (.inr ⟨lvl, hl, q, hq, rfl⟩))
  · rcases mem_flatten.mp hx with ⟨q, hq, rfl⟩ | ⟨lvl', hl', q, hq, rfl⟩
    · rcases List.mem_append.mp hq with hq | hq
      · exact .inl (hold q hq)
      · simp only [List.mem_cons, List.not_mem_nil, or_false] at hq
        rcases hq with rfl | rfl <;> exact .inr ⟨rfl, rfl⟩
    · rcases bubble_pages_new lsn t.inner _ _ _ _ lvl' hl' q hq with ⟨lv, hlv, hp'⟩ | h2
      · exact .inl (mem_flatten.mpr (.inr ⟨lv, hlv, q, hp', rfl⟩))
      · exact .inr h2

theorem insertAppend_page_kept (t t' : Levels) (k lsn nf nf' : Nat) (v : Bytes) (hI : Inv t nf)
    (h : insertAppend t k lsn v nf = .ok (t', nf')) :
    ∀ e ∈ flatten t, ∃ e' ∈ flatten t',
      e'.1 = e.1 ∧ (e' = e ∨ (Mkdb.Store.nodeLSN e'.2.1 = lsn ∧ e'.2.2 = true)) := by
  obtain ⟨pre, last, d, hpre, _, _, hcase⟩ := insertAppend_inv_cases h
  intro e he
  rcases mem_flatten.mp he with ⟨p, hp, rfl⟩ | ⟨lvl, hl, p, hp, rfl⟩
  · rw [hpre] at hp
    rcases List.mem_append.mp hp with hp | hp
    · refine ⟨_, mem_flatten.mpr (.inl ⟨p, ?_, rfl⟩), rfl, .inl rfl⟩
      rcases hcase with ⟨_, rfl, _⟩ | ⟨_, rfl, _⟩ <;> exact List.mem_append_left _ hp
    · obtain rfl := List.mem_singleton.mp hp
      rcases hcase with ⟨_, rfl, _⟩ | ⟨_, rfl, _⟩
      · exact ⟨_, mem_flatten.mpr
            (.inl ⟨(leafApp last k lsn v, true), List.mem_append_right _ List.mem_cons_self, rfl⟩),
          rfl, .inr ⟨rfl, rfl⟩⟩
      · exact ⟨_, mem_flatten.mpr (.inl ⟨(leafL (leafApp last k lsn v) nf, true),
          List.mem_append_right _ List.mem_cons_self, rfl⟩), rfl, .inr ⟨rfl, rfl⟩⟩
  · rcases hcase with ⟨_, rfl, _⟩ | ⟨_, rfl, _⟩
    · exact ⟨_, mem_flatten.mpr (.inr ⟨lvl, hl, p, hp, rfl⟩), rfl, .inl rfl⟩
    · obtain ⟨lvl', hl', p', hp', h1, h2⟩ := bubble_page_kept lsn t.inner
        (((leafR (leafApp last k lsn v) lsn nf).cells.head?.map (·.key)).getD 0) last.off nf (nf + c_pageSize)
        (linked_levels_ne t.inner _ hI.link) lvl hl p hp
      refine ⟨_, mem_flatten.mpr (.inr ⟨lvl', hl', p', hp', rfl⟩), h1, ?_⟩
      rcases h2 with rfl | ⟨a, b⟩
      · exact .inl rfl
      · exact .inr ⟨a, b⟩

theorem insertAppend_touched {t t' : Levels} {k lsn nf nf' : Nat} {v : Bytes} (hI : Inv t nf)
    (h : insertAppend t k lsn v nf = .ok (t', nf')) : Touched lsn t t' :=
  ⟨insertAppend_pages_new t t' k lsn nf nf' v h, insertAppend_page_kept t t' k lsn nf nf' v hI h⟩

end Mkdb.Tree

namespace Mkdb.Store
open Mkdb.Page Mkdb.Generated Mkdb.Tree

theorem insertAppend_fresh (t : Levels) (nf key lsn : Nat) (value : Bytes) (hI : Inv t nf)
    (hk : ∀ a ∈ keys t, a < key) (hv : value.length ≤ c_maxValueSize) :
    ∃ r, insertAppend t key lsn value nf = .ok r := by
  have := insertAppend_beyond t nf key lsn value hI hk
  rwa [if_neg (Nat.not_lt.mpr hv)] at this

theorem insertAppend_tooLarge (t : Levels) (nf key lsn : Nat) (value : Bytes) (hI : Inv t nf)
    (hk : ∀ a ∈ keys t, a < key) (hv : value.length > c_maxValueSize) :
    insertAppend t key lsn value nf = .error .rowTooLarge := by
  have := insertAppend_beyond t nf key lsn value hI hk
  rwa [if_pos hv] at this

theorem insertAppend_error {t : Levels} {key lsn nf : Nat} {value : Bytes} {e : InsErr}
    (h : insertAppend t key lsn value nf = .error e) :
    match e with
    | .malformed => t.leaves = []
    | .keyExists => ∃ c ∈ cells t, c.key = key
    | .rowTooLarge => (∀ c ∈ cells t, c.key ≠ key) ∧ value.length > c_maxValueSize
    | .notAppend => True := by
  unfold insertAppend at h
  split at h
  next hl => cases h; exact List.getLast?_eq_none_iff.mp hl
  next =>
    split at h
    next hany =>
      cases h
      obtain ⟨c, hc, hck⟩ := List.any_eq_true.mp hany
      exact ⟨c, hc, by simpa using hck⟩
    next hany =>
      split at h
      next hv => cases h; exact ⟨fun c hc hck => hany (List.any_eq_true.mpr ⟨c, hc, by simp [hck]⟩), hv⟩
      next =>
        split at h
        · cases h; trivial
        · dsimp only at h
          split at h <;> cases h

end Mkdb.Store
