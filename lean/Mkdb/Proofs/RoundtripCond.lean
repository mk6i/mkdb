import Mkdb.Proofs.Roundtrip
import Mkdb.Proofs.WfShape
/-!
Token-level round trip (C10): the literal tokens are good (`intLitTok` for every int64, the standard
ones among them), column references,
value expressions, comparisons, AND / OR conditions of any shape the parser can return (the last
operand of an AND chain may be a bare value).
-/
namespace Mkdb.Sql
open Mkdb.Scan Mkdb.Generated

theorem digitsVal_append (xs ys : Bytes) (acc : Nat) :
    digitsVal (xs ++ ys) acc = match digitsVal xs acc with | some a => digitsVal ys a | none => none := by
  induction xs generalizing acc with
  | nil => rfl
  | cons b t ih =>
    simp only [List.cons_append, digitsVal]
    split
    · exact ih _
    · rfl

theorem digitByte_toNat (d : Nat) (h : d < 10) : (digitByte d).toNat = 48 + d := by
  simp only [digitByte, UInt8.toNat_ofNat']; omega

theorem natDigitsF_val (f : Nat) : ∀ n, n ≤ f → digitsVal (natDigitsF f n) 0 = some n := by
  induction f with
  | zero =>
    intro n h
    have : n = 0 := by omega
    subst this
    rfl
  | succ f ih =>
    intro n h
    unfold natDigitsF
    split
    · rename_i hn
      simp only [digitsVal, digitByte_toNat n hn]
      rw [if_pos (by omega)]
      congr 1; omega
    · rename_i hn
      rw [digitsVal_append, ih (n / 10) (by omega)]
      simp only [digitsVal, digitByte_toNat (n % 10) (by omega)]
      rw [if_pos (by omega)]
      congr 1; omega

theorem natDigitsF_digits (f : Nat) : ∀ n, ∀ b ∈ natDigitsF f n, 48 ≤ b.toNat ∧ b.toNat ≤ 57 := by
  induction f with
  | zero =>
    intro n b hb
    simp only [natDigitsF, List.mem_singleton] at hb
    subst hb
    rw [digitByte_toNat _ (by omega)]; omega
  | succ f ih =>
    intro n b hb
    unfold natDigitsF at hb
    split at hb
    · rename_i hn
      simp only [List.mem_singleton] at hb
      subst hb
      rw [digitByte_toNat _ hn]; omega
    · simp only [List.mem_append, List.mem_singleton] at hb
      cases hb with
      | inl h => exact ih _ b h
      | inr h => subst h; rw [digitByte_toNat _ (by omega)]; omega

theorem natDigitsF_ne_nil (f n : Nat) : natDigitsF f n ≠ [] := by
  cases f with
  | zero => simp [natDigitsF]
  | succ f => unfold natDigitsF; split <;> simp

/-- `strconv.Atoi` on the decimal digits of `n`, with a minus sign or without a sign -/
theorem atoi_natDigits_signed (neg : Bool) (n : Nat) (h : n ≤ if neg then 9223372036854775808 else 9223372036854775807) :
    atoi ((if neg then [45] else []) ++ natDigits n) = some (if neg then -(n : Int) else n) := by
  have hv : digitsVal (natDigits n) 0 = some n := natDigitsF_val n n (Nat.le_refl n)
  have hd := natDigitsF_digits n n
  have hne := natDigitsF_ne_nil n n
  unfold natDigits at *
  generalize natDigitsF n n = ds at *
  cases ds with
  | nil => exact absurd rfl hne
  | cons b tl =>
    have hb := hd b List.mem_cons_self
    cases neg with
    | true =>
      simp only [↓reduceIte, List.cons_append, List.nil_append, atoi, List.isEmpty_cons, Bool.false_eq_true, hv] at h ⊢
      rw [if_neg (by omega)]
    | false =>
      have h43 : b ≠ 43 := by intro e; subst e; simp at hb
      have h45 : b ≠ 45 := by intro e; subst e; simp at hb
      simp only [Bool.false_eq_true, ↓reduceIte, List.nil_append] at h ⊢
      unfold atoi
      split
      · rename_i heq; split at heq
        · rename_i h1; cases h1; exact absurd rfl h43
        · rename_i h1; cases h1; exact absurd rfl h45
        · cases heq
          simp only [List.isEmpty_cons, Bool.false_eq_true, ↓reduceIte, hv]
          rw [if_neg (by omega)]

/-- literal tokens for every int64: a minus sign before the digits of a negative integer
(`strconv.Atoi` reads it; the scanner never writes one) -/
def intLitTok : Lit → Token
  | .int i => ⟨t_INT, if i < 0 then 45 :: natDigits i.natAbs else natDigits i.toNat⟩
  | .str b => ⟨t_STR, b⟩
  | .bool true => ⟨t_TRUE, []⟩
  | .bool false => ⟨t_FALSE, []⟩

theorem intLitTok_good (l : Lit) (h : int64Lit l = true) : GoodLit intLitTok l := by
  cases l with
  | int i =>
    simp only [int64Lit, Bool.and_eq_true, decide_eq_true_eq] at h
    refine ⟨rfl, ?_⟩
    by_cases hneg : i < 0
    · have ha : atoi (45 :: natDigits i.natAbs) = some (-((i.natAbs : Nat) : Int)) :=
        atoi_natDigits_signed true i.natAbs (by simp only [↓reduceIte]; omega)
      rw [show -((i.natAbs : Nat) : Int) = i by omega] at ha
      simp (config := {decide := true}) only [intLitTok, hneg, tokenVal, ha, ↓reduceIte]
    · have ha : atoi (natDigits i.toNat) = some ((i.toNat : Nat) : Int) :=
        atoi_natDigits_signed false i.toNat (by simp only [Bool.false_eq_true, ↓reduceIte]; omega)
      rw [show ((i.toNat : Nat) : Int) = i by omega] at ha
      simp (config := {decide := true}) only [intLitTok, hneg, tokenVal, ha, ↓reduceIte]
  | str b => exact ⟨rfl, rfl⟩
  | bool b => cases b <;> exact ⟨rfl, rfl⟩

/-- **the standard literal tokens are good**: `Token.Val` reads every string, boolean and
non-negative int64 back from `stdLitTok`, which writes them as `intLitTok` does -/
theorem stdLitTok_good (l : Lit) (h : stdLit l = true) : GoodLit stdLitTok l := by
  have he : stdLitTok l = intLitTok l ∧ int64Lit l = true := by
    cases l with
    | int i =>
      simp only [stdLit, Bool.and_eq_true, decide_eq_true_eq] at h
      exact ⟨by simp only [stdLitTok, intLitTok, Int.not_lt.mpr h.1, ↓reduceIte], by
        simp only [int64Lit, Bool.and_eq_true, decide_eq_true_eq]; omega⟩
    | str b => exact ⟨rfl, rfl⟩
    | bool b => cases b <;> exact ⟨rfl, rfl⟩
  rw [GoodLit, he.1]
  exact intLitTok_good l he.2

/-! ## Follow sets -/

instance (tys : List Int) (rest : List Token) : Decidable (HeadNot tys rest) :=
  match rest with
  | [] => isTrue trivial
  | t :: _ => inferInstanceAs (Decidable (tys.contains t.ty = false))

theorem headNot_sub {big small : List Int} {rest : List Token} (h : HeadNot big rest)
    (hs : small.all (fun x => big.contains x) = true) : HeadNot small rest := by
  cases rest with
  | nil => trivial
  | cons t r =>
    simp only [HeadNot] at h ⊢
    cases hc : small.contains t.ty with
    | false => rfl
    | true =>
      simp only [List.contains_eq_mem, decide_eq_true_eq] at hc
      have := List.all_eq_true.mp hs _ hc
      rw [h] at this; cases this

theorem contains_disjoint {a b : List Int} {x : Int} (hx : a.contains x = true)
    (hd : b.all (fun y => !a.contains y) = true) : b.contains x = false := by
  cases hc : b.contains x with
  | false => rfl
  | true =>
    simp only [List.contains_eq_mem, decide_eq_true_eq] at hc
    have := List.all_eq_true.mp hd _ hc
    rw [hx] at this; cases this

theorem commaFollows_comma (t : Token) (r : List Token) (h : t.ty = t_COMMA) :
    commaFollows (t :: r) = .ok true r :=
  match_ok (by rw [h]; rfl) rfl

theorem commaFollows_headNot (r : List Token) (h : HeadNot [t_COMMA] r) : commaFollows r = .ok false r :=
  miss_ok h rfl

/-! ## Column references and value expressions -/

theorem tokCol_ne_nil (o : ROpts) (c : ColRef) : tokCol o c ≠ [] := by
  unfold tokCol; split <;> simp

theorem tokCol_length (o : ROpts) (c : ColRef) : 1 ≤ (tokCol o c).length := by
  unfold tokCol; split <;> simp

theorem headNot_tokCol (o : ROpts) (c : ColRef) (rest : List Token) {tys : List Int}
    (h : tys.contains t_IDENT = false) : HeadNot tys (tokCol o c ++ rest) := by
  unfold tokCol; split <;> exact h

theorem columnReference_tok (o : ROpts) (c : ColRef) (rest : List Token) (h : HeadNot [t_DOT] rest) :
    columnReference (tokCol o c ++ rest) = .ok (some c) rest := by
  obtain ⟨q, n⟩ := c
  cases q with
  | nil => exact match_ok rfl (bind_ok (curIs_dot_headNot rest h) rfl)
  | cons a t =>
    exact match_ok rfl (bind_ok (curIs_cons _ _ _) (bind_ok (advance_cons _ _)
      (require_ok rfl rfl)))

theorem tokVE_length (o : ROpts) (v : VExpr) : 1 ≤ (tokVE o v).length := by
  cases v with
  | lit l => simp [tokVE]
  | col c => exact tokCol_length o c

/-- `tys` has no type a value expression can begin with: neither IDENT nor a literal type (so the rendering
of a value expression, hence of a condition, is `HeadNot tys`: `headNot_tokVE`, `headNot_tokCond`) -/
def firstBad (tys : List Int) : Bool := !tys.contains t_IDENT && tys.all fun x => !literalTys.contains x

theorem headNot_tokVE (o : ROpts) (ok : Lit → Bool) (hlit : ∀ l, ok l = true → GoodLit o.lit l)
    (v : VExpr) (hv : wfV ok v = true) (rest : List Token) {tys : List Int} (h : firstBad tys = true) :
    HeadNot tys (tokVE o v ++ rest) := by
  simp only [firstBad, Bool.and_eq_true, Bool.not_eq_eq_eq_not, Bool.not_true] at h
  cases v with
  | lit l => exact contains_disjoint (hlit l hv).1 h.2
  | col c => exact headNot_tokCol o c rest h.1

theorem valueExpression_tok2 (o : ROpts) (ok : Lit → Bool) (hlit : ∀ l, ok l = true → GoodLit o.lit l)
    (v : VExpr) (hv : wfV ok v = true) (rest : List Token) (h : HeadNot [t_DOT] rest) :
    valueExpression (tokVE o v ++ rest) = .ok v rest := by
  cases v with
  | lit l => exact valueExpression_lit (hlit l hv).1 (hlit l hv).2 rest
  | col c =>
    exact miss_ok (headNot_tokCol o c rest (by decide +kernel))
      (bind_ok (columnReference_tok o c rest h) rfl)

/-! ## Comparisons -/

theorem tokPr_length (o : ROpts) (p : Pred) : 3 ≤ (tokPr o p).length := by
  have h1 := tokVE_length o p.lhs
  have h2 := tokVE_length o p.rhs
  simp only [tokPr, List.length_append, List.length_cons]; omega

theorem predicate_tok2 (o : ROpts) (ok : Lit → Bool) (hlit : ∀ l, ok l = true → GoodLit o.lit l)
    (p : Pred) (hp : wfPred ok p = true) (rest : List Token) (h : HeadNot [t_DOT] rest) :
    predicate (tokPr o p ++ rest) = .ok (.pred p) rest := by
  simp only [wfPred, Bool.and_eq_true] at hp
  obtain ⟨⟨hop, hl⟩, hr⟩ := hp
  have hd : HeadNot [t_DOT] (K o p.op :: (tokVE o p.rhs ++ rest)) :=
    headNot_cons (contains_disjoint hop (by decide +kernel))
  rw [tokPr, List.append_assoc]
  exact bind_ok (valueExpression_tok2 o ok hlit p.lhs hl _ hd) (match_ok hop
    (bind_ok (valueExpression_tok2 o ok hlit p.rhs hr rest h) rfl))

/-- what may not follow a bare value used as a condition: a dot or a comparison operator -/
def valBad : List Int := [t_DOT, t_EQ, t_NEQ, t_LT, t_GT, t_LTE, t_GTE]

theorem predicate_val (o : ROpts) (ok : Lit → Bool) (hlit : ∀ l, ok l = true → GoodLit o.lit l)
    (v : VExpr) (hv : wfV ok v = true) (rest : List Token) (h : HeadNot valBad rest) :
    predicate (tokVE o v ++ rest) = .ok (.val v) rest :=
  bind_ok (valueExpression_tok2 o ok hlit v hv rest (headNot_sub h (by decide +kernel)))
    (miss_ok (headNot_sub h (by decide +kernel)) rfl)

/-! ## AND / OR conditions -/

/-- what may not follow an AND-term -/
def andBad : List Int := [t_DOT, t_EQ, t_NEQ, t_LT, t_GT, t_LTE, t_GTE, t_AND]
/-- what may not follow a condition -/
def condBad : List Int := [t_DOT, t_EQ, t_NEQ, t_LT, t_GT, t_LTE, t_GTE, t_AND, t_OR]

theorem tokCond_length (o : ROpts) (c : Cond) : 1 ≤ (tokCond o c).length := by
  cases c with
  | val v => exact tokVE_length o v
  | pred p => have := tokPr_length o p; simp only [tokCond]; omega
  | and p r => have := tokPr_length o p; simp only [tokCond, List.length_append]; omega
  | or l r => simp only [tokCond, List.length_append, List.length_cons]; omega

/-- **`AndCondition` round trip**: `p1 AND … AND last` (last a comparison or a bare value) -/
theorem andCond_tokCond (o : ROpts) (ok : Lit → Bool) (hlit : ∀ l, ok l = true → GoodLit o.lit l)
    (c : Cond) : wfAnd ok c = true → ∀ (rest : List Token), HeadNot andBad rest →
    ∀ f, (tokCond o c).length + 1 ≤ f → andCond f (tokCond o c ++ rest) = .ok c rest := by
  induction c with
  | val v =>
    intro hc rest hr f hf
    obtain ⟨f, rfl⟩ := fuel_split (n := 0) (k := 2) (Nat.le_trans (Nat.add_le_add_right (tokVE_length o v) 1) hf)
    exact bind_ok (predicate_val o ok hlit v hc rest (headNot_sub hr (by decide +kernel)))
      (andLoop_miss _ _ _ (headNot_sub hr (by decide +kernel)))
  | pred p =>
    intro hc rest hr f hf
    obtain ⟨f, rfl⟩ := fuel_split (n := 2) (k := 2) (Nat.le_trans (Nat.add_le_add_right (tokPr_length o p) 1) hf)
    exact bind_ok (predicate_tok2 o ok hlit p hc rest (headNot_sub hr (by decide +kernel)))
      (andLoop_miss _ _ _ (headNot_sub hr (by decide +kernel)))
  | and p r ih =>
    intro hc rest hr f hf
    simp only [wfAnd, Bool.and_eq_true] at hc
    have hl := tokPr_length o p
    simp only [tokCond, List.length_append, List.length_cons] at hf
    obtain ⟨f, rfl⟩ : ∃ f3, f = f3 + 3 := ⟨f - 3, by omega⟩
    rw [tokCond, List.append_assoc, List.cons_append]
    refine bind_ok (predicate_tok2 o ok hlit p hc.1 _ (headNot_cons rfl)) ?_
    rw [andLoop_hit _ _ _ _ rfl]
    exact bind_ok (ih hc.2 rest hr (f + 1) (by omega)) (andLoop_miss _ _ _ (headNot_sub hr (by decide +kernel)))
  | or l r _ _ => intro hc; cases hc

/-- **`OrCondition` round trip**: every condition the parser can return is read back from its
rendering, with fuel of the length of the rendering + 2. -/
theorem orCond_tokCond (o : ROpts) (ok : Lit → Bool) (hlit : ∀ l, ok l = true → GoodLit o.lit l)
    (c : Cond) : wfCond ok c = true → ∀ (rest : List Token), HeadNot condBad rest →
    ∀ f, (tokCond o c).length + 2 ≤ f → orCond f (tokCond o c ++ rest) = .ok c rest := by
  have hA : ∀ c : Cond, wfAnd ok c = true → ∀ (rest : List Token), HeadNot condBad rest →
      ∀ f, (tokCond o c).length + 2 ≤ f → orCond f (tokCond o c ++ rest) = .ok c rest := by
    intro c hc rest hr f hf
    have hl := tokCond_length o c
    obtain ⟨f, rfl⟩ : ∃ f2, f = f2 + 2 := ⟨f - 2, by omega⟩
    exact bind_ok (andCond_tokCond o ok hlit c hc rest (headNot_sub hr (by decide +kernel)) _ (by omega))
      (orLoop_miss _ _ _ (headNot_sub hr (by decide +kernel)))
  induction c with
  | val v => intro hc; exact hA _ hc
  | pred p => intro hc; exact hA _ hc
  | and p r _ => intro hc; exact hA _ hc
  | or l r _ ih =>
    intro hc rest hr f hf
    simp only [wfCond, Bool.and_eq_true] at hc
    have hl := tokCond_length o l
    have hl2 := tokCond_length o r
    simp only [tokCond, List.length_append, List.length_cons] at hf
    obtain ⟨f, rfl⟩ : ∃ f3, f = f3 + 3 := ⟨f - 3, by omega⟩
    rw [tokCond, List.append_assoc, List.cons_append]
    refine bind_ok (andCond_tokCond o ok hlit l hc.1 _ (headNot_cons rfl) (f + 2) (by omega)) ?_
    rw [orLoop_hit _ _ _ _ rfl]
    exact bind_ok (ih hc.2 rest hr (f + 1) (by omega)) (orLoop_miss _ _ _ (headNot_sub hr (by decide +kernel)))

theorem headNot_tokCond (o : ROpts) (ok : Lit → Bool) (hlit : ∀ l, ok l = true → GoodLit o.lit l)
    (c : Cond) (hc : wfCond ok c = true) (rest : List Token) {tys : List Int} (h : firstBad tys = true) :
    HeadNot tys (tokCond o c ++ rest) := by
  induction c generalizing rest with
  | val v => exact headNot_tokVE o ok hlit v hc rest h
  | pred p =>
    simp only [wfCond, wfPred, Bool.and_eq_true] at hc
    simp only [tokCond, tokPr, List.append_assoc]
    exact headNot_tokVE o ok hlit p.lhs hc.1.2 _ h
  | and p r _ =>
    simp only [wfCond, wfPred, Bool.and_eq_true] at hc
    simp only [tokCond, tokPr, List.append_assoc]
    exact headNot_tokVE o ok hlit p.lhs hc.1.1.2 _ h
  | or l r ih _ =>
    simp only [wfCond, Bool.and_eq_true] at hc
    simp only [tokCond, List.append_assoc]
    exact ih (wfCond_of_wfAnd ok l hc.1) _

end Mkdb.Sql
