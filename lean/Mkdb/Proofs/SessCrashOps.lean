import Mkdb.Proofs.SessCrash
/-!
Sessions and crashes: **histories with crashes**, as lists of operations `SOp` (a statement, a `restart`, a crash)
run by `runOps` (`none` if a recovery fails).  The side conditions along the list come in four strengths, each
weaker than the one before (`OkOps` ... `OkOps4`): accepted statements only, a CREATE TABLE only while the flag is
set; statements refused with only the cache grown too; INSERTs refused at their first row for any reason too; and
all of these without the flag.  **Every list that meets them runs - no recovery in it fails - and keeps the
invariant** (`CInv`, `CInvL`, `CInvB`: `CrashInv` for `DbCrash`, `DbCrashL`, `DbCrashB`) for the plain databases
`worldOps`.  `CrashHist s w` is the same as a relation.
-/
set_option autoImplicit false
namespace Mkdb.Session
open Mkdb.Engine Mkdb.Sql Mkdb.Tree
open Mkdb.Store hiding Stmt

/-- an operation of a session: a statement, a clean restart, a crash followed by start-up recovery -/
inductive SOp where
  | stmt (s : Stmt)
  | restart
  | crash
deriving Repr, DecidableEq

/-- run a list of operations; `none` if a recovery (of a restart or after a crash) fails -/
def runOps : Sess → List SOp → Option Sess
  | s, [] => some s
  | s, .stmt st :: rest => runOps (exec s st).1 rest
  | s, .restart :: rest => (restart s).bind fun s' => runOps s' rest
  | s, .crash :: rest => (crashRestart s).bind fun s' => runOps s' rest

/-- the plain databases after a list of operations (restarts and crashes change none) -/
def worldOps : Sess → (String → Spec.SDB) → List SOp → (String → Spec.SDB)
  | _, w, [] => w
  | s, w, .stmt st :: rest => worldOps (exec s st).1 (worldStep s w st) rest
  | s, w, .restart :: rest => match restart s with | some s' => worldOps s' w rest | none => w
  | s, w, .crash :: rest => match crashRestart s with | some s' => worldOps s' w rest | none => w

/-- the flag after a list of operations (a restart or crash sets it) -/
def cleanOps : Sess → (String → Spec.SDB) → Bool → List SOp → Bool
  | _, _, clean, [] => clean
  | s, w, clean, .stmt st :: rest => cleanOps (exec s st).1 (worldStep s w st) (cleanStep s w clean st) rest
  | s, w, clean, .restart :: rest => match restart s with | some s' => cleanOps s' w true rest | none => clean
  | s, w, clean, .crash :: rest => match crashRestart s with | some s' => cleanOps s' w true rest | none => clean

/-- the side conditions along a list of operations -/
def OkOps : Sess → (String → Spec.SDB) → Bool → List SOp → Prop
  | _, _, _, [] => True
  | s, w, clean, .stmt st :: rest =>
    OkStmt s w clean st ∧ OkOps (exec s st).1 (worldStep s w st) (cleanStep s w clean st) rest
  | s, w, _, .restart :: rest => ∀ s', restart s = some s' → OkOps s' w true rest
  | s, w, _, .crash :: rest => ∀ s', crashRestart s = some s' → OkOps s' w true rest

/-- **The invariant along a list of operations**: `SessCrash'`, and while the flag is set every database
(the selected one too) is checkpointed. -/
structure CInv (s : Sess) (w : String → Spec.SDB) (clean : Bool) : Prop where
  inv : SessCrash' s w
  ck : clean = true → ∀ p ∈ s.dbs, CkptNS p.2 (w p.1)

/-- `OkOps` with `OkStmt2`: statements the selected database refuses with only its cache grown too -/
def OkOps2 : Sess → (String → Spec.SDB) → Bool → List SOp → Prop
  | _, _, _, [] => True
  | s, w, clean, .stmt st :: rest =>
    OkStmt2 s w clean st ∧ OkOps2 (exec s st).1 (worldStep s w st) (cleanStep s w clean st) rest
  | s, w, _, .restart :: rest => ∀ s', restart s = some s' → OkOps2 s' w true rest
  | s, w, _, .crash :: rest => ∀ s', crashRestart s = some s' → OkOps2 s' w true rest

theorem OkOps.toOkOps2 : ∀ (ops : List SOp) (s : Sess) (w : String → Spec.SDB) (clean : Bool),
    OkOps s w clean ops → OkOps2 s w clean ops
  | [], _, _, _, _ => trivial
  | .stmt _ :: rest, _, _, _, h => ⟨fun hr => .inl (h.1 hr), OkOps.toOkOps2 rest _ _ _ h.2⟩
  | .restart :: rest, _, _, _, h => fun s' e => OkOps.toOkOps2 rest _ _ _ (h s' e)
  | .crash :: rest, _, _, _, h => fun s' e => OkOps.toOkOps2 rest _ _ _ (h s' e)

/-- **The invariant along a list of operations**: `SessCrashL`, and while the flag is set every database is
checkpointed. -/
structure CInvL (s : Sess) (w : String → Spec.SDB) (clean : Bool) : Prop where
  inv : SessCrashL s w
  ck : clean = true → ∀ p ∈ s.dbs, CkptNS p.2 (w p.1)

theorem CInv.toL {s : Sess} {w : String → Spec.SDB} {clean : Bool} (h : CInv s w clean) : CInvL s w clean :=
  ⟨h.inv.toL, h.ck⟩

/-- **The invariant along a list of operations**: `SessCrashB`, and while the flag is set every database is
checkpointed. -/
structure CInvB (s : Sess) (w : String → Spec.SDB) (clean : Bool) : Prop where
  inv : SessCrashB s w
  ck : clean = true → ∀ p ∈ s.dbs, CkptNS p.2 (w p.1)

/-- the side conditions along a list of operations: at a statement, `OkStmt2` (the flag goes on as `cleanStep`
says), OR the statement is an INSERT the selected database refuses at its first row (`FirstRowRefused`: also for
the size of the row; the flag is cleared - the counters may have moved, the selected database is then not
checkpointed any more) -/
def OkOps3 : Sess → (String → Spec.SDB) → Bool → List SOp → Prop
  | _, _, _, [] => True
  | s, w, clean, .stmt st :: rest =>
    (OkStmt2 s w clean st ∧ OkOps3 (exec s st).1 (worldStep s w st) (cleanStep s w clean st) rest) ∨
    ((∃ n db, s.cur = some n ∧ getDB s n = some db ∧ FirstRowRefused (w n) st) ∧
      OkOps3 (exec s st).1 w false rest)
  | s, w, _, .restart :: rest => ∀ s', restart s = some s' → OkOps3 s' w true rest
  | s, w, _, .crash :: rest => ∀ s', crashRestart s = some s' → OkOps3 s' w true rest

theorem OkOps2.toOkOps3 : ∀ (ops : List SOp) (s : Sess) (w : String → Spec.SDB) (clean : Bool),
    OkOps2 s w clean ops → OkOps3 s w clean ops
  | [], _, _, _, _ => trivial
  | .stmt _ :: rest, _, _, _, h => .inl ⟨h.1, OkOps2.toOkOps3 rest _ _ _ h.2⟩
  | .restart :: rest, _, _, _, h => fun s' e => OkOps2.toOkOps3 rest _ _ _ (h s' e)
  | .crash :: rest, _, _, _, h => fun s' e => OkOps2.toOkOps3 rest _ _ _ (h s' e)

theorem CInvL.toB {s : Sess} {w : String → Spec.SDB} {clean : Bool} (h : CInvL s w clean) : CInvB s w clean :=
  ⟨h.inv.toB, h.ck⟩

/-- the side conditions along a list of operations: `OkOps3` without the flag -/
def OkOps4 : Sess → (String → Spec.SDB) → List SOp → Prop
  | _, _, [] => True
  | s, w, .stmt st :: rest =>
    (OkStmt4 s w st ∧ OkOps4 (exec s st).1 (worldStep s w st) rest) ∨
    ((∃ n db, s.cur = some n ∧ getDB s n = some db ∧ FirstRowRefused (w n) st) ∧
      OkOps4 (exec s st).1 w rest)
  | s, w, .restart :: rest => ∀ s', restart s = some s' → OkOps4 s' w rest
  | s, w, .crash :: rest => ∀ s', crashRestart s = some s' → OkOps4 s' w rest

theorem OkOps3.toOkOps4 : ∀ (ops : List SOp) (s : Sess) (w : String → Spec.SDB) (clean : Bool),
    OkOps3 s w clean ops → OkOps4 s w ops
  | [], _, _, _, _ => trivial
  | .stmt _ :: rest, _, _, _, h => by
    rcases h with ⟨h1, h2⟩ | ⟨h1, h2⟩
    · exact .inl ⟨fun hr => (h1 hr).toOkRouted4, OkOps3.toOkOps4 rest _ _ _ h2⟩
    · exact .inr ⟨h1, OkOps3.toOkOps4 rest _ _ _ h2⟩
  | .restart :: rest, _, _, _, h => fun s' e => OkOps3.toOkOps4 rest _ _ _ (h s' e)
  | .crash :: rest, _, _, _, h => fun s' e => OkOps3.toOkOps4 rest _ _ _ (h s' e)

section
variable {s : Sess} {w : String → Spec.SDB} {clean : Bool}

theorem CInv.crashInv (h : CInv s w clean) : CrashInv DbCrash s w clean :=
  .mk' h.inv.base.abs h.inv.base.crash h.inv.others h.ck
theorem CInvL.crashInv (h : CInvL s w clean) : CrashInv DbCrashL s w clean := .mk' h.inv.abs h.inv.crash h.inv.others h.ck
theorem CrashInv.cinv (h : CrashInv DbCrash s w clean) : CInv s w clean := ⟨h.sessCrash', h.ck⟩
theorem CrashInv.cinvL (h : CrashInv DbCrashL s w clean) : CInvL s w clean := ⟨h.sessCrashL, h.ck⟩
theorem CrashInv.cinvB (h : CrashInv DbCrashB s w clean) : CInvB s w clean := ⟨h.sessCrashB, h.ck⟩

theorem cinv_empty (w : String → Spec.SDB) (clean : Bool) : CInv {} w clean := (crashInv_empty _ w clean).cinv
theorem cinvL_empty (w : String → Spec.SDB) (clean : Bool) : CInvL {} w clean := (crashInv_empty _ w clean).cinvL
theorem cinvB_empty (w : String → Spec.SDB) (clean : Bool) : CInvB {} w clean := (crashInv_empty _ w clean).cinvB

end

/-- **Every list of operations that meets its side conditions runs - no recovery in it fails - and keeps the
invariant**, for the plain databases `worldOps` and the flag `cleanOps` compute.  `Ok` is the side condition along
the list: any predicate that unfolds as `OkOps` and `OkOps2` do, with a statement condition under which a routed
statement keeps the invariant. -/
theorem runOps_crashInv {C : DB → Spec.SDB → Prop} (hC : CrashLike C)
    {Ok : Sess → (String → Spec.SDB) → Bool → List SOp → Prop}
    (hs : ∀ {s w clean st rest}, CrashInv C s w clean → Ok s w clean (.stmt st :: rest) →
      (isRouted st = true → CrashInv C (exec s st).1 (routedW s w st) (routedClean s w clean st)) ∧
        Ok (exec s st).1 (worldStep s w st) (cleanStep s w clean st) rest)
    (hr : ∀ {s w clean rest s'}, Ok s w clean (.restart :: rest) → restart s = some s' → Ok s' w true rest)
    (hc : ∀ {s w clean rest s'}, Ok s w clean (.crash :: rest) → crashRestart s = some s' → Ok s' w true rest) :
    ∀ (ops : List SOp) (s : Sess) (w : String → Spec.SDB) (clean : Bool), CrashInv C s w clean → Ok s w clean ops →
      ∃ s', runOps s ops = some s' ∧ CrashInv C s' (worldOps s w ops) (cleanOps s w clean ops)
  | [], s, w, clean, h, _ => ⟨s, rfl, h⟩
  | .stmt st :: rest, s, w, clean, h, hok =>
    runOps_crashInv hC hs hr hc rest _ _ _ (step_crashInv hC h st (hs h hok).1) (hs h hok).2
  | .restart :: rest, s, w, clean, h, hok => by
    obtain ⟨s1, e1, h1⟩ := restart_crashInv hC h
    simp only [runOps, worldOps, cleanOps, e1, Option.bind_some]
    exact runOps_crashInv hC hs hr hc rest s1 w true h1 (hr hok e1)
  | .crash :: rest, s, w, clean, h, hok => by
    obtain ⟨s1, e1, h1⟩ := crashRestart_crashInv hC h
    simp only [runOps, worldOps, cleanOps, e1, Option.bind_some]
    exact runOps_crashInv hC hs hr hc rest s1 w true h1 (hc hok e1)

theorem runOps_cinv (ops : List SOp) (s : Sess) (w : String → Spec.SDB) (clean : Bool) (h : CInv s w clean)
    (hok : OkOps s w clean ops) :
    ∃ s', runOps s ops = some s' ∧ CInv s' (worldOps s w ops) (cleanOps s w clean ops) := by
  obtain ⟨s', e, h'⟩ := runOps_crashInv crashLike (Ok := OkOps)
    (fun h ok => ⟨fun hr => routed_crashInv crashLike h _ hr (ok.1 hr), ok.2⟩) (fun ok e => ok _ e) (fun ok e => ok _ e)
    ops s w clean h.crashInv hok
  exact ⟨s', e, h'.cinv⟩

/-- `OkOps2`: refused statements included -/
theorem runOps_cinvL (ops : List SOp) (s : Sess) (w : String → Spec.SDB) (clean : Bool) (h : CInvL s w clean)
    (hok : OkOps2 s w clean ops) :
    ∃ s', runOps s ops = some s' ∧ CInvL s' (worldOps s w ops) (cleanOps s w clean ops) := by
  obtain ⟨s', e, h'⟩ := runOps_crashInv crashLikeL (Ok := OkOps2)
    (fun h ok => ⟨fun hr => routed4_crashInv crashLikeL sameClosedL h _ hr (ok.1 hr).toOkRouted4, ok.2⟩)
    (fun ok e => ok _ e) (fun ok e => ok _ e) ops s w clean h.crashInv hok
  exact ⟨s', e, h'.cinvL⟩

theorem firstRow_worldStep {s : Sess} {w : String → Spec.SDB} {st : Stmt} {n : String} (hc : s.cur = some n)
    (hbad : FirstRowRefused (w n) st) (hnone : Spec.specStmt (w n) st = none) : worldStep s w st = w := by
  have hno : ∀ m, s.cur = some m → Spec.specStmt (w m) st = none := fun m hm => by
    rw [hc] at hm; cases hm; exact hnone
  cases st with
  | insert t c r => exact (routed_refused_eqs (clean := false) hno).1
  | _ => exact hbad.elim

/-- **Every list of operations that meets `OkOps4` - CREATE TABLE anywhere - runs (no recovery in it fails) and
keeps the invariant**, for the plain databases `worldOps` computes. -/
theorem runOps_sessCrashB : ∀ (ops : List SOp) (s : Sess) (w : String → Spec.SDB),
    SessCrashB s w → OkOps4 s w ops →
    ∃ s', runOps s ops = some s' ∧ SessCrashB s' (worldOps s w ops)
  | [], s, w, h, _ => ⟨s, rfl, h⟩
  | .stmt st :: rest, s, w, h, hok => by
    rcases hok with ⟨h1, h2⟩ | ⟨⟨n, db, hc, hg, hbad⟩, h2⟩
    · have hs := step_crashInv crashLikeB h.crashInv st fun hr =>
        routed4_crashInv crashLikeB sameClosedB h.crashInv st hr (h1 hr)
      exact runOps_sessCrashB rest _ _ hs.sessCrashB h2
    · obtain ⟨hnone, _, hinv, _⟩ := firstRow_crashInv h.crashInv n hc db hg st hbad
      obtain ⟨s', e, h'⟩ := runOps_sessCrashB rest (exec s st).1 w hinv.sessCrashB h2
      refine ⟨s', e, ?_⟩
      show SessCrashB s' (worldOps (exec s st).1 (worldStep s w st) rest)
      rw [firstRow_worldStep hc hbad hnone]; exact h'
  | .restart :: rest, s, w, h, hok => by
    obtain ⟨s1, e1, h1⟩ := restart_crashInv crashLikeB h.crashInv
    simp only [runOps, worldOps, e1, Option.bind_some]
    exact runOps_sessCrashB rest s1 w h1.sessCrashB (hok s1 e1)
  | .crash :: rest, s, w, h, hok => by
    obtain ⟨s1, e1, h1⟩ := crashRestart_crashInv crashLikeB h.crashInv
    simp only [runOps, worldOps, e1, Option.bind_some]
    exact runOps_sessCrashB rest s1 w h1.sessCrashB (hok s1 e1)

/-- `OkOps3` - INSERTs refused at their first row, also for the size of the row, but CREATE TABLE only while the
flag is set - is the case `OkOps3.toOkOps4` of it -/
theorem runOps_cinvB (ops : List SOp) (s : Sess) (w : String → Spec.SDB) (clean : Bool) (h : CInvB s w clean)
    (hok : OkOps3 s w clean ops) : ∃ s', runOps s ops = some s' ∧ SessCrashB s' (worldOps s w ops) :=
  runOps_sessCrashB ops s w h.inv (OkOps3.toOkOps4 ops s w clean hok)

/-- **Histories of statements, restarts and crashes** with the plain databases of the acknowledged
statements. -/
inductive CrashHist : Sess → (String → Spec.SDB) → Prop
  | empty : CrashHist {} (fun _ => [])
  | createOk {s : Sess} {w : String → Spec.SDB} (h : CrashHist s w) (name : Bytes)
      (hok : (exec s (.createDatabase name)).2 = Out.ok) :
      CrashHist (exec s (.createDatabase name)).1 (setW w (canon name) [])
  | createRefused {s : Sess} {w : String → Spec.SDB} (h : CrashHist s w) (name : Bytes)
      (hne : (exec s (.createDatabase name)).2 ≠ Out.ok) : CrashHist (exec s (.createDatabase name)).1 w
  | use {s : Sess} {w : String → Spec.SDB} (h : CrashHist s w) (name : Bytes) : CrashHist (exec s (.use name)).1 w
  | same {s : Sess} {w : String → Spec.SDB} (h : CrashHist s w) (st : Stmt) (hs : (exec s st).1 = s) :
      CrashHist (exec s st).1 w
  | accepted {s : Sess} {w : String → Spec.SDB} (h : CrashHist s w) (n : String) (hc : s.cur = some n)
      (db : DB) (hg : getDB s n = some db) (st : Stmt)
      (hk : (∃ t c r, st = .insert t c r) ∨ (∃ t a c, st = .update t a c) ∨ (∃ t c, st = .delete t c))
      (hroom : ∀ pt sch tbls, DbInv db (w n) pt sch tbls → StmtRoom db pt sch tbls st)
      (sdb' : Spec.SDB) (hspec : Spec.specStmt (w n) st = some sdb') : CrashHist (exec s st).1 (setW w n sdb')
  | createTable {s : Sess} {w : String → Spec.SDB} (h : CrashHist s w) (n : String) (hc : s.cur = some n)
      (db : DB) (hg : getDB s n = some db) (hck : CkptNS db (w n)) (t : Bytes) (cols : List ColDef)
      (hroom : ∀ pt sch tbls, DbInv db (w n) pt sch tbls → StmtRoom db pt sch tbls (.createTable t cols))
      (sdb' : Spec.SDB) (hspec : Spec.specStmt (w n) (.createTable t cols) = some sdb') :
      CrashHist (exec s (.createTable t cols)).1 (setW w n sdb')
  | restart {s s' : Sess} {w : String → Spec.SDB} (h : CrashHist s w) (e : restart s = some s') : CrashHist s' w
  | crash {s s' : Sess} {w : String → Spec.SDB} (h : CrashHist s w) (e : crashRestart s = some s') : CrashHist s' w

/-- **Every history with crashes keeps the crash invariant**, for the plain databases of the acknowledged
statements. -/
theorem crashHist_sessCrash {s : Sess} {w : String → Spec.SDB} (h : CrashHist s w) : SessCrash s w := by
  induction h with
  | empty => exact sessCrash_empty _
  | createOk _ name hok ih => rw [← cdW_ok hok]; exact createDatabase_sessCrash ih name
  | createRefused _ name hne ih =>
    have := createDatabase_sessCrash ih name
    rwa [cdW_refused hne] at this
  | use _ name ih => exact use_sessCrash ih name
  | same _ st hs ih => rw [hs]; exact ih
  | accepted _ n hc db hg st hk hroom sdb' hspec ih => exact (accepted_sessCrash ih ⟨hc, hg, hspec, hroom⟩ hk).2
  | createTable _ n hc db hg hck t cols hroom sdb' hspec ih =>
    exact (createTable_sessCrash ih ⟨hc, hg, hspec, hroom⟩).2
  | restart _ e ih =>
    obtain ⟨s2, e2, h2, _⟩ := restart_ok ih.abs ih.allB
    rw [e] at e2; cases e2; exact h2.base
  | crash _ e ih =>
    obtain ⟨s2, e2, h2, _⟩ := crashRestart_ok ih.abs ih.allB
    rw [e] at e2; cases e2; exact h2.base

theorem crashHist_recovers {s : Sess} {w : String → Spec.SDB} (h : CrashHist s w) :
    (∃ s', crashRestart s = some s' ∧ CrashHist s' w ∧ names s' = names s ∧ s'.cur = none) ∧
    (∃ s', Session.restart s = some s' ∧ CrashHist s' w ∧ names s' = names s ∧ s'.cur = none) := by
  have hs := crashHist_sessCrash h
  obtain ⟨s1, e1, _, n1, c1, _⟩ := crashRestart_ok hs.abs hs.allB
  obtain ⟨s2, e2, _, n2, c2, _⟩ := restart_ok hs.abs hs.allB
  exact ⟨⟨s1, e1, .crash h e1, n1, c1⟩, ⟨s2, e2, .restart h e2, n2, c2⟩⟩

end Mkdb.Session
