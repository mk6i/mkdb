import Mkdb.Proofs.Console
/-!
The editing keys of the console model (`Mkdb.Model.Console`): the state written as the text before and behind
the cursor (`Term.at`), what every key keeps (the cursor inside the line, paste mode), what each editing key
does outside paste mode (`StepTable`), typing a key and erasing it is the identity, paste mode.  Then
corrections: blocks of printable keys erased again by as many backspaces, nested and repeated (`Noise`,
`CorrectedN`), and a line wiped by ^U.  Then the movement keys: they change nothing but the cursor, and a key
sequence with movement blocks each closed by End hands over what the sequence without them does (`Edited`).
Last ^K, ^D and ^W: with the cursor at the end of the line ^K and ^D change nothing, ^W after a word typed behind a
blank erases exactly that word.
-/

section
namespace Mkdb.Console

/-- the cursor is inside the line (true in every state the editor reaches: `posOK_step`) -/
def PosOK (t : Term) : Prop := t.pos ≤ t.line.length

theorem posOK_of_atEnd {t : Term} (h : AtEnd t) : PosOK t := by
  unfold AtEnd at h; unfold PosOK; omega

theorem printable_ne_enter {k : Nat} (hp : isPrintable k = true) : k ≠ 13 := by
  intro e; subst e; revert hp; decide

/-- the state with the text `l` before the cursor and `r` behind it (every state with the cursor inside the
line is one: `Term.at_self`) -/
def Term.at (t : Term) (l r : List Nat) : Term := { t with line := l ++ r, pos := l.length }

theorem Term.at_self {t : Term} (h : PosOK t) : t.at (t.line.take t.pos) (t.line.drop t.pos) = t := by
  unfold PosOK at h
  cases t
  simp only [Term.at, List.take_append_drop, List.length_take, Nat.min_eq_left h]

theorem addKey_at (t : Term) (l r : List Nat) (k : Nat) : addKeyToLine (t.at l r) k = t.at (l ++ [k]) r := by
  simp [addKeyToLine, Term.at]

theorem erase_at (t : Term) (l m r : List Nat) :
    eraseNPreviousChars (t.at (l ++ m) r) m.length = t.at l r := by
  simp [eraseNPreviousChars, Term.at, List.append_assoc]

/-- `t'` has a cursor inside its line if `t` has, and the paste mode of `t` -/
def Keeps (t t' : Term) : Prop := (PosOK t → PosOK t') ∧ t'.pasteActive = t.pasteActive

theorem Keeps.rfl {t : Term} : Keeps t t := ⟨id, Eq.refl _⟩

theorem Keeps.addKey (t : Term) (k : Nat) : Keeps t (addKeyToLine t k) := by
  refine ⟨fun h => ?_, Eq.refl _⟩
  unfold PosOK at *
  simp only [addKeyToLine, List.length_append, List.length_take, List.length_cons, List.length_drop]
  omega

theorem Keeps.erase {t t' : Term} (h : Keeps t t') (n : Nat) : Keeps t (eraseNPreviousChars t' n) := by
  refine ⟨fun hp => ?_, h.2⟩
  have := h.1 hp
  unfold PosOK at *
  simp only [eraseNPreviousChars, List.length_append, List.length_take, List.length_drop]
  omega

theorem Keeps.pos {t : Term} {p : Nat} (h : t.pos ≤ t.line.length → p ≤ t.line.length) :
    Keeps t { t with pos := p } := ⟨h, Eq.refl _⟩

theorem Keeps.setLine {t t' : Term} (h : t'.pasteActive = t.pasteActive) (l : List Nat) :
    Keeps t (setLine t' l) := ⟨fun _ => Nat.le_refl _, h⟩

/-- the branches of `handleKey` one by one, in the order of its `if`s, one `br` each: a key in paste mode, Backspace,
Alt-Left, Alt-Right, Left, Right, Home, End, Up, Down, ^W, ^K, ^D, ^U, ^L, Enter, a printable key or any other -/
theorem handleKey_keeps (t : Term) (k : Nat) : Keeps t (handleKey t k).1 := by
  have br : ∀ {c : Prop} [Decidable c] {x y : Term × Option (List (List Nat))},
      Keeps t x.1 → Keeps t y.1 → Keeps t (if c then x else y).1 :=
    ite_both (P := fun r : Term × Option (List (List Nat)) => Keeps t r.1)
  unfold handleKey
  refine br (.addKey t k) ?_
  refine br ?_ ?_
  · exact ite_both (P := Keeps t) .rfl (.erase .rfl 1)
  refine br (.pos fun h => Nat.le_trans (Nat.sub_le _ _) h) ?_
  refine br (.pos fun h => ?_) ?_
  · simp only [countToRightWord, List.length_drop]; omega
  refine br (.pos fun h => Nat.le_trans (Nat.sub_le _ _) h) ?_
  refine br ?_ ?_
  · exact ite_elim (P := Keeps t) (fun _ => .rfl) (fun c => .pos fun h => by simp only [beq_iff_eq] at c; omega)
  refine br (.pos fun _ => Nat.zero_le _) ?_
  refine br (.pos fun _ => Nat.le_refl _) ?_
  refine br ?_ ?_
  · split
    · exact .rfl
    · exact .setLine (Eq.refl _) _
  refine br ?_ ?_
  · refine br .rfl (br (.setLine (Eq.refl _) _) ?_)
    split
    · exact .setLine (Eq.refl _) _
    · exact .rfl
  refine br (.erase .rfl _) ?_
  refine br ⟨fun h => ?_, Eq.refl _⟩ ?_
  · unfold PosOK at *; simp only [List.length_take]; omega
  refine br ?_ ?_
  · exact ite_elim (P := Keeps t) (fun c => .erase (.pos fun _ => c) 1) (fun _ => .rfl)
  refine br (.erase .rfl _) ?_
  refine br .rfl ?_
  refine br ?_ ?_
  · exact br ⟨fun _ => Nat.le_refl _, Eq.refl _⟩ (.addKey t 32)
  exact br (.addKey t k) .rfl

theorem step_keeps (t : Term) (k : Nat) : Keeps t (step t k).1 := by
  have h := handleKey_keeps t k
  unfold step
  split
  · rename_i t' s heq
    rw [heq] at h
    exact ⟨fun hp => by have := h.1 hp; unfold PosOK at *; rwa [addHistory_line, addHistory_pos],
      by rw [addHistory_paste]; exact h.2⟩
  · rename_i t' heq
    rw [heq] at h
    exact h

theorem posOK_step (t : Term) (h : PosOK t) (k : Nat) : PosOK (step t k).1 := (step_keeps t k).1 h

theorem step_paste_same (t : Term) (k : Nat) : (step t k).1.pasteActive = t.pasteActive := (step_keeps t k).2

theorem posOK_final : ∀ (ks : List Nat) (t : Term), PosOK t → PosOK (final t ks)
  | [], _, h => h
  | k :: ks, t, h => posOK_final ks (step t k).1 (posOK_step t h k)

theorem final_paste_same : ∀ (ks : List Nat) (t : Term), (final t ks).pasteActive = t.pasteActive
  | [], _ => rfl
  | k :: ks, t => (final_paste_same ks (step t k).1).trans (step_paste_same t k)

/-- `step` outside paste mode, key by key: the editing keys; Up and Down as the model has them.  (Enter and
the printable keys do the same in paste mode: `step_enter`, `step_print`.) -/
structure StepTable (t : Term) : Prop where
  backspace : step t keyBackspace = (if t.pos == 0 then t else eraseNPreviousChars t 1, none)
  altLeft : step t keyAltLeft = ({ t with pos := t.pos - countToLeftWord t }, none)
  altRight : step t keyAltRight = ({ t with pos := t.pos + countToRightWord t }, none)
  left : step t keyLeft = ({ t with pos := t.pos - 1 }, none)
  right : step t keyRight = (if t.pos == t.line.length then t else { t with pos := t.pos + 1 }, none)
  home : step t keyHome = ({ t with pos := 0 }, none)
  end_ : step t keyEnd = ({ t with pos := t.line.length }, none)
  deleteWord : step t keyDeleteWord = (eraseNPreviousChars t (countToLeftWord t), none)
  deleteLine : step t keyDeleteLine = ({ t with line := t.line.take t.pos }, none)
  ctrlD : step t keyCtrlD =
    (if t.pos < t.line.length then eraseNPreviousChars { t with pos := t.pos + 1 } 1 else t, none)
  ctrlU : step t keyCtrlU = ({ t with line := t.line.drop t.pos, pos := 0 }, none)
  clearScreen : step t keyClearScreen = (t, none)
  up : step t keyUp =
    (match nthPrevious t.history (t.historyIndex + 1) with
      | none => t
      | some e => setLine { t with
          historyPending := if t.historyIndex == -1 then t.line.map validRune else t.historyPending,
          historyIndex := t.historyIndex + 1 } e, none)
  down : step t keyDown =
    (if t.historyIndex == -1 then t
      else if t.historyIndex == 0 then setLine { t with historyIndex := -1 } t.historyPending
      else match nthPrevious t.history (t.historyIndex - 1) with
        | some e => setLine { t with historyIndex := t.historyIndex - 1 } e
        | none => t, none)

theorem step_table (t : Term) (hpa : t.pasteActive = false) : StepTable t := by
  constructor
  case up =>
    cases h : nthPrevious t.history (t.historyIndex + 1) <;>
      simp [step, handleKey, hpa, h, keyEnter, keyBackspace, keyAltLeft, keyAltRight, keyLeft, keyRight, keyHome,
        keyEnd, keyUp]
  case down =>
    cases h : nthPrevious t.history (t.historyIndex - 1) <;>
      by_cases h1 : t.historyIndex = -1 <;> by_cases h0 : t.historyIndex = 0 <;>
      simp [step, handleKey, hpa, h, h1, h0, keyEnter, keyBackspace, keyAltLeft, keyAltRight, keyLeft, keyRight,
        keyHome, keyEnd, keyUp, keyDown]
  all_goals
    simp [step, handleKey, hpa, eraseNPreviousChars, keyEnter, keyBackspace, keyAltLeft, keyAltRight, keyLeft, keyRight,
      keyHome, keyEnd, keyUp, keyDown, keyDeleteWord, keyDeleteLine, keyCtrlD, keyCtrlU, keyClearScreen]

/-! the rows used on a state given as `t.at l r` -/

theorem step_print_at (t : Term) (l r : List Nat) {k : Nat} (hk : isPrintable k = true) :
    step (t.at l r) k = (t.at (l ++ [k]) r, none) := by
  rw [step_print _ hk (printable_ne_enter hk), addKey_at]

theorem step_backspace_at (t : Term) (hpa : t.pasteActive = false) (l r : List Nat) (k : Nat) :
    step (t.at (l ++ [k]) r) keyBackspace = (t.at l r, none) := by
  rw [(step_table (t.at (l ++ [k]) r) hpa).backspace]
  have : ((t.at (l ++ [k]) r).pos == 0) = false := by simp [Term.at]
  rw [this]
  exact congrArg (·, none) (erase_at t l [k] r)

theorem step_ctrlU_at (t : Term) (hpa : t.pasteActive = false) (l r : List Nat) :
    step (t.at l r) keyCtrlU = (t.at [] r, none) := by
  rw [(step_table (t.at l r) hpa).ctrlU]
  simp [Term.at]

theorem type_backspace (t : Term) (hpa : t.pasteActive = false) (h : PosOK t) {k : Nat}
    (hk : isPrintable k = true) : step (step t k).1 keyBackspace = (t, none) := by
  rw [← Term.at_self h, step_print_at _ _ _ hk]
  exact step_backspace_at t hpa _ _ k

def setPaste (b : Bool) (t : Term) : Term := { t with pasteActive := b }

theorem handleKey_paste (t : Term) (hpa : t.pasteActive = true) {k : Nat} (hk : k ≠ keyEnter) :
    handleKey t k = (addKeyToLine t k, none) := by
  simp [handleKey, hpa, hk]

theorem addHistory_setPaste (b : Bool) (t : Term) (s : List (List Nat)) :
    addHistory (setPaste b t) s = setPaste b (addHistory t s) := by
  unfold addHistory
  induction s generalizing t with
  | nil => rfl
  | cons a s ih => rw [List.foldl_cons, List.foldl_cons, ← ih]; rfl

theorem step_setPaste (b : Bool) (t : Term) {k : Nat} (hv : k = 13 ∨ (isPrintable k = true ∧ k ≠ 13)) :
    step (setPaste b t) k = (setPaste b (step t k).1, (step t k).2) := by
  rcases hv with hk | ⟨hp, hk⟩
  · subst hk
    rw [step_enter, step_enter]
    have hl : (setPaste b t).line = t.line := rfl
    rw [hl]
    split
    · exact Prod.ext (addHistory_setPaste b { t with line := [], pos := 0 } _) rfl
    · rfl
  · rw [step_print _ hp hk, step_print _ hp hk]; rfl

theorem Runs.setPaste (b : Bool) : ∀ (keys : List Nat) (t : Term),
    (∀ k ∈ keys, k = 13 ∨ (isPrintable k = true ∧ k ≠ 13)) →
    Runs (setPaste b t) keys (run t keys) (setPaste b (final t keys))
  | [], t, _ => .nil _
  | k :: rest, t, hv => by
    have := Runs.cons (step_setPaste b t (hv k List.mem_cons_self))
      (Runs.setPaste b rest _ (fun x hx => hv x (List.mem_cons_of_mem _ hx)))
    rwa [← run_cons_subs] at this

end Mkdb.Console
end

section
namespace Mkdb.Console

/-- `Noise m`: `m` is a balanced sequence of printable keys and backspaces - every backspace erases a
printable key typed before it inside `m`, and every key typed is erased: the empty sequence, a printable
key and a backspace around such a sequence, two such sequences one after the other. -/
inductive Noise : List Nat → Prop where
  | nil : Noise []
  | wrap (w : Nat) {m : List Nat} : isPrintable w = true → Noise m → Noise (w :: (m ++ [keyBackspace]))
  | append {a b : List Nat} : Noise a → Noise b → Noise (a ++ b)

theorem noise_at {m : List Nat} (h : Noise m) (t : Term) (hpa : t.pasteActive = false) :
    ∀ l r : List Nat, Runs (t.at l r) m [] (t.at l r) := by
  induction h with
  | nil => exact fun l r => .nil _
  | wrap w hw _ ih =>
    exact fun l r => .cons (step_print_at t l r hw) ((ih (l ++ [w]) r).append (.key (step_backspace_at t hpa l r w)))
  | append _ _ iha ihb => exact fun l r => (iha l r).append (ihb l r)

theorem noise_id {m : List Nat} (h : Noise m) (t : Term) (hpa : t.pasteActive = false) (hpos : PosOK t) :
    Runs t m [] t := by
  have := noise_at h t hpa (t.line.take t.pos) (t.line.drop t.pos)
  rwa [Term.at_self hpos] at this

theorem noise_block : ∀ ws : List Nat, (∀ w ∈ ws, isPrintable w = true) →
    Noise (ws ++ List.replicate ws.length keyBackspace)
  | [], _ => Noise.nil
  | w :: ws, h => by
    have ih := noise_block ws (fun x hx => h x (List.mem_cons_of_mem _ hx))
    have e : (w :: ws) ++ List.replicate (w :: ws).length keyBackspace =
        w :: ((ws ++ List.replicate ws.length keyBackspace) ++ [keyBackspace]) := by
      rw [List.length_cons, List.replicate_succ', List.cons_append, List.append_assoc]
    rw [e]
    exact Noise.wrap w (h w List.mem_cons_self) ih

/-- `CorrectedN noisy clean`: `noisy` is `clean` with any number of balanced sequences of printable
keys and backspaces (`Noise`) put in anywhere. -/
inductive CorrectedN : List Nat → List Nat → Prop where
  | nil : CorrectedN [] []
  | key (k : Nat) {n c : List Nat} : CorrectedN n c → CorrectedN (k :: n) (k :: c)
  | noise {m n c : List Nat} : Noise m → CorrectedN n c → CorrectedN (m ++ n) c

/-- `Corrected noisy clean`: `noisy` is `clean` with any number of pairs (a printable key,
backspace) put in anywhere. -/
inductive Corrected : List Nat → List Nat → Prop where
  | nil : Corrected [] []
  | key (k : Nat) {n c : List Nat} : Corrected n c → Corrected (k :: n) (k :: c)
  | fix (w : Nat) {n c : List Nat} : isPrintable w = true → Corrected n c →
      Corrected (w :: keyBackspace :: n) c

theorem correctedN_of_corrected {n c : List Nat} (h : Corrected n c) : CorrectedN n c := by
  induction h with
  | nil => exact .nil
  | key k _ ih => exact .key k ih
  | fix w hw _ ih => exact .noise (m := [w, keyBackspace]) (Noise.wrap w hw Noise.nil) ih

/-- no condition on the keys of `clean`: every key keeps the cursor inside the line and paste mode off -/
theorem run_correctedN {noisy clean : List Nat} (hc : CorrectedN noisy clean) :
    ∀ (t : Term), t.pasteActive = false → PosOK t → Runs t noisy (run t clean) (final t clean) := by
  induction hc with
  | nil => exact fun t _ _ => .nil t
  | key k _ ih =>
    intro t hpa hpos
    rw [run_cons_subs]
    exact .next t k (ih (step t k).1 (by rw [step_paste_same]; exact hpa) (posOK_step t hpos k))
  | noise hm _ ih => exact fun t hpa hpos => (noise_id hm t hpa hpos).append (ih t hpa hpos)

theorem typed_at : ∀ (ws : List Nat) (t : Term) (l r : List Nat), (∀ w ∈ ws, isPrintable w = true) →
    Runs (t.at l r) ws [] (t.at (l ++ ws) r)
  | [], t, l, r, _ => by rw [List.append_nil]; exact .nil _
  | w :: ws, t, l, r, h => by
    have := typed_at ws t (l ++ [w]) r (fun x hx => h x (List.mem_cons_of_mem _ hx))
    rw [List.append_assoc] at this
    exact .cons (step_print_at t l r (h w List.mem_cons_self)) this

theorem type_printables (ws : List Nat) (t : Term) (hpos : PosOK t) (h : ∀ w ∈ ws, isPrintable w = true) :
    Runs t ws [] (t.at (t.line.take t.pos ++ ws) (t.line.drop t.pos)) := by
  have := typed_at ws t (t.line.take t.pos) (t.line.drop t.pos) h
  rwa [Term.at_self hpos] at this

theorem typed_then_ctrlU (ws : List Nat) (t : Term) (hpa : t.pasteActive = false) (hpos : PosOK t)
    (h : ∀ w ∈ ws, isPrintable w = true) :
    Runs t (ws ++ [keyCtrlU]) [] { t with line := t.line.drop t.pos, pos := 0 } :=
  (type_printables ws t hpos h).append (.key (step_ctrlU_at t hpa _ _))

theorem typed_then_ctrlU_id (ws : List Nat) (t : Term) (hpa : t.pasteActive = false) (hpos : t.pos = 0)
    (h : ∀ w ∈ ws, isPrintable w = true) : Runs t (ws ++ [keyCtrlU]) [] t := by
  have := typed_then_ctrlU ws t hpa (by unfold PosOK; omega) h
  rwa [hpos, List.drop_zero, ← hpos] at this

theorem run_wiped (t : Term) (hpa : t.pasteActive = false) (hpos : PosOK t) (pre junk keys : List Nat)
    (hempty : (final t pre).line = []) (hjunk : ∀ w ∈ junk, isPrintable w = true) :
    run t (pre ++ junk ++ keyCtrlU :: keys) = run t (pre ++ keys) ∧
      final t (pre ++ junk ++ keyCtrlU :: keys) = final t (pre ++ keys) := by
  have h0 : (final t pre).pos = 0 := by
    have := posOK_final pre t hpos
    unfold PosOK at this
    rw [hempty] at this
    exact Nat.le_zero.mp this
  have := Runs.insert (typed_then_ctrlU_id junk _ ((final_paste_same pre t).trans hpa) h0 hjunk) keys
  rwa [List.append_assoc, List.append_assoc, List.cons_append, List.nil_append, ← List.append_assoc] at this

end Mkdb.Console
end

section
namespace Mkdb.Console

/-- the keys that only move the cursor (or redraw): Left, Right, Home, End, Alt-Left, Alt-Right, ^L -/
def isMove (k : Nat) : Bool :=
  k == keyLeft || k == keyRight || k == keyHome || k == keyEnd || k == keyAltLeft || k == keyAltRight ||
    k == keyClearScreen

theorem step_move (t : Term) (hpa : t.pasteActive = false) {k : Nat} (hk : isMove k = true) :
    ∃ p, step t k = ({ t with pos := p }, none) := by
  have T := step_table t hpa
  simp only [isMove, Bool.or_eq_true, beq_iff_eq] at hk
  rcases hk with (((((hk | hk) | hk) | hk) | hk) | hk) | hk <;> subst hk
  · exact ⟨_, T.left⟩
  · rw [T.right]
    split
    · exact ⟨t.pos, rfl⟩
    · exact ⟨t.pos + 1, rfl⟩
  · exact ⟨_, T.home⟩
  · exact ⟨_, T.end_⟩
  · exact ⟨_, T.altLeft⟩
  · exact ⟨_, T.altRight⟩
  · exact ⟨t.pos, T.clearScreen⟩

theorem moves : ∀ (ms : List Nat) (t : Term), t.pasteActive = false → (∀ m ∈ ms, isMove m = true) →
    ∃ p, Runs t ms [] { t with pos := p }
  | [], t, _, _ => ⟨t.pos, .nil t⟩
  | m :: ms, t, hpa, h => by
    obtain ⟨p, hs⟩ := step_move t hpa (h m List.mem_cons_self)
    obtain ⟨q, r⟩ := moves ms { t with pos := p } hpa (fun x hx => h x (List.mem_cons_of_mem _ hx))
    exact ⟨q, .cons hs r⟩

theorem moves_end (ms : List Nat) (t : Term) (hpa : t.pasteActive = false) (h : ∀ m ∈ ms, isMove m = true) :
    Runs t (ms ++ [keyEnd]) [] { t with pos := t.line.length } := by
  obtain ⟨p, r⟩ := moves ms t hpa h
  exact r.append (.key (step_table { t with pos := p } hpa).end_)

/-- `Edited noisy clean`: `noisy` is `clean` with, put in anywhere and any number of times, balanced
sequences of printable keys and backspaces (`Noise`) and blocks of movement keys each closed by End
(so the cursor is back at the end of the line before the next key of `clean`); a last movement block
at the very end needs no End. -/
inductive Edited : List Nat → List Nat → Prop where
  | nil : Edited [] []
  | key (k : Nat) {n c : List Nat} : Edited n c → Edited (k :: n) (k :: c)
  | noise {m n c : List Nat} : Noise m → Edited n c → Edited (m ++ n) c
  | move {ms n c : List Nat} : (∀ m ∈ ms, isMove m = true) → Edited n c → Edited (ms ++ keyEnd :: n) c
  | tail {ms : List Nat} : (∀ m ∈ ms, isMove m = true) → Edited ms []

theorem edited_of_correctedN {n c : List Nat} (h : CorrectedN n c) : Edited n c := by
  induction h with
  | nil => exact .nil
  | key k _ ih => exact .key k ih
  | noise hm _ ih => exact .noise hm ih

theorem atEnd_self {t : Term} (h : AtEnd t) : ({ t with pos := t.line.length } : Term) = t := by
  unfold AtEnd at h
  cases t
  simp only at h
  subst h; rfl

theorem run_edited {noisy clean : List Nat} (hc : Edited noisy clean) :
    ∀ (t : Term), t.pasteActive = false → AtEnd t →
      (∀ k ∈ clean, k = 13 ∨ (isPrintable k = true ∧ k ≠ 13)) → run t noisy = run t clean := by
  induction hc with
  | nil => intros; rfl
  | key k _ ih =>
    intro t hpa hend hv
    exact run_cons_congr (ih (step t k).1 (by rw [step_paste_same]; exact hpa)
      (step_valid_atEnd t hend (hv k List.mem_cons_self)) (fun x hx => hv x (List.mem_cons_of_mem _ hx)))
  | noise hm _ ih =>
    intro t hpa hend hv
    exact ((noise_id hm t hpa (posOK_of_atEnd hend)).append (.self t _)).1.trans (ih t hpa hend hv)
  | @move ms n c hms _ ih =>
    intro t hpa hend hv
    have r := moves_end ms t hpa hms
    rw [atEnd_self hend] at r
    rw [show ms ++ keyEnd :: n = (ms ++ [keyEnd]) ++ n by simp]
    exact (r.append (.self t _)).1.trans (ih t hpa hend hv)
  | tail hms =>
    intro t hpa _ _
    obtain ⟨_, r⟩ := moves _ t hpa hms
    exact r.1

end Mkdb.Console
end

section
namespace Mkdb.Console

theorem step_deleteLine_atEnd (t : Term) (hpa : t.pasteActive = false) (hend : t.line.length ≤ t.pos) :
    step t keyDeleteLine = (t, none) := by
  rw [(step_table t hpa).deleteLine, List.take_of_length_le hend]

theorem step_ctrlD_atEnd (t : Term) (hpa : t.pasteActive = false) (hend : t.line.length ≤ t.pos) :
    step t keyCtrlD = (t, none) := by
  rw [(step_table t hpa).ctrlD, if_neg (by omega)]

theorem endNoise_id : ∀ (ks : List Nat) (t : Term), t.pasteActive = false → t.line.length ≤ t.pos →
    (∀ k ∈ ks, k = keyDeleteLine ∨ k = keyCtrlD) → Runs t ks [] t
  | [], t, _, _, _ => .nil t
  | k :: ks, t, hpa, hend, h => by
    have hs : step t k = (t, none) := by
      rcases h k List.mem_cons_self with e | e <;> subst e
      · exact step_deleteLine_atEnd t hpa hend
      · exact step_ctrlD_atEnd t hpa hend
    exact .cons hs (endNoise_id ks t hpa hend (fun x hx => h x (List.mem_cons_of_mem _ hx)))

theorem run_endNoise (a ks b : List Nat) (t : Term) (hpa : t.pasteActive = false) (hend : AtEnd t)
    (ha : ∀ k ∈ a, k = 13 ∨ (isPrintable k = true ∧ k ≠ 13))
    (hks : ∀ k ∈ ks, k = keyDeleteLine ∨ k = keyCtrlD) :
    run t (a ++ ks ++ b) = run t (a ++ b) ∧ final t (a ++ ks ++ b) = final t (a ++ b) :=
  Runs.insert (endNoise_id ks (final t a) (by rw [final_paste_same]; exact hpa)
    (Nat.le_of_eq (final_valid_atEnd a t hend ha).symm) hks) b

theorem getD_append_add (a w : List Nat) (j : Nat) : (a ++ w).getD (a.length + j) 0 = w.getD j 0 := by
  rw [List.getD_eq_getElem?_getD, List.getD_eq_getElem?_getD, List.getElem?_append_right (by omega)]
  congr 2
  omega

/-- the second loop of `countToLeftWord` from inside a word that follows a blank not at index 0 (the loop
runs `for pos > 0` and never looks at `line[0]`): it stops behind the blank -/
theorem wordStartLeft_word (pre w : List Nat) (hpre : pre ≠ []) (hw : ∀ c ∈ w, c ≠ 32) :
    ∀ j, j ≤ w.length → wordStartLeft (pre ++ [32] ++ w) (pre.length + j) = pre.length + 1
  | 0, _ => by
    obtain ⟨p, hp⟩ : ∃ p, pre.length = p + 1 := by
      cases pre with
      | nil => exact absurd rfl hpre
      | cons x xs => exact ⟨xs.length, rfl⟩
    have hg : (pre ++ [32] ++ w).getD (p + 1) 0 = 32 := by
      rw [← hp, List.append_assoc, show pre.length = pre.length + 0 from rfl, getD_append_add]
      rfl
    rw [Nat.add_zero, hp]
    simp only [wordStartLeft, hg, beq_self_eq_true, if_true]
  | j + 1, hj => by
    have hg : (pre ++ [32] ++ w).getD (pre.length + j + 1) 0 ≠ 32 := by
      have e : pre.length + j + 1 = (pre ++ [32]).length + j := by simp; omega
      rw [e, getD_append_add, List.getD_eq_getElem?_getD, List.getElem?_eq_getElem (by omega)]
      exact hw _ (List.getElem_mem _)
    have e : pre.length + (j + 1) = (pre.length + j) + 1 := by omega
    rw [e]
    simp only [wordStartLeft]
    rw [if_neg (by simpa using hg)]
    exact wordStartLeft_word pre w hpre hw j (by omega)

theorem skipSpacesLeft_nonblank (line : List Nat) (p : Nat) (h : line.getD p 0 ≠ 32) :
    skipSpacesLeft line p = p := by
  cases p with
  | zero => rfl
  | succ p => simp only [skipSpacesLeft]; rw [if_pos (by simpa using h)]

theorem countToLeftWord_word (t : Term) (pre w : List Nat) (hpre : pre ≠ []) (hw : ∀ c ∈ w, c ≠ 32)
    (hne : w ≠ []) (hl : t.line = pre ++ [32] ++ w) (hp : t.pos = t.line.length) :
    countToLeftWord t = w.length := by
  obtain ⟨n, hn⟩ : ∃ n, w.length = n + 1 := by
    cases w with
    | nil => exact absurd rfl hne
    | cons x xs => exact ⟨xs.length, rfl⟩
  have hlen : t.line.length = pre.length + 1 + w.length := by
    rw [hl]; simp only [List.length_append, List.length_cons, List.length_nil]
  have hpos : t.pos - 1 = pre.length + (n + 1) := by omega
  have hg : (pre ++ [32] ++ w).getD (pre.length + (n + 1)) 0 ≠ 32 := by
    have e : pre.length + (n + 1) = (pre ++ [32]).length + n := by
      simp only [List.length_append, List.length_cons, List.length_nil]; omega
    rw [e, getD_append_add, List.getD_eq_getElem?_getD, List.getElem?_eq_getElem (by omega)]
    exact hw _ (List.getElem_mem _)
  unfold countToLeftWord
  rw [if_neg (by simp; omega), hpos, hl, skipSpacesLeft_nonblank _ _ hg,
    wordStartLeft_word pre w hpre hw (n + 1) (by omega)]
  omega

theorem word_then_deleteWord (t : Term) (pre w : List Nat) (hpa : t.pasteActive = false) (hend : AtEnd t)
    (hl : t.line = pre ++ [32]) (hpre : pre ≠ []) (hne : w ≠ [])
    (hw : ∀ c ∈ w, isPrintable c = true ∧ c ≠ 32) : Runs t (w ++ [keyDeleteWord]) [] t := by
  have ht := Term.at_self (posOK_of_atEnd hend)
  unfold AtEnd at hend
  rw [hend, List.take_length, List.drop_length, hl] at ht
  have hcount : countToLeftWord (t.at (pre ++ [32] ++ w) []) = w.length :=
    countToLeftWord_word _ pre w hpre (fun c hc => (hw c hc).2) hne (List.append_nil _)
      (by simp only [Term.at, List.append_nil])
  have hs := (step_table (t.at (pre ++ [32] ++ w) []) hpa).deleteWord
  rw [hcount, erase_at] at hs
  have := (typed_at w t (pre ++ [32]) [] fun c hc => (hw c hc).1).append (.key hs)
  rwa [ht] at this

end Mkdb.Console
end
