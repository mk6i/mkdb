import Mkdb.Proofs.CacheSim
import Mkdb.Proofs.SessInvHistory
/-!
C16 on the heap model, at the engine level: every statement, and every history, on the smaller cache is the
same run.  Whatever a statement evaluator returns on the smaller cache - `.ok` or `.err e` - it returns on
the larger cache, with the same error `e`, and the databases are related again; so a history with evictions
of pages that are in the data file gives, statement for statement, the outcomes of the history without the
evictions - including the error values and the statements refused at a later row.  Then the compositions
the property theorems state, computed on `tableDB`.
-/

section
set_option autoImplicit false
namespace Mkdb.Store
open Mkdb.Page Mkdb.Tuple Mkdb.Generated Mkdb.Tree Mkdb.Engine

-- kept folded: when a `Sim` lemma about a concrete program is applied, the elaborator looks through the
-- result type for optional parameters, and through `SRel` it would run the program on a variable store
attribute [local irreducible] SRel

/-- the same log, and `db2`'s store is `db1`'s store with a smaller cache -/
def DbEq (db1 db2 : Engine.DB) : Prop := db2.wal = db1.wal ∧ CacheEq db1.store db2.store

theorem DbEq.refl {db : Engine.DB} (hf : MemFiled db.store) (hn : MemNodup db.store) : DbEq db db :=
  ⟨rfl, CacheEq.refl hf hn⟩

theorem DbEq.evict_right {db1 db2 : Engine.DB} (h : DbEq db1 db2) (offs : List Nat) (hs : EvictSafe db2.store offs) :
    DbEq db1 (evictDB db2 offs) := ⟨h.1, h.2.evict_right offs hs⟩

theorem DbEq.evict_both {db1 db2 : Engine.DB} (h : DbEq db1 db2) (offs : List Nat) (hs : EvictSafe db2.store offs) :
    DbEq (evictDB db1 offs) (evictDB db2 offs) := ⟨h.1, h.2.evict_both offs hs⟩

/-- the result on the larger cache (`r1`) against the result on the smaller cache (`r2`) -/
def ERel {α} (r1 r2 : Engine.Res α) : Prop :=
  match r2 with
  | .ok a d2 => ∃ d1, r1 = .ok a d1 ∧ DbEq d1 d2
  | .err e d2 => ∃ d1, r1 = .err e d1 ∧ DbEq d1 d2
  | .panic _ => True
  | .unmodelled w => r1 = .unmodelled w
  | .fuel => r1 = .fuel

theorem ERel.ok {α} {a : α} {d1 d2 : Engine.DB} (h : DbEq d1 d2) : ERel (.ok a d1) (.ok a d2) := ⟨d1, rfl, h⟩
theorem ERel.err {α} {e : Engine.StmtErr} {d1 d2 : Engine.DB} (h : DbEq d1 d2) :
    ERel (.err e d1 : Engine.Res α) (.err e d2) := ⟨d1, rfl, h⟩
theorem ERel.panic {α} {r1 : Engine.Res α} {p : String} : ERel r1 (.panic p) := trivial
theorem ERel.unmodelled {α} {w : String} : ERel (.unmodelled w : Engine.Res α) (.unmodelled w) := rfl
theorem ERel.fuel {α} : ERel (.fuel : Engine.Res α) .fuel := rfl

@[elab_as_elim]
theorem ERel.cases {α} {motive : Engine.Res α → Engine.Res α → Prop} {r1 r2 : Engine.Res α} (h : ERel r1 r2)
    (ok : ∀ a d1 d2, DbEq d1 d2 → motive (.ok a d1) (.ok a d2))
    (err : ∀ e d1 d2, DbEq d1 d2 → motive (.err e d1) (.err e d2))
    (panic : ∀ p, motive r1 (.panic p))
    (unmodelled : ∀ w, motive (.unmodelled w) (.unmodelled w))
    (fuel : motive .fuel .fuel) : motive r1 r2 := by
  cases r2 with
  | ok a d2 => obtain ⟨d1, rfl, hd⟩ := h; exact ok a d1 d2 hd
  | err e d2 => obtain ⟨d1, rfl, hd⟩ := h; exact err e d1 d2 hd
  | panic p => exact panic p
  | unmodelled w => cases (h : r1 = .unmodelled w); exact unmodelled w
  | fuel => cases (h : r1 = .fuel); exact fuel

theorem ERel.void {α} {r1 r2 : Engine.Res α} (h : ERel r1 r2) : ERel (voidRes r1) (voidRes r2) :=
  ERel.cases h (fun _ _ _ hd => ERel.ok hd) (fun _ _ _ hd => ERel.err hd) (fun _ => ERel.panic) (fun _ => ERel.unmodelled) ERel.fuel

theorem liftS_rel {α β} {db1 db2 : Engine.DB} (hd : DbEq db1 db2) {m : SM α} (hm : Sim m)
    {k1 k2 : α → Store → Engine.Res β}
    (hk : ∀ a s1 s2, CacheEq s1 s2 → ERel (k1 a s1) (k2 a s2)) :
    ERel (Engine.liftS db1 m k1) (Engine.liftS db2 m k2) := by
  unfold Engine.liftS
  exact SRel.cases (hm db1.store db2.store hd.2) hk (fun _ _ _ ht => ERel.err ⟨hd.1, ht⟩)
    (fun _ => ERel.panic) (fun _ => ERel.unmodelled) ERel.fuel

/-! ### the statement evaluators -/

/-- the run of a statement's rows (`rowsM` under `liftS`, `rowLoop_eq`) on related stores -/
theorem rows_rel {α β} {db1 db2 : Engine.DB} (hd : db2.wal = db1.wal) {s1 s2 : Store} (hs : CacheEq s1 s2)
    (rows : List α) (ret : β) {op : α → SM (List WalRec)} (hop : ∀ r, Sim (op r)) :
    ERel (Engine.liftS { db1 with store := s1 } (rowsM op rows) fun logs s' =>
        .ok ret { store := s', wal := db1.wal ++ logs })
      (Engine.liftS { db2 with store := s2 } (rowsM op rows) fun logs s' =>
        .ok ret { store := s', wal := db2.wal ++ logs }) :=
  liftS_rel (db1 := { db1 with store := s1 }) (db2 := { db2 with store := s2 }) ⟨hd, hs⟩ (Sim.closed.rowsM hop rows)
    fun _ t1 t2 ht => ERel.ok (d1 := ⟨t1, _⟩) (d2 := ⟨t2, _⟩) ⟨by rw [hd], ht⟩

theorem evalInsert_rel {db1 db2 : Engine.DB} (hd : DbEq db1 db2) (table : Bytes) (cols : List Bytes)
    (rows : List (List Val)) :
    ERel (Engine.evalInsert db1 table cols rows) (Engine.evalInsert db2 table cols rows) := by
  rw [evalInsert_eq, evalInsert_eq]
  exact rows_rel hd.1 hd.2 rows _ (Sim.insert table _)

theorem evalDelete_rel {db1 db2 : Engine.DB} (hd : DbEq db1 db2) (table : Bytes) (w : Option Sql.Cond) :
    ERel (Engine.evalDelete db1 table w) (Engine.evalDelete db2 table w) := by
  rw [evalDelete_eq, evalDelete_eq]
  unfold Engine.fetchForExec
  refine liftS_rel hd (Sim.fetchTable table) fun a s1 s2 hs => ?_
  obtain ⟨rows, schema⟩ := a
  simp only
  cases Engine.filterIds w (schema.map fun fd => ⟨[], fd.name.toUTF8.toList⟩) rows with
  | ok sel => exact rows_rel hd.1 hs sel _ fun r => Sim.markDeleted table r.1
  | err x => exact ERel.err ⟨hd.1, hs⟩
  | panic p => exact ERel.panic

theorem evalUpdate_rel {db1 db2 : Engine.DB} (hd : DbEq db1 db2) (table : Bytes) (sets : List (Bytes × Sql.VExpr))
    (w : Option Sql.Cond) :
    ERel (Engine.evalUpdate db1 table sets w) (Engine.evalUpdate db2 table sets w) := by
  by_cases hcol : ∃ p ∈ sets, ∃ c, p.2 = .col c
  · rw [evalUpdate_col db1 table sets w hcol, evalUpdate_col db2 table sets w hcol]
    exact ERel.err hd
  · have hnocol : ∀ p ∈ sets, ∀ c, p.2 ≠ .col c := fun p hp c hpc => hcol ⟨p, hp, c, hpc⟩
    rw [evalUpdate_eq db1 table sets w hnocol, evalUpdate_eq db2 table sets w hnocol]
    unfold Engine.fetchForExec
    refine liftS_rel hd (Sim.fetchTable table) fun a s1 s2 hs => ?_
    obtain ⟨rows, schema⟩ := a
    simp only
    cases Engine.checkSetColumns (schema.map fun fd => ⟨[], fd.name.toUTF8.toList⟩) [] (sets.map (·.1)) with
    | some ec => exact ERel.err ⟨hd.1, hs⟩
    | none =>
    simp only
    cases Engine.filterIds w (schema.map fun fd => ⟨[], fd.name.toUTF8.toList⟩) rows with
    | ok sel => exact rows_rel hd.1 hs sel _ fun r => Sim.update table r.1 _ _
    | err x => exact ERel.err ⟨hd.1, hs⟩
    | panic p => exact ERel.panic

theorem evalCreateTable_rel {db1 db2 : Engine.DB} (hd : DbEq db1 db2) (name : Bytes) (cols : List Sql.ColDef)
    (order : List Nat) (doFlush : Bool) :
    ERel (Engine.evalCreateTable db1 name cols order doFlush) (Engine.evalCreateTable db2 name cols order doFlush) := by
  unfold Engine.evalCreateTable
  exact liftS_rel hd (Sim.createTable _ _ _ _) fun _ s1 s2 hs => ERel.ok ⟨hd.1, hs⟩

theorem flush_rel {db1 db2 : Engine.DB} (hd : DbEq db1 db2) (order : List Nat) :
    ERel (Engine.flush db1 order) (Engine.flush db2 order) := by
  unfold Engine.flush
  exact liftS_rel hd (Sim.flushPages _) fun _ s1 s2 hs => ERel.ok ⟨hd.1, hs⟩

theorem evalStmt_rel {db1 db2 : Engine.DB} (hd : DbEq db1 db2) (order : List Nat) (st : Sql.Stmt) :
    ERel (evalStmt db1 order st) (evalStmt db2 order st) := by
  cases st with
  | createTable n cols => exact evalCreateTable_rel hd n cols order true
  | insert t cols rows => exact (evalInsert_rel hd t cols _).void
  | update t sets w => exact evalUpdate_rel hd t sets w
  | delete t w => exact (evalDelete_rel hd t w).void
  | createDatabase n => exact ERel.ok hd
  | select s => exact ERel.ok hd
  | use d => exact ERel.ok hd
  | showDatabases => exact ERel.ok hd

/-! ### related databases satisfy the same invariant -/

/-- The database invariant reads the store through the log, the header, `view` at every offset, the data
file and the filing of the cache only; so it passes between related databases, in both directions. -/
theorem DbInv.of_same_view {db1 db2 : Engine.DB} (hw : db2.wal = db1.wal) (hh : db2.store.hdr = db1.store.hdr)
    (hv : ∀ o, Store.view db2.store o = Store.view db1.store o)
    (hd : ∀ o, assocGet db2.store.disk o = assocGet db1.store.disk o) (hf : MemFiled db2.store)
    {sdb : Spec.SDB} {pt sch : Levels} {tbls : List (Bytes × Levels)} (i : DbInv db1 sdb pt sch tbls) :
    DbInv db2 sdb pt sch tbls := by
  obtain ⟨sdb0, habs, hsv⟩ := i.abs
  refine ⟨⟨sdb0, habs.of_same ⟨funext hv, hh⟩, hsv⟩, i.nostale, hf, ?_, ?_, ?_,
    fun x hx e he hd' => by rw [hd]; exact i.synced x hx e he hd'⟩
  · rw [hw]; exact i.log
  · rw [hw, hh]; exact i.lsn
  · rw [hw, hh]; exact i.keys

theorem CacheEq.synced {s1 s2 : Store} (h : CacheEq s1 s2) {pt sch : Levels} {tbls : List (Bytes × Levels)} :
    Synced s1 pt sch tbls ↔ Synced s2 pt sch tbls :=
  ⟨fun hs x hx e he hd => by rw [h.disk]; exact hs x hx e he hd,
   fun hs x hx e he hd => by rw [← h.disk]; exact hs x hx e he hd⟩

theorem DbEq.dbInv {db1 db2 : Engine.DB} (h : DbEq db1 db2) {sdb : Spec.SDB} {pt sch : Levels}
    {tbls : List (Bytes × Levels)} : DbInv db1 sdb pt sch tbls ↔ DbInv db2 sdb pt sch tbls :=
  ⟨DbInv.of_same_view h.1 h.2.hdr h.2.view h.2.disk h.2.filed2,
   DbInv.of_same_view h.1.symm h.2.hdr.symm (fun o => (h.2.view o).symm) (fun o => (h.2.disk o).symm) h.2.filed1⟩

/-! ### which pages may go -/

/-- the offsets of the pages of the catalog description -/
def catOffs (pt sch : Levels) (tbls : List (Bytes × Levels)) : List Nat := (catTrees pt sch tbls).flatMap offs

theorem DbInv.evictSafe {db : Engine.DB} {sdb : Spec.SDB} {pt sch : Levels} {tbls : List (Bytes × Levels)}
    (h : DbInv db sdb pt sch tbls) (offs : List Nat) (hoffs : ∀ o ∈ offs, o ∈ catOffs pt sch tbls) :
    EvictSafe db.store offs := by
  intro o ho n hv
  obtain ⟨x, hx, hox⟩ := List.mem_flatMap.mp (hoffs o ho)
  obtain ⟨e, he, rfl⟩ := List.mem_map.mp hox
  obtain ⟨sdb0, habs, _⟩ := h.abs
  have hh := (habs.cat.tree x hx).1 e he
  rw [hh] at hv
  simp only [Option.some.injEq, Prod.mk.injEq] at hv
  rw [← hv.1]
  exact h.synced x hx e he hv.2

def evictSafeB (s : Store) (offs : List Nat) : Bool :=
  offs.all fun o =>
    match Store.view s o with
    | some (n, false) => assocGet s.disk o == some n
    | _ => true

theorem evictSafe_of_B {s : Store} {offs : List Nat} (h : evictSafeB s offs = true) : EvictSafe s offs := by
  intro o ho n hv
  unfold evictSafeB at h
  rw [List.all_eq_true] at h
  have := h o ho
  rw [hv] at this
  simpa using this

/-! ### histories -/

/-- along the run of a history, every eviction drops only pages that are in the data file (computed) -/
def evictsSafeB (order : List Nat) : List CacheOp → Engine.DB → Bool
  | [], _ => true
  | .stmt st :: rest, db =>
    match evalStmt db order st with
    | .ok _ db' => evictsSafeB order rest db'
    | .err _ db' => evictsSafeB order rest db'
    | _ => true
  | .flush o :: rest, db =>
    match Engine.flush db o with
    | .ok _ db' => evictsSafeB order rest db'
    | _ => true
  | .evict offs :: rest, db => evictSafeB db.store offs && evictsSafeB order rest (evictDB db offs)

/-- the run of a history on the larger cache (`r1`) against the run on the smaller cache (`r2`): when the
latter completes, so does the former, with the same outcomes, in a related database -/
def HistRel (r1 r2 : Option (Engine.DB × List (Option Engine.StmtErr))) : Prop :=
  ∀ d2 outs, r2 = some (d2, outs) → ∃ d1, r1 = some (d1, outs) ∧ DbEq d1 d2

theorem HistRel.none {r1 : Option (Engine.DB × List (Option Engine.StmtErr))} : HistRel r1 none :=
  fun _ _ h => nomatch h

theorem HistRel.cons {r1 r2 : Option (Engine.DB × List (Option Engine.StmtErr))} (h : HistRel r1 r2)
    (o : Option Engine.StmtErr) :
    HistRel (r1.map fun r => (r.1, o :: r.2)) (r2.map fun r => (r.1, o :: r.2)) := by
  intro d2 outs hr
  simp only [Option.map_eq_some_iff, Prod.mk.injEq] at hr
  obtain ⟨r, hr2, rfl, rfl⟩ := hr
  obtain ⟨d1, hr1, hd1⟩ := h r.1 r.2 hr2
  exact ⟨d1, by rw [hr1]; rfl, hd1⟩

/-- `a` is `b` with some of its evictions left out -/
inductive Thins : List CacheOp → List CacheOp → Prop
  | nil : Thins [] []
  | keep (op : CacheOp) {a b : List CacheOp} : Thins a b → Thins (op :: a) (op :: b)
  | drop (offs : List Nat) {a b : List CacheOp} : Thins a b → Thins a (.evict offs :: b)

theorem Thins.noEvict : ∀ ops : List CacheOp, Thins (noEvict ops) ops
  | [] => .nil
  | .stmt _ :: rest => .keep _ (Thins.noEvict rest)
  | .flush _ :: rest => .keep _ (Thins.noEvict rest)
  | .evict _ :: rest => .drop _ (Thins.noEvict rest)

/-- **A history with more evictions is, statement for statement, the history with fewer.**  `db2` runs the
history `ops2`, `db1` - the same database, or one with a larger cache - runs `ops1`: the same statements and
flushes with some (or all: `Thins.noEvict`) of the evictions left out.  If the run of `ops2` completes, so does
the other, with the SAME outcome for every statement (accepted, or refused with the same error value), and the
final databases are related: same log, same headers, same data file, the same page at every offset.  The
converse fails by nature: the smaller cache may meet `markDirty` on a page that has left it. -/
theorem runOps_thins (order : List Nat) {ops1 ops2 : List CacheOp} (ht : Thins ops1 ops2) :
    ∀ (db1 db2 : Engine.DB), DbEq db1 db2 → evictsSafeB order ops2 db2 = true →
      HistRel (runOps order db1 ops1) (runOps order db2 ops2) := by
  induction ht with
  | nil =>
    intro db1 db2 hd _ d2 outs hr
    cases hr
    exact ⟨db1, rfl, hd⟩
  | keep op _ ih =>
    intro db1 db2 hd
    cases op with
    | stmt st =>
      simp only [runOps, evictsSafeB]
      exact ERel.cases (evalStmt_rel hd order st) (fun _ t1 t2 ht hs => (ih t1 t2 ht hs).cons none)
        (fun e t1 t2 ht hs => (ih t1 t2 ht hs).cons (some e)) (fun _ _ => HistRel.none)
        (fun _ _ => HistRel.none) (fun _ => HistRel.none)
    | flush o =>
      simp only [runOps, evictsSafeB]
      exact ERel.cases (flush_rel hd o) (fun _ t1 t2 ht hs => ih t1 t2 ht hs) (fun _ _ _ _ _ => HistRel.none)
        (fun _ _ => HistRel.none) (fun _ _ => HistRel.none) (fun _ => HistRel.none)
    | evict offs =>
      simp only [runOps, evictsSafeB, Bool.and_eq_true]
      exact fun hs => ih _ _ (hd.evict_both offs (evictSafe_of_B hs.1)) hs.2
  | drop offs _ ih =>
    intro db1 db2 hd
    simp only [runOps, evictsSafeB, Bool.and_eq_true]
    exact fun hs => ih db1 (evictDB db2 offs) (hd.evict_right offs (evictSafe_of_B hs.1)) hs.2

end Mkdb.Store
end

section
/-!
The compositions the property theorems state, and non-vacuity on the
computed database `tableDB` (`CREATE DATABASE; CREATE TABLE t (a INT)`, BaseCaseTable): an INSERT, a
flush, the eviction of all three pages (the cache is empty afterwards), and reads and an UPDATE that come
out the same with and without the eviction; before the flush the dirty page of `t` stays in the cache.
-/
set_option autoImplicit false
namespace Mkdb.Store
open Mkdb.Page Mkdb.Tuple Mkdb.Generated Mkdb.Tree Mkdb.Engine

theorem evalStmt_evict_exact {db : Engine.DB} {sdb : Spec.SDB} {pt sch : Levels} {tbls : List (Bytes × Levels)}
    (h : DbInv db sdb pt sch tbls) (hn : MemNodup db.store) (offs : List Nat) (hs : EvictSafe db.store offs)
    (order : List Nat) (st : Sql.Stmt) (hnames : StmtNames pt tbls st) (hroom : StmtRoomT db pt sch tbls st)
    (hlits : StmtLits st) :
    ∃ db1 db2,
      ((evalStmt db order st = .ok () db1 ∧ evalStmt (evictDB db offs) order st = .ok () db2) ∨
        ∃ e, evalStmt db order st = .err e db1 ∧ evalStmt (evictDB db offs) order st = .err e db2) ∧
      DbEq db1 db2 ∧
      ∃ sdb' pt' sch' tbls', DbInv db1 sdb' pt' sch' tbls' ∧ DbInv db2 sdb' pt' sch' tbls' := by
  obtain ⟨db2, hout, sdb', pt', sch', tbls', hi2⟩ := evalStmt_keeps_inv (evictDB db offs) order sdb pt sch tbls
    (h.evict offs) st hnames (hroom.evict offs) hlits
  have hd : DbEq db (evictDB db offs) := ⟨rfl, CacheEq.of_evict h.filed hn offs hs⟩
  have h0 := evalStmt_rel hd order st
  rcases hout with e2 | ⟨e, e2⟩
  · rw [e2] at h0
    obtain ⟨db1, e1, hd1⟩ := h0
    exact ⟨db1, db2, .inl ⟨e1, e2⟩, hd1, sdb', pt', sch', tbls', hd1.dbInv.mpr hi2, hi2⟩
  · rw [e2] at h0
    obtain ⟨db1, e1, hd1⟩ := h0
    exact ⟨db1, db2, .inr ⟨e, e1, e2⟩, hd1, sdb', pt', sch', tbls', hd1.dbInv.mpr hi2, hi2⟩

theorem reads_evict_exact {db : Engine.DB} (hf : MemFiled db.store) (hn : MemNodup db.store) (offs : List Nat)
    (hs : EvictSafe db.store offs) (t : Bytes) (rows : List (Nat × List Val)) (cols : List FieldDef) (s2 : Store)
    (h : fetchTable t (evict db.store offs) = .ok (rows, cols) s2) :
    ∃ s1, fetchTable t db.store = .ok (rows, cols) s1 ∧ CacheEq s1 s2 := by
  have h0 := Sim.fetchTable t db.store (evict db.store offs) (CacheEq.of_evict hf hn offs hs)
  rw [h] at h0
  exact h0

/-! ### non-vacuity on the computed database -/

/-- `INSERT INTO t VALUES (5), (6)` -/
def stI : Sql.Stmt := .insert tname [] [[.int 5], [.int 6]]
/-- `UPDATE t SET a = 7 WHERE a = 5` -/
def stU : Sql.Stmt := .update tname [([97], .lit (.int 7))] (some (.pred ⟨.col ⟨[], [97]⟩, t_EQ, .lit (.int 5)⟩))

/-- `tableDB` after the INSERT (page 12288 is dirty) -/
def dbI : Engine.DB := match evalStmt tableDB [] stI with | Engine.Res.ok _ db => db | _ => tableDB
def dbF : Engine.DB := match Engine.flush dbI [] with | Engine.Res.ok _ db => db | _ => dbI
/-- the pages of the database: `sys_pages`, `sys_schema`, `t` -/
def allPages : List Nat := [4096, 8192, 12288]

def rowsOfDB (db : Engine.DB) : Option (List (Nat × List Val)) :=
  match fetchTable tname db.store with
  | SRes.ok (rows, _) _ => some rows
  | _ => none

def rowsAfterU (db : Engine.DB) : Option (List (Nat × List Val)) :=
  match evalStmt db [] stU with
  | Engine.Res.ok _ db' => rowsOfDB db'
  | _ => none

/-- One evaluation of the model for `dbI`, `dbF` and everything read off them; the first two equations say
which runs of the model the closed terms are. -/
theorem dbI_dbF_eval :
    evalStmt tableDB [] stI = .ok () dbI ∧ Engine.flush dbI [] = .ok () dbF ∧
    evictSafeB dbF.store allPages = true ∧
    dbF.store.mem.map (·.1) = [4096, 12288, 8192] ∧ (evictDB dbF allPages).store.mem = [] ∧
    rowsOfDB dbF = some [(11, [.int 5]), (12, [.int 6])] ∧
    rowsOfDB (evictDB dbF allPages) = some [(11, [.int 5]), (12, [.int 6])] ∧
    rowsAfterU dbF = some [(11, [.int 7]), (12, [.int 6])] ∧
    rowsAfterU (evictDB dbF allPages) = some [(11, [.int 7]), (12, [.int 6])] ∧
    (evictDB dbI allPages).store.mem.map (·.1) = [12288] := by
  decide +kernel

theorem evict_example :
    dbF.store.mem.map (·.1) = [4096, 12288, 8192] ∧ (evictDB dbF allPages).store.mem = [] ∧
    rowsOfDB dbF = some [(11, [.int 5]), (12, [.int 6])] ∧
    rowsOfDB (evictDB dbF allPages) = some [(11, [.int 5]), (12, [.int 6])] ∧
    rowsAfterU dbF = some [(11, [.int 7]), (12, [.int 6])] ∧
    rowsAfterU (evictDB dbF allPages) = some [(11, [.int 7]), (12, [.int 6])] ∧
    (evictDB dbI allPages).store.mem.map (·.1) = [12288] := dbI_dbF_eval.2.2.2

theorem memNodup_dbF : MemNodup dbF.store := by
  have h : (dbF.store.mem.map (·.1)).Pairwise (· ≠ ·) := by rw [evict_example.1]; decide
  exact List.pairwise_map.mp h

theorem evictSafe_dbF : EvictSafe dbF.store allPages := evictSafe_of_B dbI_dbF_eval.2.2.1

theorem dbInv_dbF : ∃ pt sch tbls, DbInv dbF sdbA1 pt sch tbls ∧ StmtNames pt tbls stU ∧
    StmtRoomT dbF pt sch tbls stU ∧ StmtLits stU := by
  obtain ⟨db1, pt1, sch1, tbls1, e1, hi1⟩ := dbFlushed_tableDB.inv.accepted [] stI room_insert56 sdbA1 rfl
  obtain ⟨_, rfl⟩ := Engine.Res.ok.inj (e1.symm.trans dbI_dbF_eval.1)
  have hk := hi1.flushed []
  rw [(Engine.Res.ok.inj ((flush_flushed _ _).symm.trans dbI_dbF_eval.2.1)).2] at hk
  exact ⟨_, _, _, hk.inv, fun _ => tname_ne_sys, trivial, set7_valid⟩

/-- a history on `tableDB`: INSERT, flush, eviction of all pages, UPDATE, eviction again (the page of
`t` is dirty and stays), `DELETE FROM t`, flush, eviction, a refused CREATE TABLE -/
def opsExample : List CacheOp :=
  [.stmt stI, .flush [], .evict allPages, .stmt stU, .evict allPages, .stmt (.delete tname none), .flush [],
   .evict allPages, .stmt (.createTable tname acols)]

theorem opsExample_ok : evictsSafeB [] opsExample tableDB = true ∧
    ((runOps [] tableDB opsExample).map fun r => r.2.map Option.isNone) = some [true, true, true, false] := by
  decide +kernel

theorem memNodup_tableDB : MemNodup tableDB.store := by
  unfold MemNodup
  decide +kernel


/-! ### one cache entry per offset, in every database a session reaches -/

theorem memNodup_reopen (s : Store) : MemNodup (reopen s) := List.Pairwise.nil

def KeepsFiling (r : Option (Engine.DB × List (Option Engine.StmtErr))) : Prop :=
  ∀ d outs, r = some (d, outs) → MemNodup d.store ∧ MemFiled d.store

theorem KeepsFiling.cons {r : Option (Engine.DB × List (Option Engine.StmtErr))} (h : KeepsFiling r)
    (o : Option Engine.StmtErr) : KeepsFiling (r.map fun r => (r.1, o :: r.2)) := by
  intro d outs hr
  simp only [Option.map_eq_some_iff, Prod.mk.injEq] at hr
  obtain ⟨r, hr2, rfl, _⟩ := hr
  exact h r.1 r.2 hr2

theorem runOps_memNodup (order : List Nat) (ops : List CacheOp) :
    ∀ (db : Engine.DB), MemFiled db.store → MemNodup db.store → KeepsFiling (runOps order db ops) := by
  induction ops with
  | nil =>
    intro db hf hn d outs hr
    cases hr
    exact ⟨hn, hf⟩
  | cons op rest ih =>
    intro db hf hn
    cases op with
    | stmt st =>
      simp only [runOps]
      exact ERel.cases (evalStmt_rel (DbEq.refl hf hn) order st)
        (fun _ _ _ hd => (ih _ hd.2.filed2 hd.2.nodup2).cons none)
        (fun e _ _ hd => (ih _ hd.2.filed2 hd.2.nodup2).cons (some e))
        (fun _ _ _ h => nomatch h) (fun _ _ _ h => nomatch h) (fun _ _ h => nomatch h)
    | flush o =>
      simp only [runOps]
      exact ERel.cases (flush_rel (DbEq.refl hf hn) o) (fun _ _ _ hd => ih _ hd.2.filed2 hd.2.nodup2)
        (fun _ _ _ _ _ _ h => nomatch h) (fun _ _ _ h => nomatch h) (fun _ _ _ h => nomatch h)
        (fun _ _ h => nomatch h)
    | evict offs => exact ih (evictDB db offs) (hf.evict offs) (hn.evict offs)

/-! ### the hypothesis of the invisibility lemma is needed -/

/-- a clean cached page that the data file does not hold: after its eviction the engine sees nothing at
the offset.  (No operation of the page store leaves such a page at a statement boundary: a page enters
the cache clean only by `fetch`, from the data file, or is written to it by the flush that cleans it.) -/
theorem visible_without_the_file :
    let s : Store := { mem := [(4096, ⟨.leaf ⟨4096, 0, false, false, 0, 0, []⟩, false⟩)] }
    Store.view s 4096 = some (.leaf ⟨4096, 0, false, false, 0, 0, []⟩, false) ∧
      Store.view (evict s [4096]) 4096 = none := by
  refine ⟨by decide +kernel, by decide +kernel⟩

end Mkdb.Store
end
