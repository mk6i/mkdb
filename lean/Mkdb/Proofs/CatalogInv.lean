import Mkdb.Proofs.RefineScan
/-!
# Reading the catalog, and the catalog invariant `Cat`

The read paths change nothing but the cache (`Same`).  What a row of `sys_pages` says is a pure function of the row
(`ptEntry`), what `sys_schema` says of a table a pure function of its live rows (`schemaOf`); `getRelationFileOffset`
and `getRelationSchema` are stated against these.  `Cat s pt sch tbls` says that the store holds a catalog with the
page table `pt`, `sys_schema` `sch` and the user tables `tbls`; under it the two lookups return what the description
says (`relationOffset_cat`, `relationSchema_cat`).  The model's descents and scans run on fuel (`treeFuel` levels,
`scanFuel` leaves; the code recurses and loops without a bound), so `Cat` speaks of trees the model can walk: `+ 2` in
`Cat.tree` leaves one level for the descent below the root and one for the root an insert may add; lemmas that only
read ask `+ 1`; to keep `Cat`, an insert asks `+ 2` of the tree after (`insert_refines'`) or `+ 3` of the tree before
(CREATE TABLE: `schInsert_cat`, `createHead_cat`).
`Holds`, `Cat` and `ValidVal` are decidable (each clause of `Cat`
is a bounded statement about the trees of the description and the pages the store shows), so that a concrete store
holds a concrete catalog is one evaluation.
-/

section
/-! ## Reading the catalog -/
set_option autoImplicit false
namespace Mkdb.Store
open Mkdb.Page Mkdb.Tuple Mkdb.Generated Mkdb.Tree

/-- nothing the engine can see has changed, nor the header (counters included): what the read paths leave of
a store under `Cat`.  It says nothing of the data file.  `SameData` (`Spec/Unchanged`, the "changes nothing" of
C14, for any well-filed store) fixes the data file and lets the counters move: neither implies the other. -/
def Same (s s' : Store) : Prop := view s' = view s ∧ s'.hdr = s.hdr

theorem Same.refl (s : Store) : Same s s := ⟨rfl, rfl⟩
theorem Same.trans {s1 s2 s3 : Store} (h12 : Same s1 s2) (h23 : Same s2 s3) : Same s1 s3 :=
  ⟨h23.1.trans h12.1, h23.2.trans h12.2⟩
theorem Same.holds {s s' : Store} (h : Same s s') {t : Levels} (hH : Holds s t) : Holds s' t :=
  fun e he => by rw [h.1]; exact hH e he

theorem fetch_same {s : Store} {off : Nat} {n : Node} {d : Bool} (hv : view s off = some (n, d))
    (hoff : nodeOff n = off) : ∃ s', fetch off s = .ok n s' ∧ Same s s' := by
  obtain ⟨s', e, v, _, _⟩ := fetch_spec s off n d hv hoff
  exact ⟨s', e, v, fetch_hdr e⟩

theorem scanRight_hdr (root : Nat) (s s' : Store) (r : List (LeafCell × Nat))
    (h : scanRight root s = .ok r s') : s'.hdr = s.hdr := (hdrSame_reads.scanRight root).ok h

theorem scan_held (s : Store) (t : Levels) (nf : Nat) (hH : Holds s t) (hI : Inv t nf)
    (hdepth : t.inner.length + 1 ≤ treeFuel) (hlen : t.leaves.length ≤ scanFuel) :
    ∃ s' cs, scanRight (rootOff t) s = .ok cs s' ∧ Same s s' ∧ cs.map (·.1) = live t ∧
      ∀ x ∈ cs, ∃ p ∈ t.leaves, x.2 = p.1.off ∧ x.1 ∈ p.1.cells := by
  obtain ⟨s', e, hsv⟩ := Mkdb.Refine.scanRight_refines_strong s t nf hH hI hdepth hlen
  refine ⟨s', _, e, ⟨funext hsv, scanRight_hdr _ _ _ _ e⟩, Mkdb.Refine.map_fst_liveAt _, ?_⟩
  intro x hx
  obtain ⟨p, hp, hxp⟩ := List.mem_flatMap.mp hx
  obtain ⟨c, hc, rfl⟩ := List.mem_map.mp hxp
  exact ⟨p, hp, rfl, (List.mem_filter.mp hc).1⟩

/-! ### `sys_pages` -/

/-- what a row of the page table says: table name and root offset -/
def ptEntry (c : LeafCell) : Option (Bytes × Nat) :=
  match decodeTuple pageTableSchema c.val [] with
  | .ok m =>
    match get m "table_name", get m "file_offset" with
    | .str n, .int i => some (n, i.toNat)
    | _, _ => none
  | .error _ => none

/-- the loop body of `getRelationFileOffset` -/
def ptLookup (name : Bytes) (c : LeafCell × Nat) : SM (Option Nat) := do
  let m ← decodeRow pageTableSchema c.1.val
  if get m "table_name" == .str name then
    match get m "file_offset" with
    | .int i => pure (some i.toNat)
    | _ => panicS "getRelationFileOffset: file_offset.(int64)"
  else pure none

theorem relationOffset_eq (name : Bytes) :
    relationOffset name = (getS >>= fun s => scanRight s.hdr.ptRoot >>= fun cells =>
      findFirstM (ptLookup name) cells >>= fun hit =>
        match hit with
        | some off => pure off
        | none => throw .tableNotExist) := by rfl

theorem ptEntry_inv {c : LeafCell} {n : Bytes} {off : Nat} (h : ptEntry c = some (n, off)) :
    ∃ m i, decodeTuple pageTableSchema c.val [] = .ok m ∧ get m "table_name" = .str n ∧
      get m "file_offset" = .int i ∧ off = i.toNat := by
  unfold ptEntry at h
  split at h
  · rename_i m hm
    split at h
    · rename_i n' i h1 h2
      simp only [Option.some.injEq, Prod.mk.injEq] at h
      exact ⟨m, i, hm, by rw [h1, h.1], h2, h.2.symm⟩
    · cases h
  · cases h

theorem val_str_beq (a b : Bytes) : (Val.str a == Val.str b) = decide (a = b) := by
  by_cases h : a = b
  · subst h; simp
  · simp [h]

def ptEntries (pt : Levels) : List (Bytes × Nat) := (live pt).filterMap ptEntry

/-- what the loop body of `getRelationFileOffset` makes of a row: the offset, if the row is that of `name` -/
def ptHit (name : Bytes) (c : LeafCell) : Option Nat :=
  ((ptEntry c).filter (·.1 == name)).map (·.2)

theorem ptLookup_spec (name : Bytes) (c : LeafCell × Nat) (s : Store) (h : ptEntry c.1 ≠ none) :
    ptLookup name c s = .ok (ptHit name c.1) s := by
  obtain ⟨⟨n, off⟩, he⟩ := Option.ne_none_iff_exists'.mp h
  obtain ⟨m, i, hm, h1, h2, rfl⟩ := ptEntry_inv he
  unfold ptLookup
  have hd : decodeRow pageTableSchema c.1.val s = .ok m s := by unfold decodeRow; rw [hm]
  rw [bind_ok hd, h1, h2, val_str_beq, ptHit, he, Option.filter_some]
  by_cases hn : n = name
  · simp [hn]; rfl
  · simp [hn]; rfl

theorem findSome?_ptHit (name : Bytes) (l : List LeafCell) :
    l.findSome? (ptHit name) = ((l.filterMap ptEntry).find? (·.1 == name)).map (·.2) := by
  -- `find?` is the head of a `filter`, `findSome?` the head of a `filterMap`
  rw [← List.head?_filter, List.filter_filterMap, List.head?_filterMap, List.map_findSome?]
  rfl

theorem relationOffset_of_entries (s : Store) (pt : Levels) (nf : Nat) (name : Bytes)
    (hH : Holds s pt) (hI : Inv pt nf) (hroot : rootOff pt = s.hdr.ptRoot)
    (hdepth : pt.inner.length + 1 ≤ treeFuel) (hlen : pt.leaves.length ≤ scanFuel)
    (hdec : ∀ c ∈ live pt, ptEntry c ≠ none) :
    ∃ s', Same s s' ∧ relationOffset name s =
      match (ptEntries pt).find? (·.1 == name) with
      | some e => .ok e.2 s'
      | none => .err .tableNotExist s' := by
  obtain ⟨s1, cs, e1, hs1, hcs, _⟩ := scan_held s pt nf hH hI hdepth hlen
  rw [hroot] at e1
  have hff := findFirstM_pure (ptLookup name) (ptHit name ∘ (·.1)) s1 cs fun a ha =>
    ptLookup_spec name a s1 (hdec a.1 (hcs ▸ List.mem_map_of_mem ha))
  refine ⟨s1, hs1, ?_⟩
  rw [relationOffset_eq, bind_ok (show getS s = .ok s s from rfl), bind_ok e1, bind_ok hff,
    ← List.findSome?_map, hcs, findSome?_ptHit, ← ptEntries]
  cases (ptEntries pt).find? (·.1 == name) <;> rfl

end Mkdb.Store
end

section
/-! ## `sys_schema`, and the catalog invariant `Cat` -/
set_option autoImplicit false
namespace Mkdb.Store
open Mkdb.Page Mkdb.Tuple Mkdb.Generated Mkdb.Tree

/-- the column definition a row of `sys_schema` holds -/
def fieldOf (m : Vals) : Option FieldDef :=
  match get m "field_name", get m "field_length", get m "field_type" with
  | .str n, .int len, .int ty => if !knownTypeCode ty then none else some ⟨nameOfBytes n, typeOfCode ty, len⟩
  | _, _, _ => none

/-- the column definitions of table `name` as the live rows of `sys_schema` give them (`none` if a
row does not decode, or a row of the table lacks a field) -/
def schemaOf (sch : Levels) (name : Bytes) : Option (List FieldDef) :=
  match mapO (fun c : LeafCell => decRow schemaTableSchema c.val) (live sch) with
  | none => none
  | some rows => mapO fieldOf (rows.filter fun m => get m "table_name" == .str name)

/-- the second loop body of `getRelationSchema` -/
def schemaField (m : Vals) : SM FieldDef :=
  match get m "field_name", get m "field_length", get m "field_type" with
  | .str n, .int len, .int ty =>
    if !knownTypeCode ty then unmodelledS "getRelationSchema: field type the engine does not know"
    else pure (⟨nameOfBytes n, typeOfCode ty, len⟩ : FieldDef)
  | _, _, _ => panicS "getRelationSchema: type assertion"

theorem relationSchema_eq (name : Bytes) :
    relationSchema name = (relationOffset sysSchema >>= fun off => scanRight off >>= fun cells =>
      mapS (fun (c : LeafCell × Nat) => decodeRow schemaTableSchema c.1.val) cells >>= fun rows =>
        mapS schemaField (rows.filter fun m => get m "table_name" == .str name)) := by rfl

theorem schemaField_spec (m : Vals) (fd : FieldDef) (s : Store) (h : fieldOf m = some fd) :
    schemaField m s = .ok fd s := by
  unfold fieldOf at h
  unfold schemaField
  split at h
  · rename_i n len ty h1 h2 h3
    rw [h1, h2, h3]
    simp only
    split at h
    · cases h
    · rename_i hk
      simp only [Option.some.injEq] at h
      rw [if_neg hk, ← h]
      rfl
  · cases h

theorem relationSchema_of (s : Store) (sch : Levels) (nf : Nat) (name : Bytes) (fds : List FieldDef)
    (hoff : ∃ s1, relationOffset sysSchema s = .ok (rootOff sch) s1 ∧ Same s s1)
    (hH : Holds s sch) (hI : Inv sch nf)
    (hdepth : sch.inner.length + 1 ≤ treeFuel) (hlen : sch.leaves.length ≤ scanFuel)
    (hsch : schemaOf sch name = some fds) :
    ∃ s', relationSchema name s = .ok fds s' ∧ Same s s' := by
  obtain ⟨s1, e1, hs1⟩ := hoff
  obtain ⟨s2, cs, e2, hs2, hcs, _⟩ := scan_held s1 sch nf (hs1.holds hH) hI hdepth hlen
  unfold schemaOf at hsch
  cases hrows : mapO (fun c : LeafCell => decRow schemaTableSchema c.val) (live sch) with
  | none => rw [hrows] at hsch; cases hsch
  | some rows =>
    rw [hrows] at hsch
    simp only at hsch
    have hrows' : mapO (fun (c : LeafCell × Nat) => decRow schemaTableSchema c.1.val) cs = some rows := by
      rw [← hcs, mapO_map] at hrows
      exact hrows
    have e3 := mapS_pure (fun (c : LeafCell × Nat) => decodeRow schemaTableSchema c.1.val)
      (fun c => decRow schemaTableSchema c.1.val) s2 cs rows
      (fun a _ b hb => decodeRow_spec _ _ _ _ hb) hrows'
    have e4 := mapS_pure schemaField fieldOf s2 _ fds (fun a _ b hb => schemaField_spec _ _ _ hb) hsch
    refine ⟨s2, ?_, hs1.trans hs2⟩
    rw [relationSchema_eq, bind_ok e1, bind_ok e2, bind_ok e3]
    exact e4

def catTrees (pt sch : Levels) (tbls : List (Bytes × Levels)) : List Levels := pt :: sch :: tbls.map (·.2)

/-- The store holds a catalog: the page table `pt`, `sys_schema` `sch` and the user tables `tbls`
(by name). -/
structure Cat (s : Store) (pt sch : Levels) (tbls : List (Bytes × Levels)) : Prop where
  /-- every tree is held, well formed below the frontier, within the fuels, its keys already issued -/
  tree : ∀ x ∈ catTrees pt sch tbls, Holds s x ∧ Inv x s.hdr.nextFree ∧ x.inner.length + 2 ≤ treeFuel ∧
    x.leaves.length ≤ scanFuel ∧ ∀ a ∈ keys x, a ≤ s.hdr.lastKey
  /-- no page belongs to two trees -/
  disj : ((catTrees pt sch tbls).map offs).Pairwise (fun a b => ∀ o ∈ a, o ∉ b)
  /-- the header locates the page table -/
  root : rootOff pt = s.hdr.ptRoot
  /-- every live row of the page table decodes to a name and an offset; names occur once -/
  dec : ∀ c ∈ live pt, ptEntry c ≠ none
  names : ((ptEntries pt).map (·.1)).Nodup
  /-- the entries are: `sys_schema`, the user tables (and possibly `sys_pages` itself) -/
  esch : (sysSchema, rootOff sch) ∈ ptEntries pt
  etb : ∀ e ∈ tbls, (e.1, rootOff e.2) ∈ ptEntries pt
  only : ∀ e ∈ ptEntries pt, e.1 = sysPages ∨ e.1 = sysSchema ∨ e.1 ∈ tbls.map (·.1)
  /-- user tables have distinct names, short enough for their catalog row to be rewritten -/
  tnames : (tbls.map (·.1)).Nodup
  tsys : sysPages ∉ tbls.map (·.1) ∧ sysSchema ∉ tbls.map (·.1)
  tlen : ∀ e ∈ tbls, e.1.length + 14 ≤ c_maxValueSize

/-- **The same catalog in another store**: every tree is still held, the frontier and the page-table root
are where they were, the row-id counter has not gone back (the invariant does not look at the LSN counter) -/
theorem Cat.frame {s s' : Store} {pt sch : Levels} {tbls : List (Bytes × Levels)} (h : Cat s pt sch tbls)
    (hH : ∀ x ∈ catTrees pt sch tbls, Holds s' x)
    (hnf : s'.hdr.nextFree = s.hdr.nextFree) (hpr : s'.hdr.ptRoot = s.hdr.ptRoot)
    (hlk : s.hdr.lastKey ≤ s'.hdr.lastKey) : Cat s' pt sch tbls :=
  { h with
    tree := fun x hx => by
      obtain ⟨_, b, c, d, e⟩ := h.tree x hx
      rw [hnf]
      exact ⟨hH x hx, b, c, d, fun k hk => Nat.le_trans (e k hk) hlk⟩
    root := by rw [hpr]; exact h.root }

theorem Cat.of_same {s s' : Store} {pt sch : Levels} {tbls : List (Bytes × Levels)}
    (h : Cat s pt sch tbls) (hs : Same s s') : Cat s' pt sch tbls :=
  h.frame (fun x hx => hs.holds (h.tree x hx).1) (by rw [hs.2]) (by rw [hs.2]) (by rw [hs.2]; exact Nat.le_refl _)

theorem Cat.pt_mem {pt sch : Levels} {tbls : List (Bytes × Levels)} : pt ∈ catTrees pt sch tbls := by
  simp [catTrees]
theorem Cat.sch_mem {pt sch : Levels} {tbls : List (Bytes × Levels)} : sch ∈ catTrees pt sch tbls := by
  simp [catTrees]
theorem Cat.tb_mem {pt sch : Levels} {tbls : List (Bytes × Levels)} {e : Bytes × Levels} (he : e ∈ tbls) :
    e.2 ∈ catTrees pt sch tbls := by
  simp only [catTrees, List.mem_cons, List.mem_map]
  exact .inr (.inr ⟨e, he, rfl⟩)

theorem relationOffset_entry {s : Store} {pt sch : Levels} {tbls : List (Bytes × Levels)}
    (h : Cat s pt sch tbls) (name : Bytes) (off : Nat) (he : (name, off) ∈ ptEntries pt) :
    ∃ s', relationOffset name s = .ok off s' ∧ Same s s' := by
  obtain ⟨hH, hI, hd, hl, _⟩ := h.tree pt Cat.pt_mem
  obtain ⟨s', hs, e⟩ := relationOffset_of_entries s pt _ name hH hI h.root (by omega) hl h.dec
  rw [find?_of_mem (key := (·.1)) h.names he] at e
  exact ⟨s', e, hs⟩

theorem relationOffset_cat {s : Store} {pt sch : Levels} {tbls : List (Bytes × Levels)}
    (h : Cat s pt sch tbls) (name : Bytes) (t : Levels) (ht : (name, t) ∈ tbls) :
    ∃ s', relationOffset name s = .ok (rootOff t) s' ∧ Same s s' ∧ Cat s' pt sch tbls := by
  obtain ⟨s', e, hs⟩ := relationOffset_entry h name (rootOff t) (h.etb (name, t) ht)
  exact ⟨s', e, hs, h.of_same hs⟩

theorem relationOffset_cat_unknown {s : Store} {pt sch : Levels} {tbls : List (Bytes × Levels)}
    (h : Cat s pt sch tbls) (name : Bytes) (h1 : name ≠ sysPages) (h2 : name ≠ sysSchema)
    (h3 : name ∉ tbls.map (·.1)) :
    ∃ s', relationOffset name s = .err .tableNotExist s' ∧ Same s s' ∧ Cat s' pt sch tbls := by
  obtain ⟨hH, hI, hd, hl, _⟩ := h.tree pt Cat.pt_mem
  obtain ⟨s', hs, e⟩ := relationOffset_of_entries s pt _ name hH hI h.root (by omega) hl h.dec
  have hn : (ptEntries pt).find? (·.1 == name) = none := List.find?_eq_none.mpr fun x hx hxn => by
    obtain rfl := eq_of_beq hxn
    exact (h.only x hx).elim h1 (·.elim h2 h3)
  rw [hn] at e
  exact ⟨s', e, hs, h.of_same hs⟩

theorem relationSchema_cat {s : Store} {pt sch : Levels} {tbls : List (Bytes × Levels)}
    (h : Cat s pt sch tbls) (name : Bytes) (fds : List FieldDef) (hsch : schemaOf sch name = some fds) :
    ∃ s', relationSchema name s = .ok fds s' ∧ Same s s' ∧ Cat s' pt sch tbls := by
  obtain ⟨hH, hI, hd, hl, _⟩ := h.tree sch Cat.sch_mem
  obtain ⟨s', e, hs⟩ := relationSchema_of s sch _ name fds (relationOffset_entry h sysSchema _ h.esch)
    hH hI (by omega) hl hsch
  exact ⟨s', e, hs, h.of_same hs⟩

/-- `Cat.frame` for a store that shows the same pages: the row-id counter may have been raised, the LSN counter moved -/
theorem Cat.raise {s s' : Store} {pt sch : Levels} {tbls : List (Bytes × Levels)} (h : Cat s pt sch tbls)
    (hv : view s' = view s) (hnf : s'.hdr.nextFree = s.hdr.nextFree) (hpr : s'.hdr.ptRoot = s.hdr.ptRoot)
    (hlk : s.hdr.lastKey ≤ s'.hdr.lastKey) : Cat s' pt sch tbls :=
  h.frame (fun x hx y hy => by rw [hv]; exact (h.tree x hx).1 y hy) hnf hpr hlk

/-- the row `RelationService.Fetch` builds from one cell: row id and the values in schema order -/
def rowOf (schema : List FieldDef) (c : LeafCell) : Option (Nat × List Val) :=
  (decRow schema c.val).map fun m => (c.key, schema.map fun fd => get m fd.name)

/-- the rows `RelationService.Fetch` builds from a list of cells (the cells that decode) -/
def rowsOf (schema : List FieldDef) (cs : List LeafCell) : List (Nat × List Val) :=
  cs.filterMap (rowOf schema)

/-! ### one table of the list replaced: `setTable` -/

def setTable (tbls : List (Bytes × Levels)) (table : Bytes) (t' : Levels) : List (Bytes × Levels) :=
  tbls.map fun e => if e.1 = table then (table, t') else e

theorem setTable_names (tbls : List (Bytes × Levels)) (table : Bytes) (t' : Levels) :
    (setTable tbls table t').map (·.1) = tbls.map (·.1) := by
  unfold setTable
  rw [List.map_map]
  apply List.map_congr_left
  intro e _
  simp only [Function.comp]
  split
  · rename_i h; exact h.symm
  · rfl

theorem mem_setTable {tbls : List (Bytes × Levels)} {table : Bytes} {t' : Levels} {e' : Bytes × Levels}
    (h : e' ∈ setTable tbls table t') :
    (e' = (table, t') ∧ ∃ e ∈ tbls, e.1 = table) ∨ (e' ∈ tbls ∧ e'.1 ≠ table) := by
  unfold setTable at h
  obtain ⟨e, he, rfl⟩ := List.mem_map.mp h
  by_cases hn : e.1 = table
  · left; simp only [hn, if_true]; exact ⟨trivial, e, he, hn⟩
  · right; simp only [hn, if_false]; exact ⟨he, hn⟩

theorem forall_mem_setTable {tbls : List (Bytes × Levels)} {table : Bytes} {t' : Levels} {P : Bytes × Levels → Prop}
    (hnew : P (table, t')) (hold : ∀ e ∈ tbls, e.1 ≠ table → P e) : ∀ e' ∈ setTable tbls table t', P e' :=
  fun _ h => (mem_setTable h).elim (fun h => h.1 ▸ hnew) fun h => hold _ h.1 h.2

/-- a symmetric relation between the entries survives `setTable` if the new entry is related to the entries under
other names -/
theorem pairwise_setTable {R : Bytes × Levels → Bytes × Levels → Prop} (hsym : ∀ a b, R a b → R b a)
    {tbls : List (Bytes × Levels)} {table : Bytes} {t' : Levels} (hp : tbls.Pairwise R)
    (hnd : (tbls.map (·.1)).Nodup) (hnew : ∀ e ∈ tbls, e.1 ≠ table → R e (table, t')) :
    (setTable tbls table t').Pairwise R := by
  unfold setTable
  rw [List.pairwise_map]
  refine (hp.and (List.pairwise_map.mp hnd)).imp_of_mem ?_
  intro a b ha hb ⟨hR, hnab⟩
  by_cases hat : a.1 = table
  · have hbt : ¬ b.1 = table := fun hbt => hnab (hat.trans hbt.symm)
    rw [if_pos hat, if_neg hbt]
    exact hsym _ _ (hnew b hb hbt)
  · rw [if_neg hat]
    by_cases hbt : b.1 = table
    · rw [if_pos hbt]
      exact hnew a ha hat
    · rw [if_neg hbt]
      exact hR

theorem setTable_cons_ne {e : Bytes × Levels} {table : Bytes} (tbls : List (Bytes × Levels)) (t' : Levels)
    (h : e.1 ≠ table) : setTable (e :: tbls) table t' = e :: setTable tbls table t' := by
  simp only [setTable, List.map_cons, if_neg h]

theorem setTable_cons_eq {table : Bytes} {t : Levels} {tbls : List (Bytes × Levels)} (t' : Levels)
    (h : table ∉ tbls.map (·.1)) : setTable ((table, t) :: tbls) table t' = (table, t') :: tbls := by
  simp only [setTable, List.map_cons, if_true, List.cons.injEq, true_and]
  conv => rhs; rw [← List.map_id tbls]
  exact List.map_congr_left fun e he => if_neg fun (hn : e.1 = table) => h (hn ▸ List.mem_map.mpr ⟨e, he, rfl⟩)

theorem mem_setTable_of_ne {tbls : List (Bytes × Levels)} {table : Bytes} {t' : Levels} {e : Bytes × Levels}
    (he : e ∈ tbls) (hn : e.1 ≠ table) : e ∈ setTable tbls table t' := by
  unfold setTable
  exact List.mem_map.mpr ⟨e, he, by simp [hn]⟩

theorem mem_setTable_self {tbls : List (Bytes × Levels)} {table : Bytes} {t : Levels} (t' : Levels)
    (ht : (table, t) ∈ tbls) : (table, t') ∈ setTable tbls table t' := by
  unfold setTable
  exact List.mem_map.mpr ⟨(table, t), ht, by simp⟩

theorem setTable_setTable (tbls : List (Bytes × Levels)) (table : Bytes) (t1 t2 : Levels) :
    setTable (setTable tbls table t1) table t2 = setTable tbls table t2 := by
  unfold setTable
  rw [List.map_map]
  apply List.map_congr_left
  intro e _
  simp only [Function.comp]
  by_cases hn : e.1 = table
  · simp [hn]
  · simp [hn]

theorem setTable_self {tbls : List (Bytes × Levels)} (hnd : (tbls.map (·.1)).Nodup) {table : Bytes} {t : Levels}
    (ht : (table, t) ∈ tbls) : setTable tbls table t = tbls := by
  unfold setTable
  conv => rhs; rw [← List.map_id tbls]
  apply List.map_congr_left
  intro e he
  split
  · rename_i hn
    exact (inj_of_nodup_map (·.1) tbls hnd e he (table, t) ht hn).symm
  · rfl

end Mkdb.Store
end

section
/-! ## Decidability -/
set_option autoImplicit false
namespace Mkdb.Store
open Mkdb.Page Mkdb.Tuple Mkdb.Generated Mkdb.Tree

instance : (v : Val) → Decidable (ValidVal v)
  | .int i => inferInstanceAs (Decidable (-9223372036854775808 ≤ i ∧ i ≤ 9223372036854775807))
  | .str s => inferInstanceAs (Decidable (s.length < 2 ^ 32))
  | .bool _ => isTrue trivial
  | .null => isTrue trivial

instance (s : Store) (t : Levels) : Decidable (Holds s t) := by unfold Holds; exact inferInstance

instance (s : Store) (pt sch : Levels) (tbls : List (Bytes × Levels)) : Decidable (Cat s pt sch tbls) :=
  decidable_of_iff
    ((∀ x ∈ catTrees pt sch tbls, Holds s x ∧ Inv x s.hdr.nextFree ∧ x.inner.length + 2 ≤ treeFuel ∧
        x.leaves.length ≤ scanFuel ∧ ∀ a ∈ keys x, a ≤ s.hdr.lastKey) ∧
      ((catTrees pt sch tbls).map offs).Pairwise (fun a b => ∀ o ∈ a, o ∉ b) ∧
      rootOff pt = s.hdr.ptRoot ∧ (∀ c ∈ live pt, ptEntry c ≠ none) ∧ ((ptEntries pt).map (·.1)).Nodup ∧
      (sysSchema, rootOff sch) ∈ ptEntries pt ∧ (∀ e ∈ tbls, (e.1, rootOff e.2) ∈ ptEntries pt) ∧
      (∀ e ∈ ptEntries pt, e.1 = sysPages ∨ e.1 = sysSchema ∨ e.1 ∈ tbls.map (·.1)) ∧
      (tbls.map (·.1)).Nodup ∧ (sysPages ∉ tbls.map (·.1) ∧ sysSchema ∉ tbls.map (·.1)) ∧
      ∀ e ∈ tbls, e.1.length + 14 ≤ c_maxValueSize)
    ⟨fun ⟨a, b, c, d, e, f, g, h, i, j, k⟩ => ⟨a, b, c, d, e, f, g, h, i, j, k⟩,
     fun h => ⟨h.tree, h.disj, h.root, h.dec, h.names, h.esch, h.etb, h.only, h.tnames, h.tsys, h.tlen⟩⟩

end Mkdb.Store
end
