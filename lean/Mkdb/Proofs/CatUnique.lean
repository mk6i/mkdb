import Mkdb.Proofs.CatalogInv
import Mkdb.Proofs.RefineInsert
/-!
The store determines its catalog description: a tree the store holds is determined by its root
(`holds_unique`), the header names the root of the page table, the page table names the roots of `sys_schema`
and of the user tables.  So two descriptions of one store have the same page table, the same `sys_schema`, the
same tree for a table name, and the same user tables.
-/
set_option autoImplicit false
namespace Mkdb.Store
open Mkdb.Page Mkdb.Tuple Mkdb.Generated Mkdb.Tree

theorem holds_unique {s : Store} {t t2 : Levels} (hH : Holds s t) (hI : Inv t s.hdr.nextFree)
    (hd : t.inner.length + 2 ≤ treeFuel) (hH2 : Holds s t2) (hI2 : Inv t2 s.hdr.nextFree)
    (hd2 : t2.inner.length + 2 ≤ treeFuel) (hr : rootOff t = rootOff t2) : t = t2 := by
  have h1 := ofHeap_view hH hI hd
  have h2 := ofHeap_view hH2 hI2 hd2
  rw [hr, h2] at h1
  exact (Option.some.inj h1).symm

section
variable {s : Store} {pt pt2 sch sch2 : Levels} {tbls tbls2 : List (Bytes × Levels)}

theorem Cat.tree_eq (h : Cat s pt sch tbls) (h2 : Cat s pt2 sch2 tbls2) {x x2 : Levels}
    (hx : x ∈ catTrees pt sch tbls) (hx2 : x2 ∈ catTrees pt2 sch2 tbls2) (hr : rootOff x = rootOff x2) : x = x2 := by
  obtain ⟨a, b, c, _, _⟩ := h.tree x hx
  obtain ⟨a2, b2, c2, _, _⟩ := h2.tree x2 hx2
  exact holds_unique a b c a2 b2 c2 hr

theorem Cat.pt_unique (h : Cat s pt sch tbls) (h2 : Cat s pt2 sch2 tbls2) : pt = pt2 :=
  h.tree_eq h2 Cat.pt_mem Cat.pt_mem (by rw [h.root, h2.root])

theorem Cat.entry_unique (h : Cat s pt sch tbls) {n : Bytes} {o o2 : Nat} (h1 : (n, o) ∈ ptEntries pt)
    (h2 : (n, o2) ∈ ptEntries pt) : o = o2 :=
  (Prod.mk.inj (inj_of_nodup_map (·.1) _ h.names _ h1 _ h2 rfl)).2

theorem Cat.sch_unique (h : Cat s pt sch tbls) (h2 : Cat s pt2 sch2 tbls2) : sch = sch2 := by
  obtain rfl := h.pt_unique h2
  exact h.tree_eq h2 Cat.sch_mem Cat.sch_mem (h.entry_unique h.esch h2.esch)

theorem Cat.tree_unique (h : Cat s pt sch tbls) (h2 : Cat s pt2 sch2 tbls2) {n : Bytes} {t t2 : Levels}
    (ht : (n, t) ∈ tbls) (ht2 : (n, t2) ∈ tbls2) : t = t2 := by
  obtain rfl := h.pt_unique h2
  exact h.tree_eq h2 (Cat.tb_mem ht) (Cat.tb_mem ht2) (h.entry_unique (h.etb _ ht) (h2.etb _ ht2))

theorem Cat.tbls_sub (h : Cat s pt sch tbls) (h2 : Cat s pt2 sch2 tbls2) : ∀ e ∈ tbls, e ∈ tbls2 := by
  intro e he
  obtain rfl := h.pt_unique h2
  have hn : e.1 ∈ tbls.map (·.1) := List.mem_map.mpr ⟨e, he, rfl⟩
  rcases h2.only _ (h.etb e he) with h1 | h1 | h1
  · exact absurd (h1 ▸ hn) h.tsys.1
  · exact absurd (h1 ▸ hn) h.tsys.2
  · obtain ⟨e2, he2, hen⟩ := List.mem_map.mp h1
    have ht : e.2 = e2.2 := h.tree_unique h2 (n := e.1) he (by rw [← hen]; exact he2)
    rw [show e = e2 from Prod.ext hen.symm ht]
    exact he2

end
end Mkdb.Store
