import Mkdb.Proofs.CkptInvariant
import Mkdb.Proofs.KeepsDisk
import Mkdb.Proofs.ReplayCounter
/-!
Crash after a checkpoint: the log is never truncated.  `crash_recovery_spec` (behind C02 "acknowledged
statements survive a crash") assumes an empty log at the start; the real system only appends to its log,
and after any checkpoint the log still holds all earlier records.  Rounds - `checkpoint ; statements ;
crash ; recovery ; statements ; crash ; recovery ; …`: a run of statements from a checkpointed database
(`Ckpt`), followed by a flush, or by a crash (nothing flushed since the checkpoint) and start-up recovery
`Engine.recover` - which replays the *whole* log on the re-opened data file -, ends in a checkpointed
database for the plain-model state of all acknowledged statements.  `Rounds`, `rounds_ckpt`: any number of
such rounds.  Then non-vacuity on the concrete store `st1`.  (A crash while a statement is being logged, from a
checkpoint instead of an empty log: `Ckpt.reopened` gives the `Behind` store that `evalInsert_cut` /
`evalDelete_cut` / `evalUpdate_cut` of `CrashStmtCut` start from.  Refused statements between crashes: `DbCrash`.)
-/

section
set_option autoImplicit false
namespace Mkdb.Store
open Mkdb.Page Mkdb.Tuple Mkdb.Generated Mkdb.Tree Mkdb.Engine

/-- **What a run of statements from a checkpoint keeps true**: the statements `stmts`, run by the engine
from the checkpointed `db`, end in `dbN`, whose log is the old log followed by the records of a live
run; `dbN` is a database in use (`InUse`: all records applied and behind the counters, every clean page a
page of the checkpoint's data file); the side conditions of replay hold; the data file is untouched. -/
theorem Ckpt.run_facts {sch : Levels} {db dbN : Engine.DB} {sdb sdbN : Spec.SDB} {stmts : List EStmt}
    {pt : Levels} {tbls : List (Bytes × Levels)} (h : Ckpt sch db sdb pt tbls)
    (run : SpecRun sch db sdb stmts dbN sdbN) :
    ∃ ptN tblsN stmtsM logs, LiveRunM sch db.store tbls stmtsM dbN.store tblsN logs ∧
      dbN.wal = db.wal ++ logs ∧ AbsV dbN.store ptN sch tblsN sdbN ∧
      InUse sch (fun e => assocGet db.store.disk e.1 = some e.2.1) dbN.store ptN tblsN dbN.wal ∧
      PtSelf ptN ∧ FreshM dbN.store tblsN ∧ MemFiled dbN.store ∧
      dbN.store.disk = db.store.disk ∧ dbN.store.dhdr = db.store.dhdr := by
  obtain ⟨ptN, tblsN, stmtsM, logs, hrun, hw, hAN⟩ := spec_run_live sch run pt tbls h.abs
  obtain ⟨_, habs0, _⟩ := h.abs
  obtain ⟨_, habsN, _⟩ := id hAN
  obtain ⟨hd1, hd2, _⟩ := specRun_disk run
  obtain ⟨ptN', c, hi, hs, hf⟩ := hrun.keeps
    (J := fun s pt tbls done => InUse sch (fun e => assocGet db.store.disk e.1 = some e.2.1) s pt tbls
      (db.wal ++ done) ∧ PtSelf pt ∧ FreshM s tbls)
    (fun hc st _ hJ => ⟨by rw [← List.append_assoc]; exact hJ.1.step hc st, st.ptSelf hc hJ.2.1, st.freshM hJ.2.2⟩)
    habs0.cat (old := []) ⟨by rw [List.append_nil]; exact h.inUse, h.self, h.fresh⟩
  rw [c.pt_unique habsN.cat, List.nil_append, ← hw] at hi
  rw [c.pt_unique habsN.cat] at hs
  exact ⟨ptN, tblsN, stmtsM, logs, hrun, hw, hAN, hi, hs, hf, specRun_memFiled run h.filed, hd1, hd2⟩

/-- **Checkpoint by flush.**  From a checkpointed database run any statements the plain model accepts,
then flush (any page write order; the flush cannot fail, `flush_flushed`): the log is untouched, and the
result `db2` is a checkpointed database for the plain-model state after the statements.  In particular
(`Ckpt.applied`) every record of the log - old and new - is applied on the flushed store. -/
theorem Ckpt.flush_step {sch : Levels} {db dbN db2 : Engine.DB} {sdb sdbN : Spec.SDB} {stmts : List EStmt}
    {pt : Levels} {tbls : List (Bytes × Levels)} {order : List Nat} (h : Ckpt sch db sdb pt tbls)
    (run : SpecRun sch db sdb stmts dbN sdbN) (hfl : Engine.flush dbN order = .ok () db2) :
    ∃ ptL tblsL, db2.wal = dbN.wal ∧ AbsV dbN.store ptL sch tblsL sdbN ∧
      Ckpt sch db2 sdbN (clean ptL) (cleanT tblsL) ∧ db2.store.hdr = dbN.store.hdr := by
  rw [flush_flushed] at hfl
  cases hfl
  obtain ⟨_, hcs, _⟩ := h.disk.clean_eq
  obtain ⟨ptN, tblsN, _, _, _, _, hAN, hi, hselfN, hfN, hmfN, hd1, _⟩ := h.run_facts run
  have hk := Ckpt.of_flushed hAN hselfN hfN hmfN hi.applied hi.lsn hi.keys (hi.synced hd1) order
  rw [hcs] at hk
  exact ⟨ptN, tblsN, rfl, hAN, hk, (flushed_spec order dbN.store hmfN).1⟩

/-- **Crash after a checkpoint: the whole log replayed on the re-opened data file.**  From a
checkpointed database run any statements the plain model accepts; then the machine crashes - nothing
was flushed since the checkpoint; the log (never truncated: the records from before the checkpoint,
then the records of the statements) is complete.  `replayAll` of the whole log on the re-opened data
file `reopen dbN.store` succeeds: the old records change nothing visible, the new ones are redone.  The
replayed store `rN` is behind the live final store (`Behind`: it satisfies its catalog description - the
same pages, dirty bits included - and has its allocation frontier and catalog root), has the live row-id
counter and an LSN counter at most one behind the live one, and abstracts to the plain-model state of
all acknowledged statements. -/
theorem Ckpt.replay_reopened {sch : Levels} {db dbN : Engine.DB} {sdb sdbN : Spec.SDB} {stmts : List EStmt}
    {pt : Levels} {tbls : List (Bytes × Levels)} (h : Ckpt sch db sdb pt tbls)
    (run : SpecRun sch db sdb stmts dbN sdbN) :
    ∃ ptN tblsN rN, replayAll dbN.wal (reopen dbN.store) = (rN, none, false) ∧
      AbsV dbN.store ptN sch tblsN sdbN ∧ AbsV rN ptN sch tblsN sdbN ∧ Behind sch dbN.store rN ptN tblsN ∧
      FreshM dbN.store tblsN ∧ Synced rN ptN sch tblsN ∧ (∀ r ∈ dbN.wal, AppliedC ptN sch tblsN r) ∧
      rN.hdr.lastKey = dbN.store.hdr.lastKey ∧ dbN.store.hdr.nextLSN ≤ rN.hdr.nextLSN + 1 := by
  obtain ⟨ptN, tblsN, stmtsM, logs, hrun, hw, hAN, hi, _, _, _, hd1, hd2⟩ := h.run_facts run
  obtain ⟨sdbF, habsF, hvF⟩ := hAN
  -- the old records change nothing, the new ones are redone
  obtain ⟨r1, e1, hb1, hh1⟩ := h.reopened dbN.store hd1 hd2
  obtain ⟨ptN', rN, e, hb, hfN, hk, hn⟩ := replay_run sch hrun hb1 h.fresh
  rw [hb.live.pt_unique habsF.cat] at hb
  have eall : replayAll dbN.wal (reopen dbN.store) = (rN, none, false) := by
    rw [hw, replayAll_append e1]; exact e
  obtain ⟨hdN1, _, _⟩ : DiskSame (reopen dbN.store) rN := by
    have := replayAll_disk dbN.wal (reopen dbN.store)
    rw [eall] at this; exact this
  have hnx : dbN.store.hdr.nextLSN ≤ rN.hdr.nextLSN + 1 := by
    rcases hn with ⟨_, rfl, hN, _⟩ | hn
    · rw [hN, hh1]; exact Nat.le_succ _
    · exact Nat.le_of_eq hn.symm
  exact ⟨ptN, tblsN, rN, eall, ⟨sdbF, habsF, hvF⟩, ⟨sdbF, ⟨hb.redo, habsF.tabs⟩, hvF⟩, hb, hfN,
    hi.synced (hdN1.trans hd1), hi.applied, hk (by rw [hh1]), hnx⟩

/-- the same about `Engine.recoverPre`: the cache right before recovery's own flush (the state a second
crash, inside that flush, would tear) abstracts to the plain-model state of all acknowledged statements -/
theorem Ckpt.recoverPre {sch : Levels} {db dbN : Engine.DB} {sdb sdbN : Spec.SDB} {stmts : List EStmt}
    {pt : Levels} {tbls : List (Bytes × Levels)} (h : Ckpt sch db sdb pt tbls)
    (run : SpecRun sch db sdb stmts dbN sdbN) :
    ∃ ptN tblsN rB, Engine.recoverPre dbN = some rB ∧
      AbsV dbN.store ptN sch tblsN sdbN ∧ AbsV rB ptN sch tblsN sdbN := by
  obtain ⟨ptN, tblsN, rN, eall, hAN, ⟨sdbF, habsR, hvF⟩, _⟩ := h.replay_reopened run
  refine ⟨ptN, tblsN, { rN with hdr := { rN.hdr with nextLSN := rN.hdr.nextLSN + 1 } }, ?_, hAN,
    ⟨sdbF, ⟨habsR.cat.raise rfl rfl rfl (Nat.le_refl _), habsR.tabs⟩, hvF⟩⟩
  unfold Engine.recoverPre
  rw [eall]

/-- **The tail of start-up recovery**, after a replay that ran to its end: the LSN bump, recovery's own flush
and the deferred one, concluded as `flush_ckpt` concludes - what `Ckpt` and `DbFlushed` have in common.  If
the replayed cache `rN` abstracts to `sdb` and its clean pages are in the data file, `Engine.recover`
succeeds and keeps the log; its store has the header of `rN` but for the bump.  (That the cache is filed,
that no LSN of the log is above the counter and no INSERT key above the row-id counter, the replay gives.) -/
theorem recover_of_replayed_core {sch : Levels} {db : Engine.DB} {rN : Store}
    (eall : replayAll db.wal (reopen db.store) = (rN, none, false))
    {sdb : Spec.SDB} {pt : Levels} {tbls : List (Bytes × Levels)} (hA : AbsV rN pt sch tbls sdb)
    (hsy : Synced rN pt sch tbls) (o1 o2 : List Nat) :
    ∃ s', Engine.recover db o1 o2 = .ok { store := s', wal := db.wal } ∧
      AbsV s' (clean pt) (clean sch) (cleanT tbls) sdb ∧ MemFiled s' ∧ s'.dhdr = s'.hdr ∧
      OnDisk s' (clean pt) (clean sch) (cleanT tbls) ∧
      s'.hdr = { rN.hdr with nextLSN := rN.hdr.nextLSN + 1 } ∧
      (∀ r ∈ db.wal, r.lsn < s'.hdr.nextLSN) ∧ (∀ r ∈ db.wal, r.op = c_OpInsert → r.cell ≤ s'.hdr.lastKey) := by
  obtain ⟨sdbF, habsR, hvF⟩ := hA
  have hmB : MemFiled { rN with hdr := { rN.hdr with nextLSN := rN.hdr.nextLSN + 1 } } := by
    have := replayAll_memFiled db.wal (reopen db.store) (reopen_memFiled _)
    rw [eall] at this
    exact this.of_mem_eq rfl
  obtain ⟨hA1, hh1, _, hm1, hd1⟩ := flush_ckpt
    (s := { rN with hdr := { rN.hdr with nextLSN := rN.hdr.nextLSN + 1 } })
    ⟨sdbF, ⟨habsR.cat.raise rfl rfl rfl (Nat.le_refl _), habsR.tabs⟩, hvF⟩ hmB hsy o1
  obtain ⟨hA2, hh2, hdh2, hm2, hd2⟩ := flush_ckpt hA1 hm1 hd1.synced o2
  obtain ⟨c1, c2, c3⟩ := hd1.clean_eq
  rw [c1, c2, c3] at hA2 hd2
  refine ⟨_, ?_, hA2, hm2, by rw [hdh2, hh2], hd2, hh2.trans hh1, ?_, ?_⟩
  · unfold Engine.recover
    simp only [eall, flushPages_flushed]
  · intro r hr
    rw [hh2, hh1]
    exact Nat.lt_succ_of_le (replayAll_lsn db.wal _ _ eall r hr)
  · intro r hr hop
    rw [hh2, hh1]
    exact (replayAll_counter db.wal _ _ eall).1 r hr hop

/-- **Start-up recovery after a replay that ran to its end**, for the checkpoint invariant: if moreover the
whole log is applied for the catalog description of `rN` and its pages - once the LSN counter is bumped -
are all older than the counter, `Engine.recover` ends checkpointed for `sdb`. -/
theorem recover_of_replayed {sch : Levels} (hcs : clean sch = sch) {db : Engine.DB} {rN : Store}
    (eall : replayAll db.wal (reopen db.store) = (rN, none, false))
    {sdb : Spec.SDB} {pt : Levels} {tbls : List (Bytes × Levels)} (hA : AbsV rN pt sch tbls sdb)
    (hself : PtSelf pt) (hfr : FreshM { rN with hdr := { rN.hdr with nextLSN := rN.hdr.nextLSN + 1 } } tbls)
    (hlog : ∀ r ∈ db.wal, AppliedC pt sch tbls r) (hsy : Synced rN pt sch tbls) (o1 o2 : List Nat) :
    ∃ db', Engine.recover db o1 o2 = .ok db' ∧ db'.wal = db.wal ∧ Ckpt sch db' sdb (clean pt) (cleanT tbls) ∧
      db'.store.hdr = { rN.hdr with nextLSN := rN.hdr.nextLSN + 1 } := by
  obtain ⟨s', er, hA', hm, hdh, hd, hh, hl, hk⟩ := recover_of_replayed_core eall hA hsy o1 o2
  rw [hcs] at hA' hd
  exact ⟨_, er, rfl, ⟨hA', hself.clean, hfr.clean (by rw [hh]; exact Nat.le_refl _) (by rw [hh]; exact Nat.le_refl _),
    hm, fun r hr => hcs ▸ (hlog r hr).clean, hl, hk, hdh, hd⟩, hh⟩

/-- **Crash and recovery.**  From a checkpointed database run any statements the plain model accepts;
then the machine crashes - nothing was flushed since the checkpoint, the log is complete.  Start-up
recovery `Engine.recover` re-opens the data file, replays the *whole* log on it (`Ckpt.replay_reopened`),
bumps the LSN counter and flushes twice (`recover_of_replayed`).  It succeeds,
leaves the log as it was, and its result is a checkpointed database for the plain-model state of all
acknowledged statements: the store abstracts to it with the catalog description of the live final
store (cleaned), the whole log is applied on it, everything is on disk; allocation frontier, row-id
counter and catalog root are the live ones, the LSN counter is the live one or one more. -/
theorem Ckpt.recover_round_full {sch : Levels} {db dbN : Engine.DB} {sdb sdbN : Spec.SDB} {stmts : List EStmt}
    {pt : Levels} {tbls : List (Bytes × Levels)} (h : Ckpt sch db sdb pt tbls)
    (run : SpecRun sch db sdb stmts dbN sdbN) (o1 o2 : List Nat) :
    ∃ db' ptL tblsL, Engine.recover dbN o1 o2 = .ok db' ∧ db'.wal = dbN.wal ∧
      AbsV dbN.store ptL sch tblsL sdbN ∧ Ckpt sch db' sdbN (clean ptL) (cleanT tblsL) ∧
      db'.store.hdr.nextFree = dbN.store.hdr.nextFree ∧ db'.store.hdr.lastKey = dbN.store.hdr.lastKey ∧
      db'.store.hdr.ptRoot = dbN.store.hdr.ptRoot ∧
      dbN.store.hdr.nextLSN ≤ db'.store.hdr.nextLSN ∧ db'.store.hdr.nextLSN ≤ dbN.store.hdr.nextLSN + 1 := by
  obtain ⟨_, hcs, _⟩ := h.disk.clean_eq
  obtain ⟨ptN, tblsN, rN, eall, hAN, hAR, hb, hfN, hsy, hlogN, a2, hnx⟩ := h.replay_reopened run
  obtain ⟨db', e, hw, hk, hh⟩ := recover_of_replayed hcs eall hAR hb.self
    (hfN.of_hdr hnx (by show _ ≤ rN.hdr.nextFree; rw [hb.nf]; exact Nat.le_refl _)) hlogN hsy o1 o2
  refine ⟨db', ptN, tblsN, e, hw, hAN, hk, ?_, ?_, ?_, ?_, ?_⟩ <;> rw [hh]
  · exact hb.nf
  · exact a2
  · show rN.hdr.ptRoot = _; rw [← hb.redo.root, ← hb.live.root]
  · exact hnx
  · exact Nat.succ_le_succ hb.lsn

/-- `Ckpt.recover_round_full` without the link to the live state -/
theorem Ckpt.recover_round {sch : Levels} {db dbN : Engine.DB} {sdb sdbN : Spec.SDB} {stmts : List EStmt}
    {pt : Levels} {tbls : List (Bytes × Levels)} (h : Ckpt sch db sdb pt tbls)
    (run : SpecRun sch db sdb stmts dbN sdbN) (o1 o2 : List Nat) :
    ∃ db' ptN tblsN, Engine.recover dbN o1 o2 = .ok db' ∧ db'.wal = dbN.wal ∧
      Ckpt sch db' sdbN ptN tblsN := by
  obtain ⟨db', ptL, tblsL, e, hw, _, hk, _⟩ := h.recover_round_full run o1 o2
  exact ⟨db', _, _, e, hw, hk⟩

/-- the recovery that closes the round returned `db2` -/
theorem Ckpt.recover_step {sch : Levels} {db dbN db2 : Engine.DB} {sdb sdbN : Spec.SDB} {stmts : List EStmt}
    {pt : Levels} {tbls : List (Bytes × Levels)} {o1 o2 : List Nat} (h : Ckpt sch db sdb pt tbls)
    (run : SpecRun sch db sdb stmts dbN sdbN) (hrec : Engine.recover dbN o1 o2 = .ok db2) :
    ∃ ptL tblsL, db2.wal = dbN.wal ∧ AbsV dbN.store ptL sch tblsL sdbN ∧
      Ckpt sch db2 sdbN (clean ptL) (cleanT tblsL) ∧
      db2.store.hdr.nextFree = dbN.store.hdr.nextFree ∧ db2.store.hdr.lastKey = dbN.store.hdr.lastKey ∧
      db2.store.hdr.ptRoot = dbN.store.hdr.ptRoot ∧
      dbN.store.hdr.nextLSN ≤ db2.store.hdr.nextLSN ∧ db2.store.hdr.nextLSN ≤ dbN.store.hdr.nextLSN + 1 := by
  obtain ⟨db', ptL, tblsL, e, r⟩ := h.recover_round_full run o1 o2
  obtain rfl := Engine.RecRes.ok.inj (e.symm.trans hrec)
  exact ⟨ptL, tblsL, r⟩

/-! ### any number of rounds -/

/-- a history of rounds from `db` (plain model `sdb`) to `db'` (plain model `sdb'`): each round runs
statements the plain model accepts and then either flushes, or crashes (nothing flushed since the last
flush or recovery) and is recovered by `Engine.recover`, whose result is the next database -/
inductive Rounds (sch : Levels) (db : Engine.DB) (sdb : Spec.SDB) : Engine.DB → Spec.SDB → Prop
  | nil : Rounds sch db sdb db sdb
  | flush {db1 dbN db2 : Engine.DB} {sdb1 sdbN : Spec.SDB} {stmts : List EStmt} {order : List Nat}
      (hist : Rounds sch db sdb db1 sdb1) (run : SpecRun sch db1 sdb1 stmts dbN sdbN)
      (hfl : Engine.flush dbN order = .ok () db2) : Rounds sch db sdb db2 sdbN
  | crash {db1 dbN db2 : Engine.DB} {sdb1 sdbN : Spec.SDB} {stmts : List EStmt} {o1 o2 : List Nat}
      (hist : Rounds sch db sdb db1 sdb1) (run : SpecRun sch db1 sdb1 stmts dbN sdbN)
      (hrec : Engine.recover dbN o1 o2 = .ok db2) : Rounds sch db sdb db2 sdbN

/-- **Any number of rounds of `statements ; flush` and `statements ; crash ; recovery`** from a
checkpointed database end in a checkpointed database for the plain-model state of *all* acknowledged
statements: after every recovery the store abstracts to the plain database the statements so far
produce, with a log that was never truncated and is replayed in full each time. -/
theorem rounds_ckpt {sch : Levels} {db db' : Engine.DB} {sdb sdb' : Spec.SDB}
    (hist : Rounds sch db sdb db' sdb') {pt : Levels} {tbls : List (Bytes × Levels)}
    (h : Ckpt sch db sdb pt tbls) : ∃ pt' tbls', Ckpt sch db' sdb' pt' tbls' := by
  induction hist with
  | nil => exact ⟨pt, tbls, h⟩
  | flush _ run hfl ih =>
    obtain ⟨_, _, h1⟩ := ih
    obtain ⟨_, _, _, _, hk, _⟩ := h1.flush_step run hfl
    exact ⟨_, _, hk⟩
  | crash _ run hrec ih =>
    obtain ⟨_, _, h1⟩ := ih
    obtain ⟨_, _, _, _, hk, _⟩ := h1.recover_step run hrec
    exact ⟨_, _, hk⟩

/-- a crash can always be recovered from: in a history of rounds no recovery fails -/
theorem rounds_recover {sch : Levels} {db db1 dbN : Engine.DB} {sdb sdb1 sdbN : Spec.SDB} {stmts : List EStmt}
    {pt : Levels} {tbls : List (Bytes × Levels)} (h : Ckpt sch db sdb pt tbls)
    (hist : Rounds sch db sdb db1 sdb1) (run : SpecRun sch db1 sdb1 stmts dbN sdbN) (o1 o2 : List Nat) :
    ∃ db2, Engine.recover dbN o1 o2 = .ok db2 ∧ Rounds sch db sdb db2 sdbN ∧
      ∃ pt2 tbls2, AbsV db2.store pt2 sch tbls2 sdbN ∧ ∀ r ∈ db2.wal, Applied tbls2 db2.store r := by
  obtain ⟨pt1, tbls1, h1⟩ := rounds_ckpt hist h
  obtain ⟨db2, ptN, tblsN, e, _, hk⟩ := h1.recover_round run o1 o2
  exact ⟨db2, e, .crash hist run e, ptN, tblsN, hk.abs, hk.applied⟩

end Mkdb.Store
end

section
/-!
Non-vacuity of `crash_recovery_ckpt` and of `Rounds` on the concrete store
`st1` of `crash_example` - once from a log that already holds an applied record, once through a
checkpoint and two rounds of statement, crash and recovery.
-/
set_option autoImplicit false
namespace Mkdb.Store
open Mkdb.Page Mkdb.Tuple Mkdb.Generated Mkdb.Tree Mkdb.Engine

/-- a record from before the checkpoint: an insert into table `t` (root page 12288) whose page carries
its LSN already -/
def oldRec : WalRec := ⟨c_OpInsert, 0, 12288, 4, []⟩

def dbB : Engine.DB := { store := st1, wal := [oldRec] }

theorem oldRec_applied : AppliedC pt0 sch1 [(tname, t0)] oldRec :=
  .inl ⟨t0, by simp [catTrees], (12288, .leaf ⟨12288, 0, false, false, 0, 0, []⟩, true), by decide, rfl,
    Nat.le_refl _⟩

/-- **Non-vacuity of `crash_recovery_ckpt`.**  `INSERT INTO t VALUES (5), (6)` run by the engine from
`dbB`, whose log is not empty; the log afterwards starts with the old record; replayed in full on
`st1` it gives a store that abstracts to the plain database `sdbA1` (the table holds `(5)`, `(6)`). -/
theorem crash_ckpt_example : ∃ db1 ptN tblsN rN,
    SpecRun sch1 dbB sdbA0 [.insert tname [] [[.int 5], [.int 6]]] db1 sdbA1 ∧
    db1.wal.head? = some oldRec ∧
    replayAll db1.wal st1 = (rN, none, false) ∧
    AbsV db1.store ptN sch1 tblsN sdbA1 ∧ AbsV rN ptN sch1 tblsN sdbA1 := by
  obtain ⟨db1, _, _, logs1, run, _, hw, _⟩ := SpecRun.insert_one (db := dbB) abs1.toV (List.mem_singleton.mpr rfl) sch1_t
    rows56_valid specA1 runA
  obtain ⟨ptN, tblsN, rN, e, hA1, hA2, _⟩ := crash_recovery_ckpt sch1 run pt0 [(tname, t0)] abs1.toV pt0_self
    freshM_st1
    (List.forall_mem_singleton.mpr (oldRec_applied.applied cat1)) (List.forall_mem_singleton.mpr (by decide))
    (List.forall_mem_singleton.mpr fun _ => by decide)
  exact ⟨db1, ptN, tblsN, rN, run, by rw [hw]; rfl, e, hA1, hA2⟩

/-! ### rounds -/

/-- the side conditions of the INSERT hold on the flushed store -/
theorem runA' : InsRunOK schemaA ([].map Engine.bytesToName) (clean t0) 4 7 16384 [[.int 5], [.int 6]] :=
  InsRunOK.of_check _ _ _ _ _ _ _ (by decide +kernel)

theorem synced_st1 : Synced st1 pt0 sch1 [(tname, t0)] := by decide +kernel

/-- **Non-vacuity of the rounds.**  The database `dbA` (store `st1`, empty log) is flushed: a
checkpoint.  Then `INSERT INTO t VALUES (5), (6)`, crash, recovery; then `UPDATE t SET a = 7 WHERE a =
5`, crash, recovery - the second recovery finds the records of the insert in its log, applied, and
redoes the update.  Both recoveries succeed; the final database is checkpointed for the plain database
`sdbA2` (the table holds `(7)`, `(6)`), and these four steps form a `Rounds` history. -/
theorem rounds_example : ∃ dbC db1 dbR1 db2 dbR2 pt2 tbls2,
    Engine.flush dbA [] = .ok () dbC ∧
    SpecRun (clean sch1) dbC sdbA0 [.insert tname [] [[.int 5], [.int 6]]] db1 sdbA1 ∧
    Engine.recover db1 [] [] = .ok dbR1 ∧ dbR1.wal = db1.wal ∧
    SpecRun (clean sch1) dbR1 sdbA1 [.update tname [([97], .lit (.int 7))] (some (condEq 5))] db2 sdbA2 ∧
    Engine.recover db2 [] [] = .ok dbR2 ∧ dbR2.wal = db2.wal ∧
    Ckpt (clean sch1) dbR2 sdbA2 pt2 tbls2 ∧ Rounds (clean sch1) dbC sdbA0 dbR2 sdbA2 := by
  have hhC : (flushed [] st1).hdr = st1.hdr := (flushed_spec [] st1 st1_memFiled).1
  have hk0 : Ckpt (clean sch1) { store := flushed [] st1, wal := [] } sdbA0 (clean pt0) (cleanT [(tname, t0)]) :=
    Ckpt.of_flushed abs1.toV pt0_self freshM_st1 st1_memFiled (by intro r hr; cases hr)
      (by intro r hr; cases hr) (by intro r hr; cases hr) synced_st1 []
  have hflush : Engine.flush dbA [] = .ok () { store := flushed [] st1, wal := [] } := by
    simp only [Engine.flush, Engine.liftS, dbA, flushPages_flushed]
  have hmem : (tname, clean t0) ∈ cleanT [(tname, t0)] := List.mem_singleton.mpr rfl
  have hsch : schemaOf (clean sch1) tname = some schemaA := by rw [schemaOf_clean]; exact sch1_t
  have hrunC : InsRunOK schemaA ([].map Engine.bytesToName) (clean t0) (flushed [] st1).hdr.lastKey
      (flushed [] st1).hdr.nextLSN (flushed [] st1).hdr.nextFree [[.int 5], [.int 6]] := by rw [hhC]; exact runA'
  obtain ⟨db1, _, _, _, run1, _⟩ := SpecRun.insert_one hk0.abs hmem hsch rows56_valid specA1 hrunC
  obtain ⟨dbR1, pt1, tbls1, er1, hw1, hk1⟩ := hk0.recover_round run1 [] []
  obtain ⟨db2, _, run2, _⟩ := SpecRun.update_one hk1.abs set7_valid set7_utf specA2
  obtain ⟨dbR2, pt2, tbls2, er2, hw2, hk2⟩ := hk1.recover_round run2 [] []
  exact ⟨_, db1, dbR1, db2, dbR2, pt2, tbls2, hflush, run1, er1, hw1, run2, er2, hw2, hk2,
    .crash (.crash .nil run1 er1) run2 er2⟩

end Mkdb.Store
end
