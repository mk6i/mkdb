import Mkdb.Proofs.Evict
/-!
C16 on the heap model: the run on the smaller cache IS the run on the larger cache.  The theorems of `Evict`
go through the plain model: that says "accepted / refused" but not "refused with the same error", needs the
side conditions of the refinement theorems, and says nothing about a statement refused at a later row.
Here and in `CacheSimEngine` the statement is proved directly on the heap model, for every program of the
page store and every statement: first the simulation relation (`CacheEq`, `SRel`, `Sim`) and the primitives
of the page store, then every program of the page store is a `Sim`.
-/

section
set_option autoImplicit false
namespace Mkdb.Store
open Mkdb.Page Mkdb.Tuple Mkdb.Generated Mkdb.Tree Mkdb.Engine

/-- one cache entry per offset (the cache is a Go map) -/
def MemNodup (s : Store) : Prop := s.mem.Pairwise fun a b => a.1 ≠ b.1

theorem assocSet_nodup {β} (l : List (Nat × β)) (k : Nat) (v : β) (h : l.Pairwise fun a b => a.1 ≠ b.1) :
    (assocSet l k v).Pairwise fun a b => a.1 ≠ b.1 := by
  unfold assocSet
  split
  · rw [List.pairwise_map]
    refine h.imp ?_
    intro a b hab
    have ha : (if (a.1 == k) = true then (k, v) else a).1 = a.1 := by
      split
      · rename_i hk; simp only [beq_iff_eq] at hk; exact hk.symm
      · rfl
    have hb : (if (b.1 == k) = true then (k, v) else b).1 = b.1 := by
      split
      · rename_i hk; simp only [beq_iff_eq] at hk; exact hk.symm
      · rfl
    rw [ha, hb]; exact hab
  · rename_i hany
    rw [List.pairwise_append]
    refine ⟨h, List.pairwise_singleton _ _, ?_⟩
    intro a ha b hb
    rw [List.mem_singleton] at hb
    subst hb
    intro hk
    exact hany (List.any_eq_true.mpr ⟨a, ha, by simpa using hk⟩)

theorem MemNodup.set {s s' : Store} (h : MemNodup s) {k : Nat} {v : MNode} (e : s'.mem = assocSet s.mem k v) :
    MemNodup s' := by
  unfold MemNodup
  rw [e]
  exact assocSet_nodup _ _ _ h

theorem MemNodup.evict {s : Store} (h : MemNodup s) (offs : List Nat) : MemNodup (evict s offs) :=
  List.Pairwise.sublist List.filter_sublist h

/-- **The store `s2` is the store `s1` with a smaller cache**: the engine sees the same page with the same
dirty bit at EVERY offset of both, cached or not. -/
structure CacheEq (s1 s2 : Store) : Prop where
  hdr : s2.hdr = s1.hdr
  dhdr : s2.dhdr = s1.dhdr
  ghost : s2.ghost = s1.ghost
  disk : ∀ o, assocGet s2.disk o = assocGet s1.disk o
  view : ∀ o, view s2 o = view s1 o
  res : ∀ o, (assocGet s2.mem o).isSome = true → (assocGet s1.mem o).isSome = true
  filed1 : MemFiled s1
  filed2 : MemFiled s2
  nodup1 : MemNodup s1
  nodup2 : MemNodup s2

theorem CacheEq.refl {s : Store} (hf : MemFiled s) (hn : MemNodup s) : CacheEq s s :=
  ⟨rfl, rfl, rfl, fun _ => rfl, fun _ => rfl, fun _ h => h, hf, hf, hn, hn⟩

theorem CacheEq.view_fun {s1 s2 : Store} (h : CacheEq s1 s2) : Store.view s2 = Store.view s1 := funext h.view

/-- the clean pages at these offsets are the data file's pages -/
def EvictSafe (s : Store) (offs : List Nat) : Prop :=
  ∀ o ∈ offs, ∀ n, Store.view s o = some (n, false) → assocGet s.disk o = some n

theorem evict_view_safe {s : Store} {offs : List Nat} (hs : EvictSafe s offs) (o : Nat) :
    Store.view (evict s offs) o = Store.view s o := by
  by_cases ho : o ∈ offs
  · exact evict_view_eq (hs o ho)
  · unfold Store.view
    rw [evict_keeps_others ho]
    rfl

theorem CacheEq.evictSafe {s1 s2 : Store} (h : CacheEq s1 s2) {offs : List Nat} (hs : EvictSafe s2 offs) :
    EvictSafe s1 offs := fun o ho n hv => by rw [← h.disk]; exact hs o ho n (by rw [h.view]; exact hv)

theorem CacheEq.evict_right {s1 s2 : Store} (h : CacheEq s1 s2) (offs : List Nat) (hs : EvictSafe s2 offs) :
    CacheEq s1 (evict s2 offs) where
  hdr := h.hdr
  dhdr := h.dhdr
  ghost := h.ghost
  disk := h.disk
  view := fun o => (evict_view_safe hs o).trans (h.view o)
  res := fun o ho => by
    apply h.res o
    rw [assocGet_evict] at ho
    split at ho
    · cases ho
    · exact ho
  filed1 := h.filed1
  filed2 := h.filed2.evict offs
  nodup1 := h.nodup1
  nodup2 := h.nodup2.evict offs

theorem CacheEq.evictable_eq {s1 s2 : Store} (h : CacheEq s1 s2) (offs : List Nat) {o : Nat}
    (h2 : (assocGet s2.mem o).isSome = true) : evictable s1 offs o = evictable s2 offs o := by
  have h1 := h.res o h2
  have hv := h.view o
  unfold Store.view at hv
  unfold evictable
  cases e1 : assocGet s1.mem o with
  | none => rw [e1] at h1; cases h1
  | some m1 =>
    cases e2 : assocGet s2.mem o with
    | none => rw [e2] at h2; cases h2
    | some m2 =>
      rw [e1, e2] at hv
      simp only [Option.some.injEq, Prod.mk.injEq] at hv
      simp only [Option.map_some, hv.2]

theorem CacheEq.evict_both {s1 s2 : Store} (h : CacheEq s1 s2) (offs : List Nat) (hs : EvictSafe s2 offs) :
    CacheEq (evict s1 offs) (evict s2 offs) where
  hdr := h.hdr
  dhdr := h.dhdr
  ghost := h.ghost
  disk := h.disk
  view := fun o => by rw [evict_view_safe hs, evict_view_safe (h.evictSafe hs)]; exact h.view o
  res := fun o ho => by
    rw [assocGet_evict] at ho ⊢
    split at ho
    · cases ho
    · rename_i hne
      rw [h.evictable_eq offs ho, if_neg hne]
      exact h.res o ho
  filed1 := h.filed1.evict offs
  filed2 := h.filed2.evict offs
  nodup1 := h.nodup1.evict offs
  nodup2 := h.nodup2.evict offs

theorem CacheEq.of_evict {s : Store} (hf : MemFiled s) (hn : MemNodup s) (offs : List Nat) (hs : EvictSafe s offs) :
    CacheEq s (evict s offs) := (CacheEq.refl hf hn).evict_right offs hs

theorem CacheEq.with_hdr {s1 s2 : Store} (h : CacheEq s1 s2) (h1 h2 : Header) (e : h2 = h1) :
    CacheEq { s1 with hdr := h1 } { s2 with hdr := h2 } :=
  ⟨e, h.dhdr, h.ghost, h.disk, h.view, h.res, h.filed1.of_mem_eq rfl, h.filed2.of_mem_eq rfl, h.nodup1, h.nodup2⟩

theorem CacheEq.with_dhdr {s1 s2 : Store} (h : CacheEq s1 s2) (d1 d2 : Header) (e : d2 = d1) :
    CacheEq { s1 with dhdr := d1 } { s2 with dhdr := d2 } :=
  ⟨h.hdr, e, h.ghost, h.disk, h.view, h.res, h.filed1.of_mem_eq rfl, h.filed2.of_mem_eq rfl, h.nodup1, h.nodup2⟩

theorem CacheEq.with_ghost {s1 s2 : Store} (h : CacheEq s1 s2) (g1 g2 : Nat) (e : g2 = g1) :
    CacheEq { s1 with ghost := g1 } { s2 with ghost := g2 } :=
  ⟨h.hdr, h.dhdr, e, h.disk, h.view, h.res, h.filed1.of_mem_eq rfl, h.filed2.of_mem_eq rfl, h.nodup1, h.nodup2⟩

theorem CacheEq.set_both {s1 s2 : Store} (h : CacheEq s1 s2) (k : Nat) (m : MNode) (hk : nodeOff m.node = k)
    (h1 h2 : Header) (e : h2 = h1) :
    CacheEq { s1 with mem := assocSet s1.mem k m, hdr := h1 } { s2 with mem := assocSet s2.mem k m, hdr := h2 } where
  hdr := e
  dhdr := h.dhdr
  ghost := h.ghost
  disk := h.disk
  view := fun o => by
    rw [view_set s2 _ h2 k m rfl, view_set s1 _ h1 k m rfl]
    unfold upd
    rw [h.view o]
  res := fun o ho => by
    simp only [assocGet_assocSet] at ho ⊢
    by_cases hok : o = k
    · simp [hok]
    · simp only [hok, if_false] at ho ⊢
      exact h.res o ho
  filed1 := h.filed1.set hk rfl
  filed2 := h.filed2.set hk rfl
  nodup1 := h.nodup1.set rfl
  nodup2 := h.nodup2.set rfl

theorem CacheEq.set_right {s1 s2 : Store} (h : CacheEq s1 s2) (k : Nat) (m : MNode) (hk : nodeOff m.node = k)
    (hv : Store.view s1 k = some (m.node, m.dirty)) (hr : (assocGet s1.mem k).isSome = true) :
    CacheEq s1 { s2 with mem := assocSet s2.mem k m } where
  hdr := h.hdr
  dhdr := h.dhdr
  ghost := h.ghost
  disk := h.disk
  view := fun o => by
    rw [view_set s2 _ s2.hdr k m rfl]
    unfold upd
    by_cases hok : o = k
    · simp only [hok, if_true]; exact hv.symm
    · simp only [hok, if_false]; exact h.view o
  res := fun o ho => by
    simp only [assocGet_assocSet] at ho
    by_cases hok : o = k
    · rw [hok]; exact hr
    · simp only [hok, if_false] at ho
      exact h.res o ho
  filed1 := h.filed1
  filed2 := h.filed2.set hk rfl
  nodup1 := h.nodup1
  nodup2 := h.nodup2.set rfl

/-- the dirty bit `putNode` keeps is the one the engine sees -/
theorem dirtyBit_view (s : Store) (o : Nat) :
    ((assocGet s.mem o).map (·.dirty)).getD false = ((Store.view s o).map (·.2)).getD false := by
  unfold Store.view
  cases assocGet s.mem o with
  | some m => rfl
  | none => cases assocGet s.disk o <;> rfl

theorem CacheEq.dirty_eq {s1 s2 : Store} (h : CacheEq s1 s2) (o : Nat) :
    ((assocGet s2.mem o).map (·.dirty)).getD false = ((assocGet s1.mem o).map (·.dirty)).getD false := by
  rw [dirtyBit_view, dirtyBit_view, h.view o]

theorem CacheEq.node_eq {s1 s2 : Store} (h : CacheEq s1 s2) {o : Nat} {m1 m2 : MNode}
    (e1 : assocGet s1.mem o = some m1) (e2 : assocGet s2.mem o = some m2) : m2.node = m1.node := by
  have := h.view o
  unfold Store.view at this
  rw [e1, e2] at this
  simp only [Option.some.injEq, Prod.mk.injEq] at this
  exact this.1

/-! ### results and programs -/

/-- The result on the larger cache (`r1`) against the result on the smaller cache (`r2`).  Nothing is said
when the run on the smaller cache panics: the one panic that depends on the cache is `markDirty` on a page
that is not resident - the model's stand-in for Go's use of a page pointer after the page left the cache,
which no statement does (`C18_dml_ddl_never_crash`). -/
def SRel {α} (r1 r2 : SRes α) : Prop :=
  match r2 with
  | .ok a s2 => ∃ s1, r1 = .ok a s1 ∧ CacheEq s1 s2
  | .err e s2 => ∃ s1, r1 = .err e s1 ∧ CacheEq s1 s2
  | .panic _ => True
  | .unmodelled w => r1 = .unmodelled w
  | .fuel => r1 = .fuel

theorem SRel.ok {α} {a : α} {s1 s2 : Store} (h : CacheEq s1 s2) : SRel (.ok a s1) (.ok a s2) := ⟨s1, rfl, h⟩
theorem SRel.err {α} {e : SErr} {s1 s2 : Store} (h : CacheEq s1 s2) : SRel (.err e s1 : SRes α) (.err e s2) :=
  ⟨s1, rfl, h⟩
theorem SRel.panic {α} {r1 : SRes α} {p : String} : SRel r1 (.panic p) := trivial
theorem SRel.unmodelled {α} {w : String} : SRel (.unmodelled w : SRes α) (.unmodelled w) := rfl
theorem SRel.fuel {α} : SRel (.fuel : SRes α) .fuel := rfl

/-- The five ways two results are related.  Every proof that a consumer of results (`>>=`, `liftS`, the
counters of `btInsert`, …) respects the relation is this case analysis. -/
@[elab_as_elim]
theorem SRel.cases {α} {motive : SRes α → SRes α → Prop} {r1 r2 : SRes α} (h : SRel r1 r2)
    (ok : ∀ a s1 s2, CacheEq s1 s2 → motive (.ok a s1) (.ok a s2))
    (err : ∀ e s1 s2, CacheEq s1 s2 → motive (.err e s1) (.err e s2))
    (panic : ∀ p, motive r1 (.panic p))
    (unmodelled : ∀ w, motive (.unmodelled w) (.unmodelled w))
    (fuel : motive .fuel .fuel) : motive r1 r2 := by
  cases r2 with
  | ok a s2 => obtain ⟨s1, rfl, hs⟩ := h; exact ok a s1 s2 hs
  | err e s2 => obtain ⟨s1, rfl, hs⟩ := h; exact err e s1 s2 hs
  | panic p => exact panic p
  | unmodelled w => cases (h : r1 = .unmodelled w); exact unmodelled w
  | fuel => cases (h : r1 = .fuel); exact fuel

/-- **`m` does not see the size of the cache.** -/
def Sim {α} (m : SM α) : Prop := ∀ s1 s2, CacheEq s1 s2 → SRel (m s1) (m s2)

theorem Sim.pure {α} (a : α) : Sim (pure a : SM α) := fun _ _ h => SRel.ok h
theorem Sim.throw {α} (e : SErr) : Sim (throw e : SM α) := fun _ _ h => SRel.err h
theorem Sim.panicS {α} (w : String) : Sim (panicS w : SM α) := fun _ _ _ => SRel.panic
theorem Sim.unmodelledS {α} (w : String) : Sim (unmodelledS w : SM α) := fun _ _ _ => SRel.unmodelled
theorem Sim.outOfFuel {α} : Sim (outOfFuel : SM α) := fun _ _ _ => SRel.fuel

theorem Sim.bind {α β} {m : SM α} {f : α → SM β} (hm : Sim m) (hf : ∀ a, Sim (f a)) : Sim (m >>= f) := by
  intro s1 s2 h
  rw [bind_def, bind_def]
  exact SRel.cases (hm s1 s2 h) (fun a t1 t2 ht => hf a t1 t2 ht) (fun _ _ _ ht => SRel.err ht)
    (fun _ => SRel.panic) (fun _ => SRel.unmodelled) SRel.fuel

theorem Sim.getS_bind {β} {f : Store → SM β} (hf : ∀ s, Sim (f s))
    (hc : ∀ s1 s2 : Store, s2.hdr = s1.hdr → f s2 = f s1) : Sim (getS >>= f) := by
  intro s1 s2 h
  show SRel (f s1 s1) (f s2 s2)
  rw [hc s1 s2 h.hdr]
  exact hf s1 s1 s2 h

theorem Sim.modifyS {f : Store → Store} (hf : ∀ s1 s2, CacheEq s1 s2 → CacheEq (f s1) (f s2)) :
    Sim (modifyS f) := fun s1 s2 h => SRel.ok (hf s1 s2 h)

/-! ### the primitives -/

theorem Sim.fetch (off : Nat) : Sim (fetch off) := by
  intro s1 s2 h
  unfold Store.fetch
  cases e2 : assocGet s2.mem off with
  | some m2 =>
    have hr := h.res off (by rw [e2]; rfl)
    cases e1 : assocGet s1.mem off with
    | none => rw [e1] at hr; cases hr
    | some m1 =>
      simp only
      rw [h.node_eq e1 e2]
      exact SRel.ok h
  | none =>
    simp only
    cases e1 : assocGet s1.mem off with
    | some m1 =>
      simp only
      -- the smaller cache reads the page from the data file: the page the larger cache holds, clean
      have hv := h.view off
      unfold Store.view at hv
      rw [e1, e2] at hv
      cases ed : assocGet s2.disk off with
      | none => rw [ed] at hv; cases hv
      | some n =>
        rw [ed] at hv
        simp only [Option.map_some, Option.some.injEq, Prod.mk.injEq] at hv
        obtain ⟨hn, hd⟩ := hv
        simp only [Option.getD_some]
        rw [hn]
        have hk : nodeOff m1.node = off := h.filed1.get e1
        rw [hk]
        refine SRel.ok (h.set_right off ⟨m1.node, false⟩ hk ?_ (by rw [e1]; rfl))
        unfold Store.view
        rw [e1]
        simp only [hd]
    | none =>
      simp only
      rw [h.disk off]
      exact SRel.ok (h.set_both _ ⟨_, false⟩ rfl s1.hdr s2.hdr h.hdr)

theorem Sim.putNode (n : Node) (d : Option Bool) : Sim (putNode n d) := by
  intro s1 s2 h
  unfold Store.putNode
  cases d with
  | some b => exact SRel.ok (h.set_both _ ⟨n, b⟩ rfl s1.hdr s2.hdr h.hdr)
  | none =>
    simp only
    have hd : (Option.map (fun x => x.dirty) (assocGet s2.mem (nodeOff n))).getD false =
        (Option.map (fun x => x.dirty) (assocGet s1.mem (nodeOff n))).getD false := h.dirty_eq (nodeOff n)
    rw [hd]
    exact SRel.ok (h.set_both _ ⟨n, _⟩ rfl s1.hdr s2.hdr h.hdr)

theorem Sim.markDirty (off lsn : Nat) : Sim (markDirty off lsn) := by
  intro s1 s2 h
  unfold Store.markDirty
  cases e2 : assocGet s2.mem off with
  | none => exact SRel.panic
  | some m2 =>
    have hr := h.res off (by rw [e2]; rfl)
    cases e1 : assocGet s1.mem off with
    | none => rw [e1] at hr; cases hr
    | some m1 =>
      simp only
      rw [h.node_eq e1 e2]
      exact SRel.ok (h.set_both off ⟨setLSN m1.node lsn, true⟩
        ((nodeOff_setLSN _ _).trans (h.filed1.get e1)) s1.hdr s2.hdr h.hdr)

theorem Sim.appendNode (n : Node) (d : Bool) : Sim (appendNode n d) := by
  intro s1 s2 h
  unfold Store.appendNode
  simp only
  rw [h.hdr]
  exact SRel.ok (h.set_both s1.hdr.nextFree ⟨setOff n s1.hdr.nextFree, d⟩ (nodeOff_setOff _ _) _ _ rfl)

/-- not seeing the size of the cache is kept by sequencing and by every primitive (`getS` apart: it hands
the store itself on, see `Sim.getS_bind`) -/
theorem Sim.closed : ClosedAllocs @Sim where
  pure := Sim.pure
  bind := Sim.bind
  panicS := Sim.panicS
  unmodelledS := Sim.unmodelledS
  outOfFuel := Sim.outOfFuel
  fetch := Sim.fetch
  putNode := Sim.putNode
  markDirty := Sim.markDirty
  appendNode := Sim.appendNode

end Mkdb.Store
end

section
/-!
`Sim` is a `ClosedWrites` property (`Sim.writes`), so the tree insert, the scans, the catalog and the row
operations are the walks of `Preserves`.  What needs an argument of its own is where a program
looks at the store otherwise than through a primitive: the cross-check against the levels model (`Sim.insertKey_of`:
`ghostAgrees` reads the store through `view` and the header only), the counters of `btInsert`, the flush
(`Sim.flushPages`: the flush writes the same pages in both stores, `mem_flushOrd_iff`) and the error that `createTable` catches.
-/
set_option autoImplicit false
namespace Mkdb.Store
open Mkdb.Page Mkdb.Tuple Mkdb.Generated Mkdb.Tree Mkdb.Engine

-- kept folded: when a `Sim` lemma about a concrete program is applied, the elaborator looks through the
-- result type for optional parameters, and through `SRel` it would run the program on a variable store
attribute [local irreducible] SRel

/-! ### the cross-check against the levels model reads `view` and the header only -/

theorem ghostAgrees_ok {s1 s2 t1 t2 : Store} (h : CacheEq s1 s2) (ht : CacheEq t1 t2) (bt : BT) (key lsn : Nat)
    (value : Bytes) (a : BT) :
    ghostAgrees s2 bt key lsn value (.ok a t2) = ghostAgrees s1 bt key lsn value (.ok a t1) := by
  unfold ghostAgrees
  rw [h.view_fun, h.hdr]
  cases Tree.ofHeap (Store.view s1) 64 bt.root with
  | none => rfl
  | some lv =>
    simp only
    cases Tree.insertAppend lv key lsn value s1.hdr.nextFree with
    | ok r =>
      simp only
      rw [ht.view_fun, ht.hdr]
    | error x => cases x <;> rfl

theorem ghostAgrees_err {s1 s2 t1 t2 : Store} (h : CacheEq s1 s2) (bt : BT) (key lsn : Nat)
    (value : Bytes) (e : SErr) :
    ghostAgrees s2 bt key lsn value (.err e t2) = ghostAgrees s1 bt key lsn value (.err e t1) := by
  unfold ghostAgrees
  rw [h.view_fun, h.hdr]
  cases Tree.ofHeap (Store.view s1) 64 bt.root with
  | none => rfl
  | some lv =>
    simp only
    cases Tree.insertAppend lv key lsn value s1.hdr.nextFree with
    | ok r => rfl
    | error x => cases x <;> cases e <;> rfl

theorem Sim.insertKey_of (bt : BT) (key lsn : Nat) (value : Bytes) (hm : Sim (insertKeyHeap bt key lsn value)) :
    Sim (Store.insertKey bt key lsn value) := by
  intro s1 s2 h
  unfold Store.insertKey
  simp only
  refine SRel.cases (hm s1 s2 h) ?_ ?_ ?_ ?_ ?_
  · intro a t1 t2 ht
    rw [ghostAgrees_ok h ht]
    split
    · exact SRel.ok ht
    · exact SRel.ok (ht.with_ghost _ _ (by rw [ht.ghost]))
  · intro e t1 t2 ht
    rw [ghostAgrees_err (t1 := t1) (t2 := t2) h]
    split
    · exact SRel.err ht
    · exact SRel.err (ht.with_ghost _ _ (by rw [ht.ghost]))
  · intro p
    cases ghostAgrees s2 bt key lsn value (.panic p) <;> exact SRel.panic
  · intro w
    cases ghostAgrees s1 bt key lsn value (.unmodelled w) <;> cases ghostAgrees s2 bt key lsn value (.unmodelled w) <;>
      exact SRel.unmodelled
  · cases ghostAgrees s1 bt key lsn value .fuel <;> cases ghostAgrees s2 bt key lsn value .fuel <;> exact SRel.fuel

theorem Sim.btInsert_of (bt : BT) (value : Bytes) (hm : ∀ key lsn, Sim (Store.insertKey bt key lsn value)) :
    Sim (Store.btInsert bt value) := by
  intro s1 s2 h
  unfold Store.btInsert
  simp only
  rw [h.hdr]
  exact SRel.cases (hm (s1.hdr.lastKey + 1) s1.hdr.nextLSN s1 s2 h)
    (fun _ _ _ ht => SRel.ok (ht.with_hdr _ _ (by rw [ht.hdr])))
    (fun _ _ _ ht => SRel.err (ht.with_hdr _ _ (by rw [ht.hdr])))
    (fun _ => SRel.panic) (fun _ => SRel.unmodelled) SRel.fuel

theorem Sim.writes : ClosedWrites @Sim :=
  { Sim.closed with
    throw := Sim.throw
    getHdr := fun hf hc => Sim.getS_bind hf fun s1 s2 e => hc s1 s2 (by rw [e]) (by rw [e])
    bumpLSN := Sim.modifyS fun _ _ h => h.with_hdr _ _ (by rw [h.hdr])
    setPtRoot := fun _ => Sim.modifyS fun _ _ h => h.with_hdr _ _ (by rw [h.hdr])
    insertKey_of := Sim.insertKey_of
    btInsert_of := Sim.btInsert_of }

/-! ### the operations of the store -/

theorem Sim.insertLeaf (parent : Option Nat) (cur : Leaf) (key lsn : Nat) (value : Bytes) (root : Nat) :
    Sim (insertLeaf parent cur key lsn value root) :=
  Sim.closed.insertLeaf parent cur key lsn value root (Sim.throw _) fun _ => Sim.throw _

theorem Sim.insertInternal : ∀ (fuel : Nat) (parent : Option Nat) (cur : Internal) (key lsn : Nat)
    (value : Bytes) (root : Nat), Sim (insertInternal fuel parent cur key lsn value root) :=
  fun fuel parent cur key lsn value root =>
    Sim.closed.insertInternal key lsn value (Sim.throw _) (fun _ => Sim.throw _) fuel parent cur root

theorem Sim.insertKeyHeap (bt : BT) (key lsn : Nat) (value : Bytes) :
    Sim (Store.insertKeyHeap bt key lsn value) :=
  Sim.closed.insertKeyHeap bt key lsn value (Sim.throw _) fun _ => Sim.throw _

theorem Sim.insertKey (bt : BT) (key lsn : Nat) (value : Bytes) :
    Sim (Store.insertKey bt key lsn value) := Sim.writes.insertKey bt key lsn value

theorem Sim.scanLeaves : ∀ (fuel : Nat) (l : Leaf), Sim (scanLeaves fuel l) := Sim.closed.scanLeaves

theorem Sim.scanRight (root : Nat) : Sim (scanRight root) := Sim.closed.scanRight root

theorem Sim.findLeaf : ∀ (fuel off key : Nat), Sim (findLeaf fuel off key) := Sim.closed.findLeaf

theorem Sim.updateCellAt (off key : Nat) (value : Bytes) (lsn : Nat) :
    Sim (updateCellAt off key value lsn) := Sim.writes.updateCellAt off key value lsn

theorem Sim.updatePageTable (newRoot : Nat) (name : Bytes) :
    Sim (updatePageTable newRoot name) := Sim.writes.updatePageTable newRoot name

theorem Sim.insert (table : Bytes) (cols : List String) (vals : List Val) :
    Sim (Store.insert table cols vals) := Sim.writes.insert table cols vals

theorem Sim.fetchTable (table : Bytes) : Sim (fetchTable table) := Sim.writes.fetchTable table

theorem Sim.markDeleted (table : Bytes) (rowId : Nat) : Sim (markDeleted table rowId) :=
  Sim.writes.markDeleted table rowId

theorem Sim.update (table : Bytes) (rowId : Nat) (cols : List String) (src : List Val) :
    Sim (update table rowId cols src) := Sim.writes.update table rowId cols src

/-! ### the flush -/

theorem flushStep_nodup (s : Store) (a : Nat) (h : MemNodup s) : MemNodup (flushStep s a) := by
  unfold flushStep
  cases assocGet s.mem a with
  | none => exact h
  | some m => exact h.set rfl

theorem flushFold_nodup : ∀ (l : List Nat) (s : Store), MemNodup s → MemNodup (l.foldl flushStep s)
  | [], _, h => h
  | a :: l, s, h => by rw [List.foldl_cons]; exact flushFold_nodup l _ (flushStep_nodup s a h)

theorem flushFold_res : ∀ (l : List Nat) (s : Store) (o : Nat),
    (assocGet (l.foldl flushStep s).mem o).isSome = (assocGet s.mem o).isSome
  | [], _, _ => rfl
  | a :: l, s, o => by
    rw [List.foldl_cons, flushFold_res l _ o, flushStep_mem_get]
    by_cases ho : o = a
    · subst ho
      simp only [if_true]
      cases assocGet s.mem o <;> rfl
    · simp only [ho, if_false]

/-- with one entry per offset the flush writes exactly the pages the engine sees dirty -/
theorem mem_flushOrd_iff (order : List Nat) (s : Store) (hn : MemNodup s) (o : Nat) :
    o ∈ flushOrd order s ↔ ∃ n, Store.view s o = some (n, true) := by
  constructor
  · intro ho
    have hd : o ∈ (s.mem.filter fun p => p.2.dirty).map (·.1) := by
      unfold flushOrd at ho
      rw [List.mem_append, List.mem_filter, List.mem_filter] at ho
      rcases ho with ⟨_, h2⟩ | ⟨h1, _⟩
      · exact List.contains_iff_mem.mp h2
      · exact h1
    obtain ⟨p, hp, rfl⟩ := List.mem_map.mp hd
    obtain ⟨hp1, hp2⟩ := List.mem_filter.mp hp
    refine ⟨p.2.node, ?_⟩
    unfold Store.view
    rw [assocGet_of_mem_nodup s.mem hn p hp1]
    simp only [hp2]
  · rintro ⟨n, hv⟩
    obtain ⟨m, hm, _, hd⟩ := view_dirty hv
    exact mem_flushOrd order s (o, m) (assocGet_some hm) hd

theorem CacheEq.flushFold {s1 s2 : Store} (h : CacheEq s1 s2) (order : List Nat) :
    CacheEq ((flushOrd order s1).foldl flushStep s1) ((flushOrd order s2).foldl flushStep s2) := by
  have hord : ∀ o, o ∈ flushOrd order s2 ↔ o ∈ flushOrd order s1 := by
    intro o
    rw [mem_flushOrd_iff order s2 h.nodup2, mem_flushOrd_iff order s1 h.nodup1, h.view o]
  refine ⟨?_, ?_, ?_, ?_, ?_, ?_, flushFold_filed _ s1 h.filed1, flushFold_filed _ s2 h.filed2,
    flushFold_nodup _ s1 h.nodup1, flushFold_nodup _ s2 h.nodup2⟩
  · rw [flushFold_hdr, flushFold_hdr, h.hdr]
  · rw [flushFold_dhdr, flushFold_dhdr, h.dhdr]
  · rw [flushFold_ghost, flushFold_ghost, h.ghost]
  · intro o
    rw [flushFold_disk _ s2 h.filed2, flushFold_disk _ s1 h.filed1]
    by_cases ho : o ∈ flushOrd order s1
    · rw [if_pos ho, if_pos ((hord o).mpr ho)]
      obtain ⟨n, hv1⟩ := (mem_flushOrd_iff order s1 h.nodup1 o).mp ho
      have hv2 : Store.view s2 o = some (n, true) := by rw [h.view o]; exact hv1
      obtain ⟨m1, hm1, hn1, _⟩ := view_dirty hv1
      obtain ⟨m2, hm2, hn2, _⟩ := view_dirty hv2
      rw [hm1, hm2]
      simp only [hn1, hn2]
    · rw [if_neg ho, if_neg (fun hx => ho ((hord o).mp hx))]
      exact h.disk o
  · intro o
    rw [flushFold_view _ s2 h.filed2, flushFold_view _ s1 h.filed1, h.view o]
    by_cases ho : o ∈ flushOrd order s1
    · rw [if_pos ho, if_pos ((hord o).mpr ho)]
    · rw [if_neg ho, if_neg (fun hx => ho ((hord o).mp hx))]
  · intro o ho
    rw [flushFold_res] at ho ⊢
    exact h.res o ho

theorem Sim.flushPages (order : List Nat) : Sim (flushPages order) := by
  intro s1 s2 h
  have hf := h.flushFold order
  rw [flushPages_flushed, flushPages_flushed]
  exact SRel.ok (hf.with_dhdr _ _ hf.hdr)

/-! ### CREATE TABLE -/

theorem Sim.checkAbsent (name : Bytes) : Sim (checkAbsent name) := by
  intro s1 s2 h
  unfold Store.checkAbsent
  refine SRel.cases (Sim.writes.relationOffset name s1 s2 h) (fun _ _ _ ht => SRel.err ht) ?_
    (fun _ => SRel.panic) (fun _ => SRel.unmodelled) SRel.fuel
  intro x
  cases x
  case tableNotExist => exact fun _ _ ht => SRel.ok ht
  all_goals exact fun _ _ ht => SRel.err ht

theorem Sim.createTable (fields : List FieldDef) (name : Bytes) (order : List Nat) (doFlush : Bool) :
    Sim (createTable fields name order doFlush) :=
  Sim.writes.createTable fields name order doFlush (Sim.checkAbsent name) fun _ => Sim.flushPages _

end Mkdb.Store
end
