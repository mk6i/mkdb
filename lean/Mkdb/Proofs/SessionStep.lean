import Mkdb.Proofs.Session
import Mkdb.Proofs.SpecRefineStmt
import Mkdb.Proofs.BaseCaseStore
/-!
**What one statement does to a session**, as a relation: `Step s st s' out`, with `exec_step` the place where
`Session.exec` is taken apart.  A statement leaves the session as it is; or adds the empty database; or selects a
database, closing (flush, re-open) the one selected before; or replaces the selected database by what `evalStmt`
leaves of it - ALSO when `evalStmt` returns an error: the database a refused statement leaves (cache grown by the
reads, counters moved, earlier rows of a multi-row INSERT) is what the session goes on with (`onCurrent_some`,
`Step.ran`; what can differ: the head of `DbCrash`).  `Step.refused` does not say WHY a statement was refused: the
theorems that name the error string (`use_accepted`, the `C17_*` refusals) still unfold `exec`.

The session model fixes every page write order to `[]` (`flush db []`, `recover db [] []`, `evalStmt db [] st`: the
dirty pages in cache order); the per-database lemmas below it (`DbInv.flushed order`, `DbFlushed.recover o1 o2`) hold
for every order.

An invariant of sessions asks something of every database (`O`) and more of those that are not selected (`C`):
`Holds O C s clean`, kept through the steps by `Holds.set` (one database replaced or added), `.used`, `.switched`;
an invariant that asks the same of all of them is kept by `exec_pointwise`.
-/
set_option autoImplicit false
namespace Mkdb.Session
open Mkdb.Engine Mkdb.Sql
open Mkdb.Store

/-- a database as a session holds it while it is not selected: the data file under an empty cache -/
def closed (db : DB) : DB := { db with store := reopen db.store }

/-- the statements routed to the selected database -/
def isRouted : Stmt → Bool
  | .createTable _ _ => true
  | .insert _ _ _ => true
  | .update _ _ _ => true
  | .delete _ _ => true
  | _ => false

/-- what the session reports of the executor's result -/
def selectOut {α : Type} : Exec.X α → Out
  | .ok _ => .ok
  | .err e => .err (stmtErr (.exec e))
  | .panic _ => .panic

/-! ### `onCurrent` -/

theorem onCurrent_none {α} {s : Sess} (f : DB → Res α) (hc : s.cur = none) : onCurrent s f = (s, .err "noDbSelected") := by
  unfold onCurrent; simp only [hc]

theorem onCurrent_lost {α} {s : Sess} (f : DB → Res α) {n : String} (hc : s.cur = some n) (hg : getDB s n = none) :
    onCurrent s f = (s, .panic) := by
  unfold onCurrent; simp only [hc, hg]

theorem onCurrent_some {α} {s : Sess} (f : DB → Res α) {n : String} {db : DB} (hc : s.cur = some n)
    (hg : getDB s n = some db) :
    onCurrent s f = match f db with
      | .ok _ db' => (setDB s n db', .ok)
      | .err e db' => (setDB s n db', .err (stmtErr e))
      | _ => (s, .panic) := by
  unfold onCurrent; simp only [hc, hg]
  cases f db <;> rfl

theorem onCurrent_void {α} (s : Sess) (f : DB → Res α) : onCurrent s f = onCurrent s fun db => voidRes (f db) := by
  cases hc : s.cur with
  | none => rw [onCurrent_none f hc, onCurrent_none _ hc]
  | some n =>
    cases hg : getDB s n with
    | none => rw [onCurrent_lost f hc hg, onCurrent_lost _ hc hg]
    | some db =>
      rw [onCurrent_some f hc hg, onCurrent_some _ hc hg]
      cases f db <;> rfl

theorem isRouted_of_kind {st : Stmt}
    (hk : (∃ n c, st = .createTable n c) ∨ (∃ t c r, st = .insert t c r) ∨ (∃ t a w, st = .update t a w) ∨
      (∃ t w, st = .delete t w)) : isRouted st = true := by
  rcases hk with ⟨_, _, rfl⟩ | ⟨_, _, _, rfl⟩ | ⟨_, _, _, rfl⟩ | ⟨_, _, rfl⟩ <;> rfl

theorem exec_routed (s : Sess) (st : Stmt) (hr : isRouted st = true) :
    exec s st = onCurrent s fun db => evalStmt db [] st := by
  cases st with
  | createTable n c => rfl
  | insert t c r => exact onCurrent_void s _
  | update t a w => rfl
  | delete t w => exact onCurrent_void s _
  | _ => cases hr

theorem exec_routed_ok {s : Sess} {st : Stmt} (hr : isRouted st = true) {n : String} {db db' : DB}
    (hc : s.cur = some n) (hg : getDB s n = some db) (e : evalStmt db [] st = .ok () db') :
    exec s st = (setDB s n db', .ok) := by
  rw [exec_routed s st hr, onCurrent_some _ hc hg, e]

theorem exec_routed_err {s : Sess} {st : Stmt} (hr : isRouted st = true) {n : String} {db db' : DB} {k : StmtErr}
    (hc : s.cur = some n) (hg : getDB s n = some db) (e : evalStmt db [] st = .err k db') :
    exec s st = (setDB s n db', .err (stmtErr k)) := by
  rw [exec_routed s st hr, onCurrent_some _ hc hg, e]

theorem exec_select {s : Sess} {n : String} {db : DB} (hc : s.cur = some n) (hg : getDB s n = some db) (q : Select) :
    exec s (.select q) = (s, selectOut (Exec.evaluateSelect (fetchOfDB db) q)) := by
  simp only [exec, hc, hg]
  cases Exec.evaluateSelect (fetchOfDB db) q <;> rfl

theorem selectOut_ne_panic {α : Type} {r : Exec.X α} (h : ∀ x, r ≠ .panic x) : selectOut r ≠ .panic := by
  cases r with
  | panic x => exact absurd rfl (h x)
  | _ => exact fun hx => by cases hx

theorem selectOut_cases {α : Type} {r : Exec.X α} (h : ∀ x, r ≠ .panic x) :
    selectOut r = .ok ∨ ∃ e, selectOut r = .err (stmtErr (.exec e)) := by
  cases r with
  | ok a => exact .inl rfl
  | err e => exact .inr ⟨e, rfl⟩
  | panic x => exact absurd rfl (h x)

/-! ### the step -/

/-- **What `exec s st` can be.**  The last three cases do not occur in a session whose selected database exists,
can be flushed and runs statements to `.ok` or `.err`. -/
inductive Step (s : Sess) : Stmt → Sess → Out → Prop
  | refused (st : Stmt) (e : String) : Step s st s (.err e)
  | shown : Step s .showDatabases s (.rows (sortedNames s))
  | selected (q : Select) {n : String} {db : DB} (hc : s.cur = some n) (hg : getDB s n = some db) :
      Step s (.select q) s (selectOut (Exec.evaluateSelect (fetchOfDB db) q))
  | created (name : Bytes) (hn : getDB s (canon name) = none) :
      Step s (.createDatabase name) (setDB s (canon name) newDB) .ok
  | used (name : Bytes) (hn : (getDB s (canon name)).isSome = true)
      (hc : s.cur = none ∨ s.cur = some (canon name)) : Step s (.use name) { s with cur := some (canon name) } .ok
  | switched (name : Bytes) (hn : (getDB s (canon name)).isSome = true) {c : String} {db db' : DB}
      (hc : s.cur = some c) (hne : c ≠ canon name) (hg : getDB s c = some db) (hf : flush db [] = .ok () db') :
      Step s (.use name) { setDB s c (closed db') with cur := some (canon name) } .ok
  | ran (st : Stmt) (hr : isRouted st = true) {n : String} {db db' : DB} (hc : s.cur = some n)
      (hg : getDB s n = some db) {out : Out}
      (h : (evalStmt db [] st = .ok () db' ∧ out = .ok) ∨ ∃ e, evalStmt db [] st = .err e db' ∧ out = .err (stmtErr e)) :
      Step s st (setDB s n db') out
  | lost (st : Stmt) {c : String} (hc : s.cur = some c) (hg : getDB s c = none) : Step s st s .panic
  | stuck (st : Stmt) (hr : isRouted st = true) {n : String} {db : DB} (hc : s.cur = some n) (hg : getDB s n = some db)
      (h : ∀ db', evalStmt db [] st ≠ .ok () db') (h' : ∀ e db', evalStmt db [] st ≠ .err e db') : Step s st s .panic
  | unclosed (name : Bytes) (hn : (getDB s (canon name)).isSome = true) {c : String} (hc : s.cur = some c)
      (hne : c ≠ canon name)
      (h : getDB s c = none ∨ ∃ db, getDB s c = some db ∧ ∀ db', flush db [] ≠ .ok () db') :
      Step s (.use name) { s with cur := some (canon name) } .ok

theorem onCurrent_step (s : Sess) (st : Stmt) (hr : isRouted st = true) :
    Step s st (onCurrent s fun db => evalStmt db [] st).1 (onCurrent s fun db => evalStmt db [] st).2 := by
  cases hc : s.cur with
  | none => rw [onCurrent_none _ hc]; exact .refused st _
  | some n =>
    cases hg : getDB s n with
    | none => rw [onCurrent_lost _ hc hg]; exact .lost st hc hg
    | some db =>
      rw [onCurrent_some _ hc hg]
      cases he : evalStmt db [] st with
      | ok u db' => exact .ran st hr hc hg (.inl ⟨he, rfl⟩)
      | err e db' => exact .ran st hr hc hg (.inr ⟨e, he, rfl⟩)
      | panic p => exact .stuck st hr hc hg (fun _ h => by rw [he] at h; cases h) (fun _ _ h => by rw [he] at h; cases h)
      | unmodelled p => exact .stuck st hr hc hg (fun _ h => by rw [he] at h; cases h) (fun _ _ h => by rw [he] at h; cases h)
      | fuel => exact .stuck st hr hc hg (fun _ h => by rw [he] at h; cases h) (fun _ _ h => by rw [he] at h; cases h)

theorem exec_step (s : Sess) (st : Stmt) : Step s st (exec s st).1 (exec s st).2 := by
  cases st with
  | createDatabase name =>
    simp only [exec, createDB_eq]
    by_cases h1 : (!validDbName name) = true
    · rw [if_pos h1]; exact .refused _ _
    by_cases h2 : name.isEmpty = true
    · rw [if_neg h1, if_pos h2]; exact .refused _ _
    by_cases h3 : (getDB s (canon name)).isSome = true
    · rw [if_neg h1, if_neg h2, if_pos h3]; exact .refused _ _
    rw [if_neg h1, if_neg h2, if_neg h3]
    exact .created name (by simpa using h3)
  | use name =>
    simp only [exec]
    by_cases h1 : (!validDbName name) = true
    · rw [if_pos h1]; exact .refused _ _
    by_cases h2 : name.isEmpty = true
    · rw [if_neg h1, if_pos h2]; exact .refused _ _
    by_cases h3 : (getDB s (canon name)).isNone = true
    · rw [if_neg h1, if_neg h2, if_pos h3]; exact .refused _ _
    rw [if_neg h1, if_neg h2, if_neg h3]
    have hn : (getDB s (canon name)).isSome = true := by simpa [Option.isSome_iff_ne_none] using h3
    cases hc : s.cur with
    | none => exact .used name hn (.inl hc)
    | some c =>
      by_cases hcn : c = canon name
      · simp only [hcn, beq_self_eq_true, if_true]
        exact .used name hn (.inr (by rw [hc, hcn]))
      · have hb : (c == canon name) = false := by simpa using hcn
        simp only [hb, Bool.false_eq_true, if_false]
        cases hg : getDB s c with
        | none => exact .unclosed name hn hc hcn (.inl hg)
        | some db =>
          dsimp only
          cases hf : flush db [] with
          | ok u db' => exact .switched name hn hc hcn hg (db' := db') hf
          | _ => exact .unclosed name hn hc hcn (.inr ⟨db, hg, fun db' h => by rw [hf] at h; cases h⟩)
  | showDatabases => exact .shown
  | select q =>
    cases hc : s.cur with
    | none => simp only [exec, hc]; exact .refused _ _
    | some n =>
      cases hg : getDB s n with
      | none => simp only [exec, hc, hg]; exact .lost _ hc hg
      | some db => rw [exec_select hc hg]; exact .selected q hc hg
  | createTable n c => rw [exec_routed s _ rfl]; exact onCurrent_step s _ rfl
  | insert t c r => rw [exec_routed s _ rfl]; exact onCurrent_step s _ rfl
  | update t a w => rw [exec_routed s _ rfl]; exact onCurrent_step s _ rfl
  | delete t w => rw [exec_routed s _ rfl]; exact onCurrent_step s _ rfl

/-- `exec_step` in the form that `cases` takes -/
theorem exec_cases (s : Sess) (st : Stmt) : ∃ s' out, exec s st = (s', out) ∧ Step s st s' out :=
  ⟨_, _, rfl, exec_step s st⟩

section
variable {s s' : Sess} {st : Stmt} {out : Out}

theorem Step.frame (h : Step s st s' out) (hr : ∀ n, st ≠ .createDatabase n) (hu : ∀ n, st ≠ .use n) :
    s'.cur = s.cur ∧ names s' = names s ∧ ∀ m, s.cur ≠ some m → getDB s' m = getDB s m := by
  cases h with
  | created name _ => exact absurd rfl (hr name)
  | used name _ _ => exact absurd rfl (hu name)
  | switched name _ _ _ _ _ => exact absurd rfl (hu name)
  | unclosed name _ _ _ _ => exact absurd rfl (hu name)
  | @ran st _ n _ _ hc hg _ _ =>
    exact ⟨rfl, by rw [names_setDB, hg]; rfl, fun m hm => getDB_setDB_ne s _ fun hx => hm (by rw [hc, hx])⟩
  | _ => exact ⟨rfl, rfl, fun _ _ => rfl⟩

theorem Step.names_eq (h : Step s st s' out) :
    (names s' = names s ∧ ∀ name, st = .createDatabase name → out ≠ .ok) ∨
    ∃ name, st = .createDatabase name ∧ out = .ok ∧ names s' = names s ++ [canon name] := by
  cases h with
  | created name hn => exact .inr ⟨name, rfl, rfl, by rw [names_setDB, hn]; rfl⟩
  | switched name _ _ _ hg _ =>
    exact .inl ⟨by show Session.names (setDB s _ _) = _; rw [names_setDB, hg]; rfl, fun _ h => by cases h⟩
  | ran st hr _ hg _ => exact .inl ⟨by rw [names_setDB, hg]; rfl, fun _ h => by rw [h] at hr; cases hr⟩
  | refused _ _ => exact .inl ⟨rfl, fun _ _ h => by cases h⟩
  | lost _ _ _ => exact .inl ⟨rfl, fun _ _ h => by cases h⟩
  | stuck _ _ _ _ _ _ => exact .inl ⟨rfl, fun _ _ h => by cases h⟩
  | _ => exact .inl ⟨rfl, fun _ h => by cases h⟩

theorem isRouted_ne {st : Stmt} (hr : isRouted st = true) : (∀ n, st ≠ .createDatabase n) ∧ ∀ n, st ≠ .use n :=
  ⟨fun n h => (by rw [h] at hr; cases hr), fun n h => (by rw [h] at hr; cases hr)⟩

theorem Step.createDatabase {name : Bytes} (h : Step s (.createDatabase name) s' out) :
    (s' = s ∧ out ≠ .ok) ∨ (out = .ok ∧ getDB s (canon name) = none ∧ s' = setDB s (canon name) newDB) := by
  cases h with
  | refused _ _ => exact .inl ⟨rfl, fun h => by cases h⟩
  | created _ hn => exact .inr ⟨rfl, hn, rfl⟩
  | lost _ _ _ => exact .inl ⟨rfl, fun h => by cases h⟩
  | ran _ hr _ _ _ => cases hr
  | stuck _ hr _ _ _ _ => cases hr

theorem Step.use_ok {name : Bytes} (h : Step s (.use name) s' .ok) :
    s'.cur = some (canon name) ∧ names s' = names s ∧ ∀ m, s.cur ≠ some m → getDB s' m = getDB s m := by
  cases h with
  | used _ _ _ => exact ⟨rfl, rfl, fun _ _ => rfl⟩
  | unclosed _ _ _ _ _ => exact ⟨rfl, rfl, fun _ _ => rfl⟩
  | switched _ _ hc _ hg _ =>
    refine ⟨rfl, by show Session.names (setDB s _ _) = _; rw [names_setDB, hg]; rfl, fun m hm => ?_⟩
    exact getDB_setDB_ne s _ fun hx => hm (by rw [hc, hx])
  | ran _ hr _ _ _ => cases hr

/-- the selected name, if any, is a database of the session, and no name stands twice -/
structure Wf (s : Sess) : Prop where
  cur : ∀ n, s.cur = some n → (getDB s n).isSome
  nodup : (names s).Nodup

theorem Wf.setDB (h : Wf s) (n : String) (db : DB) : Wf (setDB s n db) :=
  ⟨fun m hm => by
    by_cases hmn : m = n
    · rw [hmn, getDB_setDB_same]; rfl
    · rw [getDB_setDB_ne s db hmn]; exact h.cur m hm,
   nodup_setDB h.nodup n db⟩

theorem Wf.select (h : Wf s) {n : String} (hn : (getDB s n).isSome = true) : Wf { s with cur := some n } :=
  ⟨fun m hm => by cases hm; exact hn, h.nodup⟩

theorem Step.wf (h : Step s st s' out) (hw : Wf s) : Wf s' := by
  cases h with
  | created name _ => exact hw.setDB _ _
  | used name hn _ => exact hw.select hn
  | unclosed name hn _ _ _ => exact hw.select hn
  | @switched name hn c _ db' _ hne _ _ =>
    exact (hw.setDB c (closed db')).select (n := canon name) (by
      show (getDB (setDB s c (closed db')) (canon name)).isSome = true
      rw [getDB_setDB_ne s _ (Ne.symm hne)]; exact hn)
  | ran st _ _ _ _ => exact hw.setDB _ _
  | _ => exact hw

end

theorem exec_pointwise {P : DB → Prop} {s : Sess} (st : Stmt) (h : ∀ p ∈ s.dbs, P p.2) (hnew : P newDB)
    (hclose : ∀ p ∈ s.dbs, s.cur = some p.1 → ∀ db', flush p.2 [] = .ok () db' → P (closed db'))
    (hrun : ∀ p ∈ s.dbs, s.cur = some p.1 →
      ∀ db', (evalStmt p.2 [] st = .ok () db' ∨ ∃ e, evalStmt p.2 [] st = .err e db') → P db') :
    ∀ p ∈ (exec s st).1.dbs, P p.2 := by
  intro p hp
  obtain ⟨s', out, e, hstep⟩ := exec_cases s st
  rw [e] at hp
  cases hstep with
  | created _ _ =>
    rcases mem_setDB hp with rfl | ⟨h1, _⟩
    · exact hnew
    · exact h p h1
  | switched _ _ hc _ hg hf =>
    rcases mem_setDB hp with rfl | ⟨h1, _⟩
    · exact hclose _ (getDB_mem hg) hc _ hf
    · exact h p h1
  | ran _ _ hc hg hres =>
    rcases mem_setDB hp with rfl | ⟨h1, _⟩
    · exact hrun _ (getDB_mem hg) hc _ (hres.imp (·.1) fun ⟨x, hx, _⟩ => ⟨x, hx⟩)
    · exact h p h1
  | _ => exact h p hp

/-! ### invariants that look at the selection -/

/-- every database satisfies `O`; every database that is not selected satisfies `C` as well - and while the flag
is set the selected one too.  `clean`: nothing has changed the selected database since it last satisfied `C` (it was
just selected, closed, recovered or, with `C` a checkpoint, flushed); a step that writes to it clears the flag.  No
hypothesis of a step needs the flag: it only serves the conclusion "ALL databases satisfy `C`" (`CrashInv.ck`). -/
structure Holds (O C : String → DB → Prop) (s : Sess) (clean : Bool) : Prop where
  all : ∀ p ∈ s.dbs, O p.1 p.2
  closed : ∀ p ∈ s.dbs, (s.cur ≠ some p.1 ∨ clean = true) → C p.1 p.2

section
variable {O C O' C' : String → DB → Prop} {s : Sess} {clean : Bool}

/-- one database is replaced or added; `frame`: nothing else is asked of the others; `hfl`: the flag is not set by
a change to a database that is not selected -/
theorem Holds.set (h : Holds O C s clean) {n : String} {db' : DB} {clean' : Bool}
    (frame : ∀ m db, m ≠ n → (O m db → O' m db) ∧ (C m db → C' m db)) (ho : O' n db')
    (hcl : (s.cur ≠ some n ∨ clean' = true) → C' n db') (hfl : clean' = true → clean = true ∨ s.cur = some n) :
    Holds O' C' (setDB s n db') clean' := by
  refine ⟨fun p hp => ?_, fun p hp hcur => ?_⟩
  · rcases mem_setDB hp with rfl | ⟨hp', hpn⟩
    · exact ho
    · exact (frame _ _ hpn).1 (h.all p hp')
  · rcases mem_setDB hp with rfl | ⟨hp', hpn⟩
    · exact hcl hcur
    · refine (frame _ _ hpn).2 (h.closed p hp' ?_)
      rcases hcur with hx | hx
      · exact .inl hx
      · exact (hfl hx).symm.imp (fun hc hp1 => hpn (by rw [hc] at hp1; exact (Option.some.inj hp1).symm)) id

/-- USE of the selected database, or with none selected -/
theorem Holds.used (h : Holds O C s clean) {n : String} (hc : s.cur = none ∨ s.cur = some n) :
    Holds O C { s with cur := some n } (decide (s.cur ≠ some n) || clean) := by
  refine ⟨h.all, fun p hp hcur => ?_⟩
  rcases hc with hc | hc
  · exact h.closed p hp (.inl (by rw [hc]; exact fun hx => by cases hx))
  · refine h.closed p hp (hcur.imp (fun hx => by rw [hc]; exact hx) fun hx => ?_)
    simpa [hc] using hx

/-- USE of another database: the one it leaves comes back closed, so every database is closed -/
theorem Holds.switched (h : Holds O C s clean) {c n : String} (hc : s.cur = some c) {db' : DB}
    (hcl : C c db') (hCO : ∀ m db, C m db → O m db) : Holds O C { setDB s c db' with cur := some n } true := by
  have hne : ∀ p ∈ s.dbs, p.1 ≠ c → s.cur ≠ some p.1 := fun p _ hpn hx => hpn (by rw [hc] at hx; exact (Option.some.inj hx).symm)
  refine ⟨fun p hp => ?_, fun p hp _ => ?_⟩
  · rcases mem_setDB hp with rfl | ⟨hp', _⟩
    · exact hCO _ _ hcl
    · exact h.all p hp'
  · rcases mem_setDB hp with rfl | ⟨hp', hpn⟩
    · exact hcl
    · exact h.closed p hp' (.inl (hne p hp' hpn))

end

/-! ### restart and crash: a map over the databases -/

/-- the session with the selected database flushed (the first step of `restart`) -/
def closeCur (s : Sess) : Sess :=
  match s.cur with
  | some c => (match getDB s c with
    | some db => (match flush db [] with | .ok _ db' => setDB s c db' | _ => s)
    | none => s)
  | none => s

/-- the session with the cache of the selected database dropped (the first step of `crashRestart`) -/
def dropCur (s : Sess) : Sess :=
  match s.cur with
  | some c => (match getDB s c with
    | some db => setDB s c (closed db)
    | none => s)
  | none => s

theorem restart_go_eq : ∀ (l : List (String × DB)), restart.go l = recoverEvery l
  | [] => rfl
  | (n, db) :: rest => by
    simp only [restart.go, recoverEvery, restart_go_eq rest]

theorem restart_eq (s : Sess) :
    restart s = (recoverEvery (closeCur s).dbs).map fun dbs => { dbs := dbs, cur := none } := by
  rw [← restart_go_eq]; rfl

theorem crashRestart_eq (s : Sess) :
    crashRestart s = (recoverEvery (dropCur s).dbs).map fun dbs => { dbs := dbs, cur := none } := rfl

theorem names_closeCur (s : Sess) : names (closeCur s) = names s := by
  unfold closeCur
  split
  · split
    · rename_i db hg
      split
      · rw [names_setDB, hg]; rfl
      · rfl
    · rfl
  · rfl

theorem names_dropCur (s : Sess) : names (dropCur s) = names s := by
  unfold dropCur
  split
  · split
    · rename_i db hg
      rw [names_setDB, hg]; rfl
    · rfl
  · rfl

/-- a database of `closeCur s`: one of `s` that is not selected (or - no invariant allows it - the flush of the
selected one fails), or the selected one, flushed -/
theorem mem_closeCur {s : Sess} {p : String × DB} (hp : p ∈ (closeCur s).dbs) :
    (p ∈ s.dbs ∧ (s.cur ≠ some p.1 ∨
      ∃ c db, s.cur = some c ∧ getDB s c = some db ∧ ∀ db', flush db [] ≠ .ok () db')) ∨
    ∃ db, s.cur = some p.1 ∧ getDB s p.1 = some db ∧ flush db [] = .ok () p.2 := by
  unfold closeCur at hp
  cases hc : s.cur with
  | none => rw [hc] at hp; exact .inl ⟨hp, .inl fun hx => by cases hx⟩
  | some c =>
    rw [hc] at hp
    dsimp only at hp
    cases hg : getDB s c with
    | none =>
      rw [hg] at hp
      refine .inl ⟨hp, .inl fun hx => getDB_none_not_mem hg ?_⟩
      rw [Option.some.inj hx]; exact List.mem_map.mpr ⟨p, hp, rfl⟩
    | some db =>
      rw [hg] at hp
      dsimp only at hp
      cases hf : flush db [] with
      | ok u db' =>
        rw [hf] at hp
        rcases mem_setDB hp with rfl | ⟨hp', hpc⟩
        · exact .inr ⟨db, rfl, hg, hf⟩
        · exact .inl ⟨hp', .inl fun hx => hpc (Option.some.inj hx).symm⟩
      | _ =>
        rw [hf] at hp
        exact .inl ⟨hp, .inr ⟨c, db, rfl, hg, fun db' h => by rw [hf] at h; cases h⟩⟩

theorem mem_dropCur {s : Sess} {p : String × DB} (hp : p ∈ (dropCur s).dbs) :
    p ∈ s.dbs ∨ ∃ db, s.cur = some p.1 ∧ getDB s p.1 = some db ∧ p.2 = closed db := by
  unfold dropCur at hp
  cases hc : s.cur with
  | none => rw [hc] at hp; exact .inl hp
  | some c =>
    rw [hc] at hp
    dsimp only at hp
    cases hg : getDB s c with
    | none => rw [hg] at hp; exact .inl hp
    | some db =>
      rw [hg] at hp
      rcases mem_setDB hp with rfl | ⟨hp', _⟩
      · exact .inr ⟨db, rfl, hg, rfl⟩
      · exact .inl hp'

theorem recoverEvery_some : ∀ (l : List (String × DB)), (∀ p ∈ l, ∃ r, recover p.2 [] [] = .ok r) →
    ∃ l', recoverEvery l = some l'
  | [], _ => ⟨[], rfl⟩
  | (n, db) :: rest, h => by
    obtain ⟨r, e⟩ := h (n, db) List.mem_cons_self
    obtain ⟨l', e2⟩ := recoverEvery_some rest fun p hp => h p (List.mem_cons_of_mem _ hp)
    simp only at e
    exact ⟨(n, closed r) :: l', by simp only [recoverEvery, e, e2, Option.map_some, closed]⟩

theorem recoverEvery_all {P R : String → DB → Prop}
    (hrec : ∀ n db r, P n db → recover db [] [] = .ok r → R n (closed r)) :
    ∀ (l l' : List (String × DB)), (∀ p ∈ l, P p.1 p.2) → recoverEvery l = some l' →
      l'.map (·.1) = l.map (·.1) ∧ ∀ p ∈ l', R p.1 p.2
  | [], l', _, e => by cases e; exact ⟨rfl, fun _ hp => by cases hp⟩
  | (n, db) :: rest, l', h, e => by
    simp only [recoverEvery] at e
    cases hr : recover db [] [] with
    | ok r =>
      rw [hr] at e
      cases he : recoverEvery rest with
      | none => rw [he] at e; cases e
      | some tl =>
        rw [he] at e
        cases e
        obtain ⟨hn, hall⟩ := recoverEvery_all hrec rest tl (fun p hp => h p (List.mem_cons_of_mem _ hp)) he
        refine ⟨by simp only [List.map_cons, hn], fun p hp => ?_⟩
        rcases List.mem_cons.mp hp with rfl | hp
        · exact hrec n db r (h (n, db) List.mem_cons_self) hr
        · exact hall p hp
    | _ => rw [hr] at e; cases e

end Mkdb.Session
