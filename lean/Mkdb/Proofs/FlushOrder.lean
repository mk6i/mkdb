import Mkdb.Proofs.PageCache
/-!
C16, the flush as the code does it (`flushOrd`, Model/PageCache.lean): `flushPagesLocked` moves every page it
writes to the front of the recency list, in the arbitrary order of a Go map iteration.  First, that this is the
order-keeping `flush` and a quiet move, so that nothing of it shows in what is read; then the shape of the
recency list it leaves, and that every arrangement of the pages that were dirty is reached.
-/

section
/-!
A turn of the loop at a dirty page leaves the other dirty pages dirty and puts the page in front of the clean
ones (`visit_turn`); so, whatever the `order`, the list the flush leaves is the one it leaves on some
enumeration `D` of the dirty pages: `D` in front, last met first, behind it the clean pages as they were
(`flushOrd_exists_enum`).  That is a permutation of the list the order-keeping `flush` leaves, with the same
entries: the flush of the code is `flush` and a quiet move (`flushOrd_quiet`); hence the invariant, the
logical contents, the data file, residency and dirty bits are those of `flush`, for every order; and
histories with such flushes (`runF`) are histories `RunQ`, so the cache-less reference.
-/
namespace Mkdb.PageCache

variable {α : Type}

theorem keys_clean (l : List (Ent α)) : (l.map clean).map (·.key) = l.map (·.key) :=
  keys_map_of_key (g := clean) (fun _ => rfl) l

theorem clean_clean (e : Ent α) : clean (clean e) = clean e := rfl

theorem clean_of_clean {e : Ent α} (h : e.dirty = false) : clean e = e := by
  cases e
  simp only [clean] at *
  simp [h]

/-! ### one turn of the loop, the loop -/

theorem visit_dirty {v : List (Ent α)} {k : Nat} {e : Ent α} (hf : find? v k = some e) (hd : e.dirty = true) :
    visit v k = clean e :: remove v k := by
  simp [visit, hf, hd]

theorem visit_skip {v : List (Ent α)} {k : Nat} (h : ∀ e, find? v k = some e → e.dirty = false) : visit v k = v := by
  unfold visit
  cases hf : find? v k with
  | none => rfl
  | some e => simp [h e hf]

theorem filter_clean_remove {v : List (Ent α)} (hnd : (v.map (·.key)).Nodup) {k : Nat} {e : Ent α}
    (hf : find? v k = some e) (hd : e.dirty = true) :
    (remove v k).filter (fun x => !x.dirty) = v.filter fun x => !x.dirty := by
  unfold remove
  rw [List.filter_filter]
  apply List.filter_congr
  intro x hx
  cases hxd : x.dirty with
  | true => rfl
  | false =>
    have hne : x.key ≠ k := by
      intro hk
      have := find?_of_mem hnd hx
      rw [hk, hf] at this
      cases this
      rw [hd] at hxd; cases hxd
    simp [hne]

/-- a turn at a dirty page: one entry per key still, the other dirty pages are what is dirty now, and the page is
the first of the clean ones -/
theorem visit_turn {v : List (Ent α)} (hnd : (v.map (·.key)).Nodup) {k : Nat} {e : Ent α}
    (hf : find? v k = some e) (hd : e.dirty = true) :
    ((visit v k).map (·.key)).Nodup ∧
      (v.filter fun x => x.dirty).Perm (e :: (visit v k).filter fun x => x.dirty) ∧
      (visit v k).filter (fun x => !x.dirty) = clean e :: v.filter fun x => !x.dirty := by
  rw [visit_dirty hf hd]
  refine ⟨?_, ?_, ?_⟩
  · exact Recency.nodup_cons_of_sublist hnd List.filter_sublist fun _ hx =>
      (Recency.find?_some hf).2 ▸ Recency.key_ne_of_mem_remove hx
  · have := (Recency.perm_cons_remove hnd hf).filter fun x => x.dirty
    rwa [List.filter_cons_of_pos hd] at this
  · show clean e :: (remove v k).filter (fun x => !x.dirty) = _
    rw [filter_clean_remove hnd hf hd]

/-- Whatever the `order`, the turns and the sweep behind them leave what the turns at some enumeration `D` of the
dirty pages leave (`foldl_visit_enum`): `D` in front, last met first and clean, behind it the clean pages as they
were.  `D` is the pages the turns clean, then those the sweep finds, coldest first. -/
theorem foldl_visit_sweep {v : List (Ent α)} (hnd : (v.map (·.key)).Nodup) (order : List Nat) :
    ∃ D : List (Ent α), D.Perm (v.filter fun e => e.dirty) ∧
      ((order.foldl visit v).filter fun e => e.dirty).map clean ++ (order.foldl visit v).filter (fun e => !e.dirty) =
        D.reverse.map clean ++ v.filter fun e => !e.dirty := by
  induction order generalizing v with
  | nil => exact ⟨(v.filter fun e => e.dirty).reverse, List.reverse_perm _, by rw [List.reverse_reverse]; rfl⟩
  | cons k rest ih =>
    rw [List.foldl_cons]
    cases hf : find? v k with
    | none => rw [visit_skip (by simp [hf])]; exact ih hnd
    | some e =>
      cases hd : e.dirty with
      | false => rw [visit_skip (by simp [hf, hd])]; exact ih hnd
      | true =>
        obtain ⟨hnd', hp, ht⟩ := visit_turn hnd hf hd
        obtain ⟨D, hD, h⟩ := ih hnd'
        exact ⟨e :: D, (hD.cons e).trans hp.symm, by
          rw [h, ht, List.reverse_cons, List.map_append, List.append_assoc]; rfl⟩

theorem foldl_visit_of_clean {l : List (Ent α)} (h : ∀ e ∈ l, e.dirty = false) (order : List Nat) :
    order.foldl visit l = l := by
  induction order with
  | nil => rfl
  | cons k rest ih => rw [List.foldl_cons, visit_skip fun e hf => h e (Recency.find?_some hf).1, ih]

theorem map_clean_filter_clean (v : List (Ent α)) :
    (v.filter fun e => !e.dirty).map clean = v.filter fun e => !e.dirty := by
  conv => rhs; rw [← List.map_id (v.filter fun e => !e.dirty)]
  apply List.map_congr_left
  intro e he
  have := (List.mem_filter.mp he).2
  exact clean_of_clean (by simpa using this)

/-- what the flush makes of the list the turns leave, when they have left no dirty page -/
theorem sweep_of_clean {v : List (Ent α)} (h : ∀ e ∈ v, e.dirty = false) :
    (v.filter fun e => e.dirty).map clean ++ v.filter (fun e => !e.dirty) = v := by
  rw [List.filter_eq_nil_iff.mpr fun e he => by simp [h e he],
    List.filter_eq_self.mpr fun e he => by simp [h e he]]
  rfl

theorem flushOrd_items (s : St α) (order : List Nat) :
    (flushOrd s order).items =
      ((order.foldl visit s.items).filter fun e => e.dirty).map clean ++
        (order.foldl visit s.items).filter fun e => !e.dirty := rfl

theorem flush_items (s : St α) : (flush s).items = s.items.map clean := rfl

theorem flushOrd_exists_enum (s : St α) (hnd : (s.items.map (·.key)).Nodup) (order : List Nat) :
    ∃ D : List (Ent α), D.Perm (s.items.filter fun e => e.dirty) ∧
      (flushOrd s order).items = D.reverse.map clean ++ s.items.filter fun e => !e.dirty :=
  foldl_visit_sweep hnd order

theorem flushOrd_items_perm (s : St α) (hnd : (s.items.map (·.key)).Nodup) (order : List Nat) :
    (flushOrd s order).items.Perm (flush s).items := by
  obtain ⟨D, hD, h⟩ := flushOrd_exists_enum s hnd order
  rw [h, flush_items, ← map_clean_filter_clean, ← List.map_append]
  exact ((((List.reverse_perm D).trans hD).append_right _).trans (List.filter_append_perm _ _)).map clean

theorem flushOrd_disk (s : St α) (order : List Nat) : (flushOrd s order).disk = (flush s).disk := rfl

theorem flushOrd_cap (s : St α) (order : List Nat) : (flushOrd s order).cap = s.cap := rfl

theorem flushOrd_quiet (s : St α) (hnd : (s.items.map (·.key)).Nodup) (order : List Nat) :
    Quiet (flush s) (flushOrd s order) := .of_perm (flushOrd_items_perm s hnd order) rfl rfl

theorem flushOrd_inv (s : St α) (h : Inv s) (order : List Nat) : Inv (flushOrd s order) :=
  ((flushOrd_quiet s h.1 order).inv (flush_inv s h)).1

theorem flushOrd_view (s : St α) (h : Inv s) (order : List Nat) (k : Nat) :
    view (flushOrd s order) k = view s k :=
  (((flushOrd_quiet s h.1 order).inv (flush_inv s h)).2 k).trans (flush_view s k)

theorem flushOrd_find? (s : St α) (hnd : (s.items.map (·.key)).Nodup) (order : List Nat) (k : Nat) :
    find? (flushOrd s order).items k = find? (flush s).items k := by
  have hp := flushOrd_items_perm s hnd order
  apply Recency.find?_perm hp
  apply (hp.map _).nodup_iff.mpr
  rw [flush_items, keys_clean]
  exact hnd

theorem flushOrd_all_clean (s : St α) (hnd : (s.items.map (·.key)).Nodup) (order : List Nat) :
    ∀ e ∈ (flushOrd s order).items, e.dirty = false := by
  intro e he
  have := (flushOrd_items_perm s hnd order).subset he
  rw [flush_items] at this
  obtain ⟨x, _, rfl⟩ := List.mem_map.mp this
  rfl

theorem flushOrd_keys_perm (s : St α) (hnd : (s.items.map (·.key)).Nodup) (order : List Nat) :
    ((flushOrd s order).items.map (·.key)).Perm (s.items.map (·.key)) := by
  have := (flushOrd_items_perm s hnd order).map (·.key)
  rwa [flush_items, keys_clean] at this

theorem flushOrd_of_clean (s : St α) (h : ∀ e ∈ s.items, e.dirty = false) (order : List Nat) :
    flushOrd s order = flush s := by
  have h3 : s.items.map clean = s.items := by
    conv => rhs; rw [← List.map_id s.items]
    exact List.map_congr_left fun e he => clean_of_clean (h e he)
  have hi : (flushOrd s order).items = (flush s).items := by
    rw [flushOrd_items, foldl_visit_of_clean h, sweep_of_clean h, flush_items, h3]
  show ({ s with disk := (flush s).disk, items := (flushOrd s order).items } : St α) = flush s
  rw [hi]
  rfl

theorem flushOrd_disk_view (s : St α) (h : Inv s) (order : List Nat) (k : Nat) :
    (flushOrd s order).disk k = view s k := flush_disk s h k

/-! ### histories with the flush of the code -/

theorem refStep_flush (m : Nat → α) : refStep m (.flush : Op α) = (m, none) := rfl

theorem stepF_quiet {s t : St α} {op : OpF α} {o : Option α} (h : Inv s) (hs : stepF s op = some (t, o)) :
    ∃ t0, step s op.toOp = some (t0, o) ∧ Quiet t0 t := by
  cases op with
  | fetch k => exact ⟨t, hs, .refl t⟩
  | write k f => exact ⟨t, hs, .refl t⟩
  | flushOrd order =>
    cases hs
    exact ⟨flush s, rfl, flushOrd_quiet s h.1 order⟩

theorem stepF_sim (s : St α) (op : OpF α) (h : Inv s) (s' : St α) (o : Option α)
    (hs : stepF s op = some (s', o)) :
    Inv s' ∧ o = (refStep (view s) op.toOp).2 ∧ view s' = (refStep (view s) op.toOp).1 := by
  obtain ⟨t0, hs0, q⟩ := stepF_quiet h hs
  obtain ⟨hinv, ho, hv⟩ := step_sim s op.toOp h t0 o hs0
  exact ⟨(q.inv hinv).1, ho, (funext (q.inv hinv).2).trans hv⟩

theorem runF_cons_some {s s' : St α} {op : OpF α} {rest : List (OpF α)} {outs : List (Option α)}
    (hr : runF s (op :: rest) = some (s', outs)) :
    ∃ t o os, stepF s op = some (t, o) ∧ runF t rest = some (s', os) ∧ outs = o :: os := by
  rw [runF] at hr
  split at hr
  · cases hr
  · rename_i t o hs
    split at hr
    · cases hr
    · rename_i os hr1
      cases hr
      exact ⟨t, o, os, hs, hr1, rfl⟩

theorem runF_runQ {s s' : St α} {ops : List (OpF α)} {outs : List (Option α)} (h : Inv s)
    (hr : runF s ops = some (s', outs)) : RunQ s (ops.map OpF.toOp) s' outs := by
  induction ops generalizing s outs with
  | nil => cases hr; exact .nil _
  | cons op rest ih =>
    obtain ⟨t, o, os, hs, hr1, rfl⟩ := runF_cons_some hr
    obtain ⟨t0, hs0, q⟩ := stepF_quiet h hs
    exact .cons hs0 q (ih (stepF_sim s op h t o hs).1 hr1)

theorem capF_independent (s1 s2 : St α) (ops1 ops2 : List (OpF α)) (hops : ops1.map OpF.toOp = ops2.map OpF.toOp)
    (h1 : Inv s1) (h2 : Inv s2) (hv : ∀ k, view s1 k = view s2 k) (s1' s2' : St α) (o1 o2 : List (Option α))
    (r1 : runF s1 ops1 = some (s1', o1)) (r2 : runF s2 ops2 = some (s2', o2)) :
    o1 = o2 ∧ ∀ k, view s1' k = view s2' k :=
  (runF_runQ h1 r1).independent (hops ▸ runF_runQ h2 r2) h1 h2 hv

theorem stepF_none_iff (s : St α) (op : OpF α) :
    stepF s op = none ↔ ∃ k, (op = .fetch k ∨ ∃ f, op = .write k f) ∧
      find? s.items k = none ∧ s.items.length = s.cap ∧ ∀ e ∈ s.items, e.dirty = true := by
  cases op with
  | fetch k =>
    simp only [stepF, Option.map_eq_none_iff, fetch_none_iff]
    constructor
    · intro h; exact ⟨k, .inl rfl, h⟩
    · rintro ⟨k', h | ⟨f, h⟩, hc⟩
      · cases h; exact hc
      · cases h
  | write k f =>
    simp only [stepF, Option.map_eq_none_iff, write_none_iff]
    constructor
    · intro h; exact ⟨k, .inr ⟨f, rfl⟩, h⟩
    · rintro ⟨k', h | ⟨f', h⟩, hc⟩
      · cases h
      · cases h; exact hc
  | flushOrd order =>
    simp only [stepF, reduceCtorEq, false_iff]
    rintro ⟨k, h | ⟨f, h⟩, _⟩ <;> cases h

/-! ### non-vacuity: two orders, two victims, one content -/

namespace ExampleF

/-- capacity 2, pages 1 and 2 resident and dirty (11 and 21 over the file's 10 and 20) -/
def d0 : St Nat := { cap := 2, items := [⟨1, 11, true⟩, ⟨2, 21, true⟩], disk := fun k => 10 * k }

theorem d0_inv : Inv d0 := by unfold Inv; decide

def ents (s : St Nat) : List (Nat × Nat × Bool) := s.items.map fun e => (e.key, e.val, e.dirty)

/-- the same history with the two iteration orders of the flush -/
def wA : List (OpF Nat) := [.flushOrd [1, 2], .fetch 3, .fetch 1, .fetch 2]
def wB : List (OpF Nat) := [.flushOrd [2, 1], .fetch 3, .fetch 1, .fetch 2]

/-- the page visited last is in front -/
theorem orders_differ : ents (flushOrd d0 [1, 2]) = [(2, 21, false), (1, 11, false)] ∧
    ents (flushOrd d0 [2, 1]) = [(1, 11, false), (2, 21, false)] ∧
    ents (flush d0) = [(1, 11, false), (2, 21, false)] := by decide

/-- the next miss evicts page 1 after the one order and page 2 after the other -/
theorem victims_differ :
    ((fetch (flushOrd d0 [1, 2]) 3).map fun r => (ents r.1, r.2)) = some ([(3, 30, false), (2, 21, false)], 30) ∧
    ((fetch (flushOrd d0 [2, 1]) 3).map fun r => (ents r.1, r.2)) = some ([(3, 30, false), (1, 11, false)], 30) ∧
    (LRU.victim (proj (flushOrd d0 [1, 2]).items)).map (·.key) = some 1 ∧
    (LRU.victim (proj (flushOrd d0 [2, 1]).items)).map (·.key) = some 2 := by decide

def obsF (r : Option (St Nat × List (Option Nat))) : Option (List (Nat × Nat × Bool) × List (Option Nat)) :=
  r.map fun (s, o) => (ents s, o)

/-- both histories run with the same outputs (page 1 is a miss in the one and a hit in the other); after
the first two operations the resident sets differ -/
theorem runs :
    obsF (runF d0 wA) = some ([(2, 21, false), (1, 11, false)], [none, some 30, some 11, some 21]) ∧
    obsF (runF d0 wB) = some ([(2, 21, false), (1, 11, false)], [none, some 30, some 11, some 21]) ∧
    obsF (runF d0 (wA.take 2)) = some ([(3, 30, false), (2, 21, false)], [none, some 30]) ∧
    obsF (runF d0 (wB.take 2)) = some ([(3, 30, false), (1, 11, false)], [none, some 30]) :=
  ⟨by decide, by decide, by decide, by decide⟩

theorem same_ops : wA.map OpF.toOp = wB.map OpF.toOp := rfl

end ExampleF

end Mkdb.PageCache
end

section
/-!
The shape of the recency list after the flush of the code (`flushOrd`): the pages that were dirty in
front, in some order, then the pages that were clean in their old relative order (`flushOrd_shape`); an
`order` that enumerates the dirty pages leaves them in front last met first (`flushOrd_enum`), so every
arrangement `F` of the pages that were dirty is reached by an iteration order - the keys of `F`, last first
(`flushOrd_reaches`); and every `order` gives the state of an `order` that enumerates the dirty pages
(`flushOrd_complete_order`: the `D` of `flushOrd_exists_enum`).
-/
namespace Mkdb.PageCache

variable {α : Type}

theorem flushOrd_shape (s : St α) (hnd : (s.items.map (·.key)).Nodup) (order : List Nat) :
    ∃ F, (flushOrd s order).items = F ++ s.items.filter (fun e => !e.dirty) ∧
      F.Perm ((s.items.filter fun e => e.dirty).map clean) := by
  obtain ⟨D, hD, h⟩ := flushOrd_exists_enum s hnd order
  exact ⟨_, h, ((List.reverse_perm D).trans hD).map clean⟩

/-! ### every arrangement is reached -/

/-- The turns at the dirty pages of `v`, met in the order `D`: they are in front, last met first, and clean;
behind them the clean pages as they were.  A turn at the first of `D` leaves the rest of `D` as the dirty
pages. -/
theorem foldl_visit_enum {v : List (Ent α)} (hnd : (v.map (·.key)).Nodup) (D : List (Ent α))
    (hD : D.Perm (v.filter fun e => e.dirty)) :
    (D.map (·.key)).foldl visit v = D.reverse.map clean ++ v.filter fun e => !e.dirty := by
  induction D generalizing v with
  | nil =>
    have hc := List.filter_eq_nil_iff.mp hD.symm.eq_nil
    exact (List.filter_eq_self.mpr fun e he => by simpa using hc e he).symm
  | cons e D ih =>
    obtain ⟨hev, hed⟩ := List.mem_filter.mp (hD.subset List.mem_cons_self)
    obtain ⟨hnd', hp, ht⟩ := visit_turn hnd (find?_of_mem hnd hev) hed
    rw [List.map_cons, List.foldl_cons, ih hnd' (hD.trans hp).cons_inv, ht, List.reverse_cons, List.map_append,
      List.append_assoc]
    rfl

theorem flushOrd_enum (s : St α) (hnd : (s.items.map (·.key)).Nodup) (D : List (Ent α))
    (hD : D.Perm (s.items.filter fun e => e.dirty)) :
    (flushOrd s (D.map (·.key))).items = D.reverse.map clean ++ s.items.filter fun e => !e.dirty := by
  rw [flushOrd_items, foldl_visit_enum hnd D hD]
  apply sweep_of_clean
  intro x hx
  rcases List.mem_append.mp hx with hx | hx
  · obtain ⟨e, _, rfl⟩ := List.mem_map.mp hx; rfl
  · simpa using (List.mem_filter.mp hx).2

theorem flushOrd_reaches (s : St α) (hnd : (s.items.map (·.key)).Nodup) (F : List (Ent α))
    (hF : F.Perm ((s.items.filter fun e => e.dirty).map clean)) :
    (flushOrd s (F.map (·.key)).reverse).items = F ++ s.items.filter (fun e => !e.dirty) ∧
      ∀ e ∈ s.items, e.dirty = true → e.key ∈ (F.map (·.key)).reverse := by
  -- `F` is `D.map clean` for an arrangement `D` of the dirty pages; the order meets `D` last first
  obtain ⟨D, hD, rfl⟩ := perm_map_inv hF
  rw [keys_clean, ← List.map_reverse]
  refine ⟨?_, fun e he hd =>
    List.mem_map_of_mem (List.mem_reverse.mpr (hD.symm.subset (List.mem_filter.mpr ⟨he, hd⟩)))⟩
  rw [flushOrd_enum s hnd D.reverse ((List.reverse_perm D).trans hD), List.reverse_reverse]

/-- completing an `order` adds no behaviour: every `order` gives the state of one that names every dirty
resident page - an iteration order of the code -/
theorem flushOrd_complete_order (s : St α) (hnd : (s.items.map (·.key)).Nodup) (order : List Nat) :
    ∃ order', (∀ e ∈ s.items, e.dirty = true → e.key ∈ order') ∧ flushOrd s order = flushOrd s order' := by
  obtain ⟨D, hD, h⟩ := flushOrd_exists_enum s hnd order
  refine ⟨D.map (·.key),
    fun e he hd => List.mem_map_of_mem (hD.symm.subset (List.mem_filter.mpr ⟨he, hd⟩)), ?_⟩
  show ({ s with disk := (flush s).disk, items := (flushOrd s order).items } : St α) =
    { s with disk := (flush s).disk, items := (flushOrd s (D.map (·.key))).items }
  rw [h, flushOrd_enum s hnd D hD]

end Mkdb.PageCache
end
