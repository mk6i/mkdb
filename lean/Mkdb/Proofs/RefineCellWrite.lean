import Mkdb.Proofs.RefineScan
import Mkdb.Proofs.TreeUpdate
/-!
The write of one cell on the page heap is `updLeaves` on the levels: the leaf that holds the key is found
(`findLeaf_key`), written back with one cell changed and marked dirty (`put_mark`), and the store then holds
the tree with that cell changed (`holds_updLeaves`, `cellWrite_refines`).  UPDATE and DELETE of one row, on
the heap (`RefineHistory`) and under the catalog invariant (`CatalogRepoint`, `StmtRowOps`), are this write.
-/
set_option autoImplicit false
namespace Mkdb.Store
open Mkdb.Page Mkdb.Generated Mkdb.Tree

/-! ### `findLeaf` does not touch the header, and finds the leaf of the key -/

theorem findLeaf_hdr (fuel off key : Nat) (s s' : Store) (l : Leaf)
    (h : findLeaf fuel off key s = .ok l s') : s'.hdr = s.hdr :=
  (hdrSame_reads.findLeaf fuel off key).ok h

theorem findLeaf_key (s : Store) (t : Levels) (nf : Nat) (hH : Holds s t) (hI : Inv t nf)
    (hdepth : t.inner.length + 1 ≤ treeFuel) (key : Nat) :
    ∃ s1 l d, findLeaf treeFuel (rootOff t) key s = .ok l s1 ∧ (l, d) ∈ t.leaves ∧
      view s1 = view s ∧ s1.hdr.nextFree = s.hdr.nextFree ∧
      ∀ c ∈ cells t, c.key = key → l.cells.find? (fun x => x.key == key) = some c := by
  obtain ⟨s1, l, e, ho, ⟨d, hm⟩, hsv⟩ := Mkdb.Refine.findLeaf_refines_strong s t nf hH hI hdepth key
  refine ⟨s1, l, d, e, hm, funext hsv, by rw [findLeaf_hdr _ _ _ _ _ _ e], ?_⟩
  intro c hc hck
  subst hck
  exact find_at_route hI hm ho hc

/-! ### the page-local cell change -/

theorem put_mark (s : Store) (l l' : Leaf) (d : Bool) (lsn : Nat) (hoff : l'.off = l.off)
    (hv : view s l.off = some (.leaf l, d)) :
    ∃ s', (putNode (.leaf l') >>= fun _ => markDirty l.off lsn) s = .ok () s' ∧
      view s' = upd (view s) l.off (.leaf { l' with lsn := lsn }, true) ∧
      s'.hdr.nextFree = s.hdr.nextFree := by
  obtain ⟨s1, e1, v1, n1, r1⟩ := putNode_none_spec s (.leaf l') (.leaf l) d
    (by simp only [nodeOff, hoff]; exact hv)
  simp only [nodeOff, hoff] at v1 r1
  obtain ⟨s2, e2, v2, n2, _⟩ := markDirty_spec s1 l.off lsn (.leaf l') d
    (by rw [r1]; exact .inr rfl) (by rw [v1]; exact upd_same _ _ _)
  refine ⟨s2, by rw [bind_ok e1]; exact e2, ?_, by rw [n2, n1]⟩
  rw [v2, v1]
  funext o
  simp only [upd, setLSN]
  split <;> rfl

theorem key_unique {t : Levels} (hasc : KeysAsc t) {A B : List (Leaf × Bool)} {l : Leaf} {d : Bool}
    (hlv : t.leaves = A ++ (l, d) :: B) {key : Nat} (hany : l.cells.any (fun c => c.key == key) = true) :
    ∀ p ∈ A ++ B, p.1.cells.any (fun c => c.key == key) = false := by
  obtain ⟨_, hcross⟩ := Lookup.keysAsc_split t hasc
  rw [hlv, List.pairwise_append] at hcross
  obtain ⟨_, hB, hA⟩ := hcross
  rw [List.any_eq_true] at hany
  obtain ⟨c, hc, hck⟩ := hany
  have hck' : c.key = key := by simpa using hck
  intro p hp
  rw [List.any_eq_false]
  intro x hx hxk
  have hxk' : x.key = key := by simpa using hxk
  rcases List.mem_append.mp hp with hp | hp
  · have := hA p hp (l, d) List.mem_cons_self x hx c hc
    omega
  · have := (List.pairwise_cons.mp hB).1 p hp c hc x hx
    omega

theorem updLeaf_of_absent (f : LeafCell → LeafCell) (key lsn : Nat) (p : Leaf × Bool)
    (h : p.1.cells.any (fun c => c.key == key) = false) : updLeaf f key lsn p = p := by
  unfold updLeaf; rw [h]; rfl

theorem map_updLeaf_absent (f : LeafCell → LeafCell) (key lsn : Nat) (L : List (Leaf × Bool))
    (h : ∀ p ∈ L, p.1.cells.any (fun c => c.key == key) = false) : L.map (updLeaf f key lsn) = L := by
  conv => rhs; rw [← List.map_id L]
  exact List.map_congr_left fun p hp => updLeaf_of_absent f key lsn p (h p hp)

theorem updLeaves_absent (f : LeafCell → LeafCell) (key lsn : Nat) (t : Levels)
    (h : ∀ c ∈ cells t, c.key ≠ key) : updLeaves f key lsn t = t := by
  unfold updLeaves
  rw [map_updLeaf_absent f key lsn t.leaves fun p hp => List.any_eq_false.mpr fun c hc hck =>
    h c (List.mem_flatMap.mpr ⟨p, hp, hc⟩) (by simpa using hck)]

theorem flatten_leaf_mid {t : Levels} {A B : List (Leaf × Bool)} {l : Leaf} {d : Bool}
    (h : t.leaves = A ++ (l, d) :: B) :
    flatten t = A.map (fun p => (p.1.off, Node.leaf p.1, p.2)) ++ (l.off, Node.leaf l, d) ::
      (B.map (fun p => (p.1.off, Node.leaf p.1, p.2)) ++
        t.inner.flatMap fun lvl => lvl.map fun p => (p.1.off, Node.internal p.1, p.2)) := by
  simp [flatten, h]

theorem holds_updLeaves (f : LeafCell → LeafCell) (key lsn : Nat) (s s' : Store) (t : Levels)
    (hH : Holds s t) (hI : Inv t s.hdr.nextFree) (l : Leaf) (d : Bool) (hm : (l, d) ∈ t.leaves)
    (hany : l.cells.any (fun c => c.key == key) = true)
    (hv : view s' = upd (view s) l.off
      (.leaf { l with cells := l.cells.map (updCell f key), lsn := lsn }, true)) :
    Holds s' (updLeaves f key lsn t) := by
  obtain ⟨A, B, hlv⟩ := List.append_of_mem hm
  have huniq := key_unique hI.asc hlv hany
  have hmap : t.leaves.map (updLeaf f key lsn) =
      A ++ ({ l with cells := l.cells.map (updCell f key), lsn := lsn }, true) :: B := by
    rw [hlv, List.map_append, List.map_cons]
    have hA := map_updLeaf_absent f key lsn A fun p hp => huniq p (List.mem_append_left _ hp)
    have hB := map_updLeaf_absent f key lsn B fun p hp => huniq p (List.mem_append_right _ hp)
    rw [hA, hB]
    congr 2
    unfold updLeaf
    simp only [hany, if_true]
  have hrep := Rep.of_holds hH hI
  unfold Rep at hrep
  rw [flatten_leaf_mid hlv] at hrep
  have hrep' := hrep.replace (new := (Node.leaf { l with cells := l.cells.map (updCell f key), lsn := lsn }, true))
  rw [← hv] at hrep'
  intro e he
  rw [flatten_leaf_mid (t := updLeaves f key lsn t) hmap] at he
  exact hrep'.holds e he

theorem leaf_cells_sub {t : Levels} {l : Leaf} {d : Bool} (hm : (l, d) ∈ t.leaves) :
    ∀ c ∈ l.cells, c ∈ cells t := fun _ hc => List.mem_flatMap.mpr ⟨(l, d), hm, hc⟩

theorem any_of_find {l : Leaf} {key : Nat} {c : LeafCell}
    (h : l.cells.find? (fun x => x.key == key) = some c) : l.cells.any (fun c => c.key == key) = true := by
  rw [List.any_eq_true]
  have h2 := List.find?_some h
  exact ⟨c, List.mem_of_find?_eq_some h, h2⟩

/-- `s1`: the store after the reads that found the leaf -/
theorem cellWrite_refines (f : LeafCell → LeafCell) (key lsn : Nat) {s s1 : Store} {t : Levels} (hH : Holds s t)
    (hI : Inv t s.hdr.nextFree) {l : Leaf} {d : Bool} (hm : (l, d) ∈ t.leaves)
    (hany : l.cells.any (fun c => c.key == key) = true) (v1 : view s1 = view s) (h1 : s1.hdr = s.hdr) :
    ∃ s2 s3, fetch l.off s1 = .ok (.leaf l) s2 ∧
      (putNode (.leaf { l with cells := l.cells.map (updCell f key) }) >>= fun _ => markDirty l.off lsn) s2 =
        .ok () s3 ∧
      Holds s3 (updLeaves f key lsn t) ∧ s3.hdr = s.hdr ∧ ∀ off, off ≠ l.off → view s3 off = view s off := by
  have hvl : view s1 l.off = some (.leaf l, d) := by rw [v1]; exact holds_leaf hH hm
  obtain ⟨s2, e2, v2, _, _⟩ := fetch_spec s1 l.off (.leaf l) d hvl rfl
  obtain ⟨s3, e3, v3, _⟩ := put_mark s2 l { l with cells := l.cells.map (updCell f key) } d lsn rfl
    (by rw [v2]; exact hvl)
  refine ⟨s2, s3, e2, e3, ?_, ?_, ?_⟩
  · exact holds_updLeaves f key lsn s s3 t hH hI l d hm hany (by rw [v3, v2, v1])
  · exact ((hdr_rewrites.bind (hdr_rewrites.putNode _ _) fun _ => hdr_rewrites.markDirty _ _).ok e3).trans
      ((fetch_hdr e2).trans h1)
  · intro off hoff
    rw [v3, v2, v1, upd_other _ _ _ _ hoff]

end Mkdb.Store
