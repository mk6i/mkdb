import Mkdb.Model.Parse
/-!
Running a production of the parser model on a token list: the equations of the monad `P`
(`bind_apply`, `bind_ok`), the first statements of a production on a list whose head is known
(`match_ok`, `miss_ok`, `require_ok`, `cur_ok`), the follow-set hypothesis `HeadNot`, one unfolding of
the `AND` / `OR` loops, what an outcome of `parseTokens` says of `parseStmt`, and the arithmetic by which
fuel is handed on.  Both passes over the productions stand on this: `ParseRun` (what every run does)
and the round trip `Roundtrip*` (what the run on a rendered statement returns).

The token list: the scanner ends it WITHOUT an EOF token (`Scan.scanAll`), Go's `TokenList.Cur()` hands
out `EOFToken` once `cur = len(tokens)` and the model's `curTok` pads with `eofToken` likewise, so a list
with a closing `⟨t_EOF, []⟩` and one without are read alike (`atEnd`; `closing` in `RoundtripStmt` writes
both).  Only `hasNext` (`cur < len(tokens) - 1`, here `ts.length > 1`) counts tokens: it is what a SELECT
without FROM asks (`needsShortTail`, `closingOK`).

Fuel is a budget of nested calls and loop rounds, not of tokens: a production hands its `f` unchanged to
the productions it calls; one is taken off by every round of a loop (`sepLoop`, `guardedLoop`, `andLoop`,
`orLoop`, `joinLoop`, `groupByLoop`, `limitLoop`) and by the calls `orCond (f+1)` → `andCond f` →
`andLoop`.  Every round but the last consumes a token, so `n` tokens need about `n` of it; the `+ 2` of
`parseStmt (ts.length + 2)` pays the steps that take fuel and no token: the entry of `andCond` from
`orCond`, and the last test of a loop, which finds nothing to go on with.  Hence `n + 2 ≤ f` in the lemmas.
-/
namespace Mkdb.Sql
open Mkdb.Scan Mkdb.Generated

theorem bind_apply {α β} (m : P α) (f : α → P β) (ts : List Token) :
    (m >>= f) ts = match m ts with
      | .ok a rest => f a rest
      | .err e => .err e
      | .panic s => .panic s
      | .fuel => .fuel := rfl

theorem pure_apply {α} (a : α) (ts : List Token) : (Pure.pure a : P α) ts = .ok a ts := rfl

/-! `Parser.Parse` is `parseStatement` followed by the end-of-input test: what an outcome of
`parseTokens` says of `parseStmt`. -/

theorem dropSemis_eq_dropWhile (l : List Token) :
    dropSemis l = l.dropWhile (fun t => t.ty == t_SEMICOLON) := by
  induction l with
  | nil => rfl
  | cons t r ih =>
    unfold dropSemis
    by_cases hc : (t.ty == t_SEMICOLON) = true
    · simp [hc, ih]
    · simp [hc]

theorem parseTokens_ok {ts : List Token} {s : Stmt} (h : parseTokens ts = .ok s) :
    ∃ rest, parseStmt (ts.length + 2) ts = .ok s rest ∧ atEnd rest = true := by
  unfold parseTokens at h
  split at h
  · split at h
    · cases h; exact ⟨_, ‹_›, ‹_›⟩
    · cases h
  all_goals cases h

theorem parseTokens_panic {ts : List Token} {s : String} (h : parseTokens ts = .panic s) :
    parseStmt (ts.length + 2) ts = .panic s := by
  unfold parseTokens at h
  split at h
  · split at h <;> cases h
  · cases h
  · cases h; assumption
  · cases h

theorem parseTokens_fuel {ts : List Token} (h : parseTokens ts = .fuel) :
    parseStmt (ts.length + 2) ts = .fuel := by
  unfold parseTokens at h
  split at h
  · split at h <;> cases h
  · cases h
  · cases h
  · assumption

/-- One statement of a `do` block: the first parser succeeds, the rest runs on what it left.
A production is run on a given token list by a chain of these, one per statement. -/
theorem bind_ok {α β} {m : P α} {f : α → P β} {ts mid : List Token} {a : α} {r : R β}
    (h1 : m ts = .ok a mid) (h2 : f a mid = r) : (m >>= f) ts = r := by
  rw [bind_apply, h1]; exact h2

theorem matchTy_cons (tys : List Int) (t : Token) (rest : List Token) :
    matchTy tys (t :: rest) = if tys.contains t.ty = true then .ok (some t) rest else .ok none (t :: rest) := by
  simp only [matchTy]

theorem matchTy_hit (tys : List Int) (t : Token) (rest : List Token) (h : tys.contains t.ty = true) :
    matchTy tys (t :: rest) = .ok (some t) rest := by
  rw [matchTy_cons, if_pos h]

theorem matchTy_miss (tys : List Int) (t : Token) (rest : List Token) (h : tys.contains t.ty = false) :
    matchTy tys (t :: rest) = .ok none (t :: rest) := by
  rw [matchTy_cons, if_neg (by rw [h]; decide)]

theorem requireMatch_hit {tys : List Int} {t : Token} {rest : List Token} (h : tys.contains t.ty = true) :
    requireMatch tys (t :: rest) = .ok t rest :=
  bind_ok (matchTy_hit _ _ _ h) rfl

theorem curIs_cons (tys : List Int) (t : Token) (rest : List Token) :
    curIs tys (t :: rest) = .ok (tys.contains t.ty) (t :: rest) := rfl

theorem advance_cons (t : Token) (rest : List Token) : advance (t :: rest) = .ok () rest := rfl

theorem curTok_cons (t : Token) (rest : List Token) : curTok (t :: rest) = .ok t (t :: rest) := rfl

theorem fuel_addL {a b k f : Nat} (h : a + b + k ≤ f) : a + k ≤ f := by omega

theorem fuel_addR {a b k f : Nat} (h : a + b + k ≤ f) : b + k ≤ f := by omega

theorem fuel_split {n k f : Nat} (h : n + k ≤ f) : ∃ f', f = f' + k := ⟨f - k, by omega⟩

/-- `n` elements rendered in `m ≥ n` tokens: fuel for the tokens covers the `n + 1` rounds of a loop -/
theorem fuel_rounds {n m f : Nat} (hlen : n ≤ m) (hf : m + 2 ≤ f) : n + 1 ≤ f := by omega

theorem fuelL {a b : List Token} {k f : Nat} (h : (a ++ b).length + k ≤ f) : a.length + k ≤ f :=
  fuel_addL (List.length_append ▸ h)

theorem fuelR {a b : List Token} {k f : Nat} (h : (a ++ b).length + k ≤ f) : b.length + k ≤ f :=
  fuel_addR (List.length_append ▸ h)

theorem fuelT {t : Token} {a : List Token} {k f : Nat} (h : (t :: a).length + k ≤ f) : a.length + k ≤ f :=
  fuel_addL h

/-! The statements a production begins with, on a list whose head `t` is known: `p.match(tys)`
takes `t`, `p.requireMatch(tys)` takes it, `p.Cur(); p.Advance()` takes it. -/

theorem match_ok {β} {tys : List Int} {t : Token} {ts : List Token} {f : Option Token → P β} {r : R β}
    (h : tys.contains t.ty = true) (h2 : f (some t) ts = r) : (matchTy tys >>= f) (t :: ts) = r :=
  bind_ok (matchTy_hit _ _ _ h) h2

theorem require_ok {β} {tys : List Int} {t : Token} {ts : List Token} {f : Token → P β} {r : R β}
    (h : tys.contains t.ty = true) (h2 : f t ts = r) : (requireMatch tys >>= f) (t :: ts) = r :=
  bind_ok (requireMatch_hit h) h2

theorem cur_ok {β} {t : Token} {ts : List Token} {f : Token → P β} {r : R β} (h : f t ts = r) :
    (curTok >>= fun cur => advance >>= fun _ => f cur) (t :: ts) = r :=
  bind_ok (curTok_cons _ _) (bind_ok (advance_cons _ _) h)

theorem tokenVal_int_inv {t : Token} {n : Int} (h : tokenVal t = .ok (.int n)) :
    t.ty = t_INT ∧ atoi t.text = some n := by
  unfold tokenVal at h
  split at h
  · cases h
  · split at h
    · rename_i hi
      refine ⟨by simpa using hi, ?_⟩
      split at h
      · rename_i i ha; cases h; exact ha
      · cases h
    · split at h
      · cases h
      · split at h <;> cases h

/-- The head of `rest` is not one of `tys` (or `rest` is empty). -/
def HeadNot (tys : List Int) (rest : List Token) : Prop :=
  match rest with
  | [] => True
  | t :: _ => tys.contains t.ty = false

theorem headNot_cons {tys : List Int} {t : Token} {r : List Token} (h : tys.contains t.ty = false) :
    HeadNot tys (t :: r) := h

theorem matchTy_headNot (tys : List Int) (rest : List Token) (h : HeadNot tys rest) :
    matchTy tys rest = .ok none rest := by
  cases rest with
  | nil => rfl
  | cons t r => exact matchTy_miss tys t r h

/-- `p.match(tys)` takes nothing when the head is none of `tys` -/
theorem miss_ok {β} {tys : List Int} {ts : List Token} {f : Option Token → P β} {r : R β}
    (h : HeadNot tys ts) (h2 : f none ts = r) : (matchTy tys >>= f) ts = r :=
  bind_ok (matchTy_headNot _ _ h) h2

theorem curIs_dot_headNot (rest : List Token) (h : HeadNot [t_DOT] rest) :
    curIs [t_DOT] rest = .ok false rest := by
  cases rest with
  | nil => rfl
  | cons t r => rw [curIs_cons, show [t_DOT].contains t.ty = false from h]

theorem headNot_weaken {a b : List Int} {rest : List Token} (h : HeadNot (a ++ b) rest) :
    HeadNot a rest ∧ HeadNot b rest := by
  cases rest with
  | nil => exact ⟨trivial, trivial⟩
  | cons t r =>
    simp only [HeadNot, List.contains_eq_mem, List.mem_append, decide_eq_false_iff_not, not_or] at h ⊢
    exact h

theorem andLoop_miss (f : Nat) (ret : Cond) (ts : List Token) (h : HeadNot [t_AND] ts) :
    andLoop (f+1) ret ts = .ok ret ts :=
  miss_ok h rfl

theorem andLoop_hit (f : Nat) (p : Pred) (t : Token) (ts : List Token) (ht : t.ty = t_AND) :
    andLoop (f+1) (.pred p) (t :: ts) = (andCond f >>= fun rhs => andLoop f (.and p rhs)) ts :=
  match_ok (by rw [ht]; rfl) rfl

theorem orCond_succ (f : Nat) : orCond (f+1) = andCond f >>= orLoop f := rfl

theorem orLoop_miss (f : Nat) (ret : Cond) (ts : List Token) (h : HeadNot [t_OR] ts) :
    orLoop (f+1) ret ts = .ok ret ts :=
  miss_ok h rfl

theorem orLoop_hit (f : Nat) (ret : Cond) (t : Token) (ts : List Token) (ht : t.ty = t_OR) :
    orLoop (f+1) ret (t :: ts) = (orCond f >>= fun rhs => orLoop f (.or ret rhs)) ts :=
  match_ok (by rw [ht]; rfl) rfl

theorem literalTys_eq : literalTys = [2, 3, 4, 5, 6] := by decide

/-- a literal token whose value is `l`, where `ValueExpression` tries a literal first -/
theorem valueExpression_lit {t : Token} {l : Lit} (h1 : literalTys.contains t.ty = true)
    (h2 : tokenVal t = .ok l) (rest : List Token) : valueExpression (t :: rest) = .ok (.lit l) rest := by
  refine match_ok h1 ?_
  simp only [h2]; rfl

theorem columnReference_none (rest : List Token) (h : HeadNot [t_IDENT] rest) :
    columnReference rest = .ok none rest :=
  miss_ok h rfl

end Mkdb.Sql
