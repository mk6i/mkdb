import Mkdb.Proofs.LRU
import Mkdb.Proofs.PageCache
/-!
C16: the recency and eviction behaviour of the page-cache model is that of the LRU model of C15
(`Mkdb/Model/LRU.lean`): under `proj` (key and dirty bit, `id` := the key) eviction, the insertion of a
missing page, a hit, the in-place change of a write and the turns of the flush loop are `LRU.evict`,
`LRU.Cache.set`, `LRU.Cache.get`, `LRU.Cache.flip` and `LRU.visit`.
-/
namespace Mkdb.PageCache

variable {α : Type}

/-- the LRU entry of a page-cache entry (`proj l = l.map projE` by `rfl`) -/
def projE (e : Ent α) : LRU.Entry := ⟨e.key, e.key, e.dirty⟩

theorem proj_eq (l : List (Ent α)) : proj l = l.map projE := rfl

theorem proj_cons (e : Ent α) (l : List (Ent α)) : proj (e :: l) = projE e :: proj l := rfl

theorem proj_length (l : List (Ent α)) : (proj l).length = l.length := by
  simp [proj]

theorem proj_evict (l : List (Ent α)) : (evict l).map proj = LRU.evict (proj l) := by
  rw [evict_eq, LRU.evict_eq]
  exact (Recency.evict_map (dirty := Ent.dirty) (dirty' := LRU.Entry.dirty) (g := projE) (fun _ => rfl) l).symm

theorem proj_find? (l : List (Ent α)) (k : Nat) : LRU.find? (proj l) k = (find? l k).map projE := by
  unfold LRU.find? find? proj
  rw [List.find?_map]
  rfl

theorem proj_remove (l : List (Ent α)) (k : Nat) : proj (remove l k) = LRU.remove (proj l) k := by
  unfold LRU.remove remove proj
  rw [List.filter_map]
  rfl

theorem proj_insertNew (s : St α) (e : Ent α) (hf : find? s.items e.key = none) :
    (insertNew s e).map (fun s' => proj s'.items) =
      (let r := LRU.Cache.set ⟨s.cap, proj s.items⟩ e.key e.key e.dirty
       if r.2 then some r.1.items else none) := by
  have hf' : LRU.find? (proj s.items) e.key = none := by rw [proj_find?, hf]; rfl
  simp only [LRU.Cache.set, hf', proj_length, insertNew]
  by_cases hfull : s.items.length = s.cap
  · simp only [hfull, beq_self_eq_true, ↓reduceIte]
    rw [← proj_evict]
    cases evict s.items with
    | none => rfl
    | some items' => rfl
  · have hb : (s.items.length == s.cap) = false := by simpa using hfull
    simp only [hb, Bool.false_eq_true, ↓reduceIte]
    rfl

theorem proj_fetch_hit (s : St α) (k : Nat) (e : Ent α) (hf : find? s.items k = some e) :
    (fetch s k).map (fun r => (proj r.1.items, r.2)) =
      some ((LRU.Cache.get ⟨s.cap, proj s.items⟩ k).1.items, e.val) ∧
    (LRU.Cache.get ⟨s.cap, proj s.items⟩ k).2 = some (projE e) := by
  have hf' : LRU.find? (proj s.items) k = some (projE e) := by rw [proj_find?, hf]; rfl
  simp only [fetch, hf, LRU.Cache.get, hf', Option.map_some, proj_cons, proj_remove, and_self]

theorem proj_fetch (s : St α) (k : Nat) :
    (fetch s k).map (fun r => proj r.1.items) =
      (match LRU.Cache.get ⟨s.cap, proj s.items⟩ k with
       | (c', some _) => some c'.items
       | (_, none) =>
         let r := LRU.Cache.set ⟨s.cap, proj s.items⟩ k k false
         if r.2 then some r.1.items else none) := by
  cases hf : find? s.items k with
  | some e =>
    have hf' : LRU.find? (proj s.items) k = some (projE e) := by rw [proj_find?, hf]; rfl
    simp only [fetch, hf, LRU.Cache.get, hf', Option.map_some, proj_cons, proj_remove]
  | none =>
    have hf' : LRU.find? (proj s.items) k = none := by rw [proj_find?, hf]; rfl
    have := proj_insertNew s ⟨k, s.disk k, false⟩ hf
    simp only [LRU.Cache.get, hf']
    rw [← this]
    simp only [fetch, hf]
    cases insertNew s ⟨k, s.disk k, false⟩ <;> rfl

/-- the in-place change of `write` is `markDirty` (`Cache.flip k true`): no recency change -/
theorem proj_write_mark (c : Nat) (l : List (Ent α)) (k : Nat) (f : α → α) :
    proj (l.map fun e => if e.key == k then { e with val := f e.val, dirty := true } else e) =
      (LRU.Cache.flip ⟨c, proj l⟩ k true).items := by
  simp only [LRU.Cache.flip, proj, List.map_map]
  apply List.map_congr_left
  intro e _
  simp only [Function.comp]
  split <;> rfl

theorem proj_visit (cap : Nat) (l : List (Ent α)) (k : Nat) :
    proj (visit l k) = (LRU.visit ⟨cap, proj l⟩ k).items := by
  unfold visit LRU.visit
  simp only [proj_find?]
  cases hf : find? l k with
  | none => rfl
  | some e =>
    simp only [Option.map_some, projE]
    cases hd : e.dirty with
    | false => simp
    | true =>
      simp only [↓reduceIte, proj_cons, proj_remove]
      rfl

theorem proj_foldl_visit (cap : Nat) (l : List (Ent α)) (order : List Nat) :
    proj (order.foldl visit l) = (LRU.touchAll ⟨cap, proj l⟩ order).items := by
  induction order generalizing l with
  | nil => rfl
  | cons k rest ih =>
    simp only [List.foldl_cons, LRU.touchAll]
    rw [ih]
    have : (⟨cap, proj (visit l k)⟩ : LRU.Cache) = LRU.visit ⟨cap, proj l⟩ k := by
      rw [proj_visit cap l k]
      have : (LRU.visit ⟨cap, proj l⟩ k).cap = cap := by
        have := LRU.touchAll_cap ⟨cap, proj l⟩ [k]
        exact this
      cases hv : LRU.visit ⟨cap, proj l⟩ k
      rw [hv] at this
      simp only at this
      subst this
      rfl
    rw [this]
    rfl

end Mkdb.PageCache
