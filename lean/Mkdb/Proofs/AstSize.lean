import Mkdb.Model.Parse
import Mkdb.Proofs.AstSizeAttr
/-!
What the parser BUILDS is linear in what it CONSUMES (C09, "never exhausts memory"):
the size measure on the AST, the nesting depth of conditions, and the predicate `Sz` ("on
success the action consumed a prefix `pre` of the token list and its value is bounded in terms
of the weight of `pre`"); the productions have it by `Mkdb/Proofs/Parse.lean` (`Run.sz`).
-/
namespace Mkdb.Sql
open Mkdb.Scan Mkdb.Generated

/-! ## The size of an AST: every constructor counts 1 plus its children, every scalar field
(`Int`, `Bool`, enum) 1, every byte string its length, every list its length plus its elements. -/

def lsz {α} (μ : α → Nat) : List α → Nat
  | [] => 0
  | a :: l => 1 + μ a + lsz μ l

def osz {α} (μ : α → Nat) : Option α → Nat
  | none => 1
  | some a => 1 + μ a

def bsz (b : Bytes) : Nat := b.length

def Lit.size : Lit → Nat
  | .int _ => 1
  | .str b => 1 + b.length
  | .bool _ => 1

def ColRef.size (c : ColRef) : Nat := 1 + c.qual.length + c.name.length

def VExpr.size : VExpr → Nat
  | .lit l => 1 + l.size
  | .col c => 1 + c.size

def Pred.size (p : Pred) : Nat := 1 + p.lhs.size + 1 + p.rhs.size

def Cond.size : Cond → Nat
  | .val v => 1 + v.size
  | .pred p => 1 + p.size
  | .and l r => 1 + l.size + r.size
  | .or l r => 1 + l.size + r.size

def SelItem.size : SelItem → Nat
  | .star => 1
  | .count c => 1 + osz ColRef.size c
  | .avg c => 1 + c.size
  | .expr c => 1 + c.size

def DerivedCol.size (d : DerivedCol) : Nat := 1 + d.item.size + d.alias.length

def TableName.size (t : TableName) : Nat := 1 + t.name.length + osz bsz t.alias

def TableRef.size : TableRef → Nat
  | .table t => 1 + t.size
  | .join l _ r on => 1 + l.size + 1 + r.size + on.size

def SortSpec.size (s : SortSpec) : Nat := 1 + s.key.size + 1

def LimitOffset.size (_ : LimitOffset) : Nat := 5

def Select.size (s : Select) : Nat :=
  1 + lsz DerivedCol.size s.list + osz TableRef.size s.from_ + osz Cond.size s.where_
    + lsz ColRef.size s.groupBy + lsz SortSpec.size s.orderBy + s.lim.size

def ColType.size : ColType → Nat
  | .int => 1
  | .bigint => 1
  | .varchar _ => 2
  | .boolean => 1

def ColDef.size (c : ColDef) : Nat := 1 + c.name.length + c.ty.size

def setSize (x : Bytes × VExpr) : Nat := 1 + x.1.length + x.2.size

/-- **The size of a statement**: the number of constructors, scalar fields, list cells and
text bytes of the AST the parser returns. -/
def Stmt.size : Stmt → Nat
  | .createDatabase n => 1 + n.length
  | .createTable n cols => 1 + n.length + lsz ColDef.size cols
  | .select s => 1 + s.size
  | .insert t cols rows => 1 + t.length + lsz bsz cols + lsz (lsz Lit.size) rows
  | .update t sets w => 1 + t.length + lsz setSize sets + osz Cond.size w
  | .delete t w => 1 + t.length + osz Cond.size w
  | .use db => 1 + db.length
  | .showDatabases => 1

/-! ## Nesting depth of the condition trees -/

def Cond.depth : Cond → Nat
  | .val _ => 1
  | .pred _ => 1
  | .and _ r => 1 + r.depth
  | .or l r => 1 + max l.depth r.depth

def lmax {α} (μ : α → Nat) : List α → Nat
  | [] => 0
  | a :: l => max (μ a) (lmax μ l)

def oval {α} (μ : α → Nat) : Option α → Nat
  | none => 0
  | some a => μ a

def SelItem.depth : SelItem → Nat
  | .star => 0
  | .count _ => 0
  | .avg _ => 0
  | .expr c => c.depth

def DerivedCol.depth (d : DerivedCol) : Nat := d.item.depth

def TableRef.depth : TableRef → Nat
  | .table _ => 0
  | .join l _ _ on => max l.depth on.depth

def Select.depth (s : Select) : Nat :=
  max (lmax DerivedCol.depth s.list) (max (oval TableRef.depth s.from_) (oval Cond.depth s.where_))

/-- **The condition depth of a statement**: the greatest nesting depth of a condition tree
(`Cond`) anywhere in it; 0 when it has none. -/
def Stmt.condDepth : Stmt → Nat
  | .createDatabase _ => 0
  | .createTable _ _ => 0
  | .select s => s.depth
  | .insert _ _ _ => 0
  | .update _ _ w => oval Cond.depth w
  | .delete _ w => oval Cond.depth w
  | .use _ => 0
  | .showDatabases => 0

/-! ## Weights of token lists -/

def wsum (tw : Token → Nat) : List Token → Nat
  | [] => 0
  | t :: ts => tw t + wsum tw ts

theorem wsum_append (tw : Token → Nat) (a b : List Token) :
    wsum tw (a ++ b) = wsum tw a + wsum tw b := by
  induction a with
  | nil => simp [wsum]
  | cons t a ih => simp only [List.cons_append, wsum, ih]; omega

/-- the weight the size bound charges a token -/
def tokCost (t : Token) : Nat := 3 + t.text.length
/-- the weight the depth bound charges a token -/
def tokOne (_ : Token) : Nat := 1

def textBytes (ts : List Token) : Nat := wsum (fun t => t.text.length) ts

theorem wsum_tokCost (ts : List Token) : wsum tokCost ts = 3 * ts.length + textBytes ts := by
  induction ts with
  | nil => rfl
  | cons t ts ih => simp only [wsum, textBytes, List.length_cons, tokCost] at *; omega

theorem wsum_tokOne (ts : List Token) : wsum tokOne ts = ts.length := by
  induction ts with
  | nil => rfl
  | cons t ts ih => simp only [wsum, List.length_cons, tokOne] at *; omega

def optW (tw : Token → Nat) : Option Token → Nat
  | none => 0
  | some t => tw t


/-! ## Unfolding rules (the simp set `sz_simp`) -/

attribute [sz_simp] lsz lmax bsz tokCost tokOne ColRef.size Pred.size Cond.size DerivedCol.size
  TableName.size TableRef.size SortSpec.size LimitOffset.size Select.size ColDef.size setSize
  Cond.depth DerivedCol.depth TableRef.depth Select.depth
  List.length_nil Option.map_some Option.map_none Bool.toNat_true Bool.toNat_false

section
variable {α : Type} (μ : α → Nat) (a : α) (tw : Token → Nat) (t : Token)
@[sz_simp] theorem osz_none : osz μ none = 1 := rfl
@[sz_simp] theorem osz_some : osz μ (some a) = 1 + μ a := rfl
@[sz_simp] theorem oval_none : oval μ none = 0 := rfl
@[sz_simp] theorem oval_some : oval μ (some a) = μ a := rfl
@[sz_simp] theorem optW_none : optW tw none = 0 := rfl
@[sz_simp] theorem optW_some : optW tw (some t) = tw t := rfl
end
@[sz_simp] theorem Lit.size_int (i : Int) : (Lit.int i).size = 1 := rfl
@[sz_simp] theorem Lit.size_str (b : Bytes) : (Lit.str b).size = 1 + b.length := rfl
@[sz_simp] theorem Lit.size_bool (b : Bool) : (Lit.bool b).size = 1 := rfl
@[sz_simp] theorem VExpr.size_lit (l : Lit) : (VExpr.lit l).size = 1 + l.size := rfl
@[sz_simp] theorem VExpr.size_col (c : ColRef) : (VExpr.col c).size = 1 + c.size := rfl
@[sz_simp] theorem SelItem.size_star : SelItem.star.size = 1 := rfl
@[sz_simp] theorem SelItem.size_count (c : Option ColRef) : (SelItem.count c).size = 1 + osz ColRef.size c := rfl
@[sz_simp] theorem SelItem.size_avg (c : ColRef) : (SelItem.avg c).size = 1 + c.size := rfl
@[sz_simp] theorem SelItem.size_expr (c : Cond) : (SelItem.expr c).size = 1 + c.size := rfl
@[sz_simp] theorem SelItem.depth_star : SelItem.star.depth = 0 := rfl
@[sz_simp] theorem SelItem.depth_count (c : Option ColRef) : (SelItem.count c).depth = 0 := rfl
@[sz_simp] theorem SelItem.depth_avg (c : ColRef) : (SelItem.avg c).depth = 0 := rfl
@[sz_simp] theorem SelItem.depth_expr (c : Cond) : (SelItem.expr c).depth = c.depth := rfl
@[sz_simp] theorem ColType.size_int : ColType.int.size = 1 := rfl
@[sz_simp] theorem ColType.size_bigint : ColType.bigint.size = 1 := rfl
@[sz_simp] theorem ColType.size_varchar (n : Int) : (ColType.varchar n).size = 2 := rfl
@[sz_simp] theorem ColType.size_boolean : ColType.boolean.size = 1 := rfl
@[sz_simp] theorem Stmt.size_createDatabase (n : Bytes) : (Stmt.createDatabase n).size = 1 + n.length := rfl
@[sz_simp] theorem Stmt.size_createTable (n : Bytes) (cols : List ColDef) :
    (Stmt.createTable n cols).size = 1 + n.length + lsz ColDef.size cols := rfl
@[sz_simp] theorem Stmt.size_select (s : Select) : (Stmt.select s).size = 1 + s.size := rfl
@[sz_simp] theorem Stmt.size_insert (t : Bytes) (cols : List Bytes) (rows : List (List Lit)) :
    (Stmt.insert t cols rows).size = 1 + t.length + lsz bsz cols + lsz (lsz Lit.size) rows := rfl
@[sz_simp] theorem Stmt.size_update (t : Bytes) (sets : List (Bytes × VExpr)) (w : Option Cond) :
    (Stmt.update t sets w).size = 1 + t.length + lsz setSize sets + osz Cond.size w := rfl
@[sz_simp] theorem Stmt.size_delete (t : Bytes) (w : Option Cond) :
    (Stmt.delete t w).size = 1 + t.length + osz Cond.size w := rfl
@[sz_simp] theorem Stmt.size_use (db : Bytes) : (Stmt.use db).size = 1 + db.length := rfl
@[sz_simp] theorem Stmt.size_showDatabases : Stmt.showDatabases.size = 1 := rfl
@[sz_simp] theorem Stmt.condDepth_createDatabase (n : Bytes) : (Stmt.createDatabase n).condDepth = 0 := rfl
@[sz_simp] theorem Stmt.condDepth_createTable (n : Bytes) (cols : List ColDef) :
    (Stmt.createTable n cols).condDepth = 0 := rfl
@[sz_simp] theorem Stmt.condDepth_select (s : Select) : (Stmt.select s).condDepth = s.depth := rfl
@[sz_simp] theorem Stmt.condDepth_insert (t : Bytes) (cols : List Bytes) (rows : List (List Lit)) :
    (Stmt.insert t cols rows).condDepth = 0 := rfl
@[sz_simp] theorem Stmt.condDepth_update (t : Bytes) (sets : List (Bytes × VExpr)) (w : Option Cond) :
    (Stmt.update t sets w).condDepth = oval Cond.depth w := rfl
@[sz_simp] theorem Stmt.condDepth_delete (t : Bytes) (w : Option Cond) :
    (Stmt.delete t w).condDepth = oval Cond.depth w := rfl
@[sz_simp] theorem Stmt.condDepth_use (db : Bytes) : (Stmt.use db).condDepth = 0 := rfl
@[sz_simp] theorem Stmt.condDepth_showDatabases : Stmt.showDatabases.condDepth = 0 := rfl

/-! ## The predicate `Sz` -/

/-- Whenever `p` succeeds it has consumed a prefix `pre` of the token list, and its value
together with `n` plus the weight of `pre` satisfies `Q` (`n` = the weight consumed before). -/
def Sz (tw : Token → Nat) {α} (p : P α) (n : Nat) (Q : α → Nat → Prop) : Prop :=
  ∀ ts a rest, p ts = .ok a rest → ∃ pre, ts = pre ++ rest ∧ Q a (n + wsum tw pre)

variable {tw : Token → Nat}

theorem Sz.ite {α} {c : Prop} [Decidable c] {p q : P α} {n : Nat} {Q : α → Nat → Prop}
    (hp : c → Sz tw p n Q) (hq : ¬c → Sz tw q n Q) : Sz tw (if c then p else q) n Q := by
  split
  · exact hp ‹_›
  · exact hq ‹_›

theorem Sz.advance {n : Nat} : Sz tw advance n (fun _ m => n ≤ m) := by
  intro ts a rest h; cases h
  cases ts with
  | nil => exact ⟨[], rfl, Nat.le_refl _⟩
  | cons t ts => exact ⟨[t], rfl, Nat.le_add_right _ _⟩

theorem Sz.suffix {α} {p : P α} {n : Nat} {Q : α → Nat → Prop} (h : Sz tw p n Q)
    {ts : List Token} {a : α} {rest : List Token} (hr : p ts = .ok a rest) :
    ∃ pre, ts = pre ++ rest := by
  obtain ⟨pre, e, _⟩ := h ts a rest hr
  exact ⟨pre, e⟩

end Mkdb.Sql
