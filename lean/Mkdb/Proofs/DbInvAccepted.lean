import Mkdb.Proofs.CountersStatements
import Mkdb.Proofs.DbInv
/-!
# The invariant of a database after accepted and refused statements, and what a reader then sees

`evalStmt_refines_spec` (an accepted statement refines the plain model, for `Rel`) carried to `DbInv`: the invariant holds again FOR THE
PLAIN MODEL'S RESULT after an accepted statement, for THE SAME plain database and the same catalog trees
after one refused before a change; and `Fetch` of a table then returns exactly the plain database's rows.
-/
set_option autoImplicit false
namespace Mkdb.Store
open Mkdb.Page Mkdb.Tuple Mkdb.Generated Mkdb.Tree Mkdb.Engine

/-- `DbInv.accepted` for `Engine.evalInsert` on values (the CSV importer hands it NULLs, which no parsed statement
holds) -/
theorem DbInv.insert_accepted {db : Engine.DB} {sdb : Spec.SDB} {pt sch : Levels} {tbls : List (Bytes × Levels)}
    (h : DbInv db sdb pt sch tbls) (t : Bytes) (cols : List Bytes) (rows : List (List Val))
    (hvalid : ∀ r ∈ rows, ∀ v ∈ r, ValidVal v)
    (hrun : ∀ tr schema, (t, tr) ∈ tbls → schemaOf sch t = some schema →
      InsRunOK schema (cols.map Engine.bytesToName) tr db.store.hdr.lastKey db.store.hdr.nextLSN
        db.store.hdr.nextFree rows)
    (sdb' : Spec.SDB) (hspec : Spec.specInsert sdb t cols rows = some sdb') :
    ∃ db' pt' tbls', Engine.evalInsert db t cols rows = .ok rows.length db' ∧ DbInv db' sdb' pt' sch tbls' := by
  obtain ⟨st, _, hfind, _⟩ := specInsert_some_iff.mp hspec
  obtain ⟨tr, schema, htr, hsch, _⟩ := h.abs.find hfind
  obtain ⟨db', ptF, t', logs, e, hw, _, hlive, habs', _⟩ := evalInsert_refines_specV db pt sch tbls sdb sdb' h.abs
    t tr htr schema hsch cols rows hvalid hspec (hrun tr schema htr hsch)
  refine ⟨db', ptF, setTable tbls t t', e, ?_⟩
  exact h.live_run hlive habs'.cat habs' (setTable_names tbls t t') (Nat.le_refl _)
    (Nat.le_refl _) (.inl hw) ((evalInsert_keeps diskSame_writes db t cols _).ok e)
    ((evalInsert_filed db t cols _ h.filed).ok e)

theorem DbInv.accepted {db : Engine.DB} {sdb : Spec.SDB} {pt sch : Levels} {tbls : List (Bytes × Levels)}
    (h : DbInv db sdb pt sch tbls) (order : List Nat) (st : Sql.Stmt) (hroom : StmtRoom db pt sch tbls st)
    (sdb' : Spec.SDB) (hspec : Spec.specStmt sdb st = some sdb') :
    ∃ db' pt' sch' tbls', evalStmt db order st = .ok () db' ∧ DbInv db' sdb' pt' sch' tbls' := by
  cases st with
  | insert t cols rows =>
    rw [specStmt_insert] at hspec
    obtain ⟨db', pt', tbls', e, hi'⟩ := h.insert_accepted t cols _ (litRows_valid rows hroom.1) hroom.2 sdb' hspec
    exact ⟨db', pt', sch, tbls', by simp only [evalStmt, e, voidRes], hi'⟩
  | update t sets w =>
    obtain ⟨db', t', logs, stmts, e, hw, hlive, habs', _⟩ := evalUpdate_refines_specV db pt sch tbls sdb sdb' h.abs t sets w
      hroom.1 hroom.2 hspec
    refine ⟨db', pt, sch, setTable tbls t t', e, ?_⟩
    exact h.live_run hlive habs'.cat habs' (setTable_names tbls t t') (Nat.le_refl _)
      (Nat.le_refl _) (.inl hw) ((evalUpdate_keeps diskSame_writes db t sets w).ok e)
      ((evalUpdate_filed db t sets w h.filed).ok e)
  | delete t w =>
    obtain ⟨n, db', t', logs, stmts, e, hw, _, hlive, habs', _⟩ := evalDelete_refines_specV db pt sch tbls sdb sdb' h.abs t w
      hspec
    refine ⟨db', pt, sch, setTable tbls t t', by simp only [evalStmt, e, voidRes], ?_⟩
    exact h.live_run hlive habs'.cat habs' (setTable_names tbls t t') (Nat.le_refl _)
      (Nat.le_refl _) (.inl hw) ((evalDelete_keeps diskSame_writes db t w).ok e)
      ((evalDelete_filed db t w h.filed).ok e)
  | createTable n cols =>
    obtain ⟨hlo, hchk, hpd, hpl, hsd, hsl, hbig⟩ := hroom
    obtain ⟨hfind, hn1, hn2, hhi, hndc, rfl⟩ := specCreate_some hspec
    obtain ⟨_, _, _, _, _, _, _, _, _, e, hk⟩ := h.createTable_ok n cols order hfind hn1 hn2
      (colFields_ok cols hhi hlo hndc) hchk hpd hpl hsd hsl hbig
    exact ⟨_, _, _, _, e, hk.inv⟩
  | _ =>
    -- the other statements change neither the plain database nor the engine's
    obtain rfl : sdb = sdb' := Option.some.inj hspec
    exact ⟨db, pt, sch, tbls, rfl, h⟩

theorem evalStmt_err_facts {db db' : Engine.DB} {order : List Nat} {st : Sql.Stmt} {e : Engine.StmtErr}
    (he : evalStmt db order st = .err e db') :
    DiskSame db.store db'.store ∧ db.store.hdr.lastKey ≤ db'.store.hdr.lastKey := by
  cases st with
  | insert t cols rows =>
    have hr := voidRes_err he
    have h1 := evalInsert_keeps diskSame_writes db t cols (rows.map fun r => r.map Engine.litToVal)
    have h2 := evalInsert_counters db t cols (rows.map fun r => r.map Engine.litToVal)
    rw [hr] at h1 h2
    exact ⟨h1, h2.1.k_mono⟩
  | update t sets w =>
    have he' : Engine.evalUpdate db t sets w = .err e db' := he
    have h1 := evalUpdate_resDisk db t sets w
    have h2 := evalUpdate_counters db t sets w
    rw [he'] at h1 h2
    exact ⟨h1, Nat.le_of_eq h2.1.k_eq.symm⟩
  | delete t w =>
    have hr := voidRes_err he
    have h1 := evalDelete_resDisk db t w
    have h2 := evalDelete_counters db t w
    rw [hr] at h1 h2
    exact ⟨h1, Nat.le_of_eq h2.1.k_eq.symm⟩
  | createTable n cols =>
    have he' : Engine.evalCreateTable db n cols order true = .err e db' := he
    have h2 := evalCreateTable_counters db n cols order true
    rw [he'] at h2
    exact ⟨evalCreateTable_err_disk he', h2.1.k_mono⟩
  | _ => cases he

theorem DbInv.unchanged {db db' : Engine.DB} {sdb : Spec.SDB} {pt sch : Levels} {tbls : List (Bytes × Levels)}
    (h : DbInv db sdb pt sch tbls) (habs' : AbsV db'.store pt sch tbls sdb) (hw : db'.wal = db.wal)
    (hd : DiskSame db.store db'.store) (hlk : db.store.hdr.lastKey ≤ db'.store.hdr.lastKey)
    (hf : MemFiled db'.store) : DbInv db' sdb pt sch tbls := by
  exact h.live_run (.nil _ _) h.abs.cat habs' rfl hd.2.2 hlk (.inr hw) hd hf

theorem DbInv.refused {db : Engine.DB} {sdb : Spec.SDB} {pt sch : Levels} {tbls : List (Bytes × Levels)}
    (h : DbInv db sdb pt sch tbls) (order : List Nat) (st : Sql.Stmt) (hbad : StmtRefusal sdb pt st) :
    Spec.specStmt sdb st = none ∧
    ∃ e db', evalStmt db order st = .err e db' ∧ db'.wal = db.wal ∧ DbInv db' sdb pt sch tbls := by
  obtain ⟨hnone, e, db', he, hw, habs', _, hmf'⟩ := evalStmt_refused_spec db order pt sch tbls sdb h.rel st hbad
  obtain ⟨hd, hlk⟩ := evalStmt_err_facts he
  exact ⟨hnone, e, db', he, hw, h.unchanged habs' hw hd hlk hmf'⟩

theorem DbInv.insert_refused {db : Engine.DB} {sdb : Spec.SDB} {pt sch : Levels} {tbls : List (Bytes × Levels)}
    (h : DbInv db sdb pt sch tbls) (t : Bytes) (cols : List Bytes) (r : List Val) (rest : List (List Val))
    (hbad : (Spec.findTable sdb t = none ∧ t ≠ sysPages ∧ t ≠ sysSchema) ∨
      ∃ st, Spec.findTable sdb t = some st ∧
        (Spec.rowOf st cols r = none ∨ Spec.namesOK st (cols.map Spec.nameStr) = false)) :
    Spec.specInsert sdb t cols (r :: rest) = none ∧
    ∃ e db', Engine.evalInsert db t cols (r :: rest) = .err (.store e) db' ∧ db'.wal = db.wal ∧
      DbInv db' sdb pt sch tbls := by
  obtain ⟨hnone, e, db', he, _, hw, habs'⟩ := evalInsert_refused_specV db pt sch tbls sdb h.abs t cols r rest hbad
  have hk := evalInsert_counters db t cols (r :: rest)
  rw [he] at hk
  exact ⟨hnone, e, db', he, hw, h.unchanged habs' hw ((evalInsert_keeps diskSame_writes db t cols _).err he)
    hk.1.k_mono ((evalInsert_filed db t cols _ h.filed).err he)⟩

/-! ### what a reader sees -/

theorem DbInv.reads {db : Engine.DB} {sdb : Spec.SDB} {pt sch : Levels} {tbls : List (Bytes × Levels)}
    (h : DbInv db sdb pt sch tbls) {t : Bytes} {tb : Spec.STable} (hfind : Spec.findTable sdb t = some tb) :
    Reads db t tb.cols (tb.rows.map (·.vals)) := h.abs.reads hfind

end Mkdb.Store
