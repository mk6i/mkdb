import Mkdb.Proofs.RoundtripLists
/-!
Token-level round trip (C10): WHERE, GROUP BY (qualified columns, optional commas),
ORDER BY (ASC written or not, DESC), LIMIT / OFFSET in either order.
-/
namespace Mkdb.Sql
open Mkdb.Scan Mkdb.Generated

/-! ## WHERE -/

/-- what may not follow a WHERE clause (nor stand in the place of an absent one) -/
def whereBad : List Int := [t_DOT, t_EQ, t_NEQ, t_LT, t_GT, t_LTE, t_GTE, t_AND, t_OR, t_WHERE]

/-- An optional clause followed by `rest` begins with its keyword or, not written, as `rest` does (likewise
`headNot_tokGroupBy`, `headNot_tokOrderBy`, `headNot_tokLimit`). -/
theorem headNot_tokWhere (o : ROpts) (w : Option Cond) {tys : List Int} {rest : List Token}
    (h : tys.contains t_WHERE = false) (hr : HeadNot tys rest) : HeadNot tys (tokWhere o w ++ rest) := by
  cases w with
  | none => exact hr
  | some c => exact h

theorem whereClause_tok (o : ROpts) (ok : Lit → Bool) (hlit : ∀ l, ok l = true → GoodLit o.lit l)
    (w : Option Cond) (hw : wfOptCond ok w = true) (rest : List Token) (hr : HeadNot whereBad rest)
    (f : Nat) (hf : (tokWhere o w).length + 2 ≤ f) :
    whereClause f (tokWhere o w ++ rest) = .ok w rest := by
  cases w with
  | none => exact miss_ok (headNot_sub hr (by decide +kernel)) rfl
  | some c =>
    exact match_ok rfl (bind_ok
      (orCond_tokCond o ok hlit c hw rest (headNot_sub hr (by decide +kernel)) f (Nat.le_of_succ_le hf)) rfl)

/-! ## GROUP BY -/

theorem headNot_tokGBCols_cons (o : ROpts) (i : Nat) (c : ColRef) (t : List ColRef) (rest : List Token)
    {tys : List Int} (h : tys.contains t_IDENT = false) : HeadNot tys (tokGBCols o i (c :: t) ++ rest) := by
  cases t with
  | nil => exact headNot_tokCol o c rest h
  | cons d r => simp only [tokGBCols, List.append_assoc]; exact headNot_tokCol o c _ h

theorem length_le_tokGBCols (o : ROpts) (cs : List ColRef) : ∀ i, cs.length ≤ (tokGBCols o i cs).length := by
  induction cs with
  | nil => intro i; simp
  | cons c t ih =>
    intro i
    have := tokCol_length o c
    cases t with
    | nil => simpa [tokGBCols] using this
    | cons d r =>
      have := ih (i+1)
      simp only [tokGBCols, List.length_append, List.length_cons] at *
      omega

/-- **GROUP BY lists are not cut**: every column (qualified or not), with or without commas between. -/
theorem groupByLoop_tok (o : ROpts) (rest : List Token) (hr : HeadNot [t_IDENT, t_COMMA, t_DOT] rest)
    (cs : List ColRef) : ∀ (i : Nat) (b : Bool) (f : Nat), (cs ≠ [] ∨ b = false) → cs.length + 1 ≤ f →
    groupByLoop f b (tokGBCols o i cs ++ rest) = .ok cs rest := by
  have hid : HeadNot [t_IDENT] rest := headNot_sub hr (by decide +kernel)
  have hcomma : HeadNot [t_COMMA] rest := headNot_sub hr (by decide +kernel)
  have hdot : HeadNot [t_DOT] rest := headNot_sub hr (by decide +kernel)
  induction cs with
  | nil =>
    intro i b f hb hf
    obtain ⟨f, rfl⟩ := fuel_split hf
    obtain rfl : b = false := hb.resolve_left (fun h => h rfl)
    exact bind_ok (columnReference_none rest hid) rfl
  | cons c t ih =>
    intro i b f _ hf
    obtain ⟨f, rfl⟩ := fuel_split hf
    have hf' : t.length + 1 ≤ f := Nat.le_of_succ_le_succ hf
    cases t with
    | nil =>
      exact bind_ok (columnReference_tok o c rest hdot) (bind_ok (commaFollows_headNot rest hcomma)
        (bind_ok (ih (i+1) false f (Or.inr rfl) hf') rfl))
    | cons d r =>
      cases hk : o.gbComma i with
      | true =>
        simp only [tokGBCols, hk, ↓reduceIte, List.append_assoc, List.cons_append, List.nil_append]
        exact bind_ok (columnReference_tok o c _ (headNot_cons rfl)) (bind_ok (commaFollows_comma _ _ rfl)
          (bind_ok (ih (i+1) true f (Or.inl (List.cons_ne_nil _ _)) hf') rfl))
      | false =>
        simp only [tokGBCols, hk, Bool.false_eq_true, ↓reduceIte, List.append_assoc, List.nil_append]
        exact bind_ok (columnReference_tok o c _ (headNot_tokGBCols_cons o _ d r rest rfl))
          (bind_ok (commaFollows_headNot _ (headNot_tokGBCols_cons o _ d r rest rfl))
            (bind_ok (ih (i+1) false f (Or.inr rfl) hf') rfl))

/-- `c1 , c2 , … , cn` (unqualified columns) is the GROUP BY list written with all its commas -/
theorem tokCols_eq (names : List Bytes) : ∀ i, tokCols names = tokGBCols {} i (names.map fun n => ⟨[], n⟩) := by
  induction names with
  | nil => intro i; rfl
  | cons n t ih =>
    intro i
    cases t with
    | nil => rfl
    | cons m r => rw [tokCols, ih (i+1)]; rfl

theorem groupByLoop_cols (names : List Bytes) (hne : names ≠ []) (rest : List Token)
    (hrest : HeadNot ([t_IDENT] ++ ([t_COMMA] ++ [t_DOT])) rest) (b : Bool) (f : Nat)
    (hf : names.length + 1 ≤ f) :
    groupByLoop f b (tokCols names ++ rest) = .ok (names.map fun n => ⟨[], n⟩) rest := by
  rw [tokCols_eq names 0]
  exact groupByLoop_tok {} rest hrest _ 0 b f (Or.inl (by cases names with | nil => exact absurd rfl hne | cons => exact List.cons_ne_nil _ _))
    (by rw [List.length_map]; exact hf)

/-- what may not follow a GROUP BY clause (nor stand in the place of an absent one) -/
def groupBad : List Int := [t_IDENT, t_COMMA, t_DOT, t_GROUP]

theorem headNot_tokGroupBy (o : ROpts) (gb : List ColRef) {tys : List Int} {rest : List Token}
    (h : tys.contains t_GROUP = false) (hr : HeadNot tys rest) : HeadNot tys (tokGroupBy o gb ++ rest) := by
  unfold tokGroupBy
  split
  · split
    · exact h
    · exact hr
  · exact h

theorem groupByClause_tok (o : ROpts) (gb : List ColRef) (rest : List Token) (hr : HeadNot groupBad rest)
    (f : Nat) (hf : (tokGroupBy o gb).length + 2 ≤ f) :
    groupByClause f (tokGroupBy o gb ++ rest) = .ok gb rest := by
  have h3 : HeadNot [t_IDENT, t_COMMA, t_DOT] rest := headNot_sub hr (by decide +kernel)
  cases gb with
  | nil =>
    cases he : o.emptyGroupBy with
    | true =>
      simp only [tokGroupBy, List.isEmpty_nil, he, ↓reduceIte, List.cons_append, List.nil_append]
      exact match_ok rfl (require_ok rfl
        (groupByLoop_tok o rest h3 [] 0 false f (Or.inr rfl) (by simp only [List.length_nil]; omega)))
    | false =>
      simp only [tokGroupBy, List.isEmpty_nil, he, Bool.false_eq_true, ↓reduceIte, List.nil_append]
      exact miss_ok (headNot_sub hr (by decide +kernel)) rfl
  | cons c t =>
    have hlen := length_le_tokGBCols o (c :: t) 0
    simp only [tokGroupBy, List.isEmpty_cons, Bool.false_eq_true, ↓reduceIte, List.length_cons] at hf hlen ⊢
    exact match_ok rfl (require_ok rfl
      (groupByLoop_tok o rest h3 (c :: t) 0 false f (Or.inr rfl) (by simp only [List.length_cons]; omega)))

/-! ## ORDER BY -/

/-- the body of the loop of `SortSpecificationList` -/
def sortBody : P (SortSpec × Bool) := do
      match ← columnReference with
      | none => fail .unexpected
      | some c =>
        let dir ← matchTy [t_ASC, t_DESC]
        let desc := match dir with | some t => t.ty == t_DESC | none => false
        pure (⟨c, desc⟩, ← commaFollows)

theorem sortSpecList_eq (f : Nat) : sortSpecList f = (do
    match ← matchTy [t_ORDER] with
    | none => pure []
    | some _ =>
      let _ ← requireMatch [t_BY]
      sepLoop f sortBody) := rfl

theorem sortBody_tok (o : ROpts) (s : SortSpec) (j : Nat) (r' : List Token)
    (hr : HeadNot [t_DOT, t_ASC, t_DESC] r') : sortBody (tokSort o j s ++ r') = withComma s r' := by
  obtain ⟨c, d⟩ := s
  cases d with
  | true =>
    simp only [tokSort, ↓reduceIte, List.append_assoc, List.cons_append, List.nil_append]
    exact bind_ok (columnReference_tok o c (K o t_DESC :: r') (headNot_cons rfl))
      (match_ok rfl (pure_withComma _ _))
  | false =>
    simp only [tokSort, Bool.false_eq_true, ↓reduceIte]
    cases o.ascKw j with
    | true =>
      simp only [↓reduceIte, List.append_assoc, List.cons_append, List.nil_append]
      exact bind_ok (columnReference_tok o c (K o t_ASC :: r') (headNot_cons rfl))
        (match_ok rfl (pure_withComma _ _))
    | false =>
      simp only [Bool.false_eq_true, ↓reduceIte, List.append_nil]
      exact bind_ok (columnReference_tok o c r' (headNot_sub hr (by decide +kernel)))
        (miss_ok (headNot_sub hr (by decide +kernel)) (pure_withComma _ _))

/-- what may not follow an ORDER BY clause (nor stand in the place of an absent one) -/
def orderBad : List Int := [t_COMMA, t_DOT, t_ASC, t_DESC, t_ORDER]

theorem headNot_tokOrderBy (o : ROpts) (ob : List SortSpec) {tys : List Int} {rest : List Token}
    (h : tys.contains t_ORDER = false) (hr : HeadNot tys rest) : HeadNot tys (tokOrderBy o ob ++ rest) := by
  unfold tokOrderBy
  split
  · exact hr
  · exact h

/-- **ORDER BY round trip**: every key with its direction (ASC written or not; DESC). -/
theorem sortSpecList_tok (o : ROpts) (ob : List SortSpec) (rest : List Token) (hr : HeadNot orderBad rest)
    (f : Nat) (hf : (tokOrderBy o ob).length + 2 ≤ f) :
    sortSpecList f (tokOrderBy o ob ++ rest) = .ok ob rest := by
  cases ob with
  | nil => exact miss_ok (headNot_sub hr (by decide +kernel)) rfl
  | cons s t =>
    have hpos : ∀ j (x : SortSpec), 1 ≤ (tokSort o j x).length := by
      intro j x
      have := tokCol_length o x.key
      simp only [tokSort, List.length_append]; omega
    have hlen := length_le_tokSep (tokSort o) (K o t_COMMA) hpos (s :: t) 0
    simp only [tokOrderBy, List.isEmpty_cons, Bool.false_eq_true, ↓reduceIte, List.length_cons] at hf ⊢
    exact match_ok rfl (require_ok rfl
      (sepLoop_tok sortBody (tokSort o) (K o t_COMMA) rfl [t_DOT, t_ASC, t_DESC] rfl rest
        (headNot_sub hr (by decide +kernel)) f (s :: t)
        (fun j x r' _ _ hb => sortBody_tok o x j r' hb) (List.cons_ne_nil _ _) 0 f (by omega) (by omega)))

/-! ## LIMIT / OFFSET -/

theorem requireInt_tok (lit : Lit → Token) (n : Int) (h : GoodLit lit (.int n)) (r : List Token) :
    requireInt (lit (.int n) :: r) = .ok n r := by
  refine require_ok (by rw [(tokenVal_int_inv h.2).1]; rfl) ?_
  simp only [h.2]; rfl

theorem headNot_tokLimit (o : ROpts) (l : LimitOffset) {tys : List Int} {rest : List Token}
    (h1 : tys.contains t_LIMIT = false) (h2 : tys.contains t_OFFSET = false) (hr : HeadNot tys rest) :
    HeadNot tys (tokLimit o l ++ rest) := by
  obtain ⟨la, oa, lim, off⟩ := l
  simp only [tokLimit]
  cases la <;> cases oa <;> cases o.limitFirst <;> first | exact hr | exact h1 | exact h2

/-! One round of the loop of `LimitOffsetClause`: `LIMIT n` or `OFFSET n` not seen before, or the end. -/

theorem limitLoop_limit (o : ROpts) (n : Int) (hg : GoodLit o.lit (.int n)) (f : Nat) (oa : Bool) (l off : Int)
    (rest : List Token) :
    limitLoop (f+1) ⟨false, oa, l, off⟩ (K o t_LIMIT :: o.lit (.int n) :: rest) =
      limitLoop f ⟨true, oa, n, off⟩ rest :=
  match_ok rfl (bind_ok (requireInt_tok o.lit n hg rest) rfl)

theorem limitLoop_offset (o : ROpts) (n : Int) (hg : GoodLit o.lit (.int n)) (f : Nat) (la : Bool) (l off : Int)
    (rest : List Token) :
    limitLoop (f+1) ⟨la, false, l, off⟩ (K o t_OFFSET :: o.lit (.int n) :: rest) =
      limitLoop f ⟨la, true, l, n⟩ rest :=
  match_ok rfl (bind_ok (requireInt_tok o.lit n hg rest) rfl)

theorem limitLoop_done (f : Nat) (lc : LimitOffset) (rest : List Token) (h : HeadNot [t_LIMIT, t_OFFSET] rest) :
    limitLoop (f+1) lc rest = .ok lc rest :=
  miss_ok h rfl

/-- **LIMIT / OFFSET round trip**: in either order, each mapped to itself. -/
theorem limitOffsetClause_tok (o : ROpts) (ok : Lit → Bool) (hlit : ∀ l, ok l = true → GoodLit o.lit l)
    (l : LimitOffset) (hw : wfLimit ok l = true) (rest : List Token) (hr : HeadNot [t_LIMIT, t_OFFSET] rest)
    (f : Nat) (hf : (tokLimit o l).length + 2 ≤ f) :
    limitOffsetClause f (tokLimit o l ++ rest) = .ok l rest := by
  obtain ⟨la, oa, lim, off⟩ := l
  simp only [tokLimit] at hf ⊢
  -- the loop has read both bounds; neither is negative
  have hfin : ∀ {toks}, 0 ≤ lim → 0 ≤ off → limitLoop f {} toks = .ok ⟨la, oa, lim, off⟩ rest →
      limitOffsetClause f toks = .ok ⟨la, oa, lim, off⟩ rest := by
    intro toks h1 h2 h
    refine bind_ok h ?_
    simp only [Int.not_lt.mpr h1, Int.not_lt.mpr h2, ↓reduceIte]; rfl
  -- the token list in the eight cases (each bound written or not, either order)
  cases la <;> cases oa <;> cases hlf : o.limitFirst <;>
    simp only [hlf, wfLimit, Bool.false_eq_true, ↓reduceIte, Bool.and_eq_true, decide_eq_true_eq,
      List.nil_append, List.append_nil, List.cons_append, List.length_nil, List.length_cons] at hw hf ⊢
  case false.false.false | false.false.true =>
    obtain ⟨rfl, rfl⟩ := hw
    obtain ⟨f, rfl⟩ : ∃ f1, f = f1 + 1 := ⟨f - 1, by omega⟩
    exact hfin (Int.le_refl 0) (Int.le_refl 0) (limitLoop_done _ _ _ hr)
  case false.true.false | false.true.true =>
    obtain ⟨rfl, h0, hk⟩ := hw
    obtain ⟨f, rfl⟩ : ∃ f2, f = f2 + 2 := ⟨f - 2, by omega⟩
    exact hfin (Int.le_refl 0) h0 ((limitLoop_offset o off (hlit _ hk) _ _ _ _ rest).trans (limitLoop_done _ _ _ hr))
  case true.false.false | true.false.true =>
    obtain ⟨⟨h0, hk⟩, rfl⟩ := hw
    obtain ⟨f, rfl⟩ : ∃ f2, f = f2 + 2 := ⟨f - 2, by omega⟩
    exact hfin h0 (Int.le_refl 0) ((limitLoop_limit o lim (hlit _ hk) _ _ _ _ rest).trans (limitLoop_done _ _ _ hr))
  case true.true.false =>
    obtain ⟨⟨h0, hk⟩, h0', hk'⟩ := hw
    obtain ⟨f, rfl⟩ : ∃ f3, f = f3 + 3 := ⟨f - 3, by omega⟩
    exact hfin h0 h0' ((limitLoop_offset o off (hlit _ hk') _ _ _ _ _).trans
      ((limitLoop_limit o lim (hlit _ hk) _ _ _ _ rest).trans (limitLoop_done _ _ _ hr)))
  case true.true.true =>
    obtain ⟨⟨h0, hk⟩, h0', hk'⟩ := hw
    obtain ⟨f, rfl⟩ : ∃ f3, f = f3 + 3 := ⟨f - 3, by omega⟩
    exact hfin h0 h0' ((limitLoop_limit o lim (hlit _ hk) _ _ _ _ _).trans
      ((limitLoop_offset o off (hlit _ hk') _ _ _ _ rest).trans (limitLoop_done _ _ _ hr)))

end Mkdb.Sql
