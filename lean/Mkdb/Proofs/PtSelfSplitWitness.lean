import Mkdb.Proofs.PtSelfHistories
/-!
Any number of CREATE TABLEs from CREATE DATABASE, and the witness `db8`: a database whose page table has split.
-/

section
/-!
Any number of CREATE TABLEs from CREATE DATABASE.  To have a witness where the page table has split (its
self-row then does not name its root: `PtSelfRoot` fails, `PtSelf` holds) the model is run: `CREATE
DATABASE`, then `CREATE TABLE n (a INT)` for a list of names.  The run is followed by theorems, not by
computing stores: `Grown` is `Ckpt` + `NoStale` plus the counts that give the room for the next CREATE
TABLE (`tree_fuel`: fuel from cell counts).
-/
set_option autoImplicit false
namespace Mkdb.Store
open Mkdb.Page Mkdb.Tuple Mkdb.Generated Mkdb.Tree Mkdb.Engine

def runCreates (db : Engine.DB) : List Bytes → Option Engine.DB
  | [] => some db
  | n :: rest =>
    match evalStmt db [] (.createTable n acols) with
    | .ok _ db1 => runCreates db1 rest
    | _ => none

def sdbOf (names : List Bytes) : Spec.SDB := names.map fun n => ⟨n, acols.map Spec.colField, []⟩

def createsOK : Spec.SDB → List Bytes → Bool
  | _, [] => true
  | sdb, n :: rest =>
    (Spec.findTable sdb n).isNone && n != sysPages && n != sysSchema &&
      (checkCatalogRows (acols.map Engine.colTypeToField) n).isNone &&
      createsOK (sdb ++ [⟨n, acols.map Spec.colField, []⟩]) rest

/-- a checkpointed database after `k` CREATE TABLEs of one-column tables from `newDB`, with the counts
that give room for more: the page table has `2 + k` rows, `sys_schema` `6 + k`; the self-row of the page
table still reads `(sys_pages, 4096)`; every user table is a single leaf -/
structure Grown (sch : Levels) (db : Engine.DB) (sdb : Spec.SDB) (pt : Levels) (tbls : List (Bytes × Levels))
    (k : Nat) : Prop where
  ck : Ckpt sch db sdb pt tbls
  ns : NoStale sch tbls
  ptc : (cells pt).length = 2 + k
  schc : (cells sch).length = 6 + k
  nf : db.store.hdr.nextFree ≤ 12288 + 1048576 * k
  self : (sysPages, 4096) ∈ ptEntries pt
  leaf : ∀ e ∈ tbls, e.2.inner = [] ∧ e.2.leaves.length = 1

theorem grown_newDB : Grown schNew newDB [] ptNew [] 0 where
  ck := ckpt_newDB
  ns := noStale_new
  ptc := by decide
  schc := by decide
  nf := by decide
  self := by rw [ptNew_entries]; exact List.mem_cons_self
  leaf := fun e he => by cases he

theorem acols_fields : checkFieldsFrom [] (acols.map Engine.colTypeToField) = none := by decide

theorem Grown.create {sch : Levels} {db : Engine.DB} {sdb : Spec.SDB} {pt : Levels} {tbls : List (Bytes × Levels)}
    {k : Nat} (h : Grown sch db sdb pt tbls k) (hk : k ≤ 40) (name : Bytes)
    (hfind : Spec.findTable sdb name = none) (hn1 : name ≠ sysPages) (hn2 : name ≠ sysSchema)
    (hchk : checkCatalogRows (acols.map Engine.colTypeToField) name = none) :
    CreateRoom db sch acols ∧
    ∃ db' pt' sch' tbls', evalStmt db [] (.createTable name acols) = .ok () db' ∧
      Grown sch' db' (sdb ++ [⟨name, acols.map Spec.colField, []⟩]) pt' tbls' (k + 1) := by
  obtain ⟨_, habs, _⟩ := h.ck.abs
  have h64 := treeFuel_eq
  have hsf : scanFuel = 100000 := rfl
  have hroom : CreateRoom db sch acols := by
    intro pt2 tbls2 hc2
    have e : pt2 = pt := hc2.pt_unique habs.cat
    subst e
    obtain ⟨_, hIpt, _, _, _⟩ := hc2.tree pt2 Cat.pt_mem
    obtain ⟨_, hIsch, _, _, _⟩ := hc2.tree sch Cat.sch_mem
    obtain ⟨a1, a2⟩ := tree_fuel hIpt (Nat.le_of_eq h.ptc)
    obtain ⟨b1, b2⟩ := tree_fuel hIsch (Nat.le_of_eq h.schc)
    have hnf := h.nf
    have hl : acols.length = 1 := rfl
    refine ⟨by omega, by omega, by omega, by omega, by omega⟩
  refine ⟨hroom, ?_⟩
  obtain ⟨r1, r2, r3, r4, r5⟩ := hroom pt tbls habs.cat
  obtain ⟨db', pt', sch', tbls', e, _, hk', hns', hsub, c1, c2, hs, hnf'⟩ :=
    h.ck.createTable_ok h.ns name acols [] hfind hn1 hn2 acols_fields hchk r1 r2 r3 r4 r5
  refine ⟨db', pt', sch', tbls', e, hk', hns', by rw [c1, h.ptc]; omega, by rw [c2, h.schc]; rfl, ?_, hs _ h.self, ?_⟩
  · have hnf0 := h.nf
    have hl : acols.length = 1 := rfl
    rw [hl] at hnf'
    have h1 : db'.store.hdr.nextFree ≤ db.store.hdr.nextFree + 1048576 := by omega
    have h2 : 12288 + 1048576 * (k + 1) = 12288 + 1048576 * k + 1048576 := by rw [Nat.mul_succ, Nat.add_assoc]
    rw [h2]
    exact Nat.le_trans h1 (Nat.add_le_add_right hnf0 _)
  · intro e he
    obtain ⟨e0, he0, rfl⟩ := List.mem_map.mp (hsub e he)
    simp only [clean_inner, clean_leaves, List.length_map, List.map_eq_nil_iff]
    rcases List.mem_append.mp he0 with h1 | h1
    · exact h.leaf e0 h1
    · simp only [List.mem_singleton] at h1
      subst h1
      exact ⟨rfl, rfl⟩

theorem create_many : ∀ (names : List Bytes) {sch : Levels} {db : Engine.DB} {sdb : Spec.SDB} {pt : Levels}
    {tbls : List (Bytes × Levels)} {k : Nat}, HistCT schNew newDB [] sch db sdb → Grown sch db sdb pt tbls k →
    k + names.length ≤ 40 → createsOK sdb names = true →
    ∃ db' sch' pt' tbls', runCreates db names = some db' ∧
      HistCT schNew newDB [] sch' db' (sdb ++ sdbOf names) ∧
      Grown sch' db' (sdb ++ sdbOf names) pt' tbls' (k + names.length)
  | [], sch, db, sdb, pt, tbls, k, hist, h, _, _ => by
    refine ⟨db, sch, pt, tbls, rfl, ?_, ?_⟩
    · simp only [sdbOf, List.map_nil, List.append_nil]; exact hist
    · simp only [sdbOf, List.map_nil, List.append_nil, List.length_nil, Nat.add_zero]; exact h
  | n :: rest, sch, db, sdb, pt, tbls, k, hist, h, hk, hok => by
    simp only [createsOK, Bool.and_eq_true, Option.isNone_iff_eq_none, bne_iff_ne, ne_eq] at hok
    obtain ⟨⟨⟨⟨hfind, hn1⟩, hn2⟩, hchk⟩, hrest⟩ := hok
    simp only [List.length_cons] at hk
    obtain ⟨hroom, db1, pt1, sch1, tbls1, e1, h1⟩ := h.create (by omega) n hfind hn1 hn2 hchk
    obtain ⟨_, habs1, _⟩ := h1.ck.abs
    have hist1 : HistCT schNew newDB [] sch1 db1 (sdb ++ [⟨n, acols.map Spec.colField, []⟩]) :=
      .create hist n acols [] hfind hn1 hn2 acols_fields hchk hroom e1 habs1.cat
    obtain ⟨db', sch', pt', tbls', e2, hist2, h2⟩ := create_many rest hist1 h1 (by omega) hrest
    have hs : sdb ++ sdbOf (n :: rest) = sdb ++ [⟨n, acols.map Spec.colField, []⟩] ++ sdbOf rest := by
      simp only [sdbOf, List.map_cons, List.append_assoc, List.singleton_append]
    refine ⟨db', sch', pt', tbls', ?_, by rw [hs]; exact hist2, ?_⟩
    · simp only [runCreates, e1]
      exact e2
    · rw [hs]
      have : k + (n :: rest).length = k + 1 + rest.length := by simp only [List.length_cons]; omega
      rw [this]
      exact h2

end Mkdb.Store
end

section
/-!
The witness: a database whose page table has split.

`CREATE DATABASE`; `CREATE TABLE t1 (a INT)` … `CREATE TABLE t8 (a INT)` - run by the model (`db8`, a closed
term evaluated by the kernel).  With the seventh table the page table's root leaf splits: the header's
`ptRoot` moves from 4096 to 53248, the row `(sys_pages, 4096)` stays (`db8_stale`): `PtSelfRoot` is FALSE
of this database, `PtSelf` is true, and `Ckpt` holds (`eight_tables`).

Then `INSERT INTO t1 VALUES (1), …, (9)`: the ninth row splits the root leaf of `t1` (page 12288), the
root moves, and the statement logs the re-pointing of the catalog row of `t1` - an UPDATE record for page
4096, the very page the stale self-row names and lives on (`db9_log`).  Crash; the whole log is replayed
on the store before the statement (`crash_recovery_ckpt`) and by start-up recovery (`Engine.recover`):
both succeed, and the recovered store abstracts to the plain database with the nine rows
(`split_page_table_crash`).  Replay re-points the row whose offset is the old root 12288: the row of
`t1`, not the self-row - which is what `entry_of_root` needs `PtSelf` for.
-/
set_option autoImplicit false
namespace Mkdb.Store
open Mkdb.Page Mkdb.Tuple Mkdb.Generated Mkdb.Tree Mkdb.Engine

/-- `t1`, …, `t8` -/
def names8 : List Bytes := [[116, 49], [116, 50], [116, 51], [116, 52], [116, 53], [116, 54], [116, 55], [116, 56]]

theorem names8_ok : createsOK [] names8 = true := by decide +kernel

/-- the database after `CREATE DATABASE; CREATE TABLE t1 (a INT); …; CREATE TABLE t8 (a INT)` -/
def db8 : Engine.DB := (runCreates newDB names8).getD newDB

/-- the plain database: eight empty tables -/
def sdb8 : Spec.SDB := sdbOf names8

theorem eight_tables : ∃ sch8 pt8 tbls8, runCreates newDB names8 = some db8 ∧
    HistCT schNew newDB [] sch8 db8 sdb8 ∧ Grown sch8 db8 sdb8 pt8 tbls8 8 := by
  obtain ⟨db', sch', pt', tbls', e, hist, hg⟩ := create_many names8 .nil grown_newDB (by decide) names8_ok
  have hdb : db8 = db' := by unfold db8; rw [e]; rfl
  rw [hdb]
  exact ⟨sch', pt', tbls', e, hist, hg⟩

def rows9 : List (List Val) :=
  [[.int 1], [.int 2], [.int 3], [.int 4], [.int 5], [.int 6], [.int 7], [.int 8], [.int 9]]

/-- the plain database after `INSERT INTO t1 VALUES (1), …, (9)` -/
def sdb9 : Spec.SDB :=
  ⟨[116, 49], acols.map Spec.colField, rows9.map fun r => ⟨none, r⟩⟩ :: sdbOf (names8.drop 1)

theorem spec9 : Spec.specInsert sdb8 [116, 49] [] rows9 = some sdb9 := rfl

theorem valid9 : ∀ r ∈ rows9, ∀ v ∈ r, ValidVal v := by decide

/-- the database after the INSERT (closed term) -/
def db9 : Engine.DB :=
  match Engine.evalInsert db8 [116, 49] [] rows9 with
  | .ok _ d => d
  | _ => db8

/-- What is read off the two closed terms, by ONE kernel evaluation of the model (the eight CREATE
TABLEs are the dear part, and each separate `decide` would run them again).  The header's catalog root
after the eight CREATE TABLEs: the page table's root is not its first page.  The INSERT succeeds and
`db9` is what it returns (as an equation: `db9` is a `match` on the run, and unfolding it anywhere else would
make the kernel run the eight CREATE TABLEs again to find the branch).  The log of the INSERT: nine INSERT
records for page 12288, the root leaf of `t1`, then - the ninth row split that leaf and the root moved - the UPDATE record of the re-pointed catalog row, for page 4096: the first page of the
page table, which the stale self-row names. -/
theorem db8_db9_eval : db8.store.hdr.ptRoot = 53248 ∧ db8.store.hdr.nextFree = 65536 ∧ db8.wal = [] ∧
    Engine.evalInsert db8 [116, 49] [] rows9 = .ok 9 db9 ∧
    db9.wal.map (fun r => (r.op, r.page)) =
    [(c_OpInsert, 12288), (c_OpInsert, 12288), (c_OpInsert, 12288), (c_OpInsert, 12288), (c_OpInsert, 12288),
     (c_OpInsert, 12288), (c_OpInsert, 12288), (c_OpInsert, 12288), (c_OpInsert, 12288), (c_OpUpdate, 4096)] := by
  decide +kernel

theorem db8_ptRoot : db8.store.hdr.ptRoot = 53248 := db8_db9_eval.1

theorem db8_nextFree : db8.store.hdr.nextFree = 65536 := db8_db9_eval.2.1

theorem db8_wal : db8.wal = [] := db8_db9_eval.2.2.1

theorem db9_log : db9.wal.map (fun r => (r.op, r.page)) =
    [(c_OpInsert, 12288), (c_OpInsert, 12288), (c_OpInsert, 12288), (c_OpInsert, 12288), (c_OpInsert, 12288),
     (c_OpInsert, 12288), (c_OpInsert, 12288), (c_OpInsert, 12288), (c_OpInsert, 12288), (c_OpUpdate, 4096)] :=
  db8_db9_eval.2.2.2.2

theorem db9_eval : Engine.evalInsert db8 [116, 49] [] rows9 = .ok 9 db9 := db8_db9_eval.2.2.2.1

/-- The self-row is stale: the page table of `db8` - whatever tree describes it - has the entry
`(sys_pages, 4096)` and its root is page 53248. -/
theorem db8_stale {sch8 pt8 : Levels} {tbls8 : List (Bytes × Levels)} (hg : Grown sch8 db8 sdb8 pt8 tbls8 8) :
    (sysPages, 4096) ∈ ptEntries pt8 ∧ rootOff pt8 = 53248 ∧ ¬ PtSelfRoot pt8 ∧ PtSelf pt8 := by
  obtain ⟨_, habs, _⟩ := hg.ck.abs
  have hroot : rootOff pt8 = 53248 := by rw [habs.cat.root, db8_ptRoot]
  refine ⟨hg.self, hroot, ?_, hg.ck.self⟩
  intro h
  have := h 4096 hg.self
  rw [hroot] at this
  exact absurd this (by decide)

theorem split_page_table_crash : ∃ sch8 pt8 tbls8,
    runCreates newDB names8 = some db8 ∧ Ckpt sch8 db8 sdb8 pt8 tbls8 ∧ ¬ PtSelfRoot pt8 ∧
    SpecRun sch8 db8 sdb8 [.insert [116, 49] [] rows9] db9 sdb9 ∧
    (∃ ptN tblsN rN, replayAll db9.wal db8.store = (rN, none, false) ∧
      AbsV db9.store ptN sch8 tblsN sdb9 ∧ AbsV rN ptN sch8 tblsN sdb9 ∧
      rN.hdr.nextFree = db9.store.hdr.nextFree ∧ rN.hdr.lastKey = db9.store.hdr.lastKey ∧
      rN.hdr.ptRoot = db9.store.hdr.ptRoot) ∧
    (∃ dbR ptR tblsR, Engine.recover db9 [] [] = .ok dbR ∧ dbR.wal = db9.wal ∧
      Ckpt sch8 dbR sdb9 ptR tblsR) := by
  obtain ⟨sch8, pt8, tbls8, erun, _, hg⟩ := eight_tables
  obtain ⟨_, habs, _⟩ := hg.ck.abs
  have hroom : ∀ t schema', (([116, 49] : Bytes), t) ∈ tbls8 →
      InsRunOK schema' (([] : List Bytes).map Engine.bytesToName) t db8.store.hdr.lastKey db8.store.hdr.nextLSN
        db8.store.hdr.nextFree rows9 := by
    intro t schema' ht
    obtain ⟨l1, l2⟩ := hg.leaf _ ht
    have h64 := treeFuel_eq
    have hsf : scanFuel = 100000 := rfl
    have h9 : rows9.length = 9 := rfl
    simp only at l1 l2
    exact insRunOK_of_room schema' _ rows9 t _ _ _ (by rw [l1, h9, h64]; decide) (by rw [l2, h9, hsf]; decide)
      (by rw [h9, db8_nextFree]; decide)
  have run : SpecRun sch8 db8 sdb8 [.insert [116, 49] [] rows9] db9 sdb9 :=
    .insert [116, 49] [] rows9 valid9 spec9
      (by
        intro pt tbls t schema' hA ht _
        obtain ⟨_, habs', _⟩ := hA
        exact hroom t schema' (habs'.cat.tbls_sub habs.cat _ ht))
      db9_eval (.nil db9 sdb9)
  refine ⟨sch8, pt8, tbls8, erun, hg.ck, (db8_stale hg).2.2.1, run, ?_, ?_⟩
  · obtain ⟨ptN, tblsN, rN, e, a1, a2, _, a3, a4, a5, _⟩ := crash_recovery_ckpt sch8 run pt8 tbls8 hg.ck.abs
      hg.ck.self hg.ck.fresh hg.ck.applied (fun r hr => Nat.le_of_lt (hg.ck.lsn r hr)) hg.ck.keys
    exact ⟨ptN, tblsN, rN, e, a1, a2, a3, a4, a5⟩
  · exact hg.ck.recover_round run [] []

end Mkdb.Store
end
