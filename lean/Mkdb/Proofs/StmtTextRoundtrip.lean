import Mkdb.Proofs.RoundtripRange
import Mkdb.Proofs.ScanTextLayout
import Mkdb.Proofs.StmtTextCovered
/-!
Statements as SQL text: scanner and parser composed; the statement round trip through text.
-/

section
/-!
## Keywords versus identifiers; scanner and parser composed

`parseSQL_renderText`: parsing the text of a token list is parsing the token list - the scanner round
trip (`scanSQL_renderText`) composed with the fact that the parser reads no keyword text
(`parseTokens_textSim`).
-/
namespace Mkdb.Scan
open Mkdb.Generated

theorem word_tok_ident_iff (rs : Input) :
    (Piece.word rs).tok.ty = t_IDENT ↔ keywordOf (upperCodes rs) = none := by
  simp only [Piece.tok]
  cases hk : keywordOf (upperCodes rs) with
  | none => simp
  | some k =>
    simp only [reduceCtorEq, iff_false]
    exact keywordOf_ne_ident hk

theorem word_tok_kw (rs : Input) (codes : List Nat) (k : Int) (hk : (codes, k) ∈ kwTable)
    (hup : upperCodes rs = codes) : (Piece.word rs).tok = ⟨k, textOf rs⟩ := by
  have := keywordOf_table _ hk
  simp only [] at this
  simp only [Piece.tok, hup, this]

theorem scanSQL_piece (p : Piece) (hp : p.ok = true) : scanSQL p.runes = .ok [p.tok] := by
  have h := scanSQL_items [([], p)] [] (by simp [ItemsOK, Gap.ok, hp, renderItems, Gap.runes, HeadP])
  simpa [renderItems, Gap.runes] using h

end Mkdb.Scan

namespace Mkdb.Sql
open Mkdb.Scan Mkdb.Generated

theorem textual_eq_textualTy (ty : Int) : textual ty = textualTy ty := rfl

theorem scanned_sim (cs : Nat → List Bool) (toks : List Token) (htoks : ∀ t ∈ toks, TokOK t = true) :
    ∀ i, ToksSim toks (scanned cs i toks) := by
  induction toks with
  | nil => intro i; exact .nil
  | cons t ts ih =>
    intro i
    have ht := htoks t (List.mem_cons_self ..)
    obtain ⟨-, hty, htxt⟩ := pieceOf_spec (cs i) t ht
    refine .cons ⟨hty.symm, ?_⟩ (ih (fun t' h' => htoks t' (List.mem_cons_of_mem _ h')) (i + 1))
    intro htx
    rw [scannedTok, htxt htx]

theorem parseSQL_renderText (gap : Nat → Gap) (cs : Nat → List Bool) (toks : List Token)
    (htoks : ∀ t ∈ toks, TokOK t = true) (hlay : layoutOK gap cs 0 toks = true) :
    parseSQL (renderText gap cs toks) = parseTokens toks := by
  unfold parseSQL
  rw [scanSQL_renderText gap cs toks htoks hlay]
  exact (parseTokens_textSim _ _ (scanned_sim cs toks htoks 0)).symm

end Mkdb.Sql
end

section
/-!
## The statement round trip through text

All tokens of a rendered text-writable statement and of its closing semicolons are covered
(`renderStmt_tokOK`, from the walk `all_renderStmt` of `Proofs/RenderAll`), so the scanner's round trip on text (`parseSQL_renderText`) composes with the
token-level round trip (`parseTokens_render`): writing the statement as text and parsing the text gives
the statement back (`parseSQL_renderStmt`).
-/
namespace Mkdb.Sql
open Mkdb.Scan Mkdb.Generated

/-- **Every token of a rendered text-writable statement is covered by the text level**: identifiers are
bare words, strings pass `strBodyOK`, integers are decimal digits, everything else is a token of the
keyword table (whose text `o.kw` is irrelevant: the text level writes the table's spelling in the case
chosen per occurrence). -/
theorem allOK_renderStmt (o : ROpts) (ho : o.lit = stdLitTok) (s : Stmt) (h : TextOK s) :
    (renderStmt o s).all TokOK = true :=
  all_renderStmt (tokP_TokOK o ho) s (stmtTextOK_eq s ▸ h)

/-- the statement's tokens followed by `k` semicolons (no EOF token: the scanner makes none) -/
theorem renderStmt_tokOK (o : ROpts) (ho : o.lit = stdLitTok) (s : Stmt) (h : TextOK s) (k : Nat) :
    ∀ t ∈ renderStmt o s ++ closing o k false, TokOK t = true := by
  intro t ht
  rcases List.mem_append.mp ht with ht | ht
  · exact List.all_eq_true.mp (allOK_renderStmt o ho s h) t ht
  · simp only [closing, Bool.false_eq_true, ↓reduceIte, List.append_nil, List.mem_replicate] at ht
    rw [ht.2]
    exact TokOK_kw _ _ (by decide +kernel)

theorem parseSQL_renderStmt (o : ROpts) (ho : o.lit = stdLitTok) (s : Stmt) (hw : WFStmt s) (ht : TextOK s)
    (k : Nat) (hc : closingOK s k false = true) (gap : Nat → Gap) (cs : Nat → List Bool)
    (hlay : layoutOK gap cs 0 (renderStmt o s ++ closing o k false) = true) :
    parseSQL (renderText gap cs (renderStmt o s ++ closing o k false)) = .ok s := by
  rw [parseSQL_renderText gap cs _ (renderStmt_tokOK o ho s ht k) hlay]
  exact parseTokens_render o stdLit (fun l hl => by rw [ho]; exact stdLitTok_good l hl) s hw k false hc

/-! ## Layout and keyword cases of the examples in `Props/C10Text.lean` -/

/-- nothing before the first token; CR LF and two blanks before every 7th token, a tab before every 5th,
one blank before the others (and at the end) -/
def c10TxGap (i : Nat) : Gap :=
  if i == 0 then [] else if i % 7 == 0 then [.ws 13, .ws 10, .ws 32, .ws 32] else if i % 5 == 0 then [.ws 9] else [.ws 32]

/-- keywords alternating lower/upper letter by letter, all lower case, or all upper case, by position -/
def c10TxCase (i : Nat) : List Bool :=
  if i % 3 == 0 then [true, false, true, false, true, false, true, false]
  else if i % 3 == 1 then [true, true, true, true, true, true, true, true] else []

theorem c10TxGap_ok (i : Nat) : Gap.ok (c10TxGap i) = true := by
  unfold c10TxGap
  split
  · rfl
  · split
    · rfl
    · split <;> rfl

theorem c10TxGap_ne (j : Nat) (h : 0 < j) : c10TxGap j ≠ [] := by
  unfold c10TxGap
  have : (j == 0) = false := by simp only [beq_eq_false_iff_ne]; omega
  simp only [this, Bool.false_eq_true, ↓reduceIte]
  split
  · simp
  · split <;> simp

/-- `SELECT COUNT(*),t.a FROM t WHERE a<=1 GROUP BY t.a;` -/
def c10TxTightStmt : Stmt := .select {
  list := [⟨.count none, []⟩, ⟨.expr (.val (.col ⟨[116], [97]⟩)), []⟩],
  from_ := some (.table ⟨[116], none⟩),
  where_ := some (.pred ⟨.col ⟨[], [97]⟩, t_LTE, .lit (.int 1)⟩),
  groupBy := [⟨[116], [97]⟩] }

/-- the layout of that text: one blank only where two words (or a number and a word) meet -/
def c10TxTight (i : Nat) : Gap := if [1, 9, 10, 11, 12, 15, 16, 17].contains i then [.ws 32] else []

theorem c10Ex_textOK :
    TextOK c10ExSelect ∧ TextOK c10ExInsert ∧ TextOK c10ExCreate ∧ TextOK c10ExUpdate ∧ TextOK c10TxTightStmt := by
  -- `TextOK` computed down to `identOK`, which is the lookup in `kwTable` (`identOK_eq`); the rest by evaluation
  simp only [TextOK, c10ExSelect, c10ExInsert, c10ExCreate, c10ExUpdate, c10TxTightStmt, stmtTextOK, selectTextOK,
    dcTextOK, itemTextOK, condTextOK, predTextOK, veTextOK, colTextOK, optIdentOK, tnTextOK, trTextOK, optCondTextOK,
    List.all_cons, List.all_nil, identOK_eq]
  decide +kernel

end Mkdb.Sql
end
