import Mkdb.Proofs.FlushOrder
/-!
C16, the flush of the code (`flushOrd`): WHEN a history refuses does not depend on the iteration orders
of its flushes.  Which clean pages are resident does depend on them (through the victims of the
evictions), but the set of keys of the DIRTY resident pages is a function of the operations alone
(`dstep`: a read keeps it, a change of page `k` adds `k`, a flush empties it), and a refusal is decided by
that set and the capacity: the cache refuses page `k` iff it holds `cap` dirty pages and `k` is not one
of them.
-/
namespace Mkdb.PageCache

variable {α : Type}

/-- page `k` is resident and dirty -/
def DirtyKey (s : St α) (k : Nat) : Prop := ∃ e ∈ s.items, e.key = k ∧ e.dirty = true

/-- what an operation does to the set of dirty resident keys -/
def dstep (D : Nat → Prop) : Op α → Nat → Prop
  | .fetch _ => D
  | .write k _ => fun j => D j ∨ j = k
  | .flush => fun _ => False

theorem dstep_congr {D1 D2 : Nat → Prop} (h : ∀ j, D1 j ↔ D2 j) (op : Op α) (j : Nat) :
    dstep D1 op j ↔ dstep D2 op j := by
  cases op with
  | fetch k => exact h j
  | write k f => simp only [dstep, h j]
  | flush => exact Iff.rfl

/-! ### the dirty keys across one operation -/

theorem insertNew_dirtyKey {s s1 : St α} {e : Ent α} (hd : e.dirty = false)
    (hi : insertNew s e = some s1) : s1.cap = s.cap ∧ ∀ j, DirtyKey s1 j ↔ DirtyKey s j := by
  rw [insertNew_eq] at hi
  obtain ⟨l, hl, rfl⟩ := Option.map_eq_some_iff.mp hi
  obtain ⟨t, rfl, hsub, hkept, _⟩ := Recency.insert_some hl
  refine ⟨rfl, fun j => ⟨fun ⟨x, hx, hk, hdx⟩ => ?_,
    fun ⟨x, hx, hk, hdx⟩ => ⟨x, List.mem_cons_of_mem _ (hkept x hx hdx), hk, hdx⟩⟩⟩
  rcases List.mem_cons.mp hx with rfl | hx'
  · rw [hd] at hdx; cases hdx
  · exact ⟨x, hsub.subset hx', hk, hdx⟩

theorem fetch_dirtyKey {s s1 : St α} {k : Nat} {v : α} (h : Inv s) (hf : fetch s k = some (s1, v)) :
    s1.cap = s.cap ∧ (∀ j, DirtyKey s1 j ↔ DirtyKey s j) ∧ ∃ e ∈ s1.items, e.key = k := by
  unfold fetch at hf
  cases hfk : find? s.items k with
  | some e =>
    simp only [hfk, Option.some.injEq, Prod.mk.injEq] at hf
    obtain ⟨rfl, _⟩ := hf
    -- a hit only changes the order
    have hp := Recency.perm_cons_remove h.1 hfk
    exact ⟨rfl, fun j => ⟨fun ⟨x, hx, hk, hdx⟩ => ⟨x, hp.mem_iff.mpr hx, hk, hdx⟩,
      fun ⟨x, hx, hk, hdx⟩ => ⟨x, hp.mem_iff.mp hx, hk, hdx⟩⟩, e, List.mem_cons_self, (Recency.find?_some hfk).2⟩
  | none =>
    simp only [hfk] at hf
    cases hi : insertNew s ⟨k, s.disk k, false⟩ with
    | none => simp [hi] at hf
    | some s' =>
      simp only [hi, Option.some.injEq, Prod.mk.injEq] at hf
      obtain ⟨rfl, _⟩ := hf
      obtain ⟨hc, hD⟩ := insertNew_dirtyKey rfl hi
      refine ⟨hc, hD, ?_⟩
      obtain ⟨t, _, _, rfl⟩ := insertNew_some h.2.1 hi
      exact ⟨_, List.mem_cons_self, rfl⟩

theorem write_dirtyKey {s s' : St α} {k : Nat} {f : α → α} (h : Inv s) (hw : write s k f = some s') :
    s'.cap = s.cap ∧ ∀ j, DirtyKey s' j ↔ (DirtyKey s j ∨ j = k) := by
  unfold write at hw
  cases hf : fetch s k with
  | none => simp [hf] at hw
  | some r =>
    obtain ⟨s1, v⟩ := r
    simp only [hf, Option.some.injEq] at hw
    obtain ⟨hc, hD, e0, he0, hk0⟩ := fetch_dirtyKey h hf
    subst hw
    refine ⟨hc, fun j => ?_⟩
    rw [← hD j]
    show (∃ e ∈ s1.items.map (upd k f), e.key = j ∧ e.dirty = true) ↔ _
    constructor
    · rintro ⟨x, hx, hk, hdx⟩
      obtain ⟨y, hy, rfl⟩ := List.mem_map.mp hx
      rw [upd_key] at hk
      exact ((upd_dirty k f y).mp hdx).imp (fun hd => ⟨y, hy, hk, hd⟩) fun hyk => hk.symm.trans hyk
    · rintro (⟨y, hy, hk, hdy⟩ | rfl)
      · exact ⟨upd k f y, List.mem_map_of_mem hy, (upd_key k f y).trans hk, (upd_dirty k f y).mpr (.inl hdy)⟩
      · exact ⟨upd j f e0, List.mem_map_of_mem he0, (upd_key j f e0).trans hk0, (upd_dirty j f e0).mpr (.inr hk0)⟩

theorem stepF_dirtyKey {s s' : St α} {op : OpF α} {o : Option α} (h : Inv s)
    (hs : stepF s op = some (s', o)) :
    s'.cap = s.cap ∧ ∀ j, DirtyKey s' j ↔ dstep (DirtyKey s) op.toOp j := by
  cases op with
  | fetch k =>
    simp only [stepF, Option.map_eq_some_iff, Prod.mk.injEq] at hs
    obtain ⟨⟨s1, v⟩, hf, rfl, _⟩ := hs
    obtain ⟨hc, hD, _⟩ := fetch_dirtyKey h hf
    exact ⟨hc, hD⟩
  | write k f =>
    simp only [stepF, Option.map_eq_some_iff, Prod.mk.injEq] at hs
    obtain ⟨s1, hw, rfl, _⟩ := hs
    exact write_dirtyKey h hw
  | flushOrd order =>
    simp only [stepF, Option.some.injEq, Prod.mk.injEq] at hs
    obtain ⟨rfl, _⟩ := hs
    refine ⟨rfl, fun j => ?_⟩
    constructor
    · rintro ⟨e, he, _, hd⟩
      rw [flushOrd_all_clean s h.1 order e he] at hd
      cases hd
    · intro hF
      exact hF.elim

/-! ### the refusal is decided by the capacity and the dirty keys -/

theorem full_of_dirty_transfer {s1 s2 : St α} (h1 : Inv s1) (h2 : Inv s2) (hc : s1.cap = s2.cap)
    (hD : ∀ j, DirtyKey s1 j ↔ DirtyKey s2 j) {k : Nat}
    (hr : find? s1.items k = none ∧ s1.items.length = s1.cap ∧ ∀ e ∈ s1.items, e.dirty = true) :
    find? s2.items k = none ∧ s2.items.length = s2.cap ∧ ∀ e ∈ s2.items, e.dirty = true := by
  obtain ⟨hnone, hlen, hall⟩ := hr
  have hsub : s1.items.map (·.key) ⊆ (s2.items.filter fun e => e.dirty).map (·.key) := by
    intro j hj
    obtain ⟨e, he, rfl⟩ := List.mem_map.mp hj
    obtain ⟨e2, he2, hk2, hd2⟩ := (hD e.key).mp ⟨e, he, rfl, hall e he⟩
    exact List.mem_map.mpr ⟨e2, List.mem_filter.mpr ⟨he2, hd2⟩, hk2⟩
  have hle := h1.1.length_le_of_subset hsub
  simp only [List.length_map] at hle
  have hfl : (s2.items.filter fun e => e.dirty).length ≤ s2.items.length := List.length_filter_le _ _
  have h2len := h2.2.1
  have hfeq : (s2.items.filter fun e => e.dirty).length = s2.items.length := by omega
  have hall2 : ∀ e ∈ s2.items, e.dirty = true := List.length_filter_eq_length_iff.mp hfeq
  refine ⟨?_, by omega, hall2⟩
  apply Recency.find?_eq_none.mpr
  intro e he hek
  obtain ⟨e1, he1, hk1, _⟩ := (hD k).mpr ⟨e, he, hek, hall2 e he⟩
  exact Recency.find?_eq_none.mp hnone e1 he1 hk1

theorem stepF_none_transfer {s1 s2 : St α} (h1 : Inv s1) (h2 : Inv s2) (hc : s1.cap = s2.cap)
    (hD : ∀ j, DirtyKey s1 j ↔ DirtyKey s2 j) {op1 op2 : OpF α} (hop : op1.toOp = op2.toOp)
    (hn : stepF s1 op1 = none) : stepF s2 op2 = none := by
  obtain ⟨k, hk, hr⟩ := (stepF_none_iff s1 op1).mp hn
  refine (stepF_none_iff s2 op2).mpr ⟨k, ?_, full_of_dirty_transfer h1 h2 hc hD hr⟩
  rcases hk with rfl | ⟨f, rfl⟩
  · cases op2 with
    | fetch k' => simp only [OpF.toOp, Op.fetch.injEq] at hop; exact .inl (by rw [hop])
    | write k' f' => cases hop
    | flushOrd o => cases hop
  · cases op2 with
    | fetch k' => cases hop
    | write k' f' => simp only [OpF.toOp, Op.write.injEq] at hop; exact .inr ⟨f', by rw [hop.1]⟩
    | flushOrd o => cases hop

theorem runF_none_transfer (ops1 ops2 : List (OpF α)) (hops : ops1.map OpF.toOp = ops2.map OpF.toOp)
    (s1 s2 : St α) (h1 : Inv s1) (h2 : Inv s2) (hc : s1.cap = s2.cap)
    (hD : ∀ j, DirtyKey s1 j ↔ DirtyKey s2 j) (hn : runF s1 ops1 = none) : runF s2 ops2 = none := by
  induction ops1 generalizing ops2 s1 s2 with
  | nil => simp [runF] at hn
  | cons op1 rest1 ih =>
    cases ops2 with
    | nil => simp at hops
    | cons op2 rest2 =>
      simp only [List.map_cons, List.cons.injEq] at hops
      obtain ⟨hop, hrest⟩ := hops
      simp only [runF]
      cases hs1 : stepF s1 op1 with
      | none => rw [stepF_none_transfer h1 h2 hc hD hop hs1]
      | some r1 =>
        obtain ⟨s1', o1⟩ := r1
        cases hs2 : stepF s2 op2 with
        | none => rfl
        | some r2 =>
          obtain ⟨s2', o2⟩ := r2
          have hn1 : runF s1' rest1 = none := by
            simp only [runF, hs1] at hn
            cases hr : runF s1' rest1 with
            | none => rfl
            | some r => simp [hr] at hn
          obtain ⟨hc1, hD1⟩ := stepF_dirtyKey h1 hs1
          obtain ⟨hc2, hD2⟩ := stepF_dirtyKey h2 hs2
          have hD' : ∀ j, DirtyKey s1' j ↔ DirtyKey s2' j := fun j =>
            (hD1 j).trans (((dstep_congr hD op1.toOp j).trans (by rw [hop])).trans (hD2 j).symm)
          have := ih rest2 hrest s1' s2' (stepF_sim s1 op1 h1 s1' o1 hs1).1
            (stepF_sim s2 op2 h2 s2' o2 hs2).1 (by omega) hD' hn1
          simp only [this]

theorem runF_none_iff_of_same_dirty (s1 s2 : St α) (ops1 ops2 : List (OpF α))
    (hops : ops1.map OpF.toOp = ops2.map OpF.toOp) (h1 : Inv s1) (h2 : Inv s2) (hc : s1.cap = s2.cap)
    (hD : ∀ j, DirtyKey s1 j ↔ DirtyKey s2 j) : runF s1 ops1 = none ↔ runF s2 ops2 = none :=
  ⟨runF_none_transfer ops1 ops2 hops s1 s2 h1 h2 hc hD,
    runF_none_transfer ops2 ops1 hops.symm s2 s1 h2 h1 hc.symm fun j => (hD j).symm⟩

theorem map_take_toOp (ops : List (OpF α)) (n : Nat) :
    (ops.take n).map OpF.toOp = (ops.map OpF.toOp).take n := List.map_take

/-! ### the dirty keys after a history: a function of the operations -/

/-- the set of dirty resident keys after the operations `ops`, from the set `D` -/
def drun (D : Nat → Prop) : List (Op α) → Nat → Prop
  | [] => D
  | op :: rest => drun (dstep D op) rest

theorem drun_congr {D1 D2 : Nat → Prop} (h : ∀ j, D1 j ↔ D2 j) (ops : List (Op α)) (j : Nat) :
    drun D1 ops j ↔ drun D2 ops j := by
  induction ops generalizing D1 D2 with
  | nil => exact h j
  | cons op rest ih => exact ih (dstep_congr h op)

theorem runF_dirtyKey (s : St α) (ops : List (OpF α)) (h : Inv s) (s' : St α) (outs : List (Option α))
    (hr : runF s ops = some (s', outs)) :
    s'.cap = s.cap ∧ ∀ j, DirtyKey s' j ↔ drun (DirtyKey s) (ops.map OpF.toOp) j := by
  induction ops generalizing s outs with
  | nil =>
    simp only [runF, Option.some.injEq, Prod.mk.injEq] at hr
    obtain ⟨rfl, _⟩ := hr
    exact ⟨rfl, fun _ => Iff.rfl⟩
  | cons op rest ih =>
    obtain ⟨s1, o, os, hs, hr1, _⟩ := runF_cons_some hr
    obtain ⟨hc1, hD1⟩ := stepF_dirtyKey h hs
    obtain ⟨hc2, hD2⟩ := ih s1 (stepF_sim s op h s1 o hs).1 os hr1
    refine ⟨hc2.trans hc1, fun j => (hD2 j).trans ?_⟩
    simp only [List.map_cons, drun]
    exact drun_congr hD1 _ j

/-! ### non-vacuity: the two orders on the capacity-2 cache, then two changes and a third -/

namespace ExampleF

/-- flush in the one and in the other order, read 3 (the victims differ), change 1 and 2 (a miss and a hit
in the one run, a hit and a miss in the other), change 4: the cache holds the dirty 1 and 2 -/
def xA : List (OpF Nat) := [.flushOrd [1, 2], .fetch 3, .write 1 (· + 1), .write 2 (· + 1), .write 4 (· + 1)]
def xB : List (OpF Nat) := [.flushOrd [2, 1], .fetch 3, .write 1 (· + 1), .write 2 (· + 1), .write 4 (· + 1)]

theorem same_ops_x : xA.map OpF.toOp = xB.map OpF.toOp := rfl

/-- both refuse, at the last operation and not before; after two operations the recency lists differ -/
theorem refusals :
    (runF d0 xA).isNone = true ∧ (runF d0 xB).isNone = true ∧
    (runF d0 (xA.take 4)).isSome = true ∧ (runF d0 (xB.take 4)).isSome = true ∧
    obsF (runF d0 (xA.take 2)) = some ([(3, 30, false), (2, 21, false)], [none, some 30]) ∧
    obsF (runF d0 (xB.take 2)) = some ([(3, 30, false), (1, 11, false)], [none, some 30]) :=
  ⟨by decide, by decide, by decide, by decide, by decide, by decide⟩

/-- the two caches after the first two operations of `xA` and of `xB`: capacity 2, nothing dirty, pages
3 and 2 resident in the one, 3 and 1 in the other -/
def tA : St Nat := { cap := 2, items := [⟨3, 30, false⟩, ⟨2, 21, false⟩], disk := (flush d0).disk }
def tB : St Nat := { cap := 2, items := [⟨3, 30, false⟩, ⟨1, 11, false⟩], disk := (flush d0).disk }

theorem tA_inv : Inv tA := by unfold Inv; decide

theorem tB_inv : Inv tB := by unfold Inv; decide

theorem tA_tB_dirty (k : Nat) : DirtyKey tA k ↔ DirtyKey tB k := by
  constructor <;>
  · rintro ⟨e, he, _, hd⟩
    simp only [tA, tB, List.mem_cons, List.not_mem_nil, or_false] at he
    rcases he with rfl | rfl <;> cases hd

theorem tA_tB_are_the_runs :
    (runF d0 (xA.take 2)).map (fun r => ents r.1) = some (ents tA) ∧
    (runF d0 (xB.take 2)).map (fun r => ents r.1) = some (ents tB) := ⟨by decide, by decide⟩

end ExampleF

end Mkdb.PageCache
