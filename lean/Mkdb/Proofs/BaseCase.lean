import Mkdb.Proofs.BaseCaseStore
import Mkdb.Proofs.CkptInvariant
import Mkdb.Proofs.SpecHistory
/-!
# The base case: the invariants hold of the database `CREATE DATABASE` produces

`BaseCaseStore` computes the store `Store.createDB` (the model of `storage.CreateDB`) leaves and defines `newDB`.
Here the invariants of the refinement development and the checkpoint invariant `Ckpt` are shown of `newDB` with NO
user tables and the EMPTY plain database, so that the history theorems start from the output of `createDB`, not from
a store written by hand.  The invariants are decidable (`CkptInvariant`): on the explicit value they are one
evaluation (`newDB_checked`), the named facts its projections.  At the end, `newDB` is compared with the
hand-written stores of the examples (`emptyCatalog`, `st0`, `st1`).
-/
set_option autoImplicit false
namespace Mkdb.Store
open Mkdb.Page Mkdb.Tuple Mkdb.Generated Mkdb.Tree

def ptNew : Levels := ⟨[(ptLeafNew, false)], []⟩
def schNew : Levels := ⟨[(schLeafNew, false)], []⟩

theorem ptNew_entries : ptEntries ptNew = [(sysPages, 4096), (sysSchema, 8192)] := by decide +kernel

theorem newDB_checked : Abs newDB.store ptNew schNew [] [] ∧ PtSelf ptNew ∧ FreshM newDB.store [] ∧
    MemFiled newDB.store ∧ newDB.store.dhdr = newDB.store.hdr ∧ OnDisk newDB.store ptNew schNew [] := by
  decide +kernel

theorem abs_newDB : Abs newDB.store ptNew schNew [] [] := newDB_checked.1

theorem cat_newDB : Cat newDB.store ptNew schNew [] := abs_newDB.cat

theorem absV_newDB : AbsV newDB.store ptNew schNew [] [] := abs_newDB.toV

theorem ptNew_self : PtSelf ptNew := newDB_checked.2.1

theorem freshM_newDB : FreshM newDB.store [] := newDB_checked.2.2.1

theorem memFiled_newDB : MemFiled newDB.store := newDB_checked.2.2.2.1

theorem memFiled_newStore : MemFiled newStore := by decide

theorem ckpt_newDB : Ckpt schNew newDB [] ptNew [] := .of_empty_log rfl newDB_checked

/-- the catalog of a new database describes itself: the columns `sys_schema` lists for `sys_pages` and
for `sys_schema` are the schemas `getRelationFileOffset` / `getRelationSchema` decode them with -/
theorem schNew_describes_catalog :
    schemaOf schNew sysPages = some pageTableSchema ∧ schemaOf schNew sysSchema = some schemaTableSchema := by
  decide +kernel

theorem noStale_new : NoStale schNew [] := .of_check (by decide +kernel)

theorem rel_newDB : Rel newDB ptNew schNew [] [] := ⟨absV_newDB, noStale_new, memFiled_newDB⟩

/-- `runHist_refines_spec` with its hypothesis `Rel` discharged: the history starts from the output of
`createDB` and the empty plain database. -/
theorem from_create_database_history (sts : List Sql.Stmt) (hok : HistOK [] sts newDB []) :
    ∃ db' pt' sch' tbls', runHist [] newDB sts = some db' ∧ Rel db' pt' sch' tbls' (specHist [] sts) :=
  runHist_refines_spec [] sts newDB ptNew schNew [] [] rel_newDB hok

/-- `a INT` -/
def acols : List Sql.ColDef := [⟨[97], .int⟩]

theorem acheck : checkCatalogRows (acols.map Engine.colTypeToField) tname = none := by decide +kernel

theorem spec_create_t : Spec.specStmt [] (.createTable tname acols) = some [⟨tname, [⟨"a", .int, 0⟩], []⟩] := by
  decide +kernel

theorem room_create_t : StmtRoom newDB ptNew schNew [] (.createTable tname acols) := by
  refine ⟨?_, acheck, by decide, by decide, by decide, by decide, by decide⟩
  intro c hc k hk
  simp only [acols, List.mem_singleton] at hc
  subst hc
  cases hk

/-- Non-vacuity of `from_create_database_history`: `CREATE TABLE t (a INT)` on `newDB` is accepted by the
plain model and, with room, by the engine model. -/
theorem create_table_on_newDB :
    Spec.specStmt [] (.createTable tname acols) = some [⟨tname, [⟨"a", .int, 0⟩], []⟩] ∧
    ∃ db' pt' sch' tbls', evalStmt newDB [] (.createTable tname acols) = .ok () db' ∧
      Rel db' pt' sch' tbls' [⟨tname, [⟨"a", .int, 0⟩], []⟩] :=
  ⟨spec_create_t, evalStmt_refines_spec newDB [] ptNew schNew [] [] _ rel_newDB (.createTable tname acols)
    room_create_t spec_create_t⟩

/-! ### comparison with the hand-written stores of the examples

None of the stores the examples of the development are about is the store `CREATE DATABASE` produces:

* `emptyCatalog` (`UnchangedCreate`; C14): one EMPTY leaf at 4096 as the page table, `nextFree = 8192`, no
  `sys_schema` page, no catalog rows, counters 0.  It satisfies `Filed` but not `Cat`
  (`emptyCatalog_not_cat` in `BaseCaseEmptyCatalog`, where the examples are repeated on the real store).
* `st0` (`StmtInsert`), `st1` (`SpecRefine`; `dbA`, `rel1`, `rounds_example`, …): databases WITH the
  user table `t`, so they are to be compared with `tableDB` (`BaseCaseTable`), the database
  `CREATE DATABASE ; CREATE TABLE t (a INT)` leaves.  Their page table has the same entries and, in
  `st1`, the same `sys_schema` row for `t.a`; but `sys_schema` lacks the six rows that describe the
  catalog tables themselves (below), the row ids are 1-4 instead of 1-10, every page LSN is 0 and the
  counter 7 instead of 8 / 9 and 10, and nothing is in the data file (all pages dirty in the cache).
  `Cat`, `Abs`, `Rel`, `PtSelf`, `FreshM` do not see these differences, which is why the examples go
  through; but they are not states of a database the model creates.
-/

theorem newDB_ne_st0_st1 : newDB.store ≠ st0 ∧ newDB.store ≠ st1 := by
  constructor <;> intro h <;> have := congrArg (fun s => s.hdr.nextFree) h <;> revert this <;> decide

theorem handwritten_sch_omits_catalog :
    schemaOf sch0 sysPages = some [] ∧ schemaOf sch0 sysSchema = some [] ∧
    schemaOf sch1 sysPages = some [] ∧ schemaOf sch1 sysSchema = some [] := by decide +kernel

end Mkdb.Store
