import Mkdb.Proofs.SessCrashOps
import Mkdb.Proofs.SessInvHistory
/-!
Sessions and crashes: **the sessions and lists of operations of the examples**, and that they meet the hypotheses
of the theorems (non-vacuity).  The computed examples themselves are in `Props/C17`.  The sessions after CREATE
DATABASE d and after CREATE DATABASE d; USE d are given as terms (`createDatabase_new`, `use_none`: what the two
statements do when they are accepted), so that nothing is evaluated but the validity of the name.
-/
set_option autoImplicit false
namespace Mkdb.Session
open Mkdb.Engine Mkdb.Sql Mkdb.Tree
open Mkdb.Store hiding Stmt

/-- the rows a reader sees in table `t` of the database `n` -/
def rowsOf (s : Sess) (n : String) : Option (List Exec.Row) :=
  (getDB s n).bind fun db => (fetchOfDB db tname).map (·.rows)

/-- the rows a reader sees in table `tb` of the database `n` -/
def rowsOfT (s : Sess) (n : String) (tb : Bytes) : Option (List Exec.Row) :=
  (getDB s n).bind fun db => (fetchOfDB db tb).map (·.rows)

/-- CREATE DATABASE d; USE d; CREATE TABLE t (a INT); INSERT INTO t VALUES (5) -/
def crashHistory : List Stmt :=
  [.createDatabase [100], .use [100], .createTable tname acols, .insert tname [] [[.int 5]]]

def allOk : List Out → Bool
  | [] => true
  | .ok :: rest => allOk rest
  | _ => false

/-- the same history with a last statement refused at its SECOND row: INSERT INTO t VALUES (5), ('x') -/
def ghostHistory : List Stmt :=
  [.createDatabase [100], .use [100], .createTable tname acols, .insert tname [] [[.int 5], [.str [120]]]]

/-- … followed by the accepted UPDATE t SET a = 7 WHERE a = 5 -/
def ghostUpdate : Stmt := .update tname [([97], .lit (.int 7))] (some (condEq 5))

def crashOps : List SOp :=
  [.stmt (.createDatabase [100]), .stmt (.createDatabase [101]), .stmt (.use [100]),
   .stmt (.createTable tname acols), .stmt (.insert tname [] [[.int 5]]), .crash,
   .stmt (.use [101]), .stmt (.createTable tname acols), .restart,
   .stmt (.use [100]), .stmt (.insert tname [] [[.int 6]]), .crash]

/-- the outputs of the statements of a list of operations (`none` if a recovery fails) -/
def outsOps : Sess → List SOp → Option (List Out)
  | _, [] => some []
  | s, .stmt st :: rest => (outsOps (exec s st).1 rest).map ((exec s st).2 :: ·)
  | s, .restart :: rest => (restart s).bind fun s' => outsOps s' rest
  | s, .crash :: rest => (crashRestart s).bind fun s' => outsOps s' rest

/-- the kind of an outcome: 0 accepted, 1 refused, 2 panic, 3 rows -/
def outCode : Out → Nat
  | .ok => 0
  | .err _ => 1
  | .panic => 2
  | .rows _ => 3

/-- INSERT INTO u VALUES (1): there is no table `u` -/
def insUnknown : Stmt := .insert uname [] [[.int 1]]
/-- INSERT INTO t VALUES ('x'): the column `a` of `t` is an INT -/
def insBadValue : Stmt := .insert tname [] [[.str [120]]]

/-- CREATE DATABASE d; USE d; CREATE TABLE t (a INT); INSERT INTO u VALUES (1); INSERT INTO t VALUES ('x');
INSERT INTO t VALUES (5); crash -/
def refusedOps : List SOp :=
  [.stmt (.createDatabase [100]), .stmt (.use [100]), .stmt (.createTable tname acols),
   .stmt insUnknown, .stmt insBadValue, .stmt (.insert tname [] [[.int 5]]), .crash]

/-- CREATE DATABASE d; USE d; CREATE TABLE t (b VARCHAR(5000)); INSERT INTO t VALUES ('xxx…x') - 1100 bytes, more
than a page cell holds: refused INSIDE `btInsert`, after the row-id and LSN counters moved -; INSERT INTO t
VALUES ('x'); crash -/
def oversizedOps : List SOp :=
  [.stmt (.createDatabase [100]), .stmt (.use [100]), .stmt (.createTable tname [⟨[98], .varchar 5000⟩]),
   .stmt (.insert tname [] [[.str (List.replicate 1100 120)]]), .stmt (.insert tname [] [[.str [120]]]), .crash]

/-- the column list `(b VARCHAR(5000))` -/
def vcols : List ColDef := [⟨[98], .varchar 5000⟩]

/-- CREATE DATABASE d; USE d; CREATE TABLE t (b VARCHAR(5000)); INSERT INTO t VALUES ('xx…x') - 1100 bytes, refused
for its size after the counters moved -; crash; USE d; restart -/
def oversizedOps3 : List SOp :=
  [.stmt (.createDatabase [100]), .stmt (.use [100]), .stmt (.createTable tname vcols),
   .stmt (.insert tname [] [[.str (List.replicate 1100 120)]]), .crash, .stmt (.use [100]), .restart]

/-- CREATE DATABASE d; USE d; CREATE TABLE t (a INT); INSERT INTO t VALUES (5); CREATE TABLE u (a INT) - while the
INSERT is logged and not flushed -; crash -/
def createAnywhereOps : List SOp :=
  [.stmt (.createDatabase [100]), .stmt (.use [100]), .stmt (.createTable tname acols),
   .stmt (.insert tname [] [[.int 5]]), .stmt (.createTable uname acols), .crash]

theorem createDatabase_new {s : Sess} {name : Bytes} (hv : validDbName name = true) (hne : name.isEmpty = false)
    (hnone : getDB s (canon name) = none) : exec s (.createDatabase name) = (setDB s (canon name) newDB, .ok) := by
  simp only [exec, hv, hne, hnone, createDB_eq, Bool.not_true, Bool.false_eq_true, if_false, Option.isSome_none]
  rfl

theorem use_none {s : Sess} {name : Bytes} {db : DB} (hv : validDbName name = true) (hne : name.isEmpty = false)
    (hsome : getDB s (canon name) = some db) (hc : s.cur = none) :
    exec s (.use name) = ({ s with cur := some (canon name) }, .ok) := by
  simp only [exec, hv, hne, hsome, hc, Bool.not_true, Bool.false_eq_true, if_false, Option.isNone_some]

theorem valid_d : validDbName [100] = true := by decide +kernel

/-- the session after CREATE DATABASE d -/
def sess1 : Sess := (exec {} (.createDatabase [100])).1

theorem exec_cd : exec {} (.createDatabase [100]) = (setDB {} (canon [100]) newDB, .ok) :=
  createDatabase_new valid_d rfl rfl

theorem exec_use_d : exec (setDB {} (canon [100]) newDB) (.use [100]) =
    ({ setDB {} (canon [100]) newDB with cur := some (canon [100]) }, .ok) :=
  use_none valid_d rfl (getDB_setDB_same _ _ _) rfl

theorem cd_ok : (exec {} (.createDatabase [100])).2 = Out.ok := by rw [exec_cd]

theorem runAll_cons (s : Sess) (st : Stmt) (rest : List Stmt) : runAll s (st :: rest) =
    ((runAll (exec s st).1 rest).1, (exec s st).2 :: (runAll (exec s st).1 rest).2) := rfl

theorem runOps_stmt (s : Sess) (st : Stmt) (rest : List SOp) :
    runOps s (.stmt st :: rest) = runOps (exec s st).1 rest := rfl

theorem outsOps_stmt (s : Sess) (st : Stmt) (rest : List SOp) :
    outsOps s (.stmt st :: rest) = (outsOps (exec s st).1 rest).map ((exec s st).2 :: ·) := rfl

/-- the session after CREATE DATABASE d; USE d; CREATE TABLE t (a INT), as a term -/
def sessDT : Sess := setDB { setDB {} (canon [100]) newDB with cur := some (canon [100]) } (canon [100]) tableDB

theorem exec_ct_d :
    exec { setDB {} (canon [100]) newDB with cur := some (canon [100]) } (.createTable tname acols) = (sessDT, .ok) :=
  exec_routed_ok rfl rfl (getDB_setDB_same {} _ _) create_table_eq

/-- the computed examples begin with CREATE DATABASE d (; USE d; CREATE TABLE t (a INT)) from the empty session: what
they compute starts from the databases `newDB`, `tableDB`, which `createDB_eq` and `create_table_eq` computed once -/
theorem runAll_dt (rest : List Stmt) :
    runAll {} (.createDatabase [100] :: .use [100] :: .createTable tname acols :: rest) =
      ((runAll sessDT rest).1, Out.ok :: Out.ok :: Out.ok :: (runAll sessDT rest).2) := by
  simp only [runAll_cons, exec_cd, exec_use_d, exec_ct_d]

theorem runOps_cd (rest : List SOp) :
    runOps {} (.stmt (.createDatabase [100]) :: rest) = runOps (setDB {} (canon [100]) newDB) rest := by
  rw [runOps_stmt, exec_cd]

theorem outsOps_cd (rest : List SOp) : outsOps {} (.stmt (.createDatabase [100]) :: rest) =
    (outsOps (setDB {} (canon [100]) newDB) rest).map (Out.ok :: ·) := by
  rw [outsOps_stmt, exec_cd]

theorem runOps_dt (rest : List SOp) :
    runOps {} (.stmt (.createDatabase [100]) :: .stmt (.use [100]) :: .stmt (.createTable tname acols) :: rest) =
      runOps sessDT rest := by
  simp only [runOps_stmt, exec_cd, exec_use_d, exec_ct_d]

theorem outsOps_dt (rest : List SOp) :
    outsOps {} (.stmt (.createDatabase [100]) :: .stmt (.use [100]) :: .stmt (.createTable tname acols) :: rest) =
      (outsOps sessDT rest).map (Out.ok :: Out.ok :: Out.ok :: ·) := by
  simp only [outsOps_stmt, exec_cd, exec_use_d, exec_ct_d, Option.map_map]
  rfl

/-- the session after CREATE DATABASE d; CREATE DATABASE e, as a term -/
def sessDE : Sess := setDB (setDB {} (canon [100]) newDB) (canon [101]) newDB

theorem exec_cd_e : exec (setDB {} (canon [100]) newDB) (.createDatabase [101]) = (sessDE, .ok) :=
  createDatabase_new (by decide +kernel) rfl (by decide +kernel)

theorem runOps_de (rest : List SOp) :
    runOps {} (.stmt (.createDatabase [100]) :: .stmt (.createDatabase [101]) :: rest) = runOps sessDE rest := by
  simp only [runOps_stmt, exec_cd, exec_cd_e]

theorem outsOps_de (rest : List SOp) :
    outsOps {} (.stmt (.createDatabase [100]) :: .stmt (.createDatabase [101]) :: rest) =
      (outsOps sessDE rest).map (Out.ok :: Out.ok :: ·) := by
  simp only [outsOps_stmt, exec_cd, exec_cd_e, Option.map_map]
  rfl

/-- in the session after CREATE DATABASE d; USE d - written as the term the list theorems produce, so that nothing
is evaluated where this is used - `d` is selected and is the new database.  (The proofs below rewrite with
equations and never `show` a goal in another form: to compare `worldStep s w st` with `worldStep s' w' st'` the
kernel compares the arguments first, and evaluates the two sessions to do so.) -/
theorem use_d :
    (exec (exec {} (.createDatabase [100])).1 (.use [100])).1.cur = some (canon [100]) ∧
    getDB (exec (exec {} (.createDatabase [100])).1 (.use [100])).1 (canon [100]) = some newDB := by
  simp only [exec_cd, exec_use_d]
  exact ⟨trivial, getDB_setDB_same {} _ _⟩

theorem world1 (w : String → Spec.SDB) : worldStep {} w (.createDatabase [100]) = setW w (canon [100]) [] :=
  cdW_ok cd_ok

theorem room_newDB {sdb : Spec.SDB} (pt sch : Levels) (tbls : List (Bytes × Levels))
    (hi : DbInv newDB sdb pt sch tbls) : StmtRoom newDB pt sch tbls (.createTable tname acols) := by
  obtain ⟨_, habs0, _⟩ := hi.abs
  exact room_create_t.of_cat cat_newDB habs0.cat

/-- **Non-vacuity of `C17_create_table_after_use_keeps_the_crash_invariant`**: CREATE DATABASE d; then USE d; CREATE
TABLE t (a INT). -/
theorem createTable_after_use_example :
    SessCrash' sess1 (setW (fun _ => []) (canon [100]) []) ∧ (exec sess1 (.use [100])).2 = Out.ok ∧
    sess1.cur ≠ some (canon [100]) ∧ getDB (exec sess1 (.use [100])).1 (canon [100]) = some newDB ∧
    (∀ pt sch tbls, DbInv newDB (setW (fun _ => []) (canon [100]) [] (canon [100])) pt sch tbls →
      StmtRoom newDB pt sch tbls (.createTable tname acols)) ∧
    Spec.specStmt (setW (fun _ => []) (canon [100]) [] (canon [100])) (.createTable tname acols) =
      some [⟨tname, [⟨"a", .int, 0⟩], []⟩] := by
  have e1 : sess1 = setDB {} (canon [100]) newDB := congrArg Prod.fst exec_cd
  rw [e1, exec_use_d]
  refine ⟨?_, rfl, (fun hx => by cases hx), getDB_setDB_same {} _ _, fun pt sch tbls hi => room_newDB pt sch tbls hi, ?_⟩
  · have := (createDatabase_crashInv crashLike (crashInv_empty DbCrash (fun _ => []) false) [100]).sessCrash'
    rw [cdW_ok cd_ok, exec_cd] at this
    exact this
  · rw [setW_same]; exact spec_create_t

theorem cleanStep_use_true (s : Sess) (w : String → Spec.SDB) (name : Bytes) :
    cleanStep s w true (.use name) = true := by
  show (match (exec s (.use name)).2 with | .ok => _ | _ => true) = true
  cases (exec s (.use name)).2 <;> simp

/-- **Non-vacuity of `OkOps` from the empty session**: CREATE DATABASE d; USE d; CREATE TABLE t (a INT);
crash; USE d; restart. -/
theorem okOps_example : OkOps {} (fun _ => []) true
    [.stmt (.createDatabase [100]), .stmt (.use [100]), .stmt (.createTable tname acols), .crash,
     .stmt (.use [100]), .restart] := by
  refine ⟨(fun hx => by cases hx), (fun hx => by cases hx), ?_, ?_⟩
  · intro _
    refine .inr ⟨canon [100], newDB, [⟨tname, [⟨"a", .int, 0⟩], []⟩], use_d.1, use_d.2, ?_, ?_, ?_⟩
    · rw [worldStep_use, world1, setW_same]; exact spec_create_t
    · intro pt sch tbls hi; exact room_newDB pt sch tbls hi
    · intro _; exact cleanStep_use_true _ _ _
  · intro s' _
    exact ⟨(fun hx => by cases hx), fun _ _ => trivial⟩

theorem sessCrash_sessT : SessCrash sessT (fun _ => sdbA0) := by
  refine ⟨sessAbs_sessT, fun p hp => ?_⟩
  simp only [sessT, List.mem_singleton] at hp
  subst hp
  exact CkptNS.dbCrash ⟨schT, ptT, _, ckpt_tableDB, noStale_tableDB⟩

theorem room_insert56_tableDB (pt sch : Levels) (tbls : List (Bytes × Levels)) (hi : DbInv tableDB sdbA0 pt sch tbls) :
    StmtRoom tableDB pt sch tbls (.insert tname [] [[.int 5], [.int 6]]) := by
  obtain ⟨_, habs0, _⟩ := hi.abs
  exact room_insert56.of_cat cat_tableDB habs0.cat

/-- **Non-vacuity of `OkOps` with an accepted row statement**, from the session `sessT` (CREATE DATABASE d;
USE d; CREATE TABLE t (a INT)): INSERT INTO t VALUES (5), (6); crash; USE d; restart. -/
theorem okOps_sessT_example : CInv sessT (fun _ => sdbA0) false ∧ OkOps sessT (fun _ => sdbA0) false
    [.stmt (.insert tname [] [[.int 5], [.int 6]]), .crash, .stmt (.use [100]), .restart] := by
  refine ⟨⟨⟨sessCrash_sessT, fun p hp hne => ?_⟩, (fun hx => by cases hx)⟩, ?_, ?_⟩
  · simp only [sessT, List.mem_singleton] at hp
    subst hp
    exact absurd rfl hne
  · intro _
    exact .inr ⟨"d", tableDB, sdbA1, rfl, getDB_sessT, rfl, room_insert56_tableDB, fun hx => by cases hx⟩
  · intro s' _
    exact ⟨(fun hx => by cases hx), fun _ _ => trivial⟩

theorem refusalC_insUnknown {sdb : Spec.SDB} (h : Spec.findTable sdb uname = none) (pt : Levels) :
    StmtRefusalC sdb pt insUnknown :=
  .insert uname [] [.int 1] [] (.inl ⟨h, by rw [sysPages_eq]; decide, by rw [sysSchema_eq]; decide⟩)

theorem refusalC_insBadValue (pt : Levels) : StmtRefusalC sdbA0 pt insBadValue :=
  .insert tname [] [.str [120]] [] (.inr ⟨⟨tname, schemaA, []⟩, rfl, .inl (by decide +kernel)⟩)

/-- **Non-vacuity of `refused_crashInv` and of `OkOps2` with refused statements**, from the session `sessT`
(CREATE DATABASE d; USE d; CREATE TABLE t (a INT)): INSERT INTO u VALUES (1) - no such table -; INSERT INTO t
VALUES ('x') - wrong type, on the database the first refusal left -; crash; USE d; restart. -/
theorem okOps2_sessT_example : CInvL sessT (fun _ => sdbA0) false ∧ OkOps2 sessT (fun _ => sdbA0) false
    [.stmt insUnknown, .stmt insBadValue, .crash, .stmt (.use [100]), .restart] := by
  have hinv : CInvL sessT (fun _ => sdbA0) false := okOps_sessT_example.1.toL
  have hg := getDB_sessT
  obtain ⟨hnone, _, _, db1, hg1, _⟩ := refused_crashInv sameClosedL hinv.crashInv (st := insUnknown)
    ⟨rfl, hg, fun pt _ _ _ => refusalC_insUnknown rfl pt⟩
  have hcur1 : (exec sessT insUnknown).1.cur = some "d" := routed_cur sessT insUnknown rfl
  have hw1 : worldStep sessT (fun _ => sdbA0) insUnknown = fun _ => sdbA0 :=
    (routed_refused_eqs (clean := false) (s := sessT) (w := fun _ => sdbA0) (st := insUnknown) (fun _ _ => hnone)).1
  refine ⟨hinv, (fun _ => .inr ⟨"d", tableDB, rfl, hg, fun pt _ _ _ => refusalC_insUnknown rfl pt⟩), ?_, ?_⟩
  · intro _
    refine .inr ⟨"d", db1, hcur1, hg1, fun pt _ _ _ => ?_⟩
    rw [hw1]
    exact refusalC_insBadValue pt
  · intro s' _
    exact ⟨(fun hx => by cases hx), fun _ _ => trivial⟩

/-- **Non-vacuity of `OkOps2` from the empty session**: CREATE DATABASE d; USE d; INSERT INTO u VALUES (1) -
refused, the new database has no table -; crash; USE d; restart. -/
theorem okOps2_example : OkOps2 {} (fun _ => []) true
    [.stmt (.createDatabase [100]), .stmt (.use [100]), .stmt insUnknown, .crash, .stmt (.use [100]), .restart] := by
  refine ⟨(fun hx => by cases hx), (fun hx => by cases hx), ?_, ?_⟩
  · intro _
    refine .inr ⟨canon [100], newDB, use_d.1, use_d.2, fun pt _ _ _ => ?_⟩
    rw [worldStep_use, world1, setW_same]
    exact refusalC_insUnknown rfl pt
  · intro s' _
    exact ⟨(fun hx => by cases hx), fun _ _ => trivial⟩

/-- **Non-vacuity of `FirstRowRefused` for the size of a row**: on the plain database with the one empty table
`t (b VARCHAR(5000))`, the row `('xx…x')` with 1100 bytes is refused - and not by `rowRefusedEarly`. -/
theorem firstRowRefused_oversized_example :
    FirstRowRefused [⟨tname, [⟨"b", .varchar, 5000⟩], []⟩] (.insert tname [] [[.str (List.replicate 1100 120)]]) ∧
    rowRefusedEarly [⟨"b", .varchar, 5000⟩] [] [Mkdb.Tuple.Val.str (List.replicate 1100 120)] = false :=
  ⟨⟨⟨tname, [⟨"b", .varchar, 5000⟩], []⟩, by rfl, by decide +kernel⟩, by decide +kernel⟩

theorem spec_create_v : Spec.specStmt [] (.createTable tname vcols) = some [⟨tname, [⟨"b", .varchar, 5000⟩], []⟩] := by
  have h1 : (tname == "sys_pages".toUTF8.toList) = false := beq_eq_false_iff_ne.mpr tname_ne_sys.1
  have h2 : (tname == "sys_schema".toUTF8.toList) = false := beq_eq_false_iff_ne.mpr tname_ne_sys.2
  have h0 : (Spec.findTable [] tname).isSome = false := rfl
  simp only [Spec.specStmt, Spec.specCreate, h0, h1, h2, Bool.or_self, Bool.false_eq_true, if_false]
  rfl

theorem room_create_v : StmtRoom newDB ptNew schNew [] (.createTable tname vcols) := by
  refine ⟨?_, by decide +kernel, by decide, by decide, by decide, by decide, by decide⟩
  intro c hc k hk
  simp only [vcols, List.mem_singleton] at hc
  subst hc
  cases hk
  decide

/-- **Non-vacuity of `OkOps3` with an oversized row**, from the empty session. -/
theorem okOps3_example : OkOps3 {} (fun _ => []) true oversizedOps3 := by
  have hspec : Spec.specStmt (worldStep {} (fun _ => []) (.createDatabase [100]) (canon [100]))
      (.createTable tname vcols) = some [⟨tname, [⟨"b", .varchar, 5000⟩], []⟩] := by
    rw [world1, setW_same]; exact spec_create_v
  refine .inl ⟨(fun hx => by cases hx), .inl ⟨(fun hx => by cases hx), .inl ⟨?_, .inr ⟨?_, ?_⟩⟩⟩⟩
  · intro _
    refine .inl (.inr ⟨canon [100], newDB, [⟨tname, [⟨"b", .varchar, 5000⟩], []⟩], use_d.1, use_d.2, ?_, ?_, ?_⟩)
    · rw [worldStep_use]; exact hspec
    · intro pt sch tbls hi
      obtain ⟨_, habs0, _⟩ := hi.abs
      exact room_create_v.of_cat cat_newDB habs0.cat
    · intro _; exact cleanStep_use_true _ _ _
  · obtain ⟨db, hdb⟩ := routed_getDB (st := .createTable tname vcols) rfl use_d.1 use_d.2
    refine ⟨canon [100], db, (routed_cur _ _ rfl).trans use_d.1, hdb, ?_⟩
    -- the plain database of `d` after the CREATE TABLE is the one the plain model gives
    rw [worldStep_use, (step_routed_eqs (clean := true) (st := .createTable tname vcols) rfl).1,
      (routed_accepted_eqs (clean := true) use_d.1 hspec).1, setW_same]
    exact firstRowRefused_oversized_example.1
  · intro s' _
    exact .inl ⟨(fun hx => by cases hx), fun _ _ => trivial⟩

end Mkdb.Session
