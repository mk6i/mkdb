import Mkdb.Model.Session
import Mkdb.Proofs.Utf8Arith
/-!
Database names (storage/file.go `checkDBName`, `makeDBDir`, `dbFilePath`; engine/session.go): the
identity of a database is `strings.ToLower` of its name.  Lemmas about the model of it
(`Session.canon`): the generated table of `unicode.ToLower` as a function (every listed code point has
its listed image, no other is moved, every image is a fixed point), Go's UTF-8 decoding of what Lean's
encoder writes, the bytes of `canon`, ASCII names and ASCII upper-casing.
-/
set_option autoImplicit false
namespace Mkdb.Session
open Mkdb.Generated Mkdb.Store

/-! ### the generated table as a function -/

/-- the first components rise strictly from `lo` on and stay within `hi` -/
def ascending (hi : Nat) : Nat → List (Nat × Nat) → Bool
  | _, [] => true
  | lo, p :: ps => Nat.ble lo p.1 && Nat.ble p.1 hi && ascending hi (p.1 + 1) ps

/-- every short list is ascending, within its bound and above the bound of the list before -/
def ordered : Nat → List (Nat × List (Nat × Nat)) → Bool
  | _, [] => true
  | lo, c :: cs => Nat.ble lo c.1 && ascending c.1 lo c.2 && ordered (c.1 + 1) cs

/-- in an ascending list the search for a listed code point passes only smaller ones before it -/
theorem ascending_mem {hi : Nat} : ∀ {ps : List (Nat × Nat)} {lo : Nat}, ascending hi lo ps = true →
    ∀ p ∈ ps, lo ≤ p.1 ∧ p.1 ≤ hi ∧ lookPairs p.1 ps = p.2
  | [], _, _, p, hp => by cases hp
  | q :: qs, lo, h, p, hp => by
    simp only [ascending, Bool.and_eq_true, Nat.ble_eq] at h
    unfold lookPairs
    rcases List.mem_cons.mp hp with rfl | hp
    · exact ⟨h.1.1, h.1.2, by rw [if_pos (Nat.beq_refl _)]⟩
    · obtain ⟨h1, h2, h3⟩ := ascending_mem h.2 p hp
      have : Nat.beq q.1 p.1 = false := by rw [← Bool.not_eq_true, Nat.beq_eq]; omega
      exact ⟨by omega, h2, by rw [this]; exact h3⟩

/-- ... and the bounds send it to the short list that holds it -/
theorem ordered_mem : ∀ {cs : List (Nat × List (Nat × Nat))} {lo : Nat}, ordered lo cs = true →
    ∀ c ∈ cs, ∀ p ∈ c.2, lo ≤ p.1 ∧ lookChunks p.1 cs = p.2
  | [], _, _, c, hc => by cases hc
  | d :: ds, lo, h, c, hc => by
    intro p hp
    simp only [ordered, Bool.and_eq_true, Nat.ble_eq] at h
    unfold lookChunks
    rcases List.mem_cons.mp hc with rfl | hc
    · obtain ⟨h1, h2, h3⟩ := ascending_mem h.1.2 p hp
      exact ⟨h1, by rw [if_pos (Nat.ble_eq.mpr h2)]; exact h3⟩
    · obtain ⟨h1, h2⟩ := ordered_mem h.2 c hc p hp
      have : Nat.ble p.1 d.1 = false := by rw [← Bool.not_eq_true, Nat.ble_eq]; omega
      exact ⟨by omega, by rw [this]; exact h2⟩

/-- the table, evaluated by the kernel in one pass -/
theorem table_ordered : ordered 0 lowerChunks = true := by decide +kernel

theorem chunks_flat : lowerChunks.flatMap (·.2) = lowerPairsList := rfl

theorem mem_pairs_iff (p : Nat × Nat) : p ∈ lowerPairsList ↔ ∃ c ∈ lowerChunks, p ∈ c.2 := by
  rw [← chunks_flat, List.mem_flatMap]

theorem lookPairs_mem (r : Nat) : ∀ ps : List (Nat × Nat), lookPairs r ps = r ∨ (r, lookPairs r ps) ∈ ps
  | [] => Or.inl rfl
  | p :: ps => by
    unfold lookPairs
    split
    · rename_i h
      have : p.1 = r := Nat.eq_of_beq_eq_true h
      right; rw [← this]; exact List.mem_cons_self
    · rcases lookPairs_mem r ps with h | h
      · exact Or.inl h
      · exact Or.inr (List.mem_cons_of_mem _ h)

theorem lookChunks_mem (r : Nat) : ∀ cs : List (Nat × List (Nat × Nat)),
    lookChunks r cs = r ∨ ∃ c ∈ cs, (r, lookChunks r cs) ∈ c.2
  | [] => Or.inl rfl
  | c :: cs => by
    unfold lookChunks
    split
    · rcases lookPairs_mem r c.2 with h | h
      · exact Or.inl h
      · exact Or.inr ⟨c, List.mem_cons_self, h⟩
    · rcases lookChunks_mem r cs with h | ⟨d, hd, h⟩
      · exact Or.inl h
      · exact Or.inr ⟨d, List.mem_cons_of_mem _ hd, h⟩

theorem lowerRune_listed (p : Nat × Nat) (h : p ∈ lowerPairsList) : lowerRune p.1 = p.2 := by
  obtain ⟨c, hc, hp⟩ := (mem_pairs_iff p).mp h
  exact (ordered_mem table_ordered c hc p hp).2

theorem lowerRune_moved (r : Nat) (h : lowerRune r ≠ r) : (r, lowerRune r) ∈ lowerPairsList := by
  rcases lookChunks_mem r lowerChunks with h' | ⟨c, hc, hp⟩
  · exact absurd h' h
  · exact (mem_pairs_iff _).mpr ⟨c, hc, hp⟩

/-- the set of the numbers `f p`, as the bits of one number -/
def bits (f : Nat × Nat → Nat) : List (Nat × Nat) → Nat
  | [] => 0
  | p :: ps => 2 ^ f p ||| bits f ps

theorem testBit_bits {f : Nat × Nat → Nat} : ∀ {ps : List (Nat × Nat)} {p : Nat × Nat}, p ∈ ps →
    (bits f ps).testBit (f p) = true
  | q :: qs, p, hp => by
    rw [bits, Nat.testBit_or]
    rcases List.mem_cons.mp hp with rfl | hp
    · rw [Nat.testBit_two_pow_self]; rfl
    · rw [testBit_bits hp, Bool.or_true]

/-- the table, evaluated by the kernel: no image is itself listed (the two sets as two numbers, so
that the kernel's arithmetic compares them at once; running the model's search for every image is slow
to check) -/
theorem table_disjoint : bits (·.1) lowerPairsList &&& bits (·.2) lowerPairsList = 0 := by decide +kernel

theorem lowerRune_idem (r : Nat) : lowerRune (lowerRune r) = lowerRune r := by
  by_cases h : lowerRune r = r
  · rw [h]; exact h
  · refine Decidable.byContradiction fun h' => ?_
    have h1 := testBit_bits (f := (·.1)) (lowerRune_moved _ h')
    have h2 := testBit_bits (f := (·.2)) (lowerRune_moved r h)
    have := Nat.testBit_and (bits (·.1) lowerPairsList) (bits (·.2) lowerPairsList) (lowerRune r)
    rw [table_disjoint, Nat.zero_testBit, h1, h2] at this
    cases this

theorem lowerChar_idem (c : Char) : lowerChar (lowerChar c) = lowerChar c := by
  unfold lowerChar
  by_cases hv : (lowerRune c.toNat).isValidChar
  · have : (Char.ofNat (lowerRune c.toNat)).toNat = lowerRune c.toNat := by
      unfold Char.ofNat
      rw [dif_pos hv]; rfl
    rw [this, lowerRune_idem]
  · have : Char.ofNat (lowerRune c.toNat) = Char.ofNat 0 := by
      unfold Char.ofNat
      rw [dif_neg hv]; rfl
    rw [this]
    decide +kernel

/-! ### Go's decoder reads what the encoder writes -/

theorem decodeGo_skip : ∀ (pre rest : Bytes), decodeGo pre.length (pre ++ rest) = decodeGo 0 rest
  | [], rest => rfl
  | p :: pre, rest => by
    show decodeGo (pre.length + 1) (p :: (pre ++ rest)) = _
    rw [decodeGo]
    exact decodeGo_skip pre rest

theorem decodeGo_zero_cons (b0 : UInt8) (rest : Bytes) :
    decodeGo 0 (b0 :: rest) = Char.ofNat (decodeRune b0 rest).1 :: decodeGo ((decodeRune b0 rest).2 - 1) rest := by
  rw [decodeGo]

theorem decodeRune_1 (b0 : UInt8) (tl : Bytes) (h : b0.toNat < 0x80) : decodeRune b0 tl = (b0.toNat, 1) := by
  unfold decodeRune
  simp only [h, if_true]

theorem inRange_ofNat {n lo hi : Nat} (h : n < 256) (h1 : lo ≤ n) (h2 : n ≤ hi) : inRange (UInt8.ofNat n) lo hi = true := by
  unfold inRange
  rw [UInt8.toNat_ofNat_of_lt' h, decide_eq_true h1, decide_eq_true h2]; rfl

theorem toNat_cont {r : Nat} (h : r < 64) : (UInt8.ofNat (0x80 + r)).toNat = 0x80 + r :=
  UInt8.toNat_ofNat_of_lt' (show 0x80 + r < 256 by omega)

theorem inRange_cont {r : Nat} (h : r < 64) : inRange (UInt8.ofNat (0x80 + r)) 0x80 0xBF = true :=
  inRange_ofNat (by omega) (Nat.le_add_right _ _) (by omega)

/-- By length: the range of the first byte, the tests of the continuation bytes (for three and four bytes the
second byte's range depends on the first), the digits by subtraction. -/
theorem decodeRune_enc {k b0 : Nat} {tl : List Nat} (h : Utf8.Enc k (b0 :: tl)) (rest : Bytes) :
    decodeRune (UInt8.ofNat b0) (tl.map UInt8.ofNat ++ rest) = (k, tl.length + 1) := by
  unfold decodeRune
  cases h with
  | one h =>
    simp only [UInt8.toNat_ofNat_of_lt' (show k < 256 by omega), h, if_true]
    rfl
  | @two q r hq hq' hr =>
    have e1 : ¬ 0xC0 + q < 0x80 := by omega
    have e2 : ¬ 0xC0 + q < 0xC2 := by omega
    have e3 : 0xC0 + q < 0xE0 := by omega
    simp only [List.map_cons, List.map_nil, List.cons_append, List.nil_append,
      UInt8.toNat_ofNat_of_lt' (show 0xC0 + q < 256 by omega), toNat_cont hr, inRange_cont hr,
      e1, e2, e3, if_true, if_false, Nat.add_sub_cancel_left]
    rfl
  | @three q r1 r0 hq h1 h0 hlo hhi =>
    have e1 : ¬ 0xE0 + q < 0x80 := by omega
    have e2 : ¬ 0xE0 + q < 0xC2 := by omega
    have e3 : ¬ 0xE0 + q < 0xE0 := by omega
    have e4 : 0xE0 + q < 0xF0 := by omega
    simp only [List.map_cons, List.map_nil, List.cons_append, List.nil_append,
      UInt8.toNat_ofNat_of_lt' (show 0xE0 + q < 256 by omega), toNat_cont h1, toNat_cont h0,
      inRange_ofNat (show 0x80 + r1 < 256 by omega)
        (show (if 0xE0 + q = 0xE0 then 0xA0 else 0x80) ≤ 0x80 + r1 by split <;> omega)
        (show 0x80 + r1 ≤ (if 0xE0 + q = 0xED then 0x9F else 0xBF) by split <;> omega),
      inRange_cont h0, e1, e2, e3, e4, Bool.and_self, if_true, if_false, Nat.add_sub_cancel_left]
    rfl
  | @four q r2 r1 r0 hq h2 h1 h0 hlo hhi =>
    have e1 : ¬ 0xF0 + q < 0x80 := by omega
    have e2 : ¬ 0xF0 + q < 0xC2 := by omega
    have e3 : ¬ 0xF0 + q < 0xE0 := by omega
    have e4 : ¬ 0xF0 + q < 0xF0 := by omega
    have e5 : 0xF0 + q < 0xF5 := by omega
    simp only [List.map_cons, List.map_nil, List.cons_append, List.nil_append,
      UInt8.toNat_ofNat_of_lt' (show 0xF0 + q < 256 by omega), toNat_cont h2, toNat_cont h1, toNat_cont h0,
      inRange_ofNat (show 0x80 + r2 < 256 by omega)
        (show (if 0xF0 + q = 0xF0 then 0x90 else 0x80) ≤ 0x80 + r2 by split <;> omega)
        (show 0x80 + r2 ≤ (if 0xF0 + q = 0xF4 then 0x8F else 0xBF) by split <;> omega),
      inRange_cont h1, inRange_cont h0, e1, e2, e3, e4, e5, Bool.and_self, if_true, if_false,
      Nat.add_sub_cancel_left]
    rfl

theorem utf8EncodeChar_eq (c : Char) : String.utf8EncodeChar c = (Utf8.encode c.toNat).map UInt8.ofNat := by
  have hv : c.toNat.isValidChar := c.valid
  have hcv : c.val.toNat = c.toNat := rfl
  unfold String.utf8EncodeChar Utf8.encode
  simp only [hcv]
  by_cases c1 : c.toNat < 0x80
  · rw [if_pos (by omega), if_pos c1]; rfl
  rw [if_neg (by omega), if_neg c1]
  by_cases c2 : c.toNat < 0x800
  · rw [if_pos (by omega), if_pos c2, Nat.mod_eq_of_lt (Utf8.lead2 (Nat.le_of_not_lt c1) c2).2]
    simp only [List.map_cons, List.map_nil, Nat.add_comm]
  rw [if_neg (by omega), if_neg c2]
  by_cases c3 : c.toNat < 0x10000
  · rw [if_pos (by omega), if_pos c3, Nat.mod_eq_of_lt (Utf8.lead3 (Nat.le_of_not_lt c2) c3 hv).1]
    simp only [List.map_cons, List.map_nil, Nat.add_comm]
  rw [if_neg (by omega), if_neg c3,
    Nat.mod_eq_of_lt (Nat.lt_trans (Utf8.lead4 (Nat.le_of_not_lt c3) hv).1 (by decide))]
  simp only [List.map_cons, List.map_nil, Nat.add_comm]

theorem decodeGo_encodeChar (c : Char) (rest : Bytes) :
    decodeGo 0 (String.utf8EncodeChar c ++ rest) = c :: decodeGo 0 rest := by
  have henc : Utf8.Enc c.toNat (Utf8.encode c.toNat) := Utf8.enc_encode c.valid
  obtain ⟨b0, tl, e⟩ := henc.ne_nil
  rw [e] at henc
  rw [utf8EncodeChar_eq, e, List.map_cons, List.cons_append, decodeGo_zero_cons, decodeRune_enc henc rest,
    Char.ofNat_toNat]
  have := decodeGo_skip (tl.map UInt8.ofNat) rest
  rw [List.length_map] at this
  exact congrArg _ this

theorem decodeGo_encode : ∀ cs : List Char, decodeGo 0 (cs.flatMap String.utf8EncodeChar) = cs
  | [] => rfl
  | c :: cs => by
    rw [List.flatMap_cons, decodeGo_encodeChar, decodeGo_encode cs]

/-! ### the bytes of the canonical name -/

/-- the bytes of the canonical name - what the driver prints, what Go uses as the directory name -/
theorem toUTF8_canon (b : Bytes) : (canon b).toUTF8.toList = canonBytes b := by
  unfold canon canonBytes
  rw [byteArray_toList_data]
  show (String.ofList (lowered b)).toByteArray.data.toList = _
  rw [String.toByteArray_ofList]
  unfold List.utf8Encode
  rw [List.data_toByteArray]

theorem lowered_canonBytes (b : Bytes) : lowered (canonBytes b) = lowered b := by
  unfold canonBytes
  show (decodeGo 0 ((lowered b).flatMap String.utf8EncodeChar)).map lowerChar = _
  rw [decodeGo_encode]
  unfold lowered
  rw [List.map_map]
  exact List.map_congr_left fun c _ => (Function.comp_apply ..).trans (lowerChar_idem c)

theorem canon_canonBytes (b : Bytes) : canon (canonBytes b) = canon b := by
  unfold canon; rw [lowered_canonBytes]

theorem canonBytes_canonBytes (b : Bytes) : canonBytes (canonBytes b) = canonBytes b := by
  show (lowered (canonBytes b)).flatMap String.utf8EncodeChar = _
  rw [lowered_canonBytes]; rfl

theorem canon_idem (b : Bytes) : canon (canon b).toUTF8.toList = canon b := by
  rw [toUTF8_canon, canon_canonBytes]

theorem validDbName_of_canon_eq {a b : Bytes} (h : canon a = canon b) : validDbName a = validDbName b := by
  have : canonBytes a = canonBytes b := by rw [← toUTF8_canon, ← toUTF8_canon, h]
  unfold validDbName; rw [this]

theorem lowered_eq_nil {b : Bytes} : lowered b = [] ↔ b = [] := by
  constructor
  · intro h
    cases b with
    | nil => rfl
    | cons b0 rest => unfold lowered at h; rw [decodeGo_zero_cons] at h; simp at h
  · rintro rfl; rfl

theorem isEmpty_of_canon_eq {a b : Bytes} (h : canon a = canon b) : a.isEmpty = b.isEmpty := by
  have hl : lowered a = lowered b := by
    have := congrArg String.toList h
    simpa [canon] using this
  have : a = [] ↔ b = [] := by rw [← lowered_eq_nil, ← lowered_eq_nil, hl]
  cases a <;> cases b <;> simp_all

/-! ### ASCII names, ASCII upper-casing -/

def up8 (c : UInt8) : UInt8 := if 97 ≤ c.toNat ∧ c.toNat ≤ 122 then UInt8.ofNat (c.toNat - 32) else c

def low8 (c : UInt8) : UInt8 := if 65 ≤ c.toNat ∧ c.toNat ≤ 90 then UInt8.ofNat (c.toNat + 32) else c

theorem up8_of_ge {c : UInt8} (h : 128 ≤ c.toNat) : up8 c = c := by
  unfold up8; rw [if_neg]; omega

theorem up8_lt {c : UInt8} (h : c.toNat < 128) : (up8 c).toNat < 128 := by
  unfold up8; split
  · rw [UInt8.toNat_ofNat']; omega
  · exact h

theorem inRange_of_lt {c : UInt8} {lo hi : Nat} (h : c.toNat < 128) (hlo : 128 ≤ lo) : inRange c lo hi = false := by
  unfold inRange
  have : decide (lo ≤ c.toNat) = false := by simp; omega
  rw [this]; rfl

theorem inRange_up8 (c : UInt8) (lo hi : Nat) (hlo : 128 ≤ lo) : inRange (up8 c) lo hi = inRange c lo hi := by
  by_cases h : 128 ≤ c.toNat
  · rw [up8_of_ge h]
  · have h' : c.toNat < 128 := by omega
    rw [inRange_of_lt (up8_lt h') hlo, inRange_of_lt h' hlo]

theorem inRange_ge {c : UInt8} {lo hi : Nat} (h : inRange c lo hi = true) : lo ≤ c.toNat := by
  unfold inRange at h; simp at h; exact h.1

/-- for a first byte outside ASCII the decoder reads the same from a tail and from its upper-cased
spelling: every byte it accepts is outside ASCII -/
theorem decodeRune_map_up8 (b0 : UInt8) (rest : Bytes) (h : 128 ≤ b0.toNat) :
    decodeRune b0 (rest.map up8) = decodeRune b0 rest := by
  have e1 : ¬ b0.toNat < 0x80 := by omega
  have hlo3 : 128 ≤ (if b0.toNat = 0xE0 then 0xA0 else 0x80) := by split <;> omega
  have hlo4 : 128 ≤ (if b0.toNat = 0xF0 then 0x90 else 0x80) := by split <;> omega
  unfold decodeRune
  -- one `if` of the decoder at a time: `split` on the whole of it is dear
  by_cases e2 : b0.toNat < 0xC2
  · simp only [e1, e2, if_true, if_false]
  by_cases e3 : b0.toNat < 0xE0
  · simp only [e1, e2, e3, if_true, if_false]
    cases rest with
    | nil => rfl
    | cons b1 tl =>
      simp only [List.map_cons, inRange_up8 _ _ _ (Nat.le_refl 128)]
      split
      · rename_i hr
        rw [up8_of_ge (inRange_ge hr)]
      · rfl
  by_cases e4 : b0.toNat < 0xF0
  · simp only [e1, e2, e3, e4, if_true, if_false]
    rcases rest with _ | ⟨b1, _ | ⟨b2, tl⟩⟩
    · rfl
    · rfl
    · simp only [List.map_cons, inRange_up8 _ _ _ (Nat.le_refl 128), inRange_up8 _ _ _ hlo3]
      generalize (if b0.toNat = 0xE0 then 0xA0 else 0x80) = lo at hlo3 ⊢
      generalize (if b0.toNat = 0xED then 0x9F else 0xBF) = hi
      by_cases hr : (inRange b1 lo hi && inRange b2 128 191) = true
      · rw [if_pos hr, if_pos hr]
        rw [Bool.and_eq_true] at hr
        rw [up8_of_ge (Nat.le_trans hlo3 (inRange_ge hr.1)), up8_of_ge (inRange_ge hr.2)]
      · rw [if_neg hr, if_neg hr]
  by_cases e5 : b0.toNat < 0xF5
  · simp only [e1, e2, e3, e4, e5, if_true, if_false]
    rcases rest with _ | ⟨b1, _ | ⟨b2, _ | ⟨b3, tl⟩⟩⟩
    · rfl
    · rfl
    · rfl
    · simp only [List.map_cons, inRange_up8 _ _ _ (Nat.le_refl 128), inRange_up8 _ _ _ hlo4]
      generalize (if b0.toNat = 0xF0 then 0x90 else 0x80) = lo at hlo4 ⊢
      generalize (if b0.toNat = 0xF4 then 0x8F else 0xBF) = hi
      by_cases hr : (inRange b1 lo hi && inRange b2 128 191 && inRange b3 128 191) = true
      · rw [if_pos hr, if_pos hr]
        rw [Bool.and_eq_true, Bool.and_eq_true] at hr
        rw [up8_of_ge (Nat.le_trans hlo4 (inRange_ge hr.1.1)), up8_of_ge (inRange_ge hr.1.2),
          up8_of_ge (inRange_ge hr.2)]
      · rw [if_neg hr, if_neg hr]
  · simp only [e1, e2, e3, e4, e5, if_false]

/-- on ASCII the table folds the 26 letters and nothing else (evaluated by the kernel, 128 code points,
both facts in one pass so that each code point is looked up once) -/
theorem ascii_fold : ∀ n, n < 128 →
    lowerChar (Char.ofNat (up8 (UInt8.ofNat n)).toNat) = lowerChar (Char.ofNat n) ∧
    String.utf8EncodeChar (lowerChar (Char.ofNat n)) = [low8 (UInt8.ofNat n)] := by decide +kernel

theorem map_lowerChar_decodeGo_up8 : ∀ (b : Bytes) (k : Nat),
    (decodeGo k (b.map up8)).map lowerChar = (decodeGo k b).map lowerChar
  | [], k => by cases k <;> rfl
  | b0 :: rest, k + 1 => by
    show (decodeGo (k + 1) (up8 b0 :: rest.map up8)).map lowerChar = (decodeGo (k + 1) (b0 :: rest)).map lowerChar
    rw [decodeGo, decodeGo]
    exact map_lowerChar_decodeGo_up8 rest k
  | b0 :: rest, 0 => by
    show (decodeGo 0 (up8 b0 :: rest.map up8)).map lowerChar = (decodeGo 0 (b0 :: rest)).map lowerChar
    rw [decodeGo_zero_cons, decodeGo_zero_cons, List.map_cons, List.map_cons]
    by_cases h : 128 ≤ b0.toNat
    · rw [up8_of_ge h, decodeRune_map_up8 b0 rest h, map_lowerChar_decodeGo_up8 rest _]
    · have h' : b0.toNat < 128 := by omega
      rw [decodeRune_1 _ _ (up8_lt h'), decodeRune_1 _ _ h', map_lowerChar_decodeGo_up8 rest _]
      have := (ascii_fold b0.toNat h').1
      rw [UInt8.ofNat_toNat] at this
      rw [this]

theorem lowered_map_up8 (b : Bytes) : lowered (b.map up8) = lowered b :=
  map_lowerChar_decodeGo_up8 b 0

theorem canon_map_up8 (b : Bytes) : canon (b.map up8) = canon b := by
  unfold canon; rw [lowered_map_up8]

/-- on a pure-ASCII name the lowered name is the byte-wise ASCII lower-casing (the byte-wise path of
`strings.ToLower`) -/
theorem canonBytes_ascii : ∀ (b : Bytes), (∀ c ∈ b, c.toNat < 128) → canonBytes b = b.map low8
  | [], _ => rfl
  | b0 :: rest, h => by
    have h0 : b0.toNat < 128 := h b0 List.mem_cons_self
    have ih := canonBytes_ascii rest fun c hc => h c (List.mem_cons_of_mem _ hc)
    unfold canonBytes lowered at ih ⊢
    rw [decodeGo_zero_cons, decodeRune_1 _ _ h0, List.map_cons, List.flatMap_cons, List.map_cons]
    have := (ascii_fold b0.toNat h0).2
    rw [UInt8.ofNat_toNat] at this
    rw [this]
    exact congrArg _ ih

end Mkdb.Session
