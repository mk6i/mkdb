import Mkdb.Proofs.NoPanicExec
/-!
C18, typed tables: **kinds of values and typed rows**.

A column of a stored table holds values of ONE kind (integer, string, boolean) or NULL: `Kind`, `hasKind`,
`rowHas ks row` (one value per entry of `ks`, each NULL or of that kind), `KindedFetch`.  The kind of an
output column of a SELECT is `itemKind`: a column keeps the kind of its source column, COUNT / AVG give
integers, a literal has its own kind, a comparison / AND / OR gives a boolean.

The executor is walked once (`TypedWalk`) for rows typed cell by cell by ANY predicate `P` that admits at
least what `hasKind` admits (`RowOf P ks row`, `Admits P`): with `P` = `hasKind` a typed row is `rowHas`,
with the trivial `P` it is a row of the right length, which is all the well-shaped tables of
`C18_no_panic_partial` offer.
-/
set_option autoImplicit false
namespace Mkdb.Exec.TypedP
open Mkdb.Sql Mkdb.Tuple Mkdb.Exec.NoPanicP

inductive Kind where
  | int | str | bool
deriving DecidableEq, Repr

def hasKind : Kind → Val → Bool
  | _, .null => true
  | .int, .int _ => true
  | .str, .str _ => true
  | .bool, .bool _ => true
  | _, _ => false

def rowHas : List Kind → List Val → Bool
  | [], [] => true
  | k :: ks, v :: vs => hasKind k v && rowHas ks vs
  | _, _ => false

@[simp] theorem hasKind_null (k : Kind) : hasKind k .null = true := by cases k <;> rfl
@[simp] theorem hasKind_int (i : Int) : hasKind .int (.int i) = true := rfl
@[simp] theorem hasKind_str (s : Bytes) : hasKind .str (.str s) = true := rfl
@[simp] theorem hasKind_bool (b : Bool) : hasKind .bool (.bool b) = true := rfl

theorem rowHas_cons {k : Kind} {ks : List Kind} {v : Val} {vs : List Val} :
    rowHas (k :: ks) (v :: vs) = true ↔ hasKind k v = true ∧ rowHas ks vs = true := by
  simp only [rowHas, Bool.and_eq_true]

theorem hasKind_comparable {k : Kind} {a b : Val} (ha : hasKind k a = true) (hb : hasKind k b = true) :
    Comparable a b :=
  comparable_iff.mpr (by cases k <;> cases a <;> cases b <;> simp_all [hasKind, SelectP.Comparable])

/-! ### rows typed by a cell predicate -/

/-- the row has one value per kind of `ks`, the value in a column of kind `k` satisfying `P k`.  For `P` =
`hasKind` this is the Boolean `rowHas` (`rowOf_hasKind`), for the trivial `P` a row of the right length
(`rowOf_true`) -/
def RowOf (P : Kind → Val → Prop) : List Kind → List Val → Prop
  | [], [] => True
  | k :: ks, v :: vs => P k v ∧ RowOf P ks vs
  | _, _ => False

/-- what the walk of the executor asks of the cell predicate: NULL and the values of the kind pass -/
def Admits (P : Kind → Val → Prop) : Prop := ∀ k v, hasKind k v = true → P k v

theorem admits_hasKind : Admits fun k v => hasKind k v = true := fun _ _ h => h
theorem admits_true : Admits fun _ _ => True := fun _ _ _ => trivial

section
variable {P : Kind → Val → Prop}

theorem RowOf.length : ∀ {ks : List Kind} {r : List Val}, RowOf P ks r → r.length = ks.length
  | [], [], _ => rfl
  | [], _ :: _, h => h.elim
  | _ :: _, [], h => h.elim
  | _ :: _, _ :: _, h => by simp only [List.length_cons, RowOf.length h.2]

theorem RowOf.append {ks2 : List Kind} {r2 : List Val} (h2 : RowOf P ks2 r2) :
    ∀ {ks1 : List Kind} {r1 : List Val}, RowOf P ks1 r1 → RowOf P (ks1 ++ ks2) (r1 ++ r2)
  | [], [], _ => h2
  | [], _ :: _, h1 => h1.elim
  | _ :: _, [], h1 => h1.elim
  | _ :: _, _ :: _, h1 => ⟨h1.1, RowOf.append h2 h1.2⟩

/-- the padding of LEFT / RIGHT JOIN has every kind -/
theorem RowOf.nulls (hP : Admits P) : ∀ ks : List Kind, RowOf P ks (List.replicate ks.length .null)
  | [] => trivial
  | k :: ks => ⟨hP k .null (hasKind_null k), RowOf.nulls hP ks⟩

theorem RowOf.get : ∀ {ks : List Kind} {r : List Val}, RowOf P ks r → ∀ {i : Nat}, i < ks.length →
    ∃ v, r[i]? = some v ∧ P (ks.getD i .int) v
  | [], [], _, _, hi => absurd hi (Nat.not_lt_zero _)
  | [], _ :: _, h, _, _ => h.elim
  | _ :: _, [], h, _, _ => h.elim
  | _ :: _, v :: _, h, 0, _ => ⟨v, rfl, h.1⟩
  | _ :: ks, _ :: _, h, i + 1, hi => by
    simpa only [List.getElem?_cons_succ, List.getD_cons_succ] using
      RowOf.get h.2 (Nat.lt_of_succ_lt_succ hi)

/-- **two rows typed by one list are comparable at every position** (a position past the end reads as
NULL) as soon as `P` lets only comparable values into one column - what `C18_sort_safe` asks of the rows
it sorts -/
theorem RowOf.comparable (hc : ∀ k a b, P k a → P k b → Comparable a b) {ks : List Kind} {a b : List Val}
    (ha : RowOf P ks a) (hb : RowOf P ks b) (i : Nat) : Comparable ((a[i]?).getD .null) ((b[i]?).getD .null) := by
  by_cases hi : i < ks.length
  · obtain ⟨x, hx, px⟩ := ha.get hi
    obtain ⟨y, hy, py⟩ := hb.get hi
    rw [hx, hy]
    exact hc _ _ _ px py
  · rw [List.getElem?_eq_none (by rw [ha.length]; omega)]
    exact .inl rfl

end

theorem rowOf_hasKind : ∀ {ks : List Kind} {r : List Val},
    RowOf (fun k v => hasKind k v = true) ks r ↔ rowHas ks r = true
  | [], [] => by simp [RowOf, rowHas]
  | [], _ :: _ => by simp [RowOf, rowHas]
  | _ :: _, [] => by simp [RowOf, rowHas]
  | _ :: ks, _ :: vs => by
    simp only [RowOf, rowHas_cons, rowOf_hasKind (ks := ks) (r := vs)]

/-- under the trivial cell predicate the kinds only count the columns -/
theorem rowOf_true : ∀ {ks : List Kind} {r : List Val}, RowOf (fun _ _ => True) ks r ↔ r.length = ks.length
  | [], [] => by simp [RowOf]
  | [], _ :: _ => by simp [RowOf]
  | _ :: _, [] => by simp [RowOf]
  | _ :: ks, _ :: vs => by
    simp only [RowOf, true_and, List.length_cons, Nat.add_right_cancel_iff, rowOf_true (ks := ks) (r := vs)]

theorem rowHas_length {ks : List Kind} {r : List Val} (h : rowHas ks r = true) : r.length = ks.length :=
  (rowOf_hasKind.mpr h).length

theorem rowHas_append {ks1 ks2 : List Kind} {r1 r2 : List Val} (h1 : rowHas ks1 r1 = true) (h2 : rowHas ks2 r2 = true) :
    rowHas (ks1 ++ ks2) (r1 ++ r2) = true :=
  rowOf_hasKind.mp ((rowOf_hasKind.mpr h2).append (rowOf_hasKind.mpr h1))

theorem rowHas_nulls (ks : List Kind) : rowHas ks (List.replicate ks.length .null) = true :=
  rowOf_hasKind.mp (RowOf.nulls admits_hasKind ks)

theorem rowHas_get {ks : List Kind} {r : List Val} (h : rowHas ks r = true) (i : Nat) (v : Val)
    (hv : r[i]? = some v) : hasKind (ks.getD i .int) v = true := by
  have hi : i < ks.length := by rw [← rowHas_length h]; exact (List.getElem?_eq_some_iff.mp hv).1
  obtain ⟨v', hv', hk⟩ := (rowOf_hasKind.mpr h).get hi
  rw [hv] at hv'
  cases hv'
  exact hk

theorem rowHas_comparable {ks : List Kind} {a b : List Val} (ha : rowHas ks a = true) (hb : rowHas ks b = true)
    (i : Nat) : Comparable ((a[i]?).getD .null) ((b[i]?).getD .null) :=
  RowOf.comparable (P := fun k v => hasKind k v = true) (fun _ _ _ => hasKind_comparable) (rowOf_hasKind.mpr ha)
    (rowOf_hasKind.mpr hb) i

/-! ### the tables the executor reads -/

/-- the names of the tables a FROM clause reads, in the order of the join -/
def fromNames : TableRef → List Bytes
  | .table t => [t.name]
  | .join l _ r _ => fromNames l ++ [r.name]

/-- every table of `names` the executor can read has a list of kinds, one per column, that types every
row.  `KindedFetch` is the case `P` = `hasKind` for all names (`KindedFetch.typed`), `WellShaped` the trivial
`P` (`wellShaped_typed`); `Store.FetchKinded db n` (StoredSelect) is about one name of a stored database and
also says that `Fetch` returns a value -/
def TypedFetch (P : Kind → Val → Prop) (fetch : Bytes → Option Table) (names : List Bytes) : Prop :=
  ∀ n ∈ names, ∀ t, fetch n = some t → ∃ ks : List Kind, ks.length = t.cols.length ∧ ∀ r ∈ t.rows, RowOf P ks r

/-- every table the executor can read has a list of kinds, one per column, that every row meets -/
def KindedFetch (fetch : Bytes → Option Table) : Prop :=
  ∀ n t, fetch n = some t → ∃ ks : List Kind, ks.length = t.cols.length ∧ ∀ r ∈ t.rows, rowHas ks r = true

theorem KindedFetch.wellShaped {fetch : Bytes → Option Table} (h : KindedFetch fetch) : WellShaped fetch := by
  intro n t hn r hr
  obtain ⟨ks, hlen, hrows⟩ := h n t hn
  rw [rowHas_length (hrows r hr), hlen]

theorem KindedFetch.typed {fetch : Bytes → Option Table} (h : KindedFetch fetch) (names : List Bytes) :
    TypedFetch (fun k v => hasKind k v = true) fetch names := fun n _ t hn => by
  obtain ⟨ks, hl, hr⟩ := h n t hn
  exact ⟨ks, hl, fun r hr' => rowOf_hasKind.mpr (hr r hr')⟩

theorem wellShaped_typed {fetch : Bytes → Option Table} (h : WellShaped fetch) (names : List Bytes) :
    TypedFetch (fun _ _ => True) fetch names := fun n _ t hn =>
  ⟨List.replicate t.cols.length .int, List.length_replicate,
    fun r hr => rowOf_true.mpr (by rw [h n t hn r hr, List.length_replicate])⟩

/-! ### the kinds of the output columns -/

def litKind : Lit → Kind
  | .int _ => .int
  | .str _ => .str
  | .bool _ => .bool

/-- the kind of what `evaluate` returns: the literal's own kind, else a boolean (a bare column is
refused by `evaluate`) -/
def condKind : Cond → Kind
  | .val (.lit l) => litKind l
  | _ => .bool

def itemKind (fields : List Field) (ks : List Kind) : SelItem → Kind
  | .star => .int
  | .avg _ => .int
  | .count _ => .int
  | .expr (.val (.col c)) => (match findColumn c fields with | .ok i => ks.getD i .int | _ => .int)
  | .expr c => condKind c

def outKinds (sl : List DerivedCol) (fields : List Field) (ks : List Kind) : List Kind :=
  if isStar sl then ks else sl.map fun d => itemKind fields ks d.item

theorem hasKind_litVal (l : Lit) : hasKind (litKind l) (litVal l) = true := by cases l <;> rfl

theorem itemKind_expr (fields : List Field) (ks : List Kind) (c : Cond) (h : ∀ cr, c ≠ .val (.col cr)) :
    itemKind fields ks (.expr c) = condKind c := by
  cases c with
  | val v =>
    cases v with
    | lit l => rfl
    | col cr => exact absurd rfl (h cr)
  | pred p => rfl
  | and p r => rfl
  | or l r => rfl

theorem outKinds_nostar {sl : List DerivedCol} (hs : isStar sl = false) (fields : List Field) (ks : List Kind) :
    outKinds sl fields ks = sl.map fun d => itemKind fields ks d.item := by
  unfold outKinds
  rw [hs]
  rfl

theorem outKinds_length (sl : List DerivedCol) (fields : List Field) (ks : List Kind) :
    (outKinds sl fields ks).length = if isStar sl then ks.length else sl.length := by
  unfold outKinds
  split
  · rfl
  · exact List.length_map _

end Mkdb.Exec.TypedP
