import Mkdb.Proofs.EngineNodeFields
import Mkdb.Proofs.PtSelfHistories
/-!
The header counters: **the levels model: the allocation frontier of a tree history is
linear in its length**, so the range hypotheses of `C12_every_engine_node_roundtrips` follow from the
length of the history.  A well-formed tree with `d` internal levels has at least `2^d` leaves (every
internal node has at least two children), so a tree of fewer than `2^32` cells has at most 32 internal
levels; an insert allocates at most one page per level, one for the leaf and one for a new root: 34 pages.
-/
set_option autoImplicit false
namespace Mkdb.Tree
open Mkdb.Page Mkdb.Generated Mkdb.Store

/-- every level has at most half as many nodes as the level below -/
theorem linked_pow : ∀ (lvls : List (List (Internal × Bool))) (below : List Nat), linked below lvls →
    (∀ lvl ∈ lvls, ∀ p ∈ lvl, 1 ≤ p.1.cells.length) → 2 ^ lvls.length ≤ below.length
  | [], below, h, _ => by
    simp only [linked] at h
    simp only [List.length_nil, Nat.pow_zero]
    omega
  | lvl :: rest, below, h, hc => by
    simp only [linked] at h
    have ih := linked_pow rest _ h.2 (fun l hl => hc l (List.mem_cons_of_mem _ hl))
    rw [List.length_map] at ih
    have h2 := childOffs_length_ge lvl (hc lvl List.mem_cons_self)
    rw [h.1] at h2
    simp only [List.length_cons, Nat.pow_succ]
    omega

/-- **The depth of a well-formed tree is logarithmic**: `2^(internal levels) ≤ leaves`. -/
theorem tree_depth_pow {t : Levels} {nf : Nat} (hI : Inv t nf) : 2 ^ t.inner.length ≤ t.leaves.length := by
  have := linked_pow t.inner _ hI.link (fun lvl hl p hp => (hI.cap.2 lvl hl p hp).1)
  rw [List.length_map] at this
  exact this

theorem tree_depth_le {t : Levels} {nf : Nat} (hI : Inv t nf) (hc : (cells t).length < 2 ^ 32) :
    t.inner.length ≤ 32 := by
  have h1 := tree_depth_pow hI
  have h2 := (tree_size hI).1
  have h3 : 2 ^ t.inner.length ≤ 2 ^ 32 := by omega
  exact (Nat.pow_le_pow_iff_right (by decide : 1 < 2)).mp h3

theorem applyOp_cells_length (s : Levels × Nat) (op : TOp) :
    (cells (applyOp s op).1).length ≤ (cells s.1).length + 1 :=
  applyOp_cases (motive := fun r => (cells r.1).length ≤ (cells s.1).length + 1) s op (Nat.le_succ _)
    (fun k lsn v r hr => by
      rw [cells_insertAppend s.1 r.1 k lsn s.2 r.2 v hr, List.length_append]; exact Nat.le_refl _)
    (fun f key lsn _ => by rw [cells_updLeaves, List.length_map]; exact Nat.le_succ _)

theorem runOps_cells_length (ops : List TOp) : ∀ (s : Levels × Nat),
    (cells (runOps s ops).1).length ≤ (cells s.1).length + ops.length := by
  induction ops with
  | nil => intro s; exact Nat.le_refl _
  | cons op rest ih =>
    intro s
    have h1 := applyOp_cells_length s op
    have h2 := ih (applyOp s op)
    show (cells (runOps (applyOp s op) rest).1).length ≤ _
    simp only [List.length_cons]
    omega

theorem applyOp_frontier (s : Levels × Nat) (op : TOp) (hI : Inv s.1 s.2) (hc : (cells s.1).length < 2 ^ 32) :
    (applyOp s op).2 ≤ s.2 + 139264 :=
  applyOp_cases (motive := fun r => r.2 ≤ s.2 + 139264) s op (Nat.le_add_right _ _)
    (fun k lsn v r hr => by
      have hg := (insertAppend_growth (t := s.1) (t' := r.1) (nf' := r.2) hr).2.2
      have hd := tree_depth_le hI hc
      -- (`omega` runs out of recursion depth on `_ + (4096 * _ + 8192)`; not on the flattened sum)
      simp only [Nat.mul_add, Nat.reduceMul, ← Nat.add_assoc] at hg
      omega)
    (fun _ _ _ _ => Nat.le_add_right _ _)

/-- **The allocation frontier of a tree history is linear in its length** (34 pages per operation), as
long as the tree stays below `2^32` cells. -/
theorem runOps_frontier (ops : List TOp) : ∀ (s : Levels × Nat), Inv s.1 s.2 →
    (cells s.1).length + ops.length ≤ 2 ^ 32 → (runOps s ops).2 ≤ s.2 + 139264 * ops.length := by
  induction ops with
  | nil => intro s _ _; exact Nat.le_refl _
  | cons op rest ih =>
    intro s hI hc
    simp only [List.length_cons] at hc
    have h1 := applyOp_frontier s op hI (by omega)
    have h2 := applyOp_cells_length s op
    have h3 := ih (applyOp s op) (applyOp_inv s op hI) (by omega)
    show (runOps (applyOp s op) rest).2 ≤ _
    simp only [List.length_cons]
    omega

/-- the operations are stamped by counters that start at `k` (row ids) and `l` (LSNs) and advance by at
most one row id and two LSNs per operation (the engine: `lastKey + 1` and `nextLSN`; an insert that moves
the root takes a second LSN for the catalog record); an updated value passed `updateCell`'s size check -/
def Issued : Nat → Nat → List TOp → Prop
  | _, _, [] => True
  | k, l, .ins key lsn _ :: rest => key ≤ k + 1 ∧ lsn < l + 2 ∧ Issued (k + 1) (l + 2) rest
  | k, l, .upd _ lsn v :: rest => lsn < l + 2 ∧ v.length ≤ c_maxValueSize ∧ Issued (k + 1) (l + 2) rest
  | k, l, .del _ lsn :: rest => lsn < l + 2 ∧ Issued (k + 1) (l + 2) rest

instance decIssued : (k l : Nat) → (ops : List TOp) → Decidable (Issued k l ops)
  | _, _, [] => isTrue trivial
  | k, l, .ins key lsn _ :: rest =>
    have := decIssued (k + 1) (l + 2) rest
    inferInstanceAs (Decidable (key ≤ k + 1 ∧ lsn < l + 2 ∧ Issued (k + 1) (l + 2) rest))
  | k, l, .upd _ lsn v :: rest =>
    have := decIssued (k + 1) (l + 2) rest
    inferInstanceAs (Decidable (lsn < l + 2 ∧ v.length ≤ c_maxValueSize ∧ Issued (k + 1) (l + 2) rest))
  | k, l, .del _ lsn :: rest =>
    have := decIssued (k + 1) (l + 2) rest
    inferInstanceAs (Decidable (lsn < l + 2 ∧ Issued (k + 1) (l + 2) rest))

theorem issued_inRange : ∀ (ops : List TOp) (k l : Nat), Issued k l ops → k + ops.length < 2 ^ 32 →
    l + 2 * ops.length ≤ 2 ^ 64 → ∀ op ∈ ops, OpInRange op
  | [], _, _, _, _, _ => fun _ h => by cases h
  | .ins key lsn v :: rest, k, l, hi, hk, hl => by
    simp only [List.length_cons] at hk hl
    obtain ⟨h1, h2, h3⟩ := hi
    intro op hop
    rcases List.mem_cons.mp hop with rfl | hop
    · exact ⟨by omega, by omega⟩
    · exact issued_inRange rest (k + 1) (l + 2) h3 (by omega) (by omega) op hop
  | .upd key lsn v :: rest, k, l, hi, hk, hl => by
    simp only [List.length_cons] at hk hl
    obtain ⟨h1, h2, h3⟩ := hi
    intro op hop
    rcases List.mem_cons.mp hop with rfl | hop
    · exact ⟨by omega, h2⟩
    · exact issued_inRange rest (k + 1) (l + 2) h3 (by omega) (by omega) op hop
  | .del key lsn :: rest, k, l, hi, hk, hl => by
    simp only [List.length_cons] at hk hl
    obtain ⟨h1, h3⟩ := hi
    intro op hop
    rcases List.mem_cons.mp hop with rfl | hop
    · show lsn < 2 ^ 64; omega
    · exact issued_inRange rest (k + 1) (l + 2) h3 (by omega) (by omega) op hop

/-- **Every page after a history issued by counters that do not wrap is well formed for the codec.** -/
theorem runOps_wf_issued (off nf k l : Nat) (h : off < nf) (ops : List TOp) (hi : Issued k l ops)
    (hk : k + ops.length < 2 ^ 32) (hl : l + 2 * ops.length ≤ 2 ^ 64) (hf : nf + 139264 * ops.length ≤ 2 ^ 64) :
    ∀ e ∈ flatten (runOps (emptyTree off, nf) ops).1, WF e.2.1 := by
  refine runOps_wf off nf h ops (issued_inRange ops k l hi hk hl) ?_
  have := runOps_frontier ops (emptyTree off, nf) (emptyTree_inv off nf h)
    (by show (cells (emptyTree off)).length + ops.length ≤ 2 ^ 32
        have : (cells (emptyTree off)).length = 0 := rfl
        omega)
  exact Nat.le_trans this hf

end Mkdb.Tree
