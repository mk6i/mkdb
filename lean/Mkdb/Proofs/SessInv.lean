import Mkdb.Proofs.BaseCase
import Mkdb.Proofs.SessionStep
import Mkdb.Proofs.StoredSelect
/-!
The invariant of a session (`SessAbs`, `SessInv`).  `Session.exec` keeps it for every statement, accepted or
refused, with or without a selected database, and does not return `Out.panic`; databases other than the
selected one (for CREATE DATABASE: other than the new one) keep their plain database; `USE` changes no plain
database at all.  The session model EVALUATES a SELECT (`Exec.evaluateSelect` on `fetchOfDB` of the selected
database): that the evaluation does not panic comes from `select_on_stored_never_panics` (StoredSelect) under
`DbInv` of the selected database.  Then `Session.restart` - close (flush) the selected database, run start-up
recovery on every database, re-open: no recovery fails, and the session abstracts to the same plain databases.
-/

section
set_option autoImplicit false
namespace Mkdb.Session
open Mkdb.Engine Mkdb.Store Mkdb.Sql Mkdb.Tree

/-! ### the invariant -/

/-- **The session `s` abstracts to the plain databases `w`** (one per database name): every database of
the session satisfies the invariant `DbInv` for its plain database `w name`, every database other than the
selected one is closed (`DbFlushed`: `USE` closes the database it leaves, `CREATE DATABASE` installs a
closed one), the selected name - if any - is a database of the session, names are distinct. -/
structure SessAbs (s : Sess) (w : String → Spec.SDB) : Prop where
  dbs : ∀ p ∈ s.dbs, ∃ pt sch tbls, DbInv p.2 (w p.1) pt sch tbls ∧
    (s.cur ≠ some p.1 → DbFlushed p.2 (w p.1) pt sch tbls)
  cur : ∀ n, s.cur = some n → (getDB s n).isSome
  nodup : (names s).Nodup

/-- the invariant of a session: it abstracts to some plain databases -/
def SessInv (s : Sess) : Prop := ∃ w, SessAbs s w

/-- the side condition of a SELECT (none for the other statements): the select list has a shape the
parser builds - `*` alone, or no leading `*`: the shape hypothesis of `C18_no_panic_partial`, which
`C18_parsed_select_has_the_shape` discharges for every parsed statement - and the
FROM clause names neither `sys_pages` nor `sys_schema` (`UserTables`) -/
def SelectSide : Sql.Stmt → Prop
  | .select q => (Exec.NoPanicP.ParsedShape q) ∧ UserTables q
  | _ => True

/-- the side conditions of the statement-level theorems (`StmtNames`, `StmtRoomT`, `StmtLits`, and for a
SELECT `SelectSide`), for the selected database under whatever catalog description it has (none for the
statements that are not routed to it, and none when no database is selected) -/
def StmtSide (s : Sess) (st : Sql.Stmt) : Prop :=
  ∀ n db, s.cur = some n → getDB s n = some db → ∀ sdb pt sch tbls, DbInv db sdb pt sch tbls →
    StmtNames pt tbls st ∧ StmtRoomT db pt sch tbls st ∧ StmtLits st ∧ SelectSide st

theorem sessAbs_empty (w : String → Spec.SDB) : SessAbs {} w where
  dbs := fun p hp => absurd hp List.not_mem_nil
  cur := fun n hn => by cases hn
  nodup := List.nodup_nil

theorem dbFlushed_newDB : DbFlushed newDB [] ptNew schNew [] := ckpt_newDB.dbFlushed noStale_new

/-- the plain databases `w` with the one of the name `n` replaced by `sdb` -/
def setW (w : String → Spec.SDB) (n : String) (sdb : Spec.SDB) : String → Spec.SDB :=
  fun m => if m = n then sdb else w m

theorem setW_same (w : String → Spec.SDB) (n : String) (sdb : Spec.SDB) : setW w n sdb n = sdb := by simp [setW]
theorem setW_other (w : String → Spec.SDB) {n m : String} (sdb : Spec.SDB) (h : m ≠ n) : setW w n sdb m = w m := by
  simp [setW, h]

theorem setW_self (w : String → Spec.SDB) (n : String) : setW w n (w n) = w := by
  funext m
  unfold setW
  split
  · rename_i hm; rw [hm]
  · rfl

/-! ### `SessAbs` in the terms of `Holds` -/

/-- what `SessAbs s w` asks of every database -/
def InvAt (w : String → Spec.SDB) (n : String) (db : DB) : Prop := ∃ pt sch tbls, DbInv db (w n) pt sch tbls

/-- what `SessAbs s w` asks of a database that is not selected -/
def FlushedAt (w : String → Spec.SDB) (n : String) (db : DB) : Prop := ∃ pt sch tbls, DbFlushed db (w n) pt sch tbls

theorem FlushedAt.inv {w : String → Spec.SDB} (n : String) (db : DB) (h : FlushedAt w n db) : InvAt w n db := by
  obtain ⟨pt, sch, tbls, hk⟩ := h
  exact ⟨pt, sch, tbls, hk.inv⟩

theorem SessAbs.wf {s : Sess} {w : String → Spec.SDB} (h : SessAbs s w) : Wf s := ⟨h.cur, h.nodup⟩

theorem SessAbs.holds {s : Sess} {w : String → Spec.SDB} (h : SessAbs s w) : Holds (InvAt w) (FlushedAt w) s false := by
  refine ⟨fun p hp => ?_, fun p hp hc => ?_⟩
  · obtain ⟨pt, sch, tbls, hi, _⟩ := h.dbs p hp
    exact ⟨pt, sch, tbls, hi⟩
  · obtain ⟨pt, sch, tbls, _, hk⟩ := h.dbs p hp
    exact ⟨pt, sch, tbls, hk (hc.resolve_right (by simp))⟩

theorem SessAbs.of_holds {s : Sess} {w : String → Spec.SDB} {clean : Bool} (hw : Wf s)
    (h : Holds (InvAt w) (FlushedAt w) s clean) : SessAbs s w := by
  refine ⟨fun p hp => ?_, hw.cur, hw.nodup⟩
  by_cases hc : s.cur = some p.1
  · obtain ⟨pt, sch, tbls, hi⟩ := h.all p hp
    exact ⟨pt, sch, tbls, hi, fun hx => absurd hc hx⟩
  · obtain ⟨pt, sch, tbls, hk⟩ := h.closed p hp (.inl hc)
    exact ⟨pt, sch, tbls, hk.inv, fun _ => hk⟩

theorem setW_frame (w : String → Spec.SDB) (n : String) (sdb : Spec.SDB) (m : String) (db : DB) (h : m ≠ n) :
    (InvAt w m db → InvAt (setW w n sdb) m db) ∧ (FlushedAt w m db → FlushedAt (setW w n sdb) m db) := by
  unfold InvAt FlushedAt
  rw [setW_other w sdb h]
  exact ⟨id, id⟩

theorem SessAbs.setCur {s : Sess} {w : String → Spec.SDB} (h : SessAbs s w) {n : String} (hc : s.cur = some n)
    {db' : DB} {sdb' : Spec.SDB} {pt sch : Levels} {tbls : List (Bytes × Levels)} (hi : DbInv db' sdb' pt sch tbls) :
    SessAbs (setDB s n db') (setW w n sdb') :=
  .of_holds (h.wf.setDB n db') (h.holds.set (clean' := false) (setW_frame w n sdb')
    ⟨pt, sch, tbls, by rw [setW_same]; exact hi⟩ (fun hx => hx.elim (absurd hc) fun hx => by cases hx) .inl)

theorem SessAbs.addNew {s : Sess} {w : String → Spec.SDB} (h : SessAbs s w) (n : String) :
    SessAbs (setDB s n newDB) (setW w n []) :=
  .of_holds (h.wf.setDB n newDB) (h.holds.set (setW_frame w n [])
    ⟨ptNew, schNew, [], by rw [setW_same]; exact dbFlushed_newDB.inv⟩
    (fun _ => ⟨ptNew, schNew, [], by rw [setW_same]; exact dbFlushed_newDB⟩) .inl)

/-! ### the steps the invariant excludes, and the flush of USE -/

theorem SessAbs.cur_inv {s : Sess} {w : String → Spec.SDB} (h : SessAbs s w) {n : String} {db : DB}
    (hg : getDB s n = some db) : InvAt w n db := h.holds.all (n, db) (getDB_mem hg)

theorem SessAbs.not_lost {s : Sess} {w : String → Spec.SDB} (h : SessAbs s w) {c : String} (hc : s.cur = some c)
    (hg : getDB s c = none) : False := by
  have := h.cur c hc
  rw [hg] at this
  cases this

theorem SessAbs.selected {s : Sess} {w : String → Spec.SDB} (h : SessAbs s w) {n : String} (hc : s.cur = some n) :
    ∃ db pt sch tbls, getDB s n = some db ∧ (n, db) ∈ s.dbs ∧ DbInv db (w n) pt sch tbls := by
  cases hg : getDB s n with
  | none => exact (h.not_lost hc hg).elim
  | some db =>
    obtain ⟨pt, sch, tbls, hi⟩ := h.cur_inv hg
    exact ⟨db, pt, sch, tbls, rfl, getDB_mem hg, hi⟩

theorem SessAbs.flushed {s : Sess} {w : String → Spec.SDB} (h : SessAbs s w) {c : String} {db db' : DB}
    (hg : getDB s c = some db) (hf : flush db [] = .ok () db') : FlushedAt w c db' ∧ FlushedAt w c (closed db') := by
  obtain ⟨pt, sch, tbls, hi⟩ := h.cur_inv hg
  rw [flush_flushed] at hf
  cases hf
  exact ⟨⟨_, _, _, hi.flushed []⟩, _, _, _, (hi.flushed []).reopen⟩

theorem SessAbs.not_unclosed {s : Sess} {w : String → Spec.SDB} (h : SessAbs s w) {c : String} (hc : s.cur = some c)
    (hbad : getDB s c = none ∨ ∃ db, getDB s c = some db ∧ ∀ db', flush db [] ≠ .ok () db') : False := by
  rcases hbad with hg | ⟨db, hg, hf⟩
  · exact h.not_lost hc hg
  · exact hf _ (flush_flushed db [])

/-- **USE keeps the invariant and changes no plain database**: the database it leaves is flushed and
re-opened (a closed database for the same plain database), the one it selects was closed. -/
theorem use_sessAbs {s : Sess} {w : String → Spec.SDB} (h : SessAbs s w) (name : Bytes) :
    SessAbs (exec s (.use name)).1 w ∧ (exec s (.use name)).2 ≠ .panic := by
  obtain ⟨s', out, e, hstep⟩ := exec_cases s (.use name)
  rw [e]
  have hwf := hstep.wf h.wf
  cases hstep with
  | refused _ _ => exact ⟨h, by simp⟩
  | used _ hn hc => exact ⟨.of_holds hwf (h.holds.used hc), by simp⟩
  | switched _ hn hc hne hg hf => exact ⟨.of_holds hwf (h.holds.switched hc (h.flushed hg hf).2 FlushedAt.inv), by simp⟩
  | lost _ hc hg => exact (h.not_lost hc hg).elim
  | ran _ hr _ _ _ => cases hr
  | stuck _ hr _ _ _ _ => cases hr
  | unclosed _ _ hc _ hbad => exact (h.not_unclosed hc hbad).elim

/-- **CREATE DATABASE keeps the invariant**: refused (invalid or empty name, name taken) it changes
nothing; accepted it adds a closed database for the empty plain database under the canonical name. -/
theorem createDatabase_sessAbs {s : Sess} {w : String → Spec.SDB} (h : SessAbs s w) (name : Bytes) :
    ∃ w', SessAbs (exec s (.createDatabase name)).1 w' ∧ (exec s (.createDatabase name)).2 ≠ .panic ∧
      (∀ m, (getDB s m).isSome = true → w' m = w m) ∧
      ((exec s (.createDatabase name)).2 = .ok → w' = setW w (canon name) []) := by
  obtain ⟨s', out, e, hstep⟩ := exec_cases s (.createDatabase name)
  rw [e]
  cases hstep with
  | refused _ _ => exact ⟨w, h, by simp, fun _ _ => rfl, fun hx => by cases hx⟩
  | created _ hn =>
    refine ⟨_, h.addNew (canon name), by simp, fun m hm => setW_other w _ fun heq => ?_, fun _ => rfl⟩
    rw [heq, hn] at hm
    cases hm
  | lost _ hc hg => exact (h.not_lost hc hg).elim
  | ran _ hr _ _ _ => cases hr
  | stuck _ hr _ _ _ _ => cases hr

theorem routed_sessAbs {s : Sess} {w : String → Spec.SDB} (h : SessAbs s w) (st : Sql.Stmt) (hr : isRouted st = true)
    (hside : StmtSide s st) :
    ∃ w', SessAbs (exec s st).1 w' ∧ (exec s st).2 ≠ .panic ∧ ∀ m, s.cur ≠ some m → w' m = w m := by
  have hkeep : ∀ n db, s.cur = some n → getDB s n = some db → KeepsInv (evalStmt db [] st) := by
    intro n db hc hg
    obtain ⟨pt, sch, tbls, hi⟩ := h.cur_inv hg
    obtain ⟨hnames, hroom, hlits, _⟩ := hside n db hc hg _ pt sch tbls hi
    exact evalStmt_keeps_inv db [] _ pt sch tbls hi st hnames hroom hlits
  obtain ⟨s', out, e, hstep⟩ := exec_cases s st
  rw [e]
  cases hstep with
  | refused _ _ => exact ⟨w, h, by simp, fun _ _ => rfl⟩
  | @ran _ _ n db db' hc hg out hres =>
    obtain ⟨sdb', pt', sch', tbls', hi'⟩ := (hkeep n db hc hg).inv (hres.imp (·.1) fun ⟨x, hx, _⟩ => ⟨x, hx⟩)
    refine ⟨setW w n sdb', h.setCur hc hi', ?_, fun m hm => setW_other w sdb' fun heq => hm (by rw [hc, heq])⟩
    rcases hres with ⟨_, rfl⟩ | ⟨x, _, rfl⟩ <;> simp
  | lost _ hc hg => exact (h.not_lost hc hg).elim
  | stuck _ _ hc hg h1 h2 => exact ((hkeep _ _ hc hg).total h1 h2).elim
  | shown => cases hr
  | selected _ _ _ => cases hr
  | created _ _ => cases hr
  | used _ _ _ => cases hr
  | switched _ _ _ _ _ _ => cases hr
  | unclosed _ _ _ _ _ => cases hr

/-- **An accepted statement**: a routed statement the plain model accepts (with room) succeeds, and the selected
database then holds exactly the plain model's result (`exec_sessAbs` says only `∃ w'`). -/
theorem accepted_sessAbs {s : Sess} {w : String → Spec.SDB} (h : SessAbs s w) {n : String} (hc : s.cur = some n)
    {db : DB} (hg : getDB s n = some db) {st : Sql.Stmt} (hr : isRouted st = true)
    (hroom : ∀ pt sch tbls, DbInv db (w n) pt sch tbls → StmtRoom db pt sch tbls st)
    {sdb' : Spec.SDB} (hspec : Spec.specStmt (w n) st = some sdb') :
    (exec s st).2 = Out.ok ∧ SessAbs (exec s st).1 (setW w n sdb') := by
  obtain ⟨pt, sch, tbls, hi⟩ := h.cur_inv hg
  obtain ⟨db', pt', sch', tbls', e, hi'⟩ := hi.accepted [] st (hroom pt sch tbls hi) sdb' hspec
  rw [exec_routed_ok hr hc hg e]
  exact ⟨rfl, h.setCur hc hi'⟩

theorem fetchOfDB_eq (db : DB) : fetchOfDB db = fetchOf db := rfl

theorem exec_select_fst (s : Sess) (q : Sql.Select) : (exec s (.select q)).1 = s := by
  obtain ⟨s', out, e, hstep⟩ := exec_cases s (.select q)
  rw [e]
  cases hstep with
  | ran _ hr _ _ _ => cases hr
  | stuck _ hr _ _ _ _ => cases hr
  | _ => rfl

theorem exec_select_cur {s : Sess} {n : String} {db : DB} (hc : s.cur = some n) (hg : getDB s n = some db)
    (q : Sql.Select) : exec s (.select q) = (s, selectOut (Exec.evaluateSelect (fetchOf db) q)) :=
  exec_select hc hg q

theorem exec_select_no_panic {s : Sess} (hcur : ∀ n, s.cur = some n → (getDB s n).isSome) (q : Sql.Select)
    (hnp : ∀ n db, s.cur = some n → getDB s n = some db → ∀ x, Exec.evaluateSelect (fetchOf db) q ≠ .panic x) :
    (exec s (.select q)).1 = s ∧ (exec s (.select q)).2 ≠ .panic := by
  obtain ⟨s', out, e, hstep⟩ := exec_cases s (.select q)
  rw [e]
  cases hstep with
  | refused _ _ => exact ⟨rfl, fun hx => by cases hx⟩
  | selected _ hc hg => exact ⟨rfl, selectOut_ne_panic (hnp _ _ hc hg)⟩
  | lost _ hc hg =>
    have := hcur _ hc
    rw [hg] at this
    cases this
  | ran _ hr _ _ _ => cases hr
  | stuck _ hr _ _ _ _ => cases hr

/-- **SELECT keeps the session as it is and does not return `Out.panic`**: with no database selected it
is refused; with a database selected the evaluation runs on a database that satisfies `DbInv`, where a
SELECT of a parser-produced shape over user tables never panics (`select_on_stored_never_panics`). -/
theorem select_sessAbs {s : Sess} {w : String → Spec.SDB} (h : SessAbs s w) (q : Sql.Select)
    (hside : StmtSide s (.select q)) :
    (exec s (.select q)).1 = s ∧ (exec s (.select q)).2 ≠ .panic :=
  exec_select_no_panic h.cur q fun n db hc hg => by
    obtain ⟨pt, sch, tbls, hi⟩ := h.cur_inv hg
    obtain ⟨_, _, _, hq, hn⟩ := hside n db hc hg _ pt sch tbls hi
    exact (select_on_stored_never_panics hi.abs q hq hn).2.1

/-- **`Session.exec` keeps the invariant, for every statement kind**, accepted or refused, with or
without a selected database; it never returns `Out.panic`; and the plain database of every database
other than the selected one is the same afterwards. -/
theorem exec_sessAbs {s : Sess} {w : String → Spec.SDB} (h : SessAbs s w) (st : Sql.Stmt) (hside : StmtSide s st) :
    ∃ w', SessAbs (exec s st).1 w' ∧ (exec s st).2 ≠ .panic ∧
      ∀ m, s.cur ≠ some m → (getDB s m).isSome = true → w' m = w m := by
  cases st with
  | createDatabase n =>
    obtain ⟨w', h1, h2, h3, _⟩ := createDatabase_sessAbs h n
    exact ⟨w', h1, h2, fun m _ hm => h3 m hm⟩
  | use n =>
    obtain ⟨h1, h2⟩ := use_sessAbs h n
    exact ⟨w, h1, h2, fun _ _ _ => rfl⟩
  | showDatabases => exact ⟨w, h, by simp [exec], fun _ _ _ => rfl⟩
  | select q =>
    obtain ⟨h1, h2⟩ := select_sessAbs h q hside
    exact ⟨w, by rw [h1]; exact h, h2, fun _ _ _ => rfl⟩
  | createTable n c => exact (routed_sessAbs h _ rfl hside).imp fun w' ⟨h1, h2, h3⟩ => ⟨h1, h2, fun m hm _ => h3 m hm⟩
  | insert t c r => exact (routed_sessAbs h _ rfl hside).imp fun w' ⟨h1, h2, h3⟩ => ⟨h1, h2, fun m hm _ => h3 m hm⟩
  | update t a c => exact (routed_sessAbs h _ rfl hside).imp fun w' ⟨h1, h2, h3⟩ => ⟨h1, h2, fun m hm _ => h3 m hm⟩
  | delete t c => exact (routed_sessAbs h _ rfl hside).imp fun w' ⟨h1, h2, h3⟩ => ⟨h1, h2, fun m hm _ => h3 m hm⟩

end Mkdb.Session
end

section
set_option autoImplicit false
namespace Mkdb.Session
open Mkdb.Engine Mkdb.Store Mkdb.Sql Mkdb.Tree

theorem FlushedAt.recover {w : String → Spec.SDB} {n : String} {db : DB} (h : FlushedAt w n db) :
    ∃ r, recover db [] [] = .ok r ∧ FlushedAt w n (closed r) := by
  obtain ⟨pt, sch, tbls, hk⟩ := h
  obtain ⟨r, e, _, hk'⟩ := hk.recover [] []
  exact ⟨r, e, pt, sch, tbls, hk'.reopen⟩

theorem restart_sessAbs {s : Sess} {w : String → Spec.SDB} (h : SessAbs s w) :
    ∃ s', restart s = some s' ∧ SessAbs s' w ∧ names s' = names s ∧ s'.cur = none ∧
      ∀ p ∈ s'.dbs, ∃ pt sch tbls, DbFlushed p.2 (w p.1) pt sch tbls := by
  have hall : ∀ p ∈ (closeCur s).dbs, FlushedAt w p.1 p.2 := fun p hp => by
    rcases mem_closeCur hp with ⟨hp', hc | ⟨c, db, hc, hg, hf⟩⟩ | ⟨db, hc, hg, hf⟩
    · exact h.holds.closed p hp' (.inl hc)
    · exact (h.not_unclosed hc (.inr ⟨db, hg, hf⟩)).elim
    · exact (h.flushed hg hf).1
  obtain ⟨l', e⟩ := recoverEvery_some _ fun p hp => (hall p hp).recover.imp fun _ hr => hr.1
  obtain ⟨hn, hl⟩ := recoverEvery_all (P := FlushedAt w) (R := FlushedAt w) (fun n db r hk hr => by
    obtain ⟨r', e', hk'⟩ := hk.recover
    rw [hr] at e'
    cases e'
    exact hk') _ l' hall e
  have hn' : names { dbs := l', cur := none } = names s := hn.trans (names_closeCur s)
  refine ⟨{ dbs := l', cur := none }, by rw [restart_eq, e]; rfl, ?_, hn', rfl, hl⟩
  exact .of_holds ⟨fun _ hc => (by cases hc), by rw [hn']; exact h.nodup⟩ (clean := true)
    ⟨fun p hp => FlushedAt.inv _ _ (hl p hp), fun p hp _ => hl p hp⟩

/-- the side conditions of the statement-level theorems along a history -/
def SessOK : Sess → List Sql.Stmt → Prop
  | _, [] => True
  | s, st :: rest => StmtSide s st ∧ SessOK (exec s st).1 rest

end Mkdb.Session
end
