import Mkdb.Proofs.RoundtripRender
/-!
# A property of every token of a rendered statement

`renderStmt o s` is made of four kinds of token: keywords and punctuation from a fixed set (`renderKws`),
the names of `s` (`I b`), its literals (`o.lit l`) and the operators of its comparisons (`K o p.op`).
`stmtAll idOK litOK opOK s` says that every name, literal and operator of `s` passes the given test;
`all_renderStmt`: if a token property `P` holds of the keywords and of the names, literals and
operators that pass (`TokP`), it holds of every token of the rendered statement.  The productions of
`renderStmt` are walked here once, for any `P`.

A new part of the syntax tree is entered in the walk `…All` here and in its step of `all_renderStmt`; in the
written-out copy `…TextOK` with its `…TextOK_eq` (`Proofs/StmtTextCovered`: `stmtTextOK` and the tests below
it are the names the end results mention, and equal `stmtAll identOK litTextOK (kwTys.contains ·)`); and in
the `…All_of_wf` lemma of `Proofs/TypedStmtSession`.
-/
namespace Mkdb.Sql
open Mkdb.Scan Mkdb.Generated

/-- the keyword and punctuation tokens `renderStmt` writes of its own accord (no `;`; comparison operators
come from the statement) -/
def renderKws : List Int := [t_AND, t_AS, t_ASC, t_ASTRSK, t_AVG, t_BY, t_COMMA, t_COUNT, t_CREATE, t_DATABASE,
  t_DELETE, t_DESC, t_DOT, t_EQ, t_FROM, t_GROUP, t_INNER, t_INSERT, t_INTO, t_JOIN, t_LEFT, t_LIMIT, t_LPAREN,
  t_OFFSET, t_ON, t_OR, t_ORDER, t_RIGHT, t_RPAREN, t_SELECT, t_SET, t_SHOW, t_TABLE, t_T_BIGINT, t_T_BOOL, t_T_INT,
  t_T_VARCHAR, t_UPDATE, t_USE, t_VALUES, t_WHERE]

/-! ## Every name, literal and comparison operator of a statement passes a test -/

section
variable (idOK : Bytes → Bool) (litOK : Lit → Bool) (opOK : Int → Bool)

/-- an optional name (`[]` = absent) -/
def optIdAll (b : Bytes) : Bool := b.isEmpty || idOK b
def colAll (c : ColRef) : Bool := optIdAll idOK c.qual && idOK c.name
def veAll : VExpr → Bool
  | .lit l => litOK l
  | .col c => colAll idOK c
def predAll (p : Pred) : Bool := opOK p.op && veAll idOK litOK p.lhs && veAll idOK litOK p.rhs
def condAll : Cond → Bool
  | .val v => veAll idOK litOK v
  | .pred p => predAll idOK litOK opOK p
  | .and p r => predAll idOK litOK opOK p && condAll r
  | .or l r => condAll l && condAll r
def itemAll : SelItem → Bool
  | .star => true
  | .count none => true
  | .count (some c) => colAll idOK c
  | .avg c => colAll idOK c
  | .expr c => condAll idOK litOK opOK c
def dcAll (d : DerivedCol) : Bool := itemAll idOK litOK opOK d.item && optIdAll idOK d.alias
def tnAll (t : TableName) : Bool :=
  idOK t.name && (match t.alias with | none => true | some a => idOK a)
def trAll : TableRef → Bool
  | .table t => tnAll idOK t
  | .join l _ r on => trAll l && tnAll idOK r && condAll idOK litOK opOK on
def optCondAll : Option Cond → Bool
  | none => true
  | some c => condAll idOK litOK opOK c
def selectAll (s : Select) : Bool :=
  s.list.all (dcAll idOK litOK opOK) && (match s.from_ with | none => true | some tr => trAll idOK litOK opOK tr) &&
    optCondAll idOK litOK opOK s.where_ && s.groupBy.all (colAll idOK) && s.orderBy.all (fun k => colAll idOK k.key)

def stmtAll : Stmt → Bool
  | .createDatabase n => idOK n
  | .createTable n cols => optIdAll idOK n && cols.all (fun c => idOK c.name)
  | .select s => selectAll idOK litOK opOK s
  | .insert t cols rows => idOK t && cols.all idOK && rows.all (fun r => r.all litOK)
  | .update t sets w => idOK t && sets.all (fun a => idOK a.1 && veAll idOK litOK a.2) && optCondAll idOK litOK opOK w
  | .delete t w => idOK t && optCondAll idOK litOK opOK w
  | .use db => idOK db
  | .showDatabases => true

end

/-- The token property `P` holds of what `renderStmt o` writes: of its keywords, of a name, a literal, a
comparison operator that passes its test, of every integer literal (LIMIT, OFFSET, `VARCHAR(n)`) and of
the word `databases` in any letter case. -/
structure TokP (o : ROpts) (P : Token → Bool) (idOK : Bytes → Bool) (litOK : Lit → Bool) (opOK : Int → Bool) : Prop where
  kw : ∀ x, renderKws.contains x = true → P (K o x) = true
  id : ∀ b, idOK b = true → P (I b) = true
  lit : ∀ l, litOK l = true → P (o.lit l) = true
  op : ∀ x, opOK x = true → P (K o x) = true
  int : ∀ n : Int, P (o.lit (.int n)) = true
  dbs : ∀ b, asciiLower b = databasesBytes → P (I b) = true

/-! ## The walk -/

theorem all_tokSep {α} {P : Token → Bool} (tk : Nat → α → List Token) (comma : Token) (hc : P comma = true) (xs : List α) :
    ∀ i, (∀ j x, x ∈ xs → (tk j x).all P = true) → (tokSep tk comma i xs).all P = true := by
  induction xs with
  | nil => intro i _; rfl
  | cons x r ih =>
    intro i h
    cases r with
    | nil => exact h i x (List.mem_cons_self ..)
    | cons y r' =>
      simp only [tokSep, List.all_append, List.all_cons, hc, Bool.true_and, Bool.and_eq_true]
      exact ⟨h i x (List.mem_cons_self ..), ih (i + 1) (fun j z hz => h j z (List.mem_cons_of_mem _ hz))⟩

section
variable {o : ROpts} {P : Token → Bool} {idOK : Bytes → Bool} {litOK : Lit → Bool} {opOK : Int → Bool}
  (hP : TokP o P idOK litOK opOK)
include hP

theorem all_optId (b : Bytes) (hne : ¬ b.isEmpty = true) (h : optIdAll idOK b = true) : P (I b) = true := by
  simp only [optIdAll, Bool.or_eq_true] at h
  exact hP.id b (h.resolve_left hne)

theorem all_tokCol (c : ColRef) (h : colAll idOK c = true) : (tokCol o c).all P = true := by
  simp only [colAll, Bool.and_eq_true] at h
  unfold tokCol
  split
  · simp only [List.all_cons, List.all_nil, Bool.and_true]; exact hP.id _ h.2
  · rename_i hq
    simp (disch := decide +kernel) only [List.all_cons, List.all_nil, Bool.and_true, hP.kw, Bool.true_and, Bool.and_eq_true]
    exact ⟨all_optId hP _ hq h.1, hP.id _ h.2⟩

theorem all_tokVE (v : VExpr) (h : veAll idOK litOK v = true) : (tokVE o v).all P = true := by
  cases v with
  | lit l => simp only [tokVE, List.all_cons, List.all_nil, Bool.and_true]; exact hP.lit l h
  | col c => exact all_tokCol hP c h

theorem all_tokPr (p : Pred) (h : predAll idOK litOK opOK p = true) : (tokPr o p).all P = true := by
  simp only [predAll, Bool.and_eq_true] at h
  simp only [tokPr, List.all_append, List.all_cons, Bool.and_eq_true]
  exact ⟨all_tokVE hP _ h.1.2, hP.op _ h.1.1, all_tokVE hP _ h.2⟩

theorem all_tokCond (c : Cond) (h : condAll idOK litOK opOK c = true) : (tokCond o c).all P = true := by
  induction c with
  | val v => exact all_tokVE hP v h
  | pred p => exact all_tokPr hP p h
  | and p r ih =>
    simp only [condAll, Bool.and_eq_true] at h
    simp (disch := decide +kernel) only [tokCond, List.all_append, List.all_cons, hP.kw, Bool.true_and, Bool.and_eq_true]
    exact ⟨all_tokPr hP p h.1, ih h.2⟩
  | or l r ihl ihr =>
    simp only [condAll, Bool.and_eq_true] at h
    simp (disch := decide +kernel) only [tokCond, List.all_append, List.all_cons, hP.kw, Bool.true_and, Bool.and_eq_true]
    exact ⟨ihl h.1, ihr h.2⟩

theorem all_tokItem (it : SelItem) (h : itemAll idOK litOK opOK it = true) : (tokItem o it).all P = true := by
  cases it with
  | star => simp (disch := decide +kernel) only [tokItem, List.all_cons, List.all_nil, hP.kw, Bool.and_self]
  | count c =>
    cases c with
    | none => simp (disch := decide +kernel) only [tokItem, List.all_cons, List.all_nil, hP.kw, Bool.and_self]
    | some c =>
      simp (disch := decide +kernel) only [tokItem, List.all_cons, List.all_append, List.all_nil, hP.kw, Bool.and_true, Bool.true_and]
      exact all_tokCol hP c h
  | avg c =>
    simp (disch := decide +kernel) only [tokItem, List.all_cons, List.all_append, List.all_nil, hP.kw, Bool.and_true, Bool.true_and]
    exact all_tokCol hP c h
  | expr c => exact all_tokCond hP c h

theorem all_tokAlias (i : Nat) (a : Bytes) (h : optIdAll idOK a = true) : (tokAlias o i a).all P = true := by
  unfold tokAlias
  split
  · rfl
  · rename_i ha
    have ha' := all_optId hP a ha h
    split
    · simp (disch := decide +kernel) only [List.all_cons, List.all_nil, hP.kw, Bool.and_true, Bool.true_and]; exact ha'
    · simp only [List.all_cons, List.all_nil, Bool.and_true]; exact ha'

theorem all_tokDC (i : Nat) (d : DerivedCol) (h : dcAll idOK litOK opOK d = true) : (tokDC o i d).all P = true := by
  simp only [dcAll, Bool.and_eq_true] at h
  simp only [tokDC, List.all_append, Bool.and_eq_true]
  exact ⟨all_tokItem hP _ h.1, all_tokAlias hP i _ h.2⟩

theorem all_tokSelList (sl : List DerivedCol) (h : sl.all (dcAll idOK litOK opOK) = true) :
    (tokSelList o sl).all P = true := by
  unfold tokSelList
  split
  · simp (disch := decide +kernel) only [List.all_cons, List.all_nil, hP.kw, Bool.and_self]
  · exact all_tokSep _ _ (hP.kw _ (by decide +kernel)) sl 0 (fun j x hx => all_tokDC hP j x (List.all_eq_true.mp h x hx))

theorem all_tokTN (t : TableName) (h : tnAll idOK t = true) : (tokTN t).all P = true := by
  obtain ⟨n, a⟩ := t
  simp only [tnAll, Bool.and_eq_true] at h
  cases a with
  | none => simp only [tokTN, List.all_cons, List.all_nil, Bool.and_true]; exact hP.id _ h.1
  | some a => simp only [tokTN, List.all_cons, List.all_nil, Bool.and_true, Bool.and_eq_true]; exact ⟨hP.id _ h.1, hP.id _ h.2⟩

theorem all_tokJoinKw (i : Nat) (jt : JoinType) : (tokJoinKw o i jt).all P = true := by
  cases jt <;> simp (disch := decide +kernel) only [tokJoinKw, List.all_cons, List.all_nil, hP.kw, Bool.and_self]
  split <;> simp (disch := decide +kernel) only [List.all_cons, List.all_nil, hP.kw, Bool.and_self]

theorem all_tokJoins (js : List JoinSpec) :
    ∀ i, (∀ j ∈ js, tnAll idOK j.2.1 = true ∧ condAll idOK litOK opOK j.2.2 = true) → (tokJoins o i js).all P = true := by
  induction js with
  | nil => intro i _; rfl
  | cons j js ih =>
    intro i h
    obtain ⟨h1, h2⟩ := h j (List.mem_cons_self ..)
    simp (disch := decide +kernel) only [tokJoins, List.all_append, List.all_cons, hP.kw, Bool.true_and, Bool.and_eq_true]
    exact ⟨⟨⟨all_tokJoinKw hP i _, all_tokTN hP _ h1⟩, all_tokCond hP _ h2⟩,
      ih (i + 1) (fun j' hj' => h j' (List.mem_cons_of_mem _ hj'))⟩

omit hP in
/-- a FROM clause in the form `renderStmt` writes it: the first table, then the joins -/
theorem trAll_parts (tr : TableRef) :
    trAll idOK litOK opOK tr = true ↔
      tnAll idOK tr.base = true ∧ ∀ j ∈ tr.joins, tnAll idOK j.2.1 = true ∧ condAll idOK litOK opOK j.2.2 = true := by
  induction tr with
  | table t => simp [trAll, TableRef.base, TableRef.joins]
  | join l jt r on ih =>
    simp only [trAll, Bool.and_eq_true, ih, TableRef.base, TableRef.joins, List.mem_append, List.mem_singleton]
    constructor
    · rintro ⟨⟨⟨h1, h2⟩, h3⟩, h4⟩
      exact ⟨h1, fun j hj => hj.elim (h2 j) (fun e => e ▸ ⟨h3, h4⟩)⟩
    · rintro ⟨h1, h2⟩
      exact ⟨⟨⟨h1, fun j hj => h2 j (.inl hj)⟩, (h2 _ (.inr rfl)).1⟩, (h2 _ (.inr rfl)).2⟩

theorem all_tokFrom (tr : TableRef) (h : trAll idOK litOK opOK tr = true) : (tokFrom o (some tr)).all P = true := by
  obtain ⟨h1, h2⟩ := (trAll_parts tr).mp h
  simp (disch := decide +kernel) only [tokFrom, List.all_cons, List.all_append, hP.kw, Bool.true_and, Bool.and_eq_true]
  exact ⟨all_tokTN hP _ h1, all_tokJoins hP _ 0 h2⟩

theorem all_tokWhere (w : Option Cond) (h : optCondAll idOK litOK opOK w = true) : (tokWhere o w).all P = true := by
  cases w with
  | none => rfl
  | some c =>
    simp (disch := decide +kernel) only [tokWhere, List.all_cons, hP.kw, Bool.true_and]
    exact all_tokCond hP c h

theorem all_tokGBCols (gb : List ColRef) : ∀ i, gb.all (colAll idOK) = true → (tokGBCols o i gb).all P = true := by
  induction gb with
  | nil => intro i _; rfl
  | cons c r ih =>
    intro i h
    simp only [List.all_cons, Bool.and_eq_true] at h
    cases r with
    | nil => exact all_tokCol hP c h.1
    | cons d r' =>
      simp only [tokGBCols, List.all_append, Bool.and_eq_true]
      refine ⟨⟨all_tokCol hP c h.1, ?_⟩, ih (i + 1) h.2⟩
      split
      · simp (disch := decide +kernel) only [List.all_cons, List.all_nil, hP.kw, Bool.and_self]
      · rfl

theorem all_tokGroupBy (gb : List ColRef) (h : gb.all (colAll idOK) = true) : (tokGroupBy o gb).all P = true := by
  unfold tokGroupBy
  split
  · split
    · simp (disch := decide +kernel) only [List.all_cons, List.all_nil, hP.kw, Bool.and_self]
    · rfl
  · simp (disch := decide +kernel) only [List.all_cons, hP.kw, Bool.true_and]
    exact all_tokGBCols hP gb 0 h

theorem all_tokSort (i : Nat) (s : SortSpec) (h : colAll idOK s.key = true) : (tokSort o i s).all P = true := by
  simp only [tokSort, List.all_append, Bool.and_eq_true]
  refine ⟨all_tokCol hP _ h, ?_⟩
  split
  · simp (disch := decide +kernel) only [List.all_cons, List.all_nil, hP.kw, Bool.and_self]
  · split
    · simp (disch := decide +kernel) only [List.all_cons, List.all_nil, hP.kw, Bool.and_self]
    · rfl

theorem all_tokOrderBy (ob : List SortSpec) (h : ob.all (fun k => colAll idOK k.key) = true) :
    (tokOrderBy o ob).all P = true := by
  unfold tokOrderBy
  split
  · rfl
  · simp (disch := decide +kernel) only [List.all_cons, hP.kw, Bool.true_and]
    exact all_tokSep _ _ (hP.kw _ (by decide +kernel)) ob 0 (fun j x hx => all_tokSort hP j x (List.all_eq_true.mp h x hx))

theorem all_tokLimit (l : LimitOffset) : (tokLimit o l).all P = true := by
  have h1 : (if l.limitActive then [K o t_LIMIT, o.lit (.int l.limit)] else []).all P = true := by
    split
    · simp (disch := decide +kernel) only [List.all_cons, List.all_nil, hP.kw, hP.int, Bool.and_self]
    · rfl
  have h2 : (if l.offsetActive then [K o t_OFFSET, o.lit (.int l.offset)] else []).all P = true := by
    split
    · simp (disch := decide +kernel) only [List.all_cons, List.all_nil, hP.kw, hP.int, Bool.and_self]
    · rfl
  simp only [tokLimit]
  split
  · simp only [List.all_append, Bool.and_eq_true]; exact ⟨h1, h2⟩
  · simp only [List.all_append, Bool.and_eq_true]; exact ⟨h2, h1⟩

theorem all_tokSelect (s : Select) (h : selectAll idOK litOK opOK s = true) : (tokSelect o s).all P = true := by
  simp only [selectAll, Bool.and_eq_true] at h
  obtain ⟨⟨⟨⟨hl, hf⟩, hw⟩, hg⟩, hob⟩ := h
  unfold tokSelect
  split
  · exact all_tokSelList hP _ hl
  · rename_i tr htr
    rw [htr] at hf
    simp only [List.all_append, Bool.and_eq_true]
    exact ⟨all_tokSelList hP _ hl, all_tokFrom hP tr hf, all_tokWhere hP _ hw, all_tokGroupBy hP _ hg,
      all_tokOrderBy hP _ hob, all_tokLimit hP _⟩

theorem all_tokColType (t : ColType) : (tokColType o t).all P = true := by
  cases t <;> simp (disch := decide +kernel) only [tokColType, List.all_cons, List.all_nil, hP.kw, hP.int, Bool.and_self]

theorem all_tokShow : (tokShow o).all P = true := by
  unfold tokShow
  split
  · split
    · rename_i hb
      simp only [List.all_cons, List.all_nil, Bool.and_true]
      exact hP.dbs _ hb
    · simp (disch := decide +kernel) only [List.all_cons, List.all_nil, hP.kw, Bool.and_self]
  · simp (disch := decide +kernel) only [List.all_cons, List.all_nil, hP.kw, Bool.and_self]

theorem all_tokInsCols (cols : List Bytes) (h : cols.all idOK = true) : (tokInsCols o cols).all P = true := by
  unfold tokInsCols
  split
  · split
    · simp (disch := decide +kernel) only [List.all_cons, List.all_nil, hP.kw, Bool.and_self]
    · rfl
  · simp (disch := decide +kernel) only [List.all_cons, List.all_append, List.all_nil, hP.kw, Bool.true_and, Bool.and_true]
    refine all_tokSep _ _ (hP.kw _ (by decide +kernel)) cols 0 fun j c hc => ?_
    simp only [tokInsCol, List.all_cons, List.all_nil, Bool.and_true]
    exact hP.id c (List.all_eq_true.mp h c hc)

theorem all_tokRow (j : Nat) (r : List Lit) (h : r.all litOK = true) : (tokRow o j r).all P = true := by
  simp (disch := decide +kernel) only [tokRow, List.all_cons, List.all_append, List.all_nil, hP.kw, Bool.true_and, Bool.and_true]
  refine all_tokSep _ _ (hP.kw _ (by decide +kernel)) r 0 fun j' l hl => ?_
  simp only [tokLitItem, List.all_cons, List.all_nil, Bool.and_true]
  exact hP.lit l (List.all_eq_true.mp h l hl)

theorem all_renderStmt (s : Stmt) (h : stmtAll idOK litOK opOK s = true) : (renderStmt o s).all P = true := by
  cases s with
  | createDatabase n =>
    simp (disch := decide +kernel) only [renderStmt, List.all_cons, List.all_nil, hP.kw, Bool.true_and, Bool.and_true]
    exact hP.id n h
  | createTable n cols =>
    simp only [stmtAll, Bool.and_eq_true] at h
    simp (disch := decide +kernel) only [renderStmt, List.all_cons, List.all_append, List.all_nil, hP.kw, Bool.true_and, Bool.and_true,
      Bool.and_eq_true]
    refine ⟨?_, all_tokSep _ _ (hP.kw _ (by decide +kernel)) cols 0 fun j c hc => ?_⟩
    · split
      · rfl
      · rename_i hn
        simp only [List.all_cons, List.all_nil, Bool.and_true]
        exact all_optId hP n hn h.1
    · simp only [tokColDef, List.all_cons, Bool.and_eq_true]
      exact ⟨hP.id _ (List.all_eq_true.mp h.2 c hc), all_tokColType hP _⟩
  | select s =>
    simp (disch := decide +kernel) only [renderStmt, List.all_cons, hP.kw, Bool.true_and]
    exact all_tokSelect hP s h
  | insert t cols rows =>
    simp only [stmtAll, Bool.and_eq_true] at h
    obtain ⟨⟨ht, hcols⟩, hrows⟩ := h
    simp (disch := decide +kernel) only [renderStmt, List.all_cons, List.all_append, hP.kw, Bool.true_and, Bool.and_eq_true]
    exact ⟨hP.id t ht, all_tokInsCols hP cols hcols,
      all_tokSep _ _ (hP.kw _ (by decide +kernel)) rows 0 fun j r hr => all_tokRow hP j r (List.all_eq_true.mp hrows r hr)⟩
  | update t sets w =>
    simp only [stmtAll, Bool.and_eq_true] at h
    obtain ⟨⟨ht, hsets⟩, hw⟩ := h
    simp (disch := decide +kernel) only [renderStmt, List.all_cons, List.all_append, hP.kw, Bool.true_and, Bool.and_eq_true]
    refine ⟨hP.id t ht, all_tokSep _ _ (hP.kw _ (by decide +kernel)) sets 0 fun j a ha => ?_, all_tokWhere hP w hw⟩
    have := List.all_eq_true.mp hsets a ha
    simp only [Bool.and_eq_true] at this
    simp (disch := decide +kernel) only [tokSet, List.all_cons, hP.kw, Bool.true_and, Bool.and_eq_true]
    exact ⟨hP.id _ this.1, all_tokVE hP _ this.2⟩
  | delete t w =>
    simp only [stmtAll, Bool.and_eq_true] at h
    simp (disch := decide +kernel) only [renderStmt, List.all_cons, hP.kw, Bool.true_and, Bool.and_eq_true]
    exact ⟨hP.id t h.1, all_tokWhere hP w h.2⟩
  | use db =>
    simp (disch := decide +kernel) only [renderStmt, List.all_cons, List.all_nil, hP.kw, Bool.true_and, Bool.and_true]
    exact hP.id db h
  | showDatabases =>
    simp (disch := decide +kernel) only [renderStmt, List.all_cons, hP.kw, Bool.true_and]
    exact all_tokShow hP

end

end Mkdb.Sql
