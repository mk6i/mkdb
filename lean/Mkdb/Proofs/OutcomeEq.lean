import Mkdb.Model.Parse
/-!
Decidable equality of scan results and parse outcomes, so that a concrete run of the scanner or the
parser can be compared with its expected result by evaluation.
-/
namespace Mkdb.Sql
open Mkdb.Scan

deriving instance DecidableEq for ScanRes
deriving instance DecidableEq for Outcome

end Mkdb.Sql
