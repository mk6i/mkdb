import Mkdb.Proofs.RoundtripCond
/-!
Token-level round trip (C10): the generic comma-list lemmas for `sepLoop` and
`guardedLoop` (every element comes back, in order), the select list, table names, join chains
and the FROM clause.
-/
namespace Mkdb.Sql
open Mkdb.Scan Mkdb.Generated

/-! ## Comma separated lists -/

/-- the element `x`, and whether a comma follows (the end of every loop body) -/
def withComma {α} (x : α) (r : List Token) : R (α × Bool) :=
  match commaFollows r with
  | .ok b r' => .ok (x, b) r'
  | .err e => .err e
  | .panic s => .panic s
  | .fuel => .fuel

theorem withComma_comma {α} (x : α) (t : Token) (r : List Token) (h : t.ty = t_COMMA) :
    withComma x (t :: r) = .ok (x, true) r := by
  rw [withComma, commaFollows_comma t r h]

theorem withComma_headNot {α} (x : α) (r : List Token) (h : HeadNot [t_COMMA] r) :
    withComma x r = .ok (x, false) r := by
  rw [withComma, commaFollows_headNot r h]

/-- the last statement of every loop body: `pure (x, ← commaFollows)` -/
theorem pure_withComma {α} (x : α) (r : List Token) :
    (commaFollows >>= fun c => (Pure.pure (x, c) : P (α × Bool))) r = withComma x r := by
  rw [bind_apply, withComma]; cases commaFollows r <;> rfl

theorem length_le_tokSep {α} (tk : Nat → α → List Token) (comma : Token)
    (hpos : ∀ j x, 1 ≤ (tk j x).length) (xs : List α) : ∀ i, xs.length ≤ (tokSep tk comma i xs).length := by
  induction xs with
  | nil => intro i; simp
  | cons x t ih =>
    intro i
    cases t with
    | nil => have := hpos i x; simpa [tokSep] using this
    | cons y r =>
      have := ih (i+1)
      have := hpos i x
      simp only [tokSep, List.length_append, List.length_cons] at *
      omega

theorem headNot_tokSep_cons {α} (tk : Nat → α → List Token) (comma : Token) (i : Nat) (x : α) (t : List α)
    (rest : List Token) {tys : List Int} (h : ∀ r, HeadNot tys (tk i x ++ r)) :
    HeadNot tys (tokSep tk comma i (x :: t) ++ rest) := by
  cases t with
  | nil => exact h rest
  | cons y r => simp only [tokSep, List.append_assoc]; exact h _

/-- **`sepLoop` lists are not cut**: a non-empty comma separated list whose elements the body
reads back is returned whole - every element, in order.  `N`: any bound on the length of the rendered list;
it is handed to `hbody` so that the caller's element lemma can discharge its own fuel hypothesis from the
caller's fuel. -/
theorem sepLoop_tok {α} (body : P (α × Bool)) (tk : Nat → α → List Token) (comma : Token)
    (hc : comma.ty = t_COMMA) (bad : List Int) (hbad : bad.contains t_COMMA = false)
    (rest : List Token) (hrest : HeadNot (t_COMMA :: bad) rest) (N : Nat) (xs : List α) :
    (∀ j x r', x ∈ xs → (tk j x).length ≤ N → HeadNot bad r' → body (tk j x ++ r') = withComma x r') →
    xs ≠ [] → ∀ i f, xs.length ≤ f → (tokSep tk comma i xs).length ≤ N →
    sepLoop f body (tokSep tk comma i xs ++ rest) = .ok xs rest := by
  obtain ⟨hr1, hr2⟩ := headNot_weaken (a := [t_COMMA]) (b := bad) hrest
  induction xs with
  | nil => intro _ h; exact absurd rfl h
  | cons x t ih =>
    intro hbody _ i f hf hN
    obtain ⟨f, rfl⟩ := fuel_split (n := t.length) (k := 1) hf
    cases t with
    | nil =>
      exact bind_ok ((hbody i x rest List.mem_cons_self hN hr2).trans (withComma_headNot x rest hr1)) rfl
    | cons y r =>
      simp only [tokSep, List.length_append, List.length_cons] at hN
      have hcm : HeadNot bad (comma :: (tokSep tk comma (i+1) (y :: r) ++ rest)) :=
        headNot_cons (by rw [hc]; exact hbad)
      have hrec := ih (fun j x' r' hx' => hbody j x' r' (List.mem_cons_of_mem _ hx')) (List.cons_ne_nil _ _)
        (i+1) f (Nat.le_of_succ_le_succ hf) (by omega)
      rw [tokSep, List.append_assoc, List.cons_append]
      exact bind_ok ((hbody i x _ List.mem_cons_self (by omega) hcm).trans (withComma_comma x comma _ hc))
        (bind_ok hrec rfl)

/-- **`guardedLoop` lists are not cut**: a (possibly empty) comma separated list whose elements
start with a guard token is returned whole. -/
theorem guardedLoop_tok {α} (tys : List Int) (body : Token → P (α × Bool)) (tk : Nat → α → List Token)
    (comma : Token) (hc : comma.ty = t_COMMA) (bad : List Int) (hbad : bad.contains t_COMMA = false)
    (rest : List Token) (hrest : HeadNot (t_COMMA :: bad) rest) (N : Nat) (xs : List α) :
    (∀ j x r', x ∈ xs → (tk j x).length ≤ N → HeadNot bad r' →
      ∃ g tl, tk j x = g :: tl ∧ tys.contains g.ty = true ∧ body g (tl ++ r') = withComma x r') →
    (xs = [] → HeadNot tys rest) → ∀ i f, xs.length + 1 ≤ f → (tokSep tk comma i xs).length ≤ N →
    guardedLoop f tys body (tokSep tk comma i xs ++ rest) = .ok xs rest := by
  obtain ⟨hr1, hr2⟩ := headNot_weaken (a := [t_COMMA]) (b := bad) hrest
  induction xs with
  | nil =>
    intro _ hnil i f hf _
    obtain ⟨f, rfl⟩ := fuel_split hf
    exact miss_ok (hnil rfl) rfl
  | cons x t ih =>
    intro hbody _ i f hf hN
    obtain ⟨f, rfl⟩ := fuel_split hf
    cases t with
    | nil =>
      obtain ⟨g, tl, he, hg, hb⟩ := hbody i x rest List.mem_cons_self hN hr2
      rw [tokSep, he, List.cons_append]
      exact match_ok hg (bind_ok (hb.trans (withComma_headNot x rest hr1)) rfl)
    | cons y r =>
      simp only [tokSep, List.length_append, List.length_cons] at hN
      have hcm : HeadNot bad (comma :: (tokSep tk comma (i+1) (y :: r) ++ rest)) :=
        headNot_cons (by rw [hc]; exact hbad)
      have hrec := ih (fun j x' r' hx' => hbody j x' r' (List.mem_cons_of_mem _ hx')) (fun h => nomatch h)
        (i+1) f (Nat.le_of_succ_le_succ hf) (by omega)
      obtain ⟨g, tl, he, hg, hb⟩ := hbody i x _ List.mem_cons_self (by omega) hcm
      rw [tokSep, he, List.append_assoc, List.cons_append, List.cons_append]
      exact match_ok hg (bind_ok (hb.trans (withComma_comma x comma _ hc)) (bind_ok hrec rfl))

/-! ## Select list -/

theorem tokItem_length (o : ROpts) (it : SelItem) : 1 ≤ (tokItem o it).length := by
  cases it with
  | star => exact Nat.le_refl 1
  | count c => cases c <;> exact Nat.le_add_left 1 _
  | avg c => exact Nat.le_add_left 1 _
  | expr c => exact tokCond_length o c

theorem headNot_tokItem (o : ROpts) (ok : Lit → Bool) (hlit : ∀ l, ok l = true → GoodLit o.lit l)
    (it : SelItem) (hw : wfItem ok it = true) (rest : List Token) {tys : List Int}
    (h : firstBad tys = true) (h1 : tys.contains t_COUNT = false) (h2 : tys.contains t_AVG = false) :
    HeadNot tys (tokItem o it ++ rest) := by
  cases it with
  | star => simp [wfItem] at hw
  | count c => cases c <;> exact h1
  | avg c => exact h2
  | expr c => exact headNot_tokCond o ok hlit c hw rest h

theorem derivedColumn_tok (o : ROpts) (ok : Lit → Bool) (hlit : ∀ l, ok l = true → GoodLit o.lit l)
    (it : SelItem) (hw : wfItem ok it = true) (rest : List Token) (hr : HeadNot condBad rest)
    (f : Nat) (hf : (tokItem o it).length + 2 ≤ f) :
    derivedColumn f (tokItem o it ++ rest) = .ok it rest := by
  have hd : HeadNot [t_DOT] (K o t_RPAREN :: rest) := headNot_cons rfl
  cases it with
  | star => cases hw
  | count c =>
    cases c with
    | none =>
      exact bind_ok (match_ok rfl (require_ok rfl (bind_ok
        (bind_ok (columnReference_none _ (headNot_cons rfl)) (require_ok rfl rfl))
        (require_ok rfl rfl)))) rfl
    | some c =>
      rw [tokItem, List.cons_append, List.cons_append, List.append_assoc]
      exact bind_ok (match_ok rfl (require_ok rfl (bind_ok
        (bind_ok (columnReference_tok o c _ hd) rfl) (require_ok rfl rfl)))) rfl
  | avg c =>
    rw [tokItem, List.cons_append, List.cons_append, List.append_assoc]
    exact bind_ok (miss_ok (headNot_cons rfl) (match_ok rfl (require_ok rfl
      (bind_ok (columnReference_tok o c _ hd) (require_ok rfl rfl))))) rfl
  | expr c =>
    have h1 : HeadNot [t_COUNT] (tokCond o c ++ rest) := headNot_tokCond o ok hlit c hw rest (by decide +kernel)
    have h2 : HeadNot [t_AVG] (tokCond o c ++ rest) := headNot_tokCond o ok hlit c hw rest (by decide +kernel)
    exact bind_ok (miss_ok h1 (miss_ok h2 rfl))
      (bind_ok (orCond_tokCond o ok hlit c hw rest hr f hf) rfl)

/-- the body of the loop of `SelectList`, under a name so that lemmas can speak of it; `selectList_eq`, by `rfl`,
ties it to the model's text and is what breaks when that is edited (likewise `sortBody`, `colDefBody`, … below) -/
def selBody (f : Nat) : P (DerivedCol × Bool) := do
      let item ← derivedColumn f
      match ← matchTy [t_AS] with
      | some _ =>
        if !(← curIs [t_IDENT]) then
          let _ ← requireMatch [t_IDENT]   -- fails: the error is returned
          pure ()
      | none => pure ()
      let alias ← matchTy [t_IDENT]
      let dc : DerivedCol := ⟨item, match alias with | some a => a.text | none => []⟩
      pure (dc, ← commaFollows)

theorem selectList_eq (f : Nat) : selectList f = (do
    match ← matchTy [t_ASTRSK] with
    | some _ => pure [⟨.star, []⟩]
    | none => sepLoop f (selBody f)) := rfl

/-- what may not follow a select item: what may not follow a condition, AS, an identifier -/
def itemBad : List Int := [t_DOT, t_EQ, t_NEQ, t_LT, t_GT, t_LTE, t_GTE, t_AND, t_OR, t_AS, t_IDENT]

theorem selBody_tok (o : ROpts) (ok : Lit → Bool) (hlit : ∀ l, ok l = true → GoodLit o.lit l)
    (d : DerivedCol) (hw : wfItem ok d.item = true) (j : Nat) (r' : List Token) (hr : HeadNot itemBad r')
    (f : Nat) (hf : (tokDC o j d).length + 2 ≤ f) :
    selBody f (tokDC o j d ++ r') = withComma d r' := by
  obtain ⟨it, a⟩ := d
  have hdc := fun r hr => derivedColumn_tok o ok hlit it hw r hr f (fuelL hf)
  cases a with
  | nil =>
    simp only [tokDC, tokAlias, List.isEmpty_nil, ↓reduceIte, List.append_nil]
    exact bind_ok (hdc r' (headNot_sub hr (by decide +kernel)))
      (miss_ok (headNot_sub hr (by decide +kernel))
        (miss_ok (headNot_sub hr (by decide +kernel)) (pure_withComma _ _)))
  | cons b t =>
    simp only [tokDC, tokAlias, List.isEmpty_cons, Bool.false_eq_true, ↓reduceIte, List.append_assoc]
    cases hk : o.asKw j with
    | true =>
      exact bind_ok (hdc _ (headNot_cons rfl)) (match_ok rfl (bind_ok (curIs_cons _ _ _)
        (match_ok rfl (pure_withComma _ _))))
    | false =>
      exact bind_ok (hdc _ (headNot_cons rfl)) (miss_ok (headNot_cons rfl)
        (match_ok rfl (pure_withComma _ _)))

/-- what may not follow a select list -/
def selBad : List Int := [t_COMMA, t_DOT, t_EQ, t_NEQ, t_LT, t_GT, t_LTE, t_GTE, t_AND, t_OR, t_AS, t_IDENT]

/-- **`SelectList` round trip**: `*`, or every item of the list with its alias. -/
theorem selectList_tok (o : ROpts) (ok : Lit → Bool) (hlit : ∀ l, ok l = true → GoodLit o.lit l)
    (sl : List DerivedCol) (hw : wfSelList ok sl = true) (rest : List Token) (hr : HeadNot selBad rest)
    (f : Nat) (hf : (tokSelList o sl).length + 2 ≤ f) :
    selectList f (tokSelList o sl ++ rest) = .ok sl rest := by
  by_cases hs : sl = [⟨.star, []⟩]
  · subst hs
    exact match_ok rfl rfl
  · simp only [wfSelList, hs, decide_false, Bool.false_or, Bool.and_eq_true, Bool.not_eq_eq_eq_not,
      Bool.not_true, List.all_eq_true] at hw
    obtain ⟨hne, hall⟩ := hw
    simp only [tokSelList, hs, ↓reduceIte] at hf ⊢
    cases sl with
    | nil => simp at hne
    | cons d t =>
      have hh : HeadNot [t_ASTRSK] (tokSep (tokDC o) (K o t_COMMA) 0 (d :: t) ++ rest) := by
        apply headNot_tokSep_cons
        intro r
        simp only [tokDC, List.append_assoc]
        exact headNot_tokItem o ok hlit d.item (hall d List.mem_cons_self) _ (by decide +kernel) rfl rfl
      have hpos : ∀ j (x : DerivedCol), 1 ≤ (tokDC o j x).length := by
        intro j x
        have := tokItem_length o x.item
        simp only [tokDC, List.length_append]; omega
      have hlen := length_le_tokSep (tokDC o) (K o t_COMMA) hpos (d :: t) 0
      have hloop := sepLoop_tok (selBody f) (tokDC o) (K o t_COMMA) rfl itemBad rfl rest hr (f - 2)
        (d :: t) (fun j x r' hx hN hb => selBody_tok o ok hlit x (hall x hx) j r' hb f (by omega))
        (List.cons_ne_nil _ _) 0 f (Nat.le_trans hlen (Nat.le_of_add_right_le hf)) (Nat.le_sub_of_add_le hf)
      exact miss_ok hh hloop

/-! ## Table names, joins, FROM -/

theorem tableName_tok (t : TableName) (rest : List Token) (h : HeadNot [t_IDENT] rest) :
    tableName (tokTN t ++ rest) = .ok t rest := by
  obtain ⟨n, a⟩ := t
  cases a with
  | none => exact require_ok rfl (miss_ok h rfl)
  | some a => exact require_ok rfl (match_ok rfl rfl)

theorem tokTN_length (t : TableName) : 1 ≤ (tokTN t).length := Nat.le_add_left 1 _

theorem curIs_headNot (tys : List Int) (rest : List Token) (h : HeadNot tys rest)
    (hE : tys.contains t_EOF = false) : curIs tys rest = .ok false rest := by
  cases rest with
  | nil => simp only [curIs, List.headD_nil, eofToken, hE]
  | cons t r =>
    simp only [HeadNot] at h
    simp only [curIs, List.headD_cons, h]

theorem headNot_tokJoins (o : ROpts) (i : Nat) (js : List JoinSpec) {tys : List Int} {rest : List Token}
    (h : tys.all (fun x => ![t_JOIN, t_LEFT, t_RIGHT, t_INNER].contains x) = true) (hr : HeadNot tys rest) :
    HeadNot tys (tokJoins o i js ++ rest) := by
  have hc : ∀ x, [t_JOIN, t_LEFT, t_RIGHT, t_INNER].contains x = true → tys.contains x = false :=
    fun x hx => contains_disjoint hx h
  cases js with
  | nil => exact hr
  | cons j js =>
    obtain ⟨jt, tn, on⟩ := j
    cases jt with
    | left => exact hc t_LEFT rfl
    | right => exact hc t_RIGHT rfl
    | inner =>
      simp only [tokJoins, tokJoinKw]
      split
      · exact hc t_INNER rfl
      · exact hc t_JOIN rfl

/-- what may not follow a join chain -/
def joinBad : List Int := [t_DOT, t_EQ, t_NEQ, t_LT, t_GT, t_LTE, t_GTE, t_AND, t_OR, t_JOIN, t_LEFT, t_RIGHT, t_INNER]

theorem tokJoinKw_length (o : ROpts) (i : Nat) (jt : JoinType) : 1 ≤ (tokJoinKw o i jt).length := by
  cases jt <;> simp [tokJoinKw]
  split <;> simp

/-- **join chains round trip**: every join of the chain, with its kind (LEFT / RIGHT / INNER written
or not), table, alias and ON condition, nested to the left as the parser nests them. -/
theorem joinLoop_tok (o : ROpts) (ok : Lit → Bool) (hlit : ∀ l, ok l = true → GoodLit o.lit l)
    (rest : List Token) (hr : HeadNot joinBad rest) (js : List JoinSpec) :
    (js.all fun j => wfCond ok j.2.2) = true → ∀ (lhs : TableRef) (i f : Nat),
    (tokJoins o i js).length + 2 ≤ f →
    joinLoop f lhs (tokJoins o i js ++ rest) = .ok (js.foldl mkJoin lhs) rest := by
  induction js with
  | nil =>
    intro _ lhs i f hf
    obtain ⟨f, rfl⟩ := fuel_split (k := 1) hf
    exact bind_ok (curIs_headNot _ _ (headNot_sub hr (by decide +kernel)) rfl) rfl
  | cons j js ih =>
    intro hw lhs i f hf
    obtain ⟨jt, tn, on⟩ := j
    simp only [List.all_cons, Bool.and_eq_true] at hw
    have hk := tokJoinKw_length o i jt
    have ht := tokTN_length tn
    have hcl := tokCond_length o on
    simp only [tokJoins, List.length_append, List.length_cons] at hf
    obtain ⟨f, rfl⟩ : ∃ f1, f = f1 + 1 := ⟨f - 1, by omega⟩
    have hfol : HeadNot condBad (tokJoins o (i+1) js ++ rest) :=
      headNot_tokJoins o (i+1) js (by decide +kernel) (headNot_sub hr (by decide +kernel))
    -- behind the join keywords: `JOIN t ON c`, then the loop goes on
    have tail : ∀ jt, (requireMatch [t_JOIN] >>= fun _ => tableName >>= fun rhs => requireMatch [t_ON] >>= fun _ =>
        orCond f >>= fun on => joinLoop f (.join lhs jt rhs on))
        (K o t_JOIN :: (tokTN tn ++ K o t_ON :: (tokCond o on ++ (tokJoins o (i+1) js ++ rest)))) =
        .ok (js.foldl mkJoin (.join lhs jt tn on)) rest := fun jt =>
      require_ok rfl (bind_ok (tableName_tok tn _ (headNot_cons rfl)) (require_ok rfl
        (bind_ok (orCond_tokCond o ok hlit on hw.1 _ hfol f (by omega)) (ih hw.2 _ (i+1) f (by omega)))))
    rw [tokJoins, List.append_assoc, List.append_assoc, List.cons_append, List.append_assoc]
    cases jt with
    | left => exact bind_ok (curIs_cons _ _ _) (bind_ok (match_ok rfl rfl) (tail _))
    | right =>
      exact bind_ok (curIs_cons _ _ _) (bind_ok (miss_ok (headNot_cons rfl) (match_ok rfl rfl))
        (tail _))
    | inner =>
      rw [tokJoinKw]
      cases o.innerKw i with
      | true =>
        exact bind_ok (curIs_cons _ _ _) (bind_ok (miss_ok (headNot_cons rfl) (miss_ok (headNot_cons rfl)
          (match_ok rfl rfl))) (tail _))
      | false =>
        exact bind_ok (curIs_cons _ _ _) (bind_ok (miss_ok (headNot_cons rfl) (miss_ok (headNot_cons rfl)
          (miss_ok (headNot_cons rfl) rfl))) (tail _))

theorem foldl_mkJoin_joins (tr : TableRef) : tr.joins.foldl mkJoin (.table tr.base) = tr := by
  induction tr with
  | table t => rfl
  | join l jt r on ih =>
    simp only [TableRef.joins, TableRef.base, List.foldl_append, ih, List.foldl_cons, List.foldl_nil, mkJoin]

/-- what may not follow a FROM clause (nor stand in the place of an absent one) -/
def fromBad : List Int :=
  [t_DOT, t_EQ, t_NEQ, t_LT, t_GT, t_LTE, t_GTE, t_AND, t_OR, t_JOIN, t_LEFT, t_RIGHT, t_INNER, t_IDENT, t_FROM]

theorem fromClause_tok (o : ROpts) (ok : Lit → Bool) (hlit : ∀ l, ok l = true → GoodLit o.lit l)
    (fr : Option TableRef) (hw : ∀ tr, fr = some tr → (tr.joins.all fun j => wfCond ok j.2.2) = true)
    (rest : List Token) (hr : HeadNot fromBad rest) (f : Nat) (hf : (tokFrom o fr).length + 2 ≤ f) :
    fromClause f (tokFrom o fr ++ rest) = .ok fr rest := by
  cases fr with
  | none => exact miss_ok (headNot_sub hr (by decide +kernel)) rfl
  | some tr =>
    have hj := joinLoop_tok o ok hlit rest (headNot_sub hr (by decide +kernel)) tr.joins (hw tr rfl)
      (.table tr.base) 0 f (fuelR hf)
    have hfol : HeadNot [t_IDENT] (tokJoins o 0 tr.joins ++ rest) :=
      headNot_tokJoins o 0 tr.joins (by decide +kernel) (headNot_sub hr (by decide +kernel))
    simp only [tokFrom, List.cons_append, List.append_assoc]
    refine match_ok rfl (bind_ok (tableName_tok tr.base _ hfol) (bind_ok hj ?_))
    rw [foldl_mkJoin_joins]; rfl

end Mkdb.Sql
