import Mkdb.Proofs.SpecRefineDelete
import Mkdb.Proofs.SpecRefineInsert
import Mkdb.Proofs.SpecRefineUpdate
import Mkdb.Proofs.TypedWalk
/-!
# UPDATE against the spec: the statement

Along the live cells of the table, the rows
`RelationService.Fetch` builds after the first `n` selected rows were rewritten are what the spec's assignment
makes of them (`rows_rewriteFirst`, `rewriteFirst`: the states `Spec.prefixStates` enumerates).  With the run
`update_rows` this gives what UPDATE does on a known table, whatever the rows, under `Cat` alone:
`evalUpdate_outcome` (the rewrites up to the first selected row that cannot be rewritten; then accepted or
refused) and its case `evalUpdate_early` (refused before anything is rewritten: SET columns, WHERE, first
selected row).  The accepted statement (at the end), the refusals, totality and the known finding
(`SpecRefineRefused`) read them off.
-/
set_option autoImplicit false
namespace Mkdb.Store
open Mkdb.Page Mkdb.Tuple Mkdb.Generated Mkdb.Tree

theorem rowsOf_cons_dec (schema : List FieldDef) (c : LeafCell) (rest : List LeafCell) (m : Vals)
    (h : decodeTuple schema c.val [] = .ok m) :
    rowsOf schema (c :: rest) = (c.key, schema.map fun fd => get m fd.name) :: rowsOf schema rest := by
  simp only [rowsOf, List.filterMap_cons, rowOf, decRow_of_decode h, Option.map_some]

theorem rowOf_updCell (schema : List FieldDef) (sets : List (Bytes × Sql.VExpr))
    (hvalid : ∀ p ∈ setMap sets, ValidVal p.2) {c : LeafCell} {m : Vals}
    (hm : decodeTuple schema c.val [] = .ok m) {v : List Val}
    (hv : specAssign schema sets (schema.map fun fd => get m fd.name) = some v) :
    (∃ m', decodeTuple schema (updCell schema sets c).val [] = .ok m') ∧
      rowOf schema (updCell schema sets c) = some (c.key, v) := by
  obtain ⟨buf, henc, _, rfl⟩ := (specAssign_some_iff schema sets m v).mp hv
  rw [updCell_eq hm henc]
  refine rowOf_new schema (setMap sets ++ m) (fun fd _ => get_valid _ (fun p hp => ?_) fd.name) buf henc c.key
    c.deleted
  rcases List.mem_append.mp hp with hp | hp
  · exact hvalid p hp
  · exact decodeTuple_valid schema c.val [] m (fun _ hq => nomatch hq) hm p hp

theorem rowsOf_cons_some {schema : List FieldDef} {c : LeafCell} {r : Nat × List Val} (h : rowOf schema c = some r)
    (rest : List LeafCell) : rowsOf schema (c :: rest) = r :: rowsOf schema rest := by
  simp only [rowsOf, List.filterMap_cons, h]

/-! ### the rows after the first `n` rewrites -/

/-- the rows of a spec table after the first `n` selected rows were rewritten (the local `go` of
`Spec.prefixStates`, on rows instead of values) -/
def rewriteFirst (cols : List FieldDef) (sets : List (Bytes × Sql.VExpr)) : Nat → List (Spec.SRow × Bool) → List Spec.SRow
  | _, [] => []
  | n, (r, s) :: rest =>
    if s && decide (n > 0) then
      { r with vals := (specAssign cols sets r.vals).getD r.vals } :: rewriteFirst cols sets (n - 1) rest
    else r :: rewriteFirst cols sets n rest

theorem map_updK_cons_absent (schema : List FieldDef) (sets : List (Bytes × Sql.VExpr)) (k : Nat) (K : List Nat)
    (cs : List LeafCell) (h : k ∉ cs.map (·.key)) :
    cs.map (updK schema sets (k :: K)) = cs.map (updK schema sets K) := by
  apply List.map_congr_left
  intro c hc
  have hne : (c.key == k) = false := by
    rw [beq_eq_false_iff_ne]
    exact fun heq => h (heq ▸ List.mem_map.mpr ⟨c, hc, rfl⟩)
  rw [updK, updK, List.contains_cons, hne, Bool.false_or]

theorem rows_rewriteFirst (schema : List FieldDef) (sets : List (Bytes × Sql.VExpr))
    (hvalid : ∀ p ∈ setMap sets, ValidVal p.2) :
    ∀ (cs : List LeafCell) (sel : List Bool) (n : Nat),
      (∀ c ∈ cs, ∃ m, decodeTuple schema c.val [] = .ok m) → sel.length = cs.length →
      (cs.map (·.key)).Nodup →
      (∀ r ∈ (selRows (rowsOf schema cs) sel).take n, specAssign schema sets r.2 ≠ none) →
      (∀ c ∈ cs.map (updK schema sets (((selRows (rowsOf schema cs) sel).take n).map (·.1))),
        ∃ m, decodeTuple schema c.val [] = .ok m) ∧
      (rowsOf schema (cs.map (updK schema sets (((selRows (rowsOf schema cs) sel).take n).map (·.1))))).map mkRow =
        rewriteFirst schema sets n (((rowsOf schema cs).map mkRow).zip sel)
  | [], sel, n, _, _, _, _ => by
    refine ⟨(fun c hc => by cases hc), ?_⟩
    simp [rowsOf, rewriteFirst]
  | c :: cs, [], n, _, hl, _, _ => by simp at hl
  | c :: cs, b :: sel, n, hdec, hl, hnd, hok => by
    obtain ⟨m, hm⟩ := hdec c List.mem_cons_self
    rw [List.map_cons, List.nodup_cons] at hnd
    have hdec' : ∀ c' ∈ cs, ∃ m, decodeTuple schema c'.val [] = .ok m :=
      fun c' hc' => hdec c' (List.mem_cons_of_mem _ hc')
    have hl' : sel.length = cs.length := by simpa using hl
    rw [rowsOf_cons_dec schema c cs m hm] at hok ⊢
    rw [selRows_cons] at hok ⊢
    simp only [List.map_cons, List.zip_cons_cons, rewriteFirst, List.forall_mem_cons]
    by_cases hb : b = true ∧ 0 < n
    · -- the head is one of the first `n` selected rows: it is rewritten
      obtain ⟨rfl, hn0⟩ := hb
      obtain ⟨n', rfl⟩ : ∃ n', n = n' + 1 := ⟨n - 1, by omega⟩
      simp only [if_true, List.take_succ_cons, List.map_cons, List.forall_mem_cons] at hok ⊢
      obtain ⟨v, hv⟩ := Option.ne_none_iff_exists'.mp hok.1
      obtain ⟨ih1, ih2⟩ := rows_rewriteFirst schema sets hvalid cs sel n' hdec' hl' hnd.2 hok.2
      obtain ⟨hdnew, hrnew⟩ := rowOf_updCell schema sets hvalid hm hv
      rw [updK_of_mem schema sets List.mem_cons_self, map_updK_cons_absent schema sets _ _ cs hnd.1,
        rowsOf_cons_some hrnew, List.map_cons, ih2]
      refine ⟨⟨hdnew, ih1⟩, ?_⟩
      simp only [Bool.true_and, Nat.add_one_sub_one, show decide (n' + 1 > 0) = true by simp, if_true, mkRow, hv,
        Option.getD_some]
    · -- the head stays: not selected, or no rewrite left
      have hcond : (b && decide (n > 0)) = false := by
        cases b
        · rfl
        · simpa using hb
      have htake : (if b = true then (c.key, schema.map fun fd => get m fd.name) :: selRows (rowsOf schema cs) sel
            else selRows (rowsOf schema cs) sel).take n = (selRows (rowsOf schema cs) sel).take n := by
        cases b
        · rfl
        · obtain rfl : n = 0 := by simpa using hb
          rfl
      rw [htake] at hok ⊢
      obtain ⟨ih1, ih2⟩ := rows_rewriteFirst schema sets hvalid cs sel n hdec' hl' hnd.2 hok
      have hnk : c.key ∉ ((selRows (rowsOf schema cs) sel).take n).map (·.1) := fun hk =>
        hnd.1 (rowsOf_keys schema cs hdec' ▸
          selRows_keys_sub _ sel _ (((List.take_sublist n _).map _).subset hk))
      rw [updK_of_not_mem schema sets hnk, rowsOf_cons_dec schema c _ m hm, List.map_cons, ih2]
      refine ⟨⟨⟨m, hm⟩, ih1⟩, ?_⟩
      simp only [hcond, Bool.false_eq_true, if_false]

theorem setMap_valid (sets : List (Bytes × Sql.VExpr))
    (hvalid : ∀ p ∈ sets, ∀ l, p.2 = .lit l → ValidVal (Engine.litToVal l)) :
    ∀ p ∈ setMap sets, ValidVal p.2 := by
  intro p hp
  unfold setMap at hp
  rw [List.mem_reverse] at hp
  have := (List.of_mem_zip (a := p.1) (b := p.2) hp).2
  obtain ⟨q, hq, hqe⟩ := List.mem_map.mp this
  rw [← hqe]
  cases hq2 : q.2 with
  | lit l => exact hvalid q hq l hq2
  | col c => trivial

/-! ### the WHERE filter fails with an error -/

theorem rowsOf_len {schema : List FieldDef} {cs : List LeafCell} {r : Nat × List Val}
    (h : r ∈ rowsOf schema cs) : r.2.length = schema.length := by
  unfold rowsOf at h
  obtain ⟨c, _, hr⟩ := List.mem_filterMap.mp h
  obtain ⟨m, _, rfl⟩ := rowOf_eq_some.mp hr
  exact List.length_map _

theorem filterIds_go_fail (c : Sql.Cond) (fields : List Exec.Field) :
    ∀ (rows : List (Nat × List Val)), (∀ r ∈ rows, r.2.length = fields.length) →
      (rows.map mkRow).mapM (fun r =>
        match Exec.evaluate c fields r.vals with
        | .ok v => some (v == .bool true)
        | _ => none) = none →
      ∃ e, Engine.filterIds.go fields c rows = .err e
  | [], _, h => by simp at h
  | r :: rest, hlen, h => by
    rw [List.map_cons] at h
    have hv : (mkRow r).vals = r.2 := rfl
    cases hev : Exec.evaluate c fields r.2 with
    | ok v =>
      rcases mapM_cons_none h with h1 | ⟨b, _, h2⟩
      · rw [hv, hev] at h1; cases h1
      · obtain ⟨e, he⟩ := filterIds_go_fail c fields rest (fun r' hr' => hlen r' (List.mem_cons_of_mem _ hr')) h2
        exact ⟨e, by simp only [Engine.filterIds.go, hev, he]⟩
    | err e => exact ⟨e, by simp only [Engine.filterIds.go, hev]⟩
    | panic p =>
      exact absurd hev (Exec.NoPanicP.evaluate_no_panic c (hlen r List.mem_cons_self) p)

theorem filterIds_fail (name : Bytes) (schema : List FieldDef) (rows : List (Nat × List Val))
    (hlen : ∀ r ∈ rows, r.2.length = schema.length) (w : Option Sql.Cond)
    (h : Spec.selects ⟨name, schema, rows.map mkRow⟩ w = none) :
    ∃ e, Engine.filterIds w (schema.map fun fd => ⟨[], fd.name.toUTF8.toList⟩) rows = .err e := by
  cases w with
  | none => simp [Spec.selects] at h
  | some c =>
    exact filterIds_go_fail c _ rows (fun r hr => by rw [hlen r hr, List.length_map]) h

/-- the statement-level errors with which DELETE / UPDATE refuse before touching anything -/
def PreErr (e : Engine.StmtErr) : Prop := e = .store .tableNotExist ∨ ∃ x, e = .exec x

/-! ### the selected rows, as the spec sees them -/

/-- the values of the rows a selection vector selects, in order -/
def selVals (st : Spec.STable) (sel : List Bool) : List (List Val) :=
  (((st.rows.map (·.vals)).zip sel).filter (·.2)).map (·.1)

theorem selVals_selRows : ∀ (rows : List (Nat × List Val)) (sel : List Bool),
    ((((rows.map mkRow).map (·.vals)).zip sel).filter (·.2)).map (·.1) = (selRows rows sel).map (·.2)
  | [], _ => by simp [selRows]
  | _ :: _, [] => by simp [selRows]
  | r :: rows, b :: sel => by
    have ih := selVals_selRows rows sel
    rw [selRows_cons]
    cases b
    · simpa using ih
    · simp only [List.map_cons, List.zip_cons_cons, List.filter_cons, if_true, ih]
      rfl

theorem mem_selVals {st : Spec.STable} {sel : List Bool} {v : List Val} (h : v ∈ selVals st sel) :
    ∃ r, (r, true) ∈ st.rows.zip sel ∧ r.vals = v := by
  unfold selVals at h
  obtain ⟨p, hp, hpv⟩ := List.mem_map.mp h
  obtain ⟨hpz, hp2⟩ := List.mem_filter.mp hp
  rw [List.zip_map_left] at hpz
  obtain ⟨q, hq, hqp⟩ := List.mem_map.mp hpz
  refine ⟨q.1, ?_, ?_⟩
  · have : q.2 = true := by rw [← hqp] at hp2; exact hp2
    rw [← this]; exact hq
  · rw [← hpv, ← hqp]; rfl

theorem selVals_eq (st : Spec.STable) (sel : List Bool) :
    selVals st sel = ((st.rows.zip sel).filter (·.2)).map (·.1.vals) := by
  unfold selVals
  generalize st.rows = rows
  induction rows generalizing sel with
  | nil => simp
  | cons r rows ih =>
    cases sel with
    | nil => simp
    | cons b sel =>
      cases b
      · simpa using ih sel
      · simp only [List.map_cons, List.zip_cons_cons, List.filter_cons, if_true, List.map_cons, ih sel]

theorem selVals_congr {t0 t : Spec.STable} (h : tv t0 = tv t) (sel : List Bool) : selVals t0 sel = selVals t sel := by
  unfold selVals
  rw [tv_rows h]

theorem specUpdate_selected_assign {st : Spec.STable} {sets : List (Bytes × Sql.VExpr)} {sel : List Bool}
    {rows' : List Spec.SRow} (h : (st.rows.zip sel).mapM (specUpdRow st.cols sets) = some rows') :
    ∀ v ∈ selVals st sel, specAssign st.cols sets v ≠ none := by
  intro v hv hno
  obtain ⟨r, hr, rfl⟩ := mem_selVals hv
  obtain ⟨x, hx⟩ := mapM_some_forall h (r, true) hr
  simp only [specUpdRow, if_true, hno, Option.map_none] at hx
  cases hx

theorem specUpdate_none_of_selected (sdb : Spec.SDB) (table : Bytes) (sets : List (Bytes × Sql.VExpr))
    (w : Option Sql.Cond) (st : Spec.STable) (sel : List Bool)
    (hfind : Spec.findTable sdb table = some st) (hsel : Spec.selects st w = some sel)
    (v : List Val) (hv : v ∈ selVals st sel) (hno : specAssign st.cols sets v = none) :
    Spec.specUpdate sdb table sets w = none :=
  specUpdate_eq_none fun st' sel' _ hf _ _ hs hrows => by
    obtain rfl : st = st' := Option.some.inj (hfind.symm.trans hf)
    obtain rfl : sel = sel' := Option.some.inj (hsel.symm.trans hs)
    exact specUpdate_selected_assign hrows v hv hno

theorem rewriteFirst_of_mapM (cols : List FieldDef) (sets : List (Bytes × Sql.VExpr)) :
    ∀ (l : List (Spec.SRow × Bool)) (rows' : List Spec.SRow) (n : Nat),
      l.mapM (specUpdRow cols sets) = some rows' → (l.filter (·.2)).length ≤ n → rewriteFirst cols sets n l = rows'
  | [], rows', n, h, _ => by
    rw [mapM_nil_some] at h
    rw [h, rewriteFirst]
  | (r, s) :: rest, rows', n, h, hn => by
    obtain ⟨r', rs', hr', hrs', rfl⟩ := mapM_cons_some.mp h
    cases s
    · rw [List.filter_cons_of_neg (by simp)] at hn
      simp only [specUpdRow, Bool.false_eq_true, if_false, Option.some.injEq] at hr'
      simp only [rewriteFirst, Bool.false_and, Bool.false_eq_true, if_false, hr',
        rewriteFirst_of_mapM cols sets rest rs' n hrs' hn]
    · rw [List.filter_cons_of_pos rfl, List.length_cons] at hn
      simp only [specUpdRow, if_true] at hr'
      obtain ⟨v, hv, rfl⟩ := Option.map_eq_some_iff.mp hr'
      simp only [rewriteFirst, Bool.true_and, show decide (n > 0) = true by simp; omega, if_true, hv, Option.getD_some,
        rewriteFirst_of_mapM cols sets rest rs' (n - 1) hrs' (by omega)]

/-! ### what UPDATE does on a known table -/

theorem update_refused {s : Store} {pt sch : Levels} {tbls : List (Bytes × Levels)} (h : Cat s pt sch tbls)
    (table : Bytes) (t : Levels) (ht : (table, t) ∈ tbls) (schema : List FieldDef)
    (hsch : schemaOf sch table = some schema) (sets : List (Bytes × Sql.VExpr)) (cols : List String)
    (src : List Val) (hov : (cols.zip src).reverse = setMap sets) (hnames : checkColumns schema cols = none)
    (c : LeafCell) (hc : c ∈ live t) (m : Vals) (hdec : decodeTuple schema c.val [] = .ok m)
    (hno : specAssign schema sets (schema.map fun fd => get m fd.name) = none) :
    ∃ e s', update table c.key cols src s = .err e s' ∧
      (e = .typeMismatch ∨ e = .intOutOfRange ∨ e = .rowTooLarge) ∧ Same s s' ∧ Cat s' pt sch tbls := by
  rcases (specAssign_none_iff schema sets m).mp hno with ⟨err, henc⟩ | ⟨buf, henc, hsz⟩
  · rw [← hov] at henc
    obtain ⟨s', e, hs, hc'⟩ := update_cat_encode_error h table t ht schema hsch c.key cols src hnames c hc rfl m err
      hdec henc
    refine ⟨serrOf err, s', e, ?_, hs, hc'⟩
    rcases encodeTuple_err _ _ _ henc with rfl | rfl
    · exact .inl rfl
    · exact .inr (.inl rfl)
  · rw [← hov] at henc
    obtain ⟨s', e, hs, hc'⟩ := update_cat_too_large h table t ht schema hsch c.key cols src hnames c hc rfl m buf hdec
      henc hsz
    exact ⟨.rowTooLarge, s', e, .inr (.inr rfl), hs, hc'⟩

theorem mem_rowsOf_cell {schema : List FieldDef} {cs : List LeafCell} {r : Nat × List Val}
    (h : r ∈ rowsOf schema cs) :
    ∃ c ∈ cs, c.key = r.1 ∧ ∃ m, decodeTuple schema c.val [] = .ok m ∧ r.2 = schema.map fun fd => get m fd.name := by
  unfold rowsOf at h
  obtain ⟨c, hc, hr⟩ := List.mem_filterMap.mp h
  obtain ⟨m, hd, rfl⟩ := rowOf_eq_some.mp hr
  exact ⟨c, hc, rfl, m, decRow_eq_some.mp hd, rfl⟩

theorem can_rewrite_of_assign {schema : List FieldDef} {sets : List (Bytes × Sql.VExpr)} {cs : List LeafCell}
    {r : Nat × List Val} (hr : r ∈ rowsOf schema cs) (hne : specAssign schema sets r.2 ≠ none) :
    ∃ c ∈ cs, c.key = r.1 ∧ ∃ m buf, decodeTuple schema c.val [] = .ok m ∧
      encodeTuple schema (setMap sets ++ m) = .ok buf ∧ buf.length ≤ c_maxValueSize := by
  obtain ⟨c, hc, hck, m, hm, hr2⟩ := mem_rowsOf_cell hr
  rw [hr2] at hne
  obtain ⟨v, hv⟩ := Option.ne_none_iff_exists'.mp hne
  obtain ⟨buf, henc, hsz, _⟩ := (specAssign_some_iff schema sets m v).mp hv
  exact ⟨c, hc, hck, m, buf, hm, henc, hsz⟩

/-- the errors with which UPDATE refuses before / at its first row -/
def UpdErr (e : Engine.StmtErr) : Prop :=
  e = .unsupported ∨ PreErr e ∨ e = .store .typeMismatch ∨ e = .store .intOutOfRange ∨ e = .store .rowTooLarge ∨
    e = .store .fieldNotFound ∨ e = .store .fieldAmbiguous

theorem UpdErr.of_checkSetColumns {fields : List Exec.Field} {cs : List Bytes} {e : SErr}
    (h : Engine.checkSetColumns fields [] cs = some e) : UpdErr (.store e) := by
  rcases checkSetColumns_some fields cs [] e h with rfl | rfl
  · exact .inr (.inr (.inr (.inr (.inr (.inl rfl)))))
  · exact .inr (.inr (.inr (.inr (.inr (.inr rfl)))))

/-- **UPDATE of a known table, whatever the rows.**  The SET columns pass the check and the WHERE selects
`sel`.  The selected rows are cut (`hsplit`) into rows `pre` that can be rewritten and a rest that is empty or
begins with one that cannot (`htail`, the form in which `cut_first_none` hands it over): the rows `pre` are
rewritten as a live run, to a store that holds the catalog with the new tree; when the SET literals are values a
Go program can hold, a plain database that was the tables' is the new tables' once exactly the first
`pre.length` selected rows are rewritten (`AbsTables` to `AbsTables`: no store in it, so a caller under `AbsV`
transports nothing); then either nothing is left and the statement succeeds with the records of the run logged,
or the next row is refused (pages and header as they were) and the statement fails, the log as it was, the rows
`pre` still rewritten. -/
theorem evalUpdate_outcome (db : Engine.DB) {pt sch : Levels} {tbls : List (Bytes × Levels)}
    (h : Cat db.store pt sch tbls) (table : Bytes) (t : Levels) (ht : (table, t) ∈ tbls)
    (schema : List FieldDef) (hsch : schemaOf sch table = some schema)
    (hdec : ∀ c ∈ live t, ∃ m, decodeTuple schema c.val [] = .ok m)
    (sets : List (Bytes × Sql.VExpr)) (w : Option Sql.Cond) (hnocol : ∀ p ∈ sets, ∀ c, p.2 ≠ .col c)
    (sel : List Bool) (pre tail : List (List Val))
    (hsel : Spec.selects (absTable table schema t) w = some sel)
    (hset : Engine.checkSetColumns (schema.map fun fd => (⟨[], fd.name.toUTF8.toList⟩ : Exec.Field)) []
      (sets.map (·.1)) = none)
    (hsplit : selVals (absTable table schema t) sel = pre ++ tail)
    (hpre : ∀ v ∈ pre, specAssign schema sets v ≠ none)
    (htail : tail = [] ∨ ∃ bad post, tail = bad :: post ∧ specAssign schema sets bad = none) :
    ∃ s1 t' logs stmts,
      LiveRunM sch db.store tbls stmts s1 (setTable tbls table t') logs ∧
      Cat s1 pt sch (setTable tbls table t') ∧
      (∀ sdb, AbsTables sch tbls sdb → (∀ p ∈ sets, ∀ l, p.2 = .lit l → ValidVal (Engine.litToVal l)) →
        ∀ F : List Spec.SRow → List Spec.SRow,
          F (absTable table schema t).rows =
            rewriteFirst schema sets pre.length ((absTable table schema t).rows.zip sel) →
          AbsTables sch (setTable tbls table t') (sdb.map (updRows table F))) ∧
      (pre = [] → setTable tbls table t' = tbls ∧ Same db.store s1) ∧
      logs.length = pre.length ∧ s1.hdr.lastKey = db.store.hdr.lastKey ∧
      ((tail = [] ∧ Engine.evalUpdate db table sets w = .ok () { store := s1, wal := db.wal ++ logs }) ∨
        ∃ e s2, tail ≠ [] ∧ Engine.evalUpdate db table sets w = .err (.store e) { db with store := s2 } ∧
          (e = .typeMismatch ∨ e = .intOutOfRange ∨ e = .rowTooLarge) ∧ Same s1 s2 ∧
          Cat s2 pt sch (setTable tbls table t')) := by
  have hcc := checkColumns_of_checkSetColumns hset
  obtain ⟨s1, efetch, hs1, hc1⟩ := fetchTable_cat h table t ht schema hsch hdec
  obtain ⟨efilter, hsl⟩ := filterIds_selects table schema (rowsOf schema (live t)) w sel hsel
  -- the selected rows, cut as their values are
  have hsv : (selRows (rowsOf schema (live t)) sel).map (·.2) = pre ++ tail :=
    (selVals_selRows _ sel).symm.trans hsplit
  obtain ⟨idsPre, idsTail, hids, rfl, rfl⟩ := List.map_eq_append_iff.mp hsv
  have hmemsel : ∀ r ∈ idsPre ++ idsTail, r ∈ rowsOf schema (live t) := fun r hr =>
    (selRows_sublist _ sel).subset (hids ▸ hr)
  have hpre' : ∀ r ∈ idsPre, specAssign schema sets r.2 ≠ none := fun r hr => hpre r.2 (List.mem_map_of_mem hr)
  have hnd' : ((selRows (rowsOf schema (live t)) sel).map (·.1)).Nodup :=
    (rowsOf_keys_nodup h ht schema hdec).sublist ((selRows_sublist _ sel).map _)
  rw [hids, List.map_append, List.nodup_append] at hnd'
  obtain ⟨hndPre, _, hdisj⟩ := hnd'
  -- the rows before the cut are rewritten
  obtain ⟨s', t', logs, erun, hrun, hc', hl', hlen, hlk, _, hnil⟩ := update_rows table pt sch schema hsch sets _ _ rfl hcc
    idsPre s1 tbls t hc1 ht hndPre
    (fun r hr => can_rewrite_of_assign (hmemsel r (List.mem_append_left _ hr)) (hpre' r hr))
  refine ⟨s', t', logs, _, .same hs1 hrun, hc', ?_, ?_, by rw [hlen, List.length_map], by rw [hlk, hs1.2], ?_⟩
  · -- the abstraction: the first `pre.length` selected rows rewritten
    intro sdb htabs hvalid F hF
    have htake : (selRows (rowsOf schema (live t)) sel).take (idsPre.map (·.2)).length = idsPre := by
      rw [hids, List.length_map, List.take_left]
    obtain ⟨hd', hrows⟩ := rows_rewriteFirst schema sets (setMap_valid sets hvalid) (live t) sel _ hdec
      (sel_length hdec hsl) (live_keys_nodup (h.tree t (Cat.tb_mem ht)).2.1.asc) (by rw [htake]; exact hpre')
    rw [htake, ← hl'] at hd' hrows
    exact htabs.setTable h.tnames ht schema hsch t' hd' F (hrows.trans hF.symm)
  · intro hp
    obtain rfl : idsPre = [] := List.map_eq_nil_iff.mp hp
    obtain ⟨rfl, rfl⟩ := hnil rfl
    exact ⟨setTable_self h.tnames ht, hs1⟩
  · rw [evalUpdate_eq db table sets w hnocol, Engine.fetchForExec, Engine.liftS_ok efetch]
    simp only [hset, efilter, hids]
    rcases htail with htl | ⟨bad, post, htl, hbad⟩
    · obtain rfl := List.map_eq_nil_iff.mp htl
      rw [List.append_nil]
      exact .inl ⟨rfl, Engine.liftS_ok erun⟩
    · -- the row after the cut is refused: its cell is as it was
      obtain ⟨rb, idsPost, rfl, rfl, rfl⟩ := List.map_eq_cons_iff.mp htl
      obtain ⟨c, hc, hck, m, hm, hr2⟩ := mem_rowsOf_cell (hmemsel rb (by simp))
      have hcl' : c ∈ live t' := by
        rw [hl']
        exact List.mem_map.mpr ⟨c, hc, updK_of_not_mem schema sets fun hk => hdisj c.key hk rb.1 (by simp) hck⟩
      have hno : specAssign schema sets (schema.map fun fd => get m fd.name) = none := hr2 ▸ hbad
      obtain ⟨e, s2, he, hkind, hs2, hc2⟩ := update_refused hc' table t' (mem_setTable_self t' ht) schema hsch sets _ _ rfl
        hcc c hcl' m hm hno
      rw [hck] at he
      exact .inr ⟨e, s2, List.cons_ne_nil _ _, Engine.liftS_err (rowsM_err_at _ idsPost erun he), hkind, hs2, hc2⟩

/-- **UPDATE of a known table refused before anything is rewritten**: the SET columns fail the statement's
check (they are checked first, whatever the WHERE selects), the WHERE cannot be evaluated on some row, or the
first selected row cannot be rewritten (the outcome with no row before the cut).  `evalUpdate` fails; nothing
changes but the cache. -/
theorem evalUpdate_early (db : Engine.DB) {pt sch : Levels} {tbls : List (Bytes × Levels)}
    (h : Cat db.store pt sch tbls) (table : Bytes) (t : Levels) (ht : (table, t) ∈ tbls)
    (schema : List FieldDef) (hsch : schemaOf sch table = some schema)
    (hdec : ∀ c ∈ live t, ∃ m, decodeTuple schema c.val [] = .ok m)
    (sets : List (Bytes × Sql.VExpr)) (w : Option Sql.Cond) (hnocol : ∀ p ∈ sets, ∀ c, p.2 ≠ .col c)
    (hbad : Engine.checkSetColumns (schema.map fun fd => (⟨[], fd.name.toUTF8.toList⟩ : Exec.Field)) []
        (sets.map (·.1)) ≠ none ∨ Spec.selects (absTable table schema t) w = none ∨
      ∃ sel v rest, Spec.selects (absTable table schema t) w = some sel ∧
        selVals (absTable table schema t) sel = v :: rest ∧ specAssign schema sets v = none) :
    ∃ e s1, Engine.evalUpdate db table sets w = .err e { db with store := s1 } ∧ UpdErr e ∧
      Same db.store s1 ∧ Cat s1 pt sch tbls := by
  obtain ⟨s1, efetch, hs1, hc1⟩ := fetchTable_cat h table t ht schema hsch hdec
  cases hset : Engine.checkSetColumns (schema.map fun fd => (⟨[], fd.name.toUTF8.toList⟩ : Exec.Field)) []
      (sets.map (·.1)) with
  | some e =>
    rw [evalUpdate_eq db table sets w hnocol, Engine.fetchForExec, Engine.liftS_ok efetch]
    exact ⟨.store e, s1, by simp only [hset], UpdErr.of_checkSetColumns hset, hs1, hc1⟩
  | none =>
    rcases hbad.resolve_left fun hne => hne hset with hsel | ⟨sel, v, rest, hsel, hfirst, hno⟩
    · obtain ⟨x, efilter⟩ := filterIds_fail table schema (rowsOf schema (live t)) (fun r hr => rowsOf_len hr) w hsel
      rw [evalUpdate_eq db table sets w hnocol, Engine.fetchForExec, Engine.liftS_ok efetch]
      exact ⟨.exec x, s1, by simp only [hset, efilter], .inr (.inl (.inr ⟨x, rfl⟩)), hs1, hc1⟩
    · obtain ⟨_, t', _, _, _, _, _, hnil, _, _, hres⟩ := evalUpdate_outcome db h table t ht schema hsch hdec sets w hnocol
        sel [] (v :: rest) hsel hset hfirst (fun _ h0 => nomatch h0) (.inr ⟨v, rest, rfl, hno⟩)
      obtain ⟨htb, hs⟩ := hnil rfl
      rcases hres with ⟨h0, _⟩ | ⟨e, s2, _, he, hk, hs2, hc2⟩
      · cases h0
      · refine ⟨.store e, s2, he, ?_, hs.trans hs2, htb ▸ hc2⟩
        rcases hk with rfl | rfl | rfl
        · exact .inr (.inr (.inl rfl))
        · exact .inr (.inr (.inr (.inl rfl)))
        · exact .inr (.inr (.inr (.inr (.inl rfl))))

/-! ### the accepted statement -/

/-- UPDATE refines the spec when the engine's own test of the SET columns (`Engine.checkSetColumns` over
the fields of the table's schema) passes; the fetch phase is a `same` step, the per-row rewrites a live run. -/
theorem evalUpdate_refines_specV_set (db : Engine.DB) (pt sch : Levels) (tbls : List (Bytes × Levels))
    (sdb sdb' : Spec.SDB) (h : AbsV db.store pt sch tbls sdb) (table : Bytes)
    (sets : List (Bytes × Sql.VExpr)) (w : Option Sql.Cond)
    (hvalid : ∀ p ∈ sets, ∀ l, p.2 = .lit l → ValidVal (Engine.litToVal l))
    (hsetAll : ∀ schema, schemaOf sch table = some schema →
      Engine.checkSetColumns (schema.map fun fd => (⟨[], fd.name.toUTF8.toList⟩ : Exec.Field)) []
        (sets.map (·.1)) = none)
    (hspec : Spec.specUpdate sdb table sets w = some sdb') :
    ∃ db' t' logs stmts,
      Engine.evalUpdate db table sets w = .ok () db' ∧ db'.wal = db.wal ++ logs ∧
      LiveRunM sch db.store tbls stmts db'.store (setTable tbls table t') logs ∧
      AbsV db'.store pt sch (setTable tbls table t') sdb' ∧
      db'.store.hdr.lastKey = db.store.hdr.lastKey := by
  obtain ⟨sdb0, h, hv⟩ := h
  obtain ⟨sdb0', hspec0, hv'⟩ := specUpdate_congr hv table sets w hspec
  obtain ⟨st, sel, rows', hfind, hnocol, _, hsel, hrows, rfl⟩ := specUpdate_some_iff.mp hspec0
  obtain ⟨t, schema, ht, hsch, hdec, rfl⟩ := h.find hfind
  -- every selected row can be rewritten: the outcome with nothing left over
  obtain ⟨s1, t', logs, stmts, hrun, hc1, habs, _, _, hlk, hres⟩ := evalUpdate_outcome db h.cat table t ht schema hsch hdec
    sets w hnocol sel (selVals _ sel) [] hsel (hsetAll schema hsch) (List.append_nil _).symm
    (specUpdate_selected_assign hrows) (.inl rfl)
  rcases hres with ⟨_, e⟩ | ⟨_, _, hne, _⟩
  · refine ⟨_, t', logs, stmts, e, rfl, hrun, ⟨_, ⟨hc1, habs sdb0 h.tabs hvalid (fun _ => rows') ?_⟩, hv'⟩, hlk⟩
    exact (rewriteFirst_of_mapM schema sets _ rows' _ hrows (by rw [selVals_eq, List.length_map]; exact Nat.le_refl _)).symm
  · exact absurd rfl hne

/-- **UPDATE refines the spec.**  If the store abstracts to `sdb` up to row ids, the spec accepts the statement
(`specUpdate … = some sdb'`: the table is known, no `SET col = col`, the SET columns are columns of
the table, each set once, the condition evaluates on every row, every selected row can be rewritten),
the SET literals are values a Go program can hold, and the SET column names are valid UTF-8 (`hutf`:
the statement's check compares the names as byte strings, the plain model as decoded strings), then
the model's `evalUpdate` succeeds, appends one record per updated row to the log (a live run of row
statements), and the store afterwards abstracts to `sdb'` up to row ids. -/
theorem evalUpdate_refines_specV (db : Engine.DB) (pt sch : Levels) (tbls : List (Bytes × Levels))
    (sdb sdb' : Spec.SDB) (h : AbsV db.store pt sch tbls sdb) (table : Bytes)
    (sets : List (Bytes × Sql.VExpr)) (w : Option Sql.Cond)
    (hvalid : ∀ p ∈ sets, ∀ l, p.2 = .lit l → ValidVal (Engine.litToVal l))
    (hutf : ∀ p ∈ sets, (Spec.nameStr p.1).toUTF8.toList = p.1)
    (hspec : Spec.specUpdate sdb table sets w = some sdb') :
    ∃ db' t' logs stmts,
      Engine.evalUpdate db table sets w = .ok () db' ∧ db'.wal = db.wal ++ logs ∧
      LiveRunM sch db.store tbls stmts db'.store (setTable tbls table t') logs ∧
      AbsV db'.store pt sch (setTable tbls table t') sdb' ∧
      db'.store.hdr.lastKey = db.store.hdr.lastKey := by
  refine evalUpdate_refines_specV_set db pt sch tbls sdb sdb' h table sets w hvalid (fun schema hsch => ?_) hspec
  obtain ⟨sdb0, h, hv⟩ := h
  obtain ⟨st, _, _, hfind, _, hnamesOK, _⟩ := specUpdate_some_iff.mp hspec
  obtain ⟨st0, hfind0, htv⟩ := findTable_congr_some hv hfind
  obtain ⟨t, schema', ht, hsch', _, rfl⟩ := h.find hfind0
  obtain rfl : schema' = schema := Option.some.inj (hsch'.symm.trans hsch)
  refine checkSetColumns_of_namesOK (absTable table schema' t) (sets.map (·.1)) (h.tabs.names_nodup ht hsch)
    (fun c hc => ?_) (by rw [List.map_map, namesOK_congr (tv_cols htv)]; exact hnamesOK)
  obtain ⟨p, hp, rfl⟩ := List.mem_map.mp hc
  exact hutf p hp

end Mkdb.Store
