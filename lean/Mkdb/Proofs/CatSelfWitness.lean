import Mkdb.Proofs.CatSelf
import Mkdb.Proofs.PtSelfSplitWitness
import Mkdb.Proofs.SessionSelect
/-!
C18, the two catalog tables: **witnesses.**

Three catalog queries evaluated (by the kernel) on the computed database `tableDB`, and on `db8`, the
database after `CREATE DATABASE; CREATE TABLE t1 … t8` (`PtSelfSplitWitness`) whose
page table has SPLIT: its root is page 53248, the self-row still reads `(sys_pages, 4096)` (`db8_stale`),
and 4096 is the leftmost leaf.
-/
set_option autoImplicit false
namespace Mkdb.Store
open Mkdb.Page Mkdb.Tuple Mkdb.Generated Mkdb.Tree Mkdb.Engine Mkdb.Exec Mkdb.Exec.TypedP Mkdb.Sql

/-- `SELECT * FROM sys_pages p JOIN sys_schema s ON p.table_name = s.table_name ORDER BY s.field_name` -/
def exCatalogJoin : Select :=
  { list := [⟨.star, []⟩],
    from_ := some (.join (.table ⟨sysPages, some [112]⟩) .inner ⟨sysSchema, some [115]⟩
      (.pred ⟨.col ⟨[112], "table_name".toUTF8.toList⟩, Generated.t_EQ, .col ⟨[115], "table_name".toUTF8.toList⟩⟩)),
    orderBy := [⟨⟨[115], "field_name".toUTF8.toList⟩, false⟩] }

/-- `SELECT * FROM sys_pages` -/
def exPagesQuery : Select := { list := [⟨.star, []⟩], from_ := some (.table ⟨sysPages, none⟩) }

def selectSize (r : Exec.X (List Row × List Field)) : Option (Nat × Nat) :=
  match r with
  | .ok (rows, hdr) => some (rows.length, hdr.length)
  | _ => none

theorem exCatalog_shapes : (Exec.NoPanicP.ParsedShape exCatalogQuery) ∧
    (Exec.NoPanicP.ParsedShape exCatalogJoin) ∧
    (Exec.NoPanicP.ParsedShape exPagesQuery) ∧
    ¬ UserTables exCatalogQuery ∧ ¬ UserTables exCatalogJoin ∧ ¬ UserTables exPagesQuery :=
  ⟨by decide, by decide, by decide, by decide +kernel, by decide +kernel, by decide +kernel⟩

/-- on the computed database `CREATE DATABASE; CREATE TABLE t (a INT)`: the seven rows of `sys_schema`
under four columns; the join of the three page-table rows with them: seven rows under six columns; the
three rows of `sys_pages` under two columns -/
theorem exCatalog_on_tableDB :
    selectSize (evaluateSelect (fetchOf tableDB) exCatalogQuery) = some (7, 4) ∧
    selectSize (evaluateSelect (fetchOf tableDB) exCatalogJoin) = some (7, 6) ∧
    selectSize (evaluateSelect (fetchOf tableDB) exPagesQuery) = some (3, 2) := by
  refine ⟨?_, by decide +kernel, by decide +kernel⟩
  -- the first query is the one `catalogOK_tableDB` evaluated
  have h := catalogOK_tableDB.2
  cases hr : evaluateSelect (fetchOf tableDB) exCatalogQuery with
  | ok p =>
    rw [hr] at h
    simp only [Bool.and_eq_true, beq_iff_eq] at h
    simp only [selectSize, h.1, h.2]
  | err e => rw [hr] at h; cases h
  | panic x => rw [hr] at h; cases h

/-! ### the database whose page table has split -/

/-- `SelfOK` follows the model run of up to forty CREATE TABLEs (`create_many`, PtSelfSplitWitness) -/
theorem create_many_self : ∀ (names : List Bytes) {sch : Levels} {db : Engine.DB} {sdb : Spec.SDB} {pt : Levels}
    {tbls : List (Bytes × Levels)} {k : Nat}, Grown sch db sdb pt tbls k → SelfOK db →
    k + names.length ≤ 40 → createsOK sdb names = true →
    ∀ db', runCreates db names = some db' → SelfOK db'
  | [], _, db, _, _, _, _, _, hs, _, _, db', e => by
    simp only [runCreates, Option.some.injEq] at e
    subst e
    exact hs
  | n :: rest, sch, db, sdb, pt, tbls, k, h, hs, hk, hok, db', e => by
    simp only [createsOK, Bool.and_eq_true, Option.isNone_iff_eq_none, bne_iff_ne, ne_eq] at hok
    obtain ⟨⟨⟨⟨hfind, hn1⟩, hn2⟩, hchk⟩, hrest⟩ := hok
    simp only [List.length_cons] at hk
    obtain ⟨hroom, db1, pt1, sch1, tbls1, e1, h1⟩ := h.create (by omega) n hfind hn1 hn2 hchk
    have hi : DbInv db sdb pt sch tbls := (h.ck.dbFlushed h.ns).inv
    obtain ⟨_, habs, _⟩ := h.ck.abs
    have hs1 : SelfOK db1 := evalStmt_keeps_self db [] sdb pt sch tbls hi (hs.catSelf hi) (.createTable n acols)
      (fun hx => absurd hx hn1) (hroom pt tbls habs.cat) trivial db1 (.inl e1)
    simp only [runCreates, e1] at e
    exact create_many_self rest h1 hs1 (by omega) hrest db' e

/-- the database after `CREATE DATABASE; CREATE TABLE t1 … t8` - page table split, self-row stale - has a
catalog that describes itself -/
theorem selfOK_db8 : SelfOK db8 := by
  obtain ⟨_, _, _, e, _, _⟩ := eight_tables
  exact create_many_self names8 grown_newDB selfOK_newDB (by decide) names8_ok db8 e

/-- and `SELECT * FROM sys_pages` on it - which starts at page 4096, the page the stale self-row names, not
at the root 53248 - returns all ten rows (two catalog tables, eight user tables); the join with
`sys_schema` returns its fourteen rows -/
theorem exPages_on_db8 : selectSize (evaluateSelect (fetchOf db8) exPagesQuery) = some (10, 2) ∧
    selectSize (evaluateSelect (fetchOf db8) exCatalogJoin) = some (14, 6) := by
  decide +kernel

end Mkdb.Store

namespace Mkdb.Session
open Mkdb.Engine Mkdb.Store Mkdb.Sql Mkdb.Exec

/-- in the session whose selected database is `tableDB` the three catalog queries are answered (computed
by the model) -/
theorem sessT_catalog_selects_answered :
    (runAll sessT [.select exCatalogQuery, .select exCatalogJoin, .select exPagesQuery]).2.map Out.isOk =
      [true, true, true] := by
  have isOk : ∀ {r : Exec.X (List Row × List Field)} {a : Nat × Nat}, selectSize r = some a →
      (selectOut r).isOk = true := by
    intro r a h
    cases r with
    | ok p => rfl
    | err e => cases h
    | panic x => cases h
  have h := runAll_selects (s := sessT) rfl getDB_sessT [exCatalogQuery, exCatalogJoin, exPagesQuery]
  simp only [List.map_cons, List.map_nil] at h
  simp only [h, List.map_cons, List.map_nil, isOk exCatalog_on_tableDB.1, isOk exCatalog_on_tableDB.2.1,
    isOk exCatalog_on_tableDB.2.2]

theorem catalog_history_answered :
    (runAll {} [.createDatabase [100], .use [100], .select exCatalogQuery, .select exCatalogJoin,
      .select exPagesQuery]).2.map Out.isOk = [true, true, true, true, true] := by decide +kernel

end Mkdb.Session
