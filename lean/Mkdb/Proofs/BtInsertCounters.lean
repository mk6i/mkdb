import Mkdb.Proofs.RefineInsert
/-!
Refinement at the statement level: the B-tree insert touches no header field but the
allocation frontier (`Keeps`), so `insertKey` against `insertAppend` with the whole header (`insertKey_refines`,
`insertKey_refines_keyExists`: any key and LSN, as log replay needs), and `btInsert` against `insertAppend` with the
key and LSN counters (`btInsert_refines`; an oversized value is refused after they moved: `btInsert_tooLarge`).
-/
set_option autoImplicit false
namespace Mkdb.Store
open Mkdb.Page Mkdb.Tuple Mkdb.Generated Mkdb.Tree

/-- the header fields a B-tree operation has no business with -/
def hrest (s : Store) : Nat × Nat × Nat := (s.hdr.lastKey, s.hdr.ptRoot, s.hdr.nextLSN)

def Keeps {α} (m : SM α) : Prop :=
  ∀ s, match m s with
    | .ok _ s' => hrest s' = hrest s
    | .err _ s' => hrest s' = hrest s
    | _ => True

theorem Keeps.ok {α} {m : SM α} (h : Keeps m) {s s' : Store} {a : α} (e : m s = .ok a s') :
    hrest s' = hrest s := Preserves.ok (R := fun s s' => hrest s' = hrest s) h e

theorem Keeps.err {α} {m : SM α} (h : Keeps m) {s s' : Store} {x : SErr} (e : m s = .err x s') :
    hrest s' = hrest s := Preserves.err (R := fun s s' => hrest s' = hrest s) h e

theorem Keeps.fetch (off : Nat) : Keeps (fetch off) := by
  intro s
  unfold Store.fetch
  cases assocGet s.mem off <;> rfl

theorem Keeps.putNode (n : Node) (d : Option Bool) : Keeps (putNode n d) := fun _ => rfl

theorem Keeps.markDirty (off lsn : Nat) : Keeps (markDirty off lsn) := by
  intro s
  unfold Store.markDirty
  cases assocGet s.mem off
  · trivial
  · rfl

theorem Keeps.appendNode (n : Node) (d : Bool) : Keeps (appendNode n d) := fun _ => rfl

/-- `Keeps m` is `Preserves (fun s s' => hrest s' = hrest s) m`; neither the cache, nor the allocation
frontier, nor the `ghost` counter is one of the three fields -/
theorem hrest_allocs : KeptByAllocs fun s s' => hrest s' = hrest s where
  refl _ := rfl
  trans h1 h2 := h2.trans h1
  fetch := Keeps.fetch
  putNode := Keeps.putNode
  markDirty := Keeps.markDirty
  appendNode := Keeps.appendNode
  ghost _ := rfl

theorem Keeps.insertLeaf (parent : Option Nat) (cur : Leaf) (key lsn : Nat) (value : Bytes) (root : Nat) :
    Keeps (insertLeaf parent cur key lsn value root) := hrest_allocs.insertLeaf _ _ _ _ _ _

theorem Keeps.insertInternal : ∀ (fuel : Nat) (parent : Option Nat) (cur : Internal) (key lsn : Nat)
    (value : Bytes) (root : Nat), Keeps (insertInternal fuel parent cur key lsn value root) :=
  hrest_allocs.insertInternal

theorem Keeps.insertKeyHeap (bt : BT) (key lsn : Nat) (value : Bytes) :
    Keeps (Store.insertKeyHeap bt key lsn value) := hrest_allocs.insertKeyHeap _ _ _ _

theorem hrest_eq {s s' : Store} (h : hrest s' = hrest s) :
    s'.hdr.lastKey = s.hdr.lastKey ∧ s'.hdr.ptRoot = s.hdr.ptRoot ∧ s'.hdr.nextLSN = s.hdr.nextLSN := by
  unfold hrest at h
  simp only [Prod.mk.injEq] at h
  exact h

theorem hdr_of_hrest {s s' : Store} {nf : Nat} (h : hrest s' = hrest s) (hn : s'.hdr.nextFree = nf) :
    s'.hdr = { s.hdr with nextFree := nf } := by
  obtain ⟨k1, k2, k3⟩ := hrest_eq h
  show (⟨s'.hdr.lastKey, s'.hdr.ptRoot, s'.hdr.nextFree, s'.hdr.nextLSN⟩ : Header) = _
  rw [k1, k2, k3, hn]

/-- `BTree.insertKey` (the heap insert under its runtime cross-check) on a held tree on which the levels insert
succeeds: the heap follows the levels, and of the header only the allocation frontier moves -/
theorem insertKey_refines (s : Store) (t : Levels) (key lsn : Nat) (value : Bytes)
    (hH : Holds s t) (hI : Inv t s.hdr.nextFree) (hd : t.inner.length + 2 ≤ treeFuel)
    (t' : Levels) (nf' : Nat) (h : insertAppend t key lsn value s.hdr.nextFree = .ok (t', nf')) :
    ∃ s', insertKey ⟨rootOff t⟩ key lsn value s = .ok ⟨rootOff t'⟩ s' ∧ Holds s' t' ∧
      s'.hdr = { s.hdr with nextFree := nf' } ∧ ∀ off, off ∉ offs t' → view s' off = view s off := by
  obtain ⟨s', e, hH', hn, hfr⟩ :=
    insertKeyHeap_refines s t key lsn value hH hI (Nat.le_of_add_right_le hd) t' nf' h
  refine ⟨s', ?_, hH', hdr_of_hrest ((Keeps.insertKeyHeap _ _ _ _).ok e) hn, hfr⟩
  rw [insertKey_eq_insertKeyHeap s t key lsn value hH hI hd (.inl ⟨_, h⟩), e]

/-- the same where the key is in the tree already: refused, and neither what the engine can see nor the header
changes -/
theorem insertKey_refines_keyExists (s : Store) (t : Levels) (key lsn : Nat) (value : Bytes)
    (hH : Holds s t) (hI : Inv t s.hdr.nextFree) (hd : t.inner.length + 2 ≤ treeFuel)
    (h : insertAppend t key lsn value s.hdr.nextFree = .error .keyExists) :
    ∃ s', insertKey ⟨rootOff t⟩ key lsn value s = .err .keyExists s' ∧ view s' = view s ∧ s'.hdr = s.hdr := by
  obtain ⟨s', e, _, hn, hv⟩ :=
    insertKeyHeap_refines_keyExists s t key lsn value hH hI (Nat.le_of_add_right_le hd) h
  refine ⟨s', ?_, funext hv, hdr_of_hrest ((Keeps.insertKeyHeap _ _ _ _).err e) hn⟩
  rw [insertKey_eq_insertKeyHeap s t key lsn value hH hI hd (.inr (.inl h)), e]

/-- `BTree.insert` with the next row id on a held tree all of whose keys have been issued: the
levels insert succeeds and the heap follows it; the counters advance -/
theorem btInsert_refines (s : Store) (t : Levels) (buf : Bytes) (hH : Holds s t) (hI : Inv t s.hdr.nextFree)
    (hd : t.inner.length + 2 ≤ treeFuel) (hk : ∀ a ∈ keys t, a ≤ s.hdr.lastKey)
    (hv : buf.length ≤ c_maxValueSize) :
    ∃ t' nf' s', insertAppend t (s.hdr.lastKey + 1) s.hdr.nextLSN buf s.hdr.nextFree = .ok (t', nf') ∧
      btInsert ⟨rootOff t⟩ buf s = .ok (⟨rootOff t'⟩, s.hdr.lastKey + 1, s.hdr.nextLSN) s' ∧
      Holds s' t' ∧ s'.hdr.nextFree = nf' ∧ s'.hdr.lastKey = s.hdr.lastKey + 1 ∧
      s'.hdr.nextLSN = s.hdr.nextLSN + 1 ∧ s'.hdr.ptRoot = s.hdr.ptRoot ∧
      ∀ off, off ∉ offs t' → view s' off = view s off := by
  obtain ⟨⟨t', nf'⟩, hins⟩ := insertAppend_fresh t s.hdr.nextFree (s.hdr.lastKey + 1) s.hdr.nextLSN buf hI
    (fun a ha => Nat.lt_succ_of_le (hk a ha)) hv
  obtain ⟨s1, e1, hH1, hh1, hfr⟩ := insertKey_refines s t _ _ buf hH hI hd t' nf' hins
  refine ⟨t', nf', bumpCounters s1, hins, by rw [btInsert_eq_map, e1]; rfl, hH1, ?_⟩
  show s1.hdr.nextFree = nf' ∧ s1.hdr.lastKey + 1 = _ ∧ s1.hdr.nextLSN + 1 = _ ∧ s1.hdr.ptRoot = _ ∧ _
  rw [hh1]
  exact ⟨rfl, rfl, rfl, rfl, hfr⟩

/-- the same with a value over the size limit: refused, AFTER the counters advanced; nothing else changes -/
theorem btInsert_tooLarge (s : Store) (t : Levels) (buf : Bytes) (hH : Holds s t) (hI : Inv t s.hdr.nextFree)
    (hd : t.inner.length + 2 ≤ treeFuel) (hk : ∀ a ∈ keys t, a ≤ s.hdr.lastKey)
    (hv : buf.length > c_maxValueSize) :
    ∃ s', btInsert ⟨rootOff t⟩ buf s = .err .rowTooLarge s' ∧ view s' = view s ∧
      s'.hdr = { s.hdr with lastKey := s.hdr.lastKey + 1, nextLSN := s.hdr.nextLSN + 1 } := by
  have hta := insertAppend_tooLarge t s.hdr.nextFree (s.hdr.lastKey + 1) s.hdr.nextLSN buf hI
    (fun a ha => Nat.lt_succ_of_le (hk a ha)) hv
  obtain ⟨s1, e1, _, hn1, hv1⟩ := insertKeyHeap_refines_rowTooLarge s t _ _ buf hH hI (by omega) hta
  refine ⟨bumpCounters s1, ?_, funext hv1, ?_⟩
  · rw [btInsert_eq_map, insertKey_eq_insertKeyHeap s t _ _ buf hH hI hd (.inr (.inr hta)), e1]
    rfl
  · show { s1.hdr with lastKey := s1.hdr.lastKey + 1, nextLSN := s1.hdr.nextLSN + 1 } = _
    rw [hdr_of_hrest ((Keeps.insertKeyHeap _ _ _ _).err e1) hn1]

end Mkdb.Store
