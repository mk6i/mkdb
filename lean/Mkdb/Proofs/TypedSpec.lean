import Mkdb.Proofs.Kinds
import Mkdb.Proofs.SpecRefineCreateTable
import Mkdb.Proofs.SpecRefineDelete
import Mkdb.Proofs.SpecRefineUpdate
/-!
C18, typed tables: **the plain in-memory database stays typed**.

`Typed sdb`: the tables of the plain database have distinct names, and every row of every table has
exactly one value per declared column, each NULL or of the column's kind (INT / BIGINT: an integer,
VARCHAR: a string, BOOLEAN: a boolean).  The empty database is typed and every statement the plain model
accepts keeps it typed: INSERT because `rowOf` encodes the row with the table's columns
(`Tuple.validate`), UPDATE because its per-row check does the same, DELETE because it only removes rows,
CREATE TABLE because the new table is empty and its name fresh.  The distinct names are part of the
invariant because INSERT / UPDATE / DELETE of the plain model rewrite EVERY table of the given name with
rows checked against the FIRST one (`C18_typed_rows_need_distinct_names`).
-/
set_option autoImplicit false
namespace Mkdb.Spec
open Mkdb.Tuple Mkdb.Sql Mkdb.Exec.TypedP

/-- the kind of value a column type stores, read off `Tuple.validate` -/
def kindOf : DataType → Kind
  | .int => .int
  | .bigint => .int
  | .varchar => .str
  | .boolean => .bool

def colKinds (cols : List FieldDef) : List Kind := cols.map fun fd => kindOf fd.ty

def TypedRows (sdb : SDB) : Prop := ∀ t ∈ sdb, ∀ r ∈ t.rows, rowHas (colKinds t.cols) r.vals = true

/-- **A typed plain database**: distinct table names, and typed rows. -/
structure Typed (sdb : SDB) : Prop where
  names : (sdb.map (·.name)).Nodup
  rows : TypedRows sdb

theorem typed_empty : Typed [] := ⟨List.nodup_nil, fun _ ht => absurd ht List.not_mem_nil⟩

/-! ### rows that `Tuple.Encode` accepts -/

theorem validate_kind {fd : FieldDef} {v : Val} (h : validate fd v = .ok ()) : hasKind (kindOf fd.ty) v = true := by
  unfold validate at h
  split at h
  all_goals first
    | (rename_i hty; rw [hty]; rfl)
    | cases h

theorem encodeTuple_kinds : ∀ (cols : List FieldDef) (m : Vals) (bs : Bytes), encodeTuple cols m = .ok bs →
    ∀ fd ∈ cols, hasKind (kindOf fd.ty) (get m fd.name) = true
  | [], _, _, _, _, hfd => absurd hfd List.not_mem_nil
  | fd0 :: rest, m, bs, h, fd, hfd => by
    unfold encodeTuple at h
    cases hb : encField fd0 (get m fd0.name) with
    | error e => rw [hb] at h; cases h
    | ok b =>
      rw [hb] at h
      cases ht : encodeTuple rest m with
      | error e => rw [ht] at h; cases h
      | ok bt =>
        rcases List.mem_cons.mp hfd with rfl | hmem
        · rcases (encField_ok_iff fd (get m fd.name)).mp ⟨b, hb⟩ with hn | hv
          · rw [hn]; exact hasKind_null _
          · exact validate_kind hv
        · exact encodeTuple_kinds rest m bt ht fd hmem

theorem rowHas_map_cols (f : FieldDef → Val) : ∀ (cols : List FieldDef),
    (∀ fd ∈ cols, hasKind (kindOf fd.ty) (f fd) = true) → rowHas (colKinds cols) (cols.map f) = true
  | [], _ => rfl
  | fd :: rest, h => by
    simp only [colKinds, List.map_cons]
    exact rowHas_cons.mpr ⟨h fd (by simp), rowHas_map_cols f rest (fun x hx => h x (List.mem_cons_of_mem _ hx))⟩

/-- the row check shared by `rowOf` (INSERT) and the per-row check of UPDATE: what it lets through is
kinded by the table's columns -/
theorem checked_row_kinded (cols : List FieldDef) (m : Vals) (row : List Val)
    (h : (match encodeTuple cols m with
      | .error _ => none
      | .ok bs => if bs.length > Generated.c_maxValueSize then none else some (cols.map fun fd => get m fd.name)) =
        some row) : rowHas (colKinds cols) row = true := by
  split at h
  · cases h
  · rename_i bs hbs
    split at h
    · cases h
    · simp only [Option.some.injEq] at h
      subst h
      exact rowHas_map_cols _ cols (encodeTuple_kinds cols m bs hbs)

theorem rowOf_kinded {t : STable} {cols : List Bytes} {vals row : List Val} (h : rowOf t cols vals = some row) :
    rowHas (colKinds t.cols) row = true := by
  unfold rowOf at h
  generalize (if cols.isEmpty then t.cols.map (·.name) else cols.map nameStr) = cs at h
  dsimp only at h
  split at h
  · cases h
  · exact checked_row_kinded t.cols _ row h

/-! ### replacing the rows of one table -/

/-- the rows of the table `table` replaced by rows typed for its columns - what INSERT, UPDATE and DELETE
of the plain model do (`specInsert_some_iff`, `specUpdate_some_iff`, `specDelete_some_iff`) -/
theorem Typed.setRows {sdb : SDB} (h : Typed sdb) {table : Bytes} {t : STable} (hf : findTable sdb table = some t)
    (F : List SRow → List SRow) (hr : ∀ r ∈ F t.rows, rowHas (colKinds t.cols) r.vals = true) :
    Typed (sdb.map (Store.updRows table F)) := by
  constructor
  · rw [List.map_map]
    have : ((fun x : STable => x.name) ∘ Store.updRows table F) = fun x : STable => x.name := by
      funext x
      simp only [Function.comp, Store.updRows]
      split <;> rfl
    rw [this]
    exact h.names
  · intro y hy r hry
    obtain ⟨x, hx, rfl⟩ := List.mem_map.mp hy
    unfold Store.updRows at hry ⊢
    by_cases hn : (x.name == table) = true
    · have hxt : x = t := findTable_unique h.names hf x hx (by simpa using hn)
      subst hxt
      simp only [hn, if_true] at hry ⊢
      exact hr r hry
    · simp only [hn] at hry ⊢
      exact h.rows x hx r hry

/-! ### the statements -/

theorem Typed.specInsert {sdb sdb' : SDB} (h : Typed sdb) {table : Bytes} {cols : List Bytes}
    {rows : List (List Val)} (hs : Spec.specInsert sdb table cols rows = some sdb') : Typed sdb' := by
  obtain ⟨t, newRows, hf, _, hm, rfl⟩ := Store.specInsert_some_iff.mp hs
  refine h.setRows hf _ fun r hr => ?_
  rcases List.mem_append.mp hr with hr | hr
  · exact h.rows t (findTable_mem hf).1 r hr
  · obtain ⟨v, hv, rfl⟩ := List.mem_map.mp hr
    obtain ⟨vals, _, e⟩ := mapM_out_mem hm v hv
    exact rowOf_kinded e

theorem Typed.specDelete {sdb sdb' : SDB} (h : Typed sdb) {table : Bytes} {w : Option Cond}
    (hs : Spec.specDelete sdb table w = some sdb') : Typed sdb' := by
  obtain ⟨t, sel, hf, _, rfl⟩ := Store.specDelete_some_iff.mp hs
  refine h.setRows hf _ fun r hr => ?_
  obtain ⟨⟨r0, s⟩, hmem, e⟩ := List.mem_filterMap.mp hr
  dsimp only at e
  split at e
  · cases e
  · cases e
    exact h.rows t (findTable_mem hf).1 _ (List.of_mem_zip hmem).1

/-- **UPDATE keeps the database typed**: a selected row is rewritten only if the new row passes the
check INSERT makes -/
theorem Typed.specUpdate {sdb sdb' : SDB} (h : Typed sdb) {table : Bytes} {sets : List (Bytes × VExpr)}
    {w : Option Cond} (hs : Spec.specUpdate sdb table sets w = some sdb') : Typed sdb' := by
  obtain ⟨t, sel, rows', hf, _, _, _, hrows', rfl⟩ := Store.specUpdate_some_iff.mp hs
  refine h.setRows hf _ fun r hr => ?_
  obtain ⟨⟨r0, s⟩, hmem, e⟩ := mapM_out_mem hrows' r hr
  unfold Store.specUpdRow at e
  split at e
  · obtain ⟨v, ha, rfl⟩ := Option.map_eq_some_iff.mp e
    exact checked_row_kinded t.cols _ v ha
  · cases e
    exact h.rows t (findTable_mem hf).1 _ (List.of_mem_zip hmem).1

theorem Typed.specCreate {sdb sdb' : SDB} (h : Typed sdb) {name : Bytes} {cols : List ColDef}
    (hs : Spec.specCreate sdb name cols = some sdb') : Typed sdb' := by
  obtain ⟨hnone, _, _, _, _, rfl⟩ := Store.specCreate_some hs
  constructor
  · rw [List.map_append, List.nodup_append]
    refine ⟨h.names, by simp, ?_⟩
    intro a ha b hb
    simp only [List.map_cons, List.map_nil, List.mem_singleton] at hb
    subst hb
    intro e
    exact findTable_none_notin hnone (e ▸ ha)
  · intro t ht r hr
    rcases List.mem_append.mp ht with ht | ht
    · exact h.rows t ht r hr
    · simp only [List.mem_singleton] at ht
      subst ht
      cases hr

theorem Typed.specStmt {sdb sdb' : SDB} (h : Typed sdb) {st : Stmt} (hs : Spec.specStmt sdb st = some sdb') :
    Typed sdb' := by
  cases st with
  | createTable n cols => exact h.specCreate hs
  | insert t cols rows => exact h.specInsert hs
  | update t sets w => exact h.specUpdate hs
  | delete t w => exact h.specDelete hs
  | _ => exact Option.some.inj hs ▸ h

end Mkdb.Spec
