import Mkdb.Proofs.BtInsertCounters
import Mkdb.Proofs.CatalogNamed
/-!
# `Store.insert` (`RelationService.Insert`) under the catalog invariant `Cat`

One row into any tree the page table names (a user table, `sys_schema`) is `insertAppend` on that
tree with the next row id and LSN; its catalog row is re-pointed (`setVal` on the page table)
exactly when the root moved (`Named.insert`).  `RelationService.Insert` into a user table is that,
after the catalog lookups (`insert_refines'`; `insert_refines` forgets where the catalog row is).
At the end, non-vacuity: a concrete store satisfying `Cat`, and the insert on it.
-/
set_option autoImplicit false
namespace Mkdb.Store
open Mkdb.Page Mkdb.Tuple Mkdb.Generated Mkdb.Tree

theorem holds_after_insert {s s' : Store} {t t' u : Levels} {key lsn nf' : Nat} {buf : Bytes}
    (hins : insertAppend t key lsn buf s.hdr.nextFree = .ok (t', nf'))
    (hframe : ∀ off, off ∉ offs t' → view s' off = view s off)
    (hHu : Holds s u) (hIu : Inv u s.hdr.nextFree) (hdis : ∀ o ∈ offs u, o ∉ offs t) : Holds s' u := by
  intro x hx
  rw [hframe x.1 (insertAppend_sep hins hIu hdis x.1 (List.mem_map.mpr ⟨x, hx, rfl⟩))]
  exact hHu x hx

/-- **One row into a named tree.**  `BTree.insert` on the tree `t` the page table knows as `nm` is
`insertAppend` with the next row id and LSN; when the root moved, `updatePageTable` re-points the
entry of `nm` - `setVal` on the page table - and logs that. -/
theorem Named.insert {s : Store} {pt : Levels} {all : List (Bytes × Levels)} (h : Named s pt all)
    {nm : Bytes} {t : Levels} (ht : (nm, t) ∈ all) (buf : Bytes) (hlen : buf.length ≤ c_maxValueSize)
    (t' : Levels) (nf' : Nat)
    (hins : insertAppend t (s.hdr.lastKey + 1) s.hdr.nextLSN buf s.hdr.nextFree = .ok (t', nf'))
    (hd' : t'.inner.length + 2 ≤ treeFuel) (hl' : t'.leaves.length ≤ scanFuel)
    (hbig : (nf' : Int) ≤ 9223372036854775807) :
    ∃ s4 s' ptF, btInsert ⟨rootOff t⟩ buf s = .ok (⟨rootOff t'⟩, s.hdr.lastKey + 1, s.hdr.nextLSN) s4 ∧
      Named s' ptF (setTable all nm t') ∧ s'.hdr.lastKey = s.hdr.lastKey + 1 ∧ s'.hdr.nextFree = nf' ∧
      ptEntries ptF = (ptEntries pt).map (repoint nm (rootOff t')) ∧ PtLike pt ptF ∧
      WrittenSince s.hdr.nextLSN pt ptF ∧
      ((rootOff t' = rootOff t ∧ s' = s4 ∧ ptF = pt ∧ s'.hdr.nextLSN = s.hdr.nextLSN + 1) ∨
       (rootOff t' ≠ rootOff t ∧ s'.hdr.nextLSN = s.hdr.nextLSN + 2 ∧
          ∃ a p, a ∈ live pt ∧ ptEntry a = some (nm, rootOff t) ∧ p ∈ pt.leaves ∧ a ∈ p.1.cells ∧
            ptF = setVal pt a.key (s.hdr.nextLSN + 1) (ptRow nm (rootOff t')) ∧
            updatePageTable (rootOff t') nm s4 =
              .ok [⟨c_OpUpdate, s.hdr.nextLSN + 1, p.1.off, a.key, ptRow nm (rootOff t')⟩] s')) := by
  obtain ⟨hHt, hIt, hdt, _, hkt⟩ := h.tree _ ht
  obtain ⟨t'', nf'', s4, hins4, e5, hHt4, hn4, hlk4, hlsn4, hpr4, hfr4⟩ :=
    btInsert_refines s t buf hHt hIt hdt hkt hlen
  rw [hins] at hins4
  simp only [Except.ok.injEq, Prod.mk.injEq] at hins4
  obtain ⟨rfl, rfl⟩ := hins4
  have hnew : ∀ o ∈ offs t', o ∈ offs t ∨ s.hdr.nextFree ≤ o := fun o ho =>
    (insertAppend_offs_new t t' _ _ _ nf' buf hins o ho).imp id And.left
  have hle : s.hdr.nextFree ≤ nf' := insertAppend_nextFree t t' _ _ _ nf' buf hins
  have h4 : s.hdr.nextFree ≤ s4.hdr.nextFree ∧ s.hdr.lastKey ≤ s4.hdr.lastKey ∧
      s.hdr.lastKey + 1 ≤ s4.hdr.lastKey := by omega
  -- the page table and the new tree share no page, so the write to either leaves the other as it was
  have hsep : ∀ o ∈ offs pt, o ∉ offs t' := Inv_apart h.gpt.2.1 hnew (h.ptd _ ht)
  have hGp4 : GoodTree s4 pt := h.gpt.frame (fun o ho => hfr4 o (hsep o ho)) h4.1 h4.2.1
  have hG4 : GoodTree s4 t' :=
    GoodTree.insertAppend (h.tree _ ht) (Nat.le_refl _) hins hHt4 hn4 h4.2.2 h4.2.1 hd' hl'
  by_cases hmove : rootOff t' = rootOff t
  · have hent : ptEntries pt = (ptEntries pt).map (repoint nm (rootOff t')) := by
      rw [hmove]; exact (repoint_id nm (rootOff t) _ h.names.nodup (h.ent _ ht)).symm
    exact ⟨s4, s4, pt, e5, h.replace ht pt (.inl rfl) hent h.dec h4.1 h4.2.1 hpr4 hnew hG4 hGp4.1
      (fun off h1 _ => hfr4 off h1), hlk4, hn4, hent, .inl rfl, .refl _, .inl ⟨hmove, rfl, rfl, hlsn4⟩⟩
  · have hroot_lt : rootOff t' < nf' := hn4 ▸ hG4.2.1.offs.2 _ (rootOff_mem_offs t' _ hG4.2.1)
    obtain ⟨s5, a, p, e6, hal, hpa, hp, hap, hHp5, n5, lk5, pr5, lsn5, hfr5, hent5, hdec5⟩ :=
      updatePageTable_refines s4 pt nm (rootOff t') (rootOff t) hGp4.1 hGp4.2.1 (by rw [hpr4]; exact h.root)
        (Nat.le_of_succ_le hGp4.2.2.1) hGp4.2.2.2.1 h.dec h.names.nodup (h.ent _ ht)
        (h.names.alen _ (List.mem_map_of_mem ht)) (by omega)
    rw [hlsn4] at e6 hHp5 hent5 hdec5 lsn5
    have h5 : s4.hdr.nextFree ≤ s5.hdr.nextFree ∧ s4.hdr.lastKey ≤ s5.hdr.lastKey ∧
        s.hdr.nextFree ≤ s5.hdr.nextFree ∧ s.hdr.lastKey ≤ s5.hdr.lastKey := by omega
    exact ⟨s4, s5, _, e5, h.replace ht _ (.inr ⟨a.key, _, _, rfl⟩) hent5 hdec5 h5.2.2.1 h5.2.2.2
      (by rw [pr5, hpr4]) hnew (hG4.frame (fun o ho => hfr5 o fun hop => hsep o hop ho) h5.1 h5.2.1) hHp5
      (fun off h1 h2 => by rw [hfr5 off h2, hfr4 off h1]),
      by rw [lk5, hlk4], by rw [n5, hn4], hent5, .inr ⟨a.key, _, _, rfl⟩, .setVal _ _ _ (Nat.le_succ _),
      .inr ⟨hmove, by rw [lsn5], a, p, hal, hpa, hp, hap, rfl, e6⟩⟩

/-- `Store.insert` into a user table up to the row: the catalog lookups and the root fetch change
nothing but the cache -/
theorem insert_prefix {s : Store} {pt sch : Levels} {tbls : List (Bytes × Levels)} (h : Cat s pt sch tbls)
    (table : Bytes) (t : Levels) (ht : (table, t) ∈ tbls) (schema : List FieldDef)
    (hsch : schemaOf sch table = some schema) (cols : List String) (vals : List Val) :
    ∃ s3, Same s s3 ∧ Cat s3 pt sch tbls ∧
      insert table cols vals s =
        (if (colsOf schema cols).length != vals.length then throw .colCountMismatch else
          match checkColumns schema (colsOf schema cols) with
          | some e => throw e
          | none =>
          encodeRow schema ((colsOf schema cols).zip vals).reverse >>= fun buf =>
          btInsert ⟨rootOff t⟩ buf >>= fun r =>
            if r.1.root != rootOff t then
              updatePageTable r.1.root table >>= fun logs =>
                pure ((⟨c_OpInsert, r.2.2, rootOff t, r.2.1, buf⟩ : WalRec) :: logs)
            else pure [(⟨c_OpInsert, r.2.2, rootOff t, r.2.1, buf⟩ : WalRec)]) s3 := by
  obtain ⟨s1, e1, hs1, hc1⟩ := relationOffset_cat h table t ht
  obtain ⟨n, s2, e2, hs2, hc2⟩ := hc1.fetch_root (Cat.tb_mem ht)
  obtain ⟨s3, e3, hs3, hc3⟩ := relationSchema_cat hc2 table schema hsch
  refine ⟨s3, (hs1.trans hs2).trans hs3, hc3, ?_⟩
  rw [insert_eq, bind_ok e1, bind_ok e2, bind_ok e3]
  rfl

/-- `RelationService.Insert` into the user table `table`, under the catalog invariant.  When
the root moved, the second log record names the leaf `p` of the page table and the key of the row `a`
of `table` in it, and `ptF` is the page table with that row rewritten.  Either way the page table names the
new root for `table` and is otherwise as before. -/
theorem insert_refines' (s : Store) (pt sch : Levels) (tbls : List (Bytes × Levels)) (h : Cat s pt sch tbls)
    (table : Bytes) (t : Levels) (ht : (table, t) ∈ tbls) (cols : List String) (vals : List Val)
    (schema : List FieldDef) (buf : Bytes) (hsch : schemaOf sch table = some schema)
    (hcols : (colsOf schema cols).length = vals.length)
    (hnames : checkColumns schema (colsOf schema cols) = none)
    (henc : encodeTuple schema ((colsOf schema cols).zip vals).reverse = .ok buf)
    (hlen : buf.length ≤ c_maxValueSize)
    (t' : Levels) (nf' : Nat)
    (hins : insertAppend t (s.hdr.lastKey + 1) s.hdr.nextLSN buf s.hdr.nextFree = .ok (t', nf'))
    (hd' : t'.inner.length + 2 ≤ treeFuel) (hl' : t'.leaves.length ≤ scanFuel)
    (hbig : (nf' : Int) ≤ 9223372036854775807) :
    ∃ s' ptF logs, insert table cols vals s = .ok logs s' ∧
      Cat s' ptF sch (setTable tbls table t') ∧
      s'.hdr.lastKey = s.hdr.lastKey + 1 ∧ s'.hdr.nextFree = nf' ∧
      ((rootOff t' = rootOff t ∧ ptF = pt ∧ s'.hdr.nextLSN = s.hdr.nextLSN + 1 ∧
          logs = [⟨c_OpInsert, s.hdr.nextLSN, rootOff t, s.hdr.lastKey + 1, buf⟩]) ∨
       (rootOff t' ≠ rootOff t ∧ s'.hdr.nextLSN = s.hdr.nextLSN + 2 ∧
          ∃ a p, a ∈ live pt ∧ ptEntry a = some (table, rootOff t) ∧ p ∈ pt.leaves ∧ a ∈ p.1.cells ∧
            ptF = setVal pt a.key (s.hdr.nextLSN + 1) (ptRow table (rootOff t')) ∧
            logs = [⟨c_OpInsert, s.hdr.nextLSN, rootOff t, s.hdr.lastKey + 1, buf⟩,
                    ⟨c_OpUpdate, s.hdr.nextLSN + 1, p.1.off, a.key, ptRow table (rootOff t')⟩])) ∧
      ptEntries ptF = (ptEntries pt).map (repoint table (rootOff t')) := by
  obtain ⟨s3, hs3, hc3, hrun⟩ := insert_prefix h table t ht schema hsch cols vals
  have hh : s3.hdr = s.hdr := hs3.2
  have hne : sysSchema ≠ table := fun heq => h.tsys.2 (heq ▸ List.mem_map.mpr ⟨(table, t), ht, rfl⟩)
  -- the row goes into the tree of the table
  obtain ⟨s4, s', ptF, e5, hn', lk', nfr', hent, _, _, hcase⟩ := (Cat.named.mp hc3).insert
    (List.mem_cons_of_mem _ ht) buf hlen t' nf' (by rw [hh]; exact hins) hd' hl' hbig
  rw [hh] at e5 lk' hcase
  rw [setTable_cons_ne tbls t' hne] at hn'
  have hstart : insert table cols vals s =
      (if rootOff t' != rootOff t then
        updatePageTable (rootOff t') table >>= fun logs =>
          pure ((⟨c_OpInsert, s.hdr.nextLSN, rootOff t, s.hdr.lastKey + 1, buf⟩ : WalRec) :: logs)
       else pure [(⟨c_OpInsert, s.hdr.nextLSN, rootOff t, s.hdr.lastKey + 1, buf⟩ : WalRec)]) s4 := by
    have hc : ((colsOf schema cols).length != vals.length) = false := by simp [hcols]
    rw [hrun]
    simp only [hc, Bool.false_eq_true, if_false, hnames]
    rw [bind_ok (encodeRow_ok henc s3), bind_ok e5]
  rcases hcase with ⟨hmove, rfl, rfl, lsn'⟩ | ⟨hmove, lsn', a, p, hal, hpa, hp, hap, rfl, e6⟩
  · refine ⟨_, _, _, ?_, Cat.named.mpr hn', lk', nfr', .inl ⟨hmove, rfl, lsn', rfl⟩, hent⟩
    have hb : (rootOff t' != rootOff t) = false := by simp [hmove]
    rw [hstart, hb]
    rfl
  · refine ⟨_, _, _, ?_, Cat.named.mpr hn', lk', nfr', .inr ⟨hmove, lsn', a, p, hal, hpa, hp, hap, rfl, rfl⟩, hent⟩
    have hb : (rootOff t' != rootOff t) = true := by simp [hmove]
    rw [hstart, hb, if_pos rfl, bind_ok e6]
    rfl

/-- `insert_refines'` without the place of the catalog row. -/
theorem insert_refines (s : Store) (pt sch : Levels) (tbls : List (Bytes × Levels)) (h : Cat s pt sch tbls)
    (table : Bytes) (t : Levels) (ht : (table, t) ∈ tbls) (cols : List String) (vals : List Val)
    (schema : List FieldDef) (buf : Bytes) (hsch : schemaOf sch table = some schema)
    (hcols : (colsOf schema cols).length = vals.length)
    (hnames : checkColumns schema (colsOf schema cols) = none)
    (henc : encodeTuple schema ((colsOf schema cols).zip vals).reverse = .ok buf)
    (hlen : buf.length ≤ c_maxValueSize)
    (t' : Levels) (nf' : Nat)
    (hins : insertAppend t (s.hdr.lastKey + 1) s.hdr.nextLSN buf s.hdr.nextFree = .ok (t', nf'))
    (hd' : t'.inner.length + 2 ≤ treeFuel) (hl' : t'.leaves.length ≤ scanFuel)
    (hbig : (nf' : Int) ≤ 9223372036854775807) :
    ∃ s' ptF logs, insert table cols vals s = .ok logs s' ∧
      Cat s' ptF sch (setTable tbls table t') ∧
      s'.hdr.lastKey = s.hdr.lastKey + 1 ∧ s'.hdr.nextFree = nf' ∧
      ((rootOff t' = rootOff t ∧ ptF = pt ∧ s'.hdr.nextLSN = s.hdr.nextLSN + 1 ∧
          logs = [⟨c_OpInsert, s.hdr.nextLSN, rootOff t, s.hdr.lastKey + 1, buf⟩]) ∨
       (rootOff t' ≠ rootOff t ∧ s'.hdr.nextLSN = s.hdr.nextLSN + 2 ∧
          ∃ k leafOff, ptF = setVal pt k (s.hdr.nextLSN + 1) (ptRow table (rootOff t')) ∧
            logs = [⟨c_OpInsert, s.hdr.nextLSN, rootOff t, s.hdr.lastKey + 1, buf⟩,
                    ⟨c_OpUpdate, s.hdr.nextLSN + 1, leafOff, k, ptRow table (rootOff t')⟩])) := by
  obtain ⟨s', ptF, logs, e, hc, hlk, hnf, hcase, _⟩ := insert_refines' s pt sch tbls h table t ht cols vals
    schema buf hsch hcols hnames henc hlen t' nf' hins hd' hl' hbig
  exact ⟨s', ptF, logs, e, hc, hlk, hnf, hcase.imp id fun ⟨hmove, hlsn, a, p, _, _, _, _, hF, hlogs⟩ =>
    ⟨hmove, hlsn, a.key, p.1.off, hF, hlogs⟩⟩

theorem insert_live (t t' : Levels) (key lsn nf nf' : Nat) (buf : Bytes)
    (hins : insertAppend t key lsn buf nf = .ok (t', nf')) : live t' = live t ++ [⟨key, false, buf⟩] := by
  unfold live
  rw [cells_insertAppend t t' key lsn nf nf' buf hins, List.filter_append]
  rfl

theorem insert_unknown_table (s : Store) (pt sch : Levels) (tbls : List (Bytes × Levels))
    (h : Cat s pt sch tbls) (table : Bytes) (cols : List String) (vals : List Val)
    (h1 : table ≠ sysPages) (h2 : table ≠ sysSchema) (h3 : table ∉ tbls.map (·.1)) :
    ∃ s', insert table cols vals s = .err .tableNotExist s' ∧ Same s s' ∧ Cat s' pt sch tbls := by
  obtain ⟨s', e, hs, hc⟩ := relationOffset_cat_unknown h table h1 h2 h3
  exact ⟨s', by rw [insert_eq, bind_err e], hs, hc⟩

/-! ### non-vacuity: a concrete store satisfying `Cat`, and the insert on it

The page table is one leaf with the rows `sys_pages`, `sys_schema` and the user table `"t"`;
`sys_schema` and the table are empty leaves (so the table has no columns and the row is empty). -/

def tname : Bytes := [116]
def ptLeaf : Leaf := ⟨4096, 0, false, false, 0, 0,
  [⟨1, false, ptRow sysPages 4096⟩, ⟨2, false, ptRow sysSchema 8192⟩, ⟨3, false, ptRow tname 12288⟩]⟩
def pt0 : Levels := ⟨[(ptLeaf, true)], []⟩
def sch0 : Levels := emptyTree 8192
def t0 : Levels := emptyTree 12288
def st0 : Store :=
  { hdr := { lastKey := 3, ptRoot := 4096, nextFree := 16384, nextLSN := 7 },
    mem := [(4096, ⟨.leaf ptLeaf, true⟩), (8192, ⟨.leaf ⟨8192, 0, false, false, 0, 0, []⟩, true⟩),
            (12288, ⟨.leaf ⟨12288, 0, false, false, 0, 0, []⟩, true⟩)] }

theorem pt0_entries : ptEntries pt0 = [(sysPages, 4096), (sysSchema, 8192), (tname, 12288)] := by
  decide +kernel

theorem cat0 : Cat st0 pt0 sch0 [(tname, t0)] := by decide +kernel

/-- the table `"t"` of `st0` after the insert of one (empty) row -/
def t1 : Levels := ⟨[(⟨12288, 7, false, false, 0, 0, [⟨4, false, []⟩]⟩, true)], []⟩

/-- `insert_refines` applies to the concrete store: the root of `"t"` does not move -/
theorem st0_insert : ∃ s1 logs1, insert tname [] [] st0 = .ok logs1 s1 ∧
    Cat s1 pt0 sch0 [(tname, t1)] ∧ s1.hdr.lastKey = 4 ∧ s1.hdr.nextLSN = 8 := by
  obtain ⟨s1, ptF, logs1, e1, hc1, hk, _, hcase⟩ := insert_refines st0 pt0 sch0 [(tname, t0)] cat0 tname t0
    (by simp) [] [] [] [] (by decide) (by decide) rfl rfl (by decide) t1 16384 rfl (by decide) (by decide)
    (by decide)
  rcases hcase with ⟨_, rfl, hlsn1, _⟩ | ⟨hne, _⟩
  · exact ⟨s1, logs1, e1, hc1, hk, hlsn1⟩
  · exact absurd (by decide) hne

example : ∃ s' ptF logs, insert tname [] [] st0 = .ok logs s' ∧
    Cat s' ptF sch0 (setTable [(tname, t0)] tname
      ⟨[(⟨12288, 7, false, false, 0, 0, [⟨4, false, []⟩]⟩, true)], []⟩) ∧ s'.hdr.lastKey = 4 := by
  obtain ⟨s1, logs1, e1, hc1, hk, _⟩ := st0_insert
  exact ⟨s1, pt0, logs1, e1, hc1, hk⟩

end Mkdb.Store
