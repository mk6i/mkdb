import Mkdb.Model.Parse
/-!
Token lists that differ only in texts the parser does not read: it reads the `text` of a token only
when its type is IDENT, INT or STR.  `ToksSim` relates two such lists, `Sim` two parser actions that
give related outcomes on them; that the productions are `Sim` is read off the pass over the productions
in `Mkdb/Proofs/ParseRun.lean` (`Run.sim`, used in `Mkdb/Proofs/Parse.lean`).
-/
namespace Mkdb.Sql
open Mkdb.Scan Mkdb.Generated

/-- token types whose text the parser reads -/
def textual (ty : Int) : Bool := ty == t_IDENT || ty == t_INT || ty == t_STR

/-- same type; same text when the type is IDENT, INT or STR -/
def TokSim (t t' : Token) : Prop := t.ty = t'.ty ∧ (textual t.ty = true → t.text = t'.text)

/-- token lists of the same length, related token by token by `TokSim` -/
inductive ToksSim : List Token → List Token → Prop
  | nil : ToksSim [] []
  | cons {a b : Token} {l l' : List Token} (h : TokSim a b) (t : ToksSim l l') : ToksSim (a :: l) (b :: l')

/-- `TokSim` in destructured form (what `obtain` can use directly) -/
inductive TS : Token → Token → Prop
  | mk (ty : Int) (x x' : Bytes) (h : textual ty = true → x = x') : TS ⟨ty, x⟩ ⟨ty, x'⟩

theorem TokSim.ts {t t' : Token} (h : TokSim t t') : TS t t' := by
  obtain ⟨ty, x⟩ := t
  obtain ⟨ty', x'⟩ := t'
  obtain ⟨h1, h2⟩ := h
  simp only at h1 h2
  subst h1
  exact .mk ty x x' h2

theorem TokSim.refl (t : Token) : TokSim t t := ⟨rfl, fun _ => rfl⟩

theorem ToksSim.refl : ∀ ts : List Token, ToksSim ts ts
  | [] => .nil
  | t :: ts => .cons (TokSim.refl t) (ToksSim.refl ts)

def RSim {α} (vr : α → α → Prop) : R α → R α → Prop
  | .ok a r, .ok a' r' => vr a a' ∧ ToksSim r r'
  | .err e, .err e' => e = e'
  | .panic s, .panic s' => s = s'
  | .fuel, .fuel => True
  | _, _ => False

def Sim {α} (vr : α → α → Prop) (p q : P α) : Prop :=
  ∀ ts ts', ToksSim ts ts' → RSim vr (p ts) (q ts')

theorem ToksSim.length_eq {ts ts' : List Token} (h : ToksSim ts ts') :
    ts.length = ts'.length := by
  induction h with
  | nil => rfl
  | cons _ _ ih => simp only [List.length_cons, ih]

theorem headD_sim {ts ts' : List Token} (h : ToksSim ts ts') :
    TokSim (ts.headD eofToken) (ts'.headD eofToken) := by
  cases h with
  | nil => exact TokSim.refl _
  | cons h _ => exact h

theorem textual_eq {t t' : Token} (h : TokSim t t') (ht : textual t.ty = true) : t = t' := by
  obtain ⟨ty, x⟩ := t
  obtain ⟨ty', x'⟩ := t'
  obtain ⟨h1, h2⟩ := h
  simp only at h1 h2 ht
  rw [h1, h2 ht]

/-- `Token.Val()` reads the text only of an INT or STR token -/
theorem tokenVal_sim {t t' : Token} (h : TokSim t t') : tokenVal t = tokenVal t' := by
  obtain ⟨ty, x, x', hx⟩ := h.ts
  unfold tokenVal
  simp only
  by_cases h1 : (ty == t_STR) = true
  · have : x = x' := hx (by simp only [textual, h1, Bool.or_true])
    rw [this]
  · by_cases h2 : (ty == t_INT) = true
    · have : x = x' := hx (by simp only [textual, h2, Bool.or_true, Bool.true_or])
      rw [this]
    · simp only [h1, h2, Bool.false_eq_true, ↓reduceIte]

/-- what two runs of `p.match` return: nothing both, or two related tokens -/
inductive OptRel (tr : Token → Token → Prop) : Option Token → Option Token → Prop
  | none : OptRel tr none none
  | some {t t' : Token} (h : tr t t') : OptRel tr (some t) (some t')

theorem OptRel.mono {tr tr' : Token → Token → Prop} (h : ∀ t t', tr t t' → tr' t t')
    {o o' : Option Token} (ho : OptRel tr o o') : OptRel tr' o o' := by
  cases ho with
  | none => exact .none
  | some h3 => exact .some (h _ _ h3)

set_option hygiene false in
/-- use a hypothesis relating two tokens -/
macro "sim_tok " h:ident : tactic => `(tactic| first
  | subst $h:ident
  | (rcases $h:ident with ⟨_, _, _, _⟩; (try dsimp only))
  | ((try dsimp only); rw [show tokenVal _ = tokenVal _ from $h]; clear $h))

set_option hygiene false in
/-- use a hypothesis relating two bound values -/
macro "sim_hyp " h:ident : tactic => `(tactic| first
  | subst $h:ident
  | (rcases $h:ident with _ | hsimt__ <;> (try dsimp only) <;> (try sim_tok hsimt__))
  | sim_tok $h:ident
  | clear $h:ident)

end Mkdb.Sql
