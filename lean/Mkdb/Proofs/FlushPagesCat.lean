import Mkdb.Proofs.CatalogInv
import Mkdb.Proofs.FlushPages
import Mkdb.Proofs.TreeUpdate
/-!
# The flush under the catalog invariant, and the data file

`clean` (all dirty bits cleared) leaves everything but the dirty bits alone, the shape invariant `Inv` included; the
flushed store holds the same catalog, every tree cleaned (`Cat.flushed`); the header on disk is the header in memory.
The third part is about the data file and one tree: which pages of a tree description are in the file (`OnDiskT`: all
of them; `SyncedT`: those the engine sees clean), and the two operations that move pages between cache and file.  The
flush writes what is dirty, so after it all pages of a held tree are in the file if the clean ones were
(`SyncedT.flushed`); a re-open drops the cache, so it sees what the file holds, all of it clean (`reopen_holds`).  The
catalogue (`CkptInvariant`: `Synced`, `OnDisk`) says this of each of its trees, the heap histories
(`FlushReloadHeapInv`) of their one tree.
-/

section
/-! ## `clean` -/
set_option autoImplicit false
namespace Mkdb.Store
open Mkdb.Page Mkdb.Tuple Mkdb.Generated Mkdb.Tree

theorem clean_leaves (t : Levels) : (clean t).leaves = t.leaves.map fun p => (p.1, false) := rfl
theorem clean_inner (t : Levels) :
    (clean t).inner = t.inner.map fun lvl => lvl.map fun p => (p.1, false) := rfl

theorem clean_leaves_length (t : Levels) : (clean t).leaves.length = t.leaves.length := by
  rw [clean_leaves, List.length_map]

theorem clean_inner_length (t : Levels) : (clean t).inner.length = t.inner.length := by
  rw [clean_inner, List.length_map]

theorem clean_leaves_fst (t : Levels) : (clean t).leaves.map (·.1) = t.leaves.map (·.1) := by
  rw [clean_leaves, List.map_map]; rfl

theorem cells_clean (t : Levels) : cells (clean t) = cells t := by
  unfold cells
  rw [clean_leaves, List.flatMap_map]

theorem live_clean (t : Levels) : live (clean t) = live t := by
  unfold live; rw [cells_clean]

theorem keys_clean (t : Levels) : keys (clean t) = keys t := by
  unfold keys; rw [cells_clean]

theorem rootOff_clean (t : Levels) : rootOff (clean t) = rootOff t := by
  unfold rootOff
  rw [clean_inner, clean_leaves, List.getLast?_map]
  cases t.inner.getLast? with
  | none =>
    simp only [Option.map_none, List.head?_map, Option.map_map]
    rfl
  | some lvl =>
    simp only [Option.map_some, List.head?_map, Option.map_map]
    rfl

theorem flatten_clean (t : Levels) :
    flatten (clean t) = (flatten t).map fun e => (e.1, e.2.1, false) := by
  unfold flatten
  rw [clean_leaves, clean_inner, List.map_append, List.map_map, List.map_map, List.flatMap_map,
    List.map_flatMap]
  congr 1
  simp only [List.map_map]
  rfl

theorem offs_clean (t : Levels) : offs (clean t) = offs t := by
  unfold offs
  rw [flatten_clean, List.map_map]
  rfl

theorem schemaOf_clean (t : Levels) (n : Bytes) : schemaOf (clean t) n = schemaOf t n := by
  unfold schemaOf; rw [live_clean]

theorem ptEntries_clean (t : Levels) : ptEntries (clean t) = ptEntries t := by
  unfold ptEntries; rw [live_clean]

theorem clean_clean (t : Levels) : clean (clean t) = clean t := by
  unfold clean
  simp only [List.map_map, Levels.mk.injEq]
  refine ⟨rfl, ?_⟩
  apply List.map_congr_left
  intro lvl _
  simp only [Function.comp, List.map_map]
  rfl

def cleanLvl (lvl : List (Internal × Bool)) : List (Internal × Bool) := lvl.map fun p => (p.1, false)

theorem clean_inner' (t : Levels) : (clean t).inner = t.inner.map cleanLvl := rfl

theorem clean_inv (t : Levels) (nf : Nat) (h : Inv t nf) : Inv (clean t) nf :=
  inv_of_skel (fun p => (p.1, false)) (fun _ => rfl) h (clean_inner t)
    (by rw [clean_leaves, List.map_map]; rfl)

end Mkdb.Store
end

section
/-! ## The flushed store holds the same catalog -/
set_option autoImplicit false
namespace Mkdb.Store
open Mkdb.Page Mkdb.Tuple Mkdb.Generated Mkdb.Tree

theorem catTrees_clean (pt sch : Levels) (tbls : List (Bytes × Levels)) :
    catTrees (clean pt) (clean sch) (tbls.map fun e => (e.1, clean e.2)) = (catTrees pt sch tbls).map clean := by
  simp only [catTrees, List.map_cons, List.map_map]
  rfl

theorem tbls_clean_names (tbls : List (Bytes × Levels)) :
    (tbls.map fun e => (e.1, clean e.2)).map (·.1) = tbls.map (·.1) := by
  rw [List.map_map]; rfl

theorem Holds.clean {s s' : Store} {t : Levels} (hH : Holds s t)
    (hv : ∀ off, view s' off = (view s off).map fun x => (x.1, false)) : Holds s' (clean t) := by
  intro e he
  rw [flatten_clean] at he
  obtain ⟨e0, he0, rfl⟩ := List.mem_map.mp he
  simp only
  rw [hv, hH e0 he0]
  rfl

theorem Cat.flushed {s : Store} {pt sch : Levels} {tbls : List (Bytes × Levels)} (h : Cat s pt sch tbls)
    (hf : MemFiled s) (order : List Nat) :
    Cat (flushed order s) (clean pt) (clean sch) (tbls.map fun e => (e.1, clean e.2)) := by
  obtain ⟨hh, _, _, _, hv, _⟩ := flushed_spec order s hf
  exact {
    tree := by
      intro x hx
      rw [catTrees_clean] at hx
      obtain ⟨y, hy, rfl⟩ := List.mem_map.mp hx
      obtain ⟨a, b, c, d, k⟩ := h.tree y hy
      rw [hh, clean_inner_length, clean_leaves_length, keys_clean]
      exact ⟨a.clean hv, clean_inv y _ b, c, d, k⟩
    disj := by
      rw [catTrees_clean, List.map_map]
      have : (offs ∘ clean) = offs := funext fun t => offs_clean t
      rw [this]
      exact h.disj
    root := by rw [rootOff_clean, hh]; exact h.root
    dec := by rw [live_clean]; exact h.dec
    names := by rw [ptEntries_clean]; exact h.names
    esch := by rw [ptEntries_clean, rootOff_clean]; exact h.esch
    etb := by
      intro e he
      obtain ⟨e0, he0, rfl⟩ := List.mem_map.mp he
      rw [ptEntries_clean]
      simp only [rootOff_clean]
      exact h.etb e0 he0
    only := by
      rw [ptEntries_clean, tbls_clean_names]; exact h.only
    tnames := by rw [tbls_clean_names]; exact h.tnames
    tsys := by rw [tbls_clean_names]; exact h.tsys
    tlen := by
      intro e he
      obtain ⟨e0, he0, rfl⟩ := List.mem_map.mp he
      exact h.tlen e0 he0 }

end Mkdb.Store
end

section
/-! ## The data file and one tree -/
set_option autoImplicit false
namespace Mkdb.Store
open Mkdb.Page Mkdb.Tuple Mkdb.Generated Mkdb.Tree

theorem mem_flatten_clean {t : Levels} {e : Nat × Node × Bool} :
    e ∈ flatten (clean t) ↔ ∃ e0 ∈ flatten t, e = (e0.1, e0.2.1, false) := by
  rw [flatten_clean, List.mem_map]
  constructor
  · rintro ⟨e0, h, rfl⟩; exact ⟨e0, h, rfl⟩
  · rintro ⟨e0, h, rfl⟩; exact ⟨e0, h, rfl⟩

/-- every clean page of the tree is in the data file as the engine sees it -/
def SyncedT (s : Store) (t : Levels) : Prop :=
  ∀ e ∈ flatten t, e.2.2 = false → assocGet s.disk e.1 = some e.2.1

/-- every page of the tree is in the data file -/
def OnDiskT (s : Store) (t : Levels) : Prop := ∀ e ∈ flatten t, assocGet s.disk e.1 = some e.2.1

theorem OnDiskT.synced {s : Store} {t : Levels} (h : OnDiskT s t) : SyncedT s t := fun e he _ => h e he

theorem OnDiskT.clean {s : Store} {t : Levels} (h : OnDiskT s t) : OnDiskT s (clean t) := by
  intro e he
  obtain ⟨e0, he0, rfl⟩ := mem_flatten_clean.mp he
  exact h e0 he0

theorem OnDiskT.of_disk {s s' : Store} {t : Levels} (h : OnDiskT s t) (hd : s'.disk = s.disk) : OnDiskT s' t := by
  intro e he; rw [hd]; exact h e he

theorem SyncedT.onDisk {s : Store} {t : Levels} (h : SyncedT s t) (hc : ∀ e ∈ flatten t, e.2.2 = false) :
    OnDiskT s t := fun e he => h e he (hc e he)

/-! ### the flush -/

theorem flushed_disk_all (order : List Nat) {s : Store} (hf : MemFiled s) {off : Nat} {n : Node} {d : Bool}
    (hv : view s off = some (n, d)) (hcl : d = false → assocGet s.disk off = some n) :
    assocGet (flushed order s).disk off = some n := by
  cases d with
  | true => exact (flushed_disk order s hf).1 off n hv
  | false =>
    show assocGet ((flushOrd order s).foldl flushStep s).disk off = some n
    rw [flushFold_disk _ s hf]
    cases hm : assocGet s.mem off with
    | none => simp only [ite_self]; exact hcl rfl
    | some m =>
      unfold view at hv
      rw [hm] at hv
      simp only [Option.some.injEq, Prod.mk.injEq] at hv
      simp only [hv.1, ite_self, hcl rfl]

theorem SyncedT.flushed {s : Store} {t : Levels} (hsy : SyncedT s t) (hH : Holds s t) (hf : MemFiled s)
    (order : List Nat) : OnDiskT (flushed order s) (clean t) := by
  intro e he
  obtain ⟨e0, he0, rfl⟩ := mem_flatten_clean.mp he
  exact flushed_disk_all order hf (hH e0 he0) (hsy e0 he0)

/-! ### the re-open -/

theorem view_reopen (s : Store) (off : Nat) :
    view (reopen s) off = (assocGet s.disk off).map fun n => (n, false) := by
  unfold view reopen
  simp only [assocGet, List.find?_nil, Option.map_none]

theorem reopen_holds (s : Store) (t : Levels) (hd : OnDiskT s t) : Holds (reopen s) (clean t) := by
  intro e he
  obtain ⟨e0, he0, rfl⟩ := mem_flatten_clean.mp he
  rw [view_reopen, hd e0 he0]
  rfl

theorem reopen_memFiled (s : Store) : MemFiled (reopen s) := by
  intro p hp
  cases hp

end Mkdb.Store
end
