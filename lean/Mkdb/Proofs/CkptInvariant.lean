import Mkdb.Proofs.CkptLiveRun
import Mkdb.Proofs.ReplayMixed
import Mkdb.Proofs.SpecRefineCreateTable
/-!
The checkpoint invariant `Ckpt` - the state a flush, and start-up recovery, leave behind.  The data file
against the catalogue description (`Synced`, `OnDisk`: `FlushPagesCat`, of every tree): the flush puts every
page of the description in the file if the clean ones were there (`flush_ckpt`, `Ckpt.of_flushed`), the
re-opened file holds the catalogue again (`reopen_cat`), and with the checkpoint's log replayed it is
`Behind` the checkpointed store (`Ckpt.reopened`) - where the replay of what a crash interrupted starts.
Between checkpoints: `InUse`, what the log and the clean pages of a database in use satisfy, kept by every
step of a live run.  Last, the side conditions of `Ckpt` are decidable.
-/

section
set_option autoImplicit false
namespace Mkdb.Store
open Mkdb.Page Mkdb.Tuple Mkdb.Generated Mkdb.Tree Mkdb.Engine

/-! ### the data file and the catalogue: every tree of the description as `FlushPagesCat` says of one -/

/-- every clean page of the catalog description is in the data file as the engine sees it -/
def Synced (s : Store) (pt sch : Levels) (tbls : List (Bytes × Levels)) : Prop :=
  ∀ x ∈ catTrees pt sch tbls, ∀ e ∈ flatten x, e.2.2 = false → assocGet s.disk e.1 = some e.2.1

/-- every page of the catalog description is in the data file, and none is dirty -/
def OnDisk (s : Store) (pt sch : Levels) (tbls : List (Bytes × Levels)) : Prop :=
  ∀ x ∈ catTrees pt sch tbls, ∀ e ∈ flatten x, assocGet s.disk e.1 = some e.2.1 ∧ e.2.2 = false

theorem OnDisk.synced {s : Store} {pt sch : Levels} {tbls : List (Bytes × Levels)} (h : OnDisk s pt sch tbls) :
    Synced s pt sch tbls := fun x hx e he _ => (h x hx e he).1

theorem OnDisk.clean_eq {s : Store} {pt sch : Levels} {tbls : List (Bytes × Levels)} (h : OnDisk s pt sch tbls) :
    clean pt = pt ∧ clean sch = sch ∧ cleanT tbls = tbls := by
  refine ⟨clean_eq_self fun e he => (h pt Cat.pt_mem e he).2, clean_eq_self fun e he => (h sch Cat.sch_mem e he).2,
    ?_⟩
  unfold cleanT
  conv => rhs; rw [← List.map_id tbls]
  apply List.map_congr_left
  intro e he
  rw [clean_eq_self fun x hx => (h e.2 (Cat.tb_mem he) x hx).2]
  rfl

/-- **The flush** of a store that abstracts to the plain database `sdb` and whose clean pages are in
the data file: the flushed store abstracts to `sdb` under the cleaned catalog description, the header
is in the data file, and every page of the description is in the data file. -/
theorem flush_ckpt {s : Store} {pt sch : Levels} {tbls : List (Bytes × Levels)} {sdb : Spec.SDB}
    (hA : AbsV s pt sch tbls sdb) (hmf : MemFiled s) (hsy : Synced s pt sch tbls) (order : List Nat) :
    AbsV (flushed order s) (clean pt) (clean sch) (cleanT tbls) sdb ∧
      (flushed order s).hdr = s.hdr ∧ (flushed order s).dhdr = s.hdr ∧ MemFiled (flushed order s) ∧
      OnDisk (flushed order s) (clean pt) (clean sch) (cleanT tbls) := by
  obtain ⟨sdb0, habs, hv⟩ := hA
  obtain ⟨hh, hdh, _, hf', _⟩ := flushed_spec order s hmf
  refine ⟨⟨sdb0, ⟨habs.cat.flushed hmf order, habs.tabs.clean_sch (fun n _ => schemaOf_clean sch n)⟩, hv⟩,
    hh, hdh, hf', ?_⟩
  intro x hx e he
  unfold cleanT at hx
  rw [catTrees_clean] at hx
  obtain ⟨x0, hx0, rfl⟩ := List.mem_map.mp hx
  refine ⟨SyncedT.flushed (hsy x0 hx0) (habs.cat.tree x0 hx0).1 hmf order e he, ?_⟩
  obtain ⟨e0, _, rfl⟩ := mem_flatten_clean.mp he
  rfl

/-- the data file of a store whose catalog pages are all on disk, re-opened (by any store with the
same data file and file header): it holds the same catalog -/
theorem reopen_cat {s : Store} {pt sch : Levels} {tbls : List (Bytes × Levels)} (h : Cat s pt sch tbls)
    (hd : OnDisk s pt sch tbls) (hdh : s.dhdr = s.hdr) (s2 : Store) (hdisk : s2.disk = s.disk)
    (hdh2 : s2.dhdr = s.dhdr) : Cat (reopen s2) pt sch tbls := by
  refine h.of_holds (fun x hx => ?_) (by show s2.dhdr = s.hdr; rw [hdh2, hdh])
  have hx2 : OnDiskT s2 x := OnDiskT.of_disk (s := s) (fun e he => (hd x hx e he).1) hdisk
  rw [← clean_eq_self fun e he => (hd x hx e he).2]
  exact reopen_holds s2 x hx2

/-! ### a database in use -/

/-- **What a database in use keeps true between checkpoints**, read off the catalog description, the
counters and the log: every record of the log - which is never truncated - is applied (`AppliedC`) and
below the LSN counter, no INSERT record carries a key beyond the row-id counter (recovery raises the
counter to the key of every INSERT record of the log, skipped or not; so the replay of such a log leaves
the header alone), and every clean page is one of the last checkpoint (`P`). -/
structure InUse (sch : Levels) (P : Nat × Node × Bool → Prop) (s : Store) (pt : Levels)
    (tbls : List (Bytes × Levels)) (wal : List WalRec) : Prop where
  applied : ∀ r ∈ wal, AppliedC pt sch tbls r
  lsn : ∀ r ∈ wal, r.lsn < s.hdr.nextLSN
  keys : ∀ r ∈ wal, r.op = c_OpInsert → r.cell ≤ s.hdr.lastKey
  pages : OldOrDirty P pt sch tbls

section
variable {sch : Levels} {P : Nat × Node × Bool → Prop} {s s1 : Store} {pt pt1 : Levels}
  {tbls tbls1 : List (Bytes × Levels)} {wal : List WalRec}

theorem InUse.step {l1 : List WalRec} (h : Cat s pt sch tbls) (st : RowStep s pt tbls s1 pt1 tbls1 l1)
    (hi : InUse sch P s pt tbls wal) : InUse sch P s1 pt1 tbls1 (wal ++ l1) := by
  obtain ⟨a1, a2⟩ := st.applied h hi.applied hi.lsn
  exact ⟨a1, a2, List.forall_mem_append.mpr
    ⟨fun r hr hop => Nat.le_trans (hi.keys r hr hop) st.lastKey_le, st.keys⟩, st.pages hi.pages⟩

theorem InUse.mono {wal' : List WalRec} (hi : InUse sch P s pt tbls wal) (hw : ∀ r ∈ wal', r ∈ wal)
    (hlsn : s.hdr.nextLSN ≤ s1.hdr.nextLSN) (hlk : s.hdr.lastKey ≤ s1.hdr.lastKey) :
    InUse sch P s1 pt tbls wal' :=
  ⟨fun r hr => hi.applied r (hw r hr), fun r hr => Nat.lt_of_lt_of_le (hi.lsn r (hw r hr)) hlsn,
    fun r hr hop => Nat.le_trans (hi.keys r (hw r hr) hop) hlk, hi.pages⟩

/-- the clean pages are pages of the data file of the last checkpoint, and the file was not written since -/
theorem InUse.synced {s0 : Store} (hi : InUse sch (fun e => assocGet s0.disk e.1 = some e.2.1) s pt tbls wal)
    (hd : s1.disk = s0.disk) : Synced s1 pt sch tbls := by
  intro x hx e he hdy
  rcases hi.pages x hx e he with h1 | h1
  · rw [hdy] at h1; cases h1
  · rw [hd]; exact h1

end

/-! ### the checkpoint invariant -/

/-- **A checkpointed database**: the state a flush, and start-up recovery, leave behind.  The store
abstracts (up to row ids) to the plain database `sdb` with the catalog description `pt`, `sch`, `tbls`;
the side conditions of the replay theorems hold (`PtSelf`, `FreshM`, `MemFiled`); the log - which is
never truncated - consists of records that are all applied (`AppliedC`) and below the LSN counter, and
no INSERT record carries a key beyond the row-id counter (`keys`: recovery raises the counter to the
key of every INSERT record of the log, skipped or not; with `keys` the replay of the old log leaves the
header alone); the header is in the data file; every page of the catalog is in the data file and
clean. -/
structure Ckpt (sch : Levels) (db : Engine.DB) (sdb : Spec.SDB) (pt : Levels) (tbls : List (Bytes × Levels)) :
    Prop where
  abs : AbsV db.store pt sch tbls sdb
  self : PtSelf pt
  fresh : FreshM db.store tbls
  filed : MemFiled db.store
  log : ∀ r ∈ db.wal, AppliedC pt sch tbls r
  lsn : ∀ r ∈ db.wal, r.lsn < db.store.hdr.nextLSN
  keys : ∀ r ∈ db.wal, r.op = c_OpInsert → r.cell ≤ db.store.hdr.lastKey
  dhdr : db.store.dhdr = db.store.hdr
  disk : OnDisk db.store pt sch tbls

/-- the records of the log of a checkpointed database are applied on its store (`Applied`, the
hypothesis of `replay_clean` / `C02_recovery_of_a_flushed_database_changes_nothing`) -/
theorem Ckpt.applied {sch : Levels} {db : Engine.DB} {sdb : Spec.SDB} {pt : Levels} {tbls : List (Bytes × Levels)}
    (h : Ckpt sch db sdb pt tbls) : ∀ r ∈ db.wal, Applied tbls db.store r := by
  obtain ⟨_, habs, _⟩ := h.abs
  exact fun r hr => (h.log r hr).applied habs.cat

theorem Ckpt.inUse {sch : Levels} {db : Engine.DB} {sdb : Spec.SDB} {pt : Levels} {tbls : List (Bytes × Levels)}
    (h : Ckpt sch db sdb pt tbls) :
    InUse sch (fun e => assocGet db.store.disk e.1 = some e.2.1) db.store pt tbls db.wal :=
  ⟨h.log, h.lsn, h.keys, fun x hx e he => .inr (h.disk x hx e he).1⟩

/-- the flush of a store that has everything a checkpoint needs but clean pages gives a checkpoint
(for the cleaned `sys_schema`) -/
theorem Ckpt.of_flushed {sch : Levels} {wal : List WalRec} {s : Store} {sdb : Spec.SDB}
    {pt : Levels} {tbls : List (Bytes × Levels)} (hA : AbsV s pt sch tbls sdb) (hself : PtSelf pt)
    (hfr : FreshM s tbls) (hmf : MemFiled s) (hlog : ∀ r ∈ wal, AppliedC pt sch tbls r)
    (hlsn : ∀ r ∈ wal, r.lsn < s.hdr.nextLSN)
    (hkeys : ∀ r ∈ wal, r.op = c_OpInsert → r.cell ≤ s.hdr.lastKey) (hsy : Synced s pt sch tbls)
    (order : List Nat) :
    Ckpt (clean sch) { store := flushed order s, wal := wal } sdb (clean pt) (cleanT tbls) := by
  obtain ⟨hA', hh, hdh, hf', hd⟩ := flush_ckpt hA hmf hsy order
  exact {
    abs := hA'
    self := hself.clean
    fresh := hfr.clean (by rw [hh]; exact Nat.le_refl _) (by rw [hh]; exact Nat.le_refl _)
    filed := hf'
    log := fun r hr => (hlog r hr).clean
    lsn := fun r hr => by show r.lsn < (flushed order s).hdr.nextLSN; rw [hh]; exact hlsn r hr
    keys := fun r hr hop => by show r.cell ≤ (flushed order s).hdr.lastKey; rw [hh]; exact hkeys r hr hop
    dhdr := by show (flushed order s).dhdr = (flushed order s).hdr; rw [hh, hdh]
    disk := hd }

/-- **The re-opened data file of a checkpoint, once the checkpoint's own log is replayed on it, is behind
the checkpointed store** (`Behind`, with its header): the file holds the catalogue of the checkpoint, and
the records - all applied, none ahead of a counter - change nothing the engine sees.  The data file may be
that of any store that has not written it since (`s2`): what a crash leaves of a database in use. -/
theorem Ckpt.reopened {sch : Levels} {db : Engine.DB} {sdb : Spec.SDB} {pt : Levels} {tbls : List (Bytes × Levels)}
    (h : Ckpt sch db sdb pt tbls) (s2 : Store) (hd1 : s2.disk = db.store.disk) (hd2 : s2.dhdr = db.store.dhdr) :
    ∃ r1, replayAll db.wal (reopen s2) = (r1, none, false) ∧ Behind sch db.store r1 pt tbls ∧
      r1.hdr = db.store.hdr := by
  obtain ⟨_, habs, _⟩ := h.abs
  have hr0 : Cat (reopen s2) pt sch tbls := reopen_cat habs.cat h.disk h.dhdr s2 hd1 hd2
  have hh0 : (reopen s2).hdr = db.store.hdr := by show s2.dhdr = _; rw [hd2, h.dhdr]
  obtain ⟨r1, e1, _, hc1, hh1⟩ := replay_clean_hdr db.wal (reopen s2) pt sch tbls hr0
    (fun r hr => (h.log r hr).applied hr0) (fun r hr => by rw [hh0]; exact Nat.le_of_lt (h.lsn r hr))
    (fun r hr hop => by rw [hh0]; exact h.keys r hr hop)
  have hh : r1.hdr = db.store.hdr := hh1.trans hh0
  exact ⟨r1, e1, ⟨habs.cat, hc1, h.self, by rw [hh], by rw [hh]; exact Nat.le_refl _,
    by rw [hh]; exact Nat.le_refl _⟩, hh⟩

end Mkdb.Store
end

section
/-!
The side conditions of the checkpoint invariant (`PtSelf`, `FreshM`, `OnDisk`, `Synced`) are decidable (`Abs`:
`SpecRefineAbs`; `MemFiled`: `MemFiledInsert`; the finite test for `NoStale`: `SpecRefineCreateTable`).  With
`Ckpt.of_empty_log`, that a concrete flushed database is checkpointed is one evaluation.
-/
set_option autoImplicit false
namespace Mkdb.Store
open Mkdb.Page Mkdb.Tuple Mkdb.Generated Mkdb.Tree Mkdb.Engine

instance (s : Store) (pt sch : Levels) (tbls : List (Bytes × Levels)) : Decidable (OnDisk s pt sch tbls) := by
  unfold OnDisk; exact inferInstance

instance (s : Store) (pt sch : Levels) (tbls : List (Bytes × Levels)) : Decidable (Synced s pt sch tbls) := by
  unfold Synced; exact inferInstance

instance (s : Store) (tbls : List (Bytes × Levels)) : Decidable (FreshM s tbls) :=
  decidable_of_iff ((∀ e ∈ tbls, ∀ x ∈ flatten e.2, nodeLSN x.2.1 < s.hdr.nextLSN) ∧ 0 < s.hdr.nextFree ∧
      ∀ e ∈ tbls, ∀ o ∈ offs e.2, 0 < o) ⟨fun ⟨a, b, c⟩ => ⟨a, b, c⟩, fun h => ⟨h.lsn, h.nf, h.pos⟩⟩

/-- `PtSelf` speaks of the entries named `sys_pages` only -/
instance (pt : Levels) : Decidable (PtSelf pt) :=
  decidable_of_iff (∀ e ∈ ptEntries pt, e.1 = sysPages → e.2 ∈ offs pt)
    ⟨fun h off hm => h (sysPages, off) hm rfl, fun h e he hn => h e.2 (by rw [← hn]; exact he)⟩

theorem Ckpt.of_empty_log {sch : Levels} {db : Engine.DB} {sdb : Spec.SDB} {pt : Levels}
    {tbls : List (Bytes × Levels)} (hw : db.wal = [])
    (h : Abs db.store pt sch tbls sdb ∧ PtSelf pt ∧ FreshM db.store tbls ∧ MemFiled db.store ∧
      db.store.dhdr = db.store.hdr ∧ OnDisk db.store pt sch tbls) : Ckpt sch db sdb pt tbls where
  abs := h.1.toV
  self := h.2.1
  fresh := h.2.2.1
  filed := h.2.2.2.1
  log := fun r hr => by rw [hw] at hr; cases hr
  lsn := fun r hr => by rw [hw] at hr; cases hr
  keys := fun r hr => by rw [hw] at hr; cases hr
  dhdr := h.2.2.2.2.1
  disk := h.2.2.2.2.2

end Mkdb.Store
end
