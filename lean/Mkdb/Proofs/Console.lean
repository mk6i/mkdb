import Mkdb.Model.Console
/-!
Proofs about the console line editor model (`Mkdb.Model.Console`) for C20: the statement splitter (`Quiet`: a
stretch of text over which the quote automaton ends no statement; `Cut`: a text cut at its top-level semicolons,
which is what the splitter computes: `splitStatements_cut`), `Runs`: what a key sequence hands over and leaves,
and the session: the text typed so far is cut into the statements handed over so far, then the current line
(`typed_cut`), so what `run` submits is the top-level split of everything typed.
-/
namespace Mkdb.Console

/-- the quote state after the runes `l`, read from the quote state `q` -/
def qrun (q : Q) (l : List Nat) : Q := l.foldl (fun q r => (qstep q r).1) q

/-- read from the quote state `q`, no rune of `l` ends a statement (no `;` outside quotes); with `qrun` it makes
`Quiet`, in which the lemmas are stated -/
def noEnd : Q → List Nat → Bool
  | _, [] => true
  | q, r :: rest => !(qstep q r).2 && noEnd (qstep q r).1 rest

/-- A statement as the user means it: a body with balanced quotes and no ';' outside quotes,
then ';'; it does not start with a blank. -/
def WFStmt (s : List Nat) : Prop :=
  ∃ body, s = body ++ [59] ∧ noEnd .top body = true ∧ qrun .top body = .top ∧
    (∀ c, s.head? = some c → isSpace c = false)

def Blank (w : List Nat) : Prop := ∀ c ∈ w, isSpace c = true

theorem ite_elim {α : Sort _} {P : α → Prop} {c : Prop} [Decidable c] {x y : α} (hx : c → P x) (hy : ¬ c → P y) :
    P (if c then x else y) := by
  split
  · exact hx ‹_›
  · exact hy ‹_›

theorem ite_both {α : Sort _} {P : α → Prop} {c : Prop} [Decidable c] {x y : α} (hx : P x) (hy : P y) :
    P (if c then x else y) := ite_elim (fun _ => hx) (fun _ => hy)

/-! ## Blanks -/

theorem isSpace_ne {c : Nat} (h : isSpace c = true) :
    c ≠ 39 ∧ c ≠ 34 ∧ c ≠ 96 ∧ c ≠ 59 ∧ c ≠ 92 := by
  refine ⟨?_, ?_, ?_, ?_, ?_⟩ <;> (intro e; subst e; revert h; decide)

theorem qstep_top_space {c : Nat} (h : isSpace c = true) : qstep .top c = (.top, false) := by
  obtain ⟨h1, h2, h3, h4, _⟩ := isSpace_ne h
  simp [qstep, h1, h2, h3, h4]

theorem Blank.nil : Blank [] := by intro c hc; cases hc

theorem Blank.cons {c : Nat} {w : List Nat} (hc : isSpace c = true) (hw : Blank w) :
    Blank (c :: w) := by
  intro x hx
  cases hx with
  | head => exact hc
  | tail _ h => exact hw x h

theorem Blank.tail {c : Nat} {w : List Nat} (h : Blank (c :: w)) : Blank w :=
  fun x hx => h x (List.mem_cons_of_mem _ hx)

theorem Blank.append {a b : List Nat} (ha : Blank a) (hb : Blank b) : Blank (a ++ b) := by
  intro x hx
  rcases List.mem_append.mp hx with h | h
  · exact ha x h
  · exact hb x h

theorem Blank.reverse {a : List Nat} (ha : Blank a) : Blank a.reverse :=
  fun x hx => ha x (List.mem_reverse.mp hx)

theorem Blank.of_reverse {a : List Nat} (ha : Blank a.reverse) : Blank a :=
  fun x hx => ha x (List.mem_reverse.mpr hx)

theorem Blank.left {a b : List Nat} (h : Blank (a ++ b)) : Blank a :=
  fun x hx => h x (List.mem_append.mpr (Or.inl hx))

theorem Blank.right {a b : List Nat} (h : Blank (a ++ b)) : Blank b :=
  fun x hx => h x (List.mem_append.mpr (Or.inr hx))

theorem blank_iff_all (w : List Nat) : w.all isSpace = true ↔ Blank w := by
  simp only [List.all_eq_true, Blank]

/-! ## trim -/

theorem trimLeft_eq (l : List Nat) : trimLeft l = l.dropWhile isSpace := by
  induction l with
  | nil => rfl
  | cons c l ih => rw [trimLeft, List.dropWhile_cons, ih]

theorem trimLeft_blank_append {w : List Nat} (hw : Blank w) (x : List Nat) :
    trimLeft (w ++ x) = trimLeft x := by
  rw [trimLeft_eq, trimLeft_eq, List.dropWhile_append_of_pos hw]

theorem trimLeft_of_head {x : List Nat} (h : ∀ c, x.head? = some c → isSpace c = false) :
    trimLeft x = x := by
  cases x with
  | nil => rfl
  | cons c rest => rw [trimLeft_eq, List.dropWhile_cons_of_neg (by rw [h c rfl]; exact Bool.false_ne_true)]

theorem mem_trim {c : Nat} {l : List Nat} (h : c ∈ trim l) : c ∈ l := by
  simp only [trim, trimLeft_eq] at h
  exact (List.dropWhile_suffix _).subset (List.mem_reverse.mp ((List.dropWhile_suffix _).subset (List.mem_reverse.mp h)))

theorem trim_blank_append {w : List Nat} (hw : Blank w) (x : List Nat) :
    trim (w ++ x) = trim x := by
  simp only [trim, trimLeft_blank_append hw]

theorem trim_blank_stmt {w s : List Nat} (hw : Blank w) (hs : WFStmt s) : trim (w ++ s) = s := by
  obtain ⟨body, hbody, _, _, hhead⟩ := hs
  rw [trim_blank_append hw]
  simp only [trim, trimLeft_of_head hhead]
  subst hbody
  have : trimLeft (body ++ [59]).reverse = (body ++ [59]).reverse := by
    apply trimLeft_of_head
    intro c hc
    simp only [List.reverse_append, List.reverse_cons, List.reverse_nil, List.nil_append,
      List.cons_append, List.head?_cons, Option.some.injEq] at hc
    subst hc
    decide
  rw [this, List.reverse_reverse]

/-! ## The splitter automaton -/

theorem feed_eq (s : S) (r : Nat) : feed s r =
    if (qstep s.q r).2 then
      { q := (qstep s.q r).1, piece := [], done := trim (r :: s.piece).reverse :: s.done }
    else { q := (qstep s.q r).1, piece := r :: s.piece, done := s.done } := by
  unfold feed
  rfl

theorem qrun_cons (q : Q) (r : Nat) (l : List Nat) : qrun q (r :: l) = qrun (qstep q r).1 l := rfl

theorem qrun_append (q : Q) (a b : List Nat) : qrun q (a ++ b) = qrun (qrun q a) b := by
  simp only [qrun, List.foldl_append]

theorem noEnd_append : ∀ (a : List Nat) (q : Q) (b : List Nat),
    noEnd q (a ++ b) = (noEnd q a && noEnd (qrun q a) b)
  | [], q, b => by simp [noEnd, qrun]
  | r :: a, q, b => by
    simp only [List.cons_append, noEnd, qrun_cons, noEnd_append a, Bool.and_assoc]

/-- from the quote state `q` the runes `l` end no statement and lead to the quote state `q'` -/
def Quiet (q : Q) (l : List Nat) (q' : Q) : Prop := noEnd q l = true ∧ qrun q l = q'

theorem Quiet.nil (q : Q) : Quiet q [] q := ⟨rfl, rfl⟩

theorem Quiet.cons {q q' : Q} {r : Nat} {l : List Nat} (hr : (qstep q r).2 = false)
    (h : Quiet (qstep q r).1 l q') : Quiet q (r :: l) q' :=
  ⟨by simp only [noEnd, hr, Bool.not_false, Bool.true_and]; exact h.1, h.2⟩

theorem Quiet.uncons {q q' : Q} {r : Nat} {l : List Nat} (h : Quiet q (r :: l) q') :
    (qstep q r).2 = false ∧ Quiet (qstep q r).1 l q' := by
  have h1 := h.1
  simp only [noEnd, Bool.and_eq_true, Bool.not_eq_true'] at h1
  exact ⟨h1.1, h1.2, h.2⟩

theorem Quiet.append {q q' q'' : Q} {a b : List Nat} (ha : Quiet q a q') (hb : Quiet q' b q'') :
    Quiet q (a ++ b) q'' :=
  ⟨by rw [noEnd_append, ha.1, ha.2, hb.1]; rfl, by rw [qrun_append, ha.2, hb.2]⟩

theorem Quiet.unappend {q q' q'' : Q} {a b : List Nat} (ha : Quiet q a q') (h : Quiet q (a ++ b) q'') :
    Quiet q' b q'' := by
  obtain ⟨h1, h2⟩ := h
  rw [noEnd_append, ha.1, ha.2, Bool.true_and] at h1
  rw [qrun_append, ha.2] at h2
  exact ⟨h1, h2⟩

theorem Quiet.of_blank {w : List Nat} (hw : Blank w) : Quiet .top w .top := by
  induction w with
  | nil => exact .nil _
  | cons c w ih =>
    have hc := qstep_top_space (hw c List.mem_cons_self)
    exact .cons (by rw [hc]) (by rw [hc]; exact ih hw.tail)

theorem foldl_feed_quiet : ∀ (body : List Nat) (s : S) (q' : Q), Quiet s.q body q' →
    body.foldl feed s = { q := q', piece := body.reverse ++ s.piece, done := s.done }
  | [], s, _, h => by cases s; cases h.2; rfl
  | r :: rest, s, q', h => by
    have hf : feed s r = { q := (qstep s.q r).1, piece := r :: s.piece, done := s.done } := by
      rw [feed_eq, h.uncons.1]; rfl
    rw [List.foldl_cons, hf, foldl_feed_quiet rest _ q' h.uncons.2]
    simp only [List.reverse_cons, List.append_assoc, List.cons_append, List.nil_append]

theorem foldl_feed_inv (P : S → Prop) (hstep : ∀ s r, P s → P (feed s r)) :
    ∀ (l : List Nat) (s : S), P s → P (l.foldl feed s)
  | [], _, h => h
  | r :: rest, s, h => foldl_feed_inv P hstep rest (feed s r) (hstep s r h)

theorem noEnd_blank {w : List Nat} (hw : Blank w) : noEnd .top w = true := (Quiet.of_blank hw).1

theorem qrun_blank {w : List Nat} (hw : Blank w) : qrun .top w = .top := (Quiet.of_blank hw).2

/-! ## A statement cut off at a top-level `;` is well formed -/

theorem qstep_quoted (q0 r : Nat) : (qstep (.inq q0) r).2 = false ∧ (qstep (.esc q0) r).2 = false := by
  refine ⟨?_, rfl⟩
  simp only [qstep]
  split
  · rfl
  · split <;> rfl

theorem qstep_end_top {q : Q} {r : Nat} (h : (qstep q r).2 = true) : q = .top := by
  cases q with
  | top => rfl
  | inq q0 => rw [(qstep_quoted q0 r).1] at h; cases h
  | esc q0 => cases h

theorem qstep_end {q : Q} {r : Nat} (h : (qstep q r).2 = true) :
    (qstep q r).1 = .top ∧ r = 59 := by
  cases qstep_end_top h
  simp only [qstep] at h ⊢
  split at h
  · cases h
  · rename_i h1
    split at h
    · rename_i h2
      simp only [h1, h2, if_true]
      exact ⟨rfl, by simpa using h2⟩
    · cases h

/-- a piece without the blanks before it is a statement, and that is what `trim` leaves of it -/
theorem trim_stmt {body : List Nat} (hb : Quiet .top body .top) : WFStmt (trim (body ++ [59])) := by
  have hw : Blank (body.takeWhile isSpace) := (blank_iff_all _).mp List.all_takeWhile
  have hb' : Quiet .top (body.dropWhile isSpace) .top :=
    (Quiet.of_blank hw).unappend (by rw [List.takeWhile_append_dropWhile]; exact hb)
  have hs : WFStmt (body.dropWhile isSpace ++ [59]) := by
    refine ⟨_, rfl, hb'.1, hb'.2, fun c hc => ?_⟩
    have := List.head?_dropWhile_not isSpace body
    cases hd : body.dropWhile isSpace with
    | nil => rw [hd] at hc; cases hc; decide
    | cons x _ => rw [hd] at hc this; cases hc; exact this
  have e : body ++ [59] = body.takeWhile isSpace ++ (body.dropWhile isSpace ++ [59]) := by
    rw [← List.append_assoc, List.takeWhile_append_dropWhile]
  rw [e, trim_blank_stmt hw hs]
  exact hs

/-! ## What the splitter computes: the line cut at its top-level semicolons -/

/-- `Cut q0 l ps r q`: read from the quote state `q0`, the text `l` is the pieces `ps` - each a stretch that ends
no statement and leads back outside quotes (the first from `q0`, the others from outside), then `;` - followed
by the rest `r`, which ends no statement and leads to the quote state `q`. -/
inductive Cut : Q → List Nat → List (List Nat) → List Nat → Q → Prop
  | rest {q0 q : Q} {r : List Nat} (h : Quiet q0 r q) : Cut q0 r [] r q
  | piece {q0 q : Q} {body l r : List Nat} {ps : List (List Nat)} (hb : Quiet q0 body .top)
      (h : Cut .top l ps r q) : Cut q0 (body ++ 59 :: l) ((body ++ [59]) :: ps) r q

theorem cut_exists : ∀ (l : List Nat) (q0 : Q), ∃ ps r q, Cut q0 l ps r q
  | [], q0 => ⟨[], [], q0, .rest (.nil _)⟩
  | c :: l, q0 => by
    cases he : (qstep q0 c).2 with
    | true =>
      obtain ⟨hq, rfl⟩ := qstep_end he
      cases qstep_end_top he
      obtain ⟨ps, r, q, h⟩ := cut_exists l .top
      exact ⟨_, r, q, .piece (body := []) (.nil _) h⟩
    | false =>
      obtain ⟨ps, r, q, h⟩ := cut_exists l (qstep q0 c).1
      cases h with
      | rest h => exact ⟨[], _, q, .rest (.cons he h)⟩
      | piece hb h => exact ⟨_, r, q, .piece (body := c :: _) (.cons he hb) h⟩

/-- the scan of a cut text: one statement per piece - the piece without the blanks around it, the first piece
with what was scanned before -, the rest is the piece being scanned -/
theorem scan_cut {q0 q : Q} {l r : List Nat} {ps : List (List Nat)} (h : Cut q0 l ps r q) :
    ∀ (p : List Nat) (d : List (List Nat)),
      l.foldl feed { q := q0, piece := p, done := d } =
        match (generalizing := false) ps with
        | [] => { q := q, piece := r.reverse ++ p, done := d }
        | p1 :: rest => { q := q, piece := r.reverse, done := (rest.map trim).reverse ++ trim (p.reverse ++ p1) :: d } := by
  induction h with
  | rest h => exact fun p d => foldl_feed_quiet _ _ _ h
  | @piece q0 q body l r ps hb h ih =>
    intro p d
    have hq : qstep .top 59 = (.top, true) := by decide
    rw [List.foldl_append, foldl_feed_quiet body _ _ hb, List.foldl_cons, feed_eq]
    simp only [hq, if_true]
    rw [ih [] _]
    cases ps with
    | nil => simp
    | cons p2 ps => simp

theorem scan_cut_top {l r : List Nat} {ps : List (List Nat)} {q : Q} (h : Cut .top l ps r q) :
    l.foldl feed {} = { q := q, piece := r.reverse, done := (ps.map trim).reverse } := by
  have := scan_cut h [] []
  rw [show ({ q := .top, piece := [], done := [] } : S) = {} from rfl] at this
  rw [this]
  cases ps <;> simp

theorem splitStatements_cut {l r : List Nat} {ps : List (List Nat)} {q : Q} (h : Cut .top l ps r q) :
    splitStatements l = (ps.map trim, r) := by
  unfold splitStatements
  rw [scan_cut_top h]
  simp

theorem Cut.pieces {r : List Nat} {q : Q} : ∀ {ps : List (List Nat)} {l : List Nat}, Cut .top l ps r q →
    ∀ p ∈ ps, ∃ body, p = body ++ [59] ∧ Quiet .top body .top
  | [], _, _ => nofun
  | _ :: _, _, .piece hb h => fun p hp => (List.mem_cons.mp hp).elim (fun e => ⟨_, e, hb⟩) (Cut.pieces h p)

theorem Cut.rest_quiet {r : List Nat} {q : Q} : ∀ {ps : List (List Nat)} {l : List Nat}, Cut .top l ps r q → Quiet .top r q
  | [], _, .rest h => h
  | _ :: _, _, .piece _ h => Cut.rest_quiet h

theorem Cut.text {q0 q : Q} {l r : List Nat} {ps : List (List Nat)} (h : Cut q0 l ps r q) : l = ps.flatten ++ r := by
  induction h with
  | rest _ => rfl
  | piece _ _ ih => rw [ih]; simp

theorem split_outputs_wf (l : List Nat) : ∀ s ∈ (splitStatements l).1, WFStmt s := by
  obtain ⟨ps, r, q, h⟩ := cut_exists l .top
  rw [splitStatements_cut h]
  intro s hs
  obtain ⟨p, hp, rfl⟩ := List.mem_map.mp hs
  obtain ⟨body, rfl, hb⟩ := h.pieces p hp
  exact trim_stmt hb


theorem getLast?_snd_cons (p : List Nat × List Nat) (rest : List (List Nat × List Nat))
    (w : List Nat) :
    (((p :: rest).getLast?.map (·.2)).getD w) = ((rest.getLast?.map (·.2)).getD p.2) := by
  cases rest with
  | nil => rfl
  | cons r rs =>
    rw [List.getLast?_cons_cons]
    cases h : (r :: rs).getLast? with
    | none => simp at h
    | some x => rfl

theorem blank_last (w0 : List Nat) (items : List (List Nat × List Nat))
    (hw0 : Blank w0) (hitems : ∀ p ∈ items, WFStmt p.1 ∧ Blank p.2) :
    Blank ((items.getLast?.map (·.2)).getD w0) := by
  cases h : items.getLast? with
  | none => exact hw0
  | some p => exact (hitems p (List.mem_of_getLast? h)).2

theorem cut_items : ∀ (items : List (List Nat × List Nat)) (w0 : List Nat), Blank w0 →
    (∀ p ∈ items, WFStmt p.1 ∧ Blank p.2) →
    ∃ ps, Cut .top (w0 ++ items.flatMap (fun p => p.1 ++ p.2)) ps ((items.getLast?.map (·.2)).getD w0) .top ∧
      ps.map trim = items.map (·.1)
  | [], w0, hw, _ => ⟨[], by simpa using Cut.rest (Quiet.of_blank hw), rfl⟩
  | p :: rest, w0, hw, hall => by
    obtain ⟨hs, hb⟩ := hall p List.mem_cons_self
    obtain ⟨body, hbody, h1, h2, _⟩ := id hs
    obtain ⟨ps, hc, ht⟩ := cut_items rest p.2 hb fun q hq => hall q (List.mem_cons_of_mem _ hq)
    refine ⟨(w0 ++ body ++ [59]) :: ps, ?_, ?_⟩
    · have := Cut.piece ((Quiet.of_blank hw).append ⟨h1, h2⟩) hc
      rw [getLast?_snd_cons]
      simpa [hbody, List.append_assoc] using this
    · rw [List.map_cons, List.map_cons, ht, List.append_assoc, ← hbody, trim_blank_stmt hw hs]

theorem split_wf (w0 : List Nat) (items : List (List Nat × List Nat))
    (hw0 : Blank w0) (hitems : ∀ p ∈ items, WFStmt p.1 ∧ Blank p.2) :
    splitStatements (w0 ++ items.flatMap (fun p => p.1 ++ p.2)) =
      (items.map (·.1), (items.getLast?.map (·.2)).getD w0) := by
  obtain ⟨ps, hc, ht⟩ := cut_items items w0 hw0 hitems
  rw [splitStatements_cut hc, ht]


theorem split_single {e : List Nat} (h : WFStmt e) : splitStatements e = ([e], []) := by
  have := split_wf [] [(e, [])] Blank.nil (by
    intro p hp
    simp only [List.mem_singleton] at hp
    subst hp
    exact ⟨h, Blank.nil⟩)
  simpa using this

/-- `SELECT 'a;b';` is one well-formed statement: the quoted ';' does not end it. -/
example : WFStmt [83, 69, 76, 69, 67, 84, 32, 39, 97, 59, 98, 39, 59] :=
  ⟨[83, 69, 76, 69, 67, 84, 32, 39, 97, 59, 98, 39], rfl, by decide, by decide, by
    intro c hc
    simp only [List.head?_cons, Option.some.injEq] at hc
    subst hc
    decide⟩

/-! ## Enter and the printable keys -/

/-- what was typed, with each Enter read as one space.  The end results `run_eq_split`, `run_final_empty`,
`submit_exact` and the C20 theorems spell it out, `keys.map (fun k => if k = 13 then 32 else k)`, as they spell out
"a printable key or Enter", `k = 13 ∨ (isPrintable k = true ∧ k ≠ 13)` (13 is `keyEnter`; with "a Unicode scalar
value" it is `TypedKey`, `ConsoleBytes`). -/
def keyText (keys : List Nat) : List Nat := keys.map (fun k => if k = 13 then 32 else k)

def final (t : Term) (ks : List Nat) : Term := ks.foldl (fun t k => (step t k).1) t

theorem printable_ne {k : Nat} (hp : isPrintable k = true) :
    k ≠ keyBackspace ∧ k ≠ keyAltLeft ∧ k ≠ keyAltRight ∧ k ≠ keyLeft ∧ k ≠ keyRight ∧ k ≠ keyHome ∧
    k ≠ keyEnd ∧ k ≠ keyUp ∧ k ≠ keyDown ∧ k ≠ keyDeleteWord ∧ k ≠ keyDeleteLine ∧ k ≠ keyCtrlD ∧
    k ≠ keyCtrlU ∧ k ≠ keyClearScreen := by
  simp only [isPrintable, Bool.and_eq_true, decide_eq_true_eq, Bool.not_eq_true', Bool.and_eq_false_iff,
    decide_eq_false_iff_not, bne_iff_ne, ne_eq, ge_iff_le] at hp
  simp only [keyBackspace, keyAltLeft, keyAltRight, keyLeft, keyRight, keyHome, keyEnd, keyUp, keyDown,
    keyDeleteWord, keyDeleteLine, keyCtrlD, keyCtrlU, keyClearScreen]
  omega

theorem handleKey_enter (t : Term) : handleKey t 13 =
    if (t.line.foldl feed {}).piece.reverse.all isSpace then
      ({ t with line := [], pos := 0 }, some (t.line.foldl feed {}).done.reverse)
    else (addKeyToLine t 32, none) := by
  simp [handleKey, keyEnter, keyBackspace, keyAltLeft, keyAltRight, keyLeft, keyRight, keyHome, keyEnd,
    keyUp, keyDown, keyDeleteWord, keyDeleteLine, keyCtrlD, keyCtrlU, keyClearScreen, splitStatements]

theorem handleKey_print (t : Term) {k : Nat} (hp : isPrintable k = true) (hk : k ≠ 13) :
    handleKey t k = (addKeyToLine t k, none) := by
  obtain ⟨h1, h2, h3, h4, h5, h6, h7, h8, h9, h10, h11, h12, h13, h14⟩ := printable_ne hp
  cases hpa : t.pasteActive <;>
    simp [handleKey, keyEnter, hpa, hp, hk, h1, h2, h3, h4, h5, h6, h7, h8, h9, h10, h11, h12, h13, h14]

/-- `addHistory` changes the history ring and `historyIndex` only -/
theorem addHistory_fold {α : Sort _} (f : Term → α)
    (hf : ∀ (t : Term) (h : List (List Nat)), f { t with historyIndex := -1, history := h } = f t)
    (t : Term) (s : List (List Nat)) : f (addHistory t s) = f t := by
  unfold addHistory
  induction s generalizing t with
  | nil => rfl
  | cons a s ih => rw [List.foldl_cons, ih, hf]

theorem addHistory_line (t : Term) (s : List (List Nat)) : (addHistory t s).line = t.line :=
  addHistory_fold (·.line) (fun _ _ => rfl) t s

theorem addHistory_pos (t : Term) (s : List (List Nat)) : (addHistory t s).pos = t.pos :=
  addHistory_fold (·.pos) (fun _ _ => rfl) t s

theorem addHistory_paste (t : Term) (s : List (List Nat)) : (addHistory t s).pasteActive = t.pasteActive :=
  addHistory_fold (·.pasteActive) (fun _ _ => rfl) t s

theorem step_enter (t : Term) : step t 13 =
    if (t.line.foldl feed {}).piece.reverse.all isSpace then
      (addHistory { t with line := [], pos := 0 } (t.line.foldl feed {}).done.reverse,
        some (t.line.foldl feed {}).done.reverse)
    else (addKeyToLine t 32, none) := by
  rw [step, handleKey_enter]
  by_cases hb : (t.line.foldl feed {}).piece.reverse.all isSpace = true
  · simp only [if_pos hb]
  · simp only [if_neg hb]

theorem step_enter_split (t : Term) : step t keyEnter =
    if (splitStatements t.line).2.all isSpace then
      (addHistory { t with line := [], pos := 0 } (splitStatements t.line).1, some (splitStatements t.line).1)
    else (addKeyToLine t 32, none) :=
  step_enter t

theorem step_print (t : Term) {k : Nat} (hp : isPrintable k = true) (hk : k ≠ 13) :
    step t k = (addKeyToLine t k, none) := by
  rw [step, handleKey_print t hp hk]

theorem step_typed (t : Term) {k : Nat} (hv : k = 13 ∨ (isPrintable k = true ∧ k ≠ 13)) :
    (k = 13 ∧ Blank (splitStatements t.line).2 ∧ step t k =
      (addHistory { t with line := [], pos := 0 } (splitStatements t.line).1, some (splitStatements t.line).1)) ∨
    step t k = (addKeyToLine t (if k = 13 then 32 else k), none) := by
  rcases hv with rfl | ⟨hp, hk⟩
  · have hs : step t 13 = _ := step_enter_split t
    by_cases hb : (splitStatements t.line).2.all isSpace = true
    · exact .inl ⟨rfl, (blank_iff_all _).mp hb, hs.trans (if_pos hb)⟩
    · exact .inr (hs.trans (if_neg hb))
  · rw [if_neg hk]; exact .inr (step_print t hp hk)

/-! ## Key sequences: `run`, `final` and what a sequence does (`Runs`) -/

theorem run_cons_some {t t' : Term} {k : Nat} {s : List (List Nat)} (ks : List Nat)
    (h : step t k = (t', some s)) : run t (k :: ks) = s :: run t' ks := by
  simp only [run, h]

theorem run_cons_none {t t' : Term} {k : Nat} (ks : List Nat)
    (h : step t k = (t', none)) : run t (k :: ks) = run t' ks := by
  simp only [run, h]

def subs (o : Option (List (List Nat))) : List (List (List Nat)) :=
  match o with
  | some s => [s]
  | none => []

theorem run_cons_subs (t : Term) (k : Nat) (ks : List Nat) :
    run t (k :: ks) = subs (step t k).2 ++ run (step t k).1 ks := by
  cases h : step t k with
  | mk t' o =>
    cases o with
    | none => rw [run_cons_none _ h]; rfl
    | some s => rw [run_cons_some _ h]; rfl

theorem run_cons_congr {t : Term} {k : Nat} {n c : List Nat}
    (h : run (step t k).1 n = run (step t k).1 c) : run t (k :: n) = run t (k :: c) := by
  rw [run_cons_subs, run_cons_subs, h]

theorem final_cons (t : Term) (k : Nat) (ks : List Nat) :
    final t (k :: ks) = final (step t k).1 ks := rfl

theorem run_append : ∀ (a b : List Nat) (t : Term), run t (a ++ b) = run t a ++ run (final t a) b
  | [], _, _ => rfl
  | k :: a, b, t => by
    rw [List.cons_append, final_cons, run_cons_subs, run_cons_subs, run_append a b, List.append_assoc]

theorem final_append (a b : List Nat) (t : Term) : final t (a ++ b) = final (final t a) b := by
  unfold final; rw [List.foldl_append]

/-- From `t` the keys `ks` hand over `out` and leave `t'`.  What a key sequence does is stated with this
relation and put together from its parts by `cons` and `append`; a sequence that hands over nothing has
`out = []` (and `[] ++ []` is `[]` by computation). -/
def Runs (t : Term) (ks : List Nat) (out : List (List (List Nat))) (t' : Term) : Prop :=
  run t ks = out ∧ final t ks = t'

theorem Runs.self (t : Term) (ks : List Nat) : Runs t ks (run t ks) (final t ks) := ⟨rfl, rfl⟩

theorem Runs.nil (t : Term) : Runs t [] [] t := ⟨rfl, rfl⟩

theorem Runs.cons {t t1 t2 : Term} {k : Nat} {o : Option (List (List Nat))} {ks : List Nat}
    {out : List (List (List Nat))} (h : step t k = (t1, o)) (h2 : Runs t1 ks out t2) :
    Runs t (k :: ks) (subs o ++ out) t2 := by
  obtain ⟨r, f⟩ := h2
  exact ⟨by rw [run_cons_subs, h, r], by rw [final_cons, h, f]⟩

theorem Runs.next (t : Term) (k : Nat) {ks : List Nat} {out : List (List (List Nat))} {t2 : Term}
    (h2 : Runs (step t k).1 ks out t2) : Runs t (k :: ks) (subs (step t k).2 ++ out) t2 :=
  Runs.cons rfl h2

theorem Runs.key {t t1 : Term} {k : Nat} (h : step t k = (t1, none)) : Runs t [k] [] t1 :=
  Runs.cons h (Runs.nil t1)

theorem Runs.append {t t1 t2 : Term} {a b : List Nat} {o1 o2 : List (List (List Nat))}
    (h1 : Runs t a o1 t1) (h2 : Runs t1 b o2 t2) : Runs t (a ++ b) (o1 ++ o2) t2 := by
  obtain ⟨r1, f1⟩ := h1
  obtain ⟨r2, f2⟩ := h2
  exact ⟨by rw [run_append, r1, f1, r2], by rw [final_append, f1, f2]⟩

theorem Runs.insert {t : Term} {a m : List Nat} (h : Runs (final t a) m [] (final t a)) (b : List Nat) :
    run t (a ++ m ++ b) = run t (a ++ b) ∧ final t (a ++ m ++ b) = final t (a ++ b) := by
  have := ((Runs.self t a).append h).append (Runs.self (final t a) b)
  rw [List.append_nil] at this
  exact ⟨this.1.trans (run_append a b t).symm, this.2.trans (final_append a b t).symm⟩

/-! ## Printable keys and Enter keep the cursor at the end of the line -/

def AtEnd (t : Term) : Prop := t.pos = t.line.length

theorem addKey_atEnd {t : Term} (h : AtEnd t) (k : Nat) :
    (addKeyToLine t k).line = t.line ++ [k] ∧ AtEnd (addKeyToLine t k) := by
  unfold AtEnd at h ⊢
  simp [addKeyToLine, h]

theorem step_valid_atEnd (t : Term) (h : AtEnd t) {k : Nat}
    (hv : k = 13 ∨ (isPrintable k = true ∧ k ≠ 13)) : AtEnd (step t k).1 := by
  rcases step_typed t hv with ⟨_, _, hs⟩ | hs <;> rw [hs]
  · unfold AtEnd; simp only [addHistory_line, addHistory_pos]; rfl
  · exact (addKey_atEnd h _).2

theorem final_valid_atEnd : ∀ (keys : List Nat) (t : Term), AtEnd t →
    (∀ k ∈ keys, k = 13 ∨ (isPrintable k = true ∧ k ≠ 13)) → AtEnd (final t keys)
  | [], _, h, _ => h
  | k :: keys, t, h, hv => by
    rw [final_cons]
    exact final_valid_atEnd keys _ (step_valid_atEnd t h (hv k List.mem_cons_self))
      (fun x hx => hv x (List.mem_cons_of_mem _ hx))

/-! ## The session: what `run` submits vs. the split of everything typed -/

/-- A text `X` whose rest is blank and outside quotes, followed by a text `L`: the pieces of both (the blanks go
to the first piece of `L`, or to its rest; trimming takes them off again), the rest of `L`. -/
theorem Cut.append_blank {q0 q : Q} {X L w r : List Nat} {psX psL : List (List Nat)} (hX : Cut q0 X psX w .top)
    (hw : Blank w) (hL : Cut .top L psL r q) :
    ∃ ps r', Cut q0 (X ++ L) ps r' q ∧ ps.map trim = psX.map trim ++ psL.map trim ∧ (Blank r' ↔ Blank r) := by
  generalize hq : Q.top = qt at hX
  induction hX with
  | @rest q0 _ w hq' =>
    subst hq
    cases hL with
    | rest hr => exact ⟨[], w ++ _, .rest (hq'.append hr), rfl, ⟨fun h => h.right, hw.append⟩⟩
    | @piece _ _ body l _ ps hb h =>
      refine ⟨(w ++ body ++ [59]) :: ps, _, ?_, ?_, Iff.rfl⟩
      · have := Cut.piece (hq'.append hb) h
        rwa [List.append_assoc] at this
      · rw [List.map_cons, List.map_cons, List.append_assoc, trim_blank_append hw]; rfl
  | @piece q0 _ body l _ ps hb h ih =>
    obtain ⟨ps', r', hc, ht, hr⟩ := ih hw hq
    refine ⟨(body ++ [59]) :: ps', r', ?_, by rw [List.map_cons, ht]; rfl, hr⟩
    have := Cut.piece hb hc
    rwa [← List.cons_append, ← List.append_assoc] at this

/-- **The session in terms of the text.**  `X` is what was typed before the current line: cut into the statements
handed over so far, with nothing but blanks behind the last of them.  Typing `ks` at the end of the line keeps
that: Enter hands over the statements of the line when only blanks are left behind them, and the line (with the
Enter as a blank) joins `X`; every other key (an Enter that hands over nothing as a blank) joins the line. -/
theorem typed_cut (ks : List Nat) : ∀ (t : Term) (X w : List Nat) (ps : List (List Nat)),
    AtEnd t → (∀ k ∈ ks, k = 13 ∨ (isPrintable k = true ∧ k ≠ 13)) → Cut .top X ps w .top → Blank w →
    ∃ X' ps' w', Cut .top X' ps' w' .top ∧ Blank w' ∧ X ++ t.line ++ keyText ks = X' ++ (final t ks).line ∧
      ps'.map trim = ps.map trim ++ (run t ks).flatten := by
  induction ks with
  | nil => exact fun t X w ps _ _ hX hw => ⟨X, ps, w, hX, hw, List.append_nil _, (List.append_nil _).symm⟩
  | cons k rest ih =>
    intro t X w ps he hv hX hw
    have h32 : Blank [32] := Blank.cons (by decide) Blank.nil
    have hvr : ∀ k ∈ rest, k = 13 ∨ (isPrintable k = true ∧ k ≠ 13) := fun x hx => hv x (List.mem_cons_of_mem _ hx)
    have he' := step_valid_atEnd t he (hv k List.mem_cons_self)
    rcases step_typed t (hv k List.mem_cons_self) with ⟨rfl, hrL, hs⟩ | hs
    · -- Enter hands over: the line joins `X`
      obtain ⟨psL, rL, qL, hL⟩ := cut_exists t.line .top
      rw [splitStatements_cut hL] at hs hrL
      rw [hs] at he'
      obtain rfl : qL = .top := hL.rest_quiet.2.symm.trans (Quiet.of_blank hrL).2
      obtain ⟨ps1, r1, hc1, ht1, hr1⟩ := hX.append_blank hw hL
      obtain ⟨ps2, r2, hc2, ht2, hr2⟩ := hc1.append_blank (hr1.mpr hrL) (.rest (Quiet.of_blank h32))
      obtain ⟨X', ps', w', h1, h2, h3, h4⟩ := ih _ _ r2 ps2 he' hvr hc2 (hr2.mpr h32)
      refine ⟨X', ps', w', h1, h2, ?_, ?_⟩
      · rw [final_cons, hs, ← h3, addHistory_line]
        simp only [keyText, List.map_cons, if_true, List.append_assoc, List.cons_append, List.nil_append]
      · rw [run_cons_some rest hs, h4, ht2, ht1]
        simp only [List.map_nil, List.append_nil, List.flatten_cons, List.append_assoc]
    · -- the key joins the line
      rw [hs] at he'
      obtain ⟨X', ps', w', h1, h2, h3, h4⟩ := ih _ X w ps he' hvr hX hw
      refine ⟨X', ps', w', h1, h2, ?_, ?_⟩
      · rw [final_cons, hs, ← h3, (addKey_atEnd he _).1]
        simp only [keyText, List.map_cons, List.append_assoc, List.cons_append, List.nil_append]
      · rw [run_cons_none rest hs]; exact h4

theorem Cut.snoc {q0 q : Q} {l r : List Nat} {ps : List (List Nat)} {c : Nat} (h : Cut q0 l ps r q)
    (hc : (qstep q c).2 = false) : Cut q0 (l ++ [c]) ps (r ++ [c]) (qstep q c).1 := by
  induction h with
  | rest hr => exact .rest (hr.append (.cons hc (.nil _)))
  | piece hb _ ih => have := Cut.piece hb (ih hc); rwa [← List.cons_append, ← List.append_assoc] at this

theorem run_eq_split_snoc (ks : List Nat)
    (hvalid : ∀ k ∈ ks ++ [13], k = 13 ∨ (isPrintable k = true ∧ k ≠ 13))
    (hrest : Blank (splitStatements (keyText (ks ++ [13]))).2) :
    (run {} (ks ++ [13])).flatten = (splitStatements (keyText (ks ++ [13]))).1 ∧
      (final {} (ks ++ [13])).line = [] := by
  obtain ⟨X, ps, w, hX, hw, htext, hps⟩ := typed_cut ks {} [] [] [] rfl
    (fun k hk => hvalid k (List.mem_append.mpr (Or.inl hk))) (.rest (.nil _)) Blank.nil
  obtain ⟨psL, rL, qL, hL⟩ := cut_exists (final {} ks).line .top
  obtain ⟨ps1, r1, hc1, ht1, hr1⟩ := hX.append_blank hw hL
  -- the text with the last Enter as a blank: the blank ends no statement and joins the rest
  have h32 : (qstep qL 32).2 = false := by
    cases h : (qstep qL 32).2 with
    | false => rfl
    | true => exact absurd (qstep_end h).2 (by decide)
  have hT : keyText (ks ++ [13]) = X ++ (final {} ks).line ++ [32] := by
    have : keyText (ks ++ [13]) = keyText ks ++ [32] := by simp [keyText]
    rw [this, ← htext]; rfl
  rw [hT, splitStatements_cut (hc1.snoc h32)] at hrest ⊢
  -- so the rest of the line is blank and the Enter hands over
  have hs : step (final {} ks) 13 = _ := step_enter_split (final {} ks)
  rw [splitStatements_cut hL, if_pos ((blank_iff_all _).mpr (hr1.mp hrest.left))] at hs
  constructor
  · rw [run_append, run_cons_some [] hs, ht1, hps]
    simp [run]
  · rw [final_append]
    show (step (final {} ks) 13).1.line = []
    rw [hs, addHistory_line]

theorem run_eq_split (keys : List Nat)
    (hvalid : ∀ k ∈ keys, k = 13 ∨ (isPrintable k = true ∧ k ≠ 13))
    (hlast : keys.getLast? = some 13)
    (hrest : Blank (splitStatements (keys.map (fun k => if k = 13 then 32 else k))).2) :
    (run {} keys).flatten = (splitStatements (keys.map (fun k => if k = 13 then 32 else k))).1 := by
  obtain ⟨ks, rfl⟩ := List.getLast?_eq_some_iff.mp hlast
  exact (run_eq_split_snoc ks hvalid hrest).1

theorem run_final_empty (keys : List Nat)
    (hvalid : ∀ k ∈ keys, k = 13 ∨ (isPrintable k = true ∧ k ≠ 13))
    (hlast : keys.getLast? = some 13)
    (hrest : Blank (splitStatements (keys.map (fun k => if k = 13 then 32 else k))).2) :
    (final {} keys).line = [] := by
  obtain ⟨ks, rfl⟩ := List.getLast?_eq_some_iff.mp hlast
  exact (run_eq_split_snoc ks hvalid hrest).2

/-! ## C20: the console hands the engine exactly the typed statements -/

theorem submit_exact (keys : List Nat) (w0 : List Nat) (items : List (List Nat × List Nat))
    (hvalid : ∀ k ∈ keys, k = 13 ∨ (isPrintable k = true ∧ k ≠ 13))
    (hlast : keys.getLast? = some 13)
    (hw0 : Blank w0) (hitems : ∀ p ∈ items, WFStmt p.1 ∧ Blank p.2)
    (htext : keys.map (fun k => if k = 13 then 32 else k) =
      w0 ++ items.flatMap (fun p => p.1 ++ p.2)) :
    (run {} keys).flatten = items.map (·.1) := by
  have hs := split_wf w0 items hw0 hitems
  rw [← htext] at hs
  rw [run_eq_split keys hvalid hlast (by rw [hs]; exact blank_last w0 items hw0 hitems), hs]

end Mkdb.Console
