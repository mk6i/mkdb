import Mkdb.Proofs.MemFiledInsert
import Mkdb.Proofs.SpecRefineUpdateStmt
import Mkdb.Proofs.StoreDecEq
/-!
# End-to-end refinement: the engine's statements refine the in-memory specification

`Mkdb.Spec` (`Mkdb/Spec/Tables.lean`) is the plain in-memory specification the test judge uses as its
oracle; `Mkdb.Engine` (`Mkdb/Model/Engine.lean`) is the model of the statement evaluators of the Go
code, running on the page store.  The `SpecRefine*` modules relate the two: an abstraction `Abs` and `AbsV`, the
same up to row ids (`SpecRefineAbs`), which every statement the specification accepts preserves
(`evalInsert/Delete/Update/CreateTable_refines_specV`), so that statements chain.  This module is the non-vacuity: a
concrete store with a one-column table `t (a INT)` on which the hypotheses hold and INSERT of two rows,
UPDATE … WHERE a = 5 and DELETE … WHERE a = 6 run as the spec says, and `INSERT INTO t (b) VALUES (1)` is refused
with nothing changed.
-/
set_option autoImplicit false
namespace Mkdb.Store
open Mkdb.Page Mkdb.Tuple Mkdb.Generated Mkdb.Tree

/-- the row of `sys_schema` for column `a INT` of table `t` -/
def schRow : Bytes := [0, 1, 0, 0, 0, 116, 0, 1, 0, 0, 0, 97, 0, 0, 0, 0, 0, 0, 0, 0, 0, 0]
def schLeaf : Leaf := ⟨8192, 0, false, false, 0, 0, [⟨4, false, schRow⟩]⟩
def sch1 : Levels := ⟨[(schLeaf, true)], []⟩
def schemaA : List FieldDef := [⟨"a", .int, 0⟩]
def st1 : Store :=
  { hdr := { lastKey := 4, ptRoot := 4096, nextFree := 16384, nextLSN := 7 },
    mem := [(4096, ⟨.leaf ptLeaf, true⟩), (8192, ⟨.leaf schLeaf, true⟩),
            (12288, ⟨.leaf ⟨12288, 0, false, false, 0, 0, []⟩, true⟩)] }

theorem st1_memFiled : MemFiled st1 := by decide

theorem schRow_enc : encodeTuple schemaTableSchema
    [("table_name", .str [116]), ("field_name", .str [97]), ("field_type", .int 0), ("field_length", .int 0)] =
    .ok schRow := rfl

theorem sch1_t : schemaOf sch1 tname = some schemaA := by decide +kernel

theorem cat1 : Cat st1 pt0 sch1 [(tname, t0)] := by decide +kernel

def sdbA0 : Spec.SDB := [⟨tname, schemaA, []⟩]

theorem abs1 : Abs st1 pt0 sch1 [(tname, t0)] sdbA0 :=
  ⟨cat1, .cons ⟨schemaA, sch1_t, (by simp [schemaA]), (by intro c hc; cases hc), rfl⟩ .nil⟩

def dbA : Engine.DB := { store := st1, wal := [] }
/-- `a = n` -/
def condEq (n : Int) : Sql.Cond := .pred ⟨.col ⟨[], [97]⟩, t_EQ, .lit (.int n)⟩
def sdbA1 : Spec.SDB := [⟨tname, schemaA, [⟨none, [.int 5]⟩, ⟨none, [.int 6]⟩]⟩]
def sdbA2 : Spec.SDB := [⟨tname, schemaA, [⟨none, [.int 7]⟩, ⟨none, [.int 6]⟩]⟩]
def sdbA3 : Spec.SDB := [⟨tname, schemaA, [⟨none, [.int 7]⟩]⟩]

theorem a_bytes : "a".toUTF8.toList = [97] := by
  rw [toList_eq]
  have hs : "a".toUTF8.size = 1 := by decide
  rw [hs]
  decide

theorem nameStr_a : Spec.nameStr [97] = "a" := by decide

theorem fieldsA (n : Bytes) (rows : List Spec.SRow) : Spec.fieldsOfTable ⟨n, schemaA, rows⟩ = [⟨[], [97]⟩] := by
  simp only [Spec.fieldsOfTable, schemaA, List.map_cons, List.map_nil, a_bytes]

/-- `INSERT INTO t VALUES (5), (6)` in the spec -/
theorem specA1 : Spec.specInsert sdbA0 tname [] [[.int 5], [.int 6]] = some sdbA1 := rfl

/-- `UPDATE t SET a = 7 WHERE a = 5` in the spec -/
theorem specA2 : Spec.specUpdate sdbA1 tname [([97], .lit (.int 7))] (some (condEq 5)) = some sdbA2 := by
  decide +kernel

theorem selA3 : Spec.selects ⟨tname, schemaA, [⟨none, [.int 7]⟩, ⟨none, [.int 6]⟩]⟩ (some (condEq 6)) =
    some [false, true] := by decide +kernel

/-- `DELETE FROM t WHERE a = 6` in the spec -/
theorem specA3 : Spec.specDelete sdbA2 tname (some (condEq 6)) = some sdbA3 := by decide +kernel

theorem runA : InsRunOK schemaA ([].map Engine.bytesToName) t0 4 7 16384 [[.int 5], [.int 6]] :=
  InsRunOK.of_check _ _ _ _ _ _ _ (by decide +kernel)

theorem rows56_valid : ∀ r ∈ [[Val.int 5], [.int 6]], ∀ v ∈ r, ValidVal v := by decide

theorem set7_valid : ∀ p ∈ [(([97] : Bytes), Sql.VExpr.lit (.int 7))], ∀ l, p.2 = .lit l →
    ValidVal (Engine.litToVal l) := by
  intro p hp l hl
  rw [List.mem_singleton.mp hp, Sql.VExpr.lit.injEq] at hl
  subst hl
  decide

theorem set7_utf : ∀ p ∈ [(([97] : Bytes), Sql.VExpr.lit (.int 7))], (Spec.nameStr p.1).toUTF8.toList = p.1 := by
  intro p hp
  rw [List.mem_singleton.mp hp, nameStr_a]
  exact a_bytes

/-- **Non-vacuity, end to end.**  On the concrete store (`abs1`), the three statements
`INSERT INTO t VALUES (5), (6)`, `UPDATE t SET a = 7 WHERE a = 5`, `DELETE FROM t WHERE a = 6` run in
the model as the theorems say: each succeeds (2 rows inserted, 1 row deleted), and the final store
abstracts - up to row ids - to what the spec computes, the table holding the single row `(7)`. -/
theorem chain_example :
    ∃ db1 db2 db3 pt3 tbls3,
      Engine.evalInsert dbA tname [] [[.int 5], [.int 6]] = .ok 2 db1 ∧
      Engine.evalUpdate db1 tname [([97], .lit (.int 7))] (some (condEq 5)) = .ok () db2 ∧
      Engine.evalDelete db2 tname (some (condEq 6)) = .ok 1 db3 ∧
      AbsV db3.store pt3 sch1 tbls3 sdbA3 ∧ db3.store.hdr.lastKey = 6 := by
  obtain ⟨db1, pt1, t1', logs1, e1, _, _, _, habs1, hlk1⟩ := evalInsert_refines_specV dbA pt0 sch1 [(tname, t0)]
    sdbA0 sdbA1 abs1.toV tname t0 (List.mem_singleton.mpr rfl) schemaA sch1_t [] [[.int 5], [.int 6]]
    rows56_valid
    specA1 runA
  obtain ⟨db2, t2', logs2, _, e2, _, _, habs2, hlk2⟩ := evalUpdate_refines_specV db1 pt1 sch1 _ sdbA1 sdbA2 habs1 tname
    [([97], .lit (.int 7))] (some (condEq 5))
    set7_valid set7_utf
    specA2
  obtain ⟨n, db3, t3', logs3, _, e3, _, _, _, habs3, hlk3, hn⟩ := evalDelete_refines_specV db2 pt1 sch1 _ sdbA2 sdbA3 habs2
    tname (some (condEq 6)) specA3
  have hn1 : n = 1 := hn _ _ (rfl : Spec.findTable sdbA2 tname = some _) selA3
  subst hn1
  exact ⟨db1, db2, db3, pt1, _, e1, e2, e3, habs3, by rw [hlk3, hlk2, hlk1]; rfl⟩

/-- **Non-vacuity of the refusal.**  `INSERT INTO t VALUES (5, 6)` (two values for one column) is
refused by the spec and by the model; nothing changes. -/
theorem refused_example :
    Spec.specInsert sdbA0 tname [] [[.int 5, .int 6]] = none ∧
    ∃ e db', Engine.evalInsert dbA tname [] [[.int 5, .int 6]] = .err (.store e) db' ∧
      db'.wal = dbA.wal ∧ Abs db'.store pt0 sch1 [(tname, t0)] sdbA0 := by
  obtain ⟨s', he, hc', _⟩ := insert_refused (e := .colCountMismatch) cat1 tname t0 (List.mem_singleton.mpr rfl)
    schemaA sch1_t ([].map Engine.bytesToName) [.int 5, .int 6] rfl
  exact ⟨specInsert_none_of_bad_row sdbA0 tname [] _ _ rfl ⟨_, List.mem_cons_self, rfl⟩, _, { dbA with store := s' },
    evalInsert_first_err dbA tname [] [] he, rfl, ⟨hc', abs1.tabs⟩⟩

/-- **Non-vacuity of the refusal of an unknown column.**  `INSERT INTO t (b) VALUES (1)` - the table
`t (a INT)` has no column `b` - is refused by the spec and by the model (`fieldNotFound`); pages, header
and log are as before and the store abstracts to the same spec database.  (Before the repair the row
`(NULL)` went in and the value `1` was dropped in silence.) -/
theorem unknown_column_example :
    Spec.specInsert sdbA0 tname [[98]] [[.int 1]] = none ∧
    ∃ db', Engine.evalInsert dbA tname [[98]] [[.int 1]] = .err (.store .fieldNotFound) db' ∧
      db'.wal = dbA.wal ∧ Same dbA.store db'.store ∧ Abs db'.store pt0 sch1 [(tname, t0)] sdbA0 := by
  obtain ⟨s', he, hc', _, _, _, hs'⟩ := insert_refused (e := .fieldNotFound) cat1 tname t0 (List.mem_singleton.mpr rfl)
    schemaA sch1_t ([[98]].map Engine.bytesToName) [.int 1] rfl
  refine ⟨?_, { dbA with store := s' }, ?_, rfl, hs' (by decide), ⟨hc', abs1.tabs⟩⟩
  · exact specInsert_none_of_bad_names sdbA0 tname [[98]] [.int 1] [] ⟨tname, schemaA, []⟩ rfl (by decide)
  · exact evalInsert_first_err dbA tname [[98]] [] he

end Mkdb.Store
