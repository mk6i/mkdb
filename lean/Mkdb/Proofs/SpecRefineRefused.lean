import Mkdb.Proofs.SpecRefineUpdateStmt
/-!
# The refusals of DELETE and UPDATE against the spec (C14), and totality

Three parts: a statement the spec refuses before or at its first row is refused by the model with nothing changed; an
UPDATE refused at a LATER selected row leaves the selected rows before it rewritten (the known finding, exactly); no
DML evaluator returns a panic, an unmodelled path or exhausted fuel (`Total`).
-/

section
/-!
## Refused before anything changes

When the spec's `selects` cannot evaluate the WHERE on some row, the model's `filterIds` returns an
executor error (never a panic: the fetched rows have one value per column).  When `specDelete = none`
(unknown table, WHERE not evaluable) or `specUpdate = none` because of an unknown table, a column as
source, a SET column the table does not have or one set twice, a WHERE that cannot be evaluated, or a
FIRST selected row that cannot be rewritten, the model's evaluator fails, NOTHING is changed (`Same`:
pages and header; only the cache grew), and the log is untouched.  The UPDATE cases on a known table are
read off `evalUpdate_early` (`SpecRefineUpdateStmt`).
-/
set_option autoImplicit false
namespace Mkdb.Store
open Mkdb.Page Mkdb.Tuple Mkdb.Generated Mkdb.Tree

/-! ### DELETE -/

/-- **DELETE refused (C14).**  The spec refuses the statement (`specDelete … = none`: unknown table,
or the WHERE cannot be evaluated on some row): the model's `evalDelete` fails - with
`.store .tableNotExist` resp. the executor's error - BEFORE deleting anything: pages and header are
as before (`Same`), the log is untouched, the abstraction (up to row ids) is the same. -/
theorem evalDelete_refused_specV (db : Engine.DB) (pt sch : Levels) (tbls : List (Bytes × Levels))
    (sdb : Spec.SDB) (h : AbsV db.store pt sch tbls sdb) (table : Bytes) (w : Option Sql.Cond)
    (hsys : Spec.findTable sdb table = none → table ≠ sysPages ∧ table ≠ sysSchema)
    (hspec : Spec.specDelete sdb table w = none) :
    ∃ e db', Engine.evalDelete db table w = .err e db' ∧ PreErr e ∧
      (Spec.findTable sdb table = none → e = .store .tableNotExist) ∧
      ((Spec.findTable sdb table).isSome → ∃ x, e = .exec x) ∧
      db'.wal = db.wal ∧ Same db.store db'.store ∧ AbsV db'.store pt sch tbls sdb := by
  unfold Spec.specDelete at hspec
  cases hfind : Spec.findTable sdb table with
  | none =>
    obtain ⟨h1, h2⟩ := hsys hfind
    obtain ⟨s', e, hs, hc⟩ := fetchTable_unknown_table h.cat table h1 h2 ((h.find_none_iff table).mp hfind)
    refine ⟨.store .tableNotExist, { db with store := s' }, ?_, .inl rfl, fun _ => rfl, (fun hc => by cases hc), rfl, hs,
      h.of_cat hc⟩
    simp only [Engine.evalDelete, Engine.fetchForExec, Engine.liftS, e]
  | some st =>
    rw [hfind] at hspec
    simp only [Option.bind_eq_bind, Option.bind_some] at hspec
    cases hsel : Spec.selects st w with
    | some sel => rw [hsel] at hspec; cases hspec
    | none =>
      obtain ⟨t, schema, ht, hsch, hdec, htv⟩ := h.find hfind
      rw [← selects_congr htv w] at hsel
      obtain ⟨s1, efetch, hs1, hc1⟩ := fetchTable_cat h.cat table t ht schema hsch hdec
      obtain ⟨x, efilter⟩ := filterIds_fail table schema (rowsOf schema (live t)) (fun r hr => rowsOf_len hr) w hsel
      refine ⟨.exec x, { db with store := s1 }, ?_, .inr ⟨x, rfl⟩, (fun hc => by cases hc), fun _ => ⟨x, rfl⟩, rfl, hs1,
        h.of_cat hc1⟩
      simp only [Engine.evalDelete, Engine.fetchForExec, Engine.liftS, efetch, efilter]

/-! ### UPDATE -/

/-- why the spec refuses an UPDATE before / at its first row -/
inductive UpdRefusal (sdb : Spec.SDB) (table : Bytes) (sets : List (Bytes × Sql.VExpr)) (w : Option Sql.Cond) : Prop
  | col : (∃ p ∈ sets, ∃ c, p.2 = .col c) → UpdRefusal sdb table sets w
  | unknown : (∀ p ∈ sets, ∀ c, p.2 ≠ .col c) → Spec.findTable sdb table = none →
      table ≠ sysPages → table ≠ sysSchema → UpdRefusal sdb table sets w
  | where_ (st : Spec.STable) : (∀ p ∈ sets, ∀ c, p.2 ≠ .col c) → Spec.findTable sdb table = some st →
      Spec.selects st w = none → UpdRefusal sdb table sets w
  | firstRow (st : Spec.STable) (sel : List Bool) (v : List Val) (rest : List (List Val)) :
      (∀ p ∈ sets, ∀ c, p.2 ≠ .col c) → Spec.findTable sdb table = some st →
      Spec.selects st w = some sel → selVals st sel = v :: rest → specAssign st.cols sets v = none →
      UpdRefusal sdb table sets w
  | names (st : Spec.STable) : (∀ p ∈ sets, ∀ c, p.2 ≠ .col c) → Spec.findTable sdb table = some st →
      Spec.namesOK st (sets.map fun p => Spec.nameStr p.1) = false → UpdRefusal sdb table sets w

/-- **UPDATE refused before anything is rewritten (C14).**  The spec refuses the statement because of a
column as SET source, an unknown table, a SET column the table does not have or one set twice (whatever
the WHERE selects, also nothing), a WHERE that cannot be evaluated, or because the FIRST selected row
cannot be rewritten (the overridden tuple does not encode or is over the size limit): the model's
`evalUpdate` fails, pages and header are as before (`Same`), the log is untouched, the abstraction is
the same. -/
theorem evalUpdate_refused_specV (db : Engine.DB) (pt sch : Levels) (tbls : List (Bytes × Levels))
    (sdb : Spec.SDB) (h : AbsV db.store pt sch tbls sdb) (table : Bytes)
    (sets : List (Bytes × Sql.VExpr)) (w : Option Sql.Cond) (hbad : UpdRefusal sdb table sets w) :
    Spec.specUpdate sdb table sets w = none ∧
    ∃ e db', Engine.evalUpdate db table sets w = .err e db' ∧ UpdErr e ∧
      db'.wal = db.wal ∧ Same db.store db'.store ∧ AbsV db'.store pt sch tbls sdb := by
  -- a known table, refused before anything is rewritten: the SET columns, the WHERE, the first selected row
  have early : ∀ {st : Spec.STable}, (∀ p ∈ sets, ∀ c, p.2 ≠ .col c) → Spec.findTable sdb table = some st →
      (Engine.checkSetColumns (Spec.fieldsOfTable st) [] (sets.map (·.1)) ≠ none ∨ Spec.selects st w = none ∨
        ∃ sel v rest, Spec.selects st w = some sel ∧ selVals st sel = v :: rest ∧ specAssign st.cols sets v = none) →
      ∃ e db', Engine.evalUpdate db table sets w = .err e db' ∧ UpdErr e ∧
        db'.wal = db.wal ∧ Same db.store db'.store ∧ AbsV db'.store pt sch tbls sdb := by
    intro st hnocol hfind hb
    obtain ⟨t, schema, ht, hsch, hdec, htv⟩ := h.find hfind
    obtain rfl : schema = st.cols := tv_cols htv
    rw [← selects_congr htv w] at hb
    simp only [← selVals_congr htv] at hb
    obtain ⟨e, s1, he, hk, hs1, hc1⟩ := evalUpdate_early db h.cat table t ht st.cols hsch hdec sets w hnocol hb
    exact ⟨e, { db with store := s1 }, he, hk, rfl, hs1, h.of_cat hc1⟩
  cases hbad with
  | col hcol =>
    exact ⟨specUpdate_eq_none fun _ _ _ _ hnocol _ _ _ => hcol.elim fun p hp => hp.2.elim fun c hc => hnocol p hp.1 c hc,
      .unsupported, db, evalUpdate_col db table sets w hcol, .inl rfl,
      rfl, Same.refl _, h⟩
  | unknown hnocol hfind h1 h2 =>
    have hnone : Spec.specUpdate sdb table sets w = none := specUpdate_eq_none fun _ _ _ hf _ _ _ _ => by
      rw [hfind] at hf
      cases hf
    refine ⟨hnone, ?_⟩
    obtain ⟨s', e, hs, hc⟩ := fetchTable_unknown_table h.cat table h1 h2 ((h.find_none_iff table).mp hfind)
    refine ⟨.store .tableNotExist, { db with store := s' }, ?_, .inr (.inl (.inl rfl)), rfl, hs, h.of_cat hc⟩
    rw [evalUpdate_eq db table sets w hnocol, Engine.fetchForExec, Engine.liftS_err e]
  | names st hnocol hfind hbadn =>
    have hnone : Spec.specUpdate sdb table sets w = none := specUpdate_eq_none fun st' _ _ hf _ hn _ _ => by
      obtain rfl : st = st' := Option.some.inj (hfind.symm.trans hf)
      rw [hbadn] at hn
      cases hn
    obtain ⟨e, hset, _⟩ := checkSetColumns_some_of_not_namesOK st (sets.map (·.1)) (by rw [List.map_map]; exact hbadn)
    exact ⟨hnone, early hnocol hfind (.inl fun h0 => nomatch hset.symm.trans h0)⟩
  | where_ st hnocol hfind hsel =>
    have hnone : Spec.specUpdate sdb table sets w = none := specUpdate_eq_none fun st' _ _ hf _ _ hs _ => by
      obtain rfl : st = st' := Option.some.inj (hfind.symm.trans hf)
      rw [hsel] at hs
      cases hs
    exact ⟨hnone, early hnocol hfind (.inr (.inl hsel))⟩
  | firstRow st sel v rest hnocol hfind hsel hfirst hno =>
    exact ⟨specUpdate_none_of_selected sdb table sets w _ sel hfind hsel v (by rw [hfirst]; exact List.mem_cons_self) hno,
      early hnocol hfind (.inr (.inr ⟨sel, v, rest, hsel, hfirst, hno⟩))⟩

end Mkdb.Store
end

section
/-!
## UPDATE refused at a later selected row

The spec refuses the whole statement (nothing changes); the model's `evalUpdate` fails only after
having rewritten the selected rows before the first one that cannot be rewritten: the log is
untouched, and the store abstracts to the spec database in which exactly those rows are rewritten
(`rewriteFirst`, the states `Spec.prefixStates` enumerates).
-/
set_option autoImplicit false
namespace Mkdb.Store
open Mkdb.Page Mkdb.Tuple Mkdb.Generated Mkdb.Tree

/-- **UPDATE refused at a later selected row (the known finding).**  The selected rows `pre` can be
rewritten, the next one `bad` cannot: the spec refuses the statement (nothing changes), the model's
`evalUpdate` fails with the store's error AFTER having rewritten the rows `pre`: the log is untouched,
and the store abstracts to the spec database in which exactly the first `pre.length` selected rows of
the table are rewritten.  (The SET columns pass the statement's check, `hset`: an unknown or repeated
SET column is refused before any row is rewritten - `UpdRefusal.names`.) -/
theorem evalUpdate_kth_refused_spec (db : Engine.DB) (pt sch : Levels) (tbls : List (Bytes × Levels))
    (sdb : Spec.SDB) (h : Abs db.store pt sch tbls sdb) (table : Bytes)
    (sets : List (Bytes × Sql.VExpr)) (w : Option Sql.Cond)
    (hnocol : ∀ p ∈ sets, ∀ c, p.2 ≠ .col c)
    (hvalid : ∀ p ∈ sets, ∀ l, p.2 = .lit l → ValidVal (Engine.litToVal l))
    (st : Spec.STable) (sel : List Bool) (pre : List (List Val)) (bad : List Val) (post : List (List Val))
    (hfind : Spec.findTable sdb table = some st) (hsel : Spec.selects st w = some sel)
    (hset : Engine.checkSetColumns (Spec.fieldsOfTable st) [] (sets.map (·.1)) = none)
    (hsplit : selVals st sel = pre ++ bad :: post)
    (hpre : ∀ v ∈ pre, specAssign st.cols sets v ≠ none) (hbad : specAssign st.cols sets bad = none) :
    Spec.specUpdate sdb table sets w = none ∧
    ∃ e db' t', Engine.evalUpdate db table sets w = .err (.store e) db' ∧
      (e = .typeMismatch ∨ e = .intOutOfRange ∨ e = .rowTooLarge) ∧ db'.wal = db.wal ∧
      Abs db'.store pt sch (setTable tbls table t')
        (sdb.map (updRows table fun rs => rewriteFirst st.cols sets pre.length (rs.zip sel))) := by
  refine ⟨specUpdate_none_of_selected sdb table sets w st sel hfind hsel bad
    (by rw [hsplit]; simp) hbad, ?_⟩
  obtain ⟨t, schema, ht, hsch, hdec, rfl⟩ := h.find hfind
  obtain ⟨s1, t', _, _, _, _, habs, _, _, _, hres⟩ := evalUpdate_outcome db h.cat table t ht schema hsch hdec sets w hnocol sel
    pre (bad :: post) hsel hset hsplit hpre (.inr ⟨bad, post, rfl, hbad⟩)
  rcases hres with ⟨h0, _⟩ | ⟨e, s2, _, he, hk, _, hc2⟩
  · cases h0
  · exact ⟨e, _, t', he, hk, rfl, hc2, habs sdb h.tabs hvalid _ rfl⟩

/-! ### the state left behind is one of the states `Spec.prefixStates` enumerates -/

theorem rewriteFirst_vals (cols : List FieldDef) (sets : List (Bytes × Sql.VExpr)) :
    ∀ (l : List (Spec.SRow × Bool)) (n : Nat),
      (rewriteFirst cols sets n l).map (·.vals) = Spec.prefixStates.go (specAssign cols sets) l n
  | [], n => by simp [rewriteFirst, Spec.prefixStates.go]
  | (r, s) :: rest, n => by
    simp only [rewriteFirst, Spec.prefixStates.go]
    split
    · simp only [List.map_cons, rewriteFirst_vals cols sets rest (n - 1)]
    · simp only [List.map_cons, rewriteFirst_vals cols sets rest n]

/-- the table after an UPDATE refused at its `(k+1)`-th selected row (`k ≥ 1`) holds the values of
one of the states the spec's `prefixStates` lists for the statement - the states C14 forbids -/
theorem kth_state_in_prefixStates (sdb : Spec.SDB) (table : Bytes) (sets : List (Bytes × Sql.VExpr))
    (w : Option Sql.Cond) (st : Spec.STable) (sel : List Bool) (pre : List (List Val)) (bad : List Val)
    (post : List (List Val)) (hfind : Spec.findTable sdb table = some st) (hsel : Spec.selects st w = some sel)
    (hsplit : selVals st sel = pre ++ bad :: post)
    (hpre : ∀ v ∈ pre, specAssign st.cols sets v ≠ none) (hbad : specAssign st.cols sets bad = none)
    (hne : pre ≠ []) :
    (table, (rewriteFirst st.cols sets pre.length (st.rows.zip sel)).map (·.vals)) ∈
      Spec.prefixStates sdb (.update table sets w) := by
  rw [rewriteFirst_vals]
  simp only [Spec.prefixStates, hfind, hsel]
  rw [List.mem_map]
  have hlen : 0 < pre.length := List.length_pos_iff.mpr hne
  have htw : ((((st.rows.zip sel).filter (·.2)).map (·.1.vals)).takeWhile
      fun v => (specAssign st.cols sets v).isSome) = pre := by
    rw [← selVals_eq, hsplit]
    exact ((cut_first_none_iff (specAssign st.cols sets) _ pre (bad :: post)).mp
      ⟨rfl, hpre, .inr ⟨bad, post, rfl, hbad⟩⟩).1
  refine ⟨pre.length - 1, ?_, ?_⟩
  · rw [List.mem_range]
    -- the goal spells out the local `assign` of `prefixStates`, which is `specAssign` only up to unfolding
    show pre.length - 1 < (List.takeWhile _ _).length
    exact Nat.lt_of_lt_of_eq (by omega) (congrArg List.length htw).symm
  · rw [show pre.length - 1 + 1 = pre.length by omega]
    rfl

end Mkdb.Store
end

section
/-!
## Totality

"No statement can crash the engine": under the abstraction relation the result of `evalInsert`, `evalDelete`, `evalUpdate` is
`.ok _ _` or `.err _ _` - never `.panic`, `.unmodelled` or `.fuel`.

INSERT needs the room conditions `InsRunOK` (fuel of the descents / scans, `int64` frontier) and is then a
case of `evalInsert_outcome`.  DELETE and UPDATE need no room condition, UPDATE (a case of
`evalUpdate_outcome`) no condition on the SET values either.  In the `.err` case the log is the old one.
-/
set_option autoImplicit false
namespace Mkdb.Store
open Mkdb.Page Mkdb.Tuple Mkdb.Generated Mkdb.Tree

/-- a result that is not a crash: `.ok`, or `.err` with the log untouched -/
def Total {α} (db : Engine.DB) (r : Engine.Res α) : Prop :=
  (∃ a db', r = .ok a db') ∨ (∃ e db', r = .err e db' ∧ db'.wal = db.wal)

theorem Total.not_crash {α} {db : Engine.DB} {r : Engine.Res α} (h : Total db r) :
    (∀ p, r ≠ .panic p) ∧ (∀ w, r ≠ .unmodelled w) ∧ r ≠ .fuel := by
  rcases h with ⟨a, db', rfl⟩ | ⟨e, db', rfl, _⟩
  · exact ⟨(fun _ h => by cases h), (fun _ h => by cases h), (fun h => by cases h)⟩
  · exact ⟨(fun _ h => by cases h), (fun _ h => by cases h), (fun h => by cases h)⟩

/-- **INSERT is total.**  Under the abstraction relation, with values a Go program can hold and the
room conditions `InsRunOK` for the table (if the catalog has it; an unknown name must not be one of the
two catalog tables), `evalInsert` returns `.ok` or `.err`. -/
theorem evalInsert_total (db : Engine.DB) (pt sch : Levels) (tbls : List (Bytes × Levels))
    (sdb : Spec.SDB) (h : AbsV db.store pt sch tbls sdb) (table : Bytes) (cols : List Bytes)
    (rows : List (List Val)) (hvalid : ∀ r ∈ rows, ∀ v ∈ r, ValidVal v)
    (hsys : table ∉ tbls.map (·.1) → table ≠ sysPages ∧ table ≠ sysSchema)
    (hrun : ∀ t schema, (table, t) ∈ tbls → schemaOf sch table = some schema →
      InsRunOK schema (cols.map Engine.bytesToName) t db.store.hdr.lastKey db.store.hdr.nextLSN
        db.store.hdr.nextFree rows) :
    Total db (Engine.evalInsert db table cols rows) := by
  obtain ⟨sdb0, habs, _⟩ := h
  cases rows with
  | nil => exact .inl ⟨0, _, rfl⟩
  | cons r rest =>
  by_cases hn : table ∈ tbls.map (·.1)
  · obtain ⟨⟨_, t⟩, ht, rfl⟩ := List.mem_map.mp hn
    obtain ⟨schema, hsch, _, _⟩ := habs.tabs.find habs.cat.tnames ht
    obtain ⟨_, _, _, _, _, _, _, _, _, _, _, _, _, hres⟩ := evalInsert_outcome db pt sch tbls sdb0 habs _ t ht schema hsch
      cols _ hvalid (hrun t schema ht hsch)
    rcases hres with ⟨_, e⟩ | ⟨_, _, _, _, _, _, _, e, _⟩
    · exact .inl ⟨_, _, e⟩
    · exact .inr ⟨_, _, e, rfl⟩
  · obtain ⟨h1, h2⟩ := hsys hn
    obtain ⟨s', e, _, _⟩ := insert_unknown_table db.store pt sch tbls habs.cat table (cols.map Engine.bytesToName) r
      h1 h2 hn
    exact .inr ⟨_, _, evalInsert_first_err db table cols rest e, rfl⟩

theorem evalDelete_total (db : Engine.DB) (pt sch : Levels) (tbls : List (Bytes × Levels))
    (sdb : Spec.SDB) (h : AbsV db.store pt sch tbls sdb) (table : Bytes) (w : Option Sql.Cond)
    (hsys : Spec.findTable sdb table = none → table ≠ sysPages ∧ table ≠ sysSchema) :
    Total db (Engine.evalDelete db table w) := by
  cases hspec : Spec.specDelete sdb table w with
  | some sdb' =>
    obtain ⟨n, db', _, _, _, e, _⟩ := evalDelete_refines_specV db pt sch tbls sdb sdb' h table w hspec
    exact .inl ⟨n, db', e⟩
  | none =>
    obtain ⟨e, db', he, _, _, _, hw, _⟩ := evalDelete_refused_specV db pt sch tbls sdb h table w hsys hspec
    exact .inr ⟨e, db', he, hw⟩

theorem evalUpdate_total (db : Engine.DB) (pt sch : Levels) (tbls : List (Bytes × Levels))
    (sdb : Spec.SDB) (h : AbsV db.store pt sch tbls sdb) (table : Bytes)
    (sets : List (Bytes × Sql.VExpr)) (w : Option Sql.Cond)
    (hsys : table ∉ tbls.map (·.1) → table ≠ sysPages ∧ table ≠ sysSchema) :
    Total db (Engine.evalUpdate db table sets w) := by
  obtain ⟨sdb0, habs, _⟩ := h
  by_cases hcol : ∃ p ∈ sets, ∃ c, p.2 = .col c
  · exact .inr ⟨.unsupported, db, evalUpdate_col db table sets w hcol, rfl⟩
  have hnocol : ∀ p ∈ sets, ∀ c, p.2 ≠ .col c := fun p hp c hpc => hcol ⟨p, hp, c, hpc⟩
  by_cases hn : table ∈ tbls.map (·.1)
  · obtain ⟨⟨_, t⟩, ht, rfl⟩ := List.mem_map.mp hn
    obtain ⟨schema, hsch, hdec, _⟩ := habs.tabs.find habs.cat.tnames ht
    have hearly := evalUpdate_early db habs.cat _ t ht schema hsch hdec sets w hnocol
    cases hset : Engine.checkSetColumns (schema.map fun fd => (⟨[], fd.name.toUTF8.toList⟩ : Exec.Field)) []
        (sets.map (·.1)) with
    | some ec =>
      obtain ⟨e, s1, he, _⟩ := hearly (.inl fun h0 => nomatch hset.symm.trans h0)
      exact .inr ⟨e, _, he, rfl⟩
    | none =>
    cases hsel : Spec.selects (absTable _ schema t) w with
    | none =>
      obtain ⟨e, s1, he, _⟩ := hearly (.inr (.inl hsel))
      exact .inr ⟨e, _, he, rfl⟩
    | some sel =>
      -- the selected rows up to the first that cannot be rewritten; no condition on the SET values
      obtain ⟨pre, tail, hsplit, hpre, htail⟩ := cut_first_none (specAssign schema sets)
        (selVals (absTable _ schema t) sel)
      obtain ⟨_, _, _, _, _, _, _, _, _, _, hres⟩ := evalUpdate_outcome db habs.cat _ t ht schema hsch hdec sets w hnocol sel
        pre tail hsel hset hsplit hpre htail
      rcases hres with ⟨_, e⟩ | ⟨_, _, _, e, _⟩
      · exact .inl ⟨_, _, e⟩
      · exact .inr ⟨_, _, e, rfl⟩
  · obtain ⟨h1, h2⟩ := hsys hn
    obtain ⟨s', e, _, _⟩ := fetchTable_unknown_table habs.cat table h1 h2 hn
    rw [evalUpdate_eq db table sets w hnocol, Engine.fetchForExec, Engine.liftS_err e]
    exact .inr ⟨_, _, rfl, rfl⟩

end Mkdb.Store
end
