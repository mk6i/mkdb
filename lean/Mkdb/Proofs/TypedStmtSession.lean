import Mkdb.Proofs.StmtTextRoundtrip
import Mkdb.Proofs.TypedStmtText
/-!
From keystrokes to the parsed statement (C20 and C10 composed), second part: a rendered statement has no `;`
token (`noSemi_renderStmt`); `Typed`, one statement as it is typed at the console, and the session - a list of
them is submitted and parsed one by one, in order (`typed_session`); the concrete session of the examples in
`Props/C20Parse.lean`.
-/

section
/-!
## A rendered statement has no `;` token

`noSemi_renderStmt`: no token of `renderStmt o s` has the type SEMICOLON, for a well-formed statement
`s` (`WFStmt`: the operator of a comparison is one of the six comparison operators - a `Pred` value
could carry any token type as its operator) written with the standard literal tokens.  So the only
`;` outside quotes in the text of `s` closed by one semicolon is its last character.

An instance of the walk `all_renderStmt` (`Proofs/RenderAll`): names and literals need no test, a
comparison operator has to be one of `compOps`, which is all that is used of `WFStmt` (`stmtAll_of_wf`).
-/
namespace Mkdb.Sql
open Mkdb.Scan Mkdb.Generated

def notSemi (t : Token) : Bool := t.ty != t_SEMICOLON

theorem ns_lit (l : Lit) : notSemi (stdLitTok l) = true := by
  cases l with
  | int i => show (t_INT != t_SEMICOLON) = true; decide
  | str b => show (t_STR != t_SEMICOLON) = true; decide
  | bool b => cases b <;> decide

theorem renderKws_ne : ∀ x ∈ renderKws ++ compOps, (x != t_SEMICOLON) = true := by decide

theorem tokP_notSemi (o : ROpts) (ho : o.lit = stdLitTok) :
    TokP o notSemi (fun _ => true) (fun _ => true) (compOps.contains ·) where
  kw x hx := renderKws_ne x (List.mem_append_left _ (by simpa using hx))
  id _ _ := by show (t_IDENT != t_SEMICOLON) = true; decide
  lit l _ := ho ▸ ns_lit l
  op x hx := renderKws_ne x (List.mem_append_right _ (by simpa using hx))
  int _ := ho ▸ ns_lit _
  dbs _ _ := by show (t_IDENT != t_SEMICOLON) = true; decide

/-! ## What `WFStmt` says about the comparison operators -/

section
variable (ok : Lit → Bool)

theorem colAll_true (c : ColRef) : colAll (fun _ => true) c = true := by
  simp only [colAll, optIdAll, Bool.or_true, Bool.and_self]

theorem veAll_true (v : VExpr) : veAll (fun _ => true) (fun _ => true) v = true := by
  cases v with
  | lit l => rfl
  | col c => exact colAll_true c

theorem tnAll_true (t : TableName) : tnAll (fun _ => true) t = true := by
  obtain ⟨n, a⟩ := t
  cases a <;> rfl

theorem predAll_of_wf (p : Pred) (h : wfPred ok p = true) :
    predAll (fun _ => true) (fun _ => true) (compOps.contains ·) p = true := by
  simp only [wfPred, Bool.and_eq_true] at h
  simp only [predAll, h.1.1, veAll_true, Bool.and_self]

theorem condAll_of_wfAnd (c : Cond) (h : wfAnd ok c = true) : condAll (fun _ => true) (fun _ => true) (compOps.contains ·) c = true := by
  induction c with
  | val v => exact veAll_true v
  | pred p => exact predAll_of_wf ok p h
  | and p r ih =>
    simp only [wfAnd, Bool.and_eq_true] at h
    simp only [condAll, Bool.and_eq_true]
    exact ⟨predAll_of_wf ok p h.1, ih h.2⟩
  | or l r _ _ => simp [wfAnd] at h

theorem condAll_of_wf (c : Cond) (h : wfCond ok c = true) : condAll (fun _ => true) (fun _ => true) (compOps.contains ·) c = true := by
  induction c with
  | or l r _ ihr =>
    simp only [wfCond, Bool.and_eq_true] at h
    simp only [condAll, Bool.and_eq_true]
    exact ⟨condAll_of_wfAnd ok l h.1, ihr h.2⟩
  | val v => exact condAll_of_wfAnd ok (.val v) h
  | pred p => exact condAll_of_wfAnd ok (.pred p) h
  | and p r _ => exact condAll_of_wfAnd ok (.and p r) h

theorem optCondAll_of_wf (w : Option Cond) (h : wfOptCond ok w = true) :
    optCondAll (fun _ => true) (fun _ => true) (compOps.contains ·) w = true := by
  cases w with
  | none => rfl
  | some c => exact condAll_of_wf ok c h

/-- `*` needs nothing, a set function has only a column, a condition is well formed -/
theorem dcAll_of_wf (d : DerivedCol) (h : d.item = .star ∨ wfItem ok d.item = true) :
    dcAll (fun _ => true) (fun _ => true) (compOps.contains ·) d = true := by
  have hi : itemAll (fun _ => true) (fun _ => true) (compOps.contains ·) d.item = true := by
    cases hd : d.item with
    | expr c =>
      rw [hd] at h
      exact condAll_of_wf ok c (h.resolve_left nofun)
    | count c => cases c with
      | none => rfl
      | some c => exact colAll_true c
    | avg c => exact colAll_true c
    | star => rfl
  simp only [dcAll, hi, optIdAll, Bool.or_true, Bool.and_self]

theorem selectAll_of_wf (s : Select) (h : wfSelect ok s = true) :
    selectAll (fun _ => true) (fun _ => true) (compOps.contains ·) s = true := by
  simp only [wfSelect, Bool.and_eq_true] at h
  obtain ⟨⟨⟨hl, -⟩, -⟩, hf⟩ := h
  simp only [wfSelList, Bool.or_eq_true, decide_eq_true_eq, Bool.and_eq_true, List.all_eq_true] at hl
  have hlist : s.list.all (dcAll (fun _ => true) (fun _ => true) (compOps.contains ·)) = true :=
    List.all_eq_true.mpr fun d hd => dcAll_of_wf ok d <| hl.elim
      (fun e => .inl (by rw [e] at hd; rw [List.mem_singleton.mp hd])) (fun e => .inr (e.2 d hd))
  have hgb : s.groupBy.all (colAll fun _ => true) = true := List.all_eq_true.mpr fun c _ => colAll_true c
  have hob : s.orderBy.all (fun k => colAll (fun _ => true) k.key) = true :=
    List.all_eq_true.mpr fun k _ => colAll_true k.key
  simp only [selectAll, hlist, hgb, hob, Bool.and_true, Bool.true_and, Bool.and_eq_true]
  cases hfr : s.from_ with
  | none =>
    rw [hfr] at hf
    simp only [Bool.and_eq_true, Option.isNone_iff_eq_none] at hf
    rw [hf.1.1.1.1]
    exact ⟨rfl, rfl⟩
  | some tr =>
    rw [hfr] at hf
    simp only [Bool.and_eq_true, List.all_eq_true] at hf
    exact ⟨(trAll_parts tr).mpr ⟨tnAll_true _, fun j hj => ⟨tnAll_true _, condAll_of_wf ok _ (hf.1 j hj)⟩⟩,
      optCondAll_of_wf ok _ hf.2⟩

theorem stmtAll_of_wf (s : Stmt) (h : wfStmt ok s = true) :
    stmtAll (fun _ => true) (fun _ => true) (compOps.contains ·) s = true := by
  cases s with
  | select s => exact selectAll_of_wf ok s h
  | update t sets w =>
    simp only [wfStmt, Bool.and_eq_true] at h
    simp only [stmtAll, veAll_true, optCondAll_of_wf ok w h.2, Bool.and_eq_true, List.all_eq_true, implies_true, and_self]
  | delete t w => simp only [stmtAll, optCondAll_of_wf ok w h, Bool.and_self]
  | createTable n cols => simp only [stmtAll, optIdAll, Bool.or_true, Bool.and_eq_true, List.all_eq_true, implies_true, and_self]
  | insert t cols rows => simp only [stmtAll, Bool.and_eq_true, List.all_eq_true, implies_true, and_self]
  | _ => rfl

end

theorem noSemi_renderStmt (o : ROpts) (ho : o.lit = stdLitTok) (ok : Lit → Bool) (s : Stmt) (h : wfStmt ok s = true) :
    (renderStmt o s).all notSemi = true :=
  all_renderStmt (tokP_notSemi o ho) s (stmtAll_of_wf ok s h)

end Mkdb.Sql
end

section
/-!
## A typed statement, and the session

`Typed`: one statement as the user writes it at the console - the statement, the optional spellings,
the keyword cases, the gaps of blanks between its tokens, one closing `;`, and the blanks typed behind
it; `Typed.OK`: what is asked of it.  A list of them typed in any of the ways `C20_submit` allows is
submitted and parsed one by one, in order (`typed_session`): the text of each is a well-formed console
statement (C20 applies) and, handed to the engine, parses to the statement (`parseSQL_renderStmt`).
-/
namespace Mkdb.Console
open Mkdb.Scan Mkdb.Generated Mkdb.Sql

/-- One statement as it is typed at the console. -/
structure Typed where
  stmt : Stmt
  /-- the optional spellings (`AS`, `INNER`, `ASC`, ...) -/
  opts : ROpts := {}
  /-- the letter case of the i-th token when it is a keyword -/
  cases : Nat → List Bool := fun _ => []
  /-- what stands before the i-th token: blanks (each typed with the space bar or with Enter) -/
  gap : Nat → Gap
  /-- the blanks typed behind the closing `;` (space bar or Enter), before the next statement -/
  after : List Nat := []

/-- the tokens of the statement and its one closing semicolon -/
def Typed.toks (t : Typed) : List Token := renderStmt t.opts t.stmt ++ closing t.opts 1 false

/-- the SQL text of the statement: what the engine is to receive -/
def Typed.text (t : Typed) : Input := renderText t.gap t.cases t.toks

/-- the text as key codes (a line break typed with Enter stands as the blank the console makes of it) -/
def Typed.keys (t : Typed) : List Nat := keysOfRunes t.text

/-- What is asked of a typed statement: the hypotheses of `C10_text_roundtrip` (standard literal tokens, a
statement the grammar can express, names and strings writable in plain SQL text, an admissible layout)
with gaps made of blanks only - no comments: the console does not understand them -, no blank before the
first token or behind the `;` (such blanks are `after` of this or the previous statement), and exactly one
closing `;` (`Typed.toks`; `closingOK` holds of one semicolon behind every statement). -/
structure Typed.OK (t : Typed) : Prop where
  lit : t.opts.lit = stdLitTok
  wf : Sql.WFStmt t.stmt
  textOK : TextOK t.stmt
  blank : ∀ i, blankGap (t.gap i) = true
  first : t.gap 0 = []
  last : t.gap t.toks.length = []
  layout : layoutOK t.gap t.cases 0 t.toks = true
  after : Blank t.after

theorem closing_one (o : ROpts) : closing o 1 false = [⟨t_SEMICOLON, o.kw t_SEMICOLON⟩] := rfl

theorem closingOK_one (s : Stmt) : closingOK s 1 false = true := by
  simp [closingOK]

theorem typed_wf (t : Typed) (h : t.OK) : Console.WFStmt t.keys := by
  have hlen : t.toks.length = (renderStmt t.opts t.stmt).length + 1 := by
    simp [Typed.toks, closing_one]
  have hns := noSemi_renderStmt t.opts h.lit stdLit t.stmt h.wf
  have hok := renderStmt_tokOK t.opts h.lit t.stmt h.textOK 0
  have hlast := h.last
  rw [hlen] at hlast
  unfold Typed.keys Typed.text Typed.toks
  rw [closing_one]
  refine wfStmt_renderText t.gap t.cases _ _ h.blank h.first hlast ?_
  intro x hx
  refine ⟨hok x (List.mem_append.mpr (Or.inl hx)), ?_⟩
  have := List.all_eq_true.mp hns x hx
  simpa [notSemi] using this

theorem typed_runes (t : Typed) (h : t.OK) : runesOfKeys t.keys = t.text := by
  refine runesOfKeys_keysOfRunes _ ?_
  exact renderItems_ascii t.gap t.cases h.blank t.toks (renderStmt_tokOK t.opts h.lit t.stmt h.textOK 1)
    (t.gap t.toks.length) (h.blank _) 0

theorem typed_parse (t : Typed) (h : t.OK) : parseSQL (runesOfKeys t.keys) = .ok t.stmt := by
  rw [typed_runes t h]
  exact parseSQL_renderStmt t.opts h.lit t.stmt h.wf h.textOK 1 (closingOK_one _) t.gap t.cases h.layout

theorem typed_session (keys : List Nat) (w0 : List Nat) (ts : List Typed)
    (hvalid : ∀ k ∈ keys, k = 13 ∨ (isPrintable k = true ∧ k ≠ 13))
    (hlast : keys.getLast? = some 13)
    (hw0 : Blank w0) (hts : ∀ t ∈ ts, t.OK)
    (htext : keys.map (fun k => if k = 13 then 32 else k) = w0 ++ ts.flatMap (fun t => t.keys ++ t.after)) :
    (run {} keys).flatten = ts.map (·.keys) ∧
    (run {} keys).flatten.map (fun sub => parseSQL (runesOfKeys sub)) = ts.map (fun t => Outcome.ok t.stmt) := by
  have hsub : (run {} keys).flatten = ts.map (·.keys) := by
    have := submit_exact keys w0 (ts.map fun t => (t.keys, t.after)) hvalid hlast hw0 ?_ ?_
    · rw [this, List.map_map]; rfl
    · intro p hp
      obtain ⟨t, ht, rfl⟩ := List.mem_map.mp hp
      exact ⟨typed_wf t (hts t ht), (hts t ht).after⟩
    · rw [htext, List.flatMap_map]
  refine ⟨hsub, ?_⟩
  rw [hsub, List.map_map]
  apply List.map_congr_left
  intro t ht
  exact typed_parse t (hts t ht)

/-- gaps given as a list of gaps of blanks -/
theorem blankGap_getD (l : List Gap) (h : l.all blankGap = true) (i : Nat) : blankGap (l.getD i []) = true := by
  rw [List.getD_eq_getElem?_getD]
  cases hi : l[i]? with
  | none => rfl
  | some g => exact List.all_eq_true.mp h g (List.mem_of_getElem? hi)

end Mkdb.Console
end

section
/-!
## The concrete session of the examples in `Props/C20Parse.lean`

Two statements typed in one entry: `insert INTO t VALUES ('a; b');` - a `;` and a blank inside the
string literal - and, behind it on the same line, a SELECT that goes on over two more lines:

    ␣insert INTO t VALUES ('a; b'); select a⏎
    ␣from t⏎
    where a = 1;⏎
-/
namespace Mkdb.Console.TypedEx
open Mkdb.Scan Mkdb.Generated Mkdb.Sql Mkdb.Console

/-- `insert INTO t VALUES ('a; b');` and one blank behind it -/
def exIns : Typed where
  stmt := .insert [116] [] [[.str [97, 59, 32, 98]]]
  cases := fun i => if i == 0 then [true, true, true, true, true, true] else []
  gap := fun i => [[], [.ws 32], [.ws 32], [.ws 32], [.ws 32], [], [], [], []].getD i []
  after := [32]

/-- `select a  from t where a = 1;`: the two blanks before `from` are typed as Enter and a blank, the
blank before `where` as Enter; the final Enter stands as the blank behind the `;` -/
def exSel : Typed where
  stmt := .select {
    list := [⟨.expr (.val (.col ⟨[], [97]⟩)), []⟩],
    from_ := some (.table ⟨[116], none⟩),
    where_ := some (.pred ⟨.col ⟨[], [97]⟩, t_EQ, .lit (.int 1)⟩) }
  cases := fun _ => [true, true, true, true, true, true]
  gap := fun i => [[], [.ws 32], [.ws 32, .ws 32], [.ws 32], [.ws 32], [.ws 32], [.ws 32], [.ws 32], [], []].getD i []
  after := [32]

def exKeys : List Nat :=
  [32] ++ strCodes "insert INTO t VALUES ('a; b'); select a" ++ [13, 32] ++ strCodes "from t" ++ [13] ++
    strCodes "where a = 1;" ++ [13]

theorem exIns_ok : exIns.OK where
  lit := rfl
  wf := by decide +kernel
  textOK := by decide +kernel
  blank := fun i => blankGap_getD _ (by decide) i
  first := rfl
  last := rfl
  layout := by decide +kernel
  after := (blank_iff_all _).mp (by decide)

theorem exSel_ok : exSel.OK where
  lit := rfl
  wf := by decide +kernel
  textOK := by decide +kernel
  blank := fun i => blankGap_getD _ (by decide) i
  first := rfl
  last := rfl
  layout := by decide +kernel
  after := (blank_iff_all _).mp (by decide)

theorem exBoth_ok : ∀ t ∈ [exIns, exSel], t.OK := by
  intro t ht
  simp only [List.mem_cons, List.not_mem_nil, or_false] at ht
  rcases ht with rfl | rfl
  · exact exIns_ok
  · exact exSel_ok

theorem exKeys_valid : ∀ k ∈ exKeys, k = 13 ∨ (isPrintable k = true ∧ k ≠ 13) := by decide +kernel

theorem exKeys_text : exKeys.map (fun k => if k = 13 then 32 else k) =
    [32] ++ [exIns, exSel].flatMap (fun t => t.keys ++ t.after) := by decide +kernel

/-- the same entry with the blank INSIDE the literal typed as Enter: the console makes a blank of it -/
def exKeysBreakInLiteral : List Nat :=
  [32] ++ strCodes "insert INTO t VALUES ('a;" ++ [13] ++ strCodes "b'); select a" ++ [13, 32] ++ strCodes "from t" ++ [13] ++
    strCodes "where a = 1;" ++ [13]

theorem exKeysBreakInLiteral_valid : ∀ k ∈ exKeysBreakInLiteral, k = 13 ∨ (isPrintable k = true ∧ k ≠ 13) := by decide +kernel

theorem exKeysBreakInLiteral_text : exKeysBreakInLiteral.map (fun k => if k = 13 then 32 else k) =
    [32] ++ [exIns, exSel].flatMap (fun t => t.keys ++ t.after) := by decide +kernel

end Mkdb.Console.TypedEx
end
