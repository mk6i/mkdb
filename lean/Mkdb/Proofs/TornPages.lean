import Mkdb.Proofs.CatalogInv
import Mkdb.Proofs.RefineCellWrite
import Mkdb.Proofs.RedoLink
/-!
The leaf pages of the user tables as a function of the page offset.

While no page is allocated (no split, no root move) the shape of every tree - internal nodes, number
and offsets of the leaves, sibling links, the catalog - is frozen and only the *contents* of leaf
pages change.  A catalog description is then a frozen skeleton `D0` filled with the current leaf
pages: `fillT c D0`, where `c : Nat → Leaf × Bool` gives the page object (and dirty bit) at an offset;
a statement changes `c` at one offset (`updLeaves_fill`, `insertAppend_fill`), and every description
is its own skeleton filled with its own pages (`fillT_pageOf`).  `Skel D0`: what the arguments need of a
skeleton; over one, a change of the page at a leaf offset changes the tree of one table only
(`setTable_fill_setAt`).  The tree invariant only looks at the skeleton of the leaves - offsets, sibling
links, key lists (`inv_of_skel`).
-/
set_option autoImplicit false
namespace Mkdb.Store
open Mkdb.Page Mkdb.Tuple Mkdb.Generated Mkdb.Tree Mkdb.Engine

/-- leaf page objects (with dirty bit) by page offset -/
abbrev Pages := Nat → Leaf × Bool

def setAt (c : Pages) (o : Nat) (q : Leaf × Bool) : Pages := fun x => if x = o then q else c x

theorem setAt_same (c : Pages) (o : Nat) (q : Leaf × Bool) : setAt c o q o = q := by simp [setAt]
theorem setAt_other (c : Pages) (o : Nat) (q : Leaf × Bool) {x : Nat} (h : x ≠ o) : setAt c o q x = c x := by
  simp [setAt, h]

/-- the tree `t` with every leaf replaced by the page at its offset -/
def fill (c : Pages) (t : Levels) : Levels :=
  { leaves := t.leaves.map (fun p => c p.1.off), inner := t.inner }

def fillT (c : Pages) (tbls : List (Bytes × Levels)) : List (Bytes × Levels) :=
  tbls.map fun e => (e.1, fill c e.2)

/-- the offsets of the leaves of `t`, left to right -/
def leafOffs (t : Levels) : List Nat := t.leaves.map (·.1.off)

/-- `c` has, at the offset of every leaf of `t`, a leaf that carries that offset -/
def PFiled (c : Pages) (t : Levels) : Prop := ∀ p ∈ t.leaves, (c p.1.off).1.off = p.1.off

theorem fill_inner (c : Pages) (t : Levels) : (fill c t).inner = t.inner := rfl
theorem fill_leaves (c : Pages) (t : Levels) : (fill c t).leaves = t.leaves.map (fun p => c p.1.off) := rfl

theorem fill_leaves_length (c : Pages) (t : Levels) : (fill c t).leaves.length = t.leaves.length := by
  simp [fill]

theorem mem_leafOffs {t : Levels} {p : Leaf × Bool} (hp : p ∈ t.leaves) : p.1.off ∈ leafOffs t :=
  List.mem_map.mpr ⟨p, hp, rfl⟩

theorem leafOffs_sub_offs {t : Levels} {o : Nat} (h : o ∈ leafOffs t) : o ∈ offs t := by
  rw [offs_eq]; exact List.mem_append_left _ h

theorem leafOffs_fill {c : Pages} {t : Levels} (h : PFiled c t) : leafOffs (fill c t) = leafOffs t := by
  unfold leafOffs
  rw [fill_leaves, List.map_map]
  apply List.map_congr_left
  intro p hp
  exact h p hp

theorem offs_fill {c : Pages} {t : Levels} (h : PFiled c t) : offs (fill c t) = offs t := by
  rw [offs_eq, offs_eq]
  show leafOffs (fill c t) ++ _ = leafOffs t ++ _
  rw [leafOffs_fill h]
  rfl

theorem rootOff_fill {c : Pages} {t : Levels} (h : PFiled c t) : rootOff (fill c t) = rootOff t := by
  unfold rootOff
  rw [fill_inner]
  cases t.inner.getLast? with
  | some lvl => rfl
  | none =>
    simp only
    rw [fill_leaves]
    cases hl : t.leaves with
    | nil => rfl
    | cons p rest =>
      simp only [List.map_cons, List.head?_cons, Option.map_some, Option.getD_some]
      exact h p (by rw [hl]; exact List.mem_cons_self)

theorem fill_congr {c c' : Pages} {t : Levels} (h : ∀ o ∈ leafOffs t, c o = c' o) : fill c t = fill c' t := by
  unfold fill
  congr 1
  apply List.map_congr_left
  intro p hp
  exact h _ (mem_leafOffs hp)

theorem fill_setAt_other {c : Pages} {t : Levels} {o : Nat} {q : Leaf × Bool} (h : o ∉ leafOffs t) :
    fill (setAt c o q) t = fill c t :=
  fill_congr fun _ hx => setAt_other c o q (fun e => h (e ▸ hx))

theorem PFiled.off {c : Pages} {t : Levels} (h : PFiled c t) {o : Nat} (ho : o ∈ leafOffs t) {l : Leaf} {d : Bool}
    (hc : c o = (l, d)) : l.off = o := by
  obtain ⟨p, hp, rfl⟩ := List.mem_map.mp ho
  have := h p hp
  rw [hc] at this
  exact this

theorem PFiled.setAt {c : Pages} {t : Levels} (h : PFiled c t) {o : Nat} {q : Leaf × Bool} (hq : q.1.off = o) :
    PFiled (setAt c o q) t := by
  intro p hp
  by_cases e : p.1.off = o
  · rw [e, setAt_same]; exact hq
  · rw [setAt_other c o q e]; exact h p hp

theorem fill_fill {c c' : Pages} {t : Levels} (h : PFiled c' t) : fill c (fill c' t) = fill c t := by
  unfold fill
  simp only [List.map_map]
  congr 1
  apply List.map_congr_left
  intro p hp
  simp only [Function.comp]
  rw [h p hp]

theorem mem_fill_leaves {c : Pages} {t : Levels} {q : Leaf × Bool} (h : q ∈ (fill c t).leaves) :
    ∃ o ∈ leafOffs t, q = c o := by
  rw [fill_leaves] at h
  obtain ⟨p, hp, rfl⟩ := List.mem_map.mp h
  exact ⟨_, mem_leafOffs hp, rfl⟩

theorem fill_leaf_mem {c : Pages} {t : Levels} {o : Nat} (h : o ∈ leafOffs t) : c o ∈ (fill c t).leaves := by
  obtain ⟨p, hp, rfl⟩ := List.mem_map.mp h
  rw [fill_leaves]
  exact List.mem_map.mpr ⟨p, hp, rfl⟩

theorem flatten_fill_leaf {c : Pages} {t : Levels} {o : Nat} (ho : o ∈ leafOffs t) :
    ((c o).1.off, Node.leaf (c o).1, (c o).2) ∈ flatten (fill c t) :=
  mem_flatten.mpr (.inl ⟨c o, fill_leaf_mem ho, rfl⟩)

theorem flatten_fill_int {c : Pages} {t : Levels} {lvl : List (Internal × Bool)} (hlv : lvl ∈ t.inner)
    {p : Internal × Bool} (hp : p ∈ lvl) : (p.1.off, Node.internal p.1, p.2) ∈ flatten (fill c t) :=
  mem_flatten.mpr (.inr ⟨lvl, hlv, p, hp, rfl⟩)

theorem mem_flatten_fill {c : Pages} {t : Levels} {e : Nat × Node × Bool} (he : e ∈ flatten (fill c t)) :
    (∃ o ∈ leafOffs t, e = ((c o).1.off, Node.leaf (c o).1, (c o).2)) ∨
      ∃ lvl ∈ t.inner, ∃ p ∈ lvl, e = (p.1.off, Node.internal p.1, p.2) := by
  rcases mem_flatten.mp he with ⟨p, hp, rfl⟩ | h
  · obtain ⟨o, ho, rfl⟩ := mem_fill_leaves hp
    exact .inl ⟨o, ho, rfl⟩
  · exact .inr h

theorem fill_leaf_lsn {c : Pages} {t : Levels} {o : Nat} (ho : o ∈ leafOffs t) {l : Leaf} {d : Bool}
    (hc : c o = (l, d)) {lsn : Nat} (hlsn : ∀ x ∈ flatten (fill c t), nodeLSN x.2.1 < lsn) : l.lsn < lsn := by
  have hm := flatten_fill_leaf (c := c) ho
  rw [hc] at hm
  exact hlsn _ hm

/-! ### a cell change in one leaf -/

theorem other_leaf_no_key {t : Levels} (hasc : KeysAsc t) {l : Leaf} {d : Bool} (hm : (l, d) ∈ t.leaves)
    {key : Nat} (hany : l.cells.any (fun c => c.key == key) = true) {p : Leaf × Bool} (hp : p ∈ t.leaves)
    (hne : p ≠ (l, d)) : p.1.cells.any (fun c => c.key == key) = false := by
  obtain ⟨A, B, hlv⟩ := List.append_of_mem hm
  apply key_unique hasc hlv hany
  rw [hlv] at hp
  rcases List.mem_append.mp hp with h | h
  · exact List.mem_append_left _ h
  · rcases List.mem_cons.mp h with h | h
    · exact absurd h hne
    · exact List.mem_append_right _ h

/-- **A cell change on a filled tree is the change of one page**: the page at `o` holds the key; under
the key order of the filled tree no other page does. -/
theorem updLeaves_fill (f : LeafCell → LeafCell) (key lsn : Nat) {c : Pages} {t : Levels}
    (hf : PFiled c t) (hasc : KeysAsc (fill c t)) {o : Nat} (ho : o ∈ leafOffs t) {l : Leaf} {d : Bool}
    (hc : c o = (l, d)) (hany : l.cells.any (fun c => c.key == key) = true) :
    updLeaves f key lsn (fill c t) = fill (setAt c o (RedoLink.cellLeaf f lsn key l, true)) t := by
  have hm : (l, d) ∈ (fill c t).leaves := hc ▸ fill_leaf_mem ho
  have hlo : l.off = o := hf.off ho hc
  unfold updLeaves
  unfold fill
  simp only [List.map_map]
  congr 1
  apply List.map_congr_left
  intro p hp
  simp only [Function.comp]
  by_cases e : p.1.off = o
  · rw [e, setAt_same, hc]
    unfold updLeaf
    simp only [hany, if_true]
    rfl
  · rw [setAt_other _ _ _ e]
    apply updLeaf_of_absent
    apply other_leaf_no_key hasc hm hany (fill_leaf_mem (mem_leafOffs hp))
    intro heq
    have := hf p hp
    rw [heq] at this
    exact e (this.symm.trans hlo)

/-! ### an insert that does not split -/

theorem insertAppend_nosplit {t : Levels} {pre : List (Leaf × Bool)} {last : Leaf} {d : Bool} {key lsn nf : Nat}
    {v : Bytes} (hl : t.leaves = pre ++ [(last, d)])
    (hfresh : ∀ x ∈ cells t, x.key ≠ key) (hlast : ∀ x ∈ last.cells, x.key < key)
    (hv : v.length ≤ c_maxValueSize) (hcap : (leafApp last key lsn v).cells.length < c_maxLeafNodeCells) :
    insertAppend t key lsn v nf = .ok ({ t with leaves := pre ++ [(leafApp last key lsn v, true)] }, nf) := by
  have hgl : t.leaves.getLast? = some (last, d) := by rw [hl]; simp
  have hany : (cells t).any (fun c => c.key == key) = false := by
    rw [List.any_eq_false]
    intro x hx hk
    exact hfresh x hx (by simpa using hk)
  have hna : ((last.cells.getLast?.map (·.key)).getD 0 ≥ key && !last.cells.isEmpty) = false := by
    cases hc : last.cells.getLast? with
    | none =>
      have : last.cells = [] := List.getLast?_eq_none_iff.mp hc
      simp [this]
    | some x =>
      have hx : x ∈ last.cells := List.mem_of_getLast? hc
      have := hlast x hx
      simp only [Option.map_some, Option.getD_some, Bool.and_eq_false_imp, decide_eq_true_eq]
      intro h
      omega
  have hv' : ¬ v.length > c_maxValueSize := by omega
  unfold insertAppend
  rw [hgl]
  simp only [hany, Bool.false_eq_true, if_false, hv', hna]
  have hcap' : (last.cells ++ [(⟨key, false, v⟩ : LeafCell)]).length < c_maxLeafNodeCells := hcap
  simp only [hcap', if_true]
  rw [hl, setLast_append]
  rfl

theorem fill_setAt_last {c : Pages} {t : Levels} {pre : List (Leaf × Bool)} {p0 : Leaf × Bool}
    (hl : t.leaves = pre ++ [p0]) (hnd : (leafOffs t).Nodup) (q : Leaf × Bool) :
    fill (setAt c p0.1.off q) t =
      { leaves := pre.map (fun p => c p.1.off) ++ [q], inner := t.inner } := by
  unfold fill
  congr 1
  rw [hl, List.map_append, List.map_cons, List.map_nil, setAt_same]
  congr 1
  apply List.map_congr_left
  intro p hp
  apply setAt_other
  intro e
  unfold leafOffs at hnd
  rw [hl, List.map_append, List.nodup_append] at hnd
  exact hnd.2.2 _ (List.mem_map.mpr ⟨p, hp, rfl⟩) _ (List.mem_map.mpr ⟨p0, by simp, rfl⟩) e

theorem insertAppend_fill {c : Pages} {t : Levels} {pre : List (Leaf × Bool)} {p0 : Leaf × Bool}
    (hl : t.leaves = pre ++ [p0]) (hnd : (leafOffs t).Nodup) {l : Leaf} {d : Bool} (hc : c p0.1.off = (l, d))
    {key lsn nf : Nat} {v : Bytes}
    (hfresh : ∀ x ∈ cells (fill c t), x.key ≠ key) (hlast : ∀ x ∈ l.cells, x.key < key)
    (hv : v.length ≤ c_maxValueSize) (hcap : (leafApp l key lsn v).cells.length < c_maxLeafNodeCells) :
    insertAppend (fill c t) key lsn v nf = .ok (fill (setAt c p0.1.off (leafApp l key lsn v, true)) t, nf) := by
  have hfl : (fill c t).leaves = pre.map (fun p => c p.1.off) ++ [(l, d)] := by
    rw [fill_leaves, hl, List.map_append, List.map_cons, List.map_nil, hc]
  rw [insertAppend_nosplit hfl hfresh hlast hv hcap, fill_setAt_last hl hnd]
  rfl

/-- the converse: a successful `insertAppend` on a filled tree that allocated nothing -/
theorem insertAppend_fill_inv {c : Pages} {t : Levels} (hnd : (leafOffs t).Nodup) {key lsn nf : Nat} {v : Bytes}
    {t' : Levels} (h : insertAppend (fill c t) key lsn v nf = .ok (t', nf)) :
    ∃ pre p0 l d, t.leaves = pre ++ [p0] ∧ c p0.1.off = (l, d) ∧
      v.length ≤ c_maxValueSize ∧
      (leafApp l key lsn v).cells.length < c_maxLeafNodeCells ∧
      t' = fill (setAt c p0.1.off (leafApp l key lsn v, true)) t := by
  obtain ⟨pre', last, d, hpre, _, hv, hcase⟩ := insertAppend_inv_cases h
  have hne : t.leaves ≠ [] := by
    intro h0
    rw [fill_leaves, h0] at hpre
    simp at hpre
  obtain ⟨pre, p0, hl⟩ : ∃ pre p0, t.leaves = pre ++ [p0] := by
    rcases eq_nil_or_snoc t.leaves with h0 | h1
    · exact absurd h0 hne
    · exact h1
  have hfl : (fill c t).leaves = pre.map (fun p => c p.1.off) ++ [c p0.1.off] := by
    rw [fill_leaves, hl, List.map_append, List.map_cons, List.map_nil]
  rw [hfl] at hpre
  have hlast := List.append_inj' hpre (by simp)
  have hc : c p0.1.off = (last, d) := by
    have := hlast.2
    simpa using this
  rcases hcase with ⟨hcap, ht', _⟩ | ⟨_, _, hnf⟩
  · refine ⟨pre, p0, last, d, hl, hc, hv, hcap, ?_⟩
    rw [ht', fill_setAt_last hl hnd, ← hlast.1]
    rfl
  · exfalso
    have := (bubble_offs (by decide) lsn (fill c t).inner
      (((leafR (leafApp last key lsn v) lsn nf).cells.head?.map (·.key)).getD 0)
      last.off nf (nf + c_pageSize)).1
    have hps : 0 < c_pageSize := by decide
    omega

/-! ### the table list -/

theorem fillT_names (c : Pages) (tbls : List (Bytes × Levels)) : (fillT c tbls).map (·.1) = tbls.map (·.1) := by
  unfold fillT
  rw [List.map_map]
  rfl

theorem mem_fillT {c : Pages} {tbls : List (Bytes × Levels)} {e : Bytes × Levels} (he : e ∈ tbls) :
    (e.1, fill c e.2) ∈ fillT c tbls := List.mem_map.mpr ⟨e, he, rfl⟩

theorem mem_fillT_inv {c : Pages} {tbls : List (Bytes × Levels)} {x : Bytes × Levels} (hx : x ∈ fillT c tbls) :
    ∃ e ∈ tbls, x = (e.1, fill c e.2) := by
  obtain ⟨e, he, rfl⟩ := List.mem_map.mp hx
  exact ⟨e, he, rfl⟩

theorem catTrees_offs_fillT {pt sch : Levels} {D0 : List (Bytes × Levels)} {c : Pages}
    (hf : ∀ e ∈ D0, PFiled c e.2) :
    (catTrees pt sch (fillT c D0)).map offs = offs pt :: offs sch :: D0.map (fun e => offs e.2) := by
  unfold catTrees fillT
  simp only [List.map_cons, List.map_map]
  congr 2
  apply List.map_congr_left
  intro e he
  exact offs_fill (hf e he)

theorem setTable_fillT {c c' : Pages} {tbls : List (Bytes × Levels)} {table : Bytes} {t0 : Levels}
    (ht : (table, t0) ∈ tbls) (hnd : (tbls.map (·.1)).Nodup)
    (hag : ∀ e ∈ tbls, e.1 ≠ table → ∀ o ∈ leafOffs e.2, c' o = c o) :
    setTable (fillT c tbls) table (fill c' t0) = fillT c' tbls := by
  unfold setTable fillT
  rw [List.map_map]
  apply List.map_congr_left
  intro e he
  simp only [Function.comp]
  by_cases hn : e.1 = table
  · have : e = (table, t0) := inj_of_nodup_map (·.1) tbls hnd e he (table, t0) ht hn
    subst this
    simp
  · simp only [hn, if_false]
    rw [fill_congr (hag e he hn)]

theorem skel_unique {D0 : List (Bytes × Levels)}
    (hdis : D0.Pairwise (fun a b => ∀ o ∈ offs a.2, o ∉ offs b.2)) {e e' : Bytes × Levels}
    (he : e ∈ D0) (he' : e' ∈ D0) {o : Nat} (ho : o ∈ leafOffs e.2) (ho' : o ∈ leafOffs e'.2) : e = e' := by
  by_cases h : e = e'
  · exact h
  · exact absurd (leafOffs_sub_offs ho') (pairwise_mem_ne (fun (a b : Bytes × Levels) => ∀ o ∈ offs a.2, o ∉ offs b.2)
      (fun a b hab o hb ha => hab o ha hb) D0 hdis e he e' he' h o (leafOffs_sub_offs ho))

/-- what makes a table list a skeleton: distinct names, trees on disjoint pages, distinct leaf offsets, roots
not at offset 0 -/
structure Skel (D0 : List (Bytes × Levels)) : Prop where
  names : (D0.map (·.1)).Nodup
  disj : D0.Pairwise (fun a b => ∀ o ∈ offs a.2, o ∉ offs b.2)
  lnd : ∀ e ∈ D0, (leafOffs e.2).Nodup
  pos : ∀ e ∈ D0, 0 < rootOff e.2

theorem setTable_fill_setAt {D0 : List (Bytes × Levels)} (hsk : Skel D0) {table : Bytes} {t0 : Levels}
    (ht : (table, t0) ∈ D0) {o : Nat} (ho : o ∈ leafOffs t0) (c : Pages) (q : Leaf × Bool) :
    setTable (fillT c D0) table (fill (setAt c o q) t0) = fillT (setAt c o q) D0 := by
  apply setTable_fillT ht hsk.names
  intro x hx hn o' ho'
  apply setAt_other
  intro heq
  subst heq
  exact hn (congrArg Prod.fst (skel_unique hsk.disj hx ht ho' ho))

/-! ### every description is its own skeleton filled with its own pages -/

/-- the leaf at offset `o` in one of the trees (the first one found) -/
def pageOf (tbls : List (Bytes × Levels)) (o : Nat) : Leaf × Bool :=
  match tbls.findSome? (fun e => e.2.leaves.find? (fun p => p.1.off == o)) with
  | some p => p
  | none => (⟨o, 0, false, false, 0, 0, []⟩, false)

theorem find_leaf_none {ls : List (Leaf × Bool)} {o : Nat} (h : o ∉ ls.map (·.1.off)) :
    ls.find? (fun q => q.1.off == o) = none := by
  rw [List.find?_eq_none]
  intro q hq hqo
  exact h (List.mem_map.mpr ⟨q, hq, by simpa using hqo⟩)

theorem pageOf_mem {tbls : List (Bytes × Levels)}
    (hdis : tbls.Pairwise (fun a b => ∀ o ∈ offs a.2, o ∉ offs b.2))
    (hnd : ∀ e ∈ tbls, (leafOffs e.2).Nodup) {e : Bytes × Levels} (he : e ∈ tbls) {p : Leaf × Bool}
    (hp : p ∈ e.2.leaves) : pageOf tbls p.1.off = p := by
  unfold pageOf
  suffices h : tbls.findSome? (fun e => e.2.leaves.find? (fun q => q.1.off == p.1.off)) = some p by rw [h]
  induction tbls with
  | nil => cases he
  | cons a rest ih =>
    rw [List.pairwise_cons] at hdis
    rw [List.findSome?_cons]
    rcases List.mem_cons.mp he with rfl | he'
    · rw [find?_of_mem (key := fun q : Leaf × Bool => q.1.off) (hnd _ List.mem_cons_self) hp]
    · have hno : p.1.off ∉ a.2.leaves.map (·.1.off) := by
        intro hm
        exact hdis.1 e he' _ (leafOffs_sub_offs hm) (leafOffs_sub_offs (mem_leafOffs hp))
      rw [find_leaf_none hno]
      exact ih hdis.2 (fun x hx => hnd x (List.mem_cons_of_mem _ hx)) he'

theorem fillT_pageOf {tbls : List (Bytes × Levels)}
    (hdis : tbls.Pairwise (fun a b => ∀ o ∈ offs a.2, o ∉ offs b.2))
    (hnd : ∀ e ∈ tbls, (leafOffs e.2).Nodup) : fillT (pageOf tbls) tbls = tbls := by
  unfold fillT
  conv => rhs; rw [← List.map_id tbls]
  apply List.map_congr_left
  intro e he
  have : fill (pageOf tbls) e.2 = e.2 := by
    unfold fill
    have hl : e.2.leaves.map (fun p => pageOf tbls p.1.off) = e.2.leaves := by
      conv => rhs; rw [← List.map_id e.2.leaves]
      apply List.map_congr_left
      intro p hp
      exact pageOf_mem hdis hnd he hp
    rw [hl]
  rw [this]
  rfl

theorem pFiled_pageOf {tbls : List (Bytes × Levels)}
    (hdis : tbls.Pairwise (fun a b => ∀ o ∈ offs a.2, o ∉ offs b.2))
    (hnd : ∀ e ∈ tbls, (leafOffs e.2).Nodup) : ∀ e ∈ tbls, PFiled (pageOf tbls) e.2 := by
  intro e he p hp
  rw [pageOf_mem hdis hnd he hp]

theorem inv_fill_congr {c c' : Pages} {t : Levels} {nf : Nat} (hI : Inv (fill c t) nf)
    (h : ∀ o ∈ leafOffs t, skelL (c' o) = skelL (c o)) : Inv (fill c' t) nf := by
  apply inv_of_skel id (fun _ => rfl) (t := fill c t) (t' := fill c' t) hI (by simp [fill_inner])
  rw [fill_leaves, fill_leaves, List.map_map, List.map_map]
  apply List.map_congr_left
  intro p hp
  exact h _ (mem_leafOffs hp)

end Mkdb.Store
