import Mkdb.Proofs.BtInsertCounters
import Mkdb.Proofs.ReplayParts
/-!
The row-id counter in recovery: the replay raises it to the key of every INSERT record, redone or skipped
(`replayAll_counter`), and only raises `hdr.lastKey`, never reads it (`RKFree`, `replayAll_raiseKey`);
`replayAll_of_raiseKey` carries a replay that ran to its end on the raised store back to the store itself.
-/

section
/-!
Why the raise of the row-id counter stands before the page-LSN test in `replayOne`: a torn flush writes the
page of an insert but not the header; recovery skips the record of that insert because its page already
carries its LSN; were the raise skipped with it, the next insert would be handed a row id the table already
holds (corpus `C04/F27`).

`replayOne` raises the row-id counter to the key of every INSERT record *before* the page-LSN
test.  Hence, whatever the store and whatever the log, after a replay that ran to its end the row-id
counter is at least the key of *every* INSERT record of the log, redone or skipped
(`replayAll_counter`; `skipped_example` is the torn flush above, concretely).

The first part extends the `Keeps` lemmas of `BtInsertCounters` ("leaves the row-id counter, the page-table
root and the LSN counter alone") to `insertKey` and to the catalog re-point of recovery.
-/
set_option autoImplicit false
namespace Mkdb.Store
open Mkdb.Page Mkdb.Tuple Mkdb.Generated Mkdb.Tree Mkdb.Engine

/-! ### `Keeps` for the operations of the replay -/

theorem Keeps.scanLeaves : ∀ (fuel : Nat) (l : Leaf), Keeps (scanLeaves fuel l) := hrest_allocs.scanLeaves

theorem Keeps.scanRight (root : Nat) : Keeps (scanRight root) := hrest_allocs.scanRight _

theorem Keeps.updateCellAt (off key : Nat) (value : Bytes) (lsn : Nat) :
    Keeps (updateCellAt off key value lsn) := hrest_allocs.updateCellAt _ _ _ _

theorem Keeps.repointPageTable (old new lsn : Nat) : Keeps (repointPageTable old new lsn) :=
  hrest_allocs.repointPageTable _ _ _

/-- the tree insert of the engine (the `ghost` counter is no header field) -/
theorem Keeps.insertKey (bt : BT) (key lsn : Nat) (value : Bytes) :
    Keeps (Store.insertKey bt key lsn value) := hrest_allocs.insertKey _ _ _ _

/-- **One record of the replay never lowers the raised row-id counter**: on every path of `replayOne` -
redo, skip, tolerated key, silent abort, every error - the counter ends at or above the counter the
record raised at its start (`raiseRec`). -/
theorem replayOne_counter (r : WalRec) (s : Store) :
    (raiseRec s r).hdr.lastKey ≤ (replayOne r s).1.hdr.lastKey := by
  have key : ∀ {a b : Store}, (raiseRec s r).hdr.lastKey ≤ a.hdr.lastKey → hrest b = hrest a →
      (raiseRec s r).hdr.lastKey ≤ b.hdr.lastKey := fun ha h => by
    rw [(hrest_eq h).1]; exact ha
  exact replayOne_ind r s _ (fun x => (raiseRec s r).hdr.lastKey ≤ x.hdr.lastKey) (Nat.le_refl _) id
    (fun h e => key h ((Keeps.fetch _).ok e))
    (fun _ h e => key h ((Keeps.insertKey _ _ _ _).ok e))
    (fun _ h e => key h ((Keeps.insertKey _ _ _ _).err e))
    (fun _ h => Nat.le_trans h (Nat.le_max_left _ _))
    (fun _ h e => key h ((Keeps.repointPageTable _ _ _).ok e))
    (fun _ h e => key h ((Keeps.repointPageTable _ _ _).err e))
    (fun _ _ h _ => h)

theorem replayOne_lastKey_mono (r : WalRec) (s : Store) : s.hdr.lastKey ≤ (replayOne r s).1.hdr.lastKey := by
  refine Nat.le_trans ?_ (replayOne_counter r s)
  show s.hdr.lastKey ≤ if r.op == c_OpInsert then max s.hdr.lastKey r.cell else s.hdr.lastKey
  split
  · exact Nat.le_max_left _ _
  · exact Nat.le_refl _

/-- **an INSERT record raises the row-id counter to its key - redone or skipped**, whatever the store,
whatever the outcome -/
theorem replayOne_key (r : WalRec) (s : Store) (hop : r.op = c_OpInsert) :
    r.cell ≤ (replayOne r s).1.hdr.lastKey := by
  refine Nat.le_trans ?_ (replayOne_counter r s)
  rw [raiseRec_insert s r hop]
  exact Nat.le_max_right _ _

theorem replayAll_lastKey_mono (log : List WalRec) (s : Store) :
    s.hdr.lastKey ≤ (replayAll log s).1.hdr.lastKey :=
  replayAll_keeps (P := fun a => s.hdr.lastKey ≤ a.hdr.lastKey)
    (fun r a h => Nat.le_trans h (replayOne_lastKey_mono r a)) log s (Nat.le_refl _)

/-- **After recovery no logged row id is beyond the row-id counter.**  For any store and any log: if the
replay runs to its end, the row-id counter is at least the key of every INSERT record of the log -
whether the record was redone, tolerated (key present) or skipped because its page had already reached
the data file - and at least what it was before.  So the next insert (key `lastKey + 1`) is handed a
row id no logged insert used, also when the header on file was behind the pages. -/
theorem replayAll_counter (log : List WalRec) (s s' : Store) (h : replayAll log s = (s', none, false)) :
    (∀ r ∈ log, r.op = c_OpInsert → r.cell ≤ s'.hdr.lastKey) ∧ s.hdr.lastKey ≤ s'.hdr.lastKey :=
  ⟨replayAll_reaches (·.hdr.lastKey) (·.cell) (·.op = c_OpInsert) replayOne_lastKey_mono replayOne_key log s s' h,
    by have := replayAll_lastKey_mono log s; rw [h] at this; exact this⟩

/-! ### the torn flush, concretely -/

/-- the data file after a torn flush: the page of the insert of row id 7 (LSN 5) was written, the
header was not - its row-id counter still says 3 -/
def tornStore : Store :=
  { hdr := { lastKey := 3, ptRoot := 0, nextFree := 8192, nextLSN := 2 },
    disk := [(4096, .leaf ⟨4096, 5, false, false, 0, 0, [⟨7, false, [1]⟩]⟩)] }

/-- the log holds the record of that insert -/
def tornLog : List WalRec := [⟨c_OpInsert, 5, 4096, 7, [1]⟩]

/-- **The record is skipped by page LSN (`5 ≤ 5`) - the page is left as it is - and the row-id counter
is raised to 7 all the same.**  (With the counter left at 3 the next four inserts would be handed the row
ids 4 … 7, the last of which the table already holds.) -/
theorem skipped_example :
    (replayAll tornLog tornStore).2 = (none, false) ∧
    view (replayAll tornLog tornStore).1 4096 = view tornStore 4096 ∧
    (replayAll tornLog tornStore).1.hdr.lastKey = 7 ∧ tornStore.hdr.lastKey = 3 := by decide

example : ∀ r ∈ tornLog, r.op = c_OpInsert → r.cell ≤ (replayAll tornLog tornStore).1.hdr.lastKey :=
  (replayAll_counter tornLog tornStore (replayAll tornLog tornStore).1 (by rw [← skipped_example.1])).1

end Mkdb.Store
end

section
/-!
The replay of the write-ahead log does not read the row-id counter `hdr.lastKey`: it only raises it.

`RKFree m` says that the store operation `m` commutes with raising the row-id counter
(`raiseKey s K`): run on the raised store it takes the same path, returns the same value, and ends in
the raised version of the store it would have ended in.  It holds of every page operation, of the
B-tree insert, and of the catalog re-point of recovery; hence of one record of the replay, on every path,
the error paths included, and of a whole log (`replayAll_raiseKey`).

So two stores that differ only in the row-id counter (the header of a torn flush against the header
that should have been written) replay to stores that differ only in the row-id counter, with the
same outcome.
-/
set_option autoImplicit false
namespace Mkdb.Store
open Mkdb.Page Mkdb.Tuple Mkdb.Generated Mkdb.Tree Mkdb.Engine

/-- the result with its store mapped by `f` (`SRes.map id f`) -/
def mapRes {α} (f : Store → Store) : SRes α → SRes α
  | .ok a s => .ok a (f s)
  | .err e s => .err e (f s)
  | .panic p => .panic p
  | .unmodelled w => .unmodelled w
  | .fuel => .fuel

/-- `m` commutes with raising the row-id counter -/
def RKFree {α} (m : SM α) : Prop :=
  ∀ s K, m (raiseKey s K) = mapRes (fun s' => raiseKey s' K) (m s)

theorem raiseKey_comm (s : Store) (a b : Nat) : raiseKey (raiseKey s a) b = raiseKey (raiseKey s b) a := by
  unfold raiseKey
  simp only [Nat.max_assoc, Nat.max_comm a b]

/-! ### the monad -/

theorem RKFree.pure {α} (a : α) : RKFree (pure a : SM α) := fun _ _ => rfl
theorem RKFree.throw {α} (e : SErr) : RKFree (throw e : SM α) := fun _ _ => rfl
theorem RKFree.panicS {α} (w : String) : RKFree (panicS w : SM α) := fun _ _ => rfl
theorem RKFree.unmodelledS {α} (w : String) : RKFree (unmodelledS w : SM α) := fun _ _ => rfl
theorem RKFree.outOfFuel {α} : RKFree (outOfFuel : SM α) := fun _ _ => rfl

theorem RKFree.bind {α β} {m : SM α} {f : α → SM β} (hm : RKFree m) (hf : ∀ a, RKFree (f a)) :
    RKFree (m >>= f) := by
  intro s K
  rw [bind_def, bind_def, hm s K]
  cases m s with
  | ok a s1 => exact hf a s1 K
  | err x s1 => rfl
  | panic p => rfl
  | unmodelled w => rfl
  | fuel => rfl

/-- `getS` hands the store itself to its continuation: it commutes when the continuation reads nothing
the raise changes -/
theorem RKFree.getS_bind {α} {f : Store → SM α} (hread : ∀ s K, f (raiseKey s K) = f s)
    (hf : ∀ s0, RKFree (f s0)) : RKFree (getS >>= f) := by
  intro s K
  show f (raiseKey s K) (raiseKey s K) = mapRes _ (f s s)
  rw [hread s K]
  exact hf s s K

/-! ### the page operations -/

theorem RKFree.fetch (off : Nat) : RKFree (fetch off) := by
  intro s K
  unfold Store.fetch
  show (match assocGet s.mem off with
    | some m => SRes.ok m.node (raiseKey s K)
    | none => _) = _
  cases assocGet s.mem off <;> rfl

theorem RKFree.putNode (n : Node) (d : Option Bool) : RKFree (putNode n d) := fun _ _ => rfl

theorem RKFree.markDirty (off lsn : Nat) : RKFree (markDirty off lsn) := by
  intro s K
  unfold Store.markDirty
  show (match assocGet s.mem off with
    | some m => SRes.ok () { raiseKey s K with mem := assocSet s.mem off ⟨setLSN m.node lsn, true⟩ }
    | none => _) = _
  cases assocGet s.mem off <;> rfl

theorem RKFree.appendNode (n : Node) (d : Bool) : RKFree (appendNode n d) := fun _ _ => rfl

/-- commuting with the raise is kept by sequencing and by every primitive (`getS` apart: it hands the
raised store itself on, see `RKFree.getS_bind`) -/
theorem RKFree.closed : ClosedAllocs fun {α} (m : SM α) => RKFree m where
  pure := RKFree.pure
  bind := RKFree.bind
  panicS := RKFree.panicS
  unmodelledS := RKFree.unmodelledS
  outOfFuel := RKFree.outOfFuel
  fetch := RKFree.fetch
  putNode := RKFree.putNode
  markDirty := RKFree.markDirty
  appendNode := RKFree.appendNode

/-- … and by refusals and by the reads of the header: the store model reads the page-table root and the LSN
counter through `getS`, never the row-id counter -/
theorem RKFree.lookups : ClosedLookups fun {α} (m : SM α) => RKFree m :=
  { RKFree.closed.toClosedReads with
    throw := RKFree.throw
    getHdr := fun hf hc => RKFree.getS_bind (fun s K => hc s (raiseKey s K) rfl rfl) hf }

/-! ### the B-tree insert -/

theorem RKFree.insertLeaf (parent : Option Nat) (cur : Leaf) (key lsn : Nat) (value : Bytes) (root : Nat) :
    RKFree (insertLeaf parent cur key lsn value root) :=
  RKFree.closed.insertLeaf parent cur key lsn value root (RKFree.throw _) fun _ => RKFree.throw _

theorem RKFree.insertInternal : ∀ (fuel : Nat) (parent : Option Nat) (cur : Internal) (key lsn : Nat)
    (value : Bytes) (root : Nat), RKFree (insertInternal fuel parent cur key lsn value root) :=
  fun fuel parent cur key lsn value root =>
    RKFree.closed.insertInternal key lsn value (RKFree.throw _) (fun _ => RKFree.throw _) fuel parent cur root

theorem RKFree.insertKeyHeap (bt : BT) (key lsn : Nat) (value : Bytes) :
    RKFree (Store.insertKeyHeap bt key lsn value) :=
  RKFree.closed.insertKeyHeap bt key lsn value (RKFree.throw _) fun _ => RKFree.throw _

/-- the cross-check against the levels model reads the pages and the allocation frontier only -/
theorem ghostAgrees_raiseKey (s : Store) (K : Nat) (bt : BT) (key lsn : Nat) (value : Bytes) (res : SRes BT) :
    ghostAgrees (raiseKey s K) bt key lsn value (mapRes (fun s' => raiseKey s' K) res) =
      ghostAgrees s bt key lsn value res := by
  unfold ghostAgrees
  rw [view_raiseKey]
  rw [show (raiseKey s K).hdr.nextFree = s.hdr.nextFree from rfl]
  cases Tree.ofHeap (view s) 64 bt.root with
  | none => cases res <;> rfl
  | some lv =>
    simp only
    cases Tree.insertAppend lv key lsn value s.hdr.nextFree with
    | ok p => cases res <;> rfl
    | error x => cases res <;> cases x <;> first | rfl | (rename_i e _; cases e <;> rfl)

/-- the tree insert of the engine (the `ghost` counter is no header field) -/
theorem RKFree.insertKey (bt : BT) (key lsn : Nat) (value : Bytes) :
    RKFree (Store.insertKey bt key lsn value) := by
  intro s K
  unfold Store.insertKey
  simp only
  rw [RKFree.insertKeyHeap bt key lsn value s K, ghostAgrees_raiseKey]
  cases ghostAgrees s bt key lsn value (Store.insertKeyHeap bt key lsn value s) <;>
    cases Store.insertKeyHeap bt key lsn value s <;> rfl

/-! ### the catalog re-point of recovery -/

theorem RKFree.scanLeaves : ∀ (fuel : Nat) (l : Leaf), RKFree (scanLeaves fuel l) := RKFree.closed.scanLeaves

theorem RKFree.scanRight (root : Nat) : RKFree (scanRight root) := RKFree.closed.scanRight root

theorem RKFree.updateCellAt (off key : Nat) (value : Bytes) (lsn : Nat) :
    RKFree (updateCellAt off key value lsn) :=
  RKFree.closed.updateCellAt off key value lsn (fun _ => RKFree.throw _) (RKFree.throw _)

theorem RKFree.repointPageTable (old new lsn : Nat) : RKFree (repointPageTable old new lsn) :=
  RKFree.lookups.repointPageTable RKFree.closed.toClosedRewrites old new lsn

/-! ### one record -/

theorem raiseRec_raiseKey (s : Store) (r : WalRec) (K : Nat) :
    raiseRec (raiseKey s K) r = raiseKey (raiseRec s r) K := by
  unfold raiseRec raiseKey
  cases r.op == c_OpInsert
  · rfl
  · simp only [if_true, Nat.max_assoc, Nat.max_comm K r.cell]

/-- a step of the replay (store, error message, silent-abort flag) commutes with raising the row-id counter -/
def RKStep (g : Store → Store × Option String × Bool) : Prop :=
  ∀ s K, g (raiseKey s K) = (raiseKey (g s).1 K, (g s).2)

theorem RKStep.stop (m : Option String) (b : Bool) : RKStep fun s => (s, m, b) := fun _ _ => rfl

theorem RKStep.ite {c : Prop} [Decidable c] {a b : Store → Store × Option String × Bool} (ha : RKStep a)
    (hb : RKStep b) : RKStep fun s => if c then a s else b s := by
  intro s K
  split
  · exact ha s K
  · exact hb s K

theorem replayIns_raiseKey (r : WalRec) (node : Node) : RKStep (replayIns r node) := by
  intro s1 K
  unfold replayIns
  rw [RKFree.insertKey _ r.cell r.lsn r.val s1 K]
  cases insertKey ⟨nodeOff node⟩ r.cell r.lsn r.val s1 with
  | ok bt s2 =>
    simp only [mapRes]
    rw [raiseKey_comm s2 K r.cell]
    split
    · rw [RKFree.repointPageTable _ _ _ (raiseKey s2 r.cell) K]
      cases repointPageTable (nodeOff node) bt.root r.lsn (raiseKey s2 r.cell) <;> rfl
    · rfl
  | err e s2 =>
    cases e <;> first | rfl | (simp only [mapRes]; rw [raiseKey_comm s2 K r.cell])
  | panic p => rfl
  | unmodelled w => rfl
  | fuel => rfl

theorem replayUpd_raiseKey (r : WalRec) (node : Node) : RKStep (replayUpd r node) := by
  cases node with
  | internal n => exact RKStep.ite (RKStep.stop _ _) (RKStep.stop _ _)
  | leaf l => exact RKStep.ite (RKStep.stop _ _) fun _ _ => rfl

theorem replayDel_raiseKey (r : WalRec) (node : Node) : RKStep (replayDel r node) := by
  cases node with
  | internal n => exact RKStep.ite (RKStep.stop _ _) (RKStep.stop _ _)
  | leaf l => exact RKStep.ite (RKStep.stop _ _) fun _ _ => rfl

theorem replayOn_raiseKey (r : WalRec) (node : Node) : RKStep (replayOn r node) :=
  RKStep.ite (RKStep.stop _ _) (RKStep.ite (replayIns_raiseKey r node) (RKStep.ite (replayUpd_raiseKey r node)
    (RKStep.ite (replayDel_raiseKey r node) (RKStep.stop _ _))))

theorem replayBody_raiseKey (r : WalRec) : RKStep (replayBody r) := by
  intro s K
  unfold replayBody
  rw [RKFree.fetch r.page s K]
  cases fetch r.page s with
  | ok node s1 => exact replayOn_raiseKey r node s1 K
  | err e s1 => rfl
  | panic p => rfl
  | unmodelled w => rfl
  | fuel => rfl

/-- **One record of the replay does not read the row-id counter.**  Replaying a record on a store whose
row-id counter was first raised to at least `K` takes the same path, with the same outcome, as on the
store itself, and ends in the same store with the counter raised to at least `K` - on every path of
`replayOne`: redo, skip by page LSN, tolerated key, silent abort, every error. -/
theorem replayOne_raiseKey (r : WalRec) (s : Store) (K : Nat) :
    replayOne r (raiseKey s K) = (raiseKey (replayOne r s).1 K, (replayOne r s).2) := by
  rw [replayOne_eq_body, replayOne_eq_body, raiseRec_raiseKey, replayBody_raiseKey]

/-! ### a whole log -/

/-- **The replay of a log does not read the row-id counter, it only raises it.**  For any log, any store
and any `K`: the replay from the store with its counter raised to at least `K` has the same outcome
(ran to its end / error message / silent abort) as the replay from the store itself, and the store it
ends in is the one the other ends in with the counter raised to at least `K`.  (No hypotheses: the
stores may be crash images.) -/
theorem replayAll_raiseKey (log : List WalRec) (s : Store) (K : Nat) :
    replayAll log (raiseKey s K) = (raiseKey (replayAll log s).1 K, (replayAll log s).2) := by
  induction log generalizing s with
  | nil => rfl
  | cons r rest ih =>
    unfold Engine.replayAll
    rw [replayOne_raiseKey]
    rcases replayOne r s with ⟨s', msg, ab⟩
    cases msg with
    | some m => rfl
    | none =>
      cases ab with
      | true => rfl
      | false => exact ih s'

/-- **Carried back.**  A replay that runs to its end from the store with the counter raised to at least `K` runs
to the same end from the store itself if the counter reaches `K` anyway: it was there, or the log holds an INSERT
record with the key `K`. -/
theorem replayAll_of_raiseKey {log : List WalRec} {s s' : Store} {K : Nat}
    (h : replayAll log (raiseKey s K) = (s', none, false))
    (hK : K ≤ s.hdr.lastKey ∨ ∃ r ∈ log, r.op = c_OpInsert ∧ r.cell = K) :
    replayAll log s = (s', none, false) := by
  have hrk := replayAll_raiseKey log s K
  rw [h] at hrk
  have eall : replayAll log s = ((replayAll log s).1, none, false) := Prod.ext rfl (congrArg Prod.snd hrk).symm
  obtain ⟨hkeys, hmono⟩ := replayAll_counter log s _ eall
  have hKle : K ≤ (replayAll log s).1.hdr.lastKey := by
    rcases hK with h | ⟨r, hr, hop, hcell⟩
    · exact Nat.le_trans h hmono
    · exact hcell ▸ hkeys r hr hop
  have es : s' = raiseKey (replayAll log s).1 K := congrArg Prod.fst hrk
  rw [eall, es, raiseKey_idle hKle]

theorem replayAll_raiseKey_parts (log : List WalRec) (s : Store) (K : Nat) :
    (replayAll log (raiseKey s K)).1 = raiseKey (replayAll log s).1 K ∧
    (replayAll log (raiseKey s K)).2 = (replayAll log s).2 := by
  rw [replayAll_raiseKey]
  exact ⟨rfl, rfl⟩

/-- on `tornStore` (page written, header not: counter 3, logged row id 7): with the counter raised to 9
first, the replay runs to its end and leaves the counter at 9 -/
example : (replayAll tornLog (raiseKey tornStore 9)).1.hdr.lastKey = 9 ∧
    (replayAll tornLog (raiseKey tornStore 9)).2 = (none, false) := by
  rw [replayAll_raiseKey]
  decide

end Mkdb.Store
end
