import Mkdb.Proofs.UnchangedReadOnly
/-!
The primitives of the page store (`fetch`, `putNode`, `markDirty`, `appendNode`) described on the
abstraction of a store: what the engine sees at every offset (`view`), the allocation frontier, and
which pages are resident in the cache.  Then the representation relation `Rep` between a view and a
tree, how it follows single-page updates of the view, and `Holds s t`.
-/

section
set_option autoImplicit false
namespace Mkdb.Store
open Mkdb.Page Mkdb.Generated

def upd (v : Nat → Option (Node × Bool)) (off : Nat) (x : Node × Bool) : Nat → Option (Node × Bool) :=
  fun o => if o = off then some x else v o

theorem upd_same (v) (off : Nat) (x : Node × Bool) : upd v off x off = some x := by simp [upd]
theorem upd_other (v) (off o : Nat) (x : Node × Bool) (h : o ≠ off) : upd v off x o = v o := by
  simp [upd, h]

/-- updates of a view at distinct offsets commute -/
theorem upd_comm (v : Nat → Option (Node × Bool)) (a b : Nat) (x y : Node × Bool) (h : a ≠ b) :
    upd (upd v a x) b y = upd (upd v b y) a x := by
  funext o; simp only [upd]; split <;> split <;> simp_all

/-- of two updates at one offset the later one stays -/
theorem upd_upd_same (v : Nat → Option (Node × Bool)) (a : Nat) (x y : Node × Bool) :
    upd (upd v a x) a y = upd v a y := by
  funext o; simp only [upd]; split <;> rfl

/-- resident in the cache -/
def Res (s : Store) (o : Nat) : Prop := (assocGet s.mem o).isSome = true

theorem view_set (s : Store) (mem' : List (Nat × MNode)) (hdr' : Header) (k : Nat) (m : MNode)
    (hm : mem' = assocSet s.mem k m) :
    view { s with mem := mem', hdr := hdr' } = upd (view s) k (m.node, m.dirty) := by
  funext o
  subst hm
  simp only [view, upd, assocGet_assocSet]
  by_cases ho : o = k
  · simp [ho]
  · simp [ho]

theorem res_set (s : Store) (mem' : List (Nat × MNode)) (hdr' : Header) (k : Nat) (m : MNode)
    (hm : mem' = assocSet s.mem k m) :
    Res { s with mem := mem', hdr := hdr' } = fun o => Res s o ∨ o = k := by
  funext o
  subst hm
  simp only [Res, assocGet_assocSet]
  by_cases ho : o = k
  · simp [ho]
  · simp [ho]

theorem fetch_spec (s : Store) (off : Nat) (n : Node) (d : Bool)
    (h : view s off = some (n, d)) (hoff : nodeOff n = off) :
    ∃ s', fetch off s = .ok n s' ∧ view s' = view s ∧ s'.hdr.nextFree = s.hdr.nextFree ∧
      Res s' = fun o => Res s o ∨ o = off := by
  unfold fetch
  unfold view at h
  cases hm : assocGet s.mem off with
  | some m =>
    rw [hm] at h
    simp only [Option.some.injEq, Prod.mk.injEq] at h
    refine ⟨s, by simp only [h.1], rfl, rfl, ?_⟩
    funext o
    by_cases ho : o = off
    · subst ho; simp [Res, hm]
    · simp [ho]
  | none =>
    rw [hm] at h
    simp only [Option.map_eq_some_iff, Prod.mk.injEq] at h
    obtain ⟨n', hn', rfl, rfl⟩ := h
    subst hoff
    simp only [hn', Option.getD_some]
    refine ⟨_, rfl, ?_, rfl, res_set s _ s.hdr (nodeOff n') ⟨n', false⟩ rfl⟩
    rw [view_set s _ s.hdr (nodeOff n') ⟨n', false⟩ rfl]
    funext o
    by_cases ho : o = nodeOff n'
    · subst ho
      simp [upd, view, hm, hn']
    · simp [upd, ho]

theorem putNode_some_spec (s : Store) (n : Node) (d : Bool) :
    ∃ s', putNode n (some d) s = .ok () s' ∧ view s' = upd (view s) (nodeOff n) (n, d) ∧
      s'.hdr.nextFree = s.hdr.nextFree ∧ Res s' = fun o => Res s o ∨ o = nodeOff n :=
  ⟨_, rfl, view_set s _ s.hdr (nodeOff n) ⟨n, d⟩ rfl, rfl, res_set s _ s.hdr (nodeOff n) ⟨n, d⟩ rfl⟩

theorem putNode_none_spec (s : Store) (n n0 : Node) (d0 : Bool)
    (h : view s (nodeOff n) = some (n0, d0)) :
    ∃ s', putNode n none s = .ok () s' ∧ view s' = upd (view s) (nodeOff n) (n, d0) ∧
      s'.hdr.nextFree = s.hdr.nextFree ∧ Res s' = fun o => Res s o ∨ o = nodeOff n := by
  have hd : ((assocGet s.mem (nodeOff n)).map (·.dirty)).getD false = d0 := by
    unfold view at h
    cases hm : assocGet s.mem (nodeOff n) with
    | some m => rw [hm] at h; simp at h; simp [h.2]
    | none =>
      rw [hm] at h
      simp only [Option.map_eq_some_iff, Prod.mk.injEq] at h
      obtain ⟨_, _, _, rfl⟩ := h
      rfl
  refine ⟨_, rfl, ?_, rfl, res_set s _ s.hdr (nodeOff n) _ rfl⟩
  rw [view_set s _ s.hdr (nodeOff n) _ rfl, hd]

theorem markDirty_spec (s : Store) (off lsn : Nat) (n : Node) (d : Bool)
    (hres : Res s off) (h : view s off = some (n, d)) :
    ∃ s', markDirty off lsn s = .ok () s' ∧ view s' = upd (view s) off (setLSN n lsn, true) ∧
      s'.hdr.nextFree = s.hdr.nextFree ∧ Res s' = Res s := by
  unfold markDirty
  unfold Res at hres
  unfold view at h
  cases hm : assocGet s.mem off with
  | none => rw [hm] at hres; simp at hres
  | some m =>
    rw [hm] at h
    simp only [Option.some.injEq, Prod.mk.injEq] at h
    refine ⟨_, rfl, ?_, rfl, ?_⟩
    · rw [view_set s _ s.hdr off _ rfl, h.1]
    · rw [res_set s _ s.hdr off _ rfl]
      funext o
      by_cases ho : o = off
      · subst ho; simp [Res, hm]
      · simp [ho]

theorem appendNode_spec (s : Store) (n : Node) (d : Bool) :
    ∃ s', appendNode n d s = .ok s.hdr.nextFree s' ∧
      view s' = upd (view s) s.hdr.nextFree (setOff n s.hdr.nextFree, d) ∧
      s'.hdr.nextFree = s.hdr.nextFree + c_pageSize ∧ Res s' = fun o => Res s o ∨ o = s.hdr.nextFree :=
  ⟨_, rfl, view_set s _ _ s.hdr.nextFree ⟨setOff n s.hdr.nextFree, d⟩ rfl, rfl,
    res_set s _ _ s.hdr.nextFree ⟨setOff n s.hdr.nextFree, d⟩ rfl⟩

end Mkdb.Store
end

section
set_option autoImplicit false
namespace Mkdb.Store
open Mkdb.Page Mkdb.Generated Mkdb.Tree

abbrev View := Nat → Option (Node × Bool)
abbrev Entry := Nat × Node × Bool

/-- `v` shows the pages `L` (each under its key), the keys are distinct and below `nf`, and away
from the keys `v` is `v0` -/
structure RepL (v : View) (nf : Nat) (v0 : View) (L : List Entry) : Prop where
  holds : ∀ e ∈ L, v e.1 = some e.2
  nodup : (L.map (·.1)).Nodup
  below : ∀ o ∈ L.map (·.1), o < nf
  frame : ∀ o, o ∉ L.map (·.1) → v o = v0 o

theorem RepL.mono {v v0 : View} {nf nf' : Nat} {L : List Entry} (h : RepL v nf v0 L) (hle : nf ≤ nf') :
    RepL v nf' v0 L :=
  ⟨h.holds, h.nodup, fun o ho => Nat.lt_of_lt_of_le (h.below o ho) hle, h.frame⟩

theorem RepL.at {v v0 : View} {nf : Nat} {A B : List Entry} {k : Nat} {x : Node × Bool}
    (h : RepL v nf v0 (A ++ (k, x) :: B)) : v k = some x ∧ k < nf :=
  have hm : (k, x) ∈ A ++ (k, x) :: B := List.mem_append_right _ List.mem_cons_self
  ⟨h.holds _ hm, h.below k (List.mem_map.mpr ⟨_, hm, rfl⟩)⟩

theorem RepL.ne {v v0 : View} {nf : Nat} {A B C : List Entry} {k k' : Nat} {x x' : Node × Bool}
    (h : RepL v nf v0 (A ++ (k, x) :: (B ++ (k', x') :: C))) : k ≠ k' := by
  have hnd := h.nodup
  rw [List.map_append, List.map_cons] at hnd
  intro heq
  exact (List.nodup_cons.mp (List.nodup_append.mp hnd).2.1).1
    (List.mem_map.mpr ⟨(k', x'), List.mem_append_right _ List.mem_cons_self, heq.symm⟩)

theorem RepL.perm {v v0 : View} {nf : Nat} {L L' : List Entry} (h : RepL v nf v0 L) (hp : L.Perm L') :
    RepL v nf v0 L' :=
  have hk : (L.map (·.1)).Perm (L'.map (·.1)) := hp.map _
  ⟨fun e he => h.holds e (hp.mem_iff.mpr he), hk.nodup_iff.mp h.nodup,
    fun o ho => h.below o (hk.mem_iff.mpr ho), fun o ho => h.frame o fun hm => ho (hk.mem_iff.mp hm)⟩

theorem RepL.replace {v v0 : View} {nf : Nat} {A B : List Entry} {k : Nat} {old new : Node × Bool}
    (h : RepL v nf v0 (A ++ (k, old) :: B)) : RepL (upd v k new) nf v0 (A ++ (k, new) :: B) := by
  have h' := h.perm List.perm_middle
  have hnd := List.nodup_cons.mp h'.nodup
  have : RepL (upd v k new) nf v0 ((k, new) :: (A ++ B)) := by
    refine ⟨?_, h'.nodup, h'.below, ?_⟩
    · intro e he
      rcases List.mem_cons.mp he with rfl | he
      · exact upd_same _ _ _
      · rw [upd_other _ _ _ _ fun hk => hnd.1 (List.mem_map.mpr ⟨e, he, hk⟩)]
        exact h'.holds e (List.mem_cons_of_mem _ he)
    · intro o ho
      rw [upd_other _ _ _ _ fun hk => ho (by subst hk; exact List.mem_cons_self)]
      exact h'.frame o ho
  exact this.perm List.perm_middle.symm

theorem RepL.insert {v v0 : View} {nf nf' : Nat} {A B : List Entry} {x : Node × Bool}
    (h : RepL v nf v0 (A ++ B)) (hlt : nf < nf') : RepL (upd v nf x) nf' v0 (A ++ (nf, x) :: B) := by
  have hne : ∀ o ∈ (A ++ B).map (·.1), o ≠ nf := fun o ho => Nat.ne_of_lt (h.below o ho)
  have : RepL (upd v nf x) nf' v0 ((nf, x) :: (A ++ B)) := by
    refine ⟨?_, List.nodup_cons.mpr ⟨fun hm => hne _ hm rfl, h.nodup⟩, ?_, ?_⟩
    · intro e he
      rcases List.mem_cons.mp he with rfl | he
      · exact upd_same _ _ _
      · rw [upd_other _ _ _ _ (hne _ (List.mem_map_of_mem he))]
        exact h.holds e he
    · intro o ho
      rcases List.mem_cons.mp ho with rfl | ho
      · exact hlt
      · exact Nat.lt_trans (h.below o ho) hlt
    · intro o ho
      rw [upd_other _ _ _ _ fun hk => ho (by subst hk; exact List.mem_cons_self)]
      exact h.frame o fun hm => ho (List.mem_cons_of_mem _ hm)
  exact this.perm List.perm_middle.symm

/-- the view `v` shows every page of `t`, the pages of `t` are distinct and below `nf`, and away from them `v` is the
frame `v0` (how "other trees are untouched" comes out of the insert) -/
def Rep (v : View) (nf : Nat) (v0 : View) (t : Levels) : Prop := RepL v nf v0 (flatten t)

theorem Rep.mono {v v0 : View} {nf nf' : Nat} {t : Levels} (h : Rep v nf v0 t) (hle : nf ≤ nf') :
    Rep v nf' v0 t := RepL.mono h hle

theorem Rep.offsOK {v v0 : View} {nf : Nat} {t : Levels} (h : Rep v nf v0 t) : OffsOK t nf :=
  ⟨h.nodup, h.below⟩

theorem flatten_leaf_snoc (lpre : List (Leaf × Bool)) (l : Leaf) (d : Bool) (inner) :
    flatten ⟨lpre ++ [(l, d)], inner⟩ =
      lpre.map (fun p => (p.1.off, Node.leaf p.1, p.2)) ++ (l.off, Node.leaf l, d) ::
        inner.flatMap fun lvl => lvl.map fun p => (p.1.off, Node.internal p.1, p.2) := by
  simp [flatten]

theorem flatten_inner_snoc (leaves : List (Leaf × Bool)) (lo : List (List (Internal × Bool)))
    (ipre : List (Internal × Bool)) (c : Internal) (d : Bool) (hi) :
    flatten ⟨leaves, lo ++ (ipre ++ [(c, d)]) :: hi⟩ =
      (leaves.map (fun p => (p.1.off, Node.leaf p.1, p.2)) ++
        (lo.flatMap fun lvl => lvl.map fun p => (p.1.off, Node.internal p.1, p.2)) ++
        ipre.map (fun p => (p.1.off, Node.internal p.1, p.2))) ++ (c.off, Node.internal c, d) ::
        hi.flatMap fun lvl => lvl.map fun p => (p.1.off, Node.internal p.1, p.2) := by
  simp [flatten]

theorem Rep.setLeaf {v v0 : View} {nf : Nat} {lpre : List (Leaf × Bool)} {l l' : Leaf} {d d' : Bool} {inner}
    (h : Rep v nf v0 ⟨lpre ++ [(l, d)], inner⟩) (hoff : l'.off = l.off) :
    Rep (upd v l.off (.leaf l', d')) nf v0 ⟨lpre ++ [(l', d')], inner⟩ := by
  unfold Rep at h ⊢
  rw [flatten_leaf_snoc] at h ⊢
  rw [hoff]
  exact h.replace

theorem Rep.addLeaf {v v0 : View} {nf nf' : Nat} {leaves : List (Leaf × Bool)} {r : Leaf} {d : Bool} {inner}
    (h : Rep v nf v0 ⟨leaves, inner⟩) (hoff : r.off = nf) (hlt : nf < nf') :
    Rep (upd v nf (.leaf r, d)) nf' v0 ⟨leaves ++ [(r, d)], inner⟩ := by
  unfold Rep at h ⊢
  rw [flatten_leaf_snoc, hoff]
  exact RepL.insert h hlt

theorem Rep.setInt {v v0 : View} {nf : Nat} {leaves : List (Leaf × Bool)} {lo ipre} {c c' : Internal}
    {d d' : Bool} {hi} (h : Rep v nf v0 ⟨leaves, lo ++ (ipre ++ [(c, d)]) :: hi⟩) (hoff : c'.off = c.off) :
    Rep (upd v c.off (.internal c', d')) nf v0 ⟨leaves, lo ++ (ipre ++ [(c', d')]) :: hi⟩ := by
  unfold Rep at h ⊢
  rw [flatten_inner_snoc] at h ⊢
  rw [hoff]
  exact h.replace

theorem Rep.addInt {v v0 : View} {nf nf' : Nat} {leaves : List (Leaf × Bool)} {lo lvl} {r : Internal}
    {d : Bool} {hi} (h : Rep v nf v0 ⟨leaves, lo ++ lvl :: hi⟩) (hoff : r.off = nf) (hlt : nf < nf') :
    Rep (upd v nf (.internal r, d)) nf' v0 ⟨leaves, lo ++ (lvl ++ [(r, d)]) :: hi⟩ := by
  unfold Rep at h ⊢
  rw [flatten_inner_snoc, hoff]
  have : flatten ⟨leaves, lo ++ lvl :: hi⟩ =
      (leaves.map (fun p => (p.1.off, Node.leaf p.1, p.2)) ++
        (lo.flatMap fun lvl => lvl.map fun p => (p.1.off, Node.internal p.1, p.2)) ++
        lvl.map (fun p => (p.1.off, Node.internal p.1, p.2))) ++
        hi.flatMap fun lvl => lvl.map fun p => (p.1.off, Node.internal p.1, p.2) := by
    simp [flatten]
  rw [this] at h
  exact RepL.insert h hlt

theorem Rep.addRoot {v v0 : View} {nf nf' : Nat} {leaves : List (Leaf × Bool)} {inner} {r : Internal}
    {d : Bool} (h : Rep v nf v0 ⟨leaves, inner⟩) (hoff : r.off = nf) (hlt : nf < nf') :
    Rep (upd v nf (.internal r, d)) nf' v0 ⟨leaves, inner ++ [[(r, d)]]⟩ := by
  have h' : Rep v nf v0 ⟨leaves, inner ++ [] :: []⟩ := by
    unfold Rep at h ⊢
    have : flatten ⟨leaves, inner ++ [] :: []⟩ = flatten ⟨leaves, inner⟩ := by simp [flatten]
    rw [this]; exact h
  exact Rep.addInt (lvl := []) h' hoff hlt

theorem Rep.atLeaf {v v0 : View} {nf : Nat} {lpre : List (Leaf × Bool)} {l : Leaf} {d : Bool} {inner}
    (h : Rep v nf v0 ⟨lpre ++ [(l, d)], inner⟩) : v l.off = some (.leaf l, d) ∧ l.off < nf := by
  unfold Rep at h
  rw [flatten_leaf_snoc] at h
  exact h.at

theorem Rep.atInt {v v0 : View} {nf : Nat} {leaves : List (Leaf × Bool)} {lo ipre} {c : Internal}
    {d : Bool} {hi} (h : Rep v nf v0 ⟨leaves, lo ++ (ipre ++ [(c, d)]) :: hi⟩) :
    v c.off = some (.internal c, d) ∧ c.off < nf := by
  unfold Rep at h
  rw [flatten_inner_snoc] at h
  exact h.at

theorem Rep.leaf_ne_int {v v0 : View} {nf : Nat} {lpre : List (Leaf × Bool)} {l : Leaf} {d : Bool}
    {ipre} {c : Internal} {dc : Bool} {hi}
    (h : Rep v nf v0 ⟨lpre ++ [(l, d)], (ipre ++ [(c, dc)]) :: hi⟩) : l.off ≠ c.off := by
  unfold Rep at h
  rw [flatten_leaf_snoc, List.flatMap_cons, List.map_append, List.map_cons, List.map_nil,
    List.append_assoc (List.map _ ipre), List.singleton_append] at h
  exact h.ne

theorem Rep.int_ne_int {v v0 : View} {nf : Nat} {leaves : List (Leaf × Bool)} {lo ipre} {c : Internal}
    {d : Bool} {qpre} {q : Internal} {dq : Bool} {hi}
    (h : Rep v nf v0 ⟨leaves, lo ++ (ipre ++ [(c, d)]) :: (qpre ++ [(q, dq)]) :: hi⟩) : c.off ≠ q.off := by
  unfold Rep at h
  rw [flatten_inner_snoc, List.flatMap_cons, List.map_append, List.map_cons, List.map_nil,
    List.append_assoc (List.map _ qpre), List.singleton_append] at h
  exact h.ne

/-! ### the heap of a store holds a tree -/

/-- the heap of `s` holds the tree `t`: every page of `t` is what the engine sees at its offset.  `Refine.Holds`
(RefineScan) is the same proposition (`holds_iff`, RefineHistory); by node kind it is `Tree.Shows (view s) t`
(`shows_of_holds`, RefineInsert). -/
def Holds (s : Store) (t : Levels) : Prop := ∀ e ∈ flatten t, view s e.1 = some (e.2.1, e.2.2)

theorem Rep.of_holds {s : Store} {t : Levels} (hH : Holds s t) (hI : Inv t s.hdr.nextFree) :
    Rep (view s) s.hdr.nextFree (view s) t :=
  ⟨fun e he => hH e he, hI.offs.1, hI.offs.2, fun _ _ => rfl⟩

theorem holds_leaf {s : Store} {t : Levels} (hH : Holds s t) {p : Leaf × Bool} (hp : p ∈ t.leaves) :
    view s p.1.off = some (.leaf p.1, p.2) :=
  hH (p.1.off, .leaf p.1, p.2) (List.mem_append_left _ (List.mem_map.mpr ⟨p, hp, rfl⟩))

theorem holds_int {s : Store} {t : Levels} (hH : Holds s t) {lvl} (hl : lvl ∈ t.inner) {p : Internal × Bool}
    (hp : p ∈ lvl) : view s p.1.off = some (.internal p.1, p.2) :=
  hH (p.1.off, .internal p.1, p.2)
    (List.mem_append_right _ (List.mem_flatMap.mpr ⟨lvl, hl, List.mem_map.mpr ⟨p, hp, rfl⟩⟩))

end Mkdb.Store
end
