import Mkdb.Proofs.StmtInsert
import Mkdb.Proofs.StmtRowOps
/-!
Non-vacuity of the statements about SELECT, DELETE and UPDATE under the catalog invariant `Cat`
(`StmtRowOps`), on the concrete store `st0` of `StmtInsert`: insert, select, delete, select; and insert, update.
-/
set_option autoImplicit false
namespace Mkdb.Store
open Mkdb.Page Mkdb.Tuple Mkdb.Generated Mkdb.Tree

/-- **Non-vacuity.**  On the concrete store `st0` (catalog `cat0`): the insert of a row into `"t"`
succeeds (`insert_refines`); `fetchTable` then returns exactly that row, with id 4
(`fetchTable_cat`); `markDeleted` of id 4 logs one delete record for the leaf at 12288 with LSN 8
(`markDeleted_cat`); `fetchTable` then returns no row; the catalog invariant holds at the end, the
table being `setDeleted t1 4 8`. -/
theorem select_delete_example :
    ∃ s1 s2 s3 s4 logs1,
      insert tname [] [] st0 = .ok logs1 s1 ∧
      fetchTable tname s1 = .ok ([(4, [])], []) s2 ∧
      markDeleted tname 4 s2 = .ok [⟨c_OpDelete, 8, 12288, 4, []⟩] s3 ∧
      fetchTable tname s3 = .ok ([], []) s4 ∧
      Cat s4 pt0 sch0 [(tname, setDeleted t1 4 8)] := by
  obtain ⟨s1, logs1, e1, hc1, _, hlsn1⟩ := st0_insert
  have hmem : (tname, t1) ∈ [(tname, t1)] := List.mem_singleton.mpr rfl
  obtain ⟨s2, e2, hs2, hc2⟩ := fetchTable_cat hc1 tname t1 hmem [] (by decide)
    (by intro c _; exact ⟨[], rfl⟩)
  have hrows : rowsOf [] (live t1) = [(4, [])] := by decide
  rw [hrows] at e2
  obtain ⟨s3, l, d, hm, _, e3, hc3, _⟩ := markDeleted_cat hc2 tname t1 hmem 4 ⟨4, false, []⟩
    (by decide) rfl
  have hl : l.off = 12288 := by
    simp only [t1, List.mem_singleton, Prod.mk.injEq] at hm
    rw [hm.1]
  have hn2 : s2.hdr.nextLSN = 8 := by rw [hs2.2, hlsn1]
  rw [hn2, hl] at e3
  rw [hn2] at hc3
  have hst3 : setTable [(tname, t1)] tname (setDeleted t1 4 8) = [(tname, setDeleted t1 4 8)] := by decide
  rw [hst3] at hc3
  obtain ⟨s4, e4, hs4, hc4⟩ := fetchTable_cat hc3 tname _ (List.mem_singleton.mpr rfl) [] (by decide)
    (by intro c _; exact ⟨[], rfl⟩)
  have hrows4 : rowsOf [] (live (setDeleted t1 4 8)) = [] := by decide
  rw [hrows4] at e4
  exact ⟨s1, s2, s3, s4, logs1, e1, e2, e3, e4, hc4⟩

/-- **Non-vacuity of `update_cat`.**  On the store after the insert, the update of row 4 (the table
has no columns, so the re-encoded row is empty again) logs one update record for the leaf at 12288
with LSN 8, and the catalog invariant holds with the table `setVal t1 4 8 []`. -/
theorem update_example :
    ∃ s1 s2 logs1,
      insert tname [] [] st0 = .ok logs1 s1 ∧
      update tname 4 [] [] s1 = .ok [⟨c_OpUpdate, 8, 12288, 4, []⟩] s2 ∧
      Cat s2 pt0 sch0 [(tname, setVal t1 4 8 [])] ∧ s2.hdr.nextLSN = 9 := by
  obtain ⟨s1, logs1, e1, hc1, _, hlsn1⟩ := st0_insert
  have hmem : (tname, t1) ∈ [(tname, t1)] := List.mem_singleton.mpr rfl
  obtain ⟨s2, l, d, hm, _, e2, hc2, hlsn2, _⟩ := update_cat hc1 tname t1 hmem [] (by decide) 4 [] [] rfl
    ⟨4, false, []⟩ (by decide) rfl [] [] rfl rfl (by decide)
  have hl : l.off = 12288 := by
    simp only [t1, List.mem_singleton, Prod.mk.injEq] at hm
    rw [hm.1]
  rw [hlsn1, hl] at e2
  rw [hlsn1] at hc2 hlsn2
  have hst2 : setTable [(tname, t1)] tname (setVal t1 4 8 []) = [(tname, setVal t1 4 8 [])] := by decide
  rw [hst2] at hc2
  exact ⟨s1, s2, logs1, e1, e2, hc2, hlsn2⟩

end Mkdb.Store
