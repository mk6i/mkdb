import Mkdb.Proofs.CountersAdv
import Mkdb.Proofs.ReplayMixedHistory
import Mkdb.Proofs.StmtCreateTable
import Mkdb.Proofs.StmtRowOps
import Mkdb.Proofs.StmtRows
/-!
The header counters through the row operations and CREATE TABLE, then along a live run (`LiveRunM.logged`).

A logged operation is followed with `GrowsL`: a bounded advance on every outcome and, when it succeeds,
`Logged`: the LSN counter advanced by EXACTLY the number of records returned (each record takes one LSN, in
order) and the key of an INSERT record is a row id handed out by this operation.  An INSERT of one row
costs its bounds also when it is refused after the tree insert was tried; UPDATE and DELETE move only the LSN
counter (`AdvL`); the flush of CREATE TABLE copies the header to the data file (`AdvF`).  The results are
`SRes.Post`s (`resL_post`, `resU_post`), followed through an operation with `Post.after` / `Post.bind`; a loop
over rows or cells is `rowsM`, whose advances add up and whose logs are concatenated (`rowsM_post`).
Along a live run no catalog description is needed: the row operations say so on every store.
-/

section
set_option autoImplicit false
namespace Mkdb.Store
open Mkdb.Page Mkdb.Tuple Mkdb.Generated Mkdb.Tree

def insCount (log : List WalRec) : Nat := (log.filter fun r => r.op == c_OpInsert).length

theorem insCount_cons (r : WalRec) (rest : List WalRec) :
    insCount (r :: rest) = (if r.op == c_OpInsert then 1 else 0) + insCount rest := by
  unfold insCount
  rw [List.filter_cons]
  split
  · rw [List.length_cons]; omega
  · omega

theorem insCount_le (log : List WalRec) : insCount log ≤ log.length := List.length_filter_le _ _

theorem insCount_append (a b : List WalRec) : insCount (a ++ b) = insCount a + insCount b := by
  unfold insCount
  rw [List.filter_append, List.length_append]


/-- the records `logs` were written between `s` and `s'`: one LSN each, and the INSERT records carry row
ids handed out in between -/
structure Logged (s s' : Store) (logs : List WalRec) : Prop where
  exact : s'.hdr.nextLSN = s.hdr.nextLSN + logs.length
  lsn : ∀ r ∈ logs, s.hdr.nextLSN ≤ r.lsn ∧ r.lsn < s'.hdr.nextLSN
  key : ∀ r ∈ logs, r.op = c_OpInsert → s.hdr.lastKey < r.cell ∧ r.cell ≤ s'.hdr.lastKey
  kexact : s'.hdr.lastKey = s.hdr.lastKey + insCount logs
  pages : s'.hdr.nextFree ≤ s.hdr.nextFree + 270336 * insCount logs

theorem insCount_single (r : WalRec) (h : r.op ≠ c_OpInsert) : insCount [r] = 0 := by
  have : (r.op == c_OpInsert) = false := by simpa using h
  simp only [insCount, List.filter_cons, this, Bool.false_eq_true, if_false, List.filter_nil, List.length_nil]

theorem Logged.nil {s s' : Store} (h : Adv s s' 0 0 0) : Logged s s' [] := by
  obtain ⟨e1, e2, e3⟩ := h.same
  exact ⟨by rw [e2]; rfl, fun _ hr => (by cases hr), fun _ hr => (by cases hr), by rw [e1]; rfl,
    by rw [e3]; exact Nat.le_refl _⟩

theorem Logged.append {a b c : Store} {l1 l2 : List WalRec} (h1 : Logged a b l1) (h2 : Logged b c l2)
    (hab : a.hdr.lastKey ≤ b.hdr.lastKey) (hbc : b.hdr.lastKey ≤ c.hdr.lastKey) : Logged a c (l1 ++ l2) := by
  refine ⟨?_, ?_, ?_, ?_, ?_⟩
  · rw [h2.exact, h1.exact, List.length_append]; omega
  · intro r hr
    have e1 := h1.exact
    have e2 := h2.exact
    rcases List.mem_append.mp hr with hr | hr
    · have := h1.lsn r hr; omega
    · have := h2.lsn r hr; omega
  · intro r hr hop
    rcases List.mem_append.mp hr with hr | hr
    · have := h1.key r hr hop; omega
    · have := h2.key r hr hop; omega
  · rw [h2.kexact, h1.kexact, insCount_append]; omega
  · have := h1.pages
    have := h2.pages
    rw [insCount_append]
    omega

theorem Logged.of_same {a a' b : Store} {logs : List WalRec} (h : Logged a' b logs) (hs : Adv a a' 0 0 0) :
    Logged a b logs := by
  obtain ⟨e1, e2, e3⟩ := hs.same
  exact ⟨by rw [← e2]; exact h.exact, fun r hr => by rw [← e2]; exact h.lsn r hr,
    fun r hr hop => by rw [← e1]; exact h.key r hr hop, by rw [← e1]; exact h.kexact,
    by rw [← e3]; exact h.pages⟩

theorem Logged.of_hdr {a a' b : Store} {logs : List WalRec} (h : Logged a' b logs) (e : a'.hdr = a.hdr) :
    Logged a b logs := by
  obtain ⟨h1, h2, h3, h4, h5⟩ := h
  rw [e] at h1 h2 h3 h4 h5
  exact ⟨h1, h2, h3, h4, h5⟩

theorem Logged.k_mono {a b : Store} {l : List WalRec} (h : Logged a b l) : a.hdr.lastKey ≤ b.hdr.lastKey := by
  rw [h.kexact]; exact Nat.le_add_right _ _

theorem Logged.insCount_eq {a b : Store} {l : List WalRec} (h : Logged a b l) {n : Nat}
    (hk : b.hdr.lastKey = a.hdr.lastKey + n) : insCount l = n :=
  Nat.add_left_cancel (h.kexact.symm.trans hk)

/-- one record, stamped with the LSN the counter had; an INSERT record carries the row id handed out for it -/
theorem Logged.single {s s' : Store} {r : WalRec} (hl : r.lsn = s.hdr.nextLSN)
    (hl' : s'.hdr.nextLSN = s.hdr.nextLSN + 1) (hk : s'.hdr.lastKey = s.hdr.lastKey + insCount [r])
    (hc : r.op = c_OpInsert → r.cell = s'.hdr.lastKey)
    (hf : s'.hdr.nextFree ≤ s.hdr.nextFree + 270336 * insCount [r]) : Logged s s' [r] := by
  refine ⟨hl', fun x hx => ?_, fun x hx hop => ?_, hk, hf⟩
  · obtain rfl := List.mem_singleton.mp hx
    omega
  · obtain rfl := List.mem_singleton.mp hx
    have h1 : insCount [x] = 1 := by rw [insCount_cons, hop]; rfl
    have := hc hop
    omega

/-- the result of a logged operation run from `s`: `Adv` on both outcomes, `Logged` of an accepted one -/
def ResL (s : Store) (r : SRes (List WalRec)) (dk dl df : Nat) : Prop :=
  match r with
  | .ok logs s' => Adv s s' dk dl df ∧ Logged s s' logs
  | .err _ s' => Adv s s' dk dl df
  | _ => True

/-- a logged operation: bounded advance on every outcome, `Logged` on success -/
def GrowsL (m : SM (List WalRec)) (dk dl df : Nat) : Prop := ∀ s, ResL s (m s) dk dl df

theorem GrowsL.grows {m : SM (List WalRec)} {dk dl df : Nat} (h : GrowsL m dk dl df) : Grows m dk dl df := by
  intro s
  have := h s
  cases e : m s with
  | ok a s' => rw [e] at this; exact this.1
  | err x s' => rw [e] at this; exact this
  | _ => trivial

theorem ResL.mono {s : Store} {r : SRes (List WalRec)} {k l f k' l' f' : Nat} (h : ResL s r k l f)
    (hk : k ≤ k') (hl : l ≤ l') (hf : f ≤ f') : ResL s r k' l' f' := by
  cases r with
  | ok logs s' => exact ⟨h.1.mono hk hl hf, h.2⟩
  | err x s' => exact Adv.mono h hk hl hf
  | _ => trivial

theorem resL_post {s : Store} {r : SRes (List WalRec)} {dk dl df : Nat} :
    ResL s r dk dl df ↔
      r.Post (fun logs s' => Adv s s' dk dl df ∧ Logged s s' logs) (fun s' => Adv s s' dk dl df) := by
  cases r <;> exact Iff.rfl

/-- **The rows of a statement, one after the other** (`rowsM`): the advances add up - `R n` bounds the advance
of `n` rows - and the logs are concatenated, so the run is `Logged` when every row is. -/
theorem rowsM_post {α} {op : α → SM (List WalRec)} {R : Nat → Store → Store → Prop} (h0 : ∀ s, R 0 s s)
    (hadd : ∀ {m n a b c}, R m a b → R n b c → R (m + n) a c) (hmono : ∀ {m n a b}, R m a b → m ≤ n → R n a b)
    (hop : ∀ a s, (op a s).Post (fun logs s' => R 1 s s' ∧ Logged s s' logs) (R 1 s)) :
    ∀ (l : List α) (s : Store),
      (rowsM op l s).Post (fun logs s' => R l.length s s' ∧ Logged s s' logs) (R l.length s)
  | [], s => ⟨h0 s, Logged.nil (Adv.refl s)⟩
  | a :: rest, s => by
    rw [rowsM_cons, List.length_cons, Nat.add_comm]
    refine .bind (hop a s) (fun s1 h => hmono h (Nat.le_add_right _ _)) fun l1 s1 h1 => ?_
    refine .bind (rowsM_post h0 hadd hmono hop rest s1) (fun s2 h => hadd h1.1 h) fun l2 s2 h2 => ?_
    exact ⟨hadd h1.1 h2.1, h1.2.append h2.2 h1.2.k_mono h2.2.k_mono⟩

def bumpLSN : SM Unit := modifyS fun s => { s with hdr := { s.hdr with nextLSN := s.hdr.nextLSN + 1 } }

/-- the end of every logged cell change: the LSN counter is bumped and the record, stamped with the LSN
taken before, is returned -/
theorem post_stamp (s0 s : Store) (hs : Adv s0 s 0 0 0) (r : WalRec) (hl : r.lsn = s0.hdr.nextLSN)
    (hop : r.op ≠ c_OpInsert) :
    ((bumpLSN >>= fun _ => (pure [r] : SM (List WalRec))) s).Post
      (fun logs s' => Adv s0 s' 0 1 0 ∧ Logged s0 s' logs) (fun s' => Adv s0 s' 0 1 0) := by
  obtain ⟨e1, e2, e3⟩ := hs.same
  show Adv s0 _ 0 1 0 ∧ Logged s0 _ [r]
  refine ⟨hs.trans (Adv.bumpLSN s), .single hl (congrArg (· + 1) e2) ?_ (fun h => absurd h hop) ?_⟩
  · rw [insCount_single r hop]; exact e1
  · rw [insCount_single r hop]; exact Nat.le_of_eq e3

theorem GrowsL.updatePageTable (newRoot : Nat) (name : Bytes) : GrowsL (updatePageTable newRoot name) 0 1 0 := by
  intro s
  have z : ∀ s1, Adv s s1 0 0 0 → Adv s s1 0 1 0 := fun _ h => h.of_still _ _ _
  rw [resL_post, updatePageTable_eq]
  show ((scanRight s.hdr.ptRoot >>= _) s).Post _ _
  refine .after (Still.scanRight _) (Adv.refl s) z fun cells s1 h1 => ?_
  refine .after (Still.findFirstM (fun _ => adv_rewrites.bind (adv_rewrites.decodeRow _ _) fun _ =>
    .ite (adv_rewrites.pure _) (adv_rewrites.pure _)) _) h1 z fun hit s2 h2 => ?_
  cases hit with
  | none => exact z _ h2
  | some cm =>
    obtain ⟨c, m⟩ := cm
    refine .after (Still.encodeRow _ _) h2 z fun buf s3 h3 => ?_
    show ((updateCellAt c.2 c.1.key buf s3.hdr.nextLSN >>= _) s3).Post _ _
    refine .after (Still.updateCellAt _ _ _ _) h3 z fun _ s4 h4 => ?_
    exact post_stamp s s4 h4 _ (by show s3.hdr.nextLSN = _; exact h3.same.2.1)
      (by show c_OpUpdate ≠ c_OpInsert; decide)

/-! ### INSERT of one row -/

/-- `BTree.insert` with the record its caller logs for it (whichever page it names): the record accounts for the
row id and the LSN the insert took -/
theorem btInsert_logged (bt : BT) (value : Bytes) (page : Nat) (s : Store) :
    (btInsert bt value s).Post
      (fun r s' => Adv s s' 1 1 270336 ∧ Logged s s' [(⟨c_OpInsert, r.2.2, page, r.2.1, value⟩ : WalRec)])
      (fun s' => Adv s s' 1 1 270336) := by
  have h := btInsert_counters bt value s
  cases e : btInsert bt value s with
  | ok r s' =>
    rw [e] at h
    obtain ⟨hadv, hk, hl, hr1, hr2⟩ := h
    exact ⟨hadv, .single hr2 hl hk (fun _ => hr1.trans hk.symm) hadv.f_le⟩
  | err x s' => rw [e] at h; exact h.1
  | _ => trivial

/-- **`RelationService.Insert`**, every outcome: at most one row id, at most two LSNs, at most 66 pages;
accepted: the records account for the counters (`Logged`: one INSERT record with the new row id, and the
catalog record if the root of the table moved) and exactly one of them is an INSERT record. -/
theorem insert_counters (table : Bytes) (cols : List String) (vals : List Val) (s : Store) :
    (Store.insert table cols vals s).Post
      (fun logs s' => Adv s s' 1 2 270336 ∧ Logged s s' logs ∧ insCount logs = 1)
      (fun s' => Adv s s' 1 2 270336) := by
  have z : ∀ s1, Adv s s1 0 0 0 → Adv s s1 1 2 270336 := fun _ h => h.of_still _ _ _
  rw [insert_eq]
  refine .after (Still.relationOffset _) (Adv.refl s) z fun off s1 h1 => ?_
  refine .after (Still.fetch _) h1 z fun _ s2 h2 => ?_
  refine .after (Still.relationSchema _) h2 z fun schema s3 h3 => ?_
  split
  · exact z _ h3
  · cases checkColumns schema (colsOf schema cols) with
    | some e => exact z _ h3
    | none =>
      simp only
      refine .after (Still.encodeRow _ _) h3 z fun buf s4 h4 => ?_
      refine .bind (btInsert_logged ⟨off⟩ buf off s4)
        (fun s5 h => (h4.trans h).mono (by omega) (by omega) (by omega)) fun r s5 ⟨hadv, hrec⟩ => ?_
      split
      · refine .bind (resL_post.mp (GrowsL.updatePageTable r.1.root table s5))
          (fun s6 h => (h4.trans (hadv.trans h)).mono (by omega) (by omega) (by omega)) fun logs s6 hu => ?_
        -- the catalog record took no row id
        have h0 : insCount logs = 0 := hu.2.insCount_eq (Nat.le_antisymm hu.1.k_le hu.1.k_mono)
        exact ⟨(h4.trans (hadv.trans hu.1)).mono (by omega) (by omega) (by omega),
          (hrec.append hu.2 hadv.k_mono hu.1.k_mono).of_same h4, by rw [insCount_cons, h0]; rfl⟩
      · exact ⟨(h4.trans hadv).mono (by omega) (by omega) (by omega), hrec.of_same h4, rfl⟩

theorem GrowsL.insert (table : Bytes) (cols : List String) (vals : List Val) :
    GrowsL (Store.insert table cols vals) 1 2 270336 := fun s =>
  resL_post.mpr ((insert_counters table cols vals s).mono (fun _ _ h => ⟨h.1, h.2.1⟩) fun _ h => h)

theorem insert_ok_count {table : Bytes} {cols : List String} {vals : List Val} {s s' : Store}
    {logs : List WalRec} (h : Store.insert table cols vals s = .ok logs s') : insCount logs = 1 := by
  have := insert_counters table cols vals s
  rw [h] at this
  exact this.2.2

/-! ### DELETE of one row id -/

/-- **`RelationService.MarkDeleted`**: one LSN, no row id, no page. -/
theorem GrowsL.markDeleted (table : Bytes) (rowId : Nat) : GrowsL (markDeleted table rowId) 0 1 0 := by
  intro s
  have z : ∀ s1, Adv s s1 0 0 0 → Adv s s1 0 1 0 := fun _ h => h.of_still _ _ _
  rw [resL_post, markDeleted_eq]
  refine .after (Still.relationOffset _) (Adv.refl s) z fun off s1 h1 => ?_
  refine .after (Still.fetch _) h1 z fun _ s2 h2 => ?_
  refine .after (Still.findLeaf _ _ _) h2 z fun l s3 h3 => ?_
  cases l.cells.find? (fun c => c.key == rowId) with
  | none => exact z _ h3
  | some c =>
    simp only
    split
    · exact z _ h3
    · show ((fetch l.off >>= _) s3).Post _ _
      refine .after (Still.fetch _) h3 z fun pg s4 h4 => ?_
      cases pg with
      | internal n => trivial
      | leaf l1 =>
        refine .after (Still.putNode _ _) h4 z fun _ s5 h5 => ?_
        refine .after (Still.markDirty _ _) h5 z fun _ s6 h6 => ?_
        exact post_stamp s s6 h6 _ (by show s3.hdr.nextLSN = _; exact h3.same.2.1)
          (by show c_OpDelete ≠ c_OpInsert; decide)

/-! ### UPDATE of one row id -/

/-- only the LSN counter moved (upwards): what UPDATE and DELETE do to the header -/
structure AdvL (s s' : Store) : Prop where
  k_eq : s'.hdr.lastKey = s.hdr.lastKey
  f_eq : s'.hdr.nextFree = s.hdr.nextFree
  l_mono : s.hdr.nextLSN ≤ s'.hdr.nextLSN
  dhdr : s'.dhdr = s.dhdr

theorem AdvL.refl (s : Store) : AdvL s s := ⟨rfl, rfl, Nat.le_refl _, rfl⟩

theorem AdvL.trans {a b c : Store} (h1 : AdvL a b) (h2 : AdvL b c) : AdvL a c :=
  ⟨h2.k_eq.trans h1.k_eq, h2.f_eq.trans h1.f_eq, Nat.le_trans h1.l_mono h2.l_mono, h2.dhdr.trans h1.dhdr⟩

theorem Adv.advL {a b : Store} {l : Nat} (h : Adv a b 0 l 0) : AdvL a b := by
  obtain ⟨a1, a2, a3, _, a5, a6, a7⟩ := h
  exact ⟨by omega, by omega, a3, a7⟩

theorem AdvL.adv {a b : Store} (h : AdvL a b) : Adv a b 0 (b.hdr.nextLSN - a.hdr.nextLSN) 0 := by
  obtain ⟨h1, h2, h3, h4⟩ := h
  exact ⟨by omega, by omega, h3, by omega, by omega, by omega, h4⟩

/-- the result of an UPDATE / DELETE operation: only the LSN counter moves; accepted: `Logged` -/
def ResU (s : Store) (r : SRes (List WalRec)) : Prop :=
  match r with
  | .ok logs s' => AdvL s s' ∧ Logged s s' logs
  | .err _ s' => AdvL s s'
  | _ => True

theorem resU_post {s : Store} {r : SRes (List WalRec)} :
    ResU s r ↔ r.Post (fun logs s' => AdvL s s' ∧ Logged s s' logs) (fun s' => AdvL s s') := by
  cases r <;> exact Iff.rfl

theorem ResL.resU {s : Store} {r : SRes (List WalRec)} {l : Nat} (h : ResL s r 0 l 0) : ResU s r :=
  resU_post.mpr ((resL_post.mp h).mono (fun _ _ h => ⟨h.1.advL, h.2⟩) fun _ h => h.advL)

/-- the loop body of `RelationService.Update`: a cell with another key is skipped, a cell with the key is
rewritten under one LSN -/
theorem GrowsL.updBody (schema : List FieldDef) (rowId : Nat) (cols : List String) (src : List Val)
    (c : LeafCell × Nat) : GrowsL (updBody schema rowId cols src c) 0 1 0 := by
  intro s
  have z : ∀ s1, Adv s s1 0 0 0 → Adv s s1 0 1 0 := fun _ h => h.of_still _ _ _
  rw [resL_post]
  unfold Store.updBody
  split
  · exact ⟨z _ (Adv.refl s), Logged.nil (Adv.refl _)⟩
  · refine .after (Still.decodeRow _ _) (Adv.refl s) z fun m s1 h1 => ?_
    refine .after (Still.encodeRow _ _) h1 z fun buf s2 h2 => ?_
    show ((updateCellAt c.2 c.1.key buf s2.hdr.nextLSN >>= _) s2).Post _ _
    refine .after (Still.updateCellAt _ _ _ _) h2 z fun _ s3 h3 => ?_
    exact post_stamp s s3 h3 _ (by show s2.hdr.nextLSN = _; exact h2.same.2.1)
      (by show c_OpUpdate ≠ c_OpInsert; decide)

/-- **`RelationService.Update`** (one row id): every cell of the scan that carries the id is rewritten
under its own LSN (exactly one in a well-formed table, but nothing is assumed here); row ids and pages do
not move; accepted: the LSN counter advanced by exactly the number of records returned. -/
theorem update_counters (table : Bytes) (rowId : Nat) (cols : List String) (src : List Val) (s : Store) :
    ResU s (update table rowId cols src s) := by
  have z : ∀ s1, Adv s s1 0 0 0 → AdvL s s1 := fun _ h => h.advL
  rw [resU_post, update_eq_stmt]
  refine .after (Still.relationOffset _) (Adv.refl s) z fun off s1 h1 => ?_
  refine .after (Still.fetch _) h1 z fun _ s2 h2 => ?_
  refine .after (Still.relationSchema _) h2 z fun schema s3 h3 => ?_
  cases checkColumns schema cols with
  | some e => exact z _ h3
  | none =>
    simp only
    refine .after (Still.scanRight _) h3 z fun cells s4 h4 => ?_
    -- the loop over the scanned cells is `rowsM` of the loop body
    exact (rowsM_post (R := fun _ a b => AdvL a b) AdvL.refl AdvL.trans (fun h _ => h)
      (fun c s => resU_post.mp (GrowsL.updBody schema rowId cols src c s).resU) cells s4).mono
      (fun _ _ h => ⟨h4.advL.trans h.1, h.2.of_same h4⟩) fun _ h => h4.advL.trans h

/-! ### the flush -/

/-- **A flush moves no counter and writes the header to the data file** (any store, any write order). -/
theorem flushPages_hdr (order : List Nat) (s : Store) :
    ∃ s', flushPages order s = .ok () s' ∧ s'.hdr = s.hdr ∧ s'.dhdr = s.hdr :=
  ⟨_, flushPages_flushed order s, flushed_hdr order s, flushed_dhdr order s⟩

/-! ### CREATE TABLE -/

/-- as `Adv`, but the header of the data file is either untouched or (after a flush) the new header -/
structure AdvF (s s' : Store) (dk dl df : Nat) : Prop where
  k_mono : s.hdr.lastKey ≤ s'.hdr.lastKey
  k_le : s'.hdr.lastKey ≤ s.hdr.lastKey + dk
  l_mono : s.hdr.nextLSN ≤ s'.hdr.nextLSN
  l_le : s'.hdr.nextLSN ≤ s.hdr.nextLSN + dl
  f_mono : s.hdr.nextFree ≤ s'.hdr.nextFree
  f_le : s'.hdr.nextFree ≤ s.hdr.nextFree + df
  dhdr : s'.dhdr = s.dhdr ∨ s'.dhdr = s'.hdr

theorem Adv.advF {s s' : Store} {dk dl df : Nat} (h : Adv s s' dk dl df) : AdvF s s' dk dl df :=
  ⟨h.k_mono, h.k_le, h.l_mono, h.l_le, h.f_mono, h.f_le, .inl h.dhdr⟩

theorem AdvF.mono {a b : Store} {k l f k' l' f' : Nat} (h : AdvF a b k l f) (hk : k ≤ k') (hl : l ≤ l')
    (hf : f ≤ f') : AdvF a b k' l' f' :=
  ⟨h.k_mono, Nat.le_trans h.k_le (Nat.add_le_add_left hk _), h.l_mono, Nat.le_trans h.l_le (Nat.add_le_add_left hl _),
    h.f_mono, Nat.le_trans h.f_le (Nat.add_le_add_left hf _), h.dhdr⟩

/-- the catalog row of the new table in `sys_pages`: one row id, one LSN, at most 66 pages -/
theorem Grows.insertPageTable (pageOff : Nat) (name : Bytes) : Grows (insertPageTable pageOff name) 1 1 270336 := by
  rw [insertPageTable_eq]
  refine Grows.after (Still.encodeRow _ _) fun buf => Grows.after Still.getS fun s0 =>
    Grows.after (Still.fetch _) fun _ => Grows.before (Grows.btInsert _ _) fun r => Still.bind Still.getS fun s1 => ?_
  refine Still.ite ?_ (Still.pure _)
  intro s
  exact ⟨Nat.le_refl _, Nat.le_refl _, Nat.le_refl _, Nat.le_refl _, Nat.le_refl _, Nat.le_refl _, rfl⟩

/-- the catalog rows of the columns in `sys_schema`: per column one row id, at most two LSNs (the row and,
when the root of `sys_schema` moved, the catalog record), at most 66 pages -/
theorem Grows.insertSchemaRows : ∀ (fields : List FieldDef) (name : Bytes) (root : Nat),
    Grows (insertSchemaRows fields name root) fields.length (2 * fields.length) (270336 * fields.length)
  | [], _, _ => Still.pure _
  | fd :: rest, name, root => by
    rw [insertSchemaRows_cons]
    refine Grows.after (Still.encodeRow _ _) fun buf => ?_
    refine (Grows.bind (Grows.btInsert _ _) fun r => ?_ :
      Grows _ (1 + rest.length) (1 + (1 + 2 * rest.length)) (270336 + 270336 * rest.length)).mono
      (by simp only [List.length_cons]; omega) (by simp only [List.length_cons]; omega)
      (by simp only [List.length_cons]; omega)
    refine Grows.ite ?_ ?_
    · exact (Grows.bind (GrowsL.updatePageTable _ _).grows fun _ => Grows.insertSchemaRows rest name _).mono
        (by omega) (by omega) (by omega)
    · exact (Grows.insertSchemaRows rest name root).mono (by omega) (by omega) (by omega)

/-- **The body of CREATE TABLE** (everything before its flush), for `n` columns: `n + 1` row ids,
`2 n + 1` LSNs, one page for the root of the table and at most 66 for each of the `n + 1` catalog rows. -/
theorem Grows.createBodyNF (fields : List FieldDef) (name : Bytes) :
    Grows (createBodyNF fields name) (fields.length + 1) (2 * fields.length + 1)
      (4096 + 270336 * (fields.length + 1)) := by
  unfold Store.createBodyNF
  refine (Grows.bind (Grows.appendNode _ _) fun pgOff => Grows.bind (Grows.insertPageTable pgOff name) fun _ =>
    Grows.after (Still.relationOffset _) fun r => Grows.after (Still.fetch _) fun _ =>
      Grows.insertSchemaRows fields name r).mono (by omega) (by omega) (by omega)

theorem Still.checkAbsent (name : Bytes) : Still (checkAbsent name) := by
  intro s
  have h := Grows.post (Still.relationOffset name) s
  unfold Store.checkAbsent
  cases e : Store.relationOffset name s with
  | ok a s1 => rw [e] at h; exact h
  | err x s1 => rw [e] at h; cases x <;> exact h
  | _ => trivial

/-- **`RelationService.CreateTable`**, every outcome: for `n` columns at most `n + 1` row ids, `2 n + 1`
LSNs and `1 + 66 (n + 1)` pages; a refusal before the body moves nothing; the final flush copies the header
to the data file. -/
theorem createTable_counters (fields : List FieldDef) (name : Bytes) (order : List Nat) (doFlush : Bool)
    (s : Store) :
    match createTable fields name order doFlush s with
    | .ok _ s' => AdvF s s' (fields.length + 1) (2 * fields.length + 1) (4096 + 270336 * (fields.length + 1))
    | .err _ s' => AdvF s s' (fields.length + 1) (2 * fields.length + 1) (4096 + 270336 * (fields.length + 1))
    | _ => True := by
  have z : ∀ s1, Adv s s1 0 0 0 →
      AdvF s s1 (fields.length + 1) (2 * fields.length + 1) (4096 + 270336 * (fields.length + 1)) :=
    fun _ h => (h.of_still _ _ _).advF
  suffices h : (createTable fields name order doFlush s).Post
      (fun _ s' => AdvF s s' (fields.length + 1) (2 * fields.length + 1) (4096 + 270336 * (fields.length + 1)))
      (fun s' => AdvF s s' (fields.length + 1) (2 * fields.length + 1) (4096 + 270336 * (fields.length + 1))) by
    cases e : createTable fields name order doFlush s <;> rw [e] at h <;> first | exact h | trivial
  rw [createTable_eq]
  refine .after (Still.checkAbsent name) (Adv.refl s) z fun _ s1 h1 => ?_
  cases checkFieldsFrom [] fields with
  | some y => exact z _ h1
  | none =>
    cases checkCatalogRows fields name with
    | some y => exact z _ h1
    | none =>
      have hb : ∀ s2, Adv s1 s2 (fields.length + 1) (2 * fields.length + 1) (4096 + 270336 * (fields.length + 1)) →
          Adv s s2 (fields.length + 1) (2 * fields.length + 1) (4096 + 270336 * (fields.length + 1)) :=
        fun _ h2 => (h1.trans h2).mono (by omega) (by omega) (by omega)
      refine .bind (Grows.post (Grows.createBodyNF fields name) s1) (fun s2 h2 => (hb s2 h2).advF) fun _ s2 h2 => ?_
      cases doFlush with
      | false => exact (hb s2 h2).advF
      | true =>
        -- the flush copies the header to the data file
        obtain ⟨s3, e3, hh, hd⟩ := flushPages_hdr order s2
        simp only [if_true]
        rw [e3]
        obtain ⟨a1, a2, a3, a4, a5, a6, _⟩ := hb s2 h2
        refine ⟨?_, ?_, ?_, ?_, ?_, ?_, .inr (by rw [hd, hh])⟩ <;> rw [hh] <;> assumption

end Mkdb.Store
end

section
set_option autoImplicit false
namespace Mkdb.Store
open Mkdb.Page Mkdb.Tuple Mkdb.Generated Mkdb.Tree Mkdb.Engine

theorem LiveRunM.logged {sch : Levels} {s sN : Store} {tbls tblsN : List (Bytes × Levels)} {stmts : List RStmt}
    {logs : List WalRec} (run : LiveRunM sch s tbls stmts sN tblsN logs) :
    Logged s sN logs ∧ s.hdr.nextFree ≤ sN.hdr.nextFree := by
  induction run with
  | nil s tbls => exact ⟨.nil (Adv.refl s), Nat.le_refl _⟩
  | same hs _ ih => exact ⟨ih.1.of_hdr hs.2, hs.2 ▸ ih.2⟩
  | @ins s _ _ _ _ _ _ _ table cols vals _ _ _ _ _ _ _ _ _ _ _ _ _ _ _ hrun _ ih =>
    have h := GrowsL.insert table cols vals s
    rw [hrun] at h
    exact ⟨h.2.append ih.1 h.1.k_mono ih.1.k_mono, Nat.le_trans h.1.f_mono ih.2⟩
  | @upd s _ _ _ _ _ _ _ table rowId cols src _ _ _ _ _ _ _ _ _ _ _ _ hrun _ ih =>
    have h := update_counters table rowId cols src s
    rw [hrun] at h
    exact ⟨h.2.append ih.1 (Nat.le_of_eq h.1.k_eq.symm) ih.1.k_mono, h.1.f_eq ▸ ih.2⟩
  | @updAbsent s _ _ _ _ _ _ _ table rowId cols src _ _ _ _ _ hrun _ ih =>
    have h := update_counters table rowId cols src s
    rw [hrun] at h
    exact ⟨h.2.append ih.1 (Nat.le_of_eq h.1.k_eq.symm) ih.1.k_mono, h.1.f_eq ▸ ih.2⟩
  | @del s _ _ _ _ _ _ _ table rowId _ _ _ _ _ hrun _ ih =>
    have h := GrowsL.markDeleted table rowId s
    rw [hrun] at h
    exact ⟨h.2.append ih.1 h.1.k_mono ih.1.k_mono, Nat.le_trans h.1.f_mono ih.2⟩

end Mkdb.Store
end
