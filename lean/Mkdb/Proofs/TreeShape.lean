import Mkdb.Proofs.BSearch
import Mkdb.Proofs.TreeLookup
/-!
Two consequences of the shape invariant that only C11 reads: the two leaf chains explicitly, and the
sortedness hypothesis of the binary search on every page.
-/

section
/-!
The two leaf chains of a well-formed tree, explicitly (C11: "the left-to-right leaf chain equal to the
leaves in tree order and the exact reverse of the right-to-left chain").

`Inv.chain` (`chainFrom`) states the doubly linked condition leaf by leaf.  Here the chains are *walked*
the way `scanRight`'s loop (`walkRight`, over `hasR` / `rSib`) and `scanLeft`'s loop (`walkLeft`, over
`hasL` / `lSib`) walk them, each sibling read from the tree's own pages.
-/
set_option autoImplicit false
namespace Mkdb.Tree
open Mkdb.Page Mkdb.Generated

def leafAt (t : Levels) (off : Nat) : Option Leaf := (t.leaves.find? (fun p => p.1.off == off)).map (·.1)

def walkRight (get : Nat → Option Leaf) : Nat → Leaf → List Leaf
  | 0, _ => []
  | fuel+1, l => l :: (if l.hasR then (match get l.rSib with | some r => walkRight get fuel r | none => []) else [])

def walkLeft (get : Nat → Option Leaf) : Nat → Leaf → List Leaf
  | 0, _ => []
  | fuel+1, l => l :: (if l.hasL then (match get l.lSib with | some r => walkLeft get fuel r | none => []) else [])

theorem leafAt_mem (t : Levels) (hnd : (t.leaves.map (·.1.off)).Nodup) (p : Leaf × Bool) (hp : p ∈ t.leaves) :
    leafAt t p.1.off = some p.1 := by
  obtain ⟨i, hi, rfl⟩ := List.mem_iff_getElem.mp hp
  unfold leafAt
  rw [Lookup.find_by_key (fun p : Leaf × Bool => p.1.off) t.leaves hnd i hi]
  rfl

/-! ### to the right -/

theorem walkRight_chain (get : Nat → Option Leaf) : ∀ (rest : List Leaf) (l : Leaf) (prev : Option Nat) (fuel : Nat),
    chainFrom prev (l :: rest) → (∀ m ∈ rest, get m.off = some m) → rest.length < fuel →
    walkRight get fuel l = l :: rest
  | [], l, prev, fuel, hc, _, hf => by
    obtain ⟨_, hr, _⟩ := hc
    cases fuel with
    | zero => omega
    | succ fuel =>
      simp only at hr
      simp only [walkRight, hr, Bool.false_eq_true, if_false]
  | m :: rest, l, prev, fuel, hc, hget, hf => by
    obtain ⟨_, hr, hrest⟩ := hc
    simp only at hr
    cases fuel with
    | zero => omega
    | succ fuel =>
      have ih := walkRight_chain get rest m (some l.off) fuel hrest
        (fun x hx => hget x (List.mem_cons_of_mem _ hx)) (by simp only [List.length_cons] at hf; omega)
      simp only [walkRight, hr.1, hr.2, if_true, hget m List.mem_cons_self, ih]

/-! ### to the left -/

def backChain (prev : Option Nat) : List Leaf → Prop
  | [] => True
  | [l] => (match prev with | none => l.hasL = false | some p => l.hasL = true ∧ l.lSib = p)
  | l :: a :: rest => l.hasL = true ∧ l.lSib = a.off ∧ backChain prev (a :: rest)

theorem backChain_snoc (prev : Option Nat) (l : Leaf)
    (hl : match prev with | none => l.hasL = false | some p => l.hasL = true ∧ l.lSib = p) :
    ∀ (R : List Leaf), backChain (some l.off) R → backChain prev (R ++ [l])
  | [], _ => hl
  | [_], h => ⟨h.1, h.2, hl⟩
  | _ :: a :: rest, h => ⟨h.1, h.2.1, backChain_snoc prev l hl (a :: rest) h.2.2⟩

theorem backChain_of_chain : ∀ (ls : List Leaf) (prev : Option Nat), chainFrom prev ls → backChain prev ls.reverse
  | [], _, _ => trivial
  | l :: rest, prev, h => by
    rw [List.reverse_cons]
    exact backChain_snoc prev l h.1 rest.reverse (backChain_of_chain rest (some l.off) h.2.2)

theorem walkLeft_chain (get : Nat → Option Leaf) : ∀ (rest : List Leaf) (l : Leaf) (fuel : Nat),
    backChain none (l :: rest) → (∀ m ∈ rest, get m.off = some m) → rest.length < fuel →
    walkLeft get fuel l = l :: rest
  | [], l, fuel, hc, _, hf => by
    cases fuel with
    | zero => omega
    | succ fuel =>
      have hc' : l.hasL = false := hc
      simp only [walkLeft, hc', Bool.false_eq_true, if_false]
  | m :: rest, l, fuel, hc, hget, hf => by
    obtain ⟨h1, h2, hrest⟩ := hc
    cases fuel with
    | zero => omega
    | succ fuel =>
      have ih := walkLeft_chain get rest m fuel hrest
        (fun x hx => hget x (List.mem_cons_of_mem _ hx)) (by simp only [List.length_cons] at hf; omega)
      simp only [walkLeft, h1, h2, if_true, hget m List.mem_cons_self, ih]

/-! ### on a well-formed tree -/

theorem walkRight_leaves (t : Levels) (nf : Nat) (hinv : Inv t nf) (first : Leaf × Bool)
    (hfirst : t.leaves.head? = some first) (extra : Nat) :
    walkRight (leafAt t) (t.leaves.length + extra) first.1 = t.leaves.map (·.1) := by
  obtain ⟨hnd, _⟩ := Lookup.offs_split t nf hinv.offs
  have hch := hinv.chain
  unfold ChainOK at hch
  cases hl : t.leaves with
  | nil => rw [hl] at hfirst; cases hfirst
  | cons p rest =>
    rw [hl] at hfirst hch
    simp only [List.head?_cons, Option.some.injEq] at hfirst
    subst hfirst
    simp only [List.map_cons] at hch ⊢
    apply walkRight_chain (leafAt t) _ _ none _ hch
    · intro m hm
      obtain ⟨q, hq, rfl⟩ := List.mem_map.mp hm
      exact leafAt_mem t hnd q (by rw [hl]; exact List.mem_cons_of_mem _ hq)
    · simp only [List.length_map, List.length_cons]; omega

theorem walkLeft_leaves (t : Levels) (nf : Nat) (hinv : Inv t nf) (last : Leaf × Bool)
    (hlast : t.leaves.getLast? = some last) (extra : Nat) :
    walkLeft (leafAt t) (t.leaves.length + extra) last.1 = (t.leaves.map (·.1)).reverse := by
  obtain ⟨hnd, _⟩ := Lookup.offs_split t nf hinv.offs
  have hch := backChain_of_chain _ _ hinv.chain
  obtain ⟨pre, hpre⟩ := List.getLast?_eq_some_iff.mp hlast
  have hrev : (t.leaves.map (·.1)).reverse = last.1 :: (pre.map (·.1)).reverse := by
    rw [hpre]; simp
  rw [hrev] at hch ⊢
  apply walkLeft_chain (leafAt t) _ _ _ hch
  · intro m hm
    rw [List.mem_reverse] at hm
    obtain ⟨q, hq, rfl⟩ := List.mem_map.mp hm
    exact leafAt_mem t hnd q (by rw [hpre]; exact List.mem_append_left _ hq)
  · rw [hpre]; simp only [List.length_reverse, List.length_map, List.length_append, List.length_singleton]; omega

end Mkdb.Tree
end

section
/-!
The shape invariant `Inv` gives the sortedness hypothesis of the binary-search theorem on every page:
leaf keys from `KeysAsc`; the separators of every internal node are a sublist of the stored keys
(`seps_sublist_keys`).
Hence `BSearch.search` on every page of a well-formed tree is `Store.findPos` (`BSearch.search_sorted_package`).
-/
namespace Mkdb.Tree
open Mkdb.Page Mkdb.Generated

def nodeKeys : Node → List Nat
  | .leaf l => Mkdb.Store.keysOfLeaf l
  | .internal n => Mkdb.Store.keysOfInternal n

theorem inv_leaf_sorted (t : Levels) (nf : Nat) (h : Inv t nf) :
    ∀ l ∈ t.leaves, (l.1.cells.map (·.key)).Pairwise (· < ·) :=
  fun l hl => List.pairwise_map.mpr ((Lookup.keysAsc_split t h.asc).1 l hl)

theorem inv_internal_sorted (t : Levels) (nf : Nat) (h : Inv t nf) :
    ∀ lvl ∈ t.inner, ∀ n ∈ lvl, (n.1.cells.map (·.key)).Pairwise (· < ·) :=
  fun _ hl _ hn => List.Pairwise.sublist (seps_sublist_keys h hl hn) h.asc

theorem inv_page_sorted (t : Levels) (nf : Nat) (h : Inv t nf) :
    ∀ e ∈ flatten t, (nodeKeys e.2.1).Pairwise (· < ·) := by
  intro e he
  simp only [flatten, List.mem_append, List.mem_map, List.mem_flatMap] at he
  rcases he with ⟨p, hp, rfl⟩ | ⟨lvl, hl, p, hp, rfl⟩
  · exact inv_leaf_sorted t nf h p hp
  · exact inv_internal_sorted t nf h lvl hl p hp

end Mkdb.Tree

end
