import Lean.Meta.Tactic.Simp.RegisterCommand

/-- unfolding rules for the size and depth measures on the SQL AST -/
register_simp_attr sz_simp
