import Mkdb.Model.Engine
import Mkdb.Proofs.HeapView
import Mkdb.Proofs.MemFiledInsert
/-!
# `flushPages` on a store whose cache is well filed (`MemFiled`)

The flush cannot fail: its result is the store `flushed order s`, and the facts are facts about that term
(`flushed_spec`, `flushed_disk`): every page is seen afterwards as before with its dirty bit cleared, nothing in the
cache is dirty, the header on disk is the header in memory, and every page that was dirty is on disk.  The cache may
hold several entries under one key (`assocGet` sees the first, `assocSet` rewrites all of them); nothing here assumes
keys to be distinct.  The second part: `MemFiled` is kept by the scans, the rewrite of a cell and of a catalog row, the
flush and `createTable` (`KeepsFiled`; the primitives, the B-tree insert and `insert` are in `MemFiledInsert`).
-/

section
set_option autoImplicit false
namespace Mkdb.Store
open Mkdb.Page Mkdb.Tuple Mkdb.Generated Mkdb.Tree

/-- one page write of the flush -/
def flushStep (s : Store) (off : Nat) : Store :=
  match assocGet s.mem off with
  | some m => { s with disk := assocSet s.disk (nodeOff m.node) m.node, mem := assocSet s.mem off ⟨m.node, false⟩ }
  | none => s

/-- the offsets the flush writes, in order -/
def flushOrd (order : List Nat) (s : Store) : List Nat :=
  (order.filter fun o => ((s.mem.filter fun p => p.2.dirty).map (·.1)).contains o) ++
    (((s.mem.filter fun p => p.2.dirty).map (·.1)).filter fun o => !order.contains o)

/-- the store after `flushPages order`: the flush cannot fail, its result is a function of the store -/
def flushed (order : List Nat) (s : Store) : Store :=
  { (flushOrd order s).foldl flushStep s with dhdr := ((flushOrd order s).foldl flushStep s).hdr }

theorem flushPages_flushed (order : List Nat) (s : Store) : flushPages order s = .ok () (flushed order s) := by
  rfl

theorem flush_flushed (db : Engine.DB) (order : List Nat) :
    Engine.flush db order = .ok () { db with store := flushed order db.store } := rfl

def clr (x : Node × Bool) : Node × Bool := (x.1, false)

/-! ### one step -/

theorem flushStep_hdr (s : Store) (a : Nat) : (flushStep s a).hdr = s.hdr := by
  unfold flushStep; split <;> rfl
theorem flushStep_dhdr (s : Store) (a : Nat) : (flushStep s a).dhdr = s.dhdr := by
  unfold flushStep; split <;> rfl
theorem flushStep_ghost (s : Store) (a : Nat) : (flushStep s a).ghost = s.ghost := by
  unfold flushStep; split <;> rfl

theorem flushStep_mem_get (s : Store) (a o : Nat) :
    assocGet (flushStep s a).mem o =
      if o = a then (assocGet s.mem a).map (fun m => (⟨m.node, false⟩ : MNode)) else assocGet s.mem o := by
  unfold flushStep
  cases hm : assocGet s.mem a with
  | none =>
    by_cases ho : o = a
    · simp only [ho, if_true, hm, Option.map_none]
    · simp only [ho, if_false]
  | some m =>
    simp only [assocGet_assocSet]
    by_cases ho : o = a
    · simp only [ho, if_true, Option.map_some]
    · simp only [ho, if_false]

theorem flushStep_disk_get (s : Store) (hf : MemFiled s) (a o : Nat) :
    assocGet (flushStep s a).disk o =
      if o = a then (match assocGet s.mem a with | some m => some m.node | none => assocGet s.disk a)
      else assocGet s.disk o := by
  unfold flushStep
  cases hm : assocGet s.mem a with
  | none =>
    by_cases ho : o = a
    · simp only [ho, if_true]
    · simp only [ho, if_false]
  | some m =>
    have hoff : nodeOff m.node = a := hf _ (assocGet_some hm)
    simp only [assocGet_assocSet, hoff]

theorem flushStep_view (s : Store) (hf : MemFiled s) (a o : Nat) :
    view (flushStep s a) o = if o = a then (view s a).map clr else view s o := by
  unfold view
  rw [flushStep_mem_get, flushStep_disk_get s hf]
  by_cases ho : o = a
  · simp only [ho, if_true]
    cases hm : assocGet s.mem a with
    | some m => rfl
    | none =>
      simp only [Option.map_none, Option.map_map]
      cases assocGet s.disk a <;> rfl
  · simp only [ho, if_false]

theorem flushStep_filed (s : Store) (hf : MemFiled s) (a : Nat) : MemFiled (flushStep s a) := by
  unfold flushStep
  cases hm : assocGet s.mem a with
  | none => exact hf
  | some m => exact hf.set (v := ⟨m.node, false⟩) (hf.get (m := m) hm) rfl

theorem flushStep_dirty (s : Store) (a : Nat) (p : Nat × MNode) (hp : p ∈ (flushStep s a).mem)
    (hd : p.2.dirty = true) : p ∈ s.mem ∧ p.1 ≠ a := by
  unfold flushStep at hp
  cases hm : assocGet s.mem a with
  | none =>
    rw [hm] at hp
    exact ⟨hp, assocGet_none hm p hp⟩
  | some m =>
    rw [hm] at hp
    simp only [assocSet_of_some _ hm, List.mem_map] at hp
    obtain ⟨q, hq, rfl⟩ := hp
    by_cases hk : (q.1 == a) = true
    · simp only [hk, if_true] at hd
      cases hd
    · simp only [hk] at hd ⊢
      exact ⟨hq, by simpa using hk⟩

/-! ### the fold -/

theorem flushFold_hdr : ∀ (l : List Nat) (s : Store), (l.foldl flushStep s).hdr = s.hdr
  | [], _ => rfl
  | a :: l, s => by rw [List.foldl_cons, flushFold_hdr l, flushStep_hdr]
theorem flushFold_dhdr : ∀ (l : List Nat) (s : Store), (l.foldl flushStep s).dhdr = s.dhdr
  | [], _ => rfl
  | a :: l, s => by rw [List.foldl_cons, flushFold_dhdr l, flushStep_dhdr]
theorem flushFold_ghost : ∀ (l : List Nat) (s : Store), (l.foldl flushStep s).ghost = s.ghost
  | [], _ => rfl
  | a :: l, s => by rw [List.foldl_cons, flushFold_ghost l, flushStep_ghost]

theorem flushFold_filed : ∀ (l : List Nat) (s : Store), MemFiled s → MemFiled (l.foldl flushStep s)
  | [], _, h => h
  | a :: l, s, h => by rw [List.foldl_cons]; exact flushFold_filed l _ (flushStep_filed s h a)

theorem clr_clr (x : Option (Node × Bool)) : (x.map clr).map clr = x.map clr := by
  cases x <;> rfl

theorem flushFold_view : ∀ (l : List Nat) (s : Store), MemFiled s → ∀ o,
    view (l.foldl flushStep s) o = if o ∈ l then (view s o).map clr else view s o
  | [], _, _, _ => by simp only [List.foldl_nil, List.not_mem_nil, if_false]
  | a :: l, s, h, o => by
    rw [List.foldl_cons, flushFold_view l _ (flushStep_filed s h a) o, flushStep_view s h]
    by_cases ho : o = a
    · subst ho
      simp only [if_true, List.mem_cons, true_or, clr_clr, ite_self]
    · simp only [ho, if_false, List.mem_cons, false_or]

theorem flushFold_dirty : ∀ (l : List Nat) (s : Store) (p : Nat × MNode), p ∈ (l.foldl flushStep s).mem →
    p.2.dirty = true → p ∈ s.mem ∧ p.1 ∉ l
  | [], _, _, hp, _ => ⟨hp, List.not_mem_nil⟩
  | a :: l, s, p, hp, hd => by
    rw [List.foldl_cons] at hp
    obtain ⟨h1, h2⟩ := flushFold_dirty l _ p hp hd
    obtain ⟨h3, h4⟩ := flushStep_dirty s a p h1 hd
    refine ⟨h3, ?_⟩
    simp only [List.mem_cons, not_or]
    exact ⟨h4, h2⟩

theorem mem_flushOrd (order : List Nat) (s : Store) (p : Nat × MNode) (hp : p ∈ s.mem)
    (hd : p.2.dirty = true) : p.1 ∈ flushOrd order s := by
  have hdo : p.1 ∈ (s.mem.filter fun p => p.2.dirty).map (·.1) :=
    List.mem_map.mpr ⟨p, List.mem_filter.mpr ⟨hp, hd⟩, rfl⟩
  unfold flushOrd
  rw [List.mem_append, List.mem_filter, List.mem_filter]
  by_cases ho : p.1 ∈ order
  · exact .inl ⟨ho, by simpa using hdo⟩
  · exact .inr ⟨hdo, by simpa using ho⟩

theorem view_dirty {s : Store} {o : Nat} {n : Node} (h : view s o = some (n, true)) :
    ∃ m, assocGet s.mem o = some m ∧ m.node = n ∧ m.dirty = true := by
  unfold view at h
  cases hm : assocGet s.mem o with
  | some m =>
    rw [hm] at h
    simp only [Option.some.injEq, Prod.mk.injEq] at h
    exact ⟨m, rfl, h.1, h.2⟩
  | none =>
    rw [hm] at h
    simp only [Option.map_eq_some_iff, Prod.mk.injEq] at h
    obtain ⟨_, _, _, h'⟩ := h
    cases h'

/-! ### the flush -/

theorem flushed_hdr (order : List Nat) (s : Store) : (flushed order s).hdr = s.hdr := flushFold_hdr _ s

theorem flushed_dhdr (order : List Nat) (s : Store) : (flushed order s).dhdr = s.hdr := flushFold_hdr _ s

theorem flushed_spec (order : List Nat) (s : Store) (hf : MemFiled s) :
    (flushed order s).hdr = s.hdr ∧ (flushed order s).dhdr = s.hdr ∧ (flushed order s).ghost = s.ghost ∧
      MemFiled (flushed order s) ∧
      (∀ off, view (flushed order s) off = (view s off).map fun x => (x.1, false)) ∧
      (∀ p ∈ (flushed order s).mem, p.2.dirty = false) := by
  refine ⟨flushed_hdr order s, flushed_dhdr order s, flushFold_ghost _ s, flushFold_filed _ s hf, ?_, ?_⟩
  · intro off
    show view ((flushOrd order s).foldl flushStep s) off = (view s off).map clr
    rw [flushFold_view _ s hf]
    split
    · rfl
    · rename_i hno
      cases hv : view s off with
      | none => rfl
      | some x =>
        obtain ⟨n, d⟩ := x
        cases d with
        | false => rfl
        | true =>
          obtain ⟨m, hm, _, hd⟩ := view_dirty hv
          exact absurd (mem_flushOrd order s (off, m) (assocGet_some hm) hd) hno
  · intro p hp
    cases hd : p.2.dirty with
    | false => rfl
    | true =>
      obtain ⟨h1, h2⟩ := flushFold_dirty _ s p hp hd
      exact absurd (mem_flushOrd order s p h1 hd) h2

/-! ### what is on disk afterwards -/

theorem flushFold_disk : ∀ (l : List Nat) (s : Store), MemFiled s → ∀ o,
    assocGet (l.foldl flushStep s).disk o =
      if o ∈ l then (match assocGet s.mem o with | some m => some m.node | none => assocGet s.disk o)
      else assocGet s.disk o
  | [], _, _, _ => by simp only [List.foldl_nil, List.not_mem_nil, if_false]
  | a :: l, s, h, o => by
    rw [List.foldl_cons, flushFold_disk l _ (flushStep_filed s h a) o, flushStep_mem_get,
      flushStep_disk_get s h]
    by_cases ho : o = a
    · subst ho
      simp only [if_true, List.mem_cons, true_or]
      cases hm : assocGet s.mem o with
      | some m => simp only [Option.map_some, ite_self]
      | none => simp only [Option.map_none, ite_self]
    · simp only [ho, if_false, List.mem_cons, false_or]

theorem flushed_disk (order : List Nat) (s : Store) (hf : MemFiled s) :
    (∀ off n, view s off = some (n, true) → assocGet (flushed order s).disk off = some n) ∧
    (∀ off, assocGet s.mem off = none → assocGet (flushed order s).disk off = assocGet s.disk off) := by
  refine ⟨?_, ?_⟩
  · intro off n hv
    obtain ⟨m, hm, hn, hd⟩ := view_dirty hv
    show assocGet ((flushOrd order s).foldl flushStep s).disk off = some n
    rw [flushFold_disk _ s hf, if_pos (mem_flushOrd order s (off, m) (assocGet_some hm) hd), hm]
    simp only [hn]
  · intro off hm
    show assocGet ((flushOrd order s).foldl flushStep s).disk off = assocGet s.disk off
    rw [flushFold_disk _ s hf, hm]
    simp only [ite_self]

end Mkdb.Store
end

section
/-! ## `MemFiled` is kept -/
set_option autoImplicit false
namespace Mkdb.Store
open Mkdb.Page Mkdb.Tuple Mkdb.Generated Mkdb.Tree

theorem KeepsFiled.scanLeaves : ∀ (fuel : Nat) (l : Leaf), KeepsFiled (scanLeaves fuel l) :=
  fun _ _ => keepsFiled_iff.mpr (memFiled_writes.scanLeaves _ _)

theorem KeepsFiled.scanRight (root : Nat) : KeepsFiled (scanRight root) :=
  keepsFiled_iff.mpr (memFiled_writes.scanRight _)

theorem KeepsFiled.updateCellAt (off key : Nat) (value : Bytes) (lsn : Nat) :
    KeepsFiled (updateCellAt off key value lsn) :=
  keepsFiled_iff.mpr (memFiled_writes.updateCellAt _ _ _ _)

theorem KeepsFiled.updatePageTable (newRoot : Nat) (name : Bytes) :
    KeepsFiled (updatePageTable newRoot name) :=
  keepsFiled_iff.mpr (memFiled_writes.updatePageTable _ _)

theorem KeepsFiled.flushPages (order : List Nat) : KeepsFiled (flushPages order) := by
  intro s hf
  rw [flushPages_flushed]
  exact (flushFold_filed _ s hf).of_mem_eq rfl

theorem KeepsFiled.createTable (fields : List FieldDef) (name : Bytes) (order : List Nat) (doFlush : Bool) :
    KeepsFiled (createTable fields name order doFlush) :=
  keepsFiled_iff.mpr (memFiled_writes.writes.createTable fields name order doFlush
    (memFiled_writes.checkAbsent name) fun _ => keepsFiled_iff.mp (KeepsFiled.flushPages _))

theorem createTable_memFiled {fields : List FieldDef} {name : Bytes} {order : List Nat} {doFlush : Bool}
    {s s' : Store} (hf : MemFiled s)
    (h : createTable fields name order doFlush s = .ok () s') : MemFiled s' :=
  (KeepsFiled.createTable fields name order doFlush).ok hf h

end Mkdb.Store
end
