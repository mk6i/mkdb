import Mkdb.Proofs.RedoLink
import Mkdb.Proofs.TornPages
/-!
Histories of page-local steps.

`StepC`: what one logged record does to the leaf pages when nothing is allocated: an INSERT record
appends its cell to the last leaf page of the table, an UPDATE / DELETE record rewrites the cell in the
leaf page it names; the record's LSN is newer than every page of the tree.  `Hist`: a history
`c 0, c 1, …, c N` of leaf pages over a frozen skeleton `D0`, one `StepC` per log record, with a store
holding each catalog description `fillT (c j) D0`.  Along a history a page only moves forward
(`LeafEv`, `Hist.ev`), the key list of a leaf that is not the last of its tree never changes
(`Hist.keys_const`), and after the step of record `j` its page carries the record's LSN and, for an
INSERT, its key, for good (`Hist.at_step`).
-/
set_option autoImplicit false
namespace Mkdb.Store
open Mkdb.Page Mkdb.Tuple Mkdb.Generated Mkdb.Tree Mkdb.Engine

/-- the change of the page `l` at offset `o` of the tree (skeleton `t0`, pages `c`) that a record logs -/
inductive StepKind (nf : Nat) (c : Pages) (t0 : Levels) (o : Nat) (l : Leaf) : WalRec → Leaf → Prop
  | ins (pre : List (Leaf × Bool)) (p0 : Leaf × Bool) (key lsn : Nat) (buf : Bytes)
      (hl : t0.leaves = pre ++ [p0]) (ho : p0.1.off = o)
      (hfresh : ∀ x ∈ cells (fill c t0), x.key < key) (hv : buf.length ≤ c_maxValueSize)
      (hcap : (leafApp l key lsn buf).cells.length < c_maxLeafNodeCells)
      (hbig : (nf : Int) ≤ 9223372036854775807) :
      StepKind nf c t0 o l ⟨c_OpInsert, lsn, rootOff t0, key, buf⟩ (leafApp l key lsn buf)
  | upd (key lsn : Nat) (buf : Bytes) (hany : l.cells.any (fun x => x.key == key) = true)
      (hv : buf.length ≤ c_maxValueSize) :
      StepKind nf c t0 o l ⟨c_OpUpdate, lsn, o, key, buf⟩
        { l with cells := l.cells.map (Tree.updCell (fun x => { x with val := buf }) key), lsn := lsn }
  | del (key lsn : Nat) (hany : l.cells.any (fun x => x.key == key) = true) :
      StepKind nf c t0 o l ⟨c_OpDelete, lsn, o, key, []⟩
        { l with cells := l.cells.map (Tree.updCell (fun x => { x with deleted := true }) key), lsn := lsn }

/-- one record: the page at `o`, a leaf of the table `table`, changes from `l` to `l'` (now dirty) -/
def StepC (D0 : List (Bytes × Levels)) (nf : Nat) (c : Pages) (r : WalRec) (c' : Pages) : Prop :=
  ∃ table t0 o l d l', (table, t0) ∈ D0 ∧ o ∈ leafOffs t0 ∧ c o = (l, d) ∧ c' = setAt c o (l', true) ∧
    (∀ x ∈ flatten (fill c t0), nodeLSN x.2.1 < r.lsn) ∧ StepKind nf c t0 o l r l'

/-- **A history without page allocation**: the catalog `pt`, `sch` and the skeleton `D0` of the user
tables are frozen, the allocation frontier is `nf`, no row-id counter exceeds `K`.  (`K`: on a torn image the
pages are ahead of the header, so the replay is followed on the store with the counter raised to `K` and
carried back at the end: `torn_image_replay`.) -/
structure Hist (pt sch : Levels) (D0 : List (Bytes × Levels)) (nf K : Nat) (log : List WalRec)
    (c : Nat → Pages) : Prop where
  names : (D0.map (·.1)).Nodup
  disj : D0.Pairwise (fun a b => ∀ o ∈ offs a.2, o ∉ offs b.2)
  lnd : ∀ e ∈ D0, (leafOffs e.2).Nodup
  pos : ∀ e ∈ D0, 0 < rootOff e.2
  filed : ∀ j, j ≤ log.length → ∀ e ∈ D0, PFiled (c j) e.2
  snap : ∀ j, j ≤ log.length → ∃ s, Cat s pt sch (fillT (c j) D0) ∧ s.hdr.nextFree = nf ∧ s.hdr.lastKey ≤ K
  step : ∀ j (h : j < log.length), StepC D0 nf (c j) log[j] (c (j + 1))

def keysOf (p : Leaf × Bool) : List Nat := p.1.cells.map (·.key)

theorem keys_fill (cm : Pages) (t : Levels) : keys (fill cm t) = t.leaves.flatMap fun p => keysOf (cm p.1.off) := by
  simp only [keys, cells, fill_leaves, List.flatMap_map, List.map_flatMap, keysOf]

/-- what a later version of a page keeps -/
structure LeafEv (p q : Leaf × Bool) : Prop where
  hdr : hdr5 q.1 = hdr5 p.1
  lsn : p.1.lsn ≤ q.1.lsn
  keys : ∀ k ∈ keysOf p, k ∈ keysOf q

theorem LeafEv.refl (p : Leaf × Bool) : LeafEv p p := ⟨rfl, Nat.le_refl _, fun _ h => h⟩

theorem LeafEv.trans {p q r : Leaf × Bool} (h1 : LeafEv p q) (h2 : LeafEv q r) : LeafEv p r :=
  ⟨h2.hdr.trans h1.hdr, Nat.le_trans h1.lsn h2.lsn, fun k hk => h2.keys k (h1.keys k hk)⟩

theorem keysOf_cellLeaf (f : LeafCell → LeafCell) (hf : ∀ x, (f x).key = x.key) (l : Leaf) (key lsn : Nat) (d d' : Bool) :
    keysOf (RedoLink.cellLeaf f lsn key l, d') = keysOf (l, d) := by
  unfold keysOf RedoLink.cellLeaf
  simp only [List.map_map]
  apply List.map_congr_left
  intro x _
  exact Tree.updCell_key f key hf x

section
variable {nf : Nat} {c : Pages} {t0 : Levels} {o : Nat} {l l' : Leaf} {r : WalRec}

/-- **A step is the append of a row to the last leaf, or the change of one cell** - UPDATE and DELETE are
one case, the record a `RedoLink.CellRec` that names the page itself. -/
@[elab_as_elim]
theorem StepKind.cellCases {motive : (r : WalRec) → (l' : Leaf) → StepKind nf c t0 o l r l' → Prop}
    (ins : ∀ (pre : List (Leaf × Bool)) (p0 : Leaf × Bool) (key lsn : Nat) (buf : Bytes)
      (hl : t0.leaves = pre ++ [p0]) (ho : p0.1.off = o) (hfresh : ∀ x ∈ cells (fill c t0), x.key < key)
      (hv : buf.length ≤ c_maxValueSize) (hcap : (leafApp l key lsn buf).cells.length < c_maxLeafNodeCells)
      (hbig : (nf : Int) ≤ 9223372036854775807), motive _ _ (.ins pre p0 key lsn buf hl ho hfresh hv hcap hbig))
    (cell : ∀ (rec : WalRec) (f : LeafCell → LeafCell) (_ : RedoLink.CellRec rec f) (_ : rec.page = o)
      (_ : l.cells.any (fun x => x.key == rec.cell) = true) (h : StepKind nf c t0 o l rec (RedoLink.cellLeaf f rec.lsn rec.cell l)),
      motive rec (RedoLink.cellLeaf f rec.lsn rec.cell l) h)
    (r : WalRec) (l' : Leaf) (h : StepKind nf c t0 o l r l') : motive r l' h := by
  cases h with
  | ins pre p0 key lsn buf hl ho hfresh hv hcap hbig => exact ins pre p0 key lsn buf hl ho hfresh hv hcap hbig
  | upd key lsn buf hany hv =>
    exact cell ⟨c_OpUpdate, lsn, o, key, buf⟩ _ (.inl ⟨rfl, hv, rfl⟩) rfl hany (.upd key lsn buf hany hv)
  | del key lsn hany => exact cell ⟨c_OpDelete, lsn, o, key, []⟩ _ (.inr ⟨rfl, rfl⟩) rfl hany (.del key lsn hany)

/-- the converse of the `cell` case; a DELETE record carries no value -/
theorem StepKind.cell {f : LeafCell → LeafCell} (hr : RedoLink.CellRec r f) (hpage : r.page = o)
    (hany : l.cells.any (fun x => x.key == r.cell) = true) (hdel : r.op = c_OpDelete → r.val = []) :
    StepKind nf c t0 o l r (RedoLink.cellLeaf f r.lsn r.cell l) := by
  obtain ⟨op, lsn, page, cell, val⟩ := r
  subst hpage
  rcases hr with ⟨hop, hlen, rfl⟩ | ⟨hop, rfl⟩
  · obtain rfl : op = c_OpUpdate := hop
    exact .upd cell lsn val hany hlen
  · obtain rfl : op = c_OpDelete := hop
    obtain rfl : val = [] := hdel rfl
    exact .del cell lsn hany

theorem StepKind.keys (h : StepKind nf c t0 o l r l') (d d' : Bool) :
    keysOf (l', d') = keysOf (l, d) ∨
      (keysOf (l', d') = keysOf (l, d) ++ [r.cell] ∧ ∃ pre p0, t0.leaves = pre ++ [p0] ∧ p0.1.off = o) := by
  induction r, l', h using StepKind.cellCases with
  | ins pre p0 key lsn buf hl ho _ _ _ _ => exact .inr ⟨by simp [keysOf, leafApp], pre, p0, hl, ho⟩
  | cell rec f hcr _ _ _ => exact .inl (keysOf_cellLeaf f hcr.key l _ _ d d')

theorem StepKind.lsn_eq (h : StepKind nf c t0 o l r l') : l'.lsn = r.lsn := by
  cases h <;> rfl

end

theorem StepKind.off_eq {nf : Nat} {c : Pages} {t0 : Levels} {o : Nat} {l l' : Leaf} {r : WalRec} (h : StepKind nf c t0 o l r l') :
    l'.off = l.off := by
  cases h <;> rfl

theorem StepKind.ev {nf : Nat} {c : Pages} {t0 : Levels} {o : Nat} {l l' : Leaf} {r : WalRec} (h : StepKind nf c t0 o l r l')
    (d : Bool) (hl : l.lsn < r.lsn) : LeafEv (l, d) (l', true) := by
  refine ⟨?_, ?_, ?_⟩
  · cases h <;> rfl
  · rw [h.lsn_eq]
    exact Nat.le_of_lt hl
  · intro k hk
    rcases h.keys d true with e | ⟨e, _⟩ <;> rw [e]
    · exact hk
    · exact List.mem_append_left _ hk

/-- **One page of a filed skeleton changes by a `StepKind`**: that is a `StepC`, the new pages are filed, and the
description changes in the tree of the page's table only. -/
theorem StepKind.stepC {D0 : List (Bytes × Levels)} {nf : Nat} {c : Pages} (hsk : Skel D0) (hf0 : ∀ e ∈ D0, PFiled c e.2)
    {table : Bytes} {t0 : Levels} {o : Nat} {l l' : Leaf} {d : Bool} {r : WalRec} (hk : StepKind nf c t0 o l r l')
    (ht : (table, t0) ∈ D0) (ho : o ∈ leafOffs t0) (hc : c o = (l, d))
    (hlsn : ∀ x ∈ flatten (fill c t0), nodeLSN x.2.1 < r.lsn) :
    StepC D0 nf c r (setAt c o (l', true)) ∧ (∀ e ∈ D0, PFiled (setAt c o (l', true)) e.2) ∧
      setTable (fillT c D0) table (fill (setAt c o (l', true)) t0) = fillT (setAt c o (l', true)) D0 :=
  ⟨⟨table, t0, o, l, d, l', ht, ho, hc, rfl, hlsn, hk⟩,
    fun e he => (hf0 e he).setAt (hk.off_eq.trans ((hf0 _ ht).off ho hc)), setTable_fill_setAt hsk ht ho c _⟩

theorem steps_chain {c : Nat → Pages} {n : Nat} {R : Pages → Pages → Prop} (hr : ∀ a, R a a)
    (ht : ∀ {a b d}, R a b → R b d → R a d) (hs : ∀ j, j < n → R (c j) (c (j + 1))) {j j' : Nat}
    (hjj : j ≤ j') (hj' : j' ≤ n) : R (c j) (c j') := by
  obtain ⟨m, rfl⟩ := Nat.exists_eq_add_of_le hjj
  induction m with
  | zero => exact hr _
  | succ m ih => exact ht (ih (Nat.le_add_right _ _) (by omega)) (hs _ (by omega))

section
variable {pt sch : Levels} {D0 : List (Bytes × Levels)} {nf K : Nat} {log : List WalRec} {c : Nat → Pages}

theorem Hist.step_off (H : Hist pt sch D0 nf K log c) {j : Nat} (hj : j ≤ log.length) {table : Bytes} {t0 : Levels}
    (ht : (table, t0) ∈ D0) {o : Nat} (ho : o ∈ leafOffs t0) : (c j o).1.off = o :=
  (H.filed j hj _ ht).off ho rfl

theorem Hist.ev_step (H : Hist pt sch D0 nf K log c) {j : Nat} (hj : j < log.length) (o : Nat) :
    LeafEv (c j o) (c (j + 1) o) := by
  obtain ⟨table, t0, o', l, d, l', ht, ho', hc, hc', hlsn, hk⟩ := H.step j hj
  rw [hc']
  by_cases e : o = o'
  · subst e
    rw [setAt_same, hc]
    exact hk.ev d (fill_leaf_lsn ho' hc hlsn)
  · rw [setAt_other _ _ _ e]
    exact LeafEv.refl _

theorem Hist.ev (H : Hist pt sch D0 nf K log c) {j j' : Nat} (hjj : j ≤ j') (hj' : j' ≤ log.length) (o : Nat) :
    LeafEv (c j o) (c j' o) :=
  steps_chain (R := fun a b => LeafEv (a o) (b o)) (fun _ => LeafEv.refl _) LeafEv.trans
    (fun _ hj => H.ev_step hj o) hjj hj'

theorem Hist.keys_const_step (H : Hist pt sch D0 nf K log c) {j : Nat} (hj : j < log.length)
    {e : Bytes × Levels} (he : e ∈ D0) {pre : List (Leaf × Bool)} {p0 p : Leaf × Bool}
    (hl : e.2.leaves = pre ++ [p0]) (hp : p ∈ pre) :
    keysOf (c (j + 1) p.1.off) = keysOf (c j p.1.off) := by
  obtain ⟨table, t0, o', l, d, l', ht, ho', hc, hc', hlsn, hk⟩ := H.step j hj
  rw [hc']
  by_cases eo : p.1.off = o'
  · rw [eo, setAt_same, hc]
    rcases hk.keys d true with hkeys | ⟨_, pre', p0', hl', ho⟩
    · exact hkeys
    · -- an INSERT goes to the last leaf of its tree; `p`, with the same offset, is not the last of its tree
      exfalso
      have hpm : p ∈ e.2.leaves := by rw [hl]; exact List.mem_append_left _ hp
      have hee : e = (table, t0) := skel_unique H.disj he ht (mem_leafOffs hpm) (eo ▸ ho')
      subst hee
      simp only at hl
      rw [hl] at hl'
      have hp0 : p0 = p0' := by simpa using (List.append_inj' hl' (by simp)).2
      have hnd := H.lnd _ ht
      unfold leafOffs at hnd
      simp only at hnd
      rw [hl, List.map_append, List.nodup_append] at hnd
      exact hnd.2.2 _ (List.mem_map.mpr ⟨p, hp, rfl⟩) _ (List.mem_map.mpr ⟨p0, by simp, rfl⟩)
        (by rw [eo, hp0, ho])
  · rw [setAt_other _ _ _ eo]

theorem Hist.keys_const (H : Hist pt sch D0 nf K log c) {j j' : Nat} (hj : j ≤ log.length) (hj' : j' ≤ log.length)
    {e : Bytes × Levels} (he : e ∈ D0) {pre : List (Leaf × Bool)} {p0 p : Leaf × Bool}
    (hl : e.2.leaves = pre ++ [p0]) (hp : p ∈ pre) :
    keysOf (c j p.1.off) = keysOf (c j' p.1.off) := by
  have h0 : ∀ m, m ≤ log.length → keysOf (c 0 p.1.off) = keysOf (c m p.1.off) := fun m hm =>
    steps_chain (R := fun a b => keysOf (a p.1.off) = keysOf (b p.1.off)) (fun _ => rfl) Eq.trans
      (fun _ hi => (H.keys_const_step hi he hl hp).symm) (Nat.zero_le m) hm
  rw [← h0 j hj, ← h0 j' hj']

theorem Hist.at_step (H : Hist pt sch D0 nf K log c) {j : Nat} (hj : j < log.length) :
    ∃ table t0 o l d l', (table, t0) ∈ D0 ∧ o ∈ leafOffs t0 ∧ c j o = (l, d) ∧ c (j + 1) = setAt (c j) o (l', true) ∧
      (∀ x ∈ flatten (fill (c j) t0), nodeLSN x.2.1 < log[j].lsn) ∧ StepKind nf (c j) t0 o l log[j] l' ∧
      ∀ j', j + 1 ≤ j' → j' ≤ log.length → log[j].lsn ≤ (c j' o).1.lsn ∧ ∀ k ∈ keysOf (l', true), k ∈ keysOf (c j' o) := by
  obtain ⟨table, t0, o, l, d, l', ht, ho, hc, hc', hlsn, hk⟩ := H.step j hj
  refine ⟨table, t0, o, l, d, l', ht, ho, hc, hc', hlsn, hk, ?_⟩
  intro j' h1 h2
  have hev := H.ev h1 h2 o
  rw [hc', setAt_same] at hev
  refine ⟨?_, hev.keys⟩
  have := hev.lsn
  simp only at this
  rw [hk.lsn_eq] at this
  exact this

end

/-! ### building histories -/

/-- a history of pages with one more moment in front -/
def consP (c0 : Pages) (c' : Nat → Pages) : Nat → Pages
  | 0 => c0
  | j + 1 => c' j

section
variable {pt sch : Levels} {D0 : List (Bytes × Levels)} {nf K : Nat}

theorem Hist.skel {log : List WalRec} {c : Nat → Pages} (H : Hist pt sch D0 nf K log c) : Skel D0 :=
  ⟨H.names, H.disj, H.lnd, H.pos⟩

theorem Hist.of_skel (hsk : Skel D0) {log : List WalRec} {c : Nat → Pages}
    (filed : ∀ j, j ≤ log.length → ∀ e ∈ D0, PFiled (c j) e.2)
    (snap : ∀ j, j ≤ log.length → ∃ s, Cat s pt sch (fillT (c j) D0) ∧ s.hdr.nextFree = nf ∧ s.hdr.lastKey ≤ K)
    (step : ∀ j (h : j < log.length), StepC D0 nf (c j) log[j] (c (j + 1))) : Hist pt sch D0 nf K log c :=
  ⟨hsk.names, hsk.disj, hsk.lnd, hsk.pos, filed, snap, step⟩

theorem Hist.nil (hsk : Skel D0) {c0 : Pages} (hf0 : ∀ e ∈ D0, PFiled c0 e.2)
    (hs0 : ∃ s, Cat s pt sch (fillT c0 D0) ∧ s.hdr.nextFree = nf ∧ s.hdr.lastKey ≤ K) :
    Hist pt sch D0 nf K [] (fun _ => c0) :=
  .of_skel hsk (fun _ _ => hf0) (fun _ _ => hs0) (fun j h => by simp at h)

theorem Hist.cons {log : List WalRec} {c' : Nat → Pages} (H : Hist pt sch D0 nf K log c') {c0 : Pages} {rec : WalRec}
    (hf0 : ∀ e ∈ D0, PFiled c0 e.2)
    (hs0 : ∃ s, Cat s pt sch (fillT c0 D0) ∧ s.hdr.nextFree = nf ∧ s.hdr.lastKey ≤ K)
    (hst : StepC D0 nf c0 rec (c' 0)) : Hist pt sch D0 nf K (rec :: log) (consP c0 c') := by
  refine .of_skel H.skel (fun j hj => ?_) (fun j hj => ?_) (fun j hj => ?_)
  · cases j with
    | zero => exact hf0
    | succ j => exact H.filed j (by simpa using hj)
  · cases j with
    | zero => exact hs0
    | succ j => exact H.snap j (by simpa using hj)
  · cases j with
    | zero => exact hst
    | succ j => exact H.step j (by simpa using hj)

theorem Hist.mono_K {log : List WalRec} {c : Nat → Pages} (H : Hist pt sch D0 nf K log c) {K' : Nat} (h : K ≤ K') :
    Hist pt sch D0 nf K' log c :=
  .of_skel H.skel H.filed (fun j hj => by
    obtain ⟨s, a, b, c⟩ := H.snap j hj
    exact ⟨s, a, b, Nat.le_trans c h⟩) H.step

end

/-- two histories, the second starting where the first (of `n` records) ends -/
def appP (cA : Nat → Pages) (n : Nat) (cB : Nat → Pages) : Nat → Pages :=
  fun j => if j ≤ n then cA j else cB (j - n)

theorem appP_le {cA cB : Nat → Pages} {n j : Nat} (h : j ≤ n) : appP cA n cB j = cA j := by simp [appP, h]

theorem appP_add {cA cB : Nat → Pages} {n : Nat} (hc : cB 0 = cA n) (m : Nat) : appP cA n cB (n + m) = cB m := by
  unfold appP
  by_cases h : n + m ≤ n
  · have : m = 0 := by omega
    subst this
    simp [hc]
  · simp [h]

theorem appP_all {cA cB : Nat → Pages} {n m : Nat} (hc : cB 0 = cA n) {P : Pages → Prop}
    (hA : ∀ j, j ≤ n → P (cA j)) (hB : ∀ j, j ≤ m → P (cB j)) (j : Nat) (hj : j ≤ n + m) : P (appP cA n cB j) := by
  by_cases h : j ≤ n
  · rw [appP_le h]; exact hA j h
  · obtain ⟨i, rfl⟩ := Nat.exists_eq_add_of_le (Nat.le_of_lt (Nat.lt_of_not_le h))
    rw [appP_add hc]; exact hB i (by omega)

section
variable {pt sch : Levels} {D0 : List (Bytes × Levels)} {nf K : Nat}

theorem Hist.append {logA logB : List WalRec} {cA cB : Nat → Pages} (HA : Hist pt sch D0 nf K logA cA)
    (HB : Hist pt sch D0 nf K logB cB) (hc : cB 0 = cA logA.length) :
    Hist pt sch D0 nf K (logA ++ logB) (appP cA logA.length cB) := by
  refine .of_skel HA.skel (fun j hj => ?_) (fun j hj => ?_) (fun j hj => ?_)
  · exact appP_all hc (P := fun c => ∀ e ∈ D0, PFiled c e.2) HA.filed HB.filed j (List.length_append ▸ hj)
  · exact appP_all hc (P := fun c => ∃ s, Cat s pt sch (fillT c D0) ∧ s.hdr.nextFree = nf ∧ s.hdr.lastKey ≤ K)
      HA.snap HB.snap j (List.length_append ▸ hj)
  · have hj' := hj
    rw [List.length_append] at hj'
    by_cases h : j < logA.length
    · rw [List.getElem_append_left h, appP_le (Nat.le_of_lt h), appP_le (show j + 1 ≤ logA.length from h)]
      exact HA.step j h
    · have hge : logA.length ≤ j := Nat.le_of_not_lt h
      obtain ⟨m, rfl⟩ := Nat.exists_eq_add_of_le hge
      rw [List.getElem_append_right hge, appP_add hc, Nat.add_assoc, appP_add hc]
      have hm : m < logB.length := by omega
      have := HB.step m hm
      simp only [Nat.add_sub_cancel_left]
      exact this

end

end Mkdb.Store
