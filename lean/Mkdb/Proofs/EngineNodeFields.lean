import Mkdb.Proofs.Tree
/-!
The nodes the engine can produce are nodes the page codec round-trips (C12, the quantifier "every tree
node the engine can produce").  `Inv` (Mkdb/Spec/TreeInv.lean) bounds the number of cells of every node
but says nothing about the sizes of the fields; `FieldsOK P L K t` does: every page offset, sibling and
child pointer below `P`, every LSN below `L`, every key (row id or separator) below `K`, every cell value
at most `maxValueSize` bytes.  An insert keeps it when key and LSN are in range and the allocation
frontier *after* the insert is at most `P`; the value size needs no hypothesis there (`insertAppend`
refuses an oversized value, `rowTooLarge`) but is one for `setVal`: `updateCellAt` refuses an oversized
value before the page is touched.  One step first, then whole histories.
-/

section
set_option autoImplicit false
namespace Mkdb.Tree
open Mkdb.Page Mkdb.Generated Mkdb.Bin

def LeafCellOK (K : Nat) (c : LeafCell) : Prop := c.key < K ∧ c.val.length ≤ c_maxValueSize

def LeafOK (P L K : Nat) (l : Leaf) : Prop :=
  l.off < P ∧ l.lsn < L ∧ l.lSib < P ∧ l.rSib < P ∧ ∀ c ∈ l.cells, LeafCellOK K c

def IntOK (P L K : Nat) (n : Internal) : Prop :=
  n.off < P ∧ n.lsn < L ∧ n.right < P ∧ ∀ c ∈ n.cells, c.key < K ∧ c.child < P

def InnerOK (P L K : Nat) (lvls : List (List (Internal × Bool))) : Prop :=
  ∀ lvl ∈ lvls, ∀ p ∈ lvl, IntOK P L K p.1

structure FieldsOK (P L K : Nat) (t : Levels) : Prop where
  leaves : ∀ p ∈ t.leaves, LeafOK P L K p.1
  inner  : InnerOK P L K t.inner

theorem emptyTree_fields (P L K off : Nat) (hoff : off < P) (hL : 0 < L) : FieldsOK P L K (emptyTree off) := by
  refine ⟨?_, ?_⟩
  · intro p hp
    simp only [emptyTree, List.mem_singleton] at hp
    subst hp
    refine ⟨hoff, hL, by show 0 < P; omega, by show 0 < P; omega, ?_⟩
    intro c hc
    cases hc
  · intro lvl hl
    simp only [emptyTree] at hl
    cases hl

/-! ### `bubble` -/

theorem midCell_ok {P K : Nat} (hP : 0 < P) (hK : 0 < K) (p1 : Internal)
    (h : ∀ c ∈ p1.cells, c.key < K ∧ c.child < P) : (midCell p1).key < K ∧ (midCell p1).child < P := by
  unfold midCell
  cases hc : p1.cells[p1.cells.length / 2]? with
  | none => exact ⟨hK, hP⟩
  | some c => exact h c (List.mem_of_getElem? hc)

theorem intApp_ok {P L K : Nat} {p : Internal} {sep nc lsn : Nat} (hp : IntOK P L K p) (hsep : sep < K)
    (hnc : nc < P) (hl : lsn < L) : IntOK P L K (intApp p sep nc lsn) := by
  obtain ⟨h1, _, h3, h4⟩ := hp
  refine ⟨h1, hl, hnc, ?_⟩
  intro c hc
  simp only [intApp, List.mem_append, List.mem_singleton] at hc
  rcases hc with hc | rfl
  · exact h4 c hc
  · exact ⟨hsep, h3⟩

theorem intL_ok {P L K : Nat} (hP : 0 < P) (hK : 0 < K) {p1 : Internal} (hp : IntOK P L K p1) :
    IntOK P L K (intL p1) := by
  obtain ⟨h1, h2, _, h4⟩ := hp
  exact ⟨h1, h2, (midCell_ok hP hK p1 h4).2, fun c hc => h4 c (List.mem_of_mem_take hc)⟩

theorem intR_ok {P L K : Nat} {p1 : Internal} {lsn nf : Nat} (hp : IntOK P L K p1) (hl : lsn < L)
    (hnf : nf < P) : IntOK P L K (intR p1 lsn nf) := by
  obtain ⟨_, _, h3, h4⟩ := hp
  exact ⟨hnf, hl, h3, fun c hc => h4 c (List.mem_of_mem_drop hc)⟩

theorem bubble_fields {P L K : Nat} (hP : 0 < P) (hK : 0 < K) (lsn : Nat) (hl : lsn < L)
    (lvls : List (List (Internal × Bool))) (sep l nc nf : Nat) (hsep : sep < K) (hlo : l < P) (hnc : nc < P)
    (hfin : (bubble lsn lvls sep l nc nf).2 ≤ P) (h : InnerOK P L K lvls) :
    InnerOK P L K (bubble lsn lvls sep l nc nf).1 := by
  have hps : 0 < c_pageSize := by decide
  -- the frontier never goes down, so the bound on the final frontier bounds every page allocated on the way
  refine (bubble_induct lsn (motive := fun lvls sep l nc nf r => nf ≤ r.2 ∧ (sep < K → l < P → nc < P →
    r.2 ≤ P → InnerOK P L K lvls → InnerOK P L K r.1)) ?_ ?_ ?_ ?_ lvls sep l nc nf).2 hsep hlo hnc hfin h
  · intro sep l nc nf
    refine ⟨Nat.le_add_right _ _, fun hsep hlo hnc hfin _ lvl hlvl p hp => ?_⟩
    obtain rfl := List.mem_singleton.mp hlvl
    obtain rfl := List.mem_singleton.mp hp
    refine ⟨by show nf < P; simp only at hfin; omega, hl, hnc, fun c hc => ?_⟩
    obtain rfl := List.mem_singleton.mp hc
    exact ⟨hsep, hlo⟩
  · intro rest sep l nc nf
    exact ⟨Nat.le_refl _, fun _ _ _ _ _ lvl hlvl => nomatch hlvl⟩
  · intro pre p d rest sep l nc nf _
    refine ⟨Nat.le_refl _, fun hsep _ hnc _ h lvl hlvl q hq => ?_⟩
    rcases List.mem_cons.mp hlvl with rfl | hl'
    · rcases List.mem_append.mp hq with hq | hq
      · exact h _ List.mem_cons_self q (List.mem_append_left _ hq)
      · obtain rfl := List.mem_singleton.mp hq
        exact intApp_ok (h _ List.mem_cons_self (p, d) (by simp)) hsep hnc hl
    · exact h lvl (List.mem_cons_of_mem _ hl') q hq
  · intro pre p d rest sep l nc nf _ r ⟨ih1, ih2⟩
    refine ⟨by omega, fun hsep _ hnc hfin h lvl hlvl q hq => ?_⟩
    have hp : IntOK P L K p := h _ List.mem_cons_self (p, d) (by simp)
    have hp1 := intApp_ok hp hsep hnc hl
    have hnf : nf < P := by simp only at hfin; omega
    rcases List.mem_cons.mp hlvl with rfl | hl'
    · rcases List.mem_append.mp hq with hq | hq
      · exact h _ List.mem_cons_self q (List.mem_append_left _ hq)
      · simp only [List.mem_cons, List.not_mem_nil, or_false] at hq
        rcases hq with rfl | rfl
        · exact intL_ok hP hK hp1
        · exact intR_ok hp1 hl hnf
    · exact ih2 (midCell_ok hP hK _ hp1.2.2.2).1 hp.1 hnf hfin
        (fun lvl hl => h lvl (List.mem_cons_of_mem _ hl)) lvl hl' q hq

/-! ### `insertAppend` -/

theorem leafApp_ok {P L K : Nat} {last : Leaf} {k lsn : Nat} {v : Bytes} (h : LeafOK P L K last) (hk : k < K)
    (hl : lsn < L) (hv : v.length ≤ c_maxValueSize) : LeafOK P L K (leafApp last k lsn v) := by
  obtain ⟨h1, _, h3, h4, h5⟩ := h
  refine ⟨h1, hl, h3, h4, ?_⟩
  intro c hc
  simp only [leafApp, List.mem_append, List.mem_singleton] at hc
  rcases hc with hc | rfl
  · exact h5 c hc
  · exact ⟨hk, hv⟩

theorem insertAppend_fields {P L K : Nat} (hK : 0 < K) (t t' : Levels) (k lsn nf nf' : Nat) (v : Bytes)
    (hk : k < K) (hl : lsn < L) (hnf : nf' ≤ P) (hf : FieldsOK P L K t)
    (h : insertAppend t k lsn v nf = .ok (t', nf')) : FieldsOK P L K t' := by
  have hps : 0 < c_pageSize := by decide
  obtain ⟨pre, last, d, hpre, _, hv, hcase⟩ := insertAppend_inv_cases h
  have hlast : LeafOK P L K last := hf.leaves (last, d) (by rw [hpre]; simp)
  have hpreok : ∀ q ∈ pre, LeafOK P L K q.1 := fun q hq => hf.leaves q (by rw [hpre]; simp [hq])
  have hP : 0 < P := by have := hlast.1; omega
  have hl1 := leafApp_ok hlast hk hl hv
  rcases hcase with ⟨_, rfl, _⟩ | ⟨_, rfl, rfl⟩
  · refine ⟨?_, hf.inner⟩
    intro q hq
    rcases List.mem_append.mp hq with hq | hq
    · exact hpreok q hq
    · simp only [List.mem_singleton] at hq
      subst hq
      exact hl1
  · have hmono := (bubble_offs hps lsn t.inner
      (((leafR (leafApp last k lsn v) lsn nf).cells.head?.map (·.key)).getD 0) last.off nf (nf + c_pageSize)).1
    have hnfP : nf < P := by omega
    obtain ⟨a1, a2, a3, a4, a5⟩ := hl1
    have hR : LeafOK P L K (leafR (leafApp last k lsn v) lsn nf) :=
      ⟨hnfP, hl, a1, hP, fun c hc => a5 c (List.mem_of_mem_drop hc)⟩
    refine ⟨?_, ?_⟩
    · intro q hq
      rcases List.mem_append.mp hq with hq | hq
      · exact hpreok q hq
      · simp only [List.mem_cons, List.not_mem_nil, or_false] at hq
        rcases hq with rfl | rfl
        · exact ⟨a1, a2, a3, hnfP, fun c hc => a5 c (List.mem_of_mem_take hc)⟩
        · exact hR
    · apply bubble_fields hP hK lsn hl t.inner _ _ _ _ ?_ hlast.1 hnfP hnf hf.inner
      cases hh : (leafR (leafApp last k lsn v) lsn nf).cells.head? with
      | none => exact hK
      | some c => exact (hR.2.2.2.2 c (List.mem_of_mem_head? hh)).1

/-! ### the page-local cell changes -/

theorem updLeaves_fields {P L K : Nat} (f : LeafCell → LeafCell) (hf : ∀ c, LeafCellOK K c → LeafCellOK K (f c))
    (key lsn : Nat) (hl : lsn < L) (t : Levels) (h : FieldsOK P L K t) :
    FieldsOK P L K (updLeaves f key lsn t) := by
  refine ⟨?_, h.inner⟩
  intro q hq
  obtain ⟨q0, hq0, rfl⟩ := List.mem_map.mp hq
  obtain ⟨a1, a2, a3, a4, a5⟩ := h.leaves q0 hq0
  unfold updLeaf
  split
  · refine ⟨a1, hl, a3, a4, ?_⟩
    intro c hc
    obtain ⟨c0, hc0, rfl⟩ := List.mem_map.mp hc
    unfold updCell
    split
    · exact hf c0 (a5 c0 hc0)
    · exact a5 c0 hc0
  · exact ⟨a1, a2, a3, a4, a5⟩

theorem setVal_fields {P L K : Nat} (t : Levels) (key lsn : Nat) (v : Bytes) (hl : lsn < L)
    (hv : v.length ≤ c_maxValueSize) (h : FieldsOK P L K t) : FieldsOK P L K (setVal t key lsn v) := by
  rw [setVal_eq]
  exact updLeaves_fields (fun c => { c with val := v }) (fun c hc => ⟨hc.1, hv⟩) key lsn hl t h

theorem setDeleted_fields {P L K : Nat} (t : Levels) (key lsn : Nat) (hl : lsn < L)
    (h : FieldsOK P L K t) : FieldsOK P L K (setDeleted t key lsn) := by
  rw [setDeleted_eq]
  exact updLeaves_fields (fun c => { c with deleted := true }) (fun c hc => ⟨hc.1, hc.2⟩) key lsn hl t h

theorem FieldsOK.mono {P P' L K : Nat} {t : Levels} (h : FieldsOK P L K t) (hPP : P ≤ P') : FieldsOK P' L K t := by
  refine ⟨?_, ?_⟩
  · intro p hp
    obtain ⟨a1, a2, a3, a4, a5⟩ := h.leaves p hp
    exact ⟨by omega, a2, by omega, by omega, a5⟩
  · intro lvl hl p hp
    obtain ⟨a1, a2, a3, a4⟩ := h.inner lvl hl p hp
    exact ⟨by omega, a2, by omega, fun c hc => ⟨(a4 c hc).1, by have := (a4 c hc).2; omega⟩⟩

/-! ### from the two invariants to `Page.WF` -/

theorem FieldsOK.wf {t : Levels} (h : FieldsOK (2 ^ 64) (2 ^ 64) (2 ^ 32) t) (hcap : CapOK t) :
    ∀ e ∈ flatten t, WF e.2.1 := by
  intro e he
  unfold flatten at he
  rcases List.mem_append.mp he with he | he
  · obtain ⟨p, hp, rfl⟩ := List.mem_map.mp he
    obtain ⟨a1, a2, a3, a4, a5⟩ := h.leaves p hp
    exact ⟨a1, a2, a3, a4, Nat.le_of_lt (hcap.1 p hp), fun c hc => a5 c hc⟩
  · obtain ⟨lvl, hl, he⟩ := List.mem_flatMap.mp he
    obtain ⟨p, hp, rfl⟩ := List.mem_map.mp he
    obtain ⟨a1, a2, a3, a4⟩ := h.inner lvl hl p hp
    exact ⟨a1, a2, a3, Nat.le_of_lt (hcap.2 lvl hl p hp).2, fun c hc => a4 c hc⟩

end Mkdb.Tree
end

section
set_option autoImplicit false
namespace Mkdb.Tree
open Mkdb.Page Mkdb.Generated Mkdb.Bin

/-- key, LSN and value size of one operation are what the Go types (`uint32` row id, `uint64` LSN) and
`updateCell`'s size check allow (an inserted value needs no hypothesis: `insertAppend` checks it) -/
def OpInRange : TOp → Prop
  | .ins k lsn _ => k < 2 ^ 32 ∧ lsn < 2 ^ 64
  | .upd _ lsn v => lsn < 2 ^ 64 ∧ v.length ≤ c_maxValueSize
  | .del _ lsn => lsn < 2 ^ 64

instance decOpInRange : (op : TOp) → Decidable (OpInRange op)
  | .ins k lsn _ => inferInstanceAs (Decidable (k < 2 ^ 32 ∧ lsn < 2 ^ 64))
  | .upd _ lsn v => inferInstanceAs (Decidable (lsn < 2 ^ 64 ∧ v.length ≤ c_maxValueSize))
  | .del _ lsn => inferInstanceAs (Decidable (lsn < 2 ^ 64))

theorem foldl_nf_mono {ω : Type} (step : Levels × Nat → ω → Levels × Nat)
    (hmono : ∀ s o, s.2 ≤ (step s o).2) (ops : List ω) : ∀ (s : Levels × Nat), s.2 ≤ (ops.foldl step s).2 := by
  induction ops with
  | nil => intro s; exact Nat.le_refl _
  | cons o rest ih => intro s; exact Nat.le_trans (hmono s o) (ih (step s o))

/-- An invariant `I P` that every step keeps when the frontier *after the step* is at most `P` holds after
a whole history when the *final* frontier is at most `P`: the frontier never goes down, so the final one
bounds all the earlier ones. -/
theorem foldl_bounded {ω : Type} (step : Levels × Nat → ω → Levels × Nat) (ok : ω → Prop)
    (I : Nat → Levels → Prop) (hmono : ∀ s o, s.2 ≤ (step s o).2)
    (hstep : ∀ {P : Nat} (s : Levels × Nat) (o : ω), ok o → (step s o).2 ≤ P → I P s.1 → I P (step s o).1)
    {P : Nat} (ops : List ω) : ∀ (s : Levels × Nat), (∀ o ∈ ops, ok o) → (ops.foldl step s).2 ≤ P →
      I P s.1 → I P (ops.foldl step s).1 := by
  induction ops with
  | nil => intro s _ _ h; exact h
  | cons o rest ih =>
    intro s hops hnf h
    exact ih (step s o) (fun x hx => hops x (List.mem_cons_of_mem _ hx)) hnf
      (hstep s o (hops o List.mem_cons_self) (Nat.le_trans (foldl_nf_mono step hmono rest (step s o)) hnf) h)

theorem runOps_nf_mono (ops : List TOp) (s : Levels × Nat) : s.2 ≤ (runOps s ops).2 :=
  foldl_nf_mono applyOp applyOp_nf_mono ops s

theorem applyOp_fields {P : Nat} (s : Levels × Nat) (op : TOp) (hop : OpInRange op)
    (hnf : (applyOp s op).2 ≤ P) (h : FieldsOK P (2 ^ 64) (2 ^ 32) s.1) :
    FieldsOK P (2 ^ 64) (2 ^ 32) (applyOp s op).1 := by
  cases op with
  | ins k lsn v =>
    simp only [applyOp] at hnf ⊢
    split
    · rename_i r hr
      rw [hr] at hnf
      exact insertAppend_fields (by decide) s.1 r.1 k lsn s.2 r.2 v hop.1 hop.2 hnf h hr
    · exact h
  | upd k lsn v => exact setVal_fields s.1 k lsn v hop.1 hop.2 h
  | del k lsn => exact setDeleted_fields s.1 k lsn hop h

theorem runOps_fields {P : Nat} (ops : List TOp) : ∀ (s : Levels × Nat), (∀ op ∈ ops, OpInRange op) →
    (runOps s ops).2 ≤ P → FieldsOK P (2 ^ 64) (2 ^ 32) s.1 → FieldsOK P (2 ^ 64) (2 ^ 32) (runOps s ops).1 :=
  foldl_bounded applyOp OpInRange (fun P => FieldsOK P (2 ^ 64) (2 ^ 32)) applyOp_nf_mono applyOp_fields ops

theorem runOps_wf (off nf : Nat) (h : off < nf) (ops : List TOp) (hops : ∀ op ∈ ops, OpInRange op)
    (hnf : (runOps (emptyTree off, nf) ops).2 ≤ 2 ^ 64) :
    ∀ e ∈ flatten (runOps (emptyTree off, nf) ops).1, WF e.2.1 := by
  have hmono := runOps_nf_mono ops (emptyTree off, nf)
  have hf := runOps_fields ops (emptyTree off, nf) hops hnf
    (emptyTree_fields _ _ _ off (by show off < 2 ^ 64; simp only at hmono; omega) (by decide))
  exact hf.wf (runOps_inv ops _ (emptyTree_inv off nf h)).cap

end Mkdb.Tree
end
