import Mkdb.Model.Wal
import Mkdb.Proofs.Bin
import Mkdb.Proofs.ListOption
/-!
The log file codec: what is written is read back (`readLog_encodeLog`); a file cut at an arbitrary
byte is whole frames and then a frame cut short (`encodeLog_take`), so it reads back as exactly the
records whose frames are complete (`readLog_cut`, `readLog_take`); after the reader has truncated
the torn tail, later appends are read back right after the surviving prefix (`append_after_cut`).
-/
namespace Mkdb.Wal
open Mkdb.Bin

theorem encodeRec_length (r : Rec) : (encodeRec r).length = 25 + r.val.length := by
  simp only [encodeRec, encU8, encU32, encU64, List.length_append, encLE_length]

theorem frame_length (r : Rec) : (frame r).length = 29 + r.val.length := by
  simp only [frame, encU32, List.length_append, encLE_length, encodeRec_length]
  omega

@[simp] theorem encodeLog_nil : encodeLog [] = [] := rfl

theorem encodeLog_cons (r : Rec) (rs : List Rec) : encodeLog (r :: rs) = frame r ++ encodeLog rs := by
  simp only [encodeLog, List.flatMap_cons]

theorem encodeLog_append (as bs : List Rec) : encodeLog (as ++ bs) = encodeLog as ++ encodeLog bs := by
  simp only [encodeLog, List.flatMap_append]

theorem encodeLog_take_drop (rs : List Rec) (k : Nat) :
    encodeLog (rs.take k) ++ encodeLog (rs.drop k) = encodeLog rs := by
  rw [← encodeLog_append, List.take_append_drop]

theorem encodeLog_take_length_le (rs : List Rec) (k : Nat) :
    (encodeLog (rs.take k)).length ≤ (encodeLog rs).length := by
  have := congrArg List.length (encodeLog_take_drop rs k)
  rw [List.length_append] at this
  omega

theorem encodeLog_take_succ (rs : List Rec) (k : Nat) (r : Rec) (hk : rs[k]? = some r) :
    encodeLog (rs.take (k + 1)) = encodeLog (rs.take k) ++ frame r := by
  rw [List.take_add_one, hk, encodeLog_append]
  simp [encodeLog]

theorem decodeRec_encodeRec (r : Rec) (h : r.wf) : decodeRec (encodeRec r) = some r := by
  obtain ⟨hop, hlsn, hpage, hcell, hval⟩ := h
  have e1 : r.op % 256 ^ 1 = r.op := Nat.mod_eq_of_lt (by omega)
  have e2 : r.lsn % 256 ^ 8 = r.lsn := Nat.mod_eq_of_lt (by omega)
  have e3 : r.page % 256 ^ 8 = r.page := Nat.mod_eq_of_lt (by omega)
  have e4 : r.cell % 256 ^ 4 = r.cell := Nat.mod_eq_of_lt (by omega)
  have e5 : r.val.length % 256 ^ 4 = r.val.length := Nat.mod_eq_of_lt (by omega)
  simp only [decodeRec, encodeRec, encU8, encU32, encU64, decU8, decU32, decU64,
    List.append_assoc, decLE_encLE, e1, e2, e3, e4, e5]
  cases r with
  | mk op lsn page cell val =>
    cases val with
    | nil => simp
    | cons b val => simp

/-! ### the reader -/

theorem readLoop_nil (fuel : Nat) (acc : List Rec) (good : Nat) :
    readLoop fuel [] acc good = .ok acc good false := by
  cases fuel <;> simp [readLoop]

theorem isEmpty_false_of_length_pos (bs : Bytes) (h : 0 < bs.length) : bs.isEmpty = false := by
  cases bs with
  | nil => simp at h
  | cons _ _ => rfl

theorem readLoop_frame (fuel : Nat) (r : Rec) (h : r.wf) (tail : Bytes) (acc : List Rec) (good : Nat) :
    readLoop (fuel + 1) (frame r ++ tail) acc good
      = readLoop fuel tail (acc ++ [r]) (good + (frame r).length) := by
  have hv : r.val.length < 2 ^ 32 - 25 := h.2.2.2.2
  have hne : (frame r ++ tail).isEmpty = false :=
    isEmpty_false_of_length_pos _ (by rw [List.length_append, frame_length]; omega)
  have hmod : (encodeRec r).length % 256 ^ 4 = (encodeRec r).length :=
    Nat.mod_eq_of_lt (by rw [encodeRec_length]; omega)
  have hdec : decU32 (frame r ++ tail) = some ((encodeRec r).length, encodeRec r ++ tail) := by
    simp only [frame, decU32, encU32, List.append_assoc, decLE_encLE, hmod]
  have h0 : ((encodeRec r).length == 0) = false := by
    rw [encodeRec_length]; simp
  have hlt : ¬ (encodeRec r ++ tail).length < (encodeRec r).length := by
    rw [List.length_append]; omega
  have htake : (encodeRec r ++ tail).take (encodeRec r).length = encodeRec r := by
    simp
  have hdrop : (encodeRec r ++ tail).drop (encodeRec r).length = tail := by
    simp
  have hlen : good + 4 + (encodeRec r).length = good + (frame r).length := by
    rw [frame_length, encodeRec_length]; omega
  rw [readLoop]
  simp only [hne, hdec, h0, hlt, htake, hdrop, decodeRec_encodeRec r h, hlen]
  simp

/-- a frame cut short stops the reader: no record, no error; torn unless nothing at all is left -/
theorem readLoop_cut (fuel : Nat) (r : Rec) (h : r.wf) (m : Nat) (hm : m < (frame r).length)
    (acc : List Rec) (good : Nat) :
    readLoop (fuel + 1) ((frame r).take m) acc good = .ok acc good (decide (0 < m)) := by
  have hv : r.val.length < 2 ^ 32 - 25 := h.2.2.2.2
  have hfl := frame_length r
  rcases Nat.eq_zero_or_pos m with rfl | hpos
  · simp [readLoop]
  · have hne : ((frame r).take m).isEmpty = false :=
      isEmpty_false_of_length_pos _ (by rw [List.length_take]; omega)
    by_cases h4 : m < 4
    · have hdec : decU32 ((frame r).take m) = none :=
        decLE_short 4 _ (by rw [List.length_take]; omega)
      rw [readLoop]
      simp only [hne, hdec]
      simp [hpos]
    · have hmod : (encodeRec r).length % 256 ^ 4 = (encodeRec r).length :=
        Nat.mod_eq_of_lt (by rw [encodeRec_length]; omega)
      have hsplit : (frame r).take m
          = encU32 (encodeRec r).length ++ (encodeRec r).take (m - 4) := by
        have : (encU32 (encodeRec r).length).length = 4 := encLE_length 4 _
        rw [frame, List.take_append, this, List.take_of_length_le (by omega)]
      have hdec : decU32 ((frame r).take m)
          = some ((encodeRec r).length, (encodeRec r).take (m - 4)) := by
        rw [hsplit]
        simp only [decU32, encU32, decLE_encLE, hmod]
      have h0 : ((encodeRec r).length == 0) = false := by
        rw [encodeRec_length]; simp
      have hlt : ((encodeRec r).take (m - 4)).length < (encodeRec r).length := by
        rw [List.length_take, encodeRec_length]; omega
      rw [readLoop]
      simp only [hne, hdec, h0, hlt]
      simp [hpos]

theorem readLoop_encodeLog (rs : List Rec) (h : ∀ r ∈ rs, r.wf) (fuel : Nat) (tail : Bytes)
    (acc : List Rec) (good : Nat) :
    readLoop (rs.length + fuel) (encodeLog rs ++ tail) acc good
      = readLoop fuel tail (acc ++ rs) (good + (encodeLog rs).length) := by
  induction rs generalizing acc good with
  | nil => simp
  | cons r rs ih =>
    have hr : r.wf := h r (List.mem_cons_self)
    have hrs : ∀ x ∈ rs, x.wf := fun x hx => h x (List.mem_cons_of_mem _ hx)
    have e : (r :: rs).length + fuel = (rs.length + fuel) + 1 := by
      simp only [List.length_cons]; omega
    rw [e, encodeLog_cons, List.append_assoc, readLoop_frame _ r hr, ih hrs]
    simp only [List.append_assoc, List.cons_append, List.nil_append, List.length_append,
      Nat.add_assoc]

theorem encodeLog_length_ge (rs : List Rec) : 29 * rs.length ≤ (encodeLog rs).length := by
  induction rs with
  | nil => simp
  | cons r rs ih =>
    rw [encodeLog_cons, List.length_append, frame_length, List.length_cons]
    omega

/-- behind whole frames the reader goes on with what follows them, with fuel to spare -/
theorem readLog_encodeLog_append (rs : List Rec) (h : ∀ r ∈ rs, r.wf) (tail : Bytes) :
    ∃ fuel, readLog (encodeLog rs ++ tail) = readLoop (fuel + 1) tail rs (encodeLog rs).length := by
  have hge := encodeLog_length_ge rs
  refine ⟨(encodeLog rs ++ tail).length - rs.length, ?_⟩
  have e : (encodeLog rs ++ tail).length + 1
      = rs.length + ((encodeLog rs ++ tail).length - rs.length + 1) := by
    rw [List.length_append]; omega
  rw [readLog, e, readLoop_encodeLog rs h, List.nil_append, Nat.zero_add]

theorem readLog_encodeLog (rs : List Rec) (h : ∀ r ∈ rs, r.wf) :
    readLog (encodeLog rs) = .ok rs (encodeLog rs).length false := by
  obtain ⟨fuel, e⟩ := readLog_encodeLog_append rs h []
  rw [List.append_nil] at e
  rw [e, readLoop_nil]

/-! ### a log cut at an arbitrary byte -/

/-- a byte prefix of a log is all of it, or the frames in front of some record `rs[k]` and the first `m`
bytes, not all, of that record's frame -/
theorem encodeLog_take (rs : List Rec) (n : Nat) :
    (encodeLog rs).length ≤ n ∨
    ∃ k r m, rs[k]? = some r ∧ m < (frame r).length ∧ n = (encodeLog (rs.take k)).length + m ∧
      (encodeLog rs).take n = encodeLog (rs.take k) ++ (frame r).take m :=
  flatMap_take frame rs n

/-- whole frames and then a frame cut short: the records of the whole frames, torn unless nothing of
the last frame is there -/
theorem readLog_cut (rs : List Rec) (h : ∀ r ∈ rs, r.wf) (r : Rec) (hr : r.wf) (m : Nat)
    (hm : m < (frame r).length) :
    readLog (encodeLog rs ++ (frame r).take m) = .ok rs (encodeLog rs).length (decide (0 < m)) := by
  obtain ⟨fuel, e⟩ := readLog_encodeLog_append rs h ((frame r).take m)
  rw [e, readLoop_cut fuel r hr m hm]

theorem afterRead_cut (rs : List Rec) (h : ∀ r ∈ rs, r.wf) (r : Rec) (hr : r.wf) (m : Nat)
    (hm : m < (frame r).length) :
    afterRead (encodeLog rs ++ (frame r).take m) = encodeLog rs := by
  rw [afterRead, readLog_cut rs h r hr m hm]
  rcases Nat.eq_zero_or_pos m with rfl | hpos
  · simp
  · simp [hpos]

/-! ### … behind the records of acknowledged statements

A log that already holds the records `old`, cut `n` bytes into the frames of the records `batch` a statement
appends: `wal.read` returns `old ++ batch.take k`, `k` maximal with the first `k` frames of the batch inside the
`n` bytes, flagged torn exactly when the cut is inside a frame of the batch; the file it leaves behind
(`afterRead`: the torn tail is cut off) is `encodeLog (old ++ batch.take k)`, and what later statements append to
that file is read back right behind `old ++ batch.take k`.  `old = []` is the cut of a whole log. -/

theorem take_old_add (old batch : List Rec) (n : Nat) :
    (encodeLog (old ++ batch)).take ((encodeLog old).length + n)
      = encodeLog old ++ (encodeLog batch).take n := by
  rw [encodeLog_append, List.take_append, List.take_of_length_le (by omega)]
  congr 2
  omega

theorem readLog_old_take (old batch : List Rec) (hold : ∀ r ∈ old, r.wf) (hb : ∀ r ∈ batch, r.wf)
    (n : Nat) :
    ∃ k torn, k ≤ batch.length ∧
      readLog ((encodeLog (old ++ batch)).take ((encodeLog old).length + n))
        = .ok (old ++ batch.take k) (encodeLog (old ++ batch.take k)).length torn ∧
      (encodeLog (batch.take k)).length ≤ n ∧
      (k < batch.length → n < (encodeLog (batch.take (k+1))).length) ∧
      (torn = true ↔ (encodeLog (batch.take k)).length < min n (encodeLog batch).length) ∧
      afterRead ((encodeLog (old ++ batch)).take ((encodeLog old).length + n))
        = encodeLog (old ++ batch.take k) := by
  rw [take_old_add]
  rcases encodeLog_take batch n with hall | ⟨k, r, m, hk, hm, rfl, htake⟩
  · -- nothing of the batch is cut off
    have hwf : ∀ r ∈ old ++ batch, r.wf := fun r hr => (List.mem_append.1 hr).elim (hold r) (hb r)
    refine ⟨batch.length, false, Nat.le_refl _, ?_⟩
    rw [List.take_length, List.take_of_length_le hall, ← encodeLog_append, afterRead,
      readLog_encodeLog _ hwf]
    exact ⟨rfl, hall, fun hlt => absurd hlt (Nat.lt_irrefl _), by simp [Nat.min_eq_right hall], rfl⟩
  · -- the cut is `m` bytes into the frame of `batch[k]`
    have hwf : ∀ x ∈ old ++ batch.take k, x.wf := fun x hx =>
      (List.mem_append.1 hx).elim (hold x) (fun hx => hb x (List.mem_of_mem_take hx))
    have hr : r.wf := hb r (List.mem_of_getElem? hk)
    have hnext := encodeLog_take_succ batch k r hk
    have hlen := encodeLog_take_length_le batch (k + 1)
    rw [hnext, List.length_append] at hlen
    refine ⟨k, decide (0 < m), Nat.le_of_lt (List.getElem?_eq_some_iff.1 hk).1, ?_⟩
    rw [htake, ← List.append_assoc, ← encodeLog_append, readLog_cut _ hwf r hr m hm,
      afterRead_cut _ hwf r hr m hm, hnext, List.length_append, decide_eq_true_eq]
    exact ⟨rfl, Nat.le_add_right _ _, fun _ => Nat.add_lt_add_left hm _, by omega, rfl⟩

theorem append_after_old_cut (old batch more : List Rec) (hold : ∀ r ∈ old, r.wf)
    (hb : ∀ r ∈ batch, r.wf) (hm : ∀ r ∈ more, r.wf) (n k : Nat)
    (hafter : afterRead ((encodeLog (old ++ batch)).take ((encodeLog old).length + n))
        = encodeLog (old ++ batch.take k)) :
    readLog (afterRead ((encodeLog (old ++ batch)).take ((encodeLog old).length + n)) ++ encodeLog more)
      = .ok (old ++ batch.take k ++ more) (encodeLog (old ++ batch.take k ++ more)).length false := by
  rw [hafter, ← encodeLog_append]
  apply readLog_encodeLog
  intro r hr
  rcases List.mem_append.1 hr with hr | hr
  · rcases List.mem_append.1 hr with hr | hr
    · exact hold r hr
    · exact hb r (List.mem_of_mem_take hr)
  · exact hm r hr

theorem afterRead_take (rs : List Rec) (h : ∀ r ∈ rs, r.wf) (n : Nat) :
    ∃ k torn, k ≤ rs.length ∧
      readLog ((encodeLog rs).take n)
        = .ok (rs.take k) (encodeLog (rs.take k)).length torn ∧
      (encodeLog (rs.take k)).length ≤ n ∧
      (k < rs.length → n < (encodeLog (rs.take (k+1))).length) ∧
      (torn = true ↔ (encodeLog (rs.take k)).length < min n (encodeLog rs).length) ∧
      afterRead ((encodeLog rs).take n) = encodeLog (rs.take k) := by
  have := readLog_old_take [] rs (fun _ hr => nomatch hr) h n
  simp only [List.nil_append, encodeLog_nil, List.length_nil, Nat.zero_add] at this
  exact this

theorem readLog_take (rs : List Rec) (h : ∀ r ∈ rs, r.wf) (n : Nat) :
    ∃ k torn, k ≤ rs.length ∧
      readLog ((encodeLog rs).take n)
        = .ok (rs.take k) (encodeLog (rs.take k)).length torn ∧
      (encodeLog (rs.take k)).length ≤ n ∧
      (k < rs.length → n < (encodeLog (rs.take (k+1))).length) ∧
      (torn = true ↔ (encodeLog (rs.take k)).length < min n (encodeLog rs).length) := by
  obtain ⟨k, torn, hk, hread, hle, hnext, htorn, _⟩ := afterRead_take rs h n
  exact ⟨k, torn, hk, hread, hle, hnext, htorn⟩

theorem append_after_cut (rs more : List Rec) (h : ∀ r ∈ rs, r.wf) (h' : ∀ r ∈ more, r.wf)
    (n : Nat) :
    ∃ k, k ≤ rs.length ∧
      readLog (afterRead ((encodeLog rs).take n) ++ encodeLog more)
        = .ok (rs.take k ++ more) (encodeLog (rs.take k ++ more)).length false := by
  obtain ⟨k, _, hk, _, _, _, _, hafter⟩ := afterRead_take rs h n
  have := append_after_old_cut [] rs more (fun _ hr => nomatch hr) h h' n k
    (by simp only [List.nil_append, encodeLog_nil, List.length_nil, Nat.zero_add]; exact hafter)
  simp only [List.nil_append, encodeLog_nil, List.length_nil, Nat.zero_add] at this
  exact ⟨k, hk, this⟩

/-! ### non-vacuity -/

example : (⟨1, 7, 3, 2, [0xAA, 0xBB]⟩ : Rec).wf := by
  simp only [Rec.wf, List.length_cons, List.length_nil]
  omega

example :
    readLog (encodeLog [⟨1, 7, 3, 2, [0xAA, 0xBB]⟩, ⟨2, 8, 4, 0, []⟩])
      = .ok [⟨1, 7, 3, 2, [0xAA, 0xBB]⟩, ⟨2, 8, 4, 0, []⟩] 60 false := by
  decide +kernel

/-- a cut in the middle of the second frame: the first record, flagged torn -/
example :
    readLog ((encodeLog [⟨1, 7, 3, 2, [0xAA, 0xBB]⟩, ⟨2, 8, 4, 0, []⟩]).take 40)
      = .ok [⟨1, 7, 3, 2, [0xAA, 0xBB]⟩] 31 true := by
  decide +kernel

/-- non-vacuity: one old record, a batch of two, cut 40 bytes into the batch (9 bytes into the second
frame of the batch): the old record and the first of the batch, flagged torn; the torn tail is cut off -/
example :
    let old : List Rec := [⟨0, 5, 4096, 1, [7]⟩]
    let batch : List Rec := [⟨1, 7, 3, 2, [0xAA, 0xBB]⟩, ⟨2, 8, 4, 0, []⟩]
    (∀ r ∈ old, r.wf) ∧ (∀ r ∈ batch, r.wf) ∧
    readLog ((encodeLog (old ++ batch)).take ((encodeLog old).length + 40))
      = .ok (old ++ batch.take 1) 61 true ∧
    afterRead ((encodeLog (old ++ batch)).take ((encodeLog old).length + 40))
      = encodeLog (old ++ batch.take 1) := by
  refine ⟨?_, ?_, by decide +kernel⟩
  · intro r hr
    simp only [List.mem_singleton] at hr
    subst hr
    simp only [Rec.wf, List.length_cons, List.length_nil]; omega
  · intro r hr
    simp only [List.mem_cons, List.not_mem_nil, or_false] at hr
    rcases hr with rfl | rfl <;> (simp only [Rec.wf, List.length_cons, List.length_nil]; omega)

end Mkdb.Wal
