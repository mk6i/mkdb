import Mkdb.Proofs.BaseCaseTable
import Mkdb.Proofs.SessInv
/-!
Session invariant: histories, and the witnesses (non-vacuity) of the session invariant.

Histories of CREATE DATABASE / USE / SHOW DATABASES / SELECT / DELETE / UPDATE statements (`Plain`) meet
the side conditions `SessOK` in EVERY session state - whatever is or is not selected.  The witness is the
database `CREATE DATABASE; CREATE TABLE t (a INT)` produces (computed by the model, BaseCaseTable), as a
closed database and inside a session (`sessT`).
-/
set_option autoImplicit false
namespace Mkdb.Session
open Mkdb.Engine Mkdb.Store Mkdb.Sql Mkdb.Tree

/-- a history run by the session (it goes on after every error): the final session, the outputs -/
def runAll (s : Sess) : List Sql.Stmt → Sess × List Out
  | [] => (s, [])
  | st :: rest => ((runAll (exec s st).1 rest).1, (exec s st).2 :: (runAll (exec s st).1 rest).2)

/-- **An invariant that every statement keeps without a panic is kept along a history, and no output is a
panic.**  `Ok`: the side conditions along the history - any predicate that unfolds as `SessOK` does. -/
theorem runAll_keeps {J : Sess → Prop} {Ok : Sess → List Sql.Stmt → Prop}
    (hstep : ∀ {s st rest}, J s → Ok s (st :: rest) →
      J (exec s st).1 ∧ (exec s st).2 ≠ Out.panic ∧ Ok (exec s st).1 rest) :
    ∀ (sts : List Sql.Stmt) (s : Sess), J s → Ok s sts →
      J (runAll s sts).1 ∧ ∀ o ∈ (runAll s sts).2, o ≠ Out.panic
  | [], _, h, _ => ⟨h, fun _ ho => by cases ho⟩
  | st :: rest, s, h, hok => by
    obtain ⟨h1, hnp, hok1⟩ := hstep h hok
    obtain ⟨hfin, houts⟩ := runAll_keeps hstep rest _ h1 hok1
    exact ⟨hfin, fun o ho => (List.mem_cons.mp ho).elim (fun e => e ▸ hnp) (houts o)⟩

theorem runAll_sessAbs (sts : List Sql.Stmt) (s : Sess) (w : String → Spec.SDB) (h : SessAbs s w) (hok : SessOK s sts) :
    (∃ w', SessAbs (runAll s sts).1 w') ∧ ∀ o ∈ (runAll s sts).2, o ≠ Out.panic :=
  runAll_keeps (J := fun s => ∃ w, SessAbs s w) (Ok := SessOK) (fun ⟨_, h⟩ ok => by
    obtain ⟨w1, h1, hnp, _⟩ := exec_sessAbs h _ ok.1
    exact ⟨⟨w1, h1⟩, hnp, ok.2⟩) sts s ⟨w, h⟩ hok

/-- statements whose side conditions hold in every session state (for a SELECT: the select list has a
shape the parser builds and the FROM clause names user tables - `SelectSide`).  No INSERT and no CREATE TABLE is
`Plain`: their room depends on the state, so `sessOK_plain` covers no history that stores anything; for such a
history `SessOK` has to be established along the run (`stmtSide_sessT` for one statement; a sufficient condition from
sizes at the start, as `Csv.importRoom_of_sizes` gives for the import loop, is not proved at session level). -/
def Plain : Sql.Stmt → Prop
  | .createDatabase _ | .use _ | .showDatabases => True
  | .select q => (Exec.NoPanicP.ParsedShape q) ∧ UserTables q
  | .delete t _ => t ≠ sysPages ∧ t ≠ sysSchema
  | .update t sets _ => (t ≠ sysPages ∧ t ≠ sysSchema) ∧ ∀ p ∈ sets, ∀ l, p.2 = .lit l → Tuple.ValidVal (Engine.litToVal l)
  | _ => False

theorem stmtSide_plain (s : Sess) (st : Sql.Stmt) (h : Plain st) : StmtSide s st := by
  intro n db _ _ sdb pt sch tbls _
  cases st with
  | createDatabase n => exact ⟨trivial, trivial, trivial, trivial⟩
  | use n => exact ⟨trivial, trivial, trivial, trivial⟩
  | showDatabases => exact ⟨trivial, trivial, trivial, trivial⟩
  | select q => exact ⟨trivial, trivial, trivial, h⟩
  | delete t w => exact ⟨fun _ => h, trivial, trivial, trivial⟩
  | update t sets w => exact ⟨fun _ => h.1, trivial, h.2, trivial⟩
  | createTable n c => exact h.elim
  | insert t c r => exact h.elim

theorem sessOK_plain : ∀ (sts : List Sql.Stmt) (s : Sess), (∀ st ∈ sts, Plain st) → SessOK s sts
  | [], _, _ => trivial
  | st :: rest, s, h => ⟨stmtSide_plain s st (h st List.mem_cons_self),
      sessOK_plain rest _ (fun st' hst => h st' (List.mem_cons_of_mem _ hst))⟩

end Mkdb.Session

namespace Mkdb.Store
open Mkdb.Page Mkdb.Tuple Mkdb.Generated Mkdb.Tree Mkdb.Engine

theorem dbFlushed_tableDB : DbFlushed tableDB sdbA0 ptT schT [(tname, tT)] := ckpt_tableDB.dbFlushed noStale_tableDB

theorem room_insert56 : StmtRoom tableDB ptT schT [(tname, tT)] (.insert tname [] [[.int 5], [.int 6]]) := by
  refine ⟨by decide, ?_⟩
  · intro tr schema htr hs
    simp only [List.mem_singleton, Prod.mk.injEq, true_and] at htr
    subst htr
    rw [schT_t] at hs
    simp only [Option.some.injEq] at hs
    subst hs
    exact runT

theorem spec_insert56 : Spec.specStmt sdbA0 (.insert tname [] [[.int 5], [.int 6]]) = some sdbA1 := rfl

end Mkdb.Store

namespace Mkdb.Session
open Mkdb.Engine Mkdb.Store Mkdb.Sql Mkdb.Tree

/-- a session with the database of `CREATE TABLE t (a INT)` selected -/
def sessT : Sess := { dbs := [("d", tableDB)], cur := some "d" }

theorem getDB_sessT : getDB sessT "d" = some tableDB := rfl

theorem sessAbs_sessT : SessAbs sessT (fun _ => sdbA0) where
  dbs := fun p hp => by
    simp only [sessT, List.mem_singleton] at hp
    subst hp
    exact ⟨ptT, schT, [(tname, tT)], dbFlushed_tableDB.inv, fun _ => dbFlushed_tableDB⟩
  cur := fun n hn => by
    simp only [sessT, Option.some.injEq] at hn
    subst hn
    decide
  nodup := by decide

theorem stmtSide_sessT : StmtSide sessT (.insert tname [] [[.int 5], [.int 6]]) := by
  intro n db hc hg sdb pt sch tbls hi
  simp only [sessT, Option.some.injEq] at hc
  subst hc
  have hdb : db = tableDB := by
    rw [getDB_sessT] at hg
    exact (Option.some.inj hg).symm
  subst hdb
  obtain ⟨_, habs0, _⟩ := hi.abs
  exact ⟨fun _ => tname_ne_sys, room_insert56.of_cat cat_tableDB habs0.cat, trivial, trivial⟩

end Mkdb.Session
