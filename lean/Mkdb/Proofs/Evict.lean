import Mkdb.Proofs.DbInvAccepted
import Mkdb.Proofs.SpecHistory
/-!
C16 on the heap model: evicting clean pages from the cache changes nothing the engine can see.  First the
eviction step and the invariants it keeps; then, through the statement-level theorems, the outcomes of
statements, what a reader sees and whole histories do not depend on evictions.  That route goes through the
plain model; `CacheSim` and `CacheSimEngine` stand on `evict`, `CacheOp` and `runOps` from here and prove the
same directly on the heap (every program of the page store is a `Sim`): a new fact about evictions that needs
error values or no side condition on the statements is an instance there.
-/

section
/-!
The heap model (`Mkdb/Model/Store.lean`) has an unbounded cache: nothing is ever evicted.  The real cache
(storage/lru.go under storage/page.go) drops the least recently used CLEAN page when it is full.
`evict s offs` is that step on the model, for any set of offsets at once (the policy - which clean pages
go - is C15's; here every choice is covered).

Under `Synced` (every clean page of the catalog description is in the data file) every tree the store
holds is held after the eviction, so the catalog invariant, the abstraction and the database invariant hold
with the SAME trees and the SAME plain database.
-/
set_option autoImplicit false
namespace Mkdb.Store
open Mkdb.Page Mkdb.Tuple Mkdb.Generated Mkdb.Tree Mkdb.Engine

def evictable (s : Store) (offs : List Nat) (o : Nat) : Bool :=
  offs.contains o && ((assocGet s.mem o).map (·.dirty) == some false)

/-- **Eviction of clean pages**: the cache loses the pages at the offsets `offs` that the engine sees clean;
the data file, the headers and everything else stay.  The model's cache is an association list in which only
the first entry of an offset is visible; entries hidden behind a clean first entry go with it (a Go map has
one entry per key: `evict_eq_filter_clean`). -/
def evict (s : Store) (offs : List Nat) : Store :=
  { s with mem := s.mem.filter fun p => !evictable s offs p.1 }

/-- the same on a database (the log is a file of its own) -/
def evictDB (db : Engine.DB) (offs : List Nat) : Engine.DB := { db with store := evict db.store offs }

@[simp] theorem evict_hdr (s : Store) (offs : List Nat) : (evict s offs).hdr = s.hdr := rfl
@[simp] theorem evict_disk (s : Store) (offs : List Nat) : (evict s offs).disk = s.disk := rfl
@[simp] theorem evict_dhdr (s : Store) (offs : List Nat) : (evict s offs).dhdr = s.dhdr := rfl
@[simp] theorem evict_ghost (s : Store) (offs : List Nat) : (evict s offs).ghost = s.ghost := rfl
@[simp] theorem evictDB_wal (db : Engine.DB) (offs : List Nat) : (evictDB db offs).wal = db.wal := rfl
@[simp] theorem evictDB_store (db : Engine.DB) (offs : List Nat) : (evictDB db offs).store = evict db.store offs := rfl

theorem assocGet_filter_key {β} (c : Nat → Bool) (l : List (Nat × β)) (o : Nat) :
    assocGet (l.filter fun p => !c p.1) o = if c o then none else assocGet l o := by
  induction l with
  | nil => simp [assocGet]
  | cons p ps ih =>
    rw [List.filter_cons]
    by_cases hp : c p.1 = true
    · simp only [hp, Bool.not_true, Bool.false_eq_true, if_false]
      rw [ih, assocGet_cons]
      by_cases hk : p.1 = o
      · rw [← hk]; simp [hp]
      · simp [hk]
    · have hp' : c p.1 = false := by simpa using hp
      simp only [hp', Bool.not_false, if_true]
      rw [assocGet_cons, assocGet_cons, ih]
      by_cases hk : p.1 = o
      · rw [← hk]; simp [hp']
      · simp [hk]

theorem assocGet_evict (s : Store) (offs : List Nat) (o : Nat) :
    assocGet (evict s offs).mem o = if evictable s offs o then none else assocGet s.mem o :=
  assocGet_filter_key (evictable s offs) s.mem o

theorem view_evict (s : Store) (offs : List Nat) (o : Nat) :
    view (evict s offs) o =
      if evictable s offs o then (assocGet s.disk o).map fun n => (n, false) else view s o := by
  unfold view
  rw [assocGet_evict]
  by_cases h : evictable s offs o = true
  · simp [h]
  · simp [h]

theorem evictable_view {s : Store} {offs : List Nat} {o : Nat} (h : evictable s offs o = true) :
    o ∈ offs ∧ ∃ n, view s o = some (n, false) := by
  unfold evictable at h
  simp only [Bool.and_eq_true, List.contains_iff_mem, beq_iff_eq, Option.map_eq_some_iff] at h
  obtain ⟨h1, m, hm, hd⟩ := h
  refine ⟨h1, m.node, ?_⟩
  unfold view
  rw [hm, ← hd]

/-- **A page the engine sees dirty is never dropped** (`C15_dirty_pinned`, on the heap model). -/
theorem evict_keeps_dirty {s : Store} {offs : List Nat} {o : Nat} {n : Node} (h : view s o = some (n, true)) :
    assocGet (evict s offs).mem o = assocGet s.mem o := by
  rw [assocGet_evict]
  by_cases he : evictable s offs o = true
  · obtain ⟨_, n', hn'⟩ := evictable_view he
    rw [h] at hn'
    simp only [Option.some.injEq, Prod.mk.injEq] at hn'
    exact absurd hn'.2 (by decide)
  · simp [he]

theorem evict_keeps_others {s : Store} {offs : List Nat} {o : Nat} (h : o ∉ offs) :
    assocGet (evict s offs).mem o = assocGet s.mem o := by
  rw [assocGet_evict]
  have : evictable s offs o = false := by
    unfold evictable
    simp [h]
  simp [this]

/-- **Invisibility at one offset**: where the page the engine sees clean is the data file's page, the
eviction changes nothing: the same content, and the same dirty bit (a dropped page reads back clean,
which it was). -/
theorem evict_view_eq {s : Store} {offs : List Nat} {o : Nat}
    (h : ∀ n, view s o = some (n, false) → assocGet s.disk o = some n) :
    view (evict s offs) o = view s o := by
  rw [view_evict]
  by_cases he : evictable s offs o = true
  · obtain ⟨_, n, hn⟩ := evictable_view he
    simp only [he, if_true]
    rw [h n hn, hn]
    rfl
  · simp [he]

theorem evict_nil (s : Store) : evict s [] = s := by
  unfold evict
  have : (s.mem.filter fun p => !evictable s [] p.1) = s.mem := by
    apply List.filter_eq_self.mpr
    intro p _
    simp [evictable]
  rw [this]

theorem assocGet_of_mem_nodup {β} (l : List (Nat × β)) (hnd : l.Pairwise fun a b => a.1 ≠ b.1)
    (p : Nat × β) (hp : p ∈ l) : assocGet l p.1 = some p.2 := by
  unfold assocGet
  rw [find?_of_mem (key := (·.1)) (List.pairwise_map.mpr hnd) hp]
  rfl

/-- with one entry per offset (a Go map) the eviction drops exactly the clean entries at the offsets -/
theorem evict_eq_filter_clean (s : Store) (offs : List Nat)
    (hnd : s.mem.Pairwise fun a b => a.1 ≠ b.1) :
    (evict s offs).mem = s.mem.filter fun p => !(offs.contains p.1 && !p.2.dirty) := by
  unfold evict
  apply List.filter_congr
  intro p hp
  have hget := assocGet_of_mem_nodup s.mem hnd p hp
  unfold evictable
  rw [hget]
  cases hd : p.2.dirty <;> simp [hd]

theorem evict_mem_sub {s : Store} {offs : List Nat} {p : Nat × MNode} (h : p ∈ (evict s offs).mem) : p ∈ s.mem :=
  (List.mem_filter.mp h).1

theorem MemFiled.evict {s : Store} (h : MemFiled s) (offs : List Nat) : MemFiled (evict s offs) :=
  fun p hp => h p (evict_mem_sub hp)

/-! ### the trees the store holds -/

theorem Holds.evict {s : Store} {t : Levels} (h : Holds s t)
    (hsy : ∀ e ∈ flatten t, e.2.2 = false → assocGet s.disk e.1 = some e.2.1) (offs : List Nat) :
    Holds (evict s offs) t := by
  intro e he
  rw [evict_view_eq]
  · exact h e he
  · intro n hn
    rw [h e he] at hn
    simp only [Option.some.injEq, Prod.mk.injEq] at hn
    rw [← hn.1]
    exact hsy e he hn.2

/-- `Synced` does not look at the cache -/
theorem Synced.evict {s : Store} {pt sch : Levels} {tbls : List (Bytes × Levels)} (h : Synced s pt sch tbls)
    (offs : List Nat) : Synced (evict s offs) pt sch tbls := h

theorem Cat.evict {s : Store} {pt sch : Levels} {tbls : List (Bytes × Levels)} (h : Cat s pt sch tbls)
    (hsy : Synced s pt sch tbls) (offs : List Nat) : Cat (evict s offs) pt sch tbls :=
  h.of_holds (fun x hx => (h.tree x hx).1.evict (hsy x hx) offs) rfl

theorem Abs.evict {s : Store} {pt sch : Levels} {tbls : List (Bytes × Levels)} {sdb : Spec.SDB}
    (h : Abs s pt sch tbls sdb) (hsy : Synced s pt sch tbls) (offs : List Nat) :
    Abs (evict s offs) pt sch tbls sdb := ⟨h.cat.evict hsy offs, h.tabs⟩

theorem AbsV.evict {s : Store} {pt sch : Levels} {tbls : List (Bytes × Levels)} {sdb : Spec.SDB}
    (h : AbsV s pt sch tbls sdb) (hsy : Synced s pt sch tbls) (offs : List Nat) :
    AbsV (evict s offs) pt sch tbls sdb := by
  obtain ⟨sdb0, habs, hv⟩ := h
  exact ⟨sdb0, habs.evict hsy offs, hv⟩

theorem DbInv.evict {db : Engine.DB} {sdb : Spec.SDB} {pt sch : Levels} {tbls : List (Bytes × Levels)}
    (h : DbInv db sdb pt sch tbls) (offs : List Nat) : DbInv (evictDB db offs) sdb pt sch tbls :=
  ⟨h.abs.evict h.synced offs, h.nostale, h.filed.evict offs, h.log, h.lsn, h.keys, h.synced⟩

theorem DbFlushed.evict {db : Engine.DB} {sdb : Spec.SDB} {pt sch : Levels} {tbls : List (Bytes × Levels)}
    (h : DbFlushed db sdb pt sch tbls) (offs : List Nat) : DbFlushed (evictDB db offs) sdb pt sch tbls :=
  ⟨h.inv.evict offs, h.dhdr, h.disk⟩

theorem Rel.evict {db : Engine.DB} {sdb : Spec.SDB} {pt sch : Levels} {tbls : List (Bytes × Levels)}
    (h : Rel db pt sch tbls sdb) (hsy : Synced db.store pt sch tbls) (offs : List Nat) :
    Rel (evictDB db offs) pt sch tbls sdb := ⟨h.1.evict hsy offs, h.2.1, h.2.2.evict offs⟩

/-- the side conditions of a statement read the header only -/
theorem StmtRoom.evict {db : Engine.DB} {pt sch : Levels} {tbls : List (Bytes × Levels)} {st : Sql.Stmt}
    (h : StmtRoom db pt sch tbls st) (offs : List Nat) : StmtRoom (evictDB db offs) pt sch tbls st := by
  cases st <;> exact h

theorem StmtRoomT.evict {db : Engine.DB} {pt sch : Levels} {tbls : List (Bytes × Levels)} {st : Sql.Stmt}
    (h : StmtRoomT db pt sch tbls st) (offs : List Nat) : StmtRoomT (evictDB db offs) pt sch tbls st := by
  cases st <;> exact h

end Mkdb.Store
end

section
/-!
The outcome of a statement on a database that satisfies `DbInv` for the plain database `sdb` is decided
by `sdb` (accepted: `DbInv.accepted`; refused before a change: `DbInv.refused`), and so is what a reader
sees (`DbInv.reads`); the eviction keeps `DbInv` for the same `sdb` (`DbInv.evict`).
-/
set_option autoImplicit false
namespace Mkdb.Store
open Mkdb.Page Mkdb.Tuple Mkdb.Generated Mkdb.Tree Mkdb.Engine

/-! ### one statement -/

theorem accepted_evict {db : Engine.DB} {sdb : Spec.SDB} {pt sch : Levels} {tbls : List (Bytes × Levels)}
    (h : DbInv db sdb pt sch tbls) (offs order : List Nat) (st : Sql.Stmt) (hroom : StmtRoom db pt sch tbls st)
    (sdb' : Spec.SDB) (hspec : Spec.specStmt sdb st = some sdb') :
    (∃ db1 pt1 sch1 tbls1, evalStmt db order st = .ok () db1 ∧ DbInv db1 sdb' pt1 sch1 tbls1) ∧
    (∃ db2 pt2 sch2 tbls2, evalStmt (evictDB db offs) order st = .ok () db2 ∧ DbInv db2 sdb' pt2 sch2 tbls2) :=
  ⟨h.accepted order st hroom sdb' hspec, (h.evict offs).accepted order st (hroom.evict offs) sdb' hspec⟩

theorem refused_evict {db : Engine.DB} {sdb : Spec.SDB} {pt sch : Levels} {tbls : List (Bytes × Levels)}
    (h : DbInv db sdb pt sch tbls) (offs order : List Nat) (st : Sql.Stmt) (hbad : StmtRefusal sdb pt st) :
    Spec.specStmt sdb st = none ∧
    (∃ e1 db1, evalStmt db order st = .err e1 db1 ∧ db1.wal = db.wal ∧ DbInv db1 sdb pt sch tbls) ∧
    (∃ e2 db2, evalStmt (evictDB db offs) order st = .err e2 db2 ∧ db2.wal = db.wal ∧ DbInv db2 sdb pt sch tbls) :=
  ⟨(h.refused order st hbad).1, (h.refused order st hbad).2, ((h.evict offs).refused order st hbad).2⟩

/-! ### histories of statements, flushes and evictions -/

/-- a step of a history: a statement, a flush of the page cache (the timer's, with the page write order
it happens to use), or the eviction of the clean pages at some offsets -/
inductive CacheOp where
  | stmt (st : Sql.Stmt)
  | flush (order : List Nat)
  | evict (offs : List Nat)

def stmtsOf : List CacheOp → List Sql.Stmt
  | [] => []
  | .stmt st :: rest => st :: stmtsOf rest
  | _ :: rest => stmtsOf rest

def noEvict : List CacheOp → List CacheOp
  | [] => []
  | .evict _ :: rest => noEvict rest
  | op :: rest => op :: noEvict rest

theorem stmtsOf_noEvict : ∀ (ops : List CacheOp), stmtsOf (noEvict ops) = stmtsOf ops
  | [] => rfl
  | .stmt st :: rest => by simp only [noEvict, stmtsOf, stmtsOf_noEvict rest]
  | .flush o :: rest => by simp only [noEvict, stmtsOf, stmtsOf_noEvict rest]
  | .evict o :: rest => by simp only [noEvict, stmtsOf, stmtsOf_noEvict rest]

/-- Run a history on the engine model, going on after an error value; the outcome of each statement is
`none` (accepted) or `some e` (refused with the error `e`).  `none` for the whole run: a statement or a
flush crashed (panic, unmodelled path, fuel).  `order` is `evalStmt`'s: the page write order of the flush that
ends a CREATE TABLE; a `.flush o` step carries its own. -/
def runOps (order : List Nat) (db : Engine.DB) : List CacheOp → Option (Engine.DB × List (Option Engine.StmtErr))
  | [] => some (db, [])
  | .stmt st :: rest =>
    match evalStmt db order st with
    | .ok _ db' => (runOps order db' rest).map fun r => (r.1, none :: r.2)
    | .err e db' => (runOps order db' rest).map fun r => (r.1, some e :: r.2)
    | _ => none
  | .flush o :: rest =>
    match Engine.flush db o with
    | .ok _ db' => runOps order db' rest
    | _ => none
  | .evict offs :: rest => runOps order (evictDB db offs) rest

/-- the plain model's verdicts on a list of statements: accepted? -/
def specOuts (sdb : Spec.SDB) : List Sql.Stmt → List Bool
  | [] => []
  | st :: rest => (Spec.specStmt sdb st).isSome :: specOuts ((Spec.specStmt sdb st).getD sdb) rest

/-- The side conditions of `HistOK` along a history with flushes and evictions: a statement the plain
model accepts has the room a Go program has (`StmtRoom`), a statement it refuses is refused before a
change (`StmtRefusal`: the refusal at a later row of a multi-row INSERT / UPDATE, the known finding of
C14, is not among them); flushes and evictions have no side condition. -/
def OpsOK (order : List Nat) : List CacheOp → Engine.DB → Spec.SDB → Prop
  | [], _, _ => True
  | .stmt st :: rest, db, sdb =>
    ((Spec.specStmt sdb st).isSome → ∀ pt sch tbls, DbInv db sdb pt sch tbls → StmtRoom db pt sch tbls st) ∧
    (Spec.specStmt sdb st = none → ∀ pt sch tbls, DbInv db sdb pt sch tbls → StmtRefusal sdb pt st) ∧
    ∀ db', (evalStmt db order st = .ok () db' ∨ ∃ e, evalStmt db order st = .err e db') →
      OpsOK order rest db' ((Spec.specStmt sdb st).getD sdb)
  | .flush o :: rest, db, sdb => ∀ db', Engine.flush db o = .ok () db' → OpsOK order rest db' sdb
  | .evict offs :: rest, db, sdb => OpsOK order rest (evictDB db offs) sdb

theorem runOps_refines (order : List Nat) (ops : List CacheOp) :
    ∀ (db : Engine.DB) (sdb : Spec.SDB) (pt sch : Levels) (tbls : List (Bytes × Levels)),
      DbInv db sdb pt sch tbls → OpsOK order ops db sdb →
      ∃ db' outs pt' sch' tbls', runOps order db ops = some (db', outs) ∧
        DbInv db' (specHist sdb (stmtsOf ops)) pt' sch' tbls' ∧
        outs.map Option.isNone = specOuts sdb (stmtsOf ops) := by
  induction ops with
  | nil => intro db sdb pt sch tbls h _; exact ⟨db, [], pt, sch, tbls, rfl, h, rfl⟩
  | cons op rest ih =>
    intro db sdb pt sch tbls h hok
    cases op with
    | stmt st =>
      obtain ⟨hroom, hbad, hnext⟩ := hok
      cases hs : Spec.specStmt sdb st with
      | none =>
        obtain ⟨_, e, db1, he, _, hi1⟩ := h.refused order st (hbad hs pt sch tbls h)
        have hn := hnext db1 (Or.inr ⟨e, he⟩)
        rw [hs] at hn
        obtain ⟨db2, outs, pt2, sch2, tbls2, hr, hi2, ho⟩ := ih db1 sdb pt sch tbls hi1 hn
        refine ⟨db2, some e :: outs, pt2, sch2, tbls2, ?_, ?_, ?_⟩
        · simp only [runOps, he, hr, Option.map_some]
        · simp only [stmtsOf, specHist, hs]; exact hi2
        · simp only [stmtsOf, specOuts, hs, List.map_cons]
          rw [ho]; rfl
      | some sdb' =>
        obtain ⟨db1, pt1, sch1, tbls1, he, hi1⟩ := h.accepted order st (hroom (by rw [hs]; rfl) pt sch tbls h) sdb' hs
        have hn := hnext db1 (Or.inl he)
        rw [hs] at hn
        obtain ⟨db2, outs, pt2, sch2, tbls2, hr, hi2, ho⟩ := ih db1 sdb' pt1 sch1 tbls1 hi1 hn
        refine ⟨db2, none :: outs, pt2, sch2, tbls2, ?_, ?_, ?_⟩
        · simp only [runOps, he, hr, Option.map_some]
        · simp only [stmtsOf, specHist, hs]; exact hi2
        · simp only [stmtsOf, specOuts, hs, List.map_cons]
          rw [ho]; rfl
    | flush o =>
      obtain ⟨db2, outs, pt2, sch2, tbls2, hr, hi2, ho⟩ := ih _ sdb _ _ _ (h.flushed o).inv (hok _ (flush_flushed db o))
      refine ⟨db2, outs, pt2, sch2, tbls2, ?_, hi2, ho⟩
      simp only [runOps, flush_flushed, hr]
    | evict offs =>
      obtain ⟨db2, outs, pt2, sch2, tbls2, hr, hi2, ho⟩ := ih (evictDB db offs) sdb pt sch tbls (h.evict offs) hok
      exact ⟨db2, outs, pt2, sch2, tbls2, hr, hi2, ho⟩

theorem runOps_evictions_invisible (order : List Nat) (ops : List CacheOp) (db : Engine.DB) (sdb : Spec.SDB)
    (pt sch : Levels) (tbls : List (Bytes × Levels)) (h : DbInv db sdb pt sch tbls)
    (hok : OpsOK order ops db sdb) (hok0 : OpsOK order (noEvict ops) db sdb) :
    ∃ db1 outs1 db2 outs2, runOps order db ops = some (db1, outs1) ∧
      runOps order db (noEvict ops) = some (db2, outs2) ∧
      outs1.map Option.isNone = outs2.map Option.isNone ∧
      (∃ pt1 sch1 tbls1, DbInv db1 (specHist sdb (stmtsOf ops)) pt1 sch1 tbls1) ∧
      (∃ pt2 sch2 tbls2, DbInv db2 (specHist sdb (stmtsOf ops)) pt2 sch2 tbls2) ∧
      ∀ t tb, Spec.findTable (specHist sdb (stmtsOf ops)) t = some tb →
        Reads db1 t tb.cols (tb.rows.map (·.vals)) ∧ Reads db2 t tb.cols (tb.rows.map (·.vals)) := by
  obtain ⟨db1, outs1, pt1, sch1, tbls1, hr1, hi1, ho1⟩ := runOps_refines order ops db sdb pt sch tbls h hok
  obtain ⟨db2, outs2, pt2, sch2, tbls2, hr2, hi2, ho2⟩ := runOps_refines order (noEvict ops) db sdb pt sch tbls h hok0
  rw [stmtsOf_noEvict] at hi2 ho2
  exact ⟨db1, outs1, db2, outs2, hr1, hr2, ho1.trans ho2.symm, ⟨pt1, sch1, tbls1, hi1⟩, ⟨pt2, sch2, tbls2, hi2⟩,
    fun t tb hf => ⟨hi1.reads hf, hi2.reads hf⟩⟩

theorem opsOK_deletes (order : List Nat) (ops : List CacheOp)
    (h : ∀ st ∈ stmtsOf ops, ∃ t w, st = .delete t w ∧ t ≠ sysPages ∧ t ≠ sysSchema) :
    ∀ (db : Engine.DB) (sdb : Spec.SDB), OpsOK order ops db sdb := by
  induction ops with
  | nil => intro _ _; trivial
  | cons op rest ih =>
    intro db sdb
    cases op with
    | stmt st =>
      obtain ⟨t, w, rfl, h1, h2⟩ := h st (by simp [stmtsOf])
      refine ⟨fun _ _ _ _ _ => trivial, fun hs pt sch tbls _ => .delete t w (fun _ => ⟨h1, h2⟩) hs, fun db' _ => ?_⟩
      exact ih (fun st hst => h st (by simp [stmtsOf, hst])) _ _
    | flush o => exact fun db' _ => ih (fun st hst => h st (by simpa [stmtsOf] using hst)) _ _
    | evict offs => exact ih (fun st hst => h st (by simpa [stmtsOf] using hst)) _ _

end Mkdb.Store
end
