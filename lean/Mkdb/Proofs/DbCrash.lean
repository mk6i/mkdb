import Mkdb.Proofs.DbInvAccepted
import Mkdb.Proofs.PtSelfHistories
/-!
What one statement on a database in use is in the terms of the crash invariants (`accepted_specRun`,
`StmtRefusalC`, `evalStmt_refused_same`, `FirstRowRefused`), then the crash invariant of one database of a
session in three strengths (`DbCrash`, `DbCrashL`, `DbCrashB`), with its flush and its start-up recovery.
-/

section
/-!
An accepted row statement is a step of a `SpecRun`; (an accepted CREATE TABLE ends in a checkpoint, whatever was
dirty before it: `DbInv.createTable_ckpt`, PtSelfHistories;) a statement refused before it changed anything is a
step in which only the cache grows (`Same`) - except an INSERT whose first row is refused for its SIZE, inside
the tree insert, after the row-id and LSN counters moved: that one leaves a store that abstracts as before.

NOT covered, and not true: a refusal at a later row of an INSERT leaves the rows before it in the cache and in no
log record (`C17_crash_loses_rows_of_a_refused_insert`).
-/
set_option autoImplicit false
namespace Mkdb.Store
open Mkdb.Page Mkdb.Tuple Mkdb.Generated Mkdb.Tree Mkdb.Engine

theorem accepted_specRun {db db' : Engine.DB} {sdb sdb' : Spec.SDB} {pt0 sch0 : Levels}
    {tbls0 : List (Bytes × Levels)} (hi : DbInv db sdb pt0 sch0 tbls0) (st : Sql.Stmt)
    (hk : (∃ t c r, st = .insert t c r) ∨ (∃ t a c, st = .update t a c) ∨ (∃ t c, st = .delete t c))
    (hroom : StmtRoom db pt0 sch0 tbls0 st) (hspec : Spec.specStmt sdb st = some sdb')
    (e : evalStmt db [] st = .ok () db') (sch : Levels) : ∃ est, SpecRun sch db sdb [est] db' sdb' := by
  rcases hk with ⟨t, c, r, rfl⟩ | ⟨t, a, c, rfl⟩ | ⟨t, c, rfl⟩
  · obtain ⟨hvalid, hrun⟩ := hroom
    rw [specStmt_insert] at hspec
    obtain ⟨n, he⟩ := voidRes_ok e
    refine ⟨.insert t c _, .insert t c _ (litRows_valid r hvalid) hspec ?_ he (.nil _ _)⟩
    intro pt tbls tr schema hA hm hs
    obtain rfl : sch = sch0 := hA.cat.sch_unique hi.abs.cat
    exact hrun tr schema (hA.cat.tbls_sub hi.abs.cat _ hm) hs
  · exact ⟨.update t a c, .update t a c hroom.1 hspec e (.nil _ _)⟩
  · obtain ⟨n, he⟩ := voidRes_ok e
    exact ⟨.delete t c, .delete t c hspec he (.nil _ _)⟩

theorem evalStmt_err_disk_filed {db db' : Engine.DB} {st : Sql.Stmt} {e : Engine.StmtErr}
    (hf : MemFiled db.store) (he : evalStmt db [] st = .err e db') :
    DiskSame db.store db'.store ∧ MemFiled db'.store := by
  refine ⟨(evalStmt_err_facts he).1, ?_⟩
  cases st with
  | insert t cols rows => exact (evalInsert_filed db t cols _ hf).err (voidRes_err he)
  | update t sets w => exact (evalUpdate_filed db t sets w hf).err he
  | delete t w => exact (evalDelete_filed db t w hf).err (voidRes_err he)
  | createTable n cols => exact (evalCreateTable_filed db n cols [] true hf).err he
  | _ => cases he

theorem evalStmt_insert_err (db : Engine.DB) (t : Bytes) (cols : List Bytes) (r : List Sql.Lit)
    (rest : List (List Sql.Lit)) {e : SErr} {s' : Store}
    (he : insert t (cols.map Engine.bytesToName) (r.map Engine.litToVal) db.store = .err e s') :
    evalStmt db [] (.insert t cols (r :: rest)) = .err (.store e) { db with store := s' } := by
  have h2 : Engine.evalInsert db t cols (r.map Engine.litToVal :: rest.map fun r => r.map Engine.litToVal) =
      .err (.store e) { db with store := s' } := evalInsert_first_err db t cols _ he
  simp only [evalStmt, List.map_cons, voidRes, h2]

/-- **Why a statement is refused before it changed anything, with only the cache grown**: `StmtRefusal`
(SpecRefineStmt, the refusals of `C14_refused_statement_plain_model`) without the INSERT whose first row is
refused for its SIZE. -/
inductive StmtRefusalC (sdb : Spec.SDB) (pt : Levels) : Sql.Stmt → Prop
  | create (n : Bytes) (cols : List Sql.ColDef) : CreateRefusal sdb pt n cols → StmtRefusalC sdb pt (.createTable n cols)
  | insert (t : Bytes) (cols : List Bytes) (r : List Sql.Lit) (rest : List (List Sql.Lit)) :
      ((Spec.findTable sdb t = none ∧ t ≠ sysPages ∧ t ≠ sysSchema) ∨
        ∃ st, Spec.findTable sdb t = some st ∧
          (rowRefusedEarly st.cols cols (r.map Engine.litToVal) = true ∨
            Spec.namesOK st (cols.map Spec.nameStr) = false)) →
      StmtRefusalC sdb pt (.insert t cols (r :: rest))
  | update (t : Bytes) (sets : List (Bytes × Sql.VExpr)) (w : Option Sql.Cond) :
      UpdRefusal sdb t sets w → StmtRefusalC sdb pt (.update t sets w)
  | delete (t : Bytes) (w : Option Sql.Cond) :
      (Spec.findTable sdb t = none → t ≠ sysPages ∧ t ≠ sysSchema) → Spec.specDelete sdb t w = none →
      StmtRefusalC sdb pt (.delete t w)

theorem StmtRefusalC.toRefusal {sdb : Spec.SDB} {pt : Levels} {st : Sql.Stmt} (h : StmtRefusalC sdb pt st) :
    StmtRefusal sdb pt st := by
  cases h with
  | create n cols hc => exact .create n cols hc
  | insert t cols r rest hc =>
    refine .insert t cols r rest ?_
    rcases hc with hc | ⟨st, hf, hr | hr⟩
    · exact .inl hc
    · exact .inr ⟨st, hf, .inl (rowOf_none_of_early hr)⟩
    · exact .inr ⟨st, hf, .inr hr⟩
  | update t sets w hc => exact .update t sets w hc
  | delete t w h1 h2 => exact .delete t w h1 h2

theorem evalStmt_refused_same (db : Engine.DB) (pt sch : Levels) (tbls : List (Bytes × Levels))
    (sdb : Spec.SDB) (h : Rel db pt sch tbls sdb) (st : Sql.Stmt) (hbad : StmtRefusalC sdb pt st) :
    Spec.specStmt sdb st = none ∧
    ∃ e db', evalStmt db [] st = .err e db' ∧ db'.wal = db.wal ∧ Same db.store db'.store ∧
      DiskSame db.store db'.store ∧ MemFiled db'.store := by
  obtain ⟨hnone, _⟩ := evalStmt_refused_spec db [] pt sch tbls sdb h st hbad.toRefusal
  refine ⟨hnone, ?_⟩
  obtain ⟨habs, hns, hmf⟩ := h
  have key : ∃ e db', evalStmt db [] st = .err e db' ∧ db'.wal = db.wal ∧ Same db.store db'.store := by
    cases hbad with
    | create n cols hc =>
      obtain ⟨_, e, db', he, _, hw, hs, _⟩ := evalCreateTable_refused_specV db pt sch tbls sdb habs n cols [] true hc
      exact ⟨.store e, db', he, hw, hs⟩
    | update t sets w hc =>
      obtain ⟨_, e, db', he, _, hw, hs, _⟩ := evalUpdate_refused_specV db pt sch tbls sdb habs t sets w hc
      exact ⟨e, db', he, hw, hs⟩
    | delete t w hsys hn =>
      obtain ⟨e, db', he, _, _, _, hw, hs, _⟩ := evalDelete_refused_specV db pt sch tbls sdb habs t w hsys hn
      exact ⟨e, db', by simp only [evalStmt, he, voidRes], hw, hs⟩
    | insert t cols r rest hc =>
      obtain ⟨e, s', he, hs⟩ : ∃ e s', insert t (cols.map Engine.bytesToName) (r.map Engine.litToVal) db.store = .err e s' ∧
          Same db.store s' := by
        rcases hc with ⟨hn, h1, h2⟩ | ⟨st, hf, hr⟩
        · obtain ⟨s', e, hs, _⟩ := insert_unknown_table db.store pt sch tbls habs.cat t (cols.map Engine.bytesToName)
            (r.map Engine.litToVal) h1 h2 ((habs.find_none_iff t).mp hn)
          exact ⟨_, s', e, hs⟩
        · obtain ⟨tr, schema, ht, hsch, _, htv⟩ := habs.find hf
          obtain rfl : schema = st.cols := tv_cols htv
          have hbad := hr.imp_right (checkColumns_of_not_namesOK (st := st))
          obtain ⟨e, hce⟩ := rowCheck_error_of (st := st) (hbad.imp_left rowOf_none_of_early)
          obtain ⟨s', he, _, _, _, _, hs⟩ := insert_refused habs.cat t tr ht st.cols hsch _ _ hce
          exact ⟨e, s', he, hs (rowCheck_not_size hbad hce)⟩
      exact ⟨.store e, { db with store := s' }, evalStmt_insert_err db t cols r rest he, rfl, hs⟩
  obtain ⟨e, db', he, hw, hs⟩ := key
  obtain ⟨hd, hf⟩ := evalStmt_err_disk_filed hmf he
  exact ⟨e, db', he, hw, hs, hd, hf⟩

/-- **Why an INSERT is refused at its first row**: the table exists and the plain model has no row for the
values - wrong number of values, a value the column does not accept, OR a row too large for a page cell (that
one is refused inside the tree insert, after the row-id and LSN counters moved). -/
def FirstRowRefused (sdb : Spec.SDB) : Sql.Stmt → Prop
  | .insert t cols (r :: _) => ∃ st, Spec.findTable sdb t = some st ∧ Spec.rowOf st cols (r.map Engine.litToVal) = none
  | _ => False

theorem evalStmt_firstRow_refused (db : Engine.DB) (pt sch : Levels) (tbls : List (Bytes × Levels))
    (sdb : Spec.SDB) (hA : AbsV db.store pt sch tbls sdb) (t : Bytes) (cols : List Bytes) (r : List Sql.Lit)
    (rest : List (List Sql.Lit))
    (hc : ∃ st, Spec.findTable sdb t = some st ∧ Spec.rowOf st cols (r.map Engine.litToVal) = none) :
    ∃ e s', evalStmt db [] (.insert t cols (r :: rest)) = .err (.store e) { db with store := s' } ∧
      AbsV s' pt sch tbls sdb ∧ s'.hdr.nextFree = db.store.hdr.nextFree ∧ db.store.hdr.lastKey ≤ s'.hdr.lastKey := by
  obtain ⟨st, hf, hr⟩ := hc
  obtain ⟨tr, schema, ht, hsch, _, htv⟩ := hA.find hf
  obtain rfl : schema = st.cols := tv_cols htv
  obtain ⟨e, hce⟩ := rowCheck_error_of (.inl hr)
  obtain ⟨s', he, hc', _, hnf, hlk, _⟩ := insert_refused hA.cat t tr ht st.cols hsch _ _ hce
  exact ⟨e, s', evalStmt_insert_err db t cols r rest he, hA.of_cat hc', hnf, hlk⟩

end Mkdb.Store
end

section
/-!
The session invariant `SessAbs` (SessInv) is too weak for a crash: `DbInv` says that the CACHE of the
selected database shows the plain database `w name`, not that its LOG redoes it from the data file - and
it does not: after an INSERT refused at a later row the rows before the refused one are in the cache,
visible, and in no log record (`C17_crash_loses_rows_of_a_refused_insert`).

Each of the three implies the next, and the weakest implies `DbInv` with the side conditions of the replay
(`DbCrashB.dbInv`: what live runs and counter moves from a checkpoint keep, `ckpt_live_factsB`, is one fold over
the steps).  Flush and - after a crash - start-up recovery are proved once, for the weakest (`DbCrashB.flushed`,
`DbCrashB.recover`): they succeed and give a checkpointed database for the same plain database.
-/
set_option autoImplicit false
namespace Mkdb.Store
open Mkdb.Page Mkdb.Tuple Mkdb.Generated Mkdb.Tree Mkdb.Engine

/-- checkpointed (`Ckpt`, CkptInvariant: everything on disk, the whole log applied, `PtSelf`, `FreshM`), without
stale `sys_schema` rows -/
def CkptNS (db : Engine.DB) (sdb : Spec.SDB) : Prop :=
  ∃ sch pt tbls, Ckpt sch db sdb pt tbls ∧ NoStale sch tbls

/-- **The crash invariant of a database in use**: reached from a checkpoint by accepted row statements. -/
def DbCrash (db : Engine.DB) (sdb : Spec.SDB) : Prop :=
  ∃ sch db0 sdb0 pt0 tbls0 stmts, Ckpt sch db0 sdb0 pt0 tbls0 ∧ NoStale sch tbls0 ∧
    SpecRun sch db0 sdb0 stmts db sdb

/-- **The crash invariant of a database in use, up to the cache.**  A statement the database refuses before it
changes anything still reads pages, and `fetch` files every page it reads in the cache; so only the STORE is asked
to be reached from the store of a checkpoint, by a live run (`LiveRunM`: row operations, and steps `Same` in which
only the cache grows); the log is the checkpoint's followed by the records of the run. -/
def DbCrashL (db : Engine.DB) (sdb : Spec.SDB) : Prop :=
  ∃ sch db0 sdb0 pt0 tbls0 ptN tblsN stmtsM logs,
    Ckpt sch db0 sdb0 pt0 tbls0 ∧ NoStale sch tblsN ∧
    LiveRunM sch db0.store tbls0 stmtsM db.store tblsN logs ∧ db.wal = db0.wal ++ logs ∧
    AbsV db.store ptN sch tblsN sdb ∧ MemFiled db.store ∧ DiskSame db0.store db.store

/-- **The crash invariant of a database in use, up to the cache and the counters**: `DbCrashL` with live runs
separated by steps that only move the row-id / LSN counters forward. -/
def DbCrashB (db : Engine.DB) (sdb : Spec.SDB) : Prop :=
  ∃ sch db0 sdb0 pt0 tbls0 ptN tblsN logs,
    Ckpt sch db0 sdb0 pt0 tbls0 ∧ NoStale sch tblsN ∧
    LiveRunB sch db0.store tbls0 db.store tblsN logs ∧ db.wal = db0.wal ++ logs ∧
    AbsV db.store ptN sch tblsN sdb ∧ MemFiled db.store ∧ DiskSame db0.store db.store

theorem CkptNS.dbCrash {db : Engine.DB} {sdb : Spec.SDB} (h : CkptNS db sdb) : DbCrash db sdb := by
  obtain ⟨sch, pt, tbls, hk, hns⟩ := h
  exact ⟨sch, db, sdb, pt, tbls, [], hk, hns, .nil db sdb⟩

theorem CkptNS.dbFlushed {db : Engine.DB} {sdb : Spec.SDB} (h : CkptNS db sdb) :
    ∃ pt sch tbls, DbFlushed db sdb pt sch tbls := by
  obtain ⟨sch, pt, tbls, hk, hns⟩ := h
  exact ⟨pt, sch, tbls, hk.dbFlushed hns⟩

theorem Ckpt.reopen {sch : Levels} {db : Engine.DB} {sdb : Spec.SDB} {pt : Levels} {tbls : List (Bytes × Levels)}
    (h : Ckpt sch db sdb pt tbls) : Ckpt sch { db with store := Store.reopen db.store } sdb pt tbls := by
  obtain ⟨sdb0, habs0, hv⟩ := h.abs
  have hc : Cat (Store.reopen db.store) pt sch tbls := reopen_cat habs0.cat h.disk h.dhdr db.store rfl rfl
  have hh : (Store.reopen db.store).hdr = db.store.hdr := h.dhdr
  refine ⟨⟨sdb0, ⟨hc, habs0.tabs⟩, hv⟩, h.self, ?_, (fun _ hp => by cases hp), h.log, ?_, ?_, rfl, h.disk⟩
  · exact h.fresh.of_hdr (by rw [hh]; exact Nat.le_refl _) (by rw [hh]; exact Nat.le_refl _)
  · intro r hr
    show r.lsn < (Store.reopen db.store).hdr.nextLSN
    rw [hh]; exact h.lsn r hr
  · intro r hr hop
    show r.cell ≤ (Store.reopen db.store).hdr.lastKey
    rw [hh]; exact h.keys r hr hop

theorem CkptNS.reopen {db : Engine.DB} {sdb : Spec.SDB} (h : CkptNS db sdb) :
    CkptNS { db with store := Store.reopen db.store } sdb := by
  obtain ⟨sch, pt, tbls, hk, hns⟩ := h
  exact ⟨sch, pt, tbls, hk.reopen, hns⟩

theorem CkptNS.same {db db' : Engine.DB} {sdb : Spec.SDB} (h : CkptNS db sdb)
    (hs : Same db.store db'.store) (hw : db'.wal = db.wal) (hd : DiskSame db.store db'.store)
    (hf : MemFiled db'.store) : CkptNS db' sdb := by
  obtain ⟨sch, pt, tbls, hk, hns⟩ := h
  have hfl : DbFlushed db' sdb pt sch tbls :=
    ⟨(hk.dbFlushed hns).inv.same hs hd.1 hf hw, by rw [hd.2.1, hs.2]; exact hk.dhdr,
      fun x hx e he => by rw [hd.1]; exact hk.disk x hx e he⟩
  exact ⟨sch, pt, tbls, hfl.ckpt hk.self
    (hk.fresh.of_hdr (by rw [hs.2]; exact Nat.le_refl _) (by rw [hs.2]; exact Nat.le_refl _)), hns⟩

/-- start-up recovery re-opens the data file itself: dropping the cache first changes nothing -/
theorem recover_reopen (db : Engine.DB) (o1 o2 : List Nat) :
    Engine.recover { db with store := Store.reopen db.store } o1 o2 = Engine.recover db o1 o2 := rfl

theorem DbCrash.toL {db : Engine.DB} {sdb : Spec.SDB} (h : DbCrash db sdb) : DbCrashL db sdb := by
  obtain ⟨sch, db0, sdb0, pt0, tbls0, stmts, hk, hns, run⟩ := h
  obtain ⟨ptN, tblsN, stmtsM, logs, hrun, hw, hAN⟩ := spec_run_live sch run pt0 tbls0 hk.abs
  exact ⟨sch, db0, sdb0, pt0, tbls0, ptN, tblsN, stmtsM, logs, hk, specRun_noStale run hk.abs hns hAN, hrun, hw, hAN,
    specRun_memFiled run hk.filed, specRun_disk run⟩

theorem DbCrashL.toB {db : Engine.DB} {sdb : Spec.SDB} (h : DbCrashL db sdb) : DbCrashB db sdb := by
  obtain ⟨sch, db0, sdb0, pt0, tbls0, ptN, tblsN, stmtsM, logs, hk, hns, hrun, hw, hAN, hmf, hd⟩ := h
  exact ⟨sch, db0, sdb0, pt0, tbls0, ptN, tblsN, logs, hk, hns, .one hrun, hw, hAN, hmf, hd⟩

theorem CkptNS.dbCrashL {db : Engine.DB} {sdb : Spec.SDB} (h : CkptNS db sdb) : DbCrashL db sdb := h.dbCrash.toL

theorem CkptNS.dbCrashB {db : Engine.DB} {sdb : Spec.SDB} (h : CkptNS db sdb) : DbCrashB db sdb := h.dbCrashL.toB

theorem InUse.drift {sch : Levels} {P : Nat × Node × Bool → Prop} {s s1 : Store} {pt : Levels}
    {tbls : List (Bytes × Levels)} {wal : List WalRec} (hi : InUse sch P s pt tbls wal) (hd : Drift sch s tbls s1) :
    InUse sch P s1 pt tbls wal := hi.mono (fun _ h => h) hd.lsn hd.lk

/-- what live runs and counter moves from a checkpointed database leave: the database is in use against the
data file of the checkpoint, and the side conditions of the replay hold -/
theorem ckpt_live_factsB {sch : Levels} {db dbN : Engine.DB} {sdb : Spec.SDB} {pt ptN : Levels}
    {tbls tblsN : List (Bytes × Levels)} {logs : List WalRec}
    (h : Ckpt sch db sdb pt tbls) (hrun : LiveRunB sch db.store tbls dbN.store tblsN logs)
    (hw : dbN.wal = db.wal ++ logs) (hcN : Cat dbN.store ptN sch tblsN) :
    InUse sch (fun e => assocGet db.store.disk e.1 = some e.2.1) dbN.store ptN tblsN dbN.wal ∧
      PtSelf ptN ∧ FreshM dbN.store tblsN := by
  obtain ⟨_, habs0, _⟩ := h.abs
  obtain ⟨ptN', c, hi, hs, hf⟩ := hrun.keeps
    (J := fun s pt tbls wal => InUse sch (fun e => assocGet db.store.disk e.1 = some e.2.1) s pt tbls wal ∧
      PtSelf pt ∧ FreshM s tbls)
    (fun hc st _ hJ => ⟨hJ.1.step hc st, st.ptSelf hc hJ.2.1, st.freshM hJ.2.2⟩)
    (fun _ hd hJ => ⟨hJ.1.drift hd, hJ.2.1, hJ.2.2.of_hdr hd.lsn (by rw [hd.nf]; exact Nat.le_refl _)⟩)
    habs0.cat ⟨h.inUse, h.self, h.fresh⟩
  rw [c.pt_unique hcN, ← hw] at hi
  rw [c.pt_unique hcN] at hs
  exact ⟨hi, hs, hf⟩

theorem DbCrashB.dbInv {db : Engine.DB} {sdb : Spec.SDB} (h : DbCrashB db sdb) :
    ∃ pt sch tbls, DbInv db sdb pt sch tbls ∧ PtSelf pt ∧ FreshM db.store tbls := by
  obtain ⟨sch, db0, sdb0, pt0, tbls0, ptN, tblsN, logs, hk, hns, hrun, hw, hAN, hmf, hd⟩ := h
  obtain ⟨_, habsN, _⟩ := id hAN
  obtain ⟨hi, hs, hf⟩ := ckpt_live_factsB hk hrun hw habsN.cat
  exact ⟨ptN, sch, tblsN, ⟨hAN, hns, hmf, hi.applied, hi.lsn, hi.keys, hi.synced hd.1⟩, hs, hf⟩

theorem DbCrashB.flushed {db : Engine.DB} {sdb : Spec.SDB} (h : DbCrashB db sdb) (order : List Nat) :
    CkptNS { db with store := flushed order db.store } sdb := by
  obtain ⟨pt, sch, tbls, hi, hs, hf⟩ := h.dbInv
  have hk := hi.flushed order
  have hh := (flushed_spec order db.store hi.filed).1
  exact ⟨_, _, _, hk.ckpt hs.clean (hf.clean (by rw [hh]; exact Nat.le_refl _) (by rw [hh]; exact Nat.le_refl _)),
    hk.inv.nostale⟩

/-- **Crash and recovery of a database of a session**: no flush, the cache is lost; start-up recovery - it
replays the whole log on the re-opened data file - succeeds, keeps the log, and gives a checkpointed database for
the plain database of all acknowledged statements. -/
theorem DbCrashB.recover {db : Engine.DB} {sdb : Spec.SDB} (h : DbCrashB db sdb) (o1 o2 : List Nat) :
    ∃ db', Engine.recover db o1 o2 = .ok db' ∧ db'.wal = db.wal ∧ CkptNS db' sdb := by
  obtain ⟨sch, db0, sdb0, pt, tbls, ptN, tblsN, logs, hk, hns, hrun, hw, hAN, _, hd1, hd2, _⟩ := h
  obtain ⟨_, hcs, _⟩ := hk.disk.clean_eq
  obtain ⟨sdbF, habsF, hvF⟩ := hAN
  obtain ⟨hi, _, _⟩ := ckpt_live_factsB hk hrun hw habsF.cat
  -- the old records change nothing, the new ones are redone
  obtain ⟨r1, e1, hb1, hh1⟩ := hk.reopened db.store hd1 hd2
  obtain ⟨ptN', rN, e, hbN, hfN, a4⟩ := live_runB_replay sch hrun hb1 hk.fresh
    (LsnR.of_fresh hk.fresh (by rw [hh1]; exact Nat.le_succ _))
  have c2 := hbN.redo
  have hselfN := hbN.self
  rw [hbN.live.pt_unique habsF.cat] at c2 hselfN
  have eall : replayAll db.wal (reopen db.store) = (rN, none, false) := by
    rw [hw, replayAll_append e1]; exact e
  obtain ⟨hdN1, _, _⟩ : DiskSame (reopen db.store) rN := by
    have := replayAll_disk db.wal (reopen db.store)
    rw [eall] at this; exact this
  obtain ⟨db', er, ew, hk1, _⟩ := recover_of_replayed hcs eall ⟨sdbF, ⟨c2, habsF.tabs⟩, hvF⟩ hselfN
    ⟨fun e he x hx => Nat.lt_succ_of_le (a4 e he x hx), by show 0 < rN.hdr.nextFree; rw [hbN.nf]; exact hfN.nf, hfN.pos⟩
    hi.applied (hi.synced (hdN1.trans hd1)) o1 o2
  have hnsC := hns.clean
  rw [hcs] at hnsC
  exact ⟨db', er, ew, sch, _, _, hk1, hnsC⟩

theorem DbCrashL.recover {db : Engine.DB} {sdb : Spec.SDB} (h : DbCrashL db sdb) (o1 o2 : List Nat) :
    ∃ db', Engine.recover db o1 o2 = .ok db' ∧ db'.wal = db.wal ∧ CkptNS db' sdb := h.toB.recover o1 o2

theorem DbCrash.recover {db : Engine.DB} {sdb : Spec.SDB} (h : DbCrash db sdb) (o1 o2 : List Nat) :
    ∃ db', Engine.recover db o1 o2 = .ok db' ∧ db'.wal = db.wal ∧ CkptNS db' sdb := h.toL.recover o1 o2

/-- one more accepted row statement.  `hstep` is asked for EVERY `sch`: the `sys_schema` tree the run is described
with is hidden inside `DbCrash`, so the caller cannot name it (callers have the step for any description) -/
theorem DbCrash.step {db db' : Engine.DB} {sdb sdb' : Spec.SDB} (h : DbCrash db sdb)
    (hstep : ∀ sch, ∃ st, SpecRun sch db sdb [st] db' sdb') : DbCrash db' sdb' := by
  obtain ⟨sch, db0, sdb0, pt0, tbls0, stmts, hk, hns, run⟩ := h
  obtain ⟨st, h1⟩ := hstep sch
  exact ⟨sch, db0, sdb0, pt0, tbls0, stmts ++ [st], hk, hns, run.append h1⟩

theorem DbCrashL.step {db db' : Engine.DB} {sdb sdb' : Spec.SDB} (h : DbCrashL db sdb)
    (hstep : ∀ sch, ∃ st, SpecRun sch db sdb [st] db' sdb') : DbCrashL db' sdb' := by
  obtain ⟨sch, db0, sdb0, pt0, tbls0, ptN, tblsN, stmtsM, logs, hk, hns, hrun, hw0, hAN, hmf, hd0⟩ := h
  obtain ⟨st, run⟩ := hstep sch
  obtain ⟨ptN', tblsN', stmtsM', logs', hrun', hw', hAN'⟩ := spec_run_live sch run ptN tblsN hAN
  exact ⟨sch, db0, sdb0, pt0, tbls0, ptN', tblsN', stmtsM ++ stmtsM', logs ++ logs', hk,
    specRun_noStale run hAN hns hAN', hrun.append hrun', by rw [hw', hw0, List.append_assoc], hAN',
    specRun_memFiled run hmf, hd0.trans (specRun_disk run)⟩

theorem DbCrashB.step {db db' : Engine.DB} {sdb sdb' : Spec.SDB} (h : DbCrashB db sdb)
    (hstep : ∀ sch, ∃ st, SpecRun sch db sdb [st] db' sdb') : DbCrashB db' sdb' := by
  obtain ⟨sch, db0, sdb0, pt0, tbls0, ptN, tblsN, logs, hk, hns, hrun, hw0, hAN, hmf, hd0⟩ := h
  obtain ⟨st, run⟩ := hstep sch
  obtain ⟨ptN', tblsN', stmtsM', logs', hrun', hw', hAN'⟩ := spec_run_live sch run ptN tblsN hAN
  exact ⟨sch, db0, sdb0, pt0, tbls0, ptN', tblsN', logs ++ logs', hk,
    specRun_noStale run hAN hns hAN', hrun.append_run hrun', by rw [hw', hw0, List.append_assoc], hAN',
    specRun_memFiled run hmf, hd0.trans (specRun_disk run)⟩

/-- **A step in which only the cache grows** - every page and the header read as before, the log and the data
file are untouched, the cache is filed - **keeps the crash invariant**, for the same plain database: this is what
a statement refused before it changed anything is. -/
theorem DbCrashL.same {db db' : Engine.DB} {sdb : Spec.SDB} (h : DbCrashL db sdb)
    (hs : Same db.store db'.store) (hw : db'.wal = db.wal) (hd : DiskSame db.store db'.store)
    (hf : MemFiled db'.store) : DbCrashL db' sdb := by
  obtain ⟨sch, db0, sdb0, pt0, tbls0, ptN, tblsN, stmtsM, logs, hk, hns, hrun, hw0, ⟨sdbF, habsF, hvF⟩, _, hd0⟩ := h
  refine ⟨sch, db0, sdb0, pt0, tbls0, ptN, tblsN, stmtsM ++ [], logs ++ [], hk, hns,
    hrun.append (.same hs (.nil _ _)), by rw [hw, hw0, List.append_nil], ⟨sdbF, habsF.of_same hs, hvF⟩, hf,
    hd0.trans hd⟩

theorem DbCrashB.same {db db' : Engine.DB} {sdb : Spec.SDB} (h : DbCrashB db sdb)
    (hs : Same db.store db'.store) (hw : db'.wal = db.wal) (hd : DiskSame db.store db'.store)
    (hf : MemFiled db'.store) : DbCrashB db' sdb := by
  obtain ⟨sch, db0, sdb0, pt0, tbls0, ptN, tblsN, logs, hk, hns, hrun, hw0, ⟨sdbF, habsF, hvF⟩, _, hd0⟩ := h
  refine ⟨sch, db0, sdb0, pt0, tbls0, ptN, tblsN, logs ++ [], hk, hns,
    hrun.append_run (.same hs (.nil _ _)), by rw [hw, hw0, List.append_nil], ⟨sdbF, habsF.of_same hs, hvF⟩, hf,
    hd0.trans hd⟩

/-- **A step that only moves the counters forward** - the store abstracts to the same plain database with the
same catalog description, same allocation frontier, row-id counter not lower, the log and the data file
untouched (and the LSN counter not lower: `DiskSame`), the cache filed - **keeps the crash invariant**. -/
theorem DbCrashB.drift {db db' : Engine.DB} {sdb : Spec.SDB} (h : DbCrashB db sdb)
    (habs : ∀ pt sch tbls, AbsV db.store pt sch tbls sdb → AbsV db'.store pt sch tbls sdb)
    (hnf : db'.store.hdr.nextFree = db.store.hdr.nextFree) (hlk : db.store.hdr.lastKey ≤ db'.store.hdr.lastKey)
    (hw : db'.wal = db.wal) (hd : DiskSame db.store db'.store) (hf : MemFiled db'.store) : DbCrashB db' sdb := by
  obtain ⟨sch, db0, sdb0, pt0, tbls0, ptN, tblsN, logs, hk, hns, hrun, hw0, hAN, _, hd0⟩ := h
  have hAN' := habs ptN sch tblsN hAN
  obtain ⟨_, hc, _⟩ := id hAN
  obtain ⟨_, hc', _⟩ := id hAN'
  refine ⟨sch, db0, sdb0, pt0, tbls0, ptN, tblsN, logs, hk, hns,
    hrun.append_drift ⟨fun pt hp => ?_, hnf, hlk, hd.2.2⟩, by rw [hw, hw0], hAN', hf, hd0.trans hd⟩
  have : pt = ptN := hp.pt_unique hc.cat
  rw [this]; exact hc'.cat

theorem DbCrashB.self_fresh {db : Engine.DB} {sdb : Spec.SDB} (h : DbCrashB db sdb) {pt sch : Levels}
    {tbls : List (Bytes × Levels)} (hc : Cat db.store pt sch tbls) : PtSelf pt ∧ FreshM db.store tbls := by
  obtain ⟨ptN, schN, tblsN, hi, hs, hf⟩ := h.dbInv
  obtain ⟨_, habsN, _⟩ := hi.abs
  exact ⟨hc.pt_unique habsN.cat ▸ hs, hf.sub (hc.tbls_sub habsN.cat)⟩

end Mkdb.Store

namespace Mkdb.Session
open Mkdb.Engine Mkdb.Store Mkdb.Sql Mkdb.Tree

/-- start-up recovery of the database succeeds, and re-opened it is a checkpoint for the same plain database
(what `restart` and `crashRestart` do to every database of a session: `recoverEvery`) -/
def Recoverable (db : DB) (sdb : Spec.SDB) : Prop :=
  ∃ db', Engine.recover db [] [] = .ok db' ∧ CkptNS { db' with store := reopen db'.store } sdb

end Mkdb.Session

namespace Mkdb.Store
open Mkdb.Page Mkdb.Tuple Mkdb.Generated Mkdb.Tree Mkdb.Engine

theorem DbCrashB.recoverable {db : Engine.DB} {sdb : Spec.SDB} (h : DbCrashB db sdb) :
    Session.Recoverable db sdb ∧ Session.Recoverable { db with store := reopen db.store } sdb := by
  obtain ⟨db', e, _, hk⟩ := h.recover [] []
  exact ⟨⟨db', e, hk.reopen⟩, ⟨db', by rw [recover_reopen]; exact e, hk.reopen⟩⟩

theorem DbCrashL.recoverable {db : Engine.DB} {sdb : Spec.SDB} (h : DbCrashL db sdb) :
    Session.Recoverable db sdb ∧ Session.Recoverable { db with store := reopen db.store } sdb := h.toB.recoverable

end Mkdb.Store

namespace Mkdb.Session
open Mkdb.Engine Mkdb.Store Mkdb.Sql Mkdb.Tree

theorem _root_.Mkdb.Store.DbCrash.recoverable {db : DB} {sdb : Spec.SDB} (h : DbCrash db sdb) : Recoverable db sdb :=
  h.toL.recoverable.1

end Mkdb.Session
end
