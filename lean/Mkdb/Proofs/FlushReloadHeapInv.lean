import Mkdb.Proofs.FlushPagesCat
import Mkdb.Proofs.KeepsDisk
import Mkdb.Proofs.RefineHistory
/-!
Flushes and reloads of one tree on the page heap (C11, the quantifier "flushes and reloads").

The data file of the heap model (`Store.disk`) holds *decoded* nodes (the byte level is C12); a flush
copies dirty cached page objects to it, a re-open (`Store.reopen`) drops the cache and re-reads the
header, after which every page is read from `disk` again.  A flush (any page write order) of a heap that
holds `t` gives a heap that holds `clean t` - the same pages, every dirty bit cleared - with all of them
in the data file, if the clean ones were; re-opening such a data file gives a heap that holds `clean t`;
the tree operations of `RefineHistory` do not write the data file, and the pages they leave are old or
dirty.  `HeapInv` is what a history of the three carries along.
-/
set_option autoImplicit false
namespace Mkdb.Store
open Mkdb.Page Mkdb.Tuple Mkdb.Generated Mkdb.Tree

theorem SyncedT.step {s s' : Store} {t t' : Levels} (h : SyncedT s t) (hd : s'.disk = s.disk)
    (hk : ∀ x ∈ flatten t', x ∈ flatten t ∨ x.2.2 = true) : SyncedT s' t' := by
  intro e he hcl
  rcases hk e he with h1 | h1
  · rw [hd]; exact h e h1 hcl
  · rw [hcl] at h1; cases h1

theorem clean_self_pages {t : Levels} (h : clean t = t) : ∀ e ∈ flatten t, e.2.2 = false := by
  intro e he
  have he' : e ∈ flatten (clean t) := by rw [h]; exact he
  obtain ⟨e0, _, rfl⟩ := mem_flatten_clean.mp he'
  rfl

/-! ### the flush -/

theorem flush_holds (order : List Nat) (s : Store) (t : Levels) (hH : Holds s t) (hmf : MemFiled s) :
    ∃ s', flushPages order s = .ok () s' ∧ Holds s' (clean t) ∧ s'.hdr = s.hdr ∧ s'.dhdr = s.hdr ∧
      s'.ghost = s.ghost ∧ MemFiled s' ∧ (∀ p ∈ s'.mem, p.2.dirty = false) ∧
      (SyncedT s t → OnDiskT s' (clean t)) :=
  have ⟨hh, hdh, hg, hf', hv, hnd⟩ := flushed_spec order s hmf
  ⟨_, flushPages_flushed order s, hH.clean hv, hh, hdh, hg, hf', hnd, fun hsy => hsy.flushed hH hmf order⟩

/-! ### the tree operations do not write the data file and keep the cache filed -/

theorem Preserves.absorb {α} {R : Store → Store → Prop} {p : SErr → Bool} {dflt : α} {m : SM α}
    (h : Preserves R m) : Preserves R (Store.absorb p dflt m) := by
  intro s
  unfold Store.absorb
  have := h s
  generalize m s = r at this ⊢
  cases r with
  | err x s' => dsimp only; cases p x <;> exact this
  | _ => exact this

theorem KeptByRewrites.heapUpd {R : Store → Store → Prop} (h : KeptByRewrites R) (root key lsn : Nat) (v : Bytes) :
    Preserves R (heapUpd root key lsn v) :=
  h.bind (h.findLeaf _ _ _) fun _ => h.updateCellAt _ _ _ _

theorem KeptByRewrites.heapDel {R : Store → Store → Prop} (h : KeptByRewrites R) (root key lsn : Nat) :
    Preserves R (heapDel root key lsn) := by
  unfold Store.heapDel
  refine h.bind (h.findLeaf _ _ _) fun l => ?_
  split
  · exact h.throw _
  · refine .ite (h.throw _) (h.bind (h.fetch _) fun pg => ?_)
    cases pg with
    | internal _ => exact .panicS _
    | leaf l1 => exact h.bind (h.putNode _ _) fun _ => h.markDirty _ _

/-- the tree operations of `RefineHistory` are made of the tree insert and of cell rewrites -/
theorem KeptByAllocs.heapStep {R : Store → Store → Prop} (h : KeptByAllocs R) (root : Nat) (op : HOp) :
    Preserves R (heapStep root op) := by
  cases op with
  | ins k lsn v => exact (h.bind (h.insertKeyHeap _ _ _ _) fun _ => h.pure _).absorb
  | upd k lsn v => exact (h.bind (h.heapUpd _ _ _ _) fun _ => h.pure _).absorb
  | del k lsn => exact (h.bind (h.heapDel _ _ _) fun _ => h.pure _).absorb

theorem KeepsDisk.heapStep (root : Nat) (op : HOp) : KeepsDisk (heapStep root op) :=
  diskSame_writes.heapStep root op

theorem KeepsFiled.heapStep (root : Nat) (op : HOp) : KeepsFiled (heapStep root op) :=
  keepsFiled_iff.mpr (memFiled_writes.heapStep root op)

/-! ### what an operation does to the pages -/

theorem applyH_pages_new (st : Levels × Nat) (op : HOp) :
    ∀ x ∈ flatten (applyH st op).1, x ∈ flatten st.1 ∨ x.2.2 = true := by
  rw [applyH_eq_applyOp]
  exact applyOp_pages_new st op.toT

theorem updLeaves_same_or_dirty (f : LeafCell → LeafCell) (key lsn : Nat) (t : Levels) :
    updLeaves f key lsn t = t ∨ ∃ x ∈ flatten (updLeaves f key lsn t), x.2.2 = true := by
  by_cases hex : ∃ c ∈ cells t, c.key = key
  · right
    obtain ⟨c, hc, hck⟩ := hex
    obtain ⟨p, hp, hcp⟩ := List.mem_flatMap.mp hc
    have hany : p.1.cells.any (fun c => c.key == key) = true := by
      rw [List.any_eq_true]; exact ⟨c, hcp, by simp [hck]⟩
    refine ⟨((updLeaf f key lsn p).1.off, Node.leaf (updLeaf f key lsn p).1, (updLeaf f key lsn p).2), ?_, ?_⟩
    · exact mem_flatten.mpr (.inl ⟨updLeaf f key lsn p, List.mem_map.mpr ⟨p, hp, rfl⟩, rfl⟩)
    · unfold updLeaf
      rw [if_pos hany]
  · left
    exact updLeaves_absent f key lsn t fun c hc hck => hex ⟨c, hc, hck⟩

theorem applyH_same_or_dirty (st : Levels × Nat) (op : HOp) :
    applyH st op = st ∨ ∃ x ∈ flatten (applyH st op).1, x.2.2 = true := by
  rw [applyH_eq_applyOp]
  refine applyOp_cases (motive := fun r => r = st ∨ ∃ x ∈ flatten r.1, x.2.2 = true) st op.toT (.inl rfl) ?_ ?_
  · intro k lsn v r hr
    right
    obtain ⟨pre, last, d, _, _, _, hcase⟩ := insertAppend_inv_cases (t' := r.1) (nf' := r.2) hr
    rcases hcase with ⟨_, h, _⟩ | ⟨_, h, _⟩ <;> rw [h]
    · exact ⟨_, mem_flatten.mpr (.inl ⟨(leafApp last k lsn v, true), by simp, rfl⟩), rfl⟩
    · exact ⟨_, mem_flatten.mpr (.inl ⟨(leafL (leafApp last k lsn v) st.2, true), by simp, rfl⟩), rfl⟩
  · intro f key lsn _
    exact (updLeaves_same_or_dirty f key lsn st.1).imp (fun h => by rw [h]) id

theorem applyH_same_of_clean (st : Levels × Nat) (op : HOp) (h : clean (applyH st op).1 = (applyH st op).1) :
    applyH st op = st := by
  rcases applyH_same_or_dirty st op with h1 | ⟨x, hx, hd⟩
  · exact h1
  · rw [clean_self_pages h x hx] at hd; cases hd

/-! ### what a history carries along -/

/-- The heap holds the well-formed tree `t`; the cache is filed; the clean pages of `t` are in the data
file; and when no page of `t` is dirty the allocation frontier in the data file's header is the one in
memory. -/
structure HeapInv (s : Store) (t : Levels) : Prop where
  holds  : Holds s t
  inv    : Inv t s.hdr.nextFree
  filed  : MemFiled s
  synced : SyncedT s t
  saved  : clean t = t → s.dhdr.nextFree = s.hdr.nextFree

theorem HeapInv.op {s : Store} {t : Levels} (h : HeapInv s t) (o : HOp)
    (hdepth : t.inner.length + 1 ≤ treeFuel) (hok : OpOK (t, s.hdr.nextFree) o) :
    ∃ s', heapStep (rootOff t) o s = .ok (rootOff (applyH (t, s.hdr.nextFree) o).1) s' ∧
      HeapInv s' (applyH (t, s.hdr.nextFree) o).1 ∧
      s'.hdr.nextFree = (applyH (t, s.hdr.nextFree) o).2 := by
  obtain ⟨s', e, hH', hn⟩ := heapStep_refines s t o h.holds h.inv hdepth hok
  have hI' := applyH_inv (t, s.hdr.nextFree) o h.inv
  have hd := (KeepsDisk.heapStep (rootOff t) o).ok e
  refine ⟨s', e, ⟨hH', by rw [hn]; exact hI', (KeepsFiled.heapStep (rootOff t) o).ok h.filed e,
    h.synced.step hd.1 (applyH_pages_new (t, s.hdr.nextFree) o), ?_⟩, hn⟩
  intro hc
  have hsame := applyH_same_of_clean (t, s.hdr.nextFree) o hc
  rw [hsame] at hc hn
  rw [hd.2.1, hn]
  exact h.saved hc

theorem HeapInv.flush {s : Store} {t : Levels} (h : HeapInv s t) (order : List Nat) :
    ∃ s', flushPages order s = .ok () s' ∧ HeapInv s' (clean t) ∧ s'.hdr = s.hdr ∧ s'.dhdr = s.hdr ∧
      OnDiskT s' (clean t) ∧ (∀ p ∈ s'.mem, p.2.dirty = false) := by
  obtain ⟨s', e, hH', hh, hdh, _, hf', hnd, hod⟩ := flush_holds order s t h.holds h.filed
  have hod' := hod h.synced
  refine ⟨s', e, ⟨hH', by rw [hh]; exact clean_inv t _ h.inv, hf', hod'.synced, ?_⟩, hh, hdh, hod', hnd⟩
  intro _
  rw [hh, hdh]

theorem HeapInv.reload {s : Store} {t : Levels} (h : HeapInv s t) (hc : clean t = t) :
    HeapInv (reopen s) (clean t) ∧ (reopen s).hdr.nextFree = s.hdr.nextFree := by
  have hod : OnDiskT s t := h.synced.onDisk (clean_self_pages hc)
  have hnf : (reopen s).hdr.nextFree = s.hdr.nextFree := h.saved hc
  refine ⟨⟨reopen_holds s t hod, by rw [hnf]; exact clean_inv t _ h.inv, reopen_memFiled s, ?_, fun _ => rfl⟩, hnf⟩
  exact (hod.clean.of_disk (s' := reopen s) rfl).synced

end Mkdb.Store
