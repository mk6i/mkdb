import Mkdb.Proofs.MeaningSelectList
/-!
ORDER BY under ANY correct sorting algorithm, both directions: what the model's sort returns is accepted
(`satisfies_any_sort`, `satisfies_cut_sort`), and whatever `Spec.satisfies` accepts is `cut out` for some
correct sort `out` of the meaning (`accepted_is_cut_of_sort`).  Before that, what it means downstream that
the nested loops of a join deliver the rows in another order than `Spec.fromRows`.
-/

section
/-!
Joins (C06).  The nested loops deliver
the rows of `Spec.fromRows` in another order (`Mkdb/Proofs/Join.lean`); what that means downstream:

* two sorted lists over comparable rows with the same multiset of key vectors show the same
  sequence of keys (`keyseq_unique`): what `Spec.satisfies` compares under ORDER BY;
* the select list without grouping, on a permutation of the source rows (`specTail_plain_perm`).
-/
namespace Mkdb.Exec.MeaningP
open Mkdb.Sql Mkdb.Tuple Mkdb.Spec Mkdb.Exec.SelectP Mkdb.Exec.JoinP

/-! ### sorting permutations of one list gives one sequence of keys -/

theorem KeyComparable.symm {keys : List (Nat × Bool)} {a b : Row} (h : KeyComparable keys a b) :
    KeyComparable keys b a := fun k hk => (h k hk).symm

/-- `≤` on vectors of key values -/
def kle (keys : List (Nat × Bool)) (ka kb : List Val) : Prop :=
  vecLess (keys.map (·.2)) kb ka = false

theorem pairwise_iff_keys (keys : List (Nat × Bool)) (l : List Row) :
    l.Pairwise (fun a b => rowLess keys b a = false) ↔ (l.map (keyProj keys)).Pairwise (kle keys) := by
  rw [List.pairwise_map]
  constructor <;> intro h <;> refine h.imp ?_ <;> intro a b hab
  · show vecLess _ _ _ = false; rw [← rowLess_eq_vecLess]; exact hab
  · rw [rowLess_eq_vecLess]; exact hab

/-- two sorted lists of rows (comparable key columns) whose key values are the same multiset show the
same sequence of key values: ties may be ordered differently, nothing else -/
theorem keyseq_unique {keys : List (Nat × Bool)} {S l l' : List Row}
    (hc : ∀ a ∈ S, ∀ b ∈ S, KeyComparable keys a b) (hl : ∀ x ∈ l, x ∈ S) (hl' : ∀ x ∈ l', x ∈ S)
    (hA : l.Pairwise (fun a b => rowLess keys b a = false))
    (hB : l'.Pairwise (fun a b => rowLess keys b a = false))
    (hp : (l.map (keyProj keys)).Perm (l'.map (keyProj keys))) :
    l.map (keyProj keys) = l'.map (keyProj keys) := by
  refine List.Perm.eq_of_pairwise (le := kle keys) ?_ ((pairwise_iff_keys keys l).1 hA)
    ((pairwise_iff_keys keys l').1 hB) hp
  intro ka kb hka hkb h1 h2
  obtain ⟨a, ha, rfl⟩ := List.mem_map.1 hka
  obtain ⟨b, hb, rfl⟩ := List.mem_map.1 hkb
  apply keyProj_eq_of_incomparable (hc a (hl a ha) b (hl' b hb))
  · rw [rowLess_eq_vecLess]; exact h2
  · rw [rowLess_eq_vecLess]; exact h1

theorem specTail_plain_perm {q : Select} {fields : List Field} {src src' p : List Row}
    (hagg : hasAggr q.list = false) (hgb : q.groupBy = [])
    (hp : src'.Perm src) (h : specTail q fields src = some p) :
    ∃ p', specTail q fields src' = some p' ∧ p'.Perm p := by
  rw [specTail_plain hagg hgb] at h
  cases hs : isStar q.list with
  | true =>
    simp only [hs, if_true] at h
    subst h
    exact ⟨src', (specTail_plain hagg hgb).2 (by simp only [hs, if_true]), hp⟩
  | false =>
    simp only [hs, Bool.false_eq_true, if_false] at h
    obtain ⟨p', hp', hperm⟩ := mapM_perm hp h.2
    exact ⟨p', (specTail_plain hagg hgb).2 (by
      simp only [hs, Bool.false_eq_true, if_false]; exact ⟨h.1, hp'⟩), hperm⟩

end Mkdb.Exec.MeaningP
end

section
/-!
The model sorts with a stable insertion sort (`sortRows`); the Go code sorts with `sort.Slice`, which
is an insertion sort up to 12 elements and a pattern-defeating quicksort above - not stable from 13
rows on.  Here: what every correct sort may return (`SortedPerm`); the model's
sort is one of them; without ties among the sort keys there is exactly one (`sortedPerm_unique`);
with ties every one of them, cut by OFFSET / LIMIT, passes `Spec.satisfies`
(`satisfies_any_sort`) - the executor's answer among them (`satisfies_cut_sort`).

Facts about the comparison `rowLess keys` used here (all proved in `Mkdb/Proofs/Select.lean`):
irreflexive, asymmetric and transitive on ALL rows; "neither before the other" is transitive only on
rows whose key columns hold comparable values (`KeyComparable`: one type, or NULL) - on the other
rows the Go comparator panics (`sortColumns_ok_iff`), so `sort.Slice` never runs a comparison that is
not a strict weak order to its end.
-/
namespace Mkdb.Exec.SortAnyP
open Mkdb.Sql Mkdb.Tuple Mkdb.Spec Mkdb.Exec.SelectP Mkdb.Exec.MeaningP

/-- **what any correct sort may return**: `out` is a rearrangement of `rows` in which no row is
strictly before its predecessor under the comparison of `sortColumns` with the resolved keys
(`Spec.sortedBy`: the consecutive-pairs test, the weakest reading of "sorted"; on comparable rows it
is the same as the all-pairs test, `sortedPerm_pairwise`) -/
def SortedPerm (keys : List (Nat × Bool)) (rows out : List Row) : Prop :=
  out.Perm rows ∧ Spec.sortedBy keys out = true

instance (keys : List (Nat × Bool)) (rows out : List Row) : Decidable (SortedPerm keys rows out) := by
  unfold SortedPerm; infer_instance

/-- no two rows at different positions are tied under the keys: one of them is strictly before the
other -/
def TieFree (keys : List (Nat × Bool)) (rows : List Row) : Prop :=
  rows.Pairwise fun a b => rowLess keys a b = true ∨ rowLess keys b a = true

instance (keys : List (Nat × Bool)) (rows : List Row) : Decidable (TieFree keys rows) := by
  unfold TieFree; infer_instance

theorem tieFree_iff_index (keys : List (Nat × Bool)) (rows : List Row) :
    TieFree keys rows ↔
      ∀ (i j : Nat) (hi : i < rows.length) (hj : j < rows.length), i ≠ j →
        rowLess keys rows[i] rows[j] = true ∨ rowLess keys rows[j] rows[i] = true := by
  unfold TieFree
  rw [List.pairwise_iff_getElem]
  constructor
  · intro h i j hi hj hne
    rcases Nat.lt_or_gt_of_ne hne with hlt | hgt
    · exact h i j hi hj hlt
    · exact (h j i hj hi hgt).symm
  · intro h i j hi hj hlt
    exact h i j hi hj (Nat.ne_of_lt hlt)

theorem sortRows_sortedPerm (keys : List (Nat × Bool)) (rows : List Row) :
    SortedPerm keys rows (sortRows keys rows) :=
  ⟨sortRows_perm keys rows, sortRows_sorted keys rows⟩

theorem SortedPerm.of_perm {keys : List (Nat × Bool)} {rows rows' out : List Row}
    (h : SortedPerm keys rows out) (hp : rows.Perm rows') : SortedPerm keys rows' out :=
  ⟨h.1.trans hp, h.2⟩

/-! ### consecutive pairs and all pairs -/

theorem sortedPerm_pairwise {keys : List (Nat × Bool)} {rows out : List Row}
    (hc : ∀ a ∈ rows, ∀ b ∈ rows, KeyComparable keys a b) (h : SortedPerm keys rows out) :
    out.Pairwise (fun a b => rowLess keys b a = false) :=
  pairwise_of_sortedBy (rowLess_strict_weak keys rows hc) out (fun _ hx => h.1.mem_iff.1 hx) h.2

/-! ### without ties -/

theorem TieFree.eq_of_incomp {keys : List (Nat × Bool)} {rows : List Row} (h : TieFree keys rows)
    {a b : Row} (ha : a ∈ rows) (hb : b ∈ rows)
    (h1 : rowLess keys a b = false) (h2 : rowLess keys b a = false) : a = b := by
  obtain ⟨i, hi, rfl⟩ := List.getElem_of_mem ha
  obtain ⟨j, hj, rfl⟩ := List.getElem_of_mem hb
  by_cases hij : i = j
  · subst hij; rfl
  · rcases (tieFree_iff_index keys rows).1 h i j hi hj hij with h' | h'
    · rw [h1] at h'; cases h'
    · rw [h2] at h'; cases h'

/-- without ties the comparison is a strict weak order (a strict total order, in fact) on the rows,
whatever they hold -/
theorem TieFree.strictWeak {keys : List (Nat × Bool)} {rows : List Row} (h : TieFree keys rows) :
    StrictWeakOn (rowLess keys) rows where
  irrefl a _ := rowLess_irrefl keys a
  asymm _ _ _ _ h' := rowLess_asymm h'
  trans _ _ _ _ _ _ h₁ h₂ := rowLess_trans h₁ h₂
  incomp_trans a ha b hb c hc h₁ h₂ := by
    have e1 := h.eq_of_incomp ha hb h₁.1 h₁.2
    have e2 := h.eq_of_incomp hb hc h₂.1 h₂.2
    subst e1; subst e2
    exact h₁

theorem TieFree.nodup {keys : List (Nat × Bool)} {rows : List Row} (h : TieFree keys rows) :
    rows.Nodup := by
  unfold TieFree at h
  refine h.imp ?_
  intro a b hab e
  subst e
  rw [rowLess_irrefl] at hab
  rcases hab with h' | h' <;> cases h'

/-- **without ties the sorted order is unique**: every correct sort returns what the model's stable
sort returns -/
theorem sortedPerm_unique {keys : List (Nat × Bool)} {rows out : List Row}
    (htf : TieFree keys rows) (h : SortedPerm keys rows out) : out = sortRows keys rows := by
  have hsw := htf.strictWeak
  have hA := pairwise_of_sortedBy hsw out (fun _ hx => h.1.mem_iff.1 hx) h.2
  have hB := sortRows_pairwise_of_strictWeak keys rows hsw
  refine List.Perm.eq_of_pairwise (le := fun a b => rowLess keys b a = false) ?_ hA hB
    (h.1.trans (sortRows_perm keys rows).symm)
  intro a b ha hb h1 h2
  exact htf.eq_of_incomp (h.1.mem_iff.1 ha) ((sortRows_perm keys rows).mem_iff.1 hb) h2 h1

/-- no sort keys: every pair of rows is tied, every rearrangement is "sorted" -/
theorem sortedPerm_nil_iff (rows out : List Row) : SortedPerm [] rows out ↔ out.Perm rows := by
  unfold SortedPerm
  refine ⟨fun h => h.1, fun h => ⟨h, ?_⟩⟩
  apply sortedBy_of_pairwise
  exact List.pairwise_of_forall (fun _ _ => rfl)

/-! ### with ties: the sequence of key values is determined -/

theorem sortedPerm_keys_eq {keys : List (Nat × Bool)} {rows out out' : List Row}
    (hc : ∀ a ∈ rows, ∀ b ∈ rows, KeyComparable keys a b)
    (h : SortedPerm keys rows out) (h' : SortedPerm keys rows out') :
    out.map (keyProj keys) = out'.map (keyProj keys) :=
  keyseq_unique hc (fun _ hx => h.1.mem_iff.1 hx) (fun _ hx => h'.1.mem_iff.1 hx)
    (sortedPerm_pairwise hc h) (sortedPerm_pairwise hc h') ((h.1.trans h'.1.symm).map _)

/-- **every correct sort passes the judge**: under ORDER BY, a correct sort of the meaning (or of a
rearrangement of it: `SortedPerm.of_perm`), cut by OFFSET / LIMIT, satisfies the reference -/
theorem satisfies_any_sort {q : Select} {hdr : List Field} {keys : List (Nat × Bool)}
    {want out : List Row} (hob : q.orderBy ≠ []) (hk : sortKeys q hdr = some keys)
    (hc : ∀ a ∈ want, ∀ b ∈ want, KeyComparable keys a b) (h : SortedPerm keys want out) :
    satisfies q hdr want (cut q.lim out) = true :=
  satisfies_sorted hob hk h.1 h.2 (sortedPerm_keys_eq hc h (sortRows_sortedPerm keys want))

/-- the executor's answer passes the judge: `cut (sort got)` for a permutation `got` of the meaning
- the meaning itself where the comparison is exact (one table, no grouping: without ORDER BY the
insertion order is demanded) -/
theorem satisfies_cut_sort {q : Select} {hdr : List Field} {keys : List (Nat × Bool)}
    {want got : List Row} (hk : Spec.sortKeys q hdr = some keys) (hp : got.Perm want)
    (hex : comparedExactly q = true → got = want)
    (hcomp : ∀ a ∈ want, ∀ b ∈ want, KeyComparable keys a b) :
    satisfies q hdr want (cut q.lim (sortRows keys got)) = true := by
  by_cases hob : q.orderBy = []
  · rw [keys_nil_of_no_order_by hob hk, sortRows_nil_keys]
    cases hm : comparedExactly q with
    | false => exact satisfies_multiset hdr hob hm hp
    | true => rw [hex hm]; exact (satisfies_no_order_by_iff hdr want _ hob hm).2 rfl
  · exact satisfies_any_sort hob hk hcomp ((sortRows_sortedPerm keys got).of_perm hp)

end Mkdb.Exec.SortAnyP
end

section
/-!
ORDER BY under any correct sorting algorithm, the converse: whatever `Spec.satisfies` accepts under
ORDER BY is `cut out` for SOME correct sort `out` of the meaning (`accepted_is_cut_of_sort`).  With
`satisfies_any_sort` this says that the reference accepts exactly the answers of the implementations
that sort correctly - stably or not - and cut.
-/
namespace Mkdb.Exec.SortAnyP
open Mkdb.Sql Mkdb.Tuple Mkdb.Spec Mkdb.Exec.SelectP Mkdb.Exec.MeaningP

/-! ### sub-multisets have a complement -/

theorem specCount_eq (r : Row) (l : List Row) : Spec.count r l = List.count r l := by
  unfold Spec.count
  rw [List.count, List.countP_eq_length_filter]

theorem count_le_of_subMultiset {res want : List Row} (h : subMultiset res want = true) (x : Row) :
    List.count x res ≤ List.count x want := by
  by_cases hx : x ∈ res
  · unfold subMultiset at h
    rw [List.all_eq_true] at h
    have := h x hx
    rw [decide_eq_true_eq, specCount_eq, specCount_eq] at this
    exact this
  · rw [List.count_eq_zero_of_not_mem hx]; exact Nat.zero_le _

theorem exists_rest_of_count_le (res : List Row) :
    ∀ want : List Row, (∀ x, List.count x res ≤ List.count x want) →
      ∃ rest, (res ++ rest).Perm want := by
  induction res with
  | nil => intro want _; exact ⟨want, List.Perm.refl _⟩
  | cons r rs ih =>
    intro want h
    have hr : r ∈ want := by
      have := h r
      rw [List.count_cons_self] at this
      exact List.count_pos_iff.1 (by omega)
    obtain ⟨rest, hp⟩ := ih (want.erase r) (by
      intro x
      have := h x
      rw [List.count_cons] at this
      rw [List.count_erase]
      by_cases e : r == x
      · simp only [e, if_true] at this ⊢; omega
      · simp only [e, Bool.false_eq_true, if_false] at this ⊢; omega)
    exact ⟨rest, ((List.perm_cons r).2 hp).trans (List.perm_cons_erase hr).symm⟩

/-! ### a window put into another list at its offset -/

/-- `W` between `A` and `B` is the window at `off` again, when `A` is as long as what a list of length `s`
has in front of `off` and `W` as long as a window of that list at `off` can be -/
theorem drop_take_insert {α : Type} (off s : Nat) (A W B : List α) (hA : A.length = min off s)
    (hW : W.length ≤ s - off) : ((A ++ W ++ B).drop off).take W.length = W := by
  by_cases hoff : off ≤ s
  · rw [List.append_assoc, List.drop_left' (by omega), List.take_left' rfl]
  · rw [List.eq_nil_of_length_eq_zero (by omega : W.length = 0)]
    rfl

/-- **what `Spec.satisfies` accepts under ORDER BY is `cut out` for some correct sort `out` of the
meaning** (comparable key columns): the converse of `satisfies_any_sort`.
`result` is completed to a permutation of `want` by some rows `rest` (the multiset test); `S` is the sorted
`want`, `R` the sorted `rest`.  `cut` takes the window at a fixed offset (`cut_window`): `S = A ++ W ++ B` with
`W = cut S`, and the key test says that `result` has the keys of `W`.  `A ++ B` is sorted and has, as a
multiset, the keys of `rest`, so it has the key sequence of `R` (`keyseq_unique`): `R = A' ++ B'` with the keys
of `A` and of `B`.  Hence `out := A' ++ result ++ B'` has the key sequence of `S`: it is sorted, and `result` is
its window (`drop_take_insert`). -/
theorem accepted_is_cut_of_sort {q : Select} {hdr : List Field} {keys : List (Nat × Bool)}
    {want result : List Row} (hob : q.orderBy ≠ []) (hk : sortKeys q hdr = some keys)
    (hc : ∀ a ∈ want, ∀ b ∈ want, KeyComparable keys a b)
    (h : satisfies q hdr want result = true) :
    ∃ out, SortedPerm keys want out ∧ cut q.lim out = result := by
  obtain ⟨hlen, _, hkeys, hsub⟩ := (satisfies_order_by_iff hob hk).1 h
  obtain ⟨off, hwin⟩ := cut_window q.lim
  obtain ⟨rest, hp⟩ := exists_rest_of_count_le result want (count_le_of_subMultiset hsub)
  have hmemRest : ∀ x ∈ rest, x ∈ want := fun x hx => hp.mem_iff.1 (List.mem_append_right _ hx)
  have hSp := sortRows_perm keys want
  have hRp := sortRows_perm keys rest
  have hSpw := sortRows_pairwise keys want hc
  have hRpw := sortRows_pairwise keys rest fun a ha b hb => hc a (hmemRest a ha) b (hmemRest b hb)
  generalize sortRows keys want = S at *
  generalize sortRows keys rest = R at *
  rw [hwin S, ← hlen] at hkeys
  have hfit : result.length ≤ S.length - off := by
    have := congrArg List.length hkeys
    simp only [List.length_map, List.length_take, List.length_drop] at this
    omega
  -- `S` is `A`, the window `W` and `B`; `A ++ B` is sorted and has, as a multiset, the keys of `rest`
  obtain ⟨A, W, B, hS, hAl, hW⟩ : ∃ A W B, A ++ (W ++ B) = S ∧ A.length = min off S.length ∧
      (S.drop off).take result.length = W :=
    ⟨_, _, _, by rw [List.take_append_drop, List.take_append_drop], List.length_take, rfl⟩
  rw [hW] at hkeys
  have hAB : (A ++ B).Sublist S := hS ▸ (List.Sublist.refl A).append (List.sublist_append_right W B)
  have hR : R.map (keyProj keys) = A.map (keyProj keys) ++ B.map (keyProj keys) := by
    rw [← List.map_append]
    refine keyseq_unique hc (fun x hx => hmemRest x (hRp.mem_iff.1 hx))
      (fun x hx => hSp.mem_iff.1 (hAB.subset hx)) hRpw (hSpw.sublist hAB) ?_
    have h1 : ((result ++ rest).map (keyProj keys)).Perm (S.map (keyProj keys)) :=
      (hp.trans hSp.symm).map _
    rw [← hS, List.map_append, List.map_append, List.map_append, ← hkeys] at h1
    have h2 := h1.trans (List.perm_append_comm_assoc _ _ _)
    rw [List.perm_append_left_iff] at h2
    rw [List.map_append]
    exact (hRp.map _).trans h2
  -- so `R` splits into `A'` and `B'` with the keys of `A` and of `B`
  obtain ⟨A', B', rfl, hA', hB'⟩ := List.map_eq_append_iff.1 hR
  have hout : (A' ++ result ++ B').map (keyProj keys) = S.map (keyProj keys) := by
    rw [← hS, List.map_append, List.map_append, hA', hB', hkeys, List.append_assoc, ← List.map_append,
      ← List.map_append]
  refine ⟨A' ++ result ++ B', ⟨?_, ?_⟩, ?_⟩
  · refine ((List.perm_append_comm.append_right _).trans ?_).trans hp
    rw [List.append_assoc]
    exact List.Perm.append_left _ hRp
  · apply sortedBy_of_pairwise
    rw [pairwise_iff_keys, hout, ← pairwise_iff_keys]
    exact hSpw
  · have hl : (A' ++ result ++ B').length = S.length := by simpa using congrArg List.length hout
    rw [hwin, cut_length_congr q.lim hl, ← hlen]
    exact drop_take_insert off S.length A' result B'
      (by rw [← hAl]; simpa using congrArg List.length hA') hfit

end Mkdb.Exec.SortAnyP
end
