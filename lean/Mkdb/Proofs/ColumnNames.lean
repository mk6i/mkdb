import Mkdb.Proofs.ColumnChecks
import Mkdb.Proofs.Tuple
import Mkdb.Proofs.UnchangedWrites
/-!
# Column names: unknown and repeated names are refused

The repaired code refuses, before it changes anything, an INSERT / UPDATE that names a column the
table does not have or names one column twice, and a CREATE TABLE that uses one column name twice
(before the repair the value was dropped in silence, resp. the second column shadowed by the first).

The three name checks of the model and the plain model's `namesOK` are one test (`ColumnChecks`).
The refusals of `Store.insert` are stated here on any store; under the catalog invariant they
are `insert_refused` (`SpecRefineInsert`) and `update_names_refused` (`StmtRowOps`).
-/
set_option autoImplicit false
namespace Mkdb.Store
open Mkdb.Page Mkdb.Tuple Mkdb.Generated Mkdb.Tree

/-! ### `Store.insert` with an unknown or repeated column name (any store) -/

/-- **The refusal, exactly.**  On ANY store: once the catalog lookups of `RelationService.Insert` have
delivered the columns `schema` of the table and the number of values is right, a column list that
fails `checkColumns` makes the insert return that error, in the store the (read-only) lookups left -
before the row is built, encoded or handed to the tree. -/
theorem insert_names_err (table : Bytes) (cols : List String) (vals : List Val) (s s1 s2 s3 : Store)
    (off : Nat) (n : Node) (schema : List FieldDef) (e : SErr)
    (h1 : relationOffset table s = .ok off s1) (h2 : fetch off s1 = .ok n s2)
    (h3 : relationSchema table s2 = .ok schema s3)
    (hlen : (colsOf schema cols).length = vals.length)
    (hcc : checkColumns schema (colsOf schema cols) = some e) :
    insert table cols vals s = .err e s3 := by
  rw [insert_eq, bind_ok h1, bind_ok h2, bind_ok h3]
  have hb : ((colsOf schema cols).length != vals.length) = false := by simp [hlen]
  simp only [hb, Bool.false_eq_true, if_false, hcc]
  rfl

/-- On ANY store on which the catalog lookups deliver the columns `schema`
of the table: an INSERT whose (non-empty) column list names something that is not a column of the
table is never `.ok`: it returns `colCountMismatch` (when the number of values is wrong, which is
tested first), or else `fieldNotFound` / `fieldAmbiguous` (`checkColumns`: whichever name in list order
is the first unknown or repeated one), in the store the lookups left; and if the cache was well filed,
it still is and every page, every dirty bit, the data file and the header locations are as before. -/
theorem insert_unknown_column (table : Bytes) (cols : List String) (vals : List Val) (s s1 s2 s3 : Store)
    (off : Nat) (n : Node) (schema : List FieldDef)
    (h1 : relationOffset table s = .ok off s1) (h2 : fetch off s1 = .ok n s2)
    (h3 : relationSchema table s2 = .ok schema s3)
    (c : String) (hc : c ∈ colsOf schema cols) (hn : c ∉ schema.map (·.name)) :
    ∃ e, insert table cols vals s = .err e s3 ∧
      (e = .colCountMismatch ∨ e = .fieldNotFound ∨ e = .fieldAmbiguous) ∧
      ((colsOf schema cols).length = vals.length → checkColumns schema (colsOf schema cols) = some e) ∧
      (Filed s → Filed s3 ∧ SameData s s3) := by
  have hro : Filed s → Filed s3 ∧ SameData s s3 := by
    intro hf
    obtain ⟨f1, d1⟩ := (ReadOnly.relationOffset table).ok hf h1
    obtain ⟨f2, d2⟩ := (ReadOnly.fetch off).ok f1 h2
    obtain ⟨f3, d3⟩ := (ReadOnly.relationSchema table).ok f2 h3
    exact ⟨f3, (d1.trans d2).trans d3⟩
  by_cases hlen : (colsOf schema cols).length = vals.length
  · obtain ⟨e, hcc⟩ := checkColumns_unknown hc hn
    exact ⟨e, insert_names_err table cols vals s s1 s2 s3 off n schema e h1 h2 h3 hlen hcc,
      .inr (checkColumns_some hcc), fun _ => hcc, hro⟩
  · refine ⟨.colCountMismatch, ?_, .inl rfl, fun h => absurd h hlen, hro⟩
    rw [insert_eq, bind_ok h1, bind_ok h2, bind_ok h3]
    have hb : ((colsOf schema cols).length != vals.length) = true := by simpa using hlen
    simp only [hb, if_true]
    rfl

theorem insert_names_unchanged (table : Bytes) (cols : List String) (vals : List Val) (s : Store)
    (e : SErr) (s' : Store) (hf : Filed s) (h : insert table cols vals s = .err e s')
    (he : e = .fieldNotFound ∨ e = .fieldAmbiguous) : Filed s' ∧ SameData s s' :=
  insert_err table cols vals s e s' hf h
    (by
      rcases he with rfl | rfl
      · exact .inr (.inr (.inr (.inr (.inr (.inl rfl)))))
      · exact .inr (.inr (.inr (.inr (.inr (.inr rfl))))))

/-- **No value is dropped in silence: the store.**  On ANY store: an INSERT that succeeded named only
columns of the table, each of them once, and supplied one value per name. -/
theorem insert_ok_names (table : Bytes) (cols : List String) (vals : List Val) (s : Store)
    (logs : List WalRec) (s' : Store) (h : insert table cols vals s = .ok logs s') :
    ∃ off s1 n s2 schema s3, relationOffset table s = .ok off s1 ∧ fetch off s1 = .ok n s2 ∧
      relationSchema table s2 = .ok schema s3 ∧ (colsOf schema cols).length = vals.length ∧
      (∀ c ∈ colsOf schema cols, c ∈ schema.map (·.name)) ∧ (colsOf schema cols).Nodup := by
  rw [insert_eq] at h
  obtain ⟨off, s1, h1, h⟩ := bind_eq_ok h
  obtain ⟨n, s2, h2, h⟩ := bind_eq_ok h
  obtain ⟨schema, s3, h3, h⟩ := bind_eq_ok h
  refine ⟨off, s1, n, s2, schema, s3, h1, h2, h3, ?_⟩
  by_cases hlen : (colsOf schema cols).length = vals.length
  · refine ⟨hlen, ?_⟩
    cases hcc : checkColumns schema (colsOf schema cols) with
    | none => exact (checkColumns_none_iff schema _).mp hcc
    | some e =>
      have hb : ((colsOf schema cols).length != vals.length) = false := by simp [hlen]
      simp only [hb, Bool.false_eq_true, if_false, hcc] at h
      cases h
  · have hb : ((colsOf schema cols).length != vals.length) = true := by simpa using hlen
    simp only [hb, if_true] at h
    cases h

/-! ### the plain model: which value a row holds under which name -/

theorem rowOf_vals {t : Spec.STable} {cols : List Bytes} {vals row : List Val}
    (h : Spec.rowOf t cols vals = some row) (hne : cols ≠ []) :
    (cols.map Spec.nameStr).length = vals.length ∧
    row = t.cols.map fun fd => get ((cols.map Spec.nameStr).zip vals).reverse fd.name := by
  unfold Spec.rowOf at h
  have he : cols.isEmpty = false := by
    cases cols with
    | nil => exact absurd rfl hne
    | cons _ _ => rfl
  simp only [he, Bool.false_eq_true, if_false] at h
  split at h
  · cases h
  · rename_i hlen
    split at h
    · cases h
    · split at h
      · cases h
      · simp only [Option.some.injEq] at h
        exact ⟨by simpa using hlen, h.symm⟩

/-- **No value is dropped in silence: the plain model.**  A row the plain model accepts for an INSERT
with a column list (all of whose names are columns of the table, each named once - `namesOK`, which
`specInsert` demands) holds, at the position of every column: the `i`-th value if the column is the
`i`-th name of the list, and NULL if the column is not named. -/
theorem rowOf_named (t : Spec.STable) (cols : List Bytes) (vals row : List Val)
    (h : Spec.rowOf t cols vals = some row) (hne : cols ≠ [])
    (hok : Spec.namesOK t (cols.map Spec.nameStr) = true) :
    row.length = t.cols.length ∧
    ∀ (j : Nat) (fd : FieldDef), t.cols[j]? = some fd →
      (∀ (i : Nat) (c : Bytes) (v : Val), cols[i]? = some c → vals[i]? = some v →
        Spec.nameStr c = fd.name → row[j]? = some v) ∧
      (fd.name ∉ cols.map Spec.nameStr → row[j]? = some .null) := by
  obtain ⟨_, hrow⟩ := rowOf_vals h hne
  obtain ⟨_, hnd⟩ := (namesOK_iff t _).mp hok
  subst hrow
  refine ⟨List.length_map _, fun j fd hj => ?_⟩
  obtain ⟨hnamed, hnot⟩ := namedRow_getElem? t.cols (cols.map Spec.nameStr) vals hnd j fd hj
  refine ⟨fun i c v hc hv hcn => hnamed i v ?_ hv, hnot⟩
  rw [List.getElem?_map, hc, ← hcn]
  rfl

end Mkdb.Store
