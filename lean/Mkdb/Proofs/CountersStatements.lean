import Mkdb.Proofs.CountersRowOps
import Mkdb.Proofs.ReplayMixed
/-!
The header counters: **the statements, the flush, and start-up recovery.**

A refused INSERT leaves the log as it was - **but the counters keep what the rows tried before the error
consumed**.  A statement is its row operation run over its rows (`rowsM`): the advances of the rows add up
and their logs are concatenated (`rowsM_post` of `CountersRowOps`).  The replay of a log raises the row-id
counter to at most the largest key of an INSERT record (`maxKey`), the LSN counter to at most the largest LSN
(`maxLsn`), and allocates at most 66 pages per INSERT record (`insCount`): a replay on a data file the pages did
not reach allocates them again.  For start-up recovery (`recover_counters`) the reference is the header in the
data file (`RAdv.recAdv`).
-/
set_option autoImplicit false
namespace Mkdb.Store
open Mkdb.Page Mkdb.Tuple Mkdb.Generated Mkdb.Tree Mkdb.Engine

/-- the result of an INSERT statement run from `db`: accepted, the records appended to the log account for the
advance (`Logged`); refused, the log is untouched -/
def ResI {α} (db : Engine.DB) (r : Engine.Res α) (dk dl df : Nat) : Prop :=
  match r with
  | .ok _ db' => Adv db.store db'.store dk dl df ∧
      ∃ logs, db'.wal = db.wal ++ logs ∧ Logged db.store db'.store logs
  | .err _ db' => Adv db.store db'.store dk dl df ∧ db'.wal = db.wal
  | _ => True

/-- a logged store program run as the last step of a statement from the store of `db` -/
theorem resI_liftS {β} (db : Engine.DB) {m : SM (List WalRec)} {dk dl df : Nat} (ret : β)
    (h : ResL db.store (m db.store) dk dl df) :
    ResI db (Engine.liftS db m fun logs s' => .ok ret { store := s', wal := db.wal ++ logs }) dk dl df := by
  rw [Engine.liftS]
  cases e : m db.store with
  | ok logs s' => rw [e] at h; exact ⟨h.1, logs, rfl, h.2⟩
  | err x s' => rw [e] at h; exact ⟨h, rfl⟩
  | _ => trivial

/-- **`EvaluateInsert`** of `n` rows, whatever the outcome: at most `n` row ids, `2 n` LSNs, `66 n`
pages. -/
theorem evalInsert_counters (db : Engine.DB) (table : Bytes) (cols : List Bytes) (rows : List (List Val)) :
    ResI db (Engine.evalInsert db table cols rows) rows.length (2 * rows.length) (270336 * rows.length) := by
  rw [evalInsert_eq]
  refine resI_liftS db _ (resL_post.mpr ?_)
  exact rowsM_post (R := fun n a b => Adv a b n (2 * n) (270336 * n)) Adv.refl
    (fun h1 h2 => (h1.trans h2).mono (Nat.le_refl _) (by omega) (by omega))
    (fun h hmn => h.mono hmn (by omega) (by omega))
    (fun a s => resL_post.mp (GrowsL.insert table _ a s)) rows db.store

theorem rowsM_insert_count {table : Bytes} {cols : List String} : ∀ {rows : List (List Val)} {s s' : Store}
    {logs : List WalRec}, rowsM (insert table cols) rows s = .ok logs s' → insCount logs = rows.length
  | [], _, _, _, h => by cases h; rfl
  | r :: rest, _, _, _, h => by
    obtain ⟨l, ls, s1, h1, h2, rfl⟩ := rowsM_cons_inv h
    rw [insCount_append, insert_ok_count h1, rowsM_insert_count h2, List.length_cons, Nat.add_comm]

/-- As many records as rows: every row logged its INSERT record and no other, so the first `j` rows logged `j`
records. -/
theorem rowsM_insert_take_length {table : Bytes} {cols : List String} {rows : List (List Val)} {s sC sJ : Store}
    {logs lJ : List WalRec} {j : Nat} (h : rowsM (insert table cols) rows s = .ok logs sC)
    (hno : logs.length = rows.length) (hj : j ≤ rows.length)
    (hJ : rowsM (insert table cols) (rows.take j) s = .ok lJ sJ) : lJ.length = j := by
  obtain ⟨l2, rfl⟩ := rowsM_prefix h hJ
  have cC := rowsM_insert_count h
  have c1 := rowsM_insert_count hJ
  have b1 := insCount_le lJ
  have b2 := insCount_le l2
  rw [insCount_append] at cC
  rw [List.length_append] at hno
  rw [List.length_take_of_le hj] at c1
  omega

/-- **An accepted INSERT of `n` rows logs exactly `n` INSERT records** (and possibly catalog records). -/
theorem evalInsert_ok_count {db db' : Engine.DB} {table : Bytes} {cols : List Bytes} {rows : List (List Val)}
    {m : Nat} (h : Engine.evalInsert db table cols rows = .ok m db') :
    ∃ logs, db'.wal = db.wal ++ logs ∧ insCount logs = rows.length := by
  rw [evalInsert_eq, Engine.liftS] at h
  cases e : rowsM (insert table (cols.map Engine.bytesToName)) rows db.store with
  | ok logs s' =>
    rw [e] at h
    cases h
    exact ⟨logs, rfl, rowsM_insert_count e⟩
  | _ => rw [e] at h; cases h

/-- the same for an UPDATE or DELETE statement: only the LSN counter moves (`AdvL`) -/
def ResUD {α} (db : Engine.DB) (r : Engine.Res α) : Prop :=
  match r with
  | .ok _ db' => AdvL db.store db'.store ∧ ∃ logs, db'.wal = db.wal ++ logs ∧ Logged db.store db'.store logs
  | .err _ db' => AdvL db.store db'.store ∧ db'.wal = db.wal
  | _ => True

/-- the row loop of UPDATE / DELETE, run from the store `s` the scan of the statement left -/
theorem resUD_rows {α β} (db : Engine.DB) {s : Store} (hs : Adv db.store s 0 0 0) {op : α → SM (List WalRec)}
    (hop : ∀ a s, ResU s (op a s)) (l : List α) (ret : β) :
    ResUD db (Engine.liftS { db with store := s } (rowsM op l)
      fun logs s' => .ok ret { store := s', wal := db.wal ++ logs }) := by
  have h := rowsM_post (R := fun _ a b => AdvL a b) AdvL.refl AdvL.trans (fun h _ => h)
    (fun a s => resU_post.mp (hop a s)) l s
  simp only [Engine.liftS]
  cases e : rowsM op l s with
  | ok logs s' => rw [e] at h; exact ⟨hs.advL.trans h.1, logs, rfl, h.2.of_same hs⟩
  | err x s' => rw [e] at h; exact ⟨hs.advL.trans h, rfl⟩
  | _ => trivial

theorem fetchForExec_counters {β} (db : Engine.DB) (table : Bytes)
    (k : List (Nat × List Val) → List Exec.Field → Store → Engine.Res β)
    (hk : ∀ rows fields s, Adv db.store s 0 0 0 → ResUD db (k rows fields s)) :
    ResUD db (Engine.fetchForExec db table k) := by
  have hf := Still.fetchTable table db.store
  simp only [Engine.fetchForExec, Engine.liftS]
  cases e : fetchTable table db.store with
  | ok a s' => rw [e] at hf; exact hk _ _ _ hf
  | err x s' => rw [e] at hf; exact ⟨Adv.advL hf, rfl⟩
  | _ => trivial

/-- **`EvaluateDelete`**, whatever the outcome: no row id, no page; the LSN counter does not go down;
accepted: it advanced by exactly the number of records appended to the log. -/
theorem evalDelete_counters (db : Engine.DB) (table : Bytes) (w : Option Sql.Cond) :
    ResUD db (Engine.evalDelete db table w) := by
  rw [evalDelete_eq]
  refine fetchForExec_counters db table _ fun rows fields s hs => ?_
  cases Engine.filterIds w fields rows with
  | ok sel =>
    simp only
    exact resUD_rows db hs (op := fun r : Nat × List Val => markDeleted table r.1)
      (fun r s => (GrowsL.markDeleted table r.1 s).resU) sel sel.length
  | err x => exact ⟨hs.advL, rfl⟩
  | panic p => trivial

/-- **`EvaluateUpdate`**, whatever the outcome: no row id, no page; the LSN counter does not go down;
accepted: it advanced by exactly the number of records appended to the log. -/
theorem evalUpdate_counters (db : Engine.DB) (table : Bytes) (sets : List (Bytes × Sql.VExpr))
    (w : Option Sql.Cond) : ResUD db (Engine.evalUpdate db table sets w) := by
  by_cases hcol : ∃ p ∈ sets, ∃ c, p.2 = .col c
  · rw [evalUpdate_col db table sets w hcol]
    exact ⟨AdvL.refl _, rfl⟩
  · rw [evalUpdate_eq db table sets w fun p hp c hpc => hcol ⟨p, hp, c, hpc⟩]
    refine fetchForExec_counters db table _ fun rows fields s hs => ?_
    cases Engine.checkSetColumns fields [] (sets.map (·.1)) with
    | some ec => exact ⟨hs.advL, rfl⟩
    | none =>
      simp only
      cases Engine.filterIds w fields rows with
      | ok sel =>
        exact resUD_rows db hs (op := fun r : Nat × List Val => update table r.1 _ _)
          (fun r s => update_counters table r.1 _ _ s) sel ()
      | err x => exact ⟨hs.advL, rfl⟩
      | panic p => trivial

/-- the result of a CREATE TABLE run from `db`: the log is untouched on every outcome -/
def ResC (db : Engine.DB) (r : Engine.Res Unit) (dk dl df : Nat) : Prop :=
  match r with
  | .ok _ db' => AdvF db.store db'.store dk dl df ∧ db'.wal = db.wal
  | .err _ db' => AdvF db.store db'.store dk dl df ∧ db'.wal = db.wal
  | _ => True

/-- **`EvaluateCreateTable`** of `n` columns, whatever the outcome: at most `n + 1` row ids (the catalog
rows: one in `sys_pages`, one per column in `sys_schema`), `2 n + 1` LSNs, `1 + 66 (n + 1)` pages; no log
record. -/
theorem evalCreateTable_counters (db : Engine.DB) (name : Bytes) (cols : List Sql.ColDef) (order : List Nat)
    (doFlush : Bool) :
    ResC db (Engine.evalCreateTable db name cols order doFlush)
      (cols.length + 1) (2 * cols.length + 1) (4096 + 270336 * (cols.length + 1)) := by
  have h := createTable_counters (cols.map Engine.colTypeToField) name order doFlush db.store
  rw [List.length_map] at h
  simp only [Engine.evalCreateTable, Engine.liftS]
  cases e : createTable (cols.map Engine.colTypeToField) name order doFlush db.store with
  | ok a s' => rw [e] at h; exact ⟨h, rfl⟩
  | err x s' => rw [e] at h; exact ⟨h, rfl⟩
  | _ => trivial

/-- **The flush** (timer or close) always succeeds, moves no counter, writes the header, keeps the log. -/
theorem flush_counters (db : Engine.DB) (order : List Nat) :
    ∃ db', Engine.flush db order = .ok () db' ∧ db'.store.hdr = db.store.hdr ∧
      db'.store.dhdr = db.store.hdr ∧ db'.wal = db.wal := by
  obtain ⟨s', e, h1, h2⟩ := flushPages_hdr order db.store
  exact ⟨{ db with store := s' }, by simp only [Engine.flush, Engine.liftS, e], h1, h2, rfl⟩

def maxLsn (log : List WalRec) (m : Nat) : Nat := log.foldl (fun m r => max m r.lsn) m

theorem le_maxKey (log : List WalRec) (m : Nat) : m ≤ maxKey log m := by
  induction log generalizing m with
  | nil => exact Nat.le_refl _
  | cons r rest ih =>
    show m ≤ maxKey rest (if r.op == c_OpInsert then max m r.cell else m)
    refine Nat.le_trans ?_ (ih _)
    split
    · exact Nat.le_max_left _ _
    · exact Nat.le_refl _

theorem maxLsn_le (log : List WalRec) (m B : Nat) (hm : m ≤ B) (h : ∀ r ∈ log, r.lsn ≤ B) : maxLsn log m ≤ B := by
  induction log generalizing m with
  | nil => exact hm
  | cons r rest ih =>
    exact ih _ (Nat.max_le.mpr ⟨hm, h r List.mem_cons_self⟩) (fun x hx => h x (List.mem_cons_of_mem _ hx))

theorem maxKey_le (log : List WalRec) (m B : Nat) (hm : m ≤ B) (h : ∀ r ∈ log, r.op = c_OpInsert → r.cell ≤ B) :
    maxKey log m ≤ B := by
  induction log generalizing m with
  | nil => exact hm
  | cons r rest ih =>
    show maxKey rest (if r.op == c_OpInsert then max m r.cell else m) ≤ B
    refine ih _ ?_ (fun x hx => h x (List.mem_cons_of_mem _ hx))
    split
    · rename_i hb
      exact Nat.max_le.mpr ⟨hm, h r List.mem_cons_self (by simpa using hb)⟩
    · exact hm

/-- **One record of the replay**, from the store with the raised counters (`raiseRec`), on every path:
the row-id counter and the LSN counter stay where the record raised them; an INSERT record allocates at
most 66 pages, another record none; the data-file header is untouched. -/
theorem replayOne_adv (r : WalRec) (s : Store) :
    Adv (raiseRec s r) (replayOne r s).1 0 0 (if r.op == c_OpInsert then 270336 else 0) := by
  have ins : ∀ {b : Store}, r.op = c_OpInsert → Adv (raiseRec s r) b 0 0 270336 →
      Adv (raiseRec s r) b 0 0 (if r.op == c_OpInsert then 270336 else 0) := fun hop h => by
    rw [if_pos (by rw [hop]; decide)]; exact h
  refine replayOne_ind r s (fun b => Adv (raiseRec s r) b 0 0 0)
    (fun b => Adv (raiseRec s r) b 0 0 (if r.op == c_OpInsert then 270336 else 0)) (Adv.refl _)
    (fun h => h.mono (Nat.le_refl _) (Nat.le_refl _) (Nat.zero_le _))
    (fun h e => h.trans ((Still.fetch _).ok e))
    (fun hop h e => ins hop ((h.trans ((Grows.insertKey _ _ _ _).ok e)).mono (Nat.le_refl _) (Nat.le_refl _)
      (Nat.le_of_eq (Nat.zero_add _))))
    (fun hop h e => ins hop ((h.trans ((Grows.insertKey _ _ _ _).err e)).mono (Nat.le_refl _) (Nat.le_refl _)
      (Nat.le_of_eq (Nat.zero_add _))))
    (fun hop h => ?_)
    (fun _ h e => h.trans ((Still.repointPageTable _ _ _).ok e))
    (fun _ h e => h.trans ((Still.repointPageTable _ _ _).err e))
    (fun _ _ h _ => ⟨h.k_mono, h.k_le, h.l_mono, h.l_le, h.f_mono, h.f_le, h.dhdr⟩)
  -- `raiseRec` has raised the row-id counter to the key already: raising it again changes nothing
  rename_i a
  have hb := h.same_kl.1
  have hc : r.cell ≤ (raiseRec s r).hdr.lastKey := by rw [raiseRec_insert s r hop]; exact Nat.le_max_right _ _
  refine ⟨?_, ?_, h.l_mono, h.l_le, h.f_mono, h.f_le, h.dhdr⟩
  · show _ ≤ max a.hdr.lastKey r.cell; omega
  · show max a.hdr.lastKey r.cell ≤ _; omega

/-- what a replay of `log` from `s` can have done to the counters when it stops in `s'` -/
structure RAdv (s s' : Store) (log : List WalRec) : Prop where
  k_lo : s.hdr.lastKey ≤ s'.hdr.lastKey
  k_hi : s'.hdr.lastKey ≤ maxKey log s.hdr.lastKey
  l_lo : s.hdr.nextLSN ≤ s'.hdr.nextLSN
  l_hi : s'.hdr.nextLSN ≤ maxLsn log s.hdr.nextLSN
  f_lo : s.hdr.nextFree ≤ s'.hdr.nextFree
  f_hi : s'.hdr.nextFree ≤ s.hdr.nextFree + 270336 * insCount log
  dhdr : s'.dhdr = s.dhdr

/-- the replay stopped: nothing moved -/
theorem RAdv.stop (s : Store) (log : List WalRec) : RAdv s s log :=
  ⟨Nat.le_refl _, le_maxKey _ _, Nat.le_refl _, foldl_max_ge _ _, Nat.le_refl _, Nat.le_add_right _ _, rfl⟩

/-- one record ahead: it raises the two counters (`raiseRec`; the maxima over the log start there) and, an INSERT
record, allocates; the rest of the log is replayed from the store `s1` it leaves -/
theorem RAdv.cons {s s1 s' : Store} {r : WalRec} {rest : List WalRec}
    (h1 : Adv (raiseRec s r) s1 0 0 (if r.op == c_OpInsert then 270336 else 0)) (h2 : RAdv s1 s' rest) :
    RAdv s s' (r :: rest) := by
  obtain ⟨e1, e2⟩ := h1.same_kl
  obtain ⟨a1, a2, a3, a4, a5, a6, a7⟩ := h2
  rw [e1] at a1 a2
  rw [e2] at a3 a4
  have k0 : s.hdr.lastKey ≤ (raiseRec s r).hdr.lastKey := by
    show _ ≤ (if r.op == c_OpInsert then max s.hdr.lastKey r.cell else s.hdr.lastKey)
    split
    · exact Nat.le_max_left _ _
    · exact Nat.le_refl _
  have f1 : s.hdr.nextFree ≤ s1.hdr.nextFree := h1.f_mono
  have f2 : s1.hdr.nextFree ≤ s.hdr.nextFree + (if r.op == c_OpInsert then 270336 else 0) := h1.f_le
  refine ⟨Nat.le_trans k0 a1, a2, Nat.le_trans (Nat.le_max_left _ _) a3, a4, Nat.le_trans f1 a5, ?_,
    a7.trans h1.dhdr⟩
  rw [insCount_cons]
  by_cases hc : (r.op == c_OpInsert) = true
  · rw [if_pos hc] at f2 ⊢; omega
  · rw [if_neg hc] at f2 ⊢; omega

/-- **The replay of a log, whatever its outcome** (run to its end, silent abort, error): no counter goes
down; the row-id counter ends at most at the largest key of an INSERT record, the LSN counter at most at
the largest LSN, the allocation frontier at most 66 pages per INSERT record further; the data-file header
is untouched. -/
theorem replayAll_counters (log : List WalRec) (s : Store) : RAdv s (replayAll log s).1 log := by
  induction log generalizing s with
  | nil => exact .stop s []
  | cons r rest ih =>
    have h1 := replayOne_adv r s
    unfold Engine.replayAll
    split
    · rename_i s1 he
      rw [he] at h1
      exact .cons h1 (ih s1)
    · exact .cons h1 (.stop _ rest)

/-- what start-up recovery of `db` can have done to the counters of the database `db'` it returns: the
reference is the header IN THE DATA FILE (`dhdr`) - the in-memory header died with the crash -/
structure RecAdv (db db' : Engine.DB) : Prop where
  k_lo : db.store.dhdr.lastKey ≤ db'.store.hdr.lastKey
  k_hi : db'.store.hdr.lastKey ≤ maxKey db.wal db.store.dhdr.lastKey
  l_lo : db.store.dhdr.nextLSN ≤ db'.store.hdr.nextLSN
  l_hi : db'.store.hdr.nextLSN ≤ maxLsn db.wal db.store.dhdr.nextLSN + 1
  f_lo : db.store.dhdr.nextFree ≤ db'.store.hdr.nextFree
  f_hi : db'.store.hdr.nextFree ≤ db.store.dhdr.nextFree + 270336 * insCount db.wal
  dhdr : db'.store.dhdr = db'.store.hdr
  wal : db'.wal = db.wal

/-- the replay from the re-opened data file, seen from the database: `db'` has the header the replay left, the LSN
counter bumped at most once, and that header is in its data file -/
theorem RAdv.recAdv {db db' : Engine.DB} {s : Store} (h : RAdv (reopen db.store) s db.wal) {d : Nat} (hd : d ≤ 1)
    (hh : db'.store.hdr = { s.hdr with nextLSN := s.hdr.nextLSN + d }) (hdh : db'.store.dhdr = db'.store.hdr)
    (hw : db'.wal = db.wal) : RecAdv db db' := by
  obtain ⟨a1, a2, a3, a4, a5, a6, _⟩ := h
  refine ⟨?_, ?_, ?_, ?_, ?_, ?_, hdh, hw⟩ <;> rw [hh]
  · exact a1
  · exact a2
  · exact Nat.le_trans a3 (Nat.le_add_right _ _)
  · exact Nat.add_le_add a4 hd
  · exact a5
  · exact a6

/-- **Start-up recovery, every outcome that returns a database** (`.ok`, or `.err`: `InitStorage` failed,
the deferred close still flushed): each counter ends between its value in the data-file header and the
maximum of that header and the log - plus one for the LSN counter (the final bump), plus at most 66 pages
per INSERT record of the log for the allocation frontier; the header is written to the data file; the log
is kept. -/
theorem recover_counters (db : Engine.DB) (o1 o2 : List Nat) :
    match Engine.recover db o1 o2 with
    | .ok db' => RecAdv db db'
    | .err _ db' => RecAdv db db'
    | _ => True := by
  have h := replayAll_counters db.wal (reopen db.store)
  unfold Engine.recover
  simp only [flushPages_flushed]
  generalize replayAll db.wal (reopen db.store) = r at h
  obtain ⟨s, m, b⟩ := r
  -- every path that returns a database ends in a flush
  have fl : ∀ o s', (flushed o s').dhdr = (flushed o s').hdr := fun o s' => by rw [flushed_dhdr, flushed_hdr]
  cases m with
  | some msg =>
    simp only
    by_cases c1 : msg.startsWith "panic:" = true
    · rw [if_pos c1]; trivial
    · rw [if_neg c1]
      by_cases c2 : msg.startsWith "unmodelled:" = true
      · rw [if_pos c2]; trivial
      · rw [if_neg c2]
        by_cases c3 : (msg == "hang") = true
        · rw [if_pos c3]; trivial
        · rw [if_neg c3]
          exact h.recAdv (Nat.zero_le 1) (flushed_hdr o2 s) (fl _ _) rfl
  | none =>
    cases b with
    | true => exact h.recAdv (Nat.zero_le 1) (flushed_hdr o2 s) (fl _ _) rfl
    | false => exact h.recAdv (Nat.le_refl 1) (by rw [flushed_hdr, flushed_hdr]) (fl _ _) rfl

end Mkdb.Store
