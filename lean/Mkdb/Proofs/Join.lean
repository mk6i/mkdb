import Mkdb.Proofs.ExecLoops
import Mkdb.Spec.Query
/-!
The FROM clause of the executor model (`joinMatches`, `joinOuter`, `nestedLoopJoin`) against its
relational definition `Spec.fromRows`: the nested loops succeed exactly when the definition is
defined, with the same header and a permutation of its rows (`nestedLoopJoin_perm_fromRows`,
`fromRows_of_nestedLoopJoin`), the same list when every join is INNER.  Also column resolution
(`lookupFieldIdx`, `lookupColIdxByID`, `fetchTable`).
-/
namespace Mkdb.Exec.JoinP
open Mkdb.Sql Mkdb.Tuple

/-! ### the result monad -/

@[simp] theorem bind_ok {α β : Type} (a : α) (f : α → X β) : (X.ok a >>= f) = f a := rfl
@[simp] theorem bind_err {α β : Type} (e : EErr) (f : α → X β) : (X.err e >>= f) = X.err e := rfl
@[simp] theorem bind_panic {α β : Type} (s : String) (f : α → X β) :
    (X.panic s >>= f) = X.panic s := rfl
@[simp] theorem pure_eq_ok {α : Type} (a : α) : (pure a : X α) = X.ok a := rfl

/-- the total truth function read off the evaluator -/
def truthOf (on : Cond) (fields : List Field) (row : Row) : Bool :=
  Spec.holds on fields row == some true

theorem evaluate_truthOf {on : Cond} {fields : List Field} {row : Row} {b : Bool}
    (h : evaluate on fields row = .ok (.bool b)) :
    evaluate on fields row = .ok (.bool (truthOf on fields row)) := by
  have : truthOf on fields row = b := by
    unfold truthOf Spec.holds
    rw [h]
    cases b <;> rfl
  rw [this]; exact h

/-! ### the inner loop -/

theorem joinMatches_ok (on : Cond) (fields : List Field) (mk : Row → Row) (truth : Row → Bool)
    (inner : List Row)
    (h : ∀ r ∈ inner, evaluate on fields (mk r) = .ok (.bool (truth (mk r)))) :
    joinMatches on fields mk inner = .ok ((inner.map mk).filter truth) := by
  have ht : ∀ row ∈ inner.map mk, onTest on fields row = .ok (truth row) := fun row hr => by
    obtain ⟨r, hr', rfl⟩ := List.mem_map.1 hr
    exact onTest_ok_iff.2 (h r hr')
  rw [joinMatches_eq_filterX]
  refine filterX_ok_iff.2 ⟨fun row hr => ⟨_, ht row hr⟩, List.filter_congr fun row hr => ?_⟩
  rw [ht row hr]
  cases truth row <;> rfl

/-! ### the outer loop -/

theorem joinOuter_ok (on : Cond) (fields : List Field) (outer inner : List Row)
    (mk : Row → Row → Row) (pad : Option (Row → Row)) (truth : Row → Bool)
    (h : ∀ o ∈ outer, ∀ i ∈ inner, evaluate on fields (mk o i) = .ok (.bool (truth (mk o i)))) :
    joinOuter on fields outer inner mk pad = .ok (outer.flatMap fun o =>
      let ms := (inner.map (mk o)).filter truth
      if ms.isEmpty then (match pad with | some p => [p o] | none => []) else ms) := by
  rw [joinOuter_eq_mapX, mapX_eq_ok_map _ outer fun o ho => by
    unfold outerRows; rw [joinMatches_ok on fields (mk o) truth inner (h o ho)]; rfl]
  rw [List.flatMap_def]
  rfl

theorem joinOuter_ok_inv {on : Cond} {fields : List Field} {outer inner out : List Row}
    {mk : Row → Row → Row} {pad : Option (Row → Row)}
    (h : joinOuter on fields outer inner mk pad = .ok out) :
    ∀ o ∈ outer, ∀ i ∈ inner, ∃ b, evaluate on fields (mk o i) = .ok (.bool b) := fun o ho i hi => by
  rw [joinOuter_eq_mapX] at h
  obtain ⟨bs, hbs, _⟩ := bind_eq_ok.1 h
  obtain ⟨_, hms⟩ := mapX_ok_forall hbs o ho
  obtain ⟨ms, hm, _⟩ := bind_eq_ok.1 hms
  rw [joinMatches_eq_filterX] at hm
  obtain ⟨b, hb⟩ := (filterX_ok_iff.1 hm).1 (mk o i) (List.mem_map_of_mem hi)
  exact ⟨b, onTest_ok_iff.1 hb⟩

theorem joinOuter_ok_iff {on : Cond} {fields : List Field} {outer inner out : List Row}
    {mk : Row → Row → Row} {pad : Option (Row → Row)} :
    joinOuter on fields outer inner mk pad = .ok out ↔
      (∀ o ∈ outer, ∀ i ∈ inner, ∃ t, evaluate on fields (mk o i) = .ok (.bool t)) ∧
      out = outer.flatMap fun o =>
        let ms := (inner.map (mk o)).filter (truthOf on fields)
        if ms.isEmpty then (match pad with | some p => [p o] | none => []) else ms := by
  have hok := fun (h : ∀ o ∈ outer, ∀ i ∈ inner, ∃ t, evaluate on fields (mk o i) = .ok (.bool t)) =>
    joinOuter_ok on fields outer inner mk pad (truthOf on fields) fun o ho i hi => by
      obtain ⟨t, ht⟩ := h o ho i hi; exact evaluate_truthOf ht
  constructor
  · intro h
    have hd := joinOuter_ok_inv h
    rw [hok hd] at h
    exact ⟨hd, (X.ok.inj h).symm⟩
  · rintro ⟨hd, rfl⟩
    exact hok hd

theorem ite_isEmpty_nil {α : Type} (ms : List α) : (if ms.isEmpty then [] else ms) = ms := by
  cases ms <;> rfl

/-- INNER JOIN is the relational definition, in the order of the nested loops. -/
theorem inner_join_eq (on : Cond) (fields : List Field) (L R : List Row) (truth : Row → Bool)
    (h : ∀ l ∈ L, ∀ r ∈ R, evaluate on fields (l ++ r) = .ok (.bool (truth (l ++ r)))) :
    joinOuter on fields L R (fun l r => l ++ r) none =
      .ok (L.flatMap fun l => (R.map fun r => l ++ r).filter truth) := by
  rw [joinOuter_ok on fields L R _ none truth h]
  simp only [ite_isEmpty_nil]

theorem inner_join_mem (on : Cond) (fields : List Field) (L R : List Row) (truth : Row → Bool)
    (h : ∀ l ∈ L, ∀ r ∈ R, evaluate on fields (l ++ r) = .ok (.bool (truth (l ++ r)))) :
    ∃ rows, joinOuter on fields L R (fun l r => l ++ r) none = .ok rows ∧
      ∀ row, row ∈ rows ↔ ∃ l ∈ L, ∃ r ∈ R, row = l ++ r ∧ truth (l ++ r) = true := by
  refine ⟨_, inner_join_eq on fields L R truth h, fun row => ?_⟩
  simp only [List.mem_flatMap, List.mem_filter, List.mem_map]
  constructor
  · rintro ⟨l, hl, ⟨r, hr, rfl⟩, ht⟩
    exact ⟨l, hl, r, hr, rfl, ht⟩
  · rintro ⟨l, hl, r, hr, rfl, ht⟩
    exact ⟨l, hl, ⟨r, hr, rfl⟩, ht⟩

theorem inner_rows_eq_pairs (L R : List Row) (truth : Row → Bool) :
    (L.flatMap fun l => (R.map fun r => l ++ r).filter truth) =
      ((L.flatMap fun l => R.map fun r => (l, r)).filter fun p => truth (p.1 ++ p.2)).map
        fun p => p.1 ++ p.2 := by
  simp only [List.filter_flatMap, List.map_flatMap, List.filter_map, List.map_map]
  rfl

theorem inner_join_count (on : Cond) (fields : List Field) (L R : List Row) (truth : Row → Bool)
    (h : ∀ l ∈ L, ∀ r ∈ R, evaluate on fields (l ++ r) = .ok (.bool (truth (l ++ r)))) :
    ∃ rows, joinOuter on fields L R (fun l r => l ++ r) none = .ok rows ∧
      rows = ((L.flatMap fun l => R.map fun r => (l, r)).filter
                fun p => truth (p.1 ++ p.2)).map (fun p => p.1 ++ p.2) ∧
      rows.length = ((L.flatMap fun l => R.map fun r => (l, r)).filter
                fun p => truth (p.1 ++ p.2)).length ∧
      ∀ row, rows.count row = (((L.flatMap fun l => R.map fun r => (l, r)).filter
                fun p => truth (p.1 ++ p.2)).filter fun p => p.1 ++ p.2 == row).length := by
  refine ⟨_, inner_join_eq on fields L R truth h, inner_rows_eq_pairs L R truth, ?_, ?_⟩
  · rw [inner_rows_eq_pairs, List.length_map]
  · intro row
    rw [inner_rows_eq_pairs, List.count_eq_countP, List.countP_map, List.countP_eq_length_filter]
    rfl

/-! ### column resolution -/

theorem lookupFieldIdx_ambiguous (fields : List Field) (n : Bytes) (i j : Nat) (hij : i ≠ j)
    (hi : fields[i]?.map (·.column) = some n) (hj : fields[j]?.map (·.column) = some n) :
    lookupFieldIdx fields n = .err .fieldAmbiguous := by
  have mem : ∀ k, fields[k]?.map (·.column) = some n →
      k ∈ (List.range fields.length).filter (fun i => (fields[i]?.map (·.column)) == some n) := by
    intro k hk
    have hlt : k < fields.length := by
      cases h : fields[k]? with
      | none => simp [h] at hk
      | some f => exact (List.getElem?_eq_some_iff.mp h).1
    refine List.mem_filter.mpr ⟨List.mem_range.mpr hlt, ?_⟩
    rw [hk]; exact beq_self_eq_true _
  have mi := mem i hi
  have mj := mem j hj
  unfold lookupFieldIdx
  generalize (List.range fields.length).filter
    (fun i => (fields[i]?.map (·.column)) == some n) = F at mi mj
  match F, mi, mj with
  | [], mi, _ => cases mi
  | [k], mi, mj =>
    simp only [List.mem_singleton] at mi mj
    exact absurd (mi.trans mj.symm) hij
  | _ :: _ :: _, _, _ => rfl

theorem lookupFieldIdx_ambiguous' (fields : List Field) (n : Bytes) (i j : Nat) (hij : i ≠ j)
    (t₁ t₂ : Bytes) (hi : fields[i]? = some ⟨t₁, n⟩) (hj : fields[j]? = some ⟨t₂, n⟩) :
    lookupFieldIdx fields n = .err .fieldAmbiguous :=
  lookupFieldIdx_ambiguous fields n i j hij (by rw [hi]; rfl) (by rw [hj]; rfl)

theorem lookupColIdxByID_first (fields : List Field) (tid n : Bytes) (i : Nat)
    (h : lookupColIdxByID fields tid n = .ok i) :
    fields[i]? = some ⟨tid, n⟩ ∧ ∀ k, k < i → fields[k]? ≠ some ⟨tid, n⟩ := by
  unfold lookupColIdxByID at h
  split at h
  · rename_i i' hf
    cases h
    rw [List.find?_range_eq_some] at hf
    refine ⟨by simpa using hf.1, fun k hk => ?_⟩
    have := hf.2.2 k hk
    simpa using this
  · cases h

theorem lookupColIdxByID_none (fields : List Field) (tid n : Bytes)
    (h : ⟨tid, n⟩ ∉ fields) : lookupColIdxByID fields tid n = .err .fieldNotFound := by
  unfold lookupColIdxByID
  split
  · rename_i i hf
    rw [List.find?_range_eq_some] at hf
    exact absurd (List.mem_of_getElem? (by simpa using hf.1)) h
  · rfl

theorem fetchTable_alias (fetch : Bytes → Option Table) (t : TableName) (rows : List Row)
    (fields : List Field) (h : fetchTable fetch t = .ok (rows, fields)) :
    ∃ tbl, fetch t.name = some tbl ∧ rows = tbl.rows ∧
      fields = tbl.cols.map (fun c => ⟨(t.alias.getD t.name), c⟩) ∧
      (∀ a, t.alias = some a → ∀ f ∈ fields, f.tableId = a) ∧
      (t.alias = none → ∀ f ∈ fields, f.tableId = t.name) := by
  unfold fetchTable at h
  split at h
  · cases h
  · rename_i tbl hf
    cases h
    refine ⟨tbl, hf, rfl, ?_, ?_, ?_⟩
    · cases t.alias <;> rfl
    · intro a ha f hm
      simp only [ha, List.mem_map] at hm
      obtain ⟨c, _, rfl⟩ := hm
      rfl
    · intro ha f hm
      simp only [ha, List.mem_map] at hm
      obtain ⟨c, _, rfl⟩ := hm
      rfl

theorem fetchTable_none (fetch : Bytes → Option Table) (t : TableName)
    (h : fetch t.name = none) : fetchTable fetch t = .err .tableNotExist := by
  unfold fetchTable; rw [h]

/-! ### one join step, and the relational definition up to permutation -/

/-- matching pairs, left-major (the relational inner join) -/
def relInner (truth : Row → Bool) (L R : List Row) : List Row :=
  L.flatMap fun l => (R.map fun r => l ++ r).filter truth

/-- the result of a LEFT join as the nested loops produce it -/
def loopLeft (truth : Row → Bool) (n : Nat) (L R : List Row) : List Row :=
  L.flatMap fun l =>
    let ms := (R.map fun r => l ++ r).filter truth
    if ms.isEmpty then [l ++ List.replicate n .null] else ms

/-- the result of a RIGHT join as the nested loops produce it (right rows outside) -/
def loopRight (truth : Row → Bool) (n : Nat) (L R : List Row) : List Row :=
  R.flatMap fun r =>
    let ms := (L.map fun l => l ++ r).filter truth
    if ms.isEmpty then [List.replicate n .null ++ r] else ms

/-- the rows one join step of the nested loops produces, by join type -/
def loopJoin (jt : JoinType) (truth : Row → Bool) (nl nr : Nat) (L R : List Row) : List Row :=
  match jt with
  | .inner => relInner truth L R
  | .left => loopLeft truth nr L R
  | .right => loopRight truth nl L R

/-- the executor's test for a table id used twice: the id of the right table (read off its first
field; all its fields carry the same one) is looked up among the fields gathered so far -/
def headClash (lFields rFields : List Field) : Bool :=
  match rFields.head? with
  | some f0 => lFields.any (·.tableId == f0.tableId)
  | none => false

/-- the relational definition's test: some field of the right table carries a table id already
present on the left -/
def anyClash (lFields rFields : List Field) : Bool :=
  rFields.any fun g => lFields.any (·.tableId == g.tableId)

theorem nestedLoopJoin_join_unfold (fetch : Bytes → Option Table) (l : TableRef) (jt : JoinType)
    (r : TableName) (on : Cond) (lRows rRows : List Row) (lFields rFields : List Field)
    (hl : nestedLoopJoin fetch l = .ok (lRows, lFields))
    (hr : fetchTable fetch r = .ok (rRows, rFields)) :
    nestedLoopJoin fetch (.join l jt r on) =
      if headClash lFields rFields = true then X.err .fieldAmbiguous
      else (do
        let rows ← match jt with
          | .inner => joinOuter on (lFields ++ rFields) lRows rRows (fun lr rr => lr ++ rr) none
          | .left => joinOuter on (lFields ++ rFields) lRows rRows (fun lr rr => lr ++ rr) (some fun lr => lr ++ List.replicate rFields.length .null)
          | .right => joinOuter on (lFields ++ rFields) rRows lRows (fun rr lr => lr ++ rr) (some fun rr => List.replicate lFields.length .null ++ rr)
        pure (rows, lFields ++ rFields)) := by
  simp only [nestedLoopJoin, hl, hr, bind_ok]
  rfl

theorem anyClash_of_headClash {lFields rFields : List Field}
    (h : headClash lFields rFields = true) : anyClash lFields rFields = true := by
  unfold headClash at h
  unfold anyClash
  cases rFields with
  | nil => cases h
  | cons g rest => simp only [List.head?_cons] at h; simp only [List.any_cons, h, Bool.true_or]

/-- all fields of one table carry one table id: a clash on any field is a clash on the head -/
theorem headClash_of_anyClash {lFields rFields : List Field}
    (hid : ∀ g ∈ rFields, ∀ g' ∈ rFields, g.tableId = g'.tableId)
    (h : anyClash lFields rFields = true) : headClash lFields rFields = true := by
  unfold anyClash at h
  obtain ⟨g, hg, hc⟩ := List.any_eq_true.mp h
  unfold headClash
  cases rFields with
  | nil => cases hg
  | cons g0 rest =>
    simp only [List.head?_cons]
    rw [hid g0 List.mem_cons_self g hg]
    exact hc

theorem fetchTable_one_id {fetch : Bytes → Option Table} {t : TableName} {rows : List Row}
    {fields : List Field} (h : fetchTable fetch t = .ok (rows, fields)) :
    ∀ g ∈ fields, g.tableId = t.alias.getD t.name := by
  obtain ⟨tbl, _, _, hf, _, _⟩ := fetchTable_alias fetch t rows fields h
  intro g hg
  rw [hf] at hg
  obtain ⟨c, _, rfl⟩ := List.mem_map.mp hg
  rfl

theorem headClash_eq_anyClash {fetch : Bytes → Option Table} {t : TableName} {rows : List Row}
    {rFields : List Field} (h : fetchTable fetch t = .ok (rows, rFields)) (lFields : List Field) :
    headClash lFields rFields = anyClash lFields rFields := by
  rw [Bool.eq_iff_iff]
  exact ⟨anyClash_of_headClash, headClash_of_anyClash fun g hg g' hg' =>
    (fetchTable_one_id h g hg).trans (fetchTable_one_id h g' hg').symm⟩

/-- a join step is defined: the table id of the right table is not in use on the left, and the ON
condition has a truth value on every pair of rows -/
def JoinDefined (on : Cond) (lf rf : List Field) (L R : List Row) : Prop :=
  anyClash lf rf = false ∧
    ∀ a ∈ L, ∀ b ∈ R, ∃ t, evaluate on (lf ++ rf) (a ++ b) = .ok (.bool t)

theorem JoinDefined.perm {on : Cond} {lf rf : List Field} {L L' R : List Row}
    (h : JoinDefined on lf rf L R) (p : L'.Perm L) : JoinDefined on lf rf L' R :=
  ⟨h.1, fun a ha => h.2 a (p.mem_iff.1 ha)⟩

theorem nestedLoopJoin_join_iff {fetch : Bytes → Option Table} {l : TableRef} {jt : JoinType}
    {r : TableName} {on : Cond} {lRows rRows : List Row} {lFields rFields : List Field}
    (hl : nestedLoopJoin fetch l = .ok (lRows, lFields))
    (hr : fetchTable fetch r = .ok (rRows, rFields)) {p : List Row × List Field} :
    nestedLoopJoin fetch (.join l jt r on) = .ok p ↔
      JoinDefined on lFields rFields lRows rRows ∧
      p = (loopJoin jt (truthOf on (lFields ++ rFields)) lFields.length rFields.length lRows rRows,
        lFields ++ rFields) := by
  have hpair : ∀ (m : X (List Row)), (m >>= fun rows => pure (rows, lFields ++ rFields)) = .ok p ↔
      ∃ rows, m = .ok rows ∧ p = (rows, lFields ++ rFields) := fun m => by
    rw [bind_eq_ok]
    exact exists_congr fun rows => and_congr_right fun _ =>
      ⟨fun h => (X.ok.inj h).symm, fun h => by rw [h]; rfl⟩
  rw [nestedLoopJoin_join_unfold fetch l jt r on lRows rRows lFields rFields hl hr,
    headClash_eq_anyClash hr]
  unfold JoinDefined
  cases hc : anyClash lFields rFields with
  | true => simp
  | false =>
    rw [if_neg Bool.false_ne_true]
    cases jt with
    | inner =>
      simp only [hpair, joinOuter_ok_iff, ite_isEmpty_nil]
      exact ⟨fun ⟨_, ⟨hd, rfl⟩, hp⟩ => ⟨⟨trivial, hd⟩, hp⟩,
        fun ⟨⟨_, hd⟩, hp⟩ => ⟨_, ⟨hd, rfl⟩, hp⟩⟩
    | left =>
      simp only [hpair, joinOuter_ok_iff]
      exact ⟨fun ⟨_, ⟨hd, rfl⟩, hp⟩ => ⟨⟨trivial, hd⟩, hp⟩,
        fun ⟨⟨_, hd⟩, hp⟩ => ⟨_, ⟨hd, rfl⟩, hp⟩⟩
    | right =>
      simp only [hpair, joinOuter_ok_iff]
      exact ⟨fun ⟨_, ⟨hd, rfl⟩, hp⟩ => ⟨⟨trivial, fun a ha b hb => hd b hb a ha⟩, hp⟩,
        fun ⟨⟨_, hd⟩, hp⟩ => ⟨_, ⟨fun b hb a ha => hd a ha b hb, rfl⟩, hp⟩⟩

theorem nestedLoopJoin_join {fetch : Bytes → Option Table} {l : TableRef} {jt : JoinType}
    {r : TableName} {on : Cond} {lRows rRows : List Row} {lFields rFields : List Field}
    (hl : nestedLoopJoin fetch l = .ok (lRows, lFields))
    (hr : fetchTable fetch r = .ok (rRows, rFields))
    (hd : JoinDefined on lFields rFields lRows rRows) :
    nestedLoopJoin fetch (.join l jt r on) =
      .ok (loopJoin jt (truthOf on (lFields ++ rFields)) lFields.length rFields.length lRows rRows,
        lFields ++ rFields) :=
  (nestedLoopJoin_join_iff hl hr).2 ⟨hd, rfl⟩

/-! #### permutation lemmas (core has no `Perm.flatMap_left`) -/

theorem flatMap_perm_congr {α β : Type} {f g : α → List β} (l : List α)
    (h : ∀ a ∈ l, (f a).Perm (g a)) : (l.flatMap f).Perm (l.flatMap g) := by
  induction l with
  | nil => exact .refl _
  | cons a t ih =>
    simp only [List.flatMap_cons]
    exact (h a List.mem_cons_self).append (ih fun a ha => h a (List.mem_cons_of_mem _ ha))

theorem flatMap_cons_perm {α β : Type} (g : α → β) (h : α → List β) (R : List α) :
    (R.flatMap fun b => g b :: h b).Perm (R.map g ++ R.flatMap h) := by
  induction R with
  | nil => exact .refl _
  | cons b R ih =>
    simp only [List.flatMap_cons, List.map_cons, List.cons_append]
    refine (List.perm_cons _).mpr ?_
    refine ((List.Perm.append_left (h b) ih)).trans ?_
    rw [← List.append_assoc, ← List.append_assoc]
    exact List.Perm.append_right _ List.perm_append_comm

theorem flatMap_map_swap {α β γ : Type} (f : α → β → γ) (L : List α) (R : List β) :
    (L.flatMap fun a => R.map (f a)).Perm (R.flatMap fun b => L.map fun a => f a b) := by
  induction L with
  | nil => simp
  | cons a t ih =>
    simp only [List.flatMap_cons, List.map_cons]
    exact ((List.Perm.append_left _ ih)).trans (flatMap_cons_perm (f a) _ R).symm

theorem relInner_swap (truth : Row → Bool) (L R : List Row) :
    (R.flatMap fun r => (L.map fun l => l ++ r).filter truth).Perm (relInner truth L R) := by
  unfold relInner
  rw [← List.filter_flatMap, ← List.filter_flatMap]
  exact (flatMap_map_swap (fun (l r : Row) => l ++ r) L R).symm.filter _

/-- outer-join loop = matches, then the unmatched outer rows padded (up to permutation) -/
theorem outer_perm {α β : Type} (M : α → List β) (pad : α → β) (q : α → Bool) (L : List α)
    (hq : ∀ a ∈ L, q a = (M a).isEmpty) :
    (L.flatMap fun a => if (M a).isEmpty then [pad a] else M a).Perm
      (L.flatMap M ++ (L.filter q).map pad) := by
  induction L with
  | nil => exact .refl _
  | cons a t ih =>
    have ih' := ih fun a ha => hq a (List.mem_cons_of_mem _ ha)
    have hqa := hq a List.mem_cons_self
    simp only [List.flatMap_cons, List.filter_cons, hqa]
    cases hM : M a with
    | nil =>
      simp only [List.isEmpty_nil, if_true, List.nil_append, List.map_cons, List.singleton_append]
      exact ((List.perm_cons _).mpr ih').trans List.perm_middle.symm
    | cons b bs =>
      simp only [List.isEmpty_cons, Bool.false_eq_true, if_false, List.append_assoc]
      exact List.Perm.append_left _ ih'

/-- the relational LEFT join: matching pairs, then each unmatched left row once, padded -/
def relLeft (truth : Row → Bool) (n : Nat) (L R : List Row) : List Row :=
  relInner truth L R ++
    (L.filter fun a => !(R.any fun b => truth (a ++ b))).map fun a => a ++ List.replicate n .null

/-- the relational RIGHT join: matching pairs, then each unmatched right row once, padded -/
def relRight (truth : Row → Bool) (n : Nat) (L R : List Row) : List Row :=
  relInner truth L R ++
    (R.filter fun b => !(L.any fun a => truth (a ++ b))).map fun b => List.replicate n .null ++ b

theorem isEmpty_filter_map {α β : Type} (p : β → Bool) (f : α → β) (l : List α) :
    ((l.map f).filter p).isEmpty = !(l.any fun a => p (f a)) := by
  induction l with
  | nil => rfl
  | cons a t ih =>
    simp only [List.map_cons, List.filter_cons, List.any_cons]
    cases p (f a) <;> simp [ih]

theorem loopLeft_perm (truth : Row → Bool) (n : Nat) (L R : List Row) :
    (loopLeft truth n L R).Perm (relLeft truth n L R) :=
  outer_perm (fun l => (R.map fun r => l ++ r).filter truth) _ _ L
    (fun a _ => (isEmpty_filter_map truth (fun r => a ++ r) R).symm)

theorem loopRight_perm (truth : Row → Bool) (n : Nat) (L R : List Row) :
    (loopRight truth n L R).Perm (relRight truth n L R) :=
  (outer_perm (fun r => (L.map fun l => l ++ r).filter truth) _ _ R
    (fun b _ => (isEmpty_filter_map truth (fun l => l ++ b) L).symm)).trans
    (List.Perm.append_right _ (relInner_swap truth L R))

theorem relInner_perm_left (truth : Row → Bool) {L L' : List Row} (R : List Row)
    (p : L.Perm L') : (relInner truth L R).Perm (relInner truth L' R) :=
  p.flatMap_right _

theorem relLeft_perm_left (truth : Row → Bool) (n : Nat) {L L' : List Row} (R : List Row)
    (p : L.Perm L') : (relLeft truth n L R).Perm (relLeft truth n L' R) :=
  (relInner_perm_left truth R p).append ((p.filter _).map _)

theorem relRight_perm_left (truth : Row → Bool) (n : Nat) {L L' : List Row} (R : List Row)
    (p : L.Perm L') : (relRight truth n L R).Perm (relRight truth n L' R) := by
  unfold relRight
  have : (fun b => !(L.any fun a => truth (a ++ b))) = (fun b => !(L'.any fun a => truth (a ++ b))) := by
    funext b; rw [p.any_eq]
  rw [this]
  exact List.Perm.append_right _ (relInner_perm_left truth R p)

/-- the relational definition of one join step, by join type -/
def relJoin (jt : JoinType) (truth : Row → Bool) (nl nr : Nat) (L R : List Row) : List Row :=
  match jt with
  | .inner => relInner truth L R
  | .left => relLeft truth nr L R
  | .right => relRight truth nl L R

/-- the loops' result is a permutation of the relational definition, also when the left input
is only known up to permutation -/
theorem join_step_perm (truth : Row → Bool) (jt : JoinType) (nl nr : Nat) {L L' : List Row}
    (R : List Row) (p : L.Perm L') :
    (loopJoin jt truth nl nr L R).Perm (relJoin jt truth nl nr L' R) := by
  cases jt with
  | inner => exact relInner_perm_left truth R p
  | left => exact (loopLeft_perm truth nr L R).trans (relLeft_perm_left truth nr R p)
  | right => exact (loopRight_perm truth nl L R).trans (relRight_perm_left truth nl R p)

/-! #### the spec side -/

open Mkdb.Spec in
theorem holds_eq_some {c : Cond} {fields : List Field} {row : Row} {b : Bool}
    (h : holds c fields row = some b) : evaluate c fields row = .ok (.bool b) := by
  unfold holds at h
  split at h
  · cases h; assumption
  · cases h

theorem fieldsOf_iff_fetchTable {fetch : Bytes → Option Table} {t : TableName}
    {p : List Row × List Field} : Spec.fieldsOf fetch t = some p ↔ fetchTable fetch t = .ok p := by
  unfold Spec.fieldsOf fetchTable
  cases fetch t.name with
  | none => simp
  | some tbl =>
    simp only [Option.some.injEq, X.ok.injEq]
    exact Iff.rfl

theorem fromRows_table (fetch : Bytes → Option Table) (t : TableName) :
    Spec.fromRows fetch (.table t) = Spec.fieldsOf fetch t := by
  simp only [Spec.fromRows]

theorem nestedLoopJoin_table {fetch : Bytes → Option Table} {t : TableName}
    {p : List Row × List Field} :
    nestedLoopJoin fetch (.table t) = .ok p ↔ Spec.fromRows fetch (.table t) = some p := by
  rw [fromRows_table, fieldsOf_iff_fetchTable]
  simp only [nestedLoopJoin]

theorem matched_any_left (tr : Row → Bool) (L R : List Row) (a : Row) (ha : a ∈ L) :
    (((L.flatMap fun a => R.map fun b => (a, b)).filter fun x => tr (x.1 ++ x.2)).any
      fun p => p.1 == a && true) = R.any fun b => tr (a ++ b) := by
  rw [Bool.eq_iff_iff]
  simp only [List.any_eq_true, List.mem_filter, List.mem_flatMap, List.mem_map, Bool.and_true,
    beq_iff_eq]
  constructor
  · rintro ⟨⟨a', b⟩, ⟨⟨a'', _, b', hb', heq⟩, ht⟩, rfl⟩
    cases heq
    exact ⟨b, hb', ht⟩
  · rintro ⟨b, hb, ht⟩
    exact ⟨(a, b), ⟨⟨a, ha, b, hb, rfl⟩, ht⟩, rfl⟩

theorem matched_any_right (tr : Row → Bool) (L R : List Row) (b : Row) (hb : b ∈ R) :
    (((L.flatMap fun a => R.map fun b => (a, b)).filter fun x => tr (x.1 ++ x.2)).any
      fun p => p.2 == b && true) = L.any fun a => tr (a ++ b) := by
  rw [Bool.eq_iff_iff]
  simp only [List.any_eq_true, List.mem_filter, List.mem_flatMap, List.mem_map, Bool.and_true,
    beq_iff_eq]
  constructor
  · rintro ⟨⟨a', b'⟩, ⟨⟨a'', ha'', b'', _, heq⟩, ht⟩, rfl⟩
    cases heq
    exact ⟨a', ha'', ht⟩
  · rintro ⟨a, ha, ht⟩
    exact ⟨(a, b), ⟨⟨a, ha, b, hb, rfl⟩, ht⟩, rfl⟩

theorem fromRows_join_eq {fetch : Bytes → Option Table} {l : TableRef} {jt : JoinType}
    {r : TableName} {on : Cond} {L R : List Row} {lf rf : List Field}
    (hL : Spec.fromRows fetch l = some (L, lf)) (hR : Spec.fieldsOf fetch r = some (R, rf))
    (hd : JoinDefined on lf rf L R) :
    Spec.fromRows fetch (.join l jt r on) =
      some (relJoin jt (truthOf on (lf ++ rf)) lf.length rf.length L R, lf ++ rf) := by
  have hT : (L.flatMap fun a => R.map fun b => (a, b)).mapM
        (fun (x : Row × Row) => Spec.holds on (lf ++ rf) (x.1 ++ x.2)) =
      some ((L.flatMap fun a => R.map fun b => (a, b)).map
        fun x => truthOf on (lf ++ rf) (x.1 ++ x.2)) := by
    refine mapM_eq_some_map fun x hx => ?_
    obtain ⟨a, ha, hb'⟩ := List.mem_flatMap.1 hx
    obtain ⟨b, hb, rfl⟩ := List.mem_map.1 hb'
    obtain ⟨t, ht⟩ := hd.2 a ha b hb
    show Spec.holds on (lf ++ rf) (a ++ b) = some (truthOf on (lf ++ rf) (a ++ b))
    unfold Spec.holds
    rw [evaluate_truthOf ht]
  have hc := hd.1
  unfold anyClash at hc
  unfold Spec.fromRows
  simp only [hL, hR, Option.bind_eq_bind, Option.bind_some, hc, Bool.false_eq_true, if_false, hT,
    Option.pure_def, zip_map_filterMap]
  cases jt with
  | inner =>
    simp only [relJoin, relInner, List.append_nil]
    rw [inner_rows_eq_pairs]
  | left =>
    simp only [relJoin, relLeft, relInner]
    rw [inner_rows_eq_pairs]
    congr 4
    exact List.filter_congr fun a ha => by rw [matched_any_left _ L R a ha]
  | right =>
    simp only [relJoin, relRight, relInner]
    rw [inner_rows_eq_pairs]
    congr 4
    exact List.filter_congr fun b hb => by rw [matched_any_right _ L R b hb]

theorem fromRows_join_iff {fetch : Bytes → Option Table} {l : TableRef} {jt : JoinType}
    {r : TableName} {on : Cond} {L R : List Row} {lf rf : List Field}
    (hL : Spec.fromRows fetch l = some (L, lf)) (hR : Spec.fieldsOf fetch r = some (R, rf))
    {p : List Row × List Field} :
    Spec.fromRows fetch (.join l jt r on) = some p ↔
      JoinDefined on lf rf L R ∧
      p = (relJoin jt (truthOf on (lf ++ rf)) lf.length rf.length L R, lf ++ rf) := by
  refine ⟨fun h => ?_, fun ⟨hd, hp⟩ => hp ▸ fromRows_join_eq hL hR hd⟩
  have hd : JoinDefined on lf rf L R := by
    have h' := h
    unfold Spec.fromRows at h'
    simp only [hL, hR, Option.bind_eq_bind, Option.bind_some] at h'
    split at h'
    · cases h'
    · rename_i hc
      obtain ⟨tl, hT, _⟩ := Option.bind_eq_some_iff.1 h'
      refine ⟨by simpa [anyClash] using hc, fun a ha b hb => ?_⟩
      obtain ⟨t, ht⟩ := mapM_some_forall hT (a, b)
        (List.mem_flatMap.mpr ⟨a, ha, List.mem_map.mpr ⟨b, hb, rfl⟩⟩)
      exact ⟨t, holds_eq_some ht⟩
  rw [fromRows_join_eq hL hR hd] at h
  exact ⟨hd, (Option.some.inj h).symm⟩

theorem fromRows_join_some' {fetch : Bytes → Option Table} {l : TableRef} {jt : JoinType}
    {r : TableName} {on : Cond} {rowsS : List Row} {fieldsS : List Field}
    (h : Spec.fromRows fetch (.join l jt r on) = some (rowsS, fieldsS)) :
    ∃ L lf R rf, Spec.fromRows fetch l = some (L, lf) ∧ Spec.fieldsOf fetch r = some (R, rf) ∧
      fieldsS = lf ++ rf ∧ anyClash lf rf = false ∧
      (∀ a ∈ L, ∀ b ∈ R, evaluate on (lf ++ rf) (a ++ b) =
        .ok (.bool (truthOf on (lf ++ rf) (a ++ b)))) ∧
      rowsS = relJoin jt (truthOf on (lf ++ rf)) lf.length rf.length L R := by
  have h1 := h
  unfold Spec.fromRows at h1
  obtain ⟨⟨L, lf⟩, hL, h1⟩ := Option.bind_eq_some_iff.1 h1
  obtain ⟨⟨R, rf⟩, hR, _⟩ := Option.bind_eq_some_iff.1 h1
  obtain ⟨hd, hp⟩ := (fromRows_join_iff hL hR).1 h
  cases hp
  exact ⟨L, lf, R, rf, hL, hR, rfl, hd.1,
    fun a ha b hb => by obtain ⟨t, ht⟩ := hd.2 a ha b hb; exact evaluate_truthOf ht, rfl⟩

theorem fromRows_join_some {fetch : Bytes → Option Table} {l : TableRef} {jt : JoinType}
    {r : TableName} {on : Cond} {rowsS : List Row} {fieldsS : List Field}
    (h : Spec.fromRows fetch (.join l jt r on) = some (rowsS, fieldsS)) :
    ∃ L lf R rf, Spec.fromRows fetch l = some (L, lf) ∧ Spec.fieldsOf fetch r = some (R, rf) ∧
      fieldsS = lf ++ rf ∧
      (∀ a ∈ L, ∀ b ∈ R, evaluate on (lf ++ rf) (a ++ b) =
        .ok (.bool (truthOf on (lf ++ rf) (a ++ b)))) ∧
      rowsS = relJoin jt (truthOf on (lf ++ rf)) lf.length rf.length L R := by
  obtain ⟨L, lf, R, rf, hL, hR, hf, _, hev, hrows⟩ := fromRows_join_some' h
  exact ⟨L, lf, R, rf, hL, hR, hf, hev, hrows⟩

/-- The executor's FROM clause is the relational definition, as a multiset: whenever the spec
is defined, the nested loops succeed with the same header and a permutation of the rows. -/
theorem nestedLoopJoin_perm_fromRows (fetch : Bytes → Option Table) (tr : TableRef)
    (rowsS : List Row) (fieldsS : List Field)
    (h : Spec.fromRows fetch tr = some (rowsS, fieldsS)) :
    ∃ rowsM fieldsM, nestedLoopJoin fetch tr = .ok (rowsM, fieldsM) ∧ fieldsM = fieldsS ∧
      rowsM.Perm rowsS := by
  induction tr generalizing rowsS fieldsS with
  | table t => exact ⟨rowsS, fieldsS, nestedLoopJoin_table.2 h, rfl, .refl _⟩
  | join l jt r on ih =>
    obtain ⟨L, lf, R, rf, hL, hR, rfl, hc, hev, rfl⟩ := fromRows_join_some' h
    have hd : JoinDefined on lf rf L R := ⟨hc, fun a ha b hb => ⟨_, hev a ha b hb⟩⟩
    obtain ⟨lM, lfM, hlM, rfl, hperm⟩ := ih L lf hL
    exact ⟨_, _, (nestedLoopJoin_join_iff hlM (fieldsOf_iff_fetchTable.1 hR)).2 ⟨hd.perm hperm, rfl⟩,
      rfl, join_step_perm _ jt _ _ R hperm⟩

/-- the converse: whenever the nested loops succeed, the relational definition of the FROM clause
is defined, with the same header and, as a multiset, the same rows -/
theorem fromRows_of_nestedLoopJoin (fetch : Bytes → Option Table) (tr : TableRef)
    (rowsM : List Row) (fieldsM : List Field)
    (h : nestedLoopJoin fetch tr = .ok (rowsM, fieldsM)) :
    ∃ rowsS, Spec.fromRows fetch tr = some (rowsS, fieldsM) ∧ rowsM.Perm rowsS := by
  induction tr generalizing rowsM fieldsM with
  | table t => exact ⟨rowsM, nestedLoopJoin_table.1 h, .refl _⟩
  | join l jt r on ih =>
    have h1 := h
    simp only [nestedLoopJoin] at h1
    obtain ⟨⟨lRows, lFields⟩, hl, h1⟩ := bind_eq_ok.1 h1
    obtain ⟨⟨rRows, rFields⟩, hr, _⟩ := bind_eq_ok.1 h1
    obtain ⟨hd, hp⟩ := (nestedLoopJoin_join_iff hl hr).1 h
    cases hp
    obtain ⟨L, hL, hperm⟩ := ih lRows lFields hl
    exact ⟨_, fromRows_join_eq hL (fieldsOf_iff_fetchTable.2 hr) (hd.perm hperm.symm),
      join_step_perm _ jt _ _ rRows hperm⟩

/-- INNER joins only (chains of any length) -/
def allInner : TableRef → Bool
  | .table _ => true
  | .join l jt _ _ => jt == .inner && allInner l

/-- then the rows are *equal* to the relational definition, in the same order -/
theorem nestedLoopJoin_eq_fromRows_inner (fetch : Bytes → Option Table) (tr : TableRef)
    (hin : allInner tr = true) (rowsS : List Row) (fieldsS : List Field)
    (h : Spec.fromRows fetch tr = some (rowsS, fieldsS)) :
    nestedLoopJoin fetch tr = .ok (rowsS, fieldsS) := by
  induction tr generalizing rowsS fieldsS with
  | table t => exact nestedLoopJoin_table.2 h
  | join l jt r on ih =>
    simp only [allInner, Bool.and_eq_true, beq_iff_eq] at hin
    obtain ⟨rfl, hl⟩ := hin
    obtain ⟨L, lf, R, rf, hL, hR, rfl, hd, hev, rfl⟩ := fromRows_join_some' h
    exact nestedLoopJoin_join (ih hl L lf hL) (fieldsOf_iff_fetchTable.1 hR)
      ⟨hd, fun a ha b hb => ⟨_, hev a ha b hb⟩⟩

/-! ### concrete instances

`t(id, x)` has two rows with key 1 and one with key 3; `u(id, y)` has two rows with key 1 and
one with key 2: duplicate join keys on both sides, an unmatched left row and an unmatched right
row.  The ON condition is `t.id = u.id`; the truth function is written independently of the
evaluator (position 0 equals position 2). -/
namespace Example

def bt : Bytes := [116]       -- "t"
def bu : Bytes := [117]       -- "u"
def bid : Bytes := [105, 100] -- "id"
def bx : Bytes := [120]       -- "x"
def by_ : Bytes := [121]      -- "y"

def Lx : List Row := [[.int 1, .str [97]], [.int 1, .str [98]], [.int 3, .str [99]]]
def Rx : List Row := [[.int 1, .str [112]], [.int 1, .str [113]], [.int 2, .str [122]]]
def flds : List Field := [⟨bt, bid⟩, ⟨bt, bx⟩, ⟨bu, bid⟩, ⟨bu, by_⟩]
def onC : Cond := .pred ⟨.col ⟨bt, bid⟩, Generated.t_EQ, .col ⟨bu, bid⟩⟩
def truthX (row : Row) : Bool := row[0]? == row[2]?

theorem hX : ∀ l ∈ Lx, ∀ r ∈ Rx, evaluate onC flds (l ++ r) = .ok (.bool (truthX (l ++ r))) := by
  decide +kernel

/-- the right rows matching the first left row -/
example : joinMatches onC flds (fun r => [.int 1, .str [97]] ++ r) Rx =
    .ok [[.int 1, .str [97], .int 1, .str [112]], [.int 1, .str [97], .int 1, .str [113]]] :=
  joinMatches_ok onC flds _ truthX Rx (hX _ (by decide +kernel))

/-- INNER: four matching pairs, in nested-loop order; neither unmatched row appears -/
example : joinOuter onC flds Lx Rx (fun l r => l ++ r) none =
    .ok [[.int 1, .str [97], .int 1, .str [112]], [.int 1, .str [97], .int 1, .str [113]],
         [.int 1, .str [98], .int 1, .str [112]], [.int 1, .str [98], .int 1, .str [113]]] :=
  inner_join_eq onC flds Lx Rx truthX hX

example : ((Lx.flatMap fun l => Rx.map fun r => (l, r)).filter
    fun p => truthX (p.1 ++ p.2)).length = 4 := by decide +kernel

/-- LEFT: the four pairs and the unmatched left row (key 3) once, NULL-padded -/
example : joinOuter onC flds Lx Rx (fun l r => l ++ r)
      (some fun l => l ++ List.replicate 2 .null) =
    .ok [[.int 1, .str [97], .int 1, .str [112]], [.int 1, .str [97], .int 1, .str [113]],
         [.int 1, .str [98], .int 1, .str [112]], [.int 1, .str [98], .int 1, .str [113]],
         [.int 3, .str [99], .null, .null]] :=
  joinOuter_ok onC flds Lx Rx _ _ truthX hX

/-- RIGHT: right-major order; the unmatched right row (key 2) once, NULL-padded -/
example : joinOuter onC flds Rx Lx (fun r l => l ++ r)
      (some fun r => List.replicate 2 .null ++ r) =
    .ok [[.int 1, .str [97], .int 1, .str [112]], [.int 1, .str [98], .int 1, .str [112]],
         [.int 1, .str [97], .int 1, .str [113]], [.int 1, .str [98], .int 1, .str [113]],
         [.null, .null, .int 2, .str [122]]] :=
  joinOuter_ok onC flds Rx Lx _ _ truthX (fun r hr l hl => hX l hl r hr)

/-! a chain: `FROM t RIGHT JOIN u ON t.id = u.id LEFT JOIN t w ON u.id = w.id` -/

def fetchX (n : Bytes) : Option Table :=
  if n = bt then some ⟨[bid, bx], Lx⟩ else if n = bu then some ⟨[bid, by_], Rx⟩ else none

def bw : Bytes := [119]       -- "w"

def trX : TableRef :=
  .join (.join (.table ⟨bt, none⟩) .right ⟨bu, none⟩ onC) .left ⟨bt, some bw⟩
    (.pred ⟨.col ⟨bu, bid⟩, Generated.t_EQ, .col ⟨bw, bid⟩⟩)

def specRowsX : List Row :=
  [[.int 1, .str [97], .int 1, .str [112], .int 1, .str [97]],
   [.int 1, .str [97], .int 1, .str [112], .int 1, .str [98]],
   [.int 1, .str [97], .int 1, .str [113], .int 1, .str [97]],
   [.int 1, .str [97], .int 1, .str [113], .int 1, .str [98]],
   [.int 1, .str [98], .int 1, .str [112], .int 1, .str [97]],
   [.int 1, .str [98], .int 1, .str [112], .int 1, .str [98]],
   [.int 1, .str [98], .int 1, .str [113], .int 1, .str [97]],
   [.int 1, .str [98], .int 1, .str [113], .int 1, .str [98]],
   [.null, .null, .int 2, .str [122], .null, .null]]

def specFieldsX : List Field :=
  [⟨bt, bid⟩, ⟨bt, bx⟩, ⟨bu, bid⟩, ⟨bu, by_⟩, ⟨bw, bid⟩, ⟨bw, bx⟩]

theorem specX : Spec.fromRows fetchX trX = some (specRowsX, specFieldsX) := by decide +kernel

example : ∃ rowsM fieldsM, nestedLoopJoin fetchX trX = .ok (rowsM, fieldsM) ∧
    fieldsM = specFieldsX ∧ rowsM.Perm specRowsX :=
  nestedLoopJoin_perm_fromRows fetchX trX _ _ specX

/-- the executor's order differs from the spec's (right-major after the RIGHT JOIN): a genuine
permutation -/
example : nestedLoopJoin fetchX trX = .ok (
   [[.int 1, .str [97], .int 1, .str [112], .int 1, .str [97]],
    [.int 1, .str [97], .int 1, .str [112], .int 1, .str [98]],
    [.int 1, .str [98], .int 1, .str [112], .int 1, .str [97]],
    [.int 1, .str [98], .int 1, .str [112], .int 1, .str [98]],
    [.int 1, .str [97], .int 1, .str [113], .int 1, .str [97]],
    [.int 1, .str [97], .int 1, .str [113], .int 1, .str [98]],
    [.int 1, .str [98], .int 1, .str [113], .int 1, .str [97]],
    [.int 1, .str [98], .int 1, .str [113], .int 1, .str [98]],
    [.null, .null, .int 2, .str [122], .null, .null]], specFieldsX) := by decide +kernel

/-- an INNER chain: equality with the relational definition -/
def trI : TableRef :=
  .join (.join (.table ⟨bt, none⟩) .inner ⟨bu, none⟩ onC) .inner ⟨bt, some bw⟩
    (.pred ⟨.col ⟨bu, bid⟩, Generated.t_EQ, .col ⟨bw, bid⟩⟩)

example : nestedLoopJoin fetchX trI = .ok (specRowsX.take 8, specFieldsX) :=
  nestedLoopJoin_eq_fromRows_inner fetchX trI (by decide +kernel) _ _ (by decide +kernel)

/-- `id` exists on both sides: rejected; qualified: first position with that id -/
example : lookupFieldIdx flds bid = .err .fieldAmbiguous :=
  lookupFieldIdx_ambiguous' flds bid 0 2 (by decide +kernel) bt bu rfl rfl

example : lookupColIdxByID flds bu bid = .ok 2 := by decide +kernel

example : flds[2]? = some ⟨bu, bid⟩ ∧ ∀ k, k < 2 → flds[k]? ≠ some ⟨bu, bid⟩ :=
  lookupColIdxByID_first flds bu bid 2 (by decide +kernel)

example : fetchTable fetchX ⟨bt, some bw⟩ = .ok (Lx, [⟨bw, bid⟩, ⟨bw, bx⟩]) := by decide +kernel

example : ∀ f ∈ [(⟨bw, bid⟩ : Field), ⟨bw, bx⟩], f.tableId = bw := by
  obtain ⟨_, _, _, _, h, _⟩ :=
    fetchTable_alias fetchX ⟨bt, some bw⟩ Lx [⟨bw, bid⟩, ⟨bw, bx⟩] (by decide +kernel)
  exact h bw rfl

end Example

end Mkdb.Exec.JoinP

section Axioms
open Mkdb.Exec Mkdb.Exec.JoinP
#print axioms joinMatches_ok
#print axioms joinOuter_ok
#print axioms inner_join_eq
#print axioms inner_join_mem
#print axioms inner_join_count
#print axioms nestedLoopJoin_join_unfold
#print axioms headClash_eq_anyClash
#print axioms nestedLoopJoin_join
#print axioms fromRows_join_some'
#print axioms nestedLoopJoin_perm_fromRows
#print axioms nestedLoopJoin_eq_fromRows_inner
#print axioms loopLeft_perm
#print axioms loopRight_perm
#print axioms lookupFieldIdx_ambiguous
#print axioms lookupFieldIdx_ambiguous'
#print axioms lookupColIdxByID_first
#print axioms lookupColIdxByID_none
#print axioms fetchTable_alias
#print axioms Example.hX
#print axioms Example.specX
end Axioms
