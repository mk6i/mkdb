import Mkdb.Proofs.RedoLink
import Mkdb.Proofs.StmtInsert
/-!
Replay of one INSERT record under `Cat`.  Redo of a logged INSERT on the state before it is `insertAppend`
on the tree of the table plus, when the root moved, the re-pointing of its catalog row
(`replay_insert_record`).  Recovery looks that row up by the *old root offset* (`repointPageTable_refines`:
`rewriteRow_refines` of `CatalogRepoint` with the search by offset, `fileOffset_test`), which no other row
names (`PtSelf`, `entry_of_root`).  A record already on its page is skipped, a key already in the tree is
tolerated, and then only the counters move (`replay_skips_applied`, `replay_tolerates_present`).  Last, the
catalog UPDATE record that follows an INSERT record when the root moved: it rewrites the row that the redo
of the INSERT has re-pointed already (`replay_catalog_record`, from `setVal_setVal`, `replay_cell_held`,
`Cat.setVal_pt`).
-/

section
set_option autoImplicit false
namespace Mkdb.Store
open Mkdb.Page Mkdb.Tuple Mkdb.Generated Mkdb.Tree

/-! ### the root page and its LSN -/

theorem root_held_lsn (s : Store) (t : Levels) (nf : Nat) (hH : Holds s t) (hI : Inv t nf) :
    ∃ n d, view s (rootOff t) = some (n, d) ∧ nodeOff n = rootOff t ∧ nodeLSN n = rootLSN t := by
  obtain ⟨n, d, hm, ho, hl⟩ := root_entry_lsn t nf hI
  exact ⟨n, d, hH _ hm, ho, hl⟩

/-! ### `repointPageTable` -/

theorem repointPageTable_eq (old new lsn : Nat) :
    repointPageTable old new lsn =
      (getS >>= fun s => scanRight s.hdr.ptRoot >>= fun cells =>
        findFirstM (rowFind fun m => Tuple.get m "file_offset" == .int old) cells >>= fun hit =>
          match hit with
          | none => pure ()
          | some (c, m) =>
            encodeRow pageTableSchema (("file_offset", .int new) :: m) >>= fun buf =>
            updateCellAt c.2 c.1.key buf lsn) := rfl

/-- the test of the search by offset, on a decoded row of the page table: it passes exactly when the entry names
`old` - for a positive `old` (`toNat` of a negative offset is 0) -/
theorem fileOffset_test {c : LeafCell} {e : Bytes × Nat} {m : Vals} (h : ptEntry c = some e)
    (hm : decRow pageTableSchema c.val = some m) {old : Nat} (hpos : 0 < old) :
    (Tuple.get m "file_offset" == .int old) = true ↔ e.2 = old := by
  obtain ⟨m', i, hm', _, hmo, hio⟩ := ptEntry_inv (n := e.1) (off := e.2) h
  rw [decRow_of_decode hm'] at hm
  simp only [Option.some.injEq] at hm
  subst hm
  rw [hmo, hio]
  constructor
  · intro hq
    have hi : i = (old : Int) := by simpa using hq
    rw [hi]; simp
  · intro he
    have hi : i = (old : Int) := by omega
    simp [hi]

/-- **Re-pointing a catalog entry during recovery.**  `repointPageTable old new lsn` finds the row
whose `file_offset` is `old` - the row of `name`, if `name` is the only entry with that offset -
rewrites it in place to `(name, new)` (`setVal` on the page table, stamped with `lsn`), and touches
no header field and no page outside the page table; the page table then names `new` for `name` and is
otherwise as before. -/
theorem repointPageTable_refines (s : Store) (pt : Levels) (name : Bytes) (old new lsn : Nat)
    (hH : Holds s pt) (hI : Inv pt s.hdr.nextFree) (hroot : rootOff pt = s.hdr.ptRoot)
    (hdepth : pt.inner.length + 1 ≤ treeFuel) (hlen : pt.leaves.length ≤ scanFuel)
    (hdec : ∀ c ∈ live pt, ptEntry c ≠ none) (hnd : ((ptEntries pt).map (·.1)).Nodup)
    (he : (name, old) ∈ ptEntries pt) (hpos : 0 < old)
    (huniq : ∀ n, (n, old) ∈ ptEntries pt → n = name)
    (hnl : name.length + 14 ≤ c_maxValueSize) (hbig : (new : Int) ≤ 9223372036854775807) :
    ∃ s' a p, repointPageTable old new lsn s = .ok () s' ∧
      a ∈ live pt ∧ ptEntry a = some (name, old) ∧ p ∈ pt.leaves ∧ a ∈ p.1.cells ∧
      Holds s' (setVal pt a.key lsn (ptRow name new)) ∧ s'.hdr = s.hdr ∧
      (∀ off, off ∉ offs pt → view s' off = view s off) ∧
      ptEntries (setVal pt a.key lsn (ptRow name new)) = (ptEntries pt).map (repoint name new) ∧
      ∀ c ∈ live (setVal pt a.key lsn (ptRow name new)), ptEntry c ≠ none := by
  -- the search by offset finds the row of `name`: it names `old`, and only it does
  obtain ⟨s1, cs, a, m, p, s2, e1, hs1, hff, hbuf, e2, hal, hpa, hp, _, hcp, hH2, hh2, hfr2, hent, hdec'⟩ :=
    rewriteRow_refines s pt name old new lsn hH hI hroot hdepth hlen hdec hnd he hnl hbig
      (fun m => Tuple.get m "file_offset" == .int old)
      (fun c m hpc hm => (fileOffset_test hpc hm hpos).mpr rfl)
      (fun c hc m e hm hq hp => by
        have he2 : e.2 = old := (fileOffset_test hp hm hpos).mp hq
        rw [← huniq e.1 (List.mem_filterMap.mpr ⟨c, hc, by rw [hp, ← he2]⟩), ← he2])
  refine ⟨s2, a.1, p, ?_, hal, hpa, hp, hcp, hH2, hh2.trans hs1.2, fun off hoff => by rw [hfr2 off hoff, hs1.1],
    hent, hdec'⟩
  rw [repointPageTable_eq, bind_ok (show getS s = .ok s s from rfl), bind_ok e1]
  exact (bind_ok hff).trans ((bind_ok hbuf).trans e2)

end Mkdb.Store
end

section
set_option autoImplicit false
namespace Mkdb.Store
open Mkdb.Page Mkdb.Tuple Mkdb.Generated Mkdb.Tree Mkdb.Engine

/-! ### the page table's own row -/

/-- the row of `sys_pages` in the page table (if there is one) names a page of the page table.
(`CREATE DATABASE` writes that row once, naming the first page of the page table; nothing ever
rewrites it - the engine finds the page table through the header.  While the page table is one leaf the
row names its root; once that leaf has split the row is stale: it names the old root, which stays the
leftmost leaf of the page table.  Pages never leave a tree, so the predicate is kept by every statement;
and since no page belongs to two trees (`Cat.disj`), the row never names the root of a user table - all
the replay needs, `entry_of_root`.) -/
def PtSelf (pt : Levels) : Prop := ∀ off, (sysPages, off) ∈ ptEntries pt → off ∈ offs pt

theorem PtSelf.repoint {pt ptF : Levels} (h : PtSelf pt) {table : Bytes} {new : Nat}
    (hent : ptEntries ptF = (ptEntries pt).map (repoint table new)) (hne : table ≠ sysPages)
    (hoffs : offs ptF = offs pt) : PtSelf ptF := by
  intro off hm
  rw [hent] at hm
  obtain ⟨e, he, hre⟩ := List.mem_map.mp hm
  unfold Store.repoint at hre
  split at hre
  · simp only [Prod.mk.injEq] at hre
    exact absurd hre.1 hne
  · subst hre
    rw [hoffs]
    exact h off he

theorem entry_of_root {s : Store} {pt sch : Levels} {tbls : List (Bytes × Levels)} (h : Cat s pt sch tbls)
    (hself : PtSelf pt) {table : Bytes} {t : Levels} (ht : (table, t) ∈ tbls) :
    ∀ n, (n, rootOff t) ∈ ptEntries pt → n = table := by
  intro n hn
  -- with `sys_schema` as one more named tree (`Cat.named`) the entry is the page table's own row or that of a tree
  have hN := Cat.named.mp h
  have htm : (table, t) ∈ (sysSchema, sch) :: tbls := List.mem_cons_of_mem _ ht
  have hrt : rootOff t ∈ offs t := rootOff_mem_offs t _ (hN.tree _ htm).2.1
  rcases hN.names.only _ (List.mem_map_of_mem hn) with h1 | h1
  · simp only at h1
    subst h1
    exact absurd hrt (hN.ptd _ htm _ (hself _ hn))
  · obtain ⟨e, he, hen⟩ := List.mem_map.mp h1
    have := inj_of_nodup_map (·.1) _ hN.names.nodup _ hn _ (hN.ent e he) hen.symm
    simp only [Prod.mk.injEq] at this
    by_cases het : e.1 = table
    · exact this.1.trans het
    · exfalso
      have hdis := pairwise_mem_ne (fun (a b : Bytes × Levels) => ∀ o ∈ offs a.2, o ∉ offs b.2)
        (fun a b hab o hb ha => hab o ha hb) _ hN.disj e he (table, t) htm (fun heq => het (by rw [heq]))
      have hre : rootOff e.2 ∈ offs e.2 := rootOff_mem_offs e.2 _ (hN.tree e he).2.1
      rw [← this.2] at hre
      exact hdis _ hre hrt

/-! ### redo of one logged INSERT on the state before it -/

/-- **Replay of an INSERT record on the state before the statement.**  Under the catalog invariant,
for the record `⟨OpInsert, lsn, rootOff t, key, buf⟩` of a table `table` with tree `t`, where the levels
insert `insertAppend t key lsn buf` succeeds (so `key` is beyond every key of `t` and `buf` fits a
cell) and `lsn` is newer than the root page of `t` (so the record is not skipped): `replayOne` runs
without error, the store then holds `t'` in place of `t` and every other tree as before, the
allocation frontier is the one of the levels insert, the row-id and LSN counters are raised to the
record's, and - exactly when the root moved - the catalog row of `table` is rewritten to name the
new root, stamped with the record's LSN. -/
theorem replay_insert_record (s : Store) (pt sch : Levels) (tbls : List (Bytes × Levels))
    (h : Cat s pt sch tbls) (hself : PtSelf pt)
    (table : Bytes) (t : Levels) (ht : (table, t) ∈ tbls) (key lsn : Nat) (buf : Bytes)
    (hlsn : rootLSN t < lsn) (hpos : 0 < rootOff t)
    (t' : Levels) (nf' : Nat) (hins : insertAppend t key lsn buf s.hdr.nextFree = .ok (t', nf'))
    (hd' : t'.inner.length + 2 ≤ treeFuel) (hl' : t'.leaves.length ≤ scanFuel)
    (hbig : (nf' : Int) ≤ 9223372036854775807) :
    ∃ s' ptF, replayOne ⟨c_OpInsert, lsn, rootOff t, key, buf⟩ s = (s', none, false) ∧
      Cat s' ptF sch (setTable tbls table t') ∧ PtSelf ptF ∧
      s'.hdr.nextFree = nf' ∧ s'.hdr.lastKey = max s.hdr.lastKey key ∧
      s'.hdr.nextLSN = max s.hdr.nextLSN lsn ∧ s'.hdr.ptRoot = s.hdr.ptRoot ∧
      ptEntries ptF = (ptEntries pt).map (repoint table (rootOff t')) ∧
      ((rootOff t' = rootOff t ∧ ptF = pt) ∨
       (rootOff t' ≠ rootOff t ∧ ∃ a p, a ∈ live pt ∧ ptEntry a = some (table, rootOff t) ∧
          p ∈ pt.leaves ∧ a ∈ p.1.cells ∧ ptF = setVal pt a.key lsn (ptRow table (rootOff t')))) ∧
      (∀ off, off ∉ offs t' → off ∉ offs pt → view s' off = view s off) := by
  obtain ⟨_, d2, _, _⟩ := h.disj_parts
  obtain ⟨hHt, hIt, hdt, _, _⟩ := h.tree t (Cat.tb_mem ht)
  obtain ⟨hHpt, hIpt, hdpt, hlpt, _⟩ := h.tree pt Cat.pt_mem
  obtain ⟨n, d, hvn, hon, hln⟩ := root_held_lsn s t _ hHt hIt
  obtain ⟨s1, e1, hs1⟩ := fetch_same (s := raiseRec s ⟨c_OpInsert, lsn, rootOff t, key, buf⟩) hvn hon
  obtain ⟨s2, hi, hH2, hh2, hfr2⟩ := insertKey_refines s1 t key lsn buf (hs1.holds hHt) (by rw [hs1.2]; exact hIt)
    hdt t' nf' (by rw [hs1.2]; exact hins)
  rw [hs1.2] at hh2
  rw [← hon] at hi
  -- `raiseRec` has raised the row-id counter already: the raise after the tree insert is idle
  have hidle : raiseKey s2 key = s2 := raiseKey_idle (by rw [hh2]; exact Nat.le_max_right _ _)
  have hfr02 : ∀ off, off ∉ offs t' → view s2 off = view s off := fun off ho => by
    rw [hfr2 off ho, hs1.1]; rfl
  have hHpt2 : Holds s2 pt := holds_after_insert hins hfr02 hHpt hIpt (d2 (table, t) ht)
  -- whether or not the root moved, the page table ends as a `ptF` like `pt` that names the new root, and what
  -- wrote it left the header and the pages outside `pt` alone
  obtain ⟨s', ptF, hrun, hh', hF, hent, hdecF, hHp, hfr', hcase⟩ : ∃ s' ptF,
      replayIns ⟨c_OpInsert, lsn, rootOff t, key, buf⟩ n s1 = (s', none, false) ∧ s'.hdr = s2.hdr ∧ PtLike pt ptF ∧
      ptEntries ptF = (ptEntries pt).map (repoint table (rootOff t')) ∧ (∀ c ∈ live ptF, ptEntry c ≠ none) ∧
      Holds s' ptF ∧ (∀ off, off ∉ offs pt → view s' off = view s2 off) ∧
      ((rootOff t' = rootOff t ∧ ptF = pt) ∨
       (rootOff t' ≠ rootOff t ∧ ∃ a p, a ∈ live pt ∧ ptEntry a = some (table, rootOff t) ∧
          p ∈ pt.leaves ∧ a ∈ p.1.cells ∧ ptF = setVal pt a.key lsn (ptRow table (rootOff t')))) := by
    by_cases hmove : rootOff t' = rootOff t
    · refine ⟨s2, pt, ?_, rfl, .inl rfl, ?_, h.dec, hHpt2, fun _ _ => rfl, .inl ⟨hmove, rfl⟩⟩
      · exact hidle ▸ replayIns_same hi (by rw [hon]; exact hmove)
      · rw [hmove]
        exact (repoint_id table (rootOff t) _ h.names (h.etb (table, t) ht)).symm
    · have hInv' : Inv t' nf' := insertAppend_inv t t' _ _ _ nf' buf hIt hins
      have hroot_lt : rootOff t' < nf' := hInv'.offs.2 _ (rootOff_mem_offs t' nf' hInv')
      obtain ⟨s4, a, p, e4, hal, hpa, hp, hap, hH4, hh4, hfr4, hent, hdecF⟩ :=
        repointPageTable_refines s2 pt table (rootOff t) (rootOff t') lsn hHpt2
          (by rw [hh2]; exact Inv_mono pt _ _ hIpt (insertAppend_nextFree t t' _ _ _ nf' buf hins))
          (by rw [hh2]; exact h.root) (Nat.le_of_succ_le hdpt) hlpt h.dec h.names
          (h.etb (table, t) ht) hpos (entry_of_root h hself ht) (h.tlen (table, t) ht)
          (Int.le_trans (Int.ofNat_le.mpr (Nat.le_of_lt hroot_lt)) hbig)
      exact ⟨s4, _, replayIns_moved hi (by rw [hon]; exact hmove) (by rw [hon, hidle]; exact e4), hh4,
        .inr ⟨_, _, _, rfl⟩, hent, hdecF, hH4, hfr4, .inr ⟨hmove, a, p, hal, hpa, hp, hap, rfl⟩⟩
  have hframe : ∀ off, off ∉ offs t' → off ∉ offs pt → view s' off = view s off :=
    fun off h1 h2 => by rw [hfr' off h2, hfr02 off h1]
  -- the new tree shares no page with the page table, so it is still held
  have hH't : Holds s' t' := fun x hx => by
    rw [hfr' x.1 fun hop => insertAppend_sep hins hIpt (d2 (table, t) ht) x.1 hop
      (List.mem_map.mpr ⟨x, hx, rfl⟩)]
    exact hH2 x hx
  have hne : table ≠ sysPages := fun he => h.tsys.1 (he ▸ List.mem_map.mpr ⟨(table, t), ht, rfl⟩)
  rw [← hh'] at hh2
  refine ⟨s', ptF, (replayOne_fetched e1).trans ((replayOn_ins (hln ▸ hlsn) rfl).trans hrun), ?_,
    hself.repoint hent hne hF.facts.1, by rw [hh2], by rw [hh2]; rfl, by rw [hh2]; rfl, by rw [hh2]; rfl, hent,
    hcase, hframe⟩
  exact h.rebuild_le ht hins (by rw [hh2]; exact Nat.le_max_right _ _) ptF hF hent hdecF (by rw [hh2])
    (by rw [hh2]; exact Nat.le_max_left _ _) (by rw [hh2]; rfl) hH't hHp hframe hd' hl'

/-! ### records that are already applied -/

/-- **A record that is already on its page is skipped** (any kind of record): if the engine sees,
at the record's page, a node filed under that offset whose LSN is at least the record's, nothing
visible changes and of the header only the counters are raised: `nextLSN` to at least the record's
LSN and - when the record is an INSERT - the row-id counter to at least the record's key (the skipped
record still tells recovery that this row id was handed out; the header on file may not know).  In
particular every catalog description of the store stays true. -/
theorem replay_skips_applied (r : WalRec) (s : Store) (n : Node) (d : Bool)
    (hv : view s r.page = some (n, d)) (hoff : nodeOff n = r.page) (hl : r.lsn ≤ nodeLSN n) :
    ∃ s1, replayOne r s = (s1, none, false) ∧ view s1 = view s ∧
      s1.hdr = { s.hdr with nextLSN := max s.hdr.nextLSN r.lsn,
                            lastKey := if r.op == c_OpInsert then max s.hdr.lastKey r.cell else s.hdr.lastKey } ∧
      ∀ pt sch tbls, Cat s pt sch tbls → Cat s1 pt sch tbls := by
  obtain ⟨s1, e1, v1, hh1⟩ := fetch_same (s := raiseRec s r) hv hoff
  refine ⟨s1, (replayOne_fetched e1).trans (replayOn_skip hl), v1, hh1, fun pt sch tbls h => ?_⟩
  refine h.raise v1 (by rw [hh1]; rfl) (by rw [hh1]; rfl) ?_
  rw [hh1]
  show s.hdr.lastKey ≤ if r.op == c_OpInsert then max s.hdr.lastKey r.cell else s.hdr.lastKey
  split
  · exact Nat.le_max_left _ _
  · exact Nat.le_refl _

/-- the same for a record that is no INSERT, or an INSERT whose key the row-id counter has passed
(every logged insert key was handed out by the counter): of the header only `nextLSN` is raised -/
theorem replay_skips_applied_le (r : WalRec) (s : Store) (n : Node) (d : Bool)
    (hv : view s r.page = some (n, d)) (hoff : nodeOff n = r.page) (hl : r.lsn ≤ nodeLSN n)
    (hk : r.op = c_OpInsert → r.cell ≤ s.hdr.lastKey) :
    ∃ s1, replayOne r s = (s1, none, false) ∧ view s1 = view s ∧
      s1.hdr = { s.hdr with nextLSN := max s.hdr.nextLSN r.lsn } ∧
      ∀ pt sch tbls, Cat s pt sch tbls → Cat s1 pt sch tbls := by
  obtain ⟨s1, e, v, hh, hc⟩ := replay_skips_applied r s n d hv hoff hl
  refine ⟨s1, e, v, ?_, hc⟩
  rw [hh]
  exact congrArg Store.hdr (raiseRec_of_le s r hk)

/-- **An INSERT record whose key is already in the tree is tolerated**: the tree refuses the key
(`keyExists`), the replay goes on; nothing visible changes, of the header only the counters
`nextLSN` and `lastKey` are raised. -/
theorem replay_tolerates_present (s : Store) (pt sch : Levels) (tbls : List (Bytes × Levels))
    (h : Cat s pt sch tbls) (table : Bytes) (t : Levels) (ht : (table, t) ∈ tbls) (key lsn : Nat)
    (buf : Bytes) (hk : key ∈ keys t) :
    ∃ s1, replayOne ⟨c_OpInsert, lsn, rootOff t, key, buf⟩ s = (s1, none, false) ∧ view s1 = view s ∧
      s1.hdr = { s.hdr with nextLSN := max s.hdr.nextLSN lsn, lastKey := max s.hdr.lastKey key } ∧
      Cat s1 pt sch tbls := by
  obtain ⟨hHt, hIt, hdt, _, _⟩ := h.tree t (Cat.tb_mem ht)
  obtain ⟨n, d, hvn, hon, hln⟩ := root_held_lsn s t _ hHt hIt
  by_cases hl : lsn ≤ rootLSN t
  · -- skipped before the tree is looked at
    obtain ⟨s1, e, v, hh, hc⟩ := replay_skips_applied ⟨c_OpInsert, lsn, rootOff t, key, buf⟩ s n d hvn hon
      (by rw [hln]; exact hl)
    exact ⟨s1, e, v, hh, hc _ _ _ h⟩
  · obtain ⟨s1, e1, hs1⟩ := fetch_same (s := raiseRec s ⟨c_OpInsert, lsn, rootOff t, key, buf⟩) hvn hon
    obtain ⟨s2, hi, v2, hh2⟩ := insertKey_refines_keyExists s1 t key lsn buf (hs1.holds hHt)
      (by rw [hs1.2]; exact hIt) hdt (insertAppend_present hk _ _ _)
    rw [← hon] at hi
    have hs2 : Same (raiseRec s ⟨c_OpInsert, lsn, rootOff t, key, buf⟩) s2 := hs1.trans ⟨v2, hh2⟩
    -- `raiseRec` has raised the row-id counter already: the raise after the refusal is idle
    have hidle : raiseKey s2 key = s2 := raiseKey_idle (by rw [hs2.2]; exact Nat.le_max_right _ _)
    refine ⟨s2, ?_, hs2.1, hs2.2, h.raise hs2.1 (by rw [hs2.2]; rfl) (by rw [hs2.2]; rfl)
      (by rw [hs2.2]; exact Nat.le_max_left _ _)⟩
    rw [replayOne_fetched e1, replayOn_ins (by show nodeLSN n < lsn; rw [hln]; omega) rfl]
    exact hidle ▸ replayIns_exists hi

end Mkdb.Store
end

section
set_option autoImplicit false
namespace Mkdb.Store
open Mkdb.Page Mkdb.Tuple Mkdb.Generated Mkdb.Tree Mkdb.Engine

theorem setVal_setVal (t : Levels) (k l1 l2 : Nat) (v : Bytes) :
    setVal (setVal t k l1 v) k l2 v = setVal t k l2 v := by
  unfold setVal
  simp only [List.map_map]
  congr 1
  apply List.map_congr_left
  intro p _
  obtain ⟨l, d⟩ := p
  simp only [Function.comp]
  cases hany : l.cells.any (fun c => c.key == k) with
  | true =>
    have hany' : (l.cells.map (fun c => if c.key == k then { c with val := v } else c)).any
        (fun c => c.key == k) = true := by
      rw [RedoLink.any_key_map l.cells _ (fun c => by split <;> rfl) k]
      exact hany
    simp only [if_true, hany', List.map_map]
    congr 2
    apply List.map_congr_left
    intro c _
    simp only [Function.comp]
    cases hc : (c.key == k) with
    | true => simp only [if_true, hc]
    | false => simp only [Bool.false_eq_true, if_false, hc]
  | false => simp only [Bool.false_eq_true, if_false, hany]

theorem mem_setVal_leaf (pt : Levels) (p : Leaf × Bool) (hp : p ∈ pt.leaves) (k lsn : Nat) (v : Bytes)
    (hany : p.1.cells.any (fun c => c.key == k) = true) :
    (({ p.1 with cells := p.1.cells.map (fun c => if c.key == k then { c with val := v } else c),
                 lsn := lsn } : Leaf), true) ∈ (setVal pt k lsn v).leaves := by
  unfold setVal
  refine List.mem_map.mpr ⟨p, hp, ?_⟩
  obtain ⟨l, d⟩ := p
  simp only at hany ⊢
  simp only [hany, if_true]

/-- the stamp of a rewritten row is no part of what the rows say -/
theorem live_setVal_stamp (pt : Levels) (k l l' : Nat) (v : Bytes) :
    live (setVal pt k l v) = live (setVal pt k l' v) := by
  rw [live_setVal, live_setVal]

/-- **Replay of an UPDATE or DELETE record** naming a leaf of a held tree that holds the cell and is
older than the record: the cell change on the tree (`updLeaves`, i.e. `setVal` / `setDeleted`); of the
header only `nextLSN` is raised; no other page changes. -/
theorem replay_cell_held (s : Store) (t : Levels) (hH : Holds s t) (hI : Inv t s.hdr.nextFree)
    (l : Leaf) (d : Bool) (hm : (l, d) ∈ t.leaves) (r : WalRec) (f : LeafCell → LeafCell)
    (hr : RedoLink.CellRec r f) (hpage : r.page = l.off)
    (hany : l.cells.any (fun c => c.key == r.cell) = true) (hl : l.lsn < r.lsn) :
    ∃ s', replayOne r s = (s', none, false) ∧
      Holds s' (updLeaves f r.cell r.lsn t) ∧
      s'.hdr = { s.hdr with nextLSN := max s.hdr.nextLSN r.lsn } ∧
      ∀ off, off ≠ l.off → view s' off = view s off := by
  have hvl : view s r.page = some (.leaf l, d) := hpage ▸ holds_leaf hH hm
  obtain ⟨mem1, hsv, he⟩ := RedoLink.replayOne_cell_eq r s l d f hr hvl hpage.symm hany
  rw [if_neg (Nat.not_le.mpr hl)] at he
  have hview : ∀ (h : Header) (m : MNode) (o : Nat), view { s with hdr := h, mem := assocSet mem1 l.off m } o =
      upd (view s) l.off (m.node, m.dirty) o := by
    intro h m o
    rw [RedoLink.view_setMem]
    unfold upd
    split
    · rfl
    · exact hsv o
  refine ⟨_, he, ?_, rfl, ?_⟩
  · apply holds_updLeaves f r.cell r.lsn s _ t hH hI l d hm hany
    funext o
    rw [hview]
    rfl
  · intro off hoff
    rw [hview, upd_other _ _ _ _ hoff]

/-! ### the catalog after a rewrite of a page-table row that keeps the entries -/

theorem Cat.setVal_pt {s s' : Store} {pt sch : Levels} {tbls : List (Bytes × Levels)} (h : Cat s pt sch tbls)
    (k l : Nat) (v : Bytes) (hent : ptEntries (setVal pt k l v) = ptEntries pt)
    (hdec : ∀ c ∈ live (setVal pt k l v), ptEntry c ≠ none)
    (hH : Holds s' (setVal pt k l v)) (hfr : ∀ off, off ∉ offs pt → view s' off = view s off)
    (hnf : s'.hdr.nextFree = s.hdr.nextFree) (hlk : s.hdr.lastKey ≤ s'.hdr.lastKey)
    (hpr : s'.hdr.ptRoot = s.hdr.ptRoot) : Cat s' (setVal pt k l v) sch tbls := by
  -- `Named.replace` with `sys_schema` replaced by itself
  have hn := Cat.named.mp h
  have hm : (sysSchema, sch) ∈ (sysSchema, sch) :: tbls := List.mem_cons_self
  have hG : GoodTree s' sch :=
    (hn.tree _ hm).frame (fun o ho => hfr o fun hp => hn.ptd _ hm o hp ho) (Nat.le_of_eq hnf.symm) hlk
  have := hn.replace hm _ (.inr ⟨k, l, v, rfl⟩)
    (by rw [hent]; exact (repoint_id sysSchema _ _ h.names h.esch).symm) hdec (Nat.le_of_eq hnf.symm) hlk hpr
    (fun o ho => .inl ho) hG hH (fun off _ h2 => hfr off h2)
  rw [setTable_cons_eq sch h.tsys.2] at this
  exact Cat.named.mpr this

/-- **Replay of the catalogue record that follows an INSERT record.**  The redo of the INSERT record has
rewritten the row `k` of the page table already (value `v`, stamp `l`, in the leaf `p`); the UPDATE record
of that row, with a later LSN `l'`, writes the same value once more: the leaf is stamped `l'`
(`setVal_setVal`), of the header only `nextLSN` is raised, and the catalogue is described as before. -/
theorem replay_catalog_record {s : Store} {pt sch : Levels} {tbls : List (Bytes × Levels)} {k l l' : Nat}
    {v : Bytes} (h : Cat s (setVal pt k l v) sch tbls) {p : Leaf × Bool} (hp : p ∈ pt.leaves)
    (hany : p.1.cells.any (fun c => c.key == k) = true) (hv : v.length ≤ c_maxValueSize) (hl : l < l') :
    ∃ s', replayOne ⟨c_OpUpdate, l', p.1.off, k, v⟩ s = (s', none, false) ∧
      Cat s' (setVal pt k l' v) sch tbls ∧ s'.hdr = { s.hdr with nextLSN := max s.hdr.nextLSN l' } := by
  obtain ⟨hH, hI, _, _, _⟩ := h.tree _ Cat.pt_mem
  have hany2 : (p.1.cells.map (fun c => if c.key == k then { c with val := v } else c)).any
      (fun c => c.key == k) = true := by
    rw [RedoLink.any_key_map p.1.cells _ (fun c => by split <;> rfl) k]
    exact hany
  obtain ⟨s', hrun, hH', hh, hfr⟩ := replay_cell_held s _ hH hI _ true (mem_setVal_leaf pt p hp k l v hany)
    ⟨c_OpUpdate, l', p.1.off, k, v⟩ _ (.inl ⟨rfl, hv, rfl⟩) rfl hany2 hl
  rw [← setVal_eq] at hH'
  -- the same row written twice is the row written once, with the later stamp
  have hss := setVal_setVal pt k l l' v
  have hc := h.setVal_pt (s' := s') k l' v
    (by rw [hss]; exact congrArg (·.filterMap ptEntry) (live_setVal_stamp pt k l' l v))
    (by rw [hss, live_setVal_stamp pt k l' l v]; exact h.dec) hH'
    (fun off ho => hfr off fun he => ho (by rw [offs_setVal, he]; exact leaf_off_mem_offs (l := p.1) (d := p.2) hp))
    (by rw [hh]) (by rw [hh]; exact Nat.le_refl _) (by rw [hh])
  rw [hss] at hc
  exact ⟨s', hrun, hc, hh⟩

end Mkdb.Store
end
