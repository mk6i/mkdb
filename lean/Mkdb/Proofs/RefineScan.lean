import Mkdb.Proofs.HeapView
import Mkdb.Proofs.TreeLookup
/-!
Refinement of the read paths: what `scanRight` (SELECT's scan) and `findLeaf` (point lookup) compute
on the heap model (`Mkdb.Store`) is what the levels model (`Mkdb.Tree`) says.

`Holds s t`: every page of `t` is what the engine sees (`view`) at its offset — node **and** dirty bit;
a `fetch` of a held page changes no `view` at all.

`Filed s` is not needed for the refinement itself (a page of `flatten t` carries the offset it is
listed under, which is all `fetch` needs): `scanRight_refines_strong` / `findLeaf_refines_strong` give
`SameView s s'` (every `view` unchanged) without it; `scanRight_refines_filed` uses it to add
`Filed s' ∧ SameData s s'`.
-/
set_option autoImplicit false
namespace Mkdb.Refine
open Mkdb.Page Mkdb.Generated Mkdb.Store Mkdb.Tree

/-- the heap of `s` holds the tree `t`: every page of `t` is what the engine sees at its offset -/
def Holds (s : Store) (t : Levels) : Prop := ∀ e ∈ flatten t, view s e.1 = some (e.2.1, e.2.2)

def SameView (s s' : Store) : Prop := ∀ k, view s' k = view s k

theorem SameView.refl (s : Store) : SameView s s := fun _ => rfl

theorem SameView.trans {s1 s2 s3 : Store} (h12 : SameView s1 s2) (h23 : SameView s2 s3) :
    SameView s1 s3 := fun k => (h23 k).trans (h12 k)

theorem Holds.of_sameView {s s' : Store} {t : Levels} (h : Holds s t) (hv : SameView s s') :
    Holds s' t := fun e he => (hv e.1).trans (h e he)

theorem Holds.leaf {s : Store} {t : Levels} (h : Holds s t) {p : Leaf × Bool} (hp : p ∈ t.leaves) :
    view s p.1.off = some (Node.leaf p.1, p.2) :=
  h (p.1.off, Node.leaf p.1, p.2) (List.mem_append_left _ (List.mem_map.mpr ⟨p, hp, rfl⟩))

theorem Holds.internal {s : Store} {t : Levels} (h : Holds s t) {lvl : List (Internal × Bool)}
    (hl : lvl ∈ t.inner) {p : Internal × Bool} (hp : p ∈ lvl) :
    view s p.1.off = some (Node.internal p.1, p.2) :=
  h (p.1.off, Node.internal p.1, p.2)
    (List.mem_append_right _ (List.mem_flatMap.mpr ⟨lvl, hl, List.mem_map.mpr ⟨p, hp, rfl⟩⟩))

/-! ### `fetch` of a page the engine sees -/

/-- Fetching a page the engine sees at `off`, and which carries `off`, returns it and changes no
`view` (a clean copy of the disk image may enter the cache under `off`). -/
theorem fetch_held (s : Store) (off : Nat) (n : Node) (d : Bool)
    (hv : view s off = some (n, d)) (hoff : nodeOff n = off) :
    ∃ s', fetch off s = .ok n s' ∧ SameView s s' := by
  obtain ⟨s', e, v, _, _⟩ := fetch_spec s off n d hv hoff
  exact ⟨s', e, congrFun v⟩

theorem fetch_leaf {s : Store} {l : Leaf} {d : Bool} (hv : view s l.off = some (Node.leaf l, d)) :
    ∃ s', fetch l.off s = .ok (Node.leaf l) s' ∧ SameView s s' :=
  fetch_held s l.off _ d hv rfl

theorem fetch_internal {s : Store} {n : Internal} {d : Bool}
    (hv : view s n.off = some (Node.internal n, d)) :
    ∃ s', fetch n.off s = .ok (Node.internal n) s' ∧ SameView s s' :=
  fetch_held s n.off _ d hv rfl

/-! ### descending the internal levels -/

def HeldInner (s : Store) (lvls : List (List (Internal × Bool))) : Prop :=
  ∀ lvl ∈ lvls, ∀ p ∈ lvl, view s p.1.off = some (Node.internal p.1, p.2)

theorem HeldInner.of_sameView {s s' : Store} {lvls : List (List (Internal × Bool))}
    (h : HeldInner s lvls) (hv : SameView s s') : HeldInner s' lvls :=
  fun lvl hl p hp => (hv p.1.off).trans (h lvl hl p hp)

/-- A descent of the heap model - a loop `W fuel off` that at an internal node moves on to the child
`choose` names and at a leaf returns it - started at the root of a held tree returns the leaf
`walkOff choose` names, one unit of fuel per level, and changes no `view`. -/
theorem walk_refines (W : Nat → Nat → SM Leaf) (choose : Internal → Nat)
    (hch : ∀ n : Internal, choose n ∈ n.cells.map (·.child) ++ [n.right])
    (s : Store) (t : Levels) (nf : Nat) (hH : Holds s t) (hI : Inv t nf)
    (hdepth : t.inner.length + 1 ≤ treeFuel)
    (hint : ∀ lvl ∈ t.inner, ∀ p ∈ lvl, ∀ (s1 : Store) (f : Nat),
      view s1 p.1.off = some (Node.internal p.1, p.2) →
      ∃ s', SameView s1 s' ∧ W (f + 1) p.1.off s1 = W f (choose p.1) s')
    (hleaf : ∀ p ∈ t.leaves, ∀ (s1 : Store) (f : Nat), view s1 p.1.off = some (Node.leaf p.1, p.2) →
      ∃ s', SameView s1 s' ∧ W (f + 1) p.1.off s1 = .ok p.1 s') :
    ∃ s' p, p ∈ t.leaves ∧ p.1.off = Lookup.walkOff choose (t.leaves.map (·.1.off)) t.inner ∧
      W treeFuel (rootOff t) s = .ok p.1 s' ∧ SameView s s' := by
  obtain ⟨f, hf⟩ : ∃ f, treeFuel = 0 + t.inner.length + (f + 1) := ⟨treeFuel - t.inner.length - 1, by omega⟩
  obtain ⟨hm, hP⟩ := Lookup.descend choose hch
    (fun j off => ∀ s1, SameView s s1 → ∃ s', SameView s s' ∧
      W (j + (f + 1)) off s1 = W (f + 1) (Lookup.walkOff choose (t.leaves.map (·.1.off)) t.inner) s')
    t.inner (t.leaves.map (·.1.off)) 0 (show linked (t.leaves.map (·.1.off)) t.inner from hI.link) (by
      intro j lvl hl p hp ih s1 hs1
      obtain ⟨s2, hs2, e2⟩ := hint lvl hl p hp s1 (j + (f + 1)) ((hs1 _).trans (hH.internal hl hp))
      obtain ⟨s3, hs3, e3⟩ := ih s2 (hs1.trans hs2)
      exact ⟨s3, hs3, by rw [show j + 1 + (f + 1) = j + (f + 1) + 1 by omega, e2, e3]⟩)
  rw [← Lookup.rootOff_eq] at hP
  obtain ⟨s1, hsv1, e1⟩ := hP (fun s1 hs1 => ⟨s1, hs1, by rw [Nat.zero_add]⟩) s (SameView.refl s)
  obtain ⟨p, hp, hpo⟩ := List.mem_map.mp hm
  obtain ⟨s2, hsv2, e2⟩ := hleaf p hp s1 f ((hsv1 _).trans (hH.leaf hp))
  exact ⟨s2, p, hp, hpo, by rw [hf, e1, ← hpo]; exact e2, hsv1.trans hsv2⟩

theorem leftmostLeaf_step {s : Store} {n : Internal} {d : Bool} {c : ICell} {cs : List ICell}
    (hv : view s n.off = some (Node.internal n, d)) (hc : n.cells = c :: cs) (f : Nat) :
    ∃ s', SameView s s' ∧ leftmostLeaf (f + 1) n.off s = leftmostLeaf f c.child s' := by
  obtain ⟨s', hf, hsv⟩ := fetch_internal hv
  refine ⟨s', hsv, ?_⟩
  rw [leftmostLeaf, bind_ok hf]
  simp only [hc, List.head?_cons]

theorem leftmostLeaf_leaf {s : Store} {l : Leaf} {d : Bool}
    (hv : view s l.off = some (Node.leaf l, d)) (f : Nat) :
    ∃ s', SameView s s' ∧ leftmostLeaf (f + 1) l.off s = .ok l s' := by
  obtain ⟨s', hf, hsv⟩ := fetch_leaf hv
  refine ⟨s', hsv, ?_⟩
  rw [leftmostLeaf, bind_ok hf]
  rfl

/-! ### walking the leaf chain -/

/-- the live cells of a leaf, each with the offset of the leaf (what `scanRight` collects there) -/
def liveAt (l : Leaf) : List (LeafCell × Nat) := (l.cells.filter fun c => !c.deleted).map fun c => (c, l.off)

theorem scanLeaves_last (fuel : Nat) (l : Leaf) (s : Store) (hR : l.hasR = false) :
    scanLeaves (fuel + 1) l s = .ok (liveAt l) s := by
  rw [scanLeaves]
  simp only [hR]
  rfl

theorem scanLeaves_next (fuel : Nat) (l r : Leaf) (s s1 s2 : Store) (rest : List (LeafCell × Nat))
    (hR : l.hasR = true) (hf : fetch l.rSib s = .ok (Node.leaf r) s1)
    (hrec : scanLeaves fuel r s1 = .ok rest s2) :
    scanLeaves (fuel + 1) l s = .ok (liveAt l ++ rest) s2 := by
  rw [scanLeaves]
  simp only [hR, if_true]
  rw [bind_ok hf]
  simp only
  rw [bind_ok hrec]
  rfl

theorem scanLeaves_chain : ∀ (ls : List (Leaf × Bool)) (p : Leaf × Bool) (prev : Option Nat) (fuel : Nat)
    (s : Store),
    chainFrom prev ((p :: ls).map (·.1)) →
    (∀ q ∈ p :: ls, view s q.1.off = some (Node.leaf q.1, q.2)) →
    ls.length + 1 ≤ fuel →
    ∃ s', scanLeaves fuel p.1 s = .ok ((p :: ls).flatMap fun q => liveAt q.1) s' ∧ SameView s s'
  | [], p, prev, fuel, s, hch, _, hfuel => by
    obtain ⟨f, rfl⟩ : ∃ f, fuel = f + 1 := ⟨fuel - 1, by simp only [List.length_nil] at hfuel; omega⟩
    have hR : p.1.hasR = false := hch.2.1
    exact ⟨s, by rw [scanLeaves_last f p.1 s hR]; simp, SameView.refl s⟩
  | q :: ls, p, prev, fuel, s, hch, hheld, hfuel => by
    obtain ⟨f, rfl⟩ : ∃ f, fuel = f + 1 := ⟨fuel - 1, by simp only [List.length_cons] at hfuel; omega⟩
    obtain ⟨_, ⟨hR, hsib⟩, hch'⟩ := hch
    have hq : view s q.1.off = some (Node.leaf q.1, q.2) := hheld q (by simp)
    obtain ⟨s1, hf, hsv1⟩ := fetch_leaf hq
    obtain ⟨s2, hrec, hsv2⟩ := scanLeaves_chain ls q (some p.1.off) f s1 hch'
      (fun x hx => (hsv1 _).trans (hheld x (List.mem_cons_of_mem _ hx)))
      (by simp only [List.length_cons] at hfuel; omega)
    refine ⟨s2, ?_, hsv1.trans hsv2⟩
    rw [← hsib] at hf
    rw [scanLeaves_next f p.1 q.1 s s1 s2 _ hR hf hrec]
    simp only [List.flatMap_cons]

/-! ### `scanRight` -/

theorem leftmostLeaf_refines (s : Store) (t : Levels) (nf : Nat) (hH : Holds s t) (hI : Inv t nf)
    (hdepth : t.inner.length + 1 ≤ treeFuel) :
    ∃ p ps s', t.leaves = p :: ps ∧ leftmostLeaf treeFuel (rootOff t) s = .ok p.1 s' ∧ SameView s s' := by
  obtain ⟨s', p, hp, hpo, e, hsv⟩ := walk_refines leftmostLeaf Lookup.firstChild Lookup.firstChild_mem
    s t nf hH hI hdepth
    (fun lvl hl q hq s1 f hv => by
      match hcs : q.1.cells, (hI.cap.2 lvl hl q hq).1 with
      | c :: cs, _ =>
        obtain ⟨s2, hsv2, e2⟩ := leftmostLeaf_step hv hcs f
        exact ⟨s2, hsv2, by rw [e2, Lookup.firstChild, hcs]; rfl⟩)
    (fun q _ s1 f hv => leftmostLeaf_leaf hv f)
  rw [Lookup.walkOff_first t.inner _ hI.link fun lvl hl q hq => (hI.cap.2 lvl hl q hq).1] at hpo
  obtain ⟨hndl, _⟩ := Lookup.offs_split t nf hI.offs
  match hlv : t.leaves, hp, hpo, hndl with
  | p0 :: ps, hp, hpo, hndl =>
    obtain rfl : p = p0 := inj_of_nodup_map (·.1.off) _ hndl p hp p0 List.mem_cons_self hpo
    exact ⟨p, ps, s', rfl, e, hsv⟩

/-- the scan from any page from which `leftmostLeaf` reaches the first leaf of a held tree (the root, that leaf
itself): the live cells of all leaves, in order -/
theorem scanRight_from {s s1 : Store} {t : Levels} {nf off : Nat} (hH : Holds s t) (hI : Inv t nf)
    {p : Leaf × Bool} {ps : List (Leaf × Bool)} (hlv : t.leaves = p :: ps)
    (e1 : leftmostLeaf treeFuel off s = .ok p.1 s1) (hsv1 : SameView s s1) (hlen : t.leaves.length ≤ scanFuel) :
    ∃ s', scanRight off s = .ok (t.leaves.flatMap fun q => liveAt q.1) s' ∧ SameView s s' := by
  have hch : chainFrom none ((p :: ps).map (·.1)) := by rw [← hlv]; exact hI.chain
  obtain ⟨s2, e2, hsv2⟩ := scanLeaves_chain ps p none scanFuel s1 hch
    (fun q hq => (hsv1 _).trans (hH.leaf (by rw [hlv]; exact hq)))
    (by rw [hlv] at hlen; simpa using hlen)
  exact ⟨s2, by rw [scanRight, bind_ok e1, e2, hlv], hsv1.trans hsv2⟩

theorem scanRight_refines_strong (s : Store) (t : Levels) (nf : Nat) (hH : Holds s t) (hI : Inv t nf)
    (hdepth : t.inner.length + 1 ≤ treeFuel) (hlen : t.leaves.length ≤ scanFuel) :
    ∃ s', scanRight (rootOff t) s =
        .ok (t.leaves.flatMap fun p => (p.1.cells.filter fun c => !c.deleted).map fun c => (c, p.1.off)) s' ∧
      SameView s s' := by
  obtain ⟨p, ps, s1, hlv, e1, hsv1⟩ := leftmostLeaf_refines s t nf hH hI hdepth
  exact scanRight_from hH hI hlv e1 hsv1 hlen

theorem scanRight_refines_filed (s : Store) (t : Levels) (nf : Nat) (hH : Holds s t) (hI : Inv t nf)
    (hF : Filed s) (hdepth : t.inner.length + 1 ≤ treeFuel) (hlen : t.leaves.length ≤ scanFuel) :
    ∃ s', scanRight (rootOff t) s =
        .ok (t.leaves.flatMap fun p => (p.1.cells.filter fun c => !c.deleted).map fun c => (c, p.1.off)) s' ∧
      Holds s' t ∧ Filed s' ∧ SameData s s' := by
  obtain ⟨s', e, hsv⟩ := scanRight_refines_strong s t nf hH hI hdepth hlen
  obtain ⟨hF', hD⟩ := (ReadOnly.scanRight (rootOff t)).ok hF e
  exact ⟨s', e, hH.of_sameView hsv, hF', hD⟩

theorem map_fst_liveAt (ls : List (Leaf × Bool)) :
    (ls.flatMap fun p => (p.1.cells.filter fun c => !c.deleted).map fun c => (c, p.1.off)).map (·.1) =
      (ls.flatMap (·.1.cells)).filter fun c => !c.deleted := by
  induction ls with
  | nil => rfl
  | cons p ps ih =>
    simp only [List.flatMap_cons, List.map_append, List.filter_append, ih, List.map_map]
    congr 1
    exact List.map_id' _

theorem scanRight_live (s : Store) (t : Levels) (nf : Nat) (hH : Holds s t) (hI : Inv t nf)
    (hdepth : t.inner.length + 1 ≤ treeFuel) (hlen : t.leaves.length ≤ scanFuel) :
    ∃ res s', scanRight (rootOff t) s = .ok res s' ∧ res.map (·.1) = live t ∧ Holds s' t := by
  obtain ⟨s', e, hsv⟩ := scanRight_refines_strong s t nf hH hI hdepth hlen
  exact ⟨_, s', e, map_fst_liveAt t.leaves, hH.of_sameView hsv⟩

/-! ### `findLeaf` -/

theorem findLeaf_step {s : Store} {n : Internal} {d : Bool}
    (hv : view s n.off = some (Node.internal n, d)) (key f : Nat) :
    ∃ s', SameView s s' ∧ findLeaf (f + 1) n.off key s = findLeaf f (routeChild n key) key s' := by
  obtain ⟨s', hf, hsv⟩ := fetch_internal hv
  refine ⟨s', hsv, ?_⟩
  rw [findLeaf, bind_ok hf]
  rfl

theorem findLeaf_leaf {s : Store} {l : Leaf} {d : Bool}
    (hv : view s l.off = some (Node.leaf l, d)) (key f : Nat) :
    ∃ s', SameView s s' ∧ findLeaf (f + 1) l.off key s = .ok l s' := by
  obtain ⟨s', hf, hsv⟩ := fetch_leaf hv
  refine ⟨s', hsv, ?_⟩
  rw [findLeaf, bind_ok hf]
  rfl

theorem findLeaf_refines_strong (s : Store) (t : Levels) (nf : Nat) (hH : Holds s t) (hI : Inv t nf)
    (hdepth : t.inner.length + 1 ≤ treeFuel) (key : Nat) :
    ∃ s' l, findLeaf treeFuel (rootOff t) key s = .ok l s' ∧ l.off = routeOff t key ∧
      (∃ d, (l, d) ∈ t.leaves) ∧ SameView s s' := by
  obtain ⟨s', p, hp, hpo, e, hsv⟩ := walk_refines (fun f off => findLeaf f off key)
    (fun n => routeChild n key) (fun n => Lookup.routeChild_mem n key) s t nf hH hI hdepth
    (fun _ _ _ _ _ f hv => findLeaf_step hv key f) (fun _ _ _ f hv => findLeaf_leaf hv key f)
  exact ⟨s', p.1, e, by rw [Lookup.routeOff_eq]; exact hpo, ⟨p.2, hp⟩, hsv⟩

/-- searching the leaf by key is what `findCell` / `MarkDeleted` do next -/
theorem findLeaf_finds (s : Store) (t : Levels) (nf : Nat) (hH : Holds s t) (hI : Inv t nf)
    (hdepth : t.inner.length + 1 ≤ treeFuel) (c : LeafCell) (hc : c ∈ cells t) :
    ∃ s' l, findLeaf treeFuel (rootOff t) c.key s = .ok l s' ∧ (∃ d, (l, d) ∈ t.leaves) ∧
      c ∈ l.cells ∧ l.cells.find? (fun x => x.key == c.key) = some c ∧ Holds s' t := by
  obtain ⟨s', l, e, ho, ⟨d, hm⟩, hsv⟩ := findLeaf_refines_strong s t nf hH hI hdepth c.key
  have hlk := find_at_route hI hm ho hc
  exact ⟨s', l, e, ⟨d, hm⟩, List.mem_of_find?_eq_some hlk, hlk, hH.of_sameView hsv⟩

/-! ### non-vacuity: `sampleTree` laid out in a data file -/

/-- `Mkdb.Tree.sampleTree` (two leaves under one internal node; the cell 4 is a tombstone) as a data
file of three pages, the root already resident in the cache -/
def sampleStore : Store :=
  { hdr := { nextFree := 16384 }, dhdr := { nextFree := 16384 },
    mem := [(12288, ⟨.internal ⟨12288, 0, 8192, [⟨3, 4096⟩]⟩, false⟩)],
    disk := [(4096, .leaf ⟨4096, 0, false, true, 0, 8192, [⟨1, false, []⟩, ⟨2, false, []⟩]⟩),
             (8192, .leaf ⟨8192, 0, true, false, 4096, 0, [⟨3, false, []⟩, ⟨4, true, []⟩]⟩),
             (12288, .internal ⟨12288, 0, 8192, [⟨3, 4096⟩]⟩)] }

theorem sample_holds : Holds sampleStore sampleTree := by
  unfold Holds; decide

theorem sample_inv : Inv sampleTree 16384 := by decide +kernel

theorem sample_filed : Filed sampleStore := by
  unfold Filed; decide

theorem sample_scan : ∃ s', scanRight (rootOff sampleTree) sampleStore =
    .ok [(⟨1, false, []⟩, 4096), (⟨2, false, []⟩, 4096), (⟨3, false, []⟩, 8192)] s' := ⟨_, rfl⟩

theorem sample_scan_live : ∃ res s', scanRight (rootOff sampleTree) sampleStore = .ok res s' ∧
    res.map (·.1) = [⟨1, false, []⟩, ⟨2, false, []⟩, ⟨3, false, []⟩] ∧ Holds s' sampleTree :=
  scanRight_live sampleStore sampleTree 16384 sample_holds sample_inv (by decide) (by decide)

theorem sample_find : (∃ s', findLeaf treeFuel (rootOff sampleTree) 4 sampleStore =
      .ok ⟨8192, 0, true, false, 4096, 0, [⟨3, false, []⟩, ⟨4, true, []⟩]⟩ s') ∧
    (∃ s', findLeaf treeFuel (rootOff sampleTree) 2 sampleStore =
      .ok ⟨4096, 0, false, true, 0, 8192, [⟨1, false, []⟩, ⟨2, false, []⟩]⟩ s') := ⟨⟨_, rfl⟩, ⟨_, rfl⟩⟩

end Mkdb.Refine
