import Mkdb.Proofs.ParseRun
/-!
The pass over the productions (`ParseRun`), the statements other than SELECT: what is known of a statement a
production returns (`StmtQ`), CREATE DATABASE / TABLE, INSERT, UPDATE, DELETE, USE / SHOW.
-/
namespace Mkdb.Sql
open Mkdb.Scan Mkdb.Generated RunTac

section
variable {f n : Nat}

/-- what is known of the statement a statement production returns: its size up to `k`, its condition
depth, its shape -/
def StmtQ (k : Nat) (s : Stmt) (l x : Nat) : Prop :=
  (s.size ≤ 3 * l + x + k ∧ s.condDepth ≤ l) ∧ wfStmt int64Lit s = true

attribute [sz_simp] StmtQ

theorem ident_eq {t t' : Token} (h : TokSim t t') (hc : [t_IDENT].contains t.ty = true) : t = t' :=
  textual_eq h (textual_of_mem rfl _ hc)

theorem Run.tableElements : Run (tableElements f) (tableElements f) n (n + 2 ≤ f) (Same fun as l x =>
    lsz ColDef.size as ≤ 3 * l + x ∧ ∀ c ∈ as, wfColType int64Lit c.ty = true) := by
  unfold Sql.tableElements
  pass Run.requireKw
  refine Run.bind (Run.guardedLoop ColDef.size (fun c => wfColType int64Lit c.ty = true) f _
    (fun t t' k ht hc _ => ?_) (by arith)) fun _ _ _ _ h _ => ?_
  · obtain rfl := ident_eq ht hc
    refine Run.cur fun ty _ _ _ => ?_
    dsimp only
    step Run.advance
    refine Run.bind (V1 := Same fun ty l _ => ty.size ≤ 3 * l + 1 ∧ wfColType int64Lit ty = true) ?_
      fun _ _ _ _ h _ => ?_
    · refine Run.ite ?_ (Run.ite ?_ (Run.ite ?_ (Run.ite ?_ Run.fail)))
      · retw
      · retw
      · pass Run.requireKw
        step Run.requireInt
        pass Run.requireKw
        retw
      · retw
    · obtain ⟨h, _⟩ := h
      subst h
      step Run.commaFollows
      retw
  · obtain ⟨h, _, hw⟩ := h
    subst h
    pass Run.requireKw
    exact Run.pure ⟨rfl, by arith, hw⟩

theorem Run.parseCreate : Run (parseCreate f) (parseCreate f) n (n + 2 ≤ f) (Same (StmtQ 1)) := by
  unfold Sql.parseCreate
  refine Run.cur fun ty _ _ _ => ?_
  dsimp only
  step Run.advance
  refine Run.ite ?_ (Run.ite ?_ Run.fail)
  · step Run.requireIdent
    retw
  · refine Run.bind Run.matchIdent fun name _ _ _ h _ => ?_
    obtain ⟨h, _⟩ := h
    subst h
    refine Run.bind Run.tableElements.fuel fun _ _ _ _ h _ => ?_
    obtain ⟨h, _, hw⟩ := h
    subst h
    cases name <;> exact Run.pure ⟨rfl, by arith, List.all_eq_true.mpr hw⟩

theorem Run.parseInsert : Run (parseInsert f) (parseInsert f) n (n + 2 ≤ f) (Same (StmtQ 1)) := by
  unfold Sql.parseInsert
  pass Run.requireKw
  step Run.requireIdent
  refine Run.bind (V1 := Same fun cs l x => lsz bsz cs ≤ 3 * l + x) ?_ fun _ _ _ _ h _ => ?_
  · hit Run.matchKw
    · ret
    · refine Run.bind (Run.guardedLoop bsz (fun _ => True) f _ (fun t t' k ht hc _ => ?_) (by arith))
        fun _ _ _ _ h _ => ?_
      · obtain rfl := ident_eq ht hc
        step Run.commaFollows
        retw
      · obtain ⟨h, _⟩ := h
        subst h
        pass Run.requireKw
        ret
  · obtain ⟨h, _⟩ := h
    subst h
    pass Run.requireKw
    refine Run.bind (Run.guardedLoop (lsz Lit.size) (fun r => r.all int64Lit = true) f _
      (fun t t' k _ _ _ => ?_) (by arith)) fun _ _ _ _ h _ => ?_
    · refine Run.bind (Run.guardedLoop Lit.size (fun l => int64Lit l = true) f _
        (fun t t' k ht _ _ => ?_) (by arith)) fun _ _ _ _ h _ => ?_
      · rw [← tokenVal_sim ht]
        split
        · exact Run.fail
        · have := tokenVal_size _ _ ‹_›
          have := tokenVal_range ‹_›
          step Run.commaFollows
          retw
      · obtain ⟨h, _, hv⟩ := h
        subst h
        pass Run.requireKw
        step Run.commaFollows
        exact Run.pure ⟨rfl, by arith, List.all_eq_true.mpr hv⟩
    · obtain ⟨h, _, hrows⟩ := h
      subst h
      exact Run.pure ⟨rfl, by arith, List.all_eq_true.mpr hrows⟩

theorem Run.parseUpdate : Run (parseUpdate f) (parseUpdate f) n (n + 2 ≤ f) (Same (StmtQ 2)) := by
  unfold Sql.parseUpdate
  step Run.requireIdent
  pass Run.requireKw
  refine Run.bind (Run.guardedLoop setSize (fun a => wfV int64Lit a.2 = true) f _
    (fun t t' k ht hc _ => ?_) (by arith)) fun _ _ _ _ h _ => ?_
  · obtain rfl := ident_eq ht hc
    pass Run.requireKw
    step Run.valueExpression
    step Run.commaFollows
    retw
  · obtain ⟨h, _, hs⟩ := h
    subst h
    have := List.all_eq_true.mpr hs
    step Run.whereClause.fuel
    retw

theorem Run.parseDelete : Run (parseDelete f) (parseDelete f) n (n + 2 ≤ f) (Same (StmtQ 2)) := by
  unfold Sql.parseDelete
  pass Run.requireKw
  step Run.requireIdent
  step Run.whereClause.fuel
  retw

/-- `SHOW`: the text of the current token is read only when it is an IDENT -/
theorem Run.parseShow {E : Prop} : Run parseShow parseShow n E (Same (StmtQ 1)) := by
  unfold Sql.parseShow
  refine Run.cur fun ty x x' hx => ?_
  dsimp only
  step Run.advance
  refine Run.ite (by retw) ?_
  by_cases hi : (ty == t_IDENT) = true
  · have : x = x' := hx (by simp only [textual, hi, Bool.true_or])
    subst this
    split
    · retw
    · exact Run.fail
  · simp only [hi, Bool.false_and, Bool.false_eq_true, ↓reduceIte]
    exact Run.fail

end

end Mkdb.Sql
