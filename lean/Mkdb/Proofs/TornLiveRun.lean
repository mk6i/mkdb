import Mkdb.Proofs.CkptLiveRun
import Mkdb.Proofs.CountersRowOps
import Mkdb.Proofs.ReplayMixed
import Mkdb.Proofs.TornHist
/-!
A live run that allocates no page is a history of page-local steps.

`live_run_hist`: a `LiveRunM` whose final allocation frontier is the initial one: every INSERT appended
to the last leaf of its table without a split, no root moved, the page table is untouched; the
descriptions along the run are the skeleton of the first one filled with the current leaf pages, the
log has one record per step, and the final row-id counter is the initial one or the key of a logged
INSERT (`RunHist`).  On a description `fillT c0 D0` the two transitions that allocate nothing, a cell change
and an append without a split, are page steps that end in a description `fillT c1 D0` (`updLeaves_fillT`,
`insertAppend_fillT`: the page found, the rest is `StepKind.stepC` of `TornHist`); the proof puts that step in
front of the history of the rest of the run (`RunHist.cons`).  `spec_runs_hist`: a chain of `SpecRun`s with its
boundary databases (`SpecRunsNA`), none of which has a higher allocation frontier than the first, is ONE
such history, and every boundary database holds the catalog with the leaf pages of some moment of it.
-/
set_option autoImplicit false
namespace Mkdb.Store
open Mkdb.Page Mkdb.Tuple Mkdb.Generated Mkdb.Tree Mkdb.Engine

section
variable {D0 : List (Bytes × Levels)} {c0 : Pages} (hsk : Skel D0) (hf0 : ∀ e ∈ D0, PFiled c0 e.2)
  {table : Bytes} {t : Levels} (ht : (table, t) ∈ fillT c0 D0) (nf : Nat)
include hsk hf0 ht

/-- **A cell change on the description `fillT c0 D0` is a page step**, of the leaf of the skeleton that holds the
cell. -/
theorem updLeaves_fillT (hasc : KeysAsc t) {l : Leaf} {d : Bool} (hm : (l, d) ∈ t.leaves) {r : WalRec}
    {f : LeafCell → LeafCell} (hr : RedoLink.CellRec r f) (hpage : r.page = l.off)
    (hany : l.cells.any (fun y => y.key == r.cell) = true) (hdel : r.op = c_OpDelete → r.val = [])
    (hlsn : ∀ x ∈ flatten t, nodeLSN x.2.1 < r.lsn) :
    ∃ c1, setTable (fillT c0 D0) table (updLeaves f r.cell r.lsn t) = fillT c1 D0 ∧ (∀ e ∈ D0, PFiled c1 e.2) ∧
      StepC D0 nf c0 r c1 := by
  obtain ⟨⟨_, t0⟩, he0, ⟨⟩⟩ := mem_fillT_inv ht
  obtain ⟨o, ho, hco⟩ := mem_fill_leaves hm
  obtain rfl : l.off = o := (hf0 _ he0).off ho hco.symm
  obtain ⟨hst, hf1, htb⟩ := (StepKind.cell hr hpage hany hdel).stepC hsk hf0 he0 ho hco.symm hlsn
  exact ⟨_, by rw [updLeaves_fill f _ _ (hf0 _ he0) hasc ho hco.symm hany]; exact htb, hf1, hst⟩

/-- **An append on the description `fillT c0 D0` that allocates nothing is a page step**, of the last leaf of the
table's skeleton; the root stays. -/
theorem insertAppend_fillT {key lsn : Nat} {buf : Bytes} {t' : Levels} (hins : insertAppend t key lsn buf nf = .ok (t', nf))
    (hkeys : ∀ k ∈ keys t, k < key) (hbig : (nf : Int) ≤ 9223372036854775807)
    (hlsn : ∀ x ∈ flatten t, nodeLSN x.2.1 < lsn) :
    rootOff t' = rootOff t ∧ ∃ c1, setTable (fillT c0 D0) table t' = fillT c1 D0 ∧ (∀ e ∈ D0, PFiled c1 e.2) ∧
      StepC D0 nf c0 ⟨c_OpInsert, lsn, rootOff t, key, buf⟩ c1 := by
  obtain ⟨⟨_, t0⟩, he0, ⟨⟩⟩ := mem_fillT_inv ht
  obtain ⟨pre, p0, l, d, hl, hcp, hv, hcap, rfl⟩ := insertAppend_fill_inv (hsk.lnd _ he0) hins
  obtain ⟨hst, hf1, htb⟩ := (StepKind.ins (nf := nf) pre p0 key lsn buf hl rfl
    (fun x hx => hkeys _ (List.mem_map.mpr ⟨x, hx, rfl⟩)) hv hcap hbig).stepC hsk hf0 he0
    (mem_leafOffs (by rw [hl]; simp)) hcp hlsn
  rw [rootOff_fill (hf0 _ he0)]
  exact ⟨rootOff_fill (hf1 _ he0), _, htb, hf1, hst⟩

end

/-- **What a run from `s` (leaf pages `c0` over the skeleton `D0`) to `sN` that allocates no page amounts
to**: a history of page-local steps, one per log record, that ends in the description of `sN`; the final
row-id counter is the initial one or the key of a logged INSERT. -/
def RunHist (pt sch : Levels) (D0 : List (Bytes × Levels)) (s : Store) (c0 : Pages) (logs : List WalRec)
    (sN : Store) (tblsN : List (Bytes × Levels)) : Prop :=
  ∃ c : Nat → Pages, c 0 = c0 ∧ Hist pt sch D0 s.hdr.nextFree sN.hdr.lastKey logs c ∧
    tblsN = fillT (c logs.length) D0 ∧ Cat sN pt sch tblsN ∧ FreshM sN tblsN ∧
    (sN.hdr.lastKey = s.hdr.lastKey ∨ ∃ r ∈ logs, r.op = c_OpInsert ∧ r.cell = sN.hdr.lastKey) ∧
    s.hdr.lastKey ≤ sN.hdr.lastKey

section
variable {pt sch : Levels} {D0 : List (Bytes × Levels)} {s s1 sN : Store} {c0 : Pages} {logs : List WalRec}
  {tblsN : List (Bytes × Levels)}

/-- it reads the header of `s` only -/
theorem RunHist.of_hdr (hr : RunHist pt sch D0 s1 c0 logs sN tblsN) (e : s1.hdr = s.hdr) :
    RunHist pt sch D0 s c0 logs sN tblsN := by
  unfold RunHist at hr ⊢
  rw [← e]
  exact hr

theorem RunHist.cons {rec : WalRec} {c1 : Pages} (hr : RunHist pt sch D0 s1 c1 logs sN tblsN)
    (h : Cat s pt sch (fillT c0 D0)) (hf0 : ∀ e ∈ D0, PFiled c0 e.2) (hst : StepC D0 s.hdr.nextFree c0 rec c1)
    (hnf : s1.hdr.nextFree = s.hdr.nextFree) (hle : s.hdr.lastKey ≤ s1.hdr.lastKey)
    (hlk : s1.hdr.lastKey = s.hdr.lastKey ∨ ∃ r ∈ [rec], r.op = c_OpInsert ∧ r.cell = s1.hdr.lastKey) :
    RunHist pt sch D0 s c0 (rec :: logs) sN tblsN := by
  obtain ⟨c', a0, a1, a2, a3, a4, a5, a6⟩ := hr
  rw [hnf] at a1
  rw [← a0] at hst
  have hle' : s.hdr.lastKey ≤ sN.hdr.lastKey := Nat.le_trans hle a6
  exact ⟨consP c0 c', rfl, a1.cons hf0 ⟨s, h, rfl, hle'⟩ hst, a2, a3, a4,
    same_or_logged (P := fun r v => r.op = c_OpInsert ∧ r.cell = v) hlk a5, hle'⟩

end

/-- **A live run that allocates no page is a history of page-local steps** (general form: the run
starts from the description `fillT c0 D0`). -/
theorem live_run_hist_gen (sch : Levels) {s sN : Store} {tbls tblsN : List (Bytes × Levels)} {stmts : List RStmt}
    {logs : List WalRec} (run : LiveRunM sch s tbls stmts sN tblsN logs) :
    ∀ (pt : Levels) (D0 : List (Bytes × Levels)) (c0 : Pages), tbls = fillT c0 D0 → (∀ e ∈ D0, PFiled c0 e.2) →
      Skel D0 →
      Cat s pt sch tbls → FreshM s tbls → sN.hdr.nextFree = s.hdr.nextFree →
      RunHist pt sch D0 s c0 logs sN tblsN := by
  intro pt D0 c0 htb hf0 hsk h
  refine run.induct (motive := fun s pt tbls _ logs => ∀ D0 c0, tbls = fillT c0 D0 → (∀ e ∈ D0, PFiled c0 e.2) →
    Skel D0 → FreshM s tbls → sN.hdr.nextFree = s.hdr.nextFree → RunHist pt sch D0 s c0 logs sN tblsN)
    ?_ ?_ pt h D0 c0 htb hf0 hsk
  · intro pt h D0 c0 htb hf0 hsk hf _
    subst htb
    exact ⟨fun _ => c0, rfl, Hist.nil hsk hf0 ⟨sN, h, rfl, Nat.le_refl _⟩, rfl, h, hf, .inl rfl, Nat.le_refl _⟩
  · intro s pt tbls s1 pt1 tbls1 x rest l1 l2 h st hc1 _ _ hrest ih D0 c0 htb hf0 hsk hf hnf
    subst htb
    -- nothing is allocated, by this step or later
    have hnf1 : sN.hdr.nextFree = s1.hdr.nextFree :=
      Nat.le_antisymm (hnf ▸ st.nextFree_le) hrest.logged.2
    have hfr1 := st.freshM hf
    cases st with
    | quiet hs => exact (ih D0 c0 rfl hf0 hsk hfr1 hnf1).of_hdr hs.2
    | cell table t l d r f ht hm hr hpage hany hrl hlsn hlk hnf' hdel =>
      obtain ⟨c1, htb1, hf1, hst⟩ := updLeaves_fillT hsk hf0 ht s.hdr.nextFree (h.tree _ (Cat.tb_mem ht)).2.1.asc hm hr hpage
        hany hdel (by rw [hrl]; exact hf.lsn _ ht)
      exact (ih D0 c1 htb1 hf1 hsk hfr1 hnf1).cons h hf0 hst hnf' (Nat.le_of_eq hlk.symm) (.inl hlk)
    | ins table t t' nf' buf ht hlen hins hd' hl' hbig hlk hnf' hroot hent =>
      have hle := insertAppend_nextFree t t' _ _ _ nf' buf hins
      obtain rfl : nf' = s.hdr.nextFree := by omega
      obtain ⟨hroot', c1, htb1, hf1, hst⟩ := insertAppend_fillT hsk hf0 ht _ hins
        (fun k hk => Nat.lt_succ_of_le ((h.tree _ (Cat.tb_mem ht)).2.2.2.2 k hk)) hbig (hf.lsn _ ht)
      -- the root did not move: no catalogue record
      obtain ⟨rfl, rfl⟩ : pt1 = pt ∧ l1 = [⟨c_OpInsert, s.hdr.nextLSN, rootOff t, s.hdr.lastKey + 1, buf⟩] := by
        rcases hroot with ⟨_, a, _, c⟩ | ⟨hne, _⟩
        · exact ⟨a, c⟩
        · exact absurd hroot' hne
      exact (ih D0 c1 htb1 hf1 hsk hfr1 hnf1).cons h hf0 hst hnf' (by omega)
        (.inr ⟨_, List.mem_singleton.mpr rfl, rfl, hlk.symm⟩)

theorem Cat.skel {s : Store} {pt sch : Levels} {tbls : List (Bytes × Levels)} (h : Cat s pt sch tbls)
    (hf : FreshM s tbls) : Skel tbls where
  names := h.tnames
  disj := h.disj_parts.2.2.2
  lnd := fun e he => (Lookup.offs_split e.2 _ (h.tree e.2 (Cat.tb_mem he)).2.1.offs).1
  pos := fun e he => hf.pos e he _ (rootOff_mem_offs e.2 _ (h.tree e.2 (Cat.tb_mem he)).2.1)

/-- **A live run that allocates no page is a history of page-local steps** over the skeleton of the
description it starts from. -/
theorem live_run_hist (sch : Levels) {s sN : Store} {tbls tblsN : List (Bytes × Levels)} {stmts : List RStmt}
    {logs : List WalRec} (run : LiveRunM sch s tbls stmts sN tblsN logs) (pt : Levels)
    (h : Cat s pt sch tbls) (hf : FreshM s tbls) (hnf : sN.hdr.nextFree = s.hdr.nextFree) :
    ∃ c : Nat → Pages, Hist pt sch tbls s.hdr.nextFree sN.hdr.lastKey logs c ∧ fillT (c 0) tbls = tbls ∧
      tblsN = fillT (c logs.length) tbls ∧ Cat sN pt sch tblsN ∧ FreshM sN tblsN ∧
      (sN.hdr.lastKey = s.hdr.lastKey ∨ ∃ r ∈ logs, r.op = c_OpInsert ∧ r.cell = sN.hdr.lastKey) ∧
      s.hdr.lastKey ≤ sN.hdr.lastKey := by
  have hsk := h.skel hf
  have hfill := fillT_pageOf hsk.disj hsk.lnd
  obtain ⟨c, a0, a1, a2, a3, a4, a5, a6⟩ := live_run_hist_gen sch run pt tbls (pageOf tbls) hfill.symm
    (pFiled_pageOf hsk.disj hsk.lnd) hsk h hf hnf
  exact ⟨c, a1, by rw [a0]; exact hfill, a2, a3, a4, a5, a6⟩

/-- **A chain of runs with its boundary databases, no page allocated**: each segment is a `SpecRun`; the
allocation frontier at every boundary is the one of the start. -/
inductive SpecRunsNA (sch : Levels) : Engine.DB → Spec.SDB → List Engine.DB → Engine.DB → Spec.SDB → Prop
  | nil (db : Engine.DB) (sdb : Spec.SDB) : SpecRunsNA sch db sdb [] db sdb
  | cons {db db1 dbN : Engine.DB} {sdb sdb1 sdbN : Spec.SDB} {stmts : List EStmt} {mids : List Engine.DB}
      (run : SpecRun sch db sdb stmts db1 sdb1) (hnf : db1.store.hdr.nextFree = db.store.hdr.nextFree)
      (rest : SpecRunsNA sch db1 sdb1 mids dbN sdbN) : SpecRunsNA sch db sdb (db1 :: mids) dbN sdbN

/-- **A chain of runs without allocation is one history**; the boundary databases hold moments of it. -/
theorem spec_runs_hist (sch : Levels) {db dbN : Engine.DB} {sdb sdbN : Spec.SDB} {mids : List Engine.DB}
    (runs : SpecRunsNA sch db sdb mids dbN sdbN) :
    ∀ (pt : Levels) (D0 : List (Bytes × Levels)) (c0 : Pages) (tbls : List (Bytes × Levels)),
      tbls = fillT c0 D0 → (∀ e ∈ D0, PFiled c0 e.2) →
      Skel D0 →
      AbsV db.store pt sch tbls sdb → FreshM db.store tbls →
      (∀ r ∈ db.wal, AppliedC pt sch tbls r) → (∀ r ∈ db.wal, r.lsn < db.store.hdr.nextLSN) →
      ∃ (c : Nat → Pages) (logs : List WalRec) (tblsN : List (Bytes × Levels)), c 0 = c0 ∧
        Hist pt sch D0 db.store.hdr.nextFree dbN.store.hdr.lastKey logs c ∧ dbN.wal = db.wal ++ logs ∧
        tblsN = fillT (c logs.length) D0 ∧ AbsV dbN.store pt sch tblsN sdbN ∧ FreshM dbN.store tblsN ∧
        (dbN.store.hdr.lastKey = db.store.hdr.lastKey ∨
          ∃ r ∈ logs, r.op = c_OpInsert ∧ r.cell = dbN.store.hdr.lastKey) ∧
        db.store.hdr.lastKey ≤ dbN.store.hdr.lastKey ∧
        (∀ dbm ∈ db :: mids, ∃ j, j ≤ logs.length ∧ Cat dbm.store pt sch (fillT (c j) D0)) ∧
        (∀ r ∈ dbN.wal, AppliedC pt sch tblsN r) ∧ (∀ r ∈ dbN.wal, r.lsn < dbN.store.hdr.nextLSN) ∧
        (dbN.store.hdr.nextLSN = db.store.hdr.nextLSN ∨ ∃ r ∈ logs, dbN.store.hdr.nextLSN = r.lsn + 1) ∧
        dbN.store.hdr.nextFree = db.store.hdr.nextFree := by
  induction runs with
  | nil db sdb =>
    intro pt D0 c0 tbls htb hf0 hsk hA hf hlog hlsn
    subst htb
    exact ⟨fun _ => c0, [], _, rfl, Hist.nil hsk hf0 ⟨db.store, hA.cat, rfl, Nat.le_refl _⟩, by simp, rfl,
      hA, hf, .inl rfl, Nat.le_refl _, List.forall_mem_singleton.mpr ⟨0, Nat.le_refl _, hA.cat⟩, hlog, hlsn,
      .inl rfl, rfl⟩
  | @cons db db1 dbN sdb sdb1 sdbN stmts mids run hnf1 _ ih =>
    intro pt D0 c0 tbls htb hf0 hsk hA hf hlog hlsn
    obtain ⟨ptN, tbls1, stmtsM, logsA, hrunA, hwA, hA1⟩ := spec_run_live sch run pt tbls hA
    obtain ⟨cA, a0, HA, htb1, hcat1, hfr1, hlk1, hle1⟩ := live_run_hist_gen sch hrunA pt D0 c0 htb hf0 hsk
      hA.cat hf hnf1
    obtain ⟨ptA, hcatA, hlog1, hlsn1, hnx1⟩ := live_run_applied sch hrunA pt db.wal hA.cat hlog hlsn
    -- no page allocated: the page table at the boundary is the one of the start
    obtain rfl : ptA = pt := hcatA.pt_unique hcat1
    obtain rfl : ptN = ptA := hA1.cat.pt_unique hcat1
    rw [← hwA] at hlog1 hlsn1
    obtain ⟨cB, logsB, tblsN, b0, HB, hwB, htbN, hAN, hfrN, hlkN, hleN, hbd, hlogN, hlsnN, hnxN, hnfN⟩ :=
      ih ptN D0 (cA logsA.length) tbls1 htb1 (HA.filed _ (Nat.le_refl _)) hsk hA1 hfr1 hlog1 hlsn1
    rw [hnf1] at HB
    have HAB := (HA.mono_K hleN).append HB b0
    refine ⟨appP cA logsA.length cB, logsA ++ logsB, tblsN, ?_, HAB, ?_, ?_, hAN, hfrN, ?_, by omega, ?_, hlogN, hlsnN,
      ?_, by rw [hnfN, hnf1]⟩
    · rw [appP_le (Nat.zero_le _)]; exact a0
    · rw [hwB, hwA, List.append_assoc]
    · rw [htbN, List.length_append, appP_add b0]
    · exact same_or_logged (P := fun r v => r.op = c_OpInsert ∧ r.cell = v) hlk1 hlkN
    · intro dbm hm
      rcases List.mem_cons.mp hm with rfl | hm
      · refine ⟨0, Nat.zero_le _, ?_⟩
        rw [appP_le (Nat.zero_le _), a0, ← htb]
        exact hA.cat
      · obtain ⟨j, hj, hc⟩ := hbd dbm hm
        refine ⟨logsA.length + j, by rw [List.length_append]; omega, ?_⟩
        rw [appP_add b0]
        exact hc
    · exact same_or_logged (P := fun r v => v = r.lsn + 1) hnx1 hnxN

end Mkdb.Store
