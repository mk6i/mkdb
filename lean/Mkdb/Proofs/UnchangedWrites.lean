import Mkdb.Proofs.UnchangedReadOnly
/-!
C14: errors of the write paths.  `ErrIn P m`: every error `m` can return satisfies `P` (`NoErr` = none at
all).  `ErrRO m`: every error outcome of `m` leaves a well-filed store with the same data.  `Refuses P m`:
both.  The tree insert (`insertLeaf`, `insertInternal`, `insertKeyHeap`, `insertKey`, `btInsert`) refuses a
duplicate key or a value that is too long, and nothing else: an error can only arise before the first
`putNode`.  `insert` in two phases (`insertApply`, `insertFinish`): a refused row changes nothing
(`insert_err`).  Then DELETE and UPDATE rows that are refused.
-/

section
set_option autoImplicit false
namespace Mkdb.Store
open Mkdb.Page Mkdb.Tuple Mkdb.Generated Mkdb.Bin

/-! ### which errors can come out -/

def ErrIn {α} (P : SErr → Prop) (m : SM α) : Prop := ∀ s e s', m s = .err e s' → P e

abbrev NoErr {α} (m : SM α) : Prop := ErrIn (fun _ => False) m

theorem ErrIn.mono {α} {P Q : SErr → Prop} {m : SM α} (h : ErrIn P m) (hpq : ∀ e, P e → Q e) :
    ErrIn Q m := fun s e s' he => hpq e (h s e s' he)

theorem NoErr.errIn {α} {P : SErr → Prop} {m : SM α} (h : NoErr m) : ErrIn P m :=
  h.mono (fun _ hf => hf.elim)

theorem ErrIn.bind {α β} {P : SErr → Prop} {m : SM α} {f : α → SM β} (hm : ErrIn P m)
    (hf : ∀ a, ErrIn P (f a)) : ErrIn P (m >>= f) := by
  intro s e s' h
  rcases bind_eq_err h with h1 | ⟨a, s1, _, h2⟩
  · exact hm _ _ _ h1
  · exact hf a _ _ _ h2

theorem ErrIn.ite {α} {P : SErr → Prop} {c : Prop} [Decidable c] {a b : SM α}
    (ha : c → ErrIn P a) (hb : ¬ c → ErrIn P b) : ErrIn P (if c then a else b) := by
  split
  · exact ha ‹_›
  · exact hb ‹_›

theorem ErrIn.pure {α} {P : SErr → Prop} (a : α) : ErrIn P (pure a : SM α) := by
  intro s e s' h; cases h

theorem ErrIn.throw {α} {P : SErr → Prop} {e : SErr} (h : P e) : ErrIn P (throw e : SM α) := by
  intro s e' s' h'; cases h'; exact h

theorem ErrIn.getS {P : SErr → Prop} : ErrIn P getS := by
  intro s e s' h; cases h

theorem ErrIn.modifyS {P : SErr → Prop} (f : Store → Store) : ErrIn P (modifyS f) := by
  intro s e s' h; cases h

theorem ErrIn.panicS {α} {P : SErr → Prop} (w : String) : ErrIn P (panicS w : SM α) := by
  intro s e s' h; cases h

theorem ErrIn.unmodelledS {α} {P : SErr → Prop} (w : String) : ErrIn P (unmodelledS w : SM α) := by
  intro s e s' h; cases h

theorem ErrIn.outOfFuel {α} {P : SErr → Prop} : ErrIn P (outOfFuel : SM α) := by
  intro s e s' h; cases h

theorem ErrIn.fetch {P : SErr → Prop} (off : Nat) : ErrIn P (fetch off) := by
  intro s e s' h
  obtain ⟨n, s1, h1⟩ := fetch_ok_or off s
  rw [h1] at h; cases h

theorem ErrIn.putNode {P : SErr → Prop} (n : Node) (d : Option Bool) : ErrIn P (putNode n d) := by
  intro s e s' h; cases h

theorem ErrIn.appendNode {P : SErr → Prop} (n : Node) (d : Bool) : ErrIn P (appendNode n d) := by
  intro s e s' h; cases h

theorem ErrIn.markDirty {P : SErr → Prop} (off lsn : Nat) : ErrIn P (markDirty off lsn) := by
  intro s e s' h
  unfold Store.markDirty at h
  split at h <;> cases h

theorem ErrIn.decodeRow {P : SErr → Prop} (hP : P .decode) (sch : List FieldDef) (bs : Bytes) :
    ErrIn P (decodeRow sch bs) := by
  intro s e s' h
  unfold Store.decodeRow at h
  split at h <;> cases h
  exact hP

theorem ErrIn.encodeRow {P : SErr → Prop} (h1 : P .typeMismatch) (h2 : P .intOutOfRange)
    (h3 : P .decode) (sch : List FieldDef) (m : Vals) : ErrIn P (encodeRow sch m) := by
  intro s e s' h
  unfold Store.encodeRow at h
  split at h <;> cases h <;> assumption

/-- `ErrIn P` is kept by sequencing and by every primitive: none of them returns an error.  So no
piece of the tree insert after its first page write can fail, and a scan cannot. -/
theorem ErrIn.closed {P : SErr → Prop} : ClosedAllocs fun {α} (m : SM α) => ErrIn P m where
  pure := ErrIn.pure
  bind := ErrIn.bind
  panicS := ErrIn.panicS
  unmodelledS := ErrIn.unmodelledS
  outOfFuel := ErrIn.outOfFuel
  fetch := ErrIn.fetch
  putNode := ErrIn.putNode
  markDirty := ErrIn.markDirty
  appendNode := ErrIn.appendNode

/-! ### errors that change nothing -/

def ErrRO {α} (m : SM α) : Prop :=
  ∀ s e s', Filed s → m s = .err e s' → Filed s' ∧ SameData s s'

theorem ReadOnly.errRO {α} {m : SM α} (h : ReadOnly m) : ErrRO m :=
  fun _ _ _ hf he => h.err hf he

theorem NoErr.errRO {α} {m : SM α} (h : NoErr m) : ErrRO m :=
  fun s e s' _ he => (h s e s' he).elim

theorem ErrRO.bind_ro {α β} {m : SM α} {f : α → SM β} (hm : ReadOnly m) (hf : ∀ a, ErrRO (f a)) :
    ErrRO (m >>= f) := by
  intro s e s' hs h
  rcases bind_eq_err h with h1 | ⟨a, s1, h1, h2⟩
  · exact hm.err hs h1
  · obtain ⟨f1, d1⟩ := hm.ok hs h1
    obtain ⟨f2, d2⟩ := hf a _ _ _ f1 h2
    exact ⟨f2, d1.trans d2⟩

theorem ErrRO.bind_noErr {α β} {m : SM α} {f : α → SM β} (hm : ErrRO m) (hf : ∀ a, NoErr (f a)) :
    ErrRO (m >>= f) := by
  intro s e s' hs h
  rcases bind_eq_err h with h1 | ⟨a, s1, _, h2⟩
  · exact hm _ _ _ hs h1
  · exact (hf a _ _ _ h2).elim

theorem ErrRO.ite {α} {c : Prop} [Decidable c] {a b : SM α} (ha : ErrRO a) (hb : ErrRO b) :
    ErrRO (if c then a else b) := by
  split <;> assumption

/-! ### an error names its reason and changes nothing -/

def Refuses {α} (P : SErr → Prop) (m : SM α) : Prop :=
  ∀ s e s', m s = .err e s' → P e ∧ (Filed s → Filed s' ∧ SameData s s')

section
variable {P : SErr → Prop}

theorem Refuses.errIn {α} {m : SM α} (h : Refuses P m) : ErrIn P m := fun s e s' he => (h s e s' he).1

theorem Refuses.errRO {α} {m : SM α} (h : Refuses P m) : ErrRO m := fun s e s' hf he => (h s e s' he).2 hf

theorem Refuses.of_parts {α} {m : SM α} (h1 : ErrIn P m) (h2 : ErrRO m) : Refuses P m :=
  fun s e s' he => ⟨h1 s e s' he, fun hf => h2 s e s' hf he⟩

theorem NoErr.refuses {α} {m : SM α} (h : NoErr m) : Refuses P m := fun s e s' he => (h s e s' he).elim

theorem Refuses.throw {α} {e : SErr} (h : P e) : Refuses P (throw e : SM α) :=
  .of_parts (ErrIn.throw h) (ReadOnly.throw e).errRO

theorem Refuses.ite {α} {c : Prop} [Decidable c] {a b : SM α} (ha : c → Refuses P a) (hb : ¬ c → Refuses P b) :
    Refuses P (if c then a else b) := by
  split
  · exact ha ‹_›
  · exact hb ‹_›

theorem Refuses.after_reads {α β} {m : SM α} {f : α → SM β} (hm : ReadOnly m) (hP : ErrIn P m)
    (hf : ∀ a, Refuses P (f a)) : Refuses P (m >>= f) :=
  .of_parts (hP.bind fun a => (hf a).errIn) (ErrRO.bind_ro hm fun a => (hf a).errRO)

theorem Refuses.then_noErr {α β} {m : SM α} {f : α → SM β} (hm : Refuses P m) (hf : ∀ a, NoErr (f a)) :
    Refuses P (m >>= f) :=
  .of_parts (hm.errIn.bind fun a => (hf a).errIn) (ErrRO.bind_noErr hm.errRO hf)

end

/-! ### the tree insert -/

/-- the two reasons for which the tree insert refuses a row: the key is there already, or the value does not fit a cell -/
def TreeRefusal (value : Bytes) (e : SErr) : Prop :=
  e = .keyExists ∨ (e = .rowTooLarge ∧ value.length > c_maxValueSize)

theorem TreeRefusal.elim {value : Bytes} {e : SErr} {Q : SErr → Prop} (h : TreeRefusal value e)
    (hk : Q .keyExists) (hr : value.length > c_maxValueSize → Q .rowTooLarge) : Q e := by
  rcases h with rfl | ⟨rfl, hl⟩
  · exact hk
  · exact hr hl

theorem Refuses.insertLeaf (parent : Option Nat) (cur : Leaf) (key lsn : Nat) (value : Bytes) (root : RootOff) :
    Refuses (TreeRefusal value) (insertLeaf parent cur key lsn value root) := by
  rw [insertLeaf_eq]
  exact .ite (fun _ => .throw (.inl rfl)) fun _ => .ite (fun hl => .throw (.inr ⟨rfl, hl⟩)) fun _ =>
    .ite (fun _ => NoErr.refuses (ErrIn.unmodelledS _)) fun _ => .ite (fun _ => NoErr.refuses (ErrIn.unmodelledS _))
      fun _ => NoErr.refuses (ErrIn.closed.leafWrite parent (Tree.leafApp cur key lsn value) lsn root)

/-- an error of `insertInternal` is the duplicate-key refusal at this level or an error handed up
unchanged from the child level; after the child level has succeeded nothing can fail -/
theorem Refuses.insertInternal (key lsn : Nat) (value : Bytes) : ∀ (fuel : Nat) (parent : Option Nat)
    (cur : Internal) (root : RootOff), Refuses (TreeRefusal value) (insertInternal fuel parent cur key lsn value root)
  | 0, _, _, _ => NoErr.refuses ErrIn.outOfFuel
  | fuel+1, parent, cur, root => by
    rw [insertInternal_eq]
    refine .ite (fun _ => .throw (.inl rfl)) fun _ => .after_reads (ReadOnly.fetch _) (ErrIn.fetch _) fun child => ?_
    cases child with
    | leaf l => exact (Refuses.insertLeaf _ _ _ _ _ _).then_noErr fun _ => ErrIn.closed.afterChild _ _ _ _
    | internal i =>
      exact (Refuses.insertInternal key lsn value fuel _ _ _).then_noErr fun _ => ErrIn.closed.afterChild _ _ _ _

theorem Refuses.insertKeyHeap (bt : BT) (key lsn : Nat) (value : Bytes) :
    Refuses (TreeRefusal value) (insertKeyHeap bt key lsn value) := by
  unfold Store.insertKeyHeap
  refine .after_reads (ReadOnly.fetch _) (ErrIn.fetch _) fun pg => ?_
  cases pg with
  | leaf l => exact (Refuses.insertLeaf _ _ _ _ _ _).then_noErr fun _ => ErrIn.pure _
  | internal i => exact (Refuses.insertInternal _ _ _ _ _ _ _).then_noErr fun _ => ErrIn.pure _

/-- the cross-check against the levels model only ever bumps the `ghost` counter -/
theorem Refuses.insertKey (bt : BT) (key lsn : Nat) (value : Bytes) :
    Refuses (TreeRefusal value) (insertKey bt key lsn value) := by
  intro s e s' he
  obtain ⟨g, hg, e1⟩ := insertKey_eq_map bt key lsn value s
  rw [e1] at he
  obtain ⟨s1, he1, rfl⟩ := SRes.map_eq_err he
  obtain ⟨hp, hro⟩ := Refuses.insertKeyHeap bt key lsn value s e s1 he1
  rcases hg with rfl | rfl
  · exact ⟨hp, hro⟩
  · exact ⟨hp, fun hf => ⟨(hro hf).1, (hro hf).2.trans (SameData.counters s1 _ _ (s1.ghost + 1))⟩⟩

theorem insertKey_errRO (bt : BT) (key lsn : Nat) (value : Bytes) :
    ErrRO (insertKey bt key lsn value) :=
  (Refuses.insertKey bt key lsn value).errRO

/-- **An error of `BTree.insert`** is `keyExists`, or `rowTooLarge` for a value that really is longer than
`c_maxValueSize`, and only the key, LSN and ghost counters moved. -/
theorem Refuses.btInsert (bt : BT) (value : Bytes) : Refuses (TreeRefusal value) (btInsert bt value) := by
  intro s e s' he
  rw [btInsert_eq_map] at he
  obtain ⟨s1, he1, rfl⟩ := SRes.map_eq_err he
  obtain ⟨hp, hro⟩ := Refuses.insertKey bt _ _ value s e s1 he1
  exact ⟨hp, fun hf => ⟨(hro hf).1, (hro hf).2.trans (SameData.counters s1 _ _ s1.ghost)⟩⟩

/-! ### the error codes of the tree insert, read off `Refuses` -/

theorem ErrIn.insertLeaf {P : SErr → Prop} (hk : P .keyExists) (parent : Option Nat) (cur : Leaf)
    (key lsn : Nat) (value : Bytes) (root : RootOff)
    (hr : value.length > c_maxValueSize → P .rowTooLarge) :
    ErrIn P (insertLeaf parent cur key lsn value root) :=
  (Refuses.insertLeaf parent cur key lsn value root).errIn.mono fun _ he => he.elim hk hr

theorem ErrIn.insertInternal {P : SErr → Prop} (hk : P .keyExists)
    (fuel : Nat) (parent : Option Nat) (cur : Internal) (key lsn : Nat) (value : Bytes)
    (root : RootOff) (hr : value.length > c_maxValueSize → P .rowTooLarge) :
    ErrIn P (insertInternal fuel parent cur key lsn value root) :=
  (Refuses.insertInternal key lsn value fuel parent cur root).errIn.mono fun _ he => he.elim hk hr

theorem ErrIn.insertKeyHeap {P : SErr → Prop} (hk : P .keyExists)
    (bt : BT) (key lsn : Nat) (value : Bytes) (hr : value.length > c_maxValueSize → P .rowTooLarge) :
    ErrIn P (insertKeyHeap bt key lsn value) :=
  (Refuses.insertKeyHeap bt key lsn value).errIn.mono fun _ he => he.elim hk hr

theorem ErrIn.insertKey {P : SErr → Prop} (hk : P .keyExists)
    (bt : BT) (key lsn : Nat) (value : Bytes) (hr : value.length > c_maxValueSize → P .rowTooLarge) :
    ErrIn P (insertKey bt key lsn value) :=
  (Refuses.insertKey bt key lsn value).errIn.mono fun _ he => he.elim hk hr

theorem btInsert_fits (bt : BT) (value : Bytes) (h : value.length ≤ c_maxValueSize) :
    ErrIn (fun e => e = .keyExists) (btInsert bt value) :=
  (Refuses.btInsert bt value).errIn.mono fun _ he =>
    he.elim (Q := fun e => e = .keyExists) rfl fun hgt => absurd h (by omega)

/-! ### what a value returned with `.ok` satisfies: `OkPost` -/

/-- every value `m` returns with `.ok` satisfies `Q`: what `ErrIn.bind_post` passes on to the rest of a `bind` whose
error codes depend on it -/
def OkPost {α} (Q : α → Prop) (m : SM α) : Prop := ∀ s a s', m s = .ok a s' → Q a

theorem ErrIn.bind_post {α β} {P : SErr → Prop} {Q : α → Prop} {m : SM α} {f : α → SM β}
    (hq : OkPost Q m) (hm : ErrIn P m) (hf : ∀ a, Q a → ErrIn P (f a)) : ErrIn P (m >>= f) := by
  intro s e s' h
  rcases bind_eq_err h with h1 | ⟨a, s1, h1, h2⟩
  · exact hm _ _ _ h1
  · exact hf a (hq _ _ _ h1) _ _ _ h2

theorem OkPost.findFirstM {α β} {f : α → SM (Option β)} {Q : β → Prop}
    (hf : ∀ a, OkPost (fun r => ∀ b, r = some b → Q b) (f a)) (l : List α) :
    OkPost (fun r => ∀ b, r = some b → Q b) (findFirstM f l) := by
  induction l with
  | nil => intro s a s' h b hb; cases h; cases hb
  | cons a rest ih =>
    intro s r s' h
    unfold Store.findFirstM at h
    obtain ⟨r1, s1, h1, h2⟩ := bind_eq_ok h
    cases r1 with
    | some b1 =>
      cases h2
      exact hf a _ _ _ h1
    | none => exact ih _ _ _ h2

/-! ### the errors of `updatePageTable` -/

theorem ErrIn.findFirstM {α β} {P : SErr → Prop} {f : α → SM (Option β)}
    (hf : ∀ a, ErrIn P (f a)) (l : List α) : ErrIn P (findFirstM f l) :=
  ErrIn.closed.findFirstM hf l

theorem ErrIn.scanLeaves {P : SErr → Prop} (fuel : Nat) (l : Leaf) : ErrIn P (scanLeaves fuel l) :=
  ErrIn.closed.scanLeaves fuel l

theorem ErrIn.scanRight {P : SErr → Prop} (root : Nat) : ErrIn P (scanRight root) :=
  ErrIn.closed.scanRight root

/-- `updateCellAt` refuses a value only if it really is longer than `c_maxValueSize` -/
theorem ErrIn.updateCellAt' {P : SErr → Prop} (h2 : P .cellNotFound)
    (off key : Nat) (value : Bytes) (lsn : Nat) (h1 : value.length > c_maxValueSize → P .rowTooLarge) :
    ErrIn P (Store.updateCellAt off key value lsn) :=
  ErrIn.closed.updateCellAt off key value lsn (fun hl => ErrIn.throw (h1 hl)) (ErrIn.throw h2)

theorem ErrIn.updateCellAt {P : SErr → Prop} (h1 : P .rowTooLarge) (h2 : P .cellNotFound)
    (off key : Nat) (value : Bytes) (lsn : Nat) : ErrIn P (updateCellAt off key value lsn) :=
  ErrIn.updateCellAt' h2 off key value lsn fun _ => h1

theorem OkPost.encodeRow (sch : List FieldDef) (m : Vals) :
    OkPost (fun b => encodeTuple sch m = .ok b) (encodeRow sch m) := by
  intro s b s' h
  unfold Store.encodeRow at h
  split at h <;> cases h
  assumption

theorem encodeRow_noErr {P : SErr → Prop} {sch : List FieldDef} {m : Vals}
    (h : ∃ b, encodeTuple sch m = .ok b) : ErrIn P (Store.encodeRow sch m) := by
  intro s e s' he
  obtain ⟨b, hb⟩ := h
  unfold Store.encodeRow at he
  rw [hb] at he
  cases he

/-- `updatePageTable` fails only if the entry is missing, a catalog row does not decode or the cell
has gone - or, for a name that leaves no room in a cell (`name.length + 14 > 400`), because the
re-encoded row, `ptRow name newRoot` (the name is the string that was just compared, the
offset a `bigint` without range check), is too large -/
theorem ErrIn.updatePageTable {P : SErr → Prop} (hm : P .pageTableEntryMissing) (hd : P .decode)
    (hn : P .cellNotFound) (newRoot : Nat) (name : Bytes)
    (hl : name.length + 14 > c_maxValueSize → P .rowTooLarge) :
    ErrIn P (Store.updatePageTable newRoot name) := by
  unfold Store.updatePageTable
  refine ErrIn.bind ErrIn.getS (fun s => ?_)
  refine ErrIn.bind (ErrIn.scanRight _) (fun cells => ?_)
  refine ErrIn.bind_post (Q := fun r => ∀ b, r = some b →
      (Tuple.get b.2 "table_name" == Val.str name) = true) ?_ ?_ ?_
  · apply OkPost.findFirstM
    intro c s r s' h b hb
    obtain ⟨m, s1, _, h2⟩ := bind_eq_ok h
    split at h2
    · rename_i hc; cases h2; cases hb; exact hc
    · cases h2; cases hb
  · apply ErrIn.findFirstM
    intro c
    refine ErrIn.bind (ErrIn.decodeRow hd _ _) (fun m => ?_)
    split <;> exact ErrIn.pure _
  · intro hit hq
    split
    · exact ErrIn.throw hm
    · rename_i c m
      have hc : Tuple.get m "table_name" = Val.str name := by simpa using hq _ rfl
      have g1 : Tuple.get (("file_offset", Val.int newRoot) :: m) "table_name" = Val.str name := by
        rw [← hc]; simp [Tuple.get]
      have g2 : Tuple.get (("file_offset", Val.int (newRoot : Int)) :: m) "file_offset"
          = Val.int newRoot := by simp [Tuple.get]
      have henc := encode_ptRow _ name newRoot g1 g2
      refine ErrIn.bind_post (OkPost.encodeRow _ _) (encodeRow_noErr ⟨_, henc⟩) (fun buf hbuf => ?_)
      have hlen : buf.length = name.length + 14 := by
        rw [henc] at hbuf
        cases hbuf
        exact ptRow_length _ _
      refine ErrIn.bind ErrIn.getS (fun s => ?_)
      refine ErrIn.bind (ErrIn.updateCellAt' hn _ _ _ _ (fun hgt => hl (by omega))) (fun _ => ?_)
      exact ErrIn.bind (ErrIn.modifyS _) fun _ => ErrIn.pure _

theorem ErrIn.relationOffset {P : SErr → Prop} (hd : P .decode) (hn : P .tableNotExist)
    (name : Bytes) : ErrIn P (relationOffset name) := by
  unfold Store.relationOffset
  refine ErrIn.bind ErrIn.getS (fun s => ?_)
  refine ErrIn.bind (ErrIn.scanRight _) (fun cells => ?_)
  refine ErrIn.bind ?_ (fun hit => ?_)
  · apply ErrIn.findFirstM
    intro c
    refine ErrIn.bind (ErrIn.decodeRow hd _ _) fun m => ErrIn.ite (fun _ => ?_) fun _ => ErrIn.pure _
    split
    · exact ErrIn.pure _
    · exact ErrIn.panicS _
  · split
    · exact ErrIn.pure _
    · exact ErrIn.throw hn

/-- `updatePageTable` can only fail with one of these four errors -/
def CatalogErr (e : SErr) : Prop :=
  e = .pageTableEntryMissing ∨ e = .decode ∨ e = .rowTooLarge ∨ e = .cellNotFound

theorem updatePageTable_errIn (newRoot : Nat) (name : Bytes) :
    ErrIn CatalogErr (updatePageTable newRoot name) :=
  ErrIn.updatePageTable (.inl rfl) (.inr (.inl rfl)) (.inr (.inr (.inr rfl))) _ _
    fun _ => .inr (.inr (.inl rfl))

theorem updatePageTable_errIn_short (newRoot : Nat) (name : Bytes)
    (hname : name.length + 14 ≤ c_maxValueSize) :
    ErrIn (fun e => e = .pageTableEntryMissing ∨ e = .decode ∨ e = .cellNotFound)
      (updatePageTable newRoot name) :=
  ErrIn.updatePageTable (.inl rfl) (.inr (.inl rfl)) (.inr (.inr rfl)) _ _
    fun hgt => absurd hname (by omega)

/-! ### `insert` in two phases -/

/-- The phase of `insert` up to and including the tree insert: look the table and its schema up,
build and encode the row, `btInsert`.  Every refusal of a row (unknown table, column count,
type mismatch, integer out of range, oversized row, duplicate key) is an error of this phase. -/
def insertApply (table : Bytes) (cols : List String) (vals : List Val) :
    SM (Nat × Bytes × BT × Nat × Nat) := do
  let off ← relationOffset table
  let _ ← fetch off
  let schema ← relationSchema table
  let cols := if cols.isEmpty then schema.map (·.name) else cols
  if cols.length != vals.length then throw .colCountMismatch else
  match checkColumns schema cols with
  | some e => throw e
  | none =>
  let m : Vals := (cols.zip vals).reverse
  let buf ← encodeRow schema m
  let (bt, id, lsn) ← btInsert ⟨off⟩ buf
  pure (off, buf, bt, id, lsn)

/-- the rest of `insert`: the log record, and the catalog entry when the root moved -/
def insertFinish (table : Bytes) : Nat × Bytes × BT × Nat × Nat → SM (List WalRec)
  | (off, buf, bt, id, lsn) =>
    let rec1 : WalRec := ⟨c_OpInsert, lsn, off, id, buf⟩
    if bt.root != off then do
      let logs ← updatePageTable bt.root table
      pure (rec1 :: logs)
    else pure [rec1]

-- stated here: `simp` finds the `match` of `insertApply` only through the matcher of this module
theorem optErr_bind {α β} (o : Option SErr) (b : SM α) (f : α → SM β) :
    (match o with | some e => throw e | none => b) >>= f =
      match o with | some e => throw e | none => b >>= f := by
  cases o <;> rfl

theorem insert_eq_apply_finish (table : Bytes) (cols : List String) (vals : List Val) :
    insert table cols vals = insertApply table cols vals >>= insertFinish table := by
  unfold insert insertApply
  simp only [bind_assoc', ite_bind, throw_bind, optErr_bind, pure_bind', insertFinish]
  rfl

theorem insertApply_errRO (table : Bytes) (cols : List String) (vals : List Val) :
    ErrRO (insertApply table cols vals) := by
  unfold insertApply
  refine ErrRO.bind_ro (ReadOnly.relationOffset _) (fun off => ?_)
  refine ErrRO.bind_ro (ReadOnly.fetch _) (fun _ => ?_)
  refine ErrRO.bind_ro (ReadOnly.relationSchema _) (fun schema => ?_)
  conv => arg 1; zeta
  refine ErrRO.ite ?_ ?_
  · exact (ReadOnly.throw _).errRO
  · split
    · exact (ReadOnly.throw _).errRO
    · refine ErrRO.bind_ro (ReadOnly.encodeRow _ _) (fun buf => ?_)
      exact ErrRO.bind_noErr (Refuses.btInsert _ _).errRO (fun _ => ErrIn.pure _)

theorem insert_err_before_apply (table : Bytes) (cols : List String) (vals : List Val) (s : Store)
    (e : SErr) (s' : Store) (hf : Filed s) (h : insertApply table cols vals s = .err e s') :
    insert table cols vals s = .err e s' ∧ Filed s' ∧ SameData s s' := by
  refine ⟨?_, insertApply_errRO table cols vals s e s' hf h⟩
  rw [insert_eq_apply_finish]
  exact bind_err h

/-- the only other way `insert` can fail: the row is in, the root moved, the catalog update failed -/
theorem insert_err_after_apply (table : Bytes) (cols : List String) (vals : List Val) (s : Store)
    (e : SErr) (s' : Store) (h : insert table cols vals s = .err e s') :
    insertApply table cols vals s = .err e s' ∨
    ∃ off buf bt id lsn s1, insertApply table cols vals s = .ok (off, buf, bt, id, lsn) s1 ∧
      bt.root ≠ off ∧ updatePageTable bt.root table s1 = .err e s' ∧ CatalogErr e := by
  rw [insert_eq_apply_finish] at h
  rcases bind_eq_err h with h1 | ⟨⟨off, buf, bt, id, lsn⟩, s1, h1, h2⟩
  · exact .inl h1
  · refine .inr ⟨off, buf, bt, id, lsn, s1, h1, ?_⟩
    unfold insertFinish at h2
    simp only at h2
    split at h2
    · rename_i hroot
      rcases bind_eq_err h2 with h3 | ⟨logs, s2, _, h3⟩
      · exact ⟨by simpa using hroot, h3, updatePageTable_errIn _ _ _ _ _ h3⟩
      · cases h3
    · cases h2

/-- A refused INSERT row - unknown table, column-count mismatch, unknown or repeated column name,
type mismatch, out-of-range integer, duplicate key - leaves every page, every dirty bit, the data file, the header on disk and
the location fields of the header as they were: none of these codes can come from the catalog update. -/
theorem insert_err (table : Bytes) (cols : List String) (vals : List Val) (s : Store)
    (e : SErr) (s' : Store) (hf : Filed s) (h : insert table cols vals s = .err e s')
    (he : e = .tableNotExist ∨ e = .colCountMismatch ∨ e = .typeMismatch ∨ e = .intOutOfRange ∨
          e = .keyExists ∨ e = .fieldNotFound ∨ e = .fieldAmbiguous) :
    Filed s' ∧ SameData s s' := by
  rcases insert_err_after_apply table cols vals s e s' h with h1 | ⟨_, _, _, _, _, _, _, _, _, hc⟩
  · exact (insert_err_before_apply table cols vals s e s' hf h1).2
  · unfold CatalogErr at hc
    rcases he with rfl | rfl | rfl | rfl | rfl | rfl | rfl <;> rcases hc with hc | hc | hc | hc <;> cases hc

/-- For a table whose name leaves room in a catalog cell
(`table.length + 14 ≤ 400`; the engine cannot create any other), an INSERT row refused with
`rowTooLarge` changes nothing: the only other source of that code, the catalog update, is excluded. -/
theorem insert_err_rowTooLarge (table : Bytes) (cols : List String) (vals : List Val) (s : Store)
    (s' : Store) (hf : Filed s) (hname : table.length + 14 ≤ c_maxValueSize)
    (h : insert table cols vals s = .err .rowTooLarge s') : Filed s' ∧ SameData s s' := by
  rcases insert_err_after_apply table cols vals s _ s' h with h1 | ⟨_, _, _, _, _, _, _, _, h6, _⟩
  · exact (insert_err_before_apply table cols vals s _ s' hf h1).2
  · have hc := updatePageTable_errIn_short _ _ hname _ _ _ h6
    rcases hc with hc | hc | hc <;> cases hc

end Mkdb.Store
end

section
/-! ### DELETE and UPDATE rows that are refused -/
set_option autoImplicit false
namespace Mkdb.Store
open Mkdb.Page Mkdb.Tuple Mkdb.Generated

/-- every error of `markDeleted` (unknown table, no such live row, undecodable catalog row) arises
before the first page write -/
theorem markDeleted_errRO (table : Bytes) (rowId : Nat) : ErrRO (markDeleted table rowId) := by
  unfold markDeleted
  refine ErrRO.bind_ro (ReadOnly.relationOffset _) (fun off => ?_)
  refine ErrRO.bind_ro (ReadOnly.fetch _) (fun _ => ?_)
  refine ErrRO.bind_ro (ReadOnly.findLeaf _ _ _) (fun l => ?_)
  split
  · exact (ReadOnly.throw _).errRO
  · refine ErrRO.ite (ReadOnly.throw _).errRO
      (NoErr.errRO (ErrIn.bind ErrIn.getS fun s => ErrIn.bind (ErrIn.fetch _) fun pg => ?_))
    cases pg with
    | internal _ => exact ErrIn.panicS _
    | leaf l1 =>
      exact ErrIn.bind (ErrIn.putNode _ _) fun _ => ErrIn.bind (ErrIn.markDirty _ _) fun _ =>
        ErrIn.bind (ErrIn.modifyS _) fun _ => ErrIn.pure _

theorem updateCellAt_errRO (off key : Nat) (value : Bytes) (lsn : Nat) :
    ErrRO (updateCellAt off key value lsn) := by
  unfold updateCellAt
  refine ErrRO.ite (ReadOnly.throw _).errRO ?_
  refine ErrRO.bind_ro (ReadOnly.fetch _) (fun pg => ?_)
  split
  · exact (ReadOnly.panicS _).errRO
  · exact ErrRO.ite (ReadOnly.throw _).errRO
      (NoErr.errRO (ErrIn.bind (ErrIn.putNode _ _) fun _ => ErrIn.markDirty _ _))

/-- one cell: decode, overlay, encode, size check and cell lookup all come before the page write -/
theorem updBody_errRO (schema : List FieldDef) (rowId : Nat) (cols : List String) (src : List Val)
    (c : LeafCell × Nat) : ErrRO (updBody schema rowId cols src c) := by
  unfold updBody
  refine ErrRO.ite (ReadOnly.pure _).errRO ?_
  refine ErrRO.bind_ro (ReadOnly.decodeRow _ _) (fun m => ?_)
  refine ErrRO.bind_ro (ReadOnly.encodeRow _ _) (fun buf => ?_)
  refine ErrRO.bind_ro ReadOnly.getS (fun s => ?_)
  exact ErrRO.bind_noErr (updateCellAt_errRO _ _ _ _) fun _ =>
    ErrIn.bind (ErrIn.modifyS _) fun _ => ErrIn.pure _

/-- the scan loop of `update`, when at most one cell carries the row id: the loop is that cell's
iteration, so an error changes nothing -/
theorem mapS_updBody_err (schema : List FieldDef) (rowId : Nat) (cols : List String)
    (src : List Val) (l : List (LeafCell × Nat)) (s : Store) (e : SErr) (s' : Store) (hf : Filed s)
    (huniq : (l.filter (fun c => c.1.key == rowId)).length ≤ 1)
    (h : mapS (updBody schema rowId cols src) l s = .err e s') : Filed s' ∧ SameData s s' := by
  have hskip : ∀ (L : List (LeafCell × Nat)), (∀ a ∈ L, (a.1.key == rowId) = false) →
      ∀ a ∈ L, ∀ s0, updBody schema rowId cols src a s0 = .ok [] s0 := fun L hL a ha s0 =>
    updBody_skip schema rowId cols src a s0 (by simpa using hL a ha)
  rcases split_at_most_one _ l huniq with hno | ⟨A, x, B, rfl, hA, hB⟩
  · rw [mapS_skip _ s l fun a ha => hskip l hno a ha s] at h
    cases h
  · have := mapS_flatten_one _ x B (hskip B hB) A s (hskip A hA)
    rw [bind_err h] at this
    exact updBody_errRO schema rowId cols src x s e s' hf this.symm

/-- `update` that fails: nothing changed - unless the scan of the table delivered two live cells
with the row id being updated (impossible in a tree with strictly ascending keys): then the first
of them may already have been rewritten. -/
theorem update_err_cases (table : Bytes) (rowId : Nat) (cols : List String) (src : List Val)
    (s : Store) (e : SErr) (s' : Store) (hf : Filed s)
    (h : update table rowId cols src s = .err e s') :
    (Filed s' ∧ SameData s s') ∨
    ∃ off s0 s1 cells s2, relationOffset table s = .ok off s0 ∧ Filed s1 ∧ SameData s s1 ∧
      scanRight off s1 = .ok cells s2 ∧ 2 ≤ (cells.filter (fun c => c.1.key == rowId)).length := by
  rw [update_eq_stmt] at h
  rcases bind_eq_err h with h1 | ⟨off, s1, h1, h⟩
  · exact .inl ((ReadOnly.relationOffset _).err hf h1)
  obtain ⟨f1, d1⟩ := (ReadOnly.relationOffset _).ok hf h1
  rcases bind_eq_err h with h2 | ⟨_, s2, h2, h⟩
  · exact ((ErrIn.fetch (P := fun _ => False) off) _ _ _ h2).elim
  obtain ⟨f2, d2⟩ := (ReadOnly.fetch _).ok f1 h2
  rcases bind_eq_err h with h3 | ⟨schema, s3, h3, h⟩
  · obtain ⟨f3, d3⟩ := (ReadOnly.relationSchema _).err f2 h3
    exact .inl ⟨f3, (d1.trans d2).trans d3⟩
  obtain ⟨f3, d3⟩ := (ReadOnly.relationSchema _).ok f2 h3
  have d13 := (d1.trans d2).trans d3
  cases hcc : checkColumns schema cols with
  | some ec => rw [hcc] at h; cases h; exact .inl ⟨f3, d13⟩
  | none =>
  rw [hcc] at h
  simp only at h
  rcases bind_eq_err h with h4 | ⟨cells, s4, h4, h⟩
  · obtain ⟨f4, d4⟩ := (ReadOnly.scanRight _).err f3 h4
    exact .inl ⟨f4, d13.trans d4⟩
  obtain ⟨f4, d4⟩ := (ReadOnly.scanRight _).ok f3 h4
  rcases bind_eq_err h with h5 | ⟨logs, s5, _, h⟩
  · by_cases huniq : (cells.filter (fun c => c.1.key == rowId)).length ≤ 1
    · obtain ⟨f5, d5⟩ := mapS_updBody_err schema rowId cols src cells s4 e s' f4 huniq h5
      exact .inl ⟨f5, (d13.trans d4).trans d5⟩
    · exact .inr ⟨off, s1, s3, cells, s4, h1, f3, d13, h4, by omega⟩
  · cases h

/-- C14 for one UPDATE row, in a table whose scan shows every row id at most once -/
theorem update_err (table : Bytes) (rowId : Nat) (cols : List String) (src : List Val)
    (s : Store) (e : SErr) (s' : Store) (hf : Filed s)
    (h : update table rowId cols src s = .err e s')
    (huniq : ∀ off s1 cells s2, scanRight off s1 = .ok cells s2 → Filed s1 → SameData s s1 →
      (cells.filter (fun c => c.1.key == rowId)).length ≤ 1) :
    Filed s' ∧ SameData s s' := by
  rcases update_err_cases table rowId cols src s e s' hf h with h1 | ⟨off, s0, s1, cells, s2, _, f1, d1, hs, h2⟩
  · exact h1
  · have := huniq off s1 cells s2 hs f1 d1
    omega

end Mkdb.Store
end
