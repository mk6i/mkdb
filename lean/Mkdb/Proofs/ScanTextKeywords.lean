import Mkdb.Proofs.ScanLoops
/-!
# The scanner on text in standard form: the keyword table

`kwTable` is the `keywords` map of `sql/scanner.go` as a list of code-point spellings (equal to what
`init()` computes from the generated token table: `kwTable_eq`), and `keywordOf` is the lookup in it
(`keywordOf_eq`): the proofs and the evaluations of the scanner model go through that, not through the
strings of the generated table.

How to evaluate the scanner on a concrete text: it is slow in the kernel for one reason, strings.
`keywordOf` converts the strings of the generated token table at every call, and `strCodes "..."` a string
literal, by `String.toList`.  `scanSQL_eq` and `strCodes_ofList` (at the end) put the same computation on
lists of code points, `rw [scanSQL_eq]; decide +kernel`: the token loop over any keyword lookup (`scanLoop`
of `Proofs/ScanLoops`), run with the lookup in `kwTable`.
-/
namespace Mkdb.Scan
open Mkdb.Generated

/-- The `keywords` map: upper-case spelling (as code points) and token type.  Not reserved words only: the
operators and punctuation (`! * = != > < <= >= ( ) , . ;`) lie between the same two markers of the generated
table.  `scanAll` looks up here every token but integers and `"delimited"` identifiers: words (a miss is an
identifier) and all the rest, strings, floats and single characters alike (a miss is a STR token). -/
def kwTable : List (List Nat × Int) := [
  ([84, 82, 85, 69], 5), ([70, 65, 76, 83, 69], 6), ([33], 8), ([65, 78, 68], 9), ([79, 82], 10),
  ([42], 11), ([61], 12), ([33, 61], 13), ([62], 14), ([60], 15), ([60, 61], 16), ([62, 61], 17),
  ([40], 18), ([41], 19), ([65, 83], 20), ([65, 83, 67], 21), ([65, 86, 71], 22),
  ([66, 69, 71, 73, 78], 23), ([66, 89], 24), ([67, 65, 83, 69], 25), ([44], 26),
  ([67, 79, 77, 77, 73, 84], 27), ([67, 79, 85, 78, 84], 28), ([67, 82, 69, 65, 84, 69], 29),
  ([68, 65, 84, 65, 66, 65, 83, 69], 30), ([68, 69, 76, 69, 84, 69], 31), ([68, 69, 83, 67], 32),
  ([68, 73, 83, 84, 73, 78, 67, 84], 33), ([46], 34), ([69, 76, 83, 69], 35), ([69, 78, 68], 36),
  ([69, 88, 73, 83, 84, 83], 37), ([70, 82, 79, 77], 38), ([70, 85, 76, 76], 39),
  ([71, 82, 79, 85, 80], 40), ([72, 65, 86, 73, 78, 71], 41), ([73, 78], 42), ([73, 78, 78, 69, 82], 43),
  ([73, 78, 83, 69, 82, 84], 44), ([73, 78, 84, 79], 45), ([74, 79, 73, 78], 46), ([76, 69, 70, 84], 47),
  ([76, 73, 75, 69], 48), ([76, 73, 77, 73, 84], 49), ([77, 65, 88], 50), ([77, 73, 78], 51),
  ([78, 79, 84], 52), ([78, 85, 76, 76], 53), ([79, 70, 70, 83, 69, 84], 54), ([79, 78], 55),
  ([79, 82, 68, 69, 82], 56), ([79, 85, 84, 69, 82], 57), ([82, 73, 71, 72, 84], 58),
  ([83, 69, 76, 69, 67, 84], 59), ([59], 60), ([83, 69, 84], 61), ([83, 72, 79, 87], 62),
  ([83, 85, 77], 63), ([66, 79, 79, 76, 69, 65, 78], 64), ([73, 78, 84], 65),
  ([66, 73, 71, 73, 78, 84], 66), ([86, 65, 82, 67, 72, 65, 82], 67), ([84, 65, 66, 76, 69], 68),
  ([84, 72, 69, 78], 69), ([85, 78, 73, 79, 78], 70), ([85, 78, 73, 81, 85, 69], 71),
  ([85, 80, 68, 65, 84, 69], 72), ([85, 83, 69], 73), ([86, 65, 76, 85, 69, 83], 74),
  ([87, 72, 69, 78], 75), ([87, 72, 69, 82, 69], 76), ([87, 73, 84, 72], 77)]

/-- `kwTable` is the generated token table restricted to the reserved words, as `init()` builds it.
The only place where the strings of the generated table are evaluated (`String.toList` is slow in the
kernel): everything else goes through `keywordOf_eq`. -/
theorem kwTable_eq : kwTable =
    (tokenTable.filter (fun e => decide (t_reserved_word_start < e.2.1) && decide (e.2.1 < t_reserved_word_end)
      && e.2.2 != "")).map (fun e => (strCodes e.2.2, e.2.1)) := by decide +kernel

def kwFind (up : List Nat) : Option Int := (kwTable.find? (·.1 == up)).map (·.2)

theorem keywordOf_eq (up : List Nat) : keywordOf up = kwFind up := by
  simp only [kwFind, kwTable_eq, List.find?_map, List.find?_filter, keywordOf, Function.comp_def, Bool.decide_and,
    Bool.decide_eq_true]
  cases List.find? _ tokenTable <;> rfl

theorem keywordOf_table : ∀ e ∈ kwTable, keywordOf e.1 = some e.2 := by
  simp only [keywordOf_eq]
  decide +kernel

theorem keywordOf_mem (up : List Nat) (k : Int) (h : keywordOf up = some k) : (up, k) ∈ kwTable := by
  rw [keywordOf_eq, kwFind, Option.map_eq_some_iff] at h
  obtain ⟨e, he, rfl⟩ := h
  have hup : e.1 = up := by simpa using List.find?_some he
  exact hup ▸ List.mem_of_find?_eq_some he

/-- the one-character operators and punctuation: `! ( ) * , . ; < = >` -/
def punctCodes : List Nat := [33, 40, 41, 42, 44, 46, 59, 60, 61, 62]

theorem kwTable_heads : ∀ e ∈ kwTable, ∀ c ∈ e.1.head?,
    c ∈ punctCodes ∨ (65 ≤ c ∧ c ≤ 90) := by decide

/-- no keyword starts with the code point `c` when `c` is not in `punctCodes` or `A-Z` -/
theorem keywordOf_none_of_head (c : Nat) (rest : List Nat)
    (h : ¬(c ∈ punctCodes ∨ (65 ≤ c ∧ c ≤ 90))) :
    keywordOf (c :: rest) = none := by
  cases hk : keywordOf (c :: rest) with
  | none => rfl
  | some k =>
    exact absurd (kwTable_heads _ (keywordOf_mem _ _ hk) c rfl) h

/-! ## Evaluating the scanner -/

theorem scanSQL_eq (l : Input) : scanSQL l = scanLoop kwFind (l.length + 2) (dropBOM l) [] := by
  rw [scanSQL, scanAll_eq_loop, funext keywordOf_eq]

/-- the code points of a string literal, without `String.toList` (a literal unifies with `String.ofList _`) -/
theorem strCodes_ofList (cs : List Char) : strCodes (String.ofList cs) = cs.map Char.toNat := by
  rw [strCodes, String.toList_ofList]

end Mkdb.Scan
