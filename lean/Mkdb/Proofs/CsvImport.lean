import Mkdb.Proofs.Csv
import Mkdb.Proofs.ReadsDurably
import Mkdb.Proofs.SessInvHistory
/-!
CSV import on the engine model, in four parts: the importer's single-row INSERT is the plain model's; the import
loop of `doBatchInsert` is a history of one-row INSERTs that never crashes, keeps `DbInv` and leaves the accepted
records' rows appended to the table (`importOnDb_spec`); its side conditions hold whenever the table has room at
the start (`importRoom_of_sizes`); and what a reader of the database then sees, durably (`import_on_engine`).
-/

section
/-!
The importer's local single-row INSERT (`Csv.insertRow`) is the plain model's INSERT of one row with a
non-empty column list (`insertRow_iff_rowOf`, `specInsert_one_iff`); for the EMPTY column list the two
differ (`insertRow_nocols_differs`).  Column names cross over as their UTF-8 bytes (`colBytes`): the engine
model turns the bytes back into the name with `Engine.bytesToName`, the plain model with `Spec.nameStr`.
-/
set_option autoImplicit false
namespace Mkdb.Csv
open Mkdb.Tuple Mkdb.Generated Mkdb.Store

/-- a column name as the engine model and the plain model take it: its UTF-8 bytes -/
def colBytes (c : String) : Bytes := c.toUTF8.toList

theorem bytesToName_colBytes (cols : List String) : (cols.map colBytes).map Engine.bytesToName = cols := by
  rw [List.map_map]
  conv => rhs; rw [← List.map_id cols]
  apply List.map_congr_left
  intro c _
  exact nameOfBytes_toUTF8 c

theorem nameStr_colBytes (cols : List String) : (cols.map colBytes).map Spec.nameStr = cols :=
  bytesToName_colBytes cols

theorem colBytes_eq_nil {cols : List String} : cols.map colBytes = [] ↔ cols = [] := List.map_eq_nil_iff

/-- the name test of `Csv.insertRow` is the plain model's -/
theorem insertRow_names (schema : List FieldDef) (cols : List String) (n : Bytes) (rows : List Spec.SRow) :
    (!(cols.all fun c => schema.any fun fd => fd.name == c) || cols.eraseDups.length != cols.length) =
      !Spec.namesOK ⟨n, schema, rows⟩ cols := by
  unfold Spec.namesOK
  cases (cols.all fun c => schema.any fun fd => fd.name == c) <;>
    cases h : (cols.eraseDups.length == cols.length) <;> simp [bne, h]

/-- `insertRow_some` with the name test in the plain model's words: the names are columns of the table,
each named once -/
theorem insertRow_iff (schema : List FieldDef) (cols : List String) (vals row : List Val)
    (hnd : (schema.map (·.name)).Nodup) (hvals : ∀ v ∈ vals, ValidVal v) :
    insertRow schema cols vals = some row ↔
      cols.length = vals.length ∧ Spec.namesOK ⟨[], schema, []⟩ cols = true ∧
      ∃ bs, encodeTuple schema (cols.zip vals).reverse = .ok bs ∧ bs.length ≤ c_maxValueSize ∧
        row = schema.map fun fd => get (cols.zip vals).reverse fd.name := by
  rw [insertRow_some schema cols vals row hnd (get_zip_valid cols vals hvals), insertRow_names schema cols [] [],
    Bool.not_eq_false']

theorem colsOf_colBytes (schema : List FieldDef) {cols : List String} (hne : cols ≠ []) :
    colsOf schema ((cols.map colBytes).map Engine.bytesToName) = cols := by
  rw [bytesToName_colBytes]
  unfold colsOf
  cases cols with
  | nil => exact absurd rfl hne
  | cons c rest => rfl

theorem insertRow_iff_rowOf (tb : Spec.STable) (cols : List String) (vals row : List Val)
    (hnd : (tb.cols.map (·.name)).Nodup) (hvals : ∀ v ∈ vals, ValidVal v) (hne : cols ≠ []) :
    insertRow tb.cols cols vals = some row ↔
      Spec.namesOK tb cols = true ∧ Spec.rowOf tb (cols.map colBytes) vals = some row := by
  rw [insertRow_iff tb.cols cols vals row hnd hvals, specRowOf_some_iff, colsOf_colBytes tb.cols hne,
    namesOK_congr (t0 := ⟨[], tb.cols, []⟩) (t := tb) rfl]
  constructor
  · rintro ⟨h1, h2, h3⟩; exact ⟨h2, h1, h3⟩
  · rintro ⟨h2, h1, h3⟩; exact ⟨h1, h2, h3⟩

theorem insertRow_eq_rowOf (tb : Spec.STable) (cols : List String) (vals : List Val)
    (hnd : (tb.cols.map (·.name)).Nodup) (hvals : ∀ v ∈ vals, ValidVal v) (hne : cols ≠ []) :
    insertRow tb.cols cols vals =
      if Spec.namesOK tb cols then Spec.rowOf tb (cols.map colBytes) vals else none :=
  Option.ext fun row => by
    rw [insertRow_iff_rowOf tb cols vals row hnd hvals hne]
    cases Spec.namesOK tb cols <;> simp

theorem insertRow_nocols_differs :
    insertRow [⟨"a", .int, 0⟩] [] [] = some [.null] ∧
    Spec.rowOf ⟨[116], [⟨"a", .int, 0⟩], []⟩ ([].map colBytes) [] = none := by
  constructor <;> decide

/-- the plain database with rows appended to one table (what `Spec.specInsert` does with accepted rows) -/
def addRows (sdb : Spec.SDB) (table : Bytes) (rows : List (List Val)) : Spec.SDB :=
  sdb.map fun x => if x.name == table then { x with rows := x.rows ++ rows.map fun v => ⟨none, v⟩ } else x

theorem addRows_eq (sdb : Spec.SDB) (table : Bytes) (rows : List (List Val)) :
    addRows sdb table rows = sdb.map (updRows table fun r => r ++ rows.map fun v => ⟨none, v⟩) := rfl

theorem addRows_nil (sdb : Spec.SDB) (table : Bytes) : addRows sdb table [] = sdb := updRows_id table sdb

theorem addRows_addRows (sdb : Spec.SDB) (table : Bytes) (r1 r2 : List (List Val)) :
    addRows (addRows sdb table r1) table r2 = addRows sdb table (r1 ++ r2) := by
  rw [addRows_eq, addRows_eq, addRows_eq, updRows_updRows]
  simp only [List.map_append, List.append_assoc]

theorem findTable_addRows {sdb : Spec.SDB} {table : Bytes} {tb : Spec.STable}
    (hf : Spec.findTable sdb table = some tb) (rows : List (List Val)) :
    Spec.findTable (addRows sdb table rows) table =
      some { tb with rows := tb.rows ++ rows.map fun v => ⟨none, v⟩ } := by
  rw [addRows_eq]; exact findTable_updRows_self table _ sdb tb hf

theorem findTable_addRows_other (sdb : Spec.SDB) {table t : Bytes} (hne : t ≠ table) (rows : List (List Val)) :
    Spec.findTable (addRows sdb table rows) t = Spec.findTable sdb t := by
  rw [addRows_eq]; exact findTable_updRows_other table _ t hne sdb

theorem specInsert_one_iff {sdb : Spec.SDB} {table : Bytes} {tb : Spec.STable}
    (hf : Spec.findTable sdb table = some tb) (cols : List String) (vals : List Val)
    (hnd : (tb.cols.map (·.name)).Nodup) (hvals : ∀ v ∈ vals, ValidVal v) (hne : cols ≠ []) :
    Spec.specInsert sdb table (cols.map colBytes) [vals] =
      (insertRow tb.cols cols vals).map fun row => addRows sdb table [row] := by
  rw [insertRow_eq_rowOf tb cols vals hnd hvals hne]
  unfold Spec.specInsert
  rw [hf]
  simp only [Option.bind_eq_bind, Option.bind_some, List.isEmpty_cons, Bool.not_false, Bool.true_and,
    nameStr_colBytes, List.mapM_cons, List.mapM_nil]
  cases Spec.namesOK tb cols with
  | false => rfl
  | true => cases Spec.rowOf tb (cols.map colBytes) vals <;> rfl

end Mkdb.Csv
end

section
/-!
The import loop on the engine model (`importOnDb`).  The importer hands `EvaluateInsert` Go values, not SQL text
(a parsed statement has no NULL literal), so it stands on the forms of `DbInv.accepted` / `DbInv.refused` for
`Engine.evalInsert` on VALUES (`Tuple.Val`, NULL included): `DbInv.insert_accepted`, `DbInv.insert_refused`
(DbInvAccepted).
-/
set_option autoImplicit false

namespace Mkdb.Csv
open Mkdb.Tuple Mkdb.Generated Mkdb.Store Mkdb.Tree

/-- the part of `importRecord` before the INSERT: the values `csvToSql` hands to `EvaluateInsert`;
`none` = the record is reported as malformed without reaching the engine -/
def recordVals (cfg : Cfg) (types : List DataType) : Option (List Bytes) → Option (List Val)
  | none => none
  | some r => if cfg.srcCols.foldl max 0 ≥ r.length then none else csvToSql types cfg.srcCols r

theorem importRecord_eq (cfg : Cfg) (types : List DataType) (r : Option (List Bytes)) :
    importRecord cfg types r = (recordVals cfg types r).bind (insertRow cfg.schema cfg.dstCols) := by
  cases r with
  | none => rfl
  | some rec =>
    simp only [importRecord, recordVals]
    split
    · rfl
    · cases csvToSql types cfg.srcCols rec <;> rfl

theorem recordVals_valid {cfg : Cfg} {types : List DataType} {rec : List Bytes} {vals : List Val}
    (hfields : ∀ f ∈ rec, f.length < 2 ^ 32) (h : recordVals cfg types (some rec) = some vals) :
    ∀ v ∈ vals, ValidVal v := by
  simp only [recordVals] at h
  split at h
  · cases h
  · exact csvToSql_valid hfields h

/-- **The import loop of `doBatchInsert` on the engine model.**  For each record: a record the CSV reader
rejects, one that lacks a source column, one `csvToSql` cannot convert is an error event and the loop
goes on; otherwise `engine.EvaluateInsert` runs a one-row INSERT of the converted VALUES (Go values, NULL
included - not SQL text) with the destination column list, and the loop goes on after its error as after
its success, with the database the call left.  Result: the database at the end and, per record, whether
an error event was sent (`true`); `none` = the engine crashed (panic, unmodelled path, hang). -/
def importOnDb (cfg : Cfg) (types : List DataType) (table : Bytes) :
    Engine.DB → List (Option (List Bytes)) → Option (Engine.DB × List Bool)
  | db, [] => some (db, [])
  | db, r :: rest =>
    match recordVals cfg types r with
    | none => (importOnDb cfg types table db rest).map fun p => (p.1, true :: p.2)
    | some vals =>
      match Engine.evalInsert db table (cfg.dstCols.map colBytes) [vals] with
      | .ok _ db' => (importOnDb cfg types table db' rest).map fun p => (p.1, false :: p.2)
      | .err _ db' => (importOnDb cfg types table db' rest).map fun p => (p.1, true :: p.2)
      | _ => none

/-- **The side conditions of the INSERT theorems along the import loop** (what `HistOK` is for histories
of statements): for every record that reaches the engine and that `Csv.insertRow` accepts, the fuel / size
room of a one-row INSERT (`InsRunOK`, the room part of `StmtRoom`) in the database reached at that point,
under whatever catalog description it has.  (`importRoom_of_sizes`: enough room at the start suffices.) -/
def ImportRoom (cfg : Cfg) (types : List DataType) (table : Bytes) :
    Engine.DB → List (Option (List Bytes)) → Prop
  | _, [] => True
  | db, r :: rest =>
    match recordVals cfg types r with
    | none => ImportRoom cfg types table db rest
    | some vals =>
      ((insertRow cfg.schema cfg.dstCols vals).isSome →
        ∀ sdb pt sch tbls, DbInv db sdb pt sch tbls → ∀ tr schema, (table, tr) ∈ tbls →
          schemaOf sch table = some schema →
          InsRunOK schema ((cfg.dstCols.map colBytes).map Engine.bytesToName) tr db.store.hdr.lastKey
            db.store.hdr.nextLSN db.store.hdr.nextFree [vals]) ∧
      ∀ db', (Engine.evalInsert db table (cfg.dstCols.map colBytes) [vals] = .ok 1 db' ∨
          ∃ e, Engine.evalInsert db table (cfg.dstCols.map colBytes) [vals] = .err e db') →
        ImportRoom cfg types table db' rest

/-- the fields of every record are strings a Go program can hold -/
def FieldsFit (recs : List (Option (List Bytes))) : Prop :=
  ∀ rec, some rec ∈ recs → ∀ f ∈ rec, f.length < 2 ^ 32

theorem FieldsFit.tail {r : Option (List Bytes)} {rest : List (Option (List Bytes))}
    (h : FieldsFit (r :: rest)) : FieldsFit rest :=
  fun rec hm => h rec (List.mem_cons_of_mem _ hm)

theorem FieldsFit.valid {cfg : Cfg} {types : List DataType} {r : Option (List Bytes)}
    {rest : List (Option (List Bytes))} {vals : List Val} (h : FieldsFit (r :: rest))
    (hv : recordVals cfg types r = some vals) : ∀ v ∈ vals, ValidVal v := by
  cases r with
  | none => cases hv
  | some rec => exact recordVals_valid (h rec List.mem_cons_self) hv

/-- **One record of the loop**, under `DbInv`: the loop goes on from a database that satisfies `DbInv` for the plain
database with the record's row added, if `Csv.insertRow` accepts it (`.ok 1`), and for the same plain database if not
(the record did not reach the engine, or `.err`). -/
theorem import_step {cfg : Cfg} {types : List DataType} {table : Bytes} (hne : cfg.dstCols ≠ []) {db : Engine.DB}
    {sdb : Spec.SDB} {pt sch : Levels} {tbls : List (Bytes × Levels)} {tb : Spec.STable}
    (h : DbInv db sdb pt sch tbls) (hfind : Spec.findTable sdb table = some tb) (hcols : tb.cols = cfg.schema)
    {r : Option (List Bytes)} {rest : List (Option (List Bytes))} (hfit : FieldsFit (r :: rest))
    (hroom : ImportRoom cfg types table db (r :: rest)) :
    ∃ db1 pt1 tbls1, DbInv db1 (addRows sdb table ([r].filterMap (importRecord cfg types))) pt1 sch tbls1 ∧
      ImportRoom cfg types table db1 rest ∧
      importOnDb cfg types table db (r :: rest) =
        (importOnDb cfg types table db1 rest).map fun p => (p.1, (importRecord cfg types r).isNone :: p.2) := by
  simp only [importOnDb, ImportRoom, List.filterMap_cons, List.filterMap_nil, importRecord_eq cfg types r] at hroom ⊢
  cases hv : recordVals cfg types r with
  | none =>
    rw [hv] at hroom
    exact ⟨db, pt, tbls, (addRows_nil sdb table).symm ▸ h, hroom, rfl⟩
  | some vals =>
    rw [hv] at hroom
    obtain ⟨hrm, hnext⟩ := hroom
    have hvals := hfit.valid hv
    have hnd : (tb.cols.map (·.name)).Nodup := h.cols_nodup hfind
    have hone := specInsert_one_iff hfind cfg.dstCols vals hnd hvals hne
    have heq := insertRow_eq_rowOf tb cfg.dstCols vals hnd hvals hne
    rw [hcols] at hone heq
    simp only [Option.bind_some]
    cases hins : insertRow cfg.schema cfg.dstCols vals with
    | some row =>
      rw [hins, Option.map_some] at hone
      obtain ⟨db1, pt1, tbls1, e1, hi1⟩ := h.insert_accepted table (cfg.dstCols.map colBytes) [vals]
        (fun r0 hr0 => by rw [List.mem_singleton.1 hr0]; exact hvals)
        (hrm (by rw [hins]; rfl) sdb pt sch tbls h) _ hone
      exact ⟨db1, pt1, tbls1, hi1, hnext db1 (.inl e1), by rw [e1]; rfl⟩
    | none =>
      rw [hins] at heq
      obtain ⟨_, e1, db1, he1, _, hi1⟩ := h.insert_refused table (cfg.dstCols.map colBytes) vals []
        (.inr ⟨tb, hfind, by
          rw [nameStr_colBytes]
          cases hn : Spec.namesOK tb cfg.dstCols with
          | false => exact .inr rfl
          | true => rw [hn, if_pos rfl] at heq; exact .inl heq.symm⟩)
      exact ⟨db1, pt, tbls, (addRows_nil sdb table).symm ▸ hi1, hnext db1 (.inr ⟨_, he1⟩), by rw [he1]; rfl⟩

theorem importOnDb_spec (cfg : Cfg) (types : List DataType) (table : Bytes) (hne : cfg.dstCols ≠ []) :
    ∀ (recs : List (Option (List Bytes))) (db : Engine.DB) (sdb : Spec.SDB) (pt sch : Levels)
      (tbls : List (Bytes × Levels)) (tb : Spec.STable),
      DbInv db sdb pt sch tbls → Spec.findTable sdb table = some tb → tb.cols = cfg.schema →
      FieldsFit recs → ImportRoom cfg types table db recs →
      ∃ db' pt' tbls',
        importOnDb cfg types table db recs = some (db', recs.map fun r => (importRecord cfg types r).isNone) ∧
        DbInv db' (addRows sdb table (recs.filterMap (importRecord cfg types))) pt' sch tbls' := by
  intro recs
  induction recs with
  | nil =>
    intro db sdb pt sch tbls tb h _ _ _ _
    refine ⟨db, pt, tbls, rfl, ?_⟩
    rw [List.filterMap_nil, addRows_nil]
    exact h
  | cons r rest ih =>
    intro db sdb pt sch tbls tb h hfind hcols hfit hroom
    obtain ⟨db1, pt1, tbls1, hi1, hroom1, e1⟩ := import_step hne h hfind hcols hfit hroom
    obtain ⟨db', pt', tbls', e, hi⟩ := ih db1 _ pt1 sch tbls1 _ hi1 (findTable_addRows hfind _) hcols hfit.tail hroom1
    rw [addRows_addRows, ← List.filterMap_append] at hi
    exact ⟨db', pt', tbls', by rw [e1, e]; rfl, hi⟩

end Mkdb.Csv
end

section
/-!
The side conditions `ImportRoom` are met whenever the table has room at the start (`importRoom_of_sizes`):
a tree `n` levels and `n` leaves short of the fuel of the descents and scans, an allocation frontier `n` times
64 pages below 2^63, for an import of `n` records.
(A sufficient condition, far from necessary - the height of a tree grows with the logarithm of its size -
but one that holds of every fresh table and every import of up to 60 records, whatever the records.)
-/
set_option autoImplicit false
namespace Mkdb.Csv
open Mkdb.Tuple Mkdb.Generated Mkdb.Store Mkdb.Tree Mkdb.Page

/-- the database has room for `n` more one-row INSERTs into `table`, whatever the rows -/
def RoomFor (db : Engine.DB) (table : Bytes) (n : Nat) : Prop :=
  ∃ sdb pt sch tbls tr, Abs db.store pt sch tbls sdb ∧ (table, tr) ∈ tbls ∧
    tr.inner.length + n + 2 ≤ treeFuel ∧ tr.leaves.length + n ≤ scanFuel ∧
    db.store.hdr.nextFree + 262144 * n ≤ 9223372036854775807

theorem room_mono {il ll nf n m T S K : Nat} (hm : m ≤ n) (h1 : il + n + 2 ≤ T) (h2 : ll + n ≤ S)
    (h3 : nf + 262144 * n ≤ K) : il + m + 2 ≤ T ∧ ll + m ≤ S ∧ nf + 262144 * m ≤ K := by
  omega

theorem RoomFor.mono {db : Engine.DB} {table : Bytes} {n m : Nat} (h : RoomFor db table n) (hm : m ≤ n) :
    RoomFor db table m := by
  obtain ⟨sdb, pt, sch, tbls, tr, habs, ht, h1, h2, h3⟩ := h
  exact ⟨sdb, pt, sch, tbls, tr, habs, ht, room_mono hm h1 h2 h3⟩

/-- The arithmetic of one append (`insertAppend_growth`: at most one more level, one more leaf, a page per
level and two): sizes with room for `n + 1` rows meet the bounds the insert asks for afterwards, and
leave room for `n`. -/
theorem room_step {il ll nf il' ll' nf' n : Nat} (h1 : il + (n + 1) + 2 ≤ treeFuel)
    (h2 : ll + (n + 1) ≤ scanFuel) (h3 : nf + 262144 * (n + 1) ≤ 9223372036854775807)
    (g1 : il' ≤ il + 1) (g2 : ll' ≤ ll + 1) (g3 : nf' ≤ nf + 4096 * (il + 2)) :
    (il' + 2 ≤ treeFuel ∧ ll' ≤ scanFuel ∧ (nf' : Int) ≤ 9223372036854775807) ∧
      il' + n + 2 ≤ treeFuel ∧ ll' + n ≤ scanFuel ∧ nf' + 262144 * n ≤ 9223372036854775807 := by
  have h64 := treeFuel_eq
  omega

theorem insRunOK_of_sizes (schema : List FieldDef) (cols : List String) (tr : Levels) (lk lsn nf : Nat)
    (vals : List Val) (h1 : tr.inner.length + 1 + 2 ≤ treeFuel) (h2 : tr.leaves.length + 1 ≤ scanFuel)
    (h3 : nf + 262144 * 1 ≤ 9223372036854775807) : InsRunOK schema cols tr lk lsn nf [vals] := by
  intro buf t' nf' _ hins
  obtain ⟨g1, g2, g3⟩ := insertAppend_growth hins
  obtain ⟨⟨b1, b2, b3⟩, _⟩ := room_step (n := 0) h1 h2 h3 g1 g2 g3
  exact ⟨b1, b2, b3, trivial⟩

theorem RoomFor.step {db : Engine.DB} {table : Bytes} {n : Nat} (cols : List Bytes) (vals : List Val)
    (hvals : ∀ v ∈ vals, ValidVal v) (h : RoomFor db table (n + 1)) (db' : Engine.DB)
    (hd : Engine.evalInsert db table cols [vals] = .ok 1 db' ∨
      ∃ e, Engine.evalInsert db table cols [vals] = .err e db') : RoomFor db' table n := by
  obtain ⟨sdb, pt, sch, tbls, tr, habs, ht, h1, h2, h3⟩ := h
  obtain ⟨schema, hsch, _⟩ := habs.tabs.find habs.cat.tnames ht
  cases hck : rowCheck schema (cols.map Engine.bytesToName) vals with
  | error x =>
    -- a refusal: the same description
    obtain ⟨s', e, hc', _, hnf, _⟩ := insert_refused habs.cat table tr ht schema hsch _ vals hck
    have he := evalInsert_first_err db table cols [] e
    have hdb : db' = { db with store := s' } := by
      rcases hd with hd | ⟨e2, hd⟩
      · rw [he] at hd; cases hd
      · rw [he] at hd
        simp only [Engine.Res.err.injEq] at hd
        exact hd.2.symm
    subst hdb
    exact ⟨sdb, pt, sch, tbls, tr, ⟨hc', habs.tabs⟩, ht, room_mono (Nat.le_succ n) h1 h2 (hnf ▸ h3)⟩
  | ok buf0 =>
    obtain ⟨hlen, hcc, henc, hsz⟩ := rowCheck_ok hck
    obtain ⟨s', ptF, logs, buf, t', nf', e, _, hins, habs', _, hnf, _⟩ := insert_step habs table tr ht schema hsch
      cols vals _ hvals
      ((specRowOf_some_iff (absTable table schema tr) cols vals _).mpr ⟨hlen, buf0, henc, hsz, rfl⟩) hcc
      (fun buf t' nf' _ hins => by
        obtain ⟨g1, g2, g3⟩ := insertAppend_growth hins
        exact (room_step h1 h2 h3 g1 g2 g3).1)
    obtain ⟨g1, g2, g3⟩ := insertAppend_growth hins
    obtain ⟨_, r1, r2, r3⟩ := room_step h1 h2 h3 g1 g2 g3
    have he := evalInsert_of_ok db table cols (rowsM_cons_ok e (rowsM_nil _ _))
    have hdb : db' = { store := s', wal := db.wal ++ (logs ++ []) } := by
      rcases hd with hd | ⟨e2, hd⟩
      · rw [he] at hd
        simp only [Engine.Res.ok.injEq] at hd
        exact hd.2.symm
      · rw [he] at hd; cases hd
    subst hdb
    exact ⟨_, ptF, sch, setTable tbls table t', t', habs', mem_setTable_self t' ht, r1, r2, hnf ▸ r3⟩

theorem importRoom_of_sizes (cfg : Cfg) (types : List DataType) (table : Bytes) :
    ∀ (recs : List (Option (List Bytes))) (db : Engine.DB), FieldsFit recs → RoomFor db table recs.length →
      ImportRoom cfg types table db recs := by
  intro recs
  induction recs with
  | nil => intro _ _ _; trivial
  | cons r rest ih =>
    intro db hfit hroom
    simp only [ImportRoom]
    cases hv : recordVals cfg types r with
    | none =>
      simp only
      exact ih db hfit.tail (hroom.mono (Nat.le_succ _))
    | some vals =>
      simp only
      refine ⟨fun _ sdb pt sch tbls hinv tr schema htr hsch => ?_, fun db' hd =>
        ih db' hfit.tail (hroom.step _ vals (hfit.valid hv) db' hd)⟩
      obtain ⟨sdb1, pt1, sch1, tbls1, tr1, habs1, ht1, s1, s2, s3⟩ := hroom
      obtain ⟨sdb0, habs0, _⟩ := hinv.abs
      have htr1 : tr = tr1 := habs0.cat.tree_unique habs1.cat htr ht1
      subst htr1
      obtain ⟨r1, r2, r3⟩ := room_mono (m := 1) (Nat.le_add_left 1 rest.length) s1 s2 s3
      exact insRunOK_of_sizes schema _ tr _ _ _ vals r1 r2 r3

end Mkdb.Csv
end

section
/-!
`importOnDb_spec` turned into what a reader of the database sees, durably (`import_on_engine`), its two
corollaries, and an example computed on `tableDB`: the records `5`, `2147483648`, `7`, the second of which
`csvToSql` converts (it is an int64) and THE ENGINE refuses (INT out of range).
-/
set_option autoImplicit false
namespace Mkdb.Csv
open Mkdb.Tuple Mkdb.Generated Mkdb.Store Mkdb.Tree Mkdb.Page

theorem import_on_engine (cfg : Cfg) (types : List DataType) (table : Bytes) (recs : List (Option (List Bytes)))
    (db : Engine.DB) (sdb : Spec.SDB) (pt sch : Levels) (tbls : List (Bytes × Levels)) (tb : Spec.STable)
    (h : DbInv db sdb pt sch tbls) (hfind : Spec.findTable sdb table = some tb) (hcols : tb.cols = cfg.schema)
    (hne : cfg.dstCols ≠ []) (hfit : FieldsFit recs) (hroom : ImportRoom cfg types table db recs) :
    ∃ db' pt' tbls',
      importOnDb cfg types table db recs = some (db', recs.map fun r => (importRecord cfg types r).isNone) ∧
      DbInv db' (addRows sdb table (recs.filterMap (importRecord cfg types))) pt' sch tbls' ∧
      Spec.findTable (addRows sdb table (recs.filterMap (importRecord cfg types))) table =
        some { tb with rows := tb.rows ++ (recs.filterMap (importRecord cfg types)).map fun v => ⟨none, v⟩ } ∧
      (∀ t, t ≠ table → Spec.findTable (addRows sdb table (recs.filterMap (importRecord cfg types))) t =
        Spec.findTable sdb t) ∧
      ReadsDurably db' table cfg.schema (importAll cfg types (tb.rows.map (·.vals)) recs) ∧
      (∀ t tb', t ≠ table → Spec.findTable sdb t = some tb' →
        ReadsDurably db' t tb'.cols (tb'.rows.map (·.vals))) := by
  obtain ⟨db', pt', tbls', e, hi⟩ := importOnDb_spec cfg types table hne recs db sdb pt sch tbls tb h hfind hcols
    hfit hroom
  have hf' := findTable_addRows hfind (recs.filterMap (importRecord cfg types))
  refine ⟨db', pt', tbls', e, hi, hf', fun t ht => findTable_addRows_other sdb ht _, ?_, ?_⟩
  · have := hi.reads_durably hf'
    simp only [List.map_append, map_vals_mk] at this
    rw [importAll_eq, ← hcols]
    exact this
  · intro t tb' ht hft
    exact hi.reads_durably (by rw [findTable_addRows_other sdb ht]; exact hft)

theorem bad_record_harmless_on_engine (cfg : Cfg) (types : List DataType) (table : Bytes)
    (before after : List (Option (List Bytes))) (bad : Option (List Bytes))
    (db : Engine.DB) (sdb : Spec.SDB) (pt sch : Levels) (tbls : List (Bytes × Levels)) (tb : Spec.STable)
    (h : DbInv db sdb pt sch tbls) (hfind : Spec.findTable sdb table = some tb) (hcols : tb.cols = cfg.schema)
    (hne : cfg.dstCols ≠ []) (hfit : FieldsFit (before ++ bad :: after))
    (hroom1 : ImportRoom cfg types table db (before ++ bad :: after))
    (hroom2 : ImportRoom cfg types table db (before ++ after))
    (hbad : importRecord cfg types bad = none) :
    ∃ db1 pt1 tbls1 db2 pt2 tbls2 sdb' errsB errsA rows,
      importOnDb cfg types table db (before ++ bad :: after) = some (db1, errsB ++ true :: errsA) ∧
      importOnDb cfg types table db (before ++ after) = some (db2, errsB ++ errsA) ∧
      errsB.length = before.length ∧
      DbInv db1 sdb' pt1 sch tbls1 ∧ DbInv db2 sdb' pt2 sch tbls2 ∧
      ReadsDurably db1 table cfg.schema rows ∧ ReadsDurably db2 table cfg.schema rows ∧
      rows = tb.rows.map (·.vals) ++ (before ++ after).filterMap (importRecord cfg types) := by
  have hfit2 : FieldsFit (before ++ after) := by
    intro rec hm
    apply hfit rec
    rcases List.mem_append.mp hm with hm | hm
    · exact List.mem_append_left _ hm
    · exact List.mem_append_right _ (List.mem_cons_of_mem _ hm)
  obtain ⟨db1, pt1, tbls1, e1, hi1, _, _, hr1, _⟩ := import_on_engine cfg types table _ db sdb pt sch tbls tb h hfind
    hcols hne hfit hroom1
  obtain ⟨db2, pt2, tbls2, e2, hi2, _, _, hr2, _⟩ := import_on_engine cfg types table _ db sdb pt sch tbls tb h hfind
    hcols hne hfit2 hroom2
  have hsame : (before ++ bad :: after).filterMap (importRecord cfg types) =
      (before ++ after).filterMap (importRecord cfg types) := by
    simp only [List.filterMap_append, List.filterMap_cons, hbad]
  rw [hsame] at hi1
  rw [importAll_eq, hsame] at hr1
  rw [importAll_eq] at hr2
  refine ⟨db1, pt1, tbls1, db2, pt2, tbls2, _, before.map fun r => (importRecord cfg types r).isNone,
    after.map fun r => (importRecord cfg types r).isNone, _, ?_, ?_, List.length_map _, hi1, hi2, hr1, hr2, rfl⟩
  · rw [e1, List.map_append, List.map_cons, hbad]
    rfl
  · rw [e2, List.map_append]

theorem accepted_position (cfg : Cfg) (types : List DataType) (old : List (List Val))
    (l1 l2 : List (Option (List Bytes))) (r : Option (List Bytes)) (row : List Val)
    (hr : importRecord cfg types r = some row) :
    (old ++ (l1 ++ r :: l2).filterMap (importRecord cfg types))[old.length +
      (l1.filter fun r => (importRecord cfg types r).isSome).length]? = some row := by
  rw [List.getElem?_append_right (Nat.le_add_right _ _), Nat.add_sub_cancel_left, List.filterMap_append,
    ← length_filterMap_eq_filter, List.getElem?_append_right (Nat.le_refl _), Nat.sub_self, List.filterMap_cons, hr]
  rfl

theorem accepted_in_input_order (cfg : Cfg) (types : List DataType) (table : Bytes)
    (recs : List (Option (List Bytes)))
    (db : Engine.DB) (sdb : Spec.SDB) (pt sch : Levels) (tbls : List (Bytes × Levels)) (tb : Spec.STable)
    (h : DbInv db sdb pt sch tbls) (hfind : Spec.findTable sdb table = some tb) (hcols : tb.cols = cfg.schema)
    (hne : cfg.dstCols ≠ []) (hfit : FieldsFit recs) (hroom : ImportRoom cfg types table db recs) :
    ∃ db' rows,
      importOnDb cfg types table db recs = some (db', recs.map fun r => (importRecord cfg types r).isNone) ∧
      ReadsDurably db' table cfg.schema rows ∧
      rows.length = tb.rows.length + (recs.filter fun r => (importRecord cfg types r).isSome).length ∧
      (∀ (k : Nat) (row : List Val), (tb.rows.map (·.vals))[k]? = some row → rows[k]? = some row) ∧
      ∀ (l1 l2 : List (Option (List Bytes))) (r : Option (List Bytes)) (row : List Val),
        recs = l1 ++ r :: l2 → importRecord cfg types r = some row →
        rows[tb.rows.length + (l1.filter fun r => (importRecord cfg types r).isSome).length]? = some row := by
  obtain ⟨db', pt', tbls', e, _, _, _, hr, _⟩ := import_on_engine cfg types table recs db sdb pt sch tbls tb h hfind
    hcols hne hfit hroom
  rw [importAll_eq] at hr
  refine ⟨db', _, e, hr, ?_, ?_, ?_⟩
  · rw [List.length_append, List.length_map, length_filterMap_eq_filter]
  · intro k row hk
    have hlt : k < (tb.rows.map (·.vals)).length := (List.getElem?_eq_some_iff.mp hk).1
    rw [List.getElem?_append_left hlt]
    exact hk
  · intro l1 l2 r row hrecs hrow
    subst hrecs
    have := accepted_position cfg types (tb.rows.map (·.vals)) l1 l2 r row hrow
    rw [List.length_map] at this
    exact this

/-! ### the computed example -/

/-- table `t (a INT)` (the table of `tableDB`), destination column `a` fed from field 0 -/
def exCfgT : Cfg := ⟨schemaA, ["a"], [0]⟩

/-- the records `5`, `2147483648`, `7` -/
def recs3 : List (Option (List Bytes)) :=
  [some [[53]], some [[50, 49, 52, 55, 52, 56, 51, 54, 52, 56]], some [[55]]]

/-- `csvToSql` converts all three (the second is an int64); `Csv.insertRow` refuses the second -/
theorem recs3_vals : recs3.map (recordVals exCfgT [.int]) =
    [some [.int 5], some [.int 2147483648], some [.int 7]] := by decide

theorem recs3_rows : recs3.map (importRecord exCfgT [.int]) = [some [.int 5], none, some [.int 7]] := by decide

theorem recs3_fit : FieldsFit recs3 := by
  intro rec hm f hf
  simp only [recs3, List.mem_cons, Option.some.injEq, List.not_mem_nil, or_false] at hm
  rcases hm with rfl | rfl | rfl <;>
    (simp only [List.mem_singleton] at hf; subst hf; decide)

theorem roomFor_tableDB : RoomFor tableDB tname 3 :=
  ⟨sdbA0, ptT, schT, [(tname, tT)], tT, abs_tableDB, List.mem_singleton.mpr rfl, by decide, by decide, by decide⟩

theorem recs3_room : ImportRoom exCfgT [.int] tname tableDB recs3 :=
  importRoom_of_sizes exCfgT [.int] tname recs3 tableDB recs3_fit roomFor_tableDB

/-- what the loop on `tableDB` returns and what `Fetch` then reads, as a Boolean test the kernel evaluates -/
def recs3Check : Bool :=
  match importOnDb exCfgT [.int] tname tableDB recs3 with
  | some (db', errs) =>
    errs == [false, true, false] &&
    (match fetchTable tname db'.store with
     | .ok (rows, cols) _ => rows.map (·.2) == [[Val.int 5], [Val.int 7]] && cols == schemaA
     | _ => false) &&
    db'.wal.length == 2
  | none => false

/-- the second record on `tableDB`: the engine's answer is `ErrIntOutOfRange` -/
def recs3ErrCheck : Bool :=
  match Engine.evalInsert tableDB tname (exCfgT.dstCols.map colBytes) [[.int 2147483648]] with
  | .err (.store .intOutOfRange) _ => true
  | _ => false

theorem recs3_check : recs3Check = true ∧ recs3ErrCheck = true := ⟨by decide +kernel, by decide +kernel⟩

theorem recs3_import : ∃ db',
    importOnDb exCfgT [.int] tname tableDB recs3 = some (db', [false, true, false]) ∧
    ReadsDurably db' tname schemaA [[.int 5], [.int 7]] := by
  obtain ⟨db', _, _, e, _, _, _, hr, _⟩ := import_on_engine exCfgT [.int] tname recs3 tableDB sdbA0 ptT schT
    [(tname, tT)] ⟨tname, schemaA, []⟩ dbFlushed_tableDB.inv rfl rfl (by decide) recs3_fit recs3_room
  have e1 : (recs3.map fun r => (importRecord exCfgT [.int] r).isNone) = [false, true, false] := by decide
  have e2 : importAll exCfgT [.int] (([] : List Spec.SRow).map (·.vals)) recs3 = [[.int 5], [.int 7]] := by decide
  rw [e1] at e
  rw [e2] at hr
  exact ⟨db', e, hr⟩

end Mkdb.Csv
end
