import Mkdb.Model.Redo
/-!
The redo rule: replaying the whole log over *any* image of the data file (every page as of some
earlier moment, independently per page) rebuilds exactly the state the statements had built
(`replay_image`); doing it again changes nothing (`replay_idempotent`); a log cut at `j` rebuilds the
state after the first `j` records provided no page in the file is ahead of the log
(`replay_prefix`, the write-ahead rule), and not otherwise (the counterexample below).
-/
namespace Mkdb.Redo

variable {α : Type}

theorem run_nil (s : Pages α) : run [] s = s := rfl
theorem run_cons (x : Rec α) (l : List (Rec α)) (s : Pages α) : run (x :: l) s = run l (apply x s) := rfl
theorem run_append (a b : List (Rec α)) (s : Pages α) : run (a ++ b) s = run b (run a s) := by
  simp only [run, List.foldl_append]

theorem replay_nil (s : Pages α) : replay [] s = s := rfl
theorem replay_cons (x : Rec α) (l : List (Rec α)) (s : Pages α) :
    replay (x :: l) s = replay l (redo x s) := rfl
theorem replay_append (a b : List (Rec α)) (s : Pages α) :
    replay (a ++ b) s = replay b (replay a s) := by
  simp only [replay, List.foldl_append]

theorem apply_same (x : Rec α) (s : Pages α) : apply x s x.page = ⟨x.lsn, x.f (s x.page).val⟩ := by
  simp only [apply, if_true]

theorem apply_other (x : Rec α) (s : Pages α) (q : Nat) (h : q ≠ x.page) : apply x s q = s q := by
  simp only [apply, if_neg h]

theorem redo_other (x : Rec α) (s : Pages α) (q : Nat) (h : q ≠ x.page) : redo x s q = s q := by
  unfold redo
  split
  · rfl
  · exact apply_other x s q h

/-- the LSN of a page after a run is the LSN it had or one of the log's: what holds of all of them holds
of it -/
theorem run_lsn_of (P : Nat → Prop) (l : List (Rec α)) (s : Pages α) (q : Nat)
    (hl : ∀ r ∈ l, P r.lsn) (hs : P (s q).lsn) : P (run l s q).lsn := by
  induction l generalizing s with
  | nil => exact hs
  | cons x l ih =>
    rw [run_cons]
    apply ih _ (fun r hr => hl r (List.mem_cons_of_mem _ hr))
    by_cases hq : q = x.page
    · subst hq; rw [apply_same]; exact hl x List.mem_cons_self
    · rw [apply_other x s q hq]; exact hs

theorem run_lsn_ge (l : List (Rec α)) (s : Pages α) (q : Nat)
    (hp : (l.map (·.lsn)).Pairwise (· < ·)) :
    ∀ r ∈ l, r.page = q → r.lsn ≤ (run l s q).lsn := by
  induction l generalizing s with
  | nil => intro r hr; cases hr
  | cons x l ih =>
    rw [List.map_cons, List.pairwise_cons] at hp
    intro r hr hrq
    rw [run_cons]
    rcases List.mem_cons.1 hr with rfl | hr
    · apply run_lsn_of (r.lsn ≤ ·)
      · intro y hy
        exact Nat.le_of_lt (hp.1 y.lsn (List.mem_map_of_mem hy))
      · subst hrq; rw [apply_same]; exact Nat.le_refl _
    · exact ih _ hp.2 r hr hrq

/-! ### the two halves of a replay -/

theorem replay_skip (l : List (Rec α)) (s : Pages α) (q : Nat)
    (h : ∀ r ∈ l, r.page = q → r.lsn ≤ (s q).lsn) : replay l s q = s q := by
  induction l generalizing s with
  | nil => rfl
  | cons x l ih =>
    rw [replay_cons]
    have hx : redo x s q = s q := by
      by_cases hq : q = x.page
      · have := h x List.mem_cons_self hq.symm
        subst hq
        unfold redo
        rw [if_pos this]
      · exact redo_other x s q hq
    rw [ih (redo x s) (by
      intro r hr hrq
      rw [hx]
      exact h r (List.mem_cons_of_mem _ hr) hrq), hx]

theorem replay_apply (l : List (Rec α)) (s s' : Pages α) (q : Nat)
    (hp : (l.map (·.lsn)).Pairwise (· < ·))
    (h : ∀ r ∈ l, r.page = q → (s q).lsn < r.lsn) (hs : s q = s' q) :
    replay l s q = run l s' q := by
  induction l generalizing s s' with
  | nil => exact hs
  | cons x l ih =>
    rw [List.map_cons, List.pairwise_cons] at hp
    rw [replay_cons, run_cons]
    by_cases hq : q = x.page
    · have hlt := h x List.mem_cons_self hq.symm
      subst hq
      have hredo : redo x s = apply x s := by
        unfold redo
        rw [if_neg (by omega)]
      apply ih _ _ hp.2
      · intro r hr _
        rw [hredo, apply_same]
        exact hp.1 r.lsn (List.mem_map_of_mem hr)
      · rw [hredo, apply_same, apply_same, hs]
    · apply ih _ _ hp.2
      · intro r hr hrq
        rw [redo_other x s q hq]
        exact h r (List.mem_cons_of_mem _ hr) hrq
      · rw [redo_other x s q hq, apply_other x s' q hq, hs]

/-- The core: if page `q` of the file is as of the end of `a`, replaying `a ++ b` brings it to the
end of `a ++ b`. -/
theorem replay_split (a b : List (Rec α)) (init s : Pages α) (q : Nat)
    (h : LogOK (a ++ b) init) (hs : s q = run a init q) :
    replay (a ++ b) s q = run (a ++ b) init q := by
  obtain ⟨hp, hinit⟩ := h
  rw [List.map_append, List.pairwise_append] at hp
  obtain ⟨hpa, hpb, hab⟩ := hp
  have h1 : replay a s q = s q := by
    apply replay_skip
    intro r hr hrq
    rw [hs]
    exact run_lsn_ge a init q hpa r hr hrq
  rw [replay_append, run_append]
  apply replay_apply _ _ _ _ hpb
  · intro r hr _
    rw [h1, hs]
    apply run_lsn_of (· < r.lsn)
    · intro x hx
      exact hab x.lsn (List.mem_map_of_mem hx) r.lsn (List.mem_map_of_mem hr)
    · exact hinit r (List.mem_append_right _ hr) q
  · rw [h1, hs]

theorem replay_image (log : List (Rec α)) (init : Pages α) (k : Nat → Nat) (h : LogOK log init) :
    ∀ p, replay log (Image log init k) p = run log init p := by
  intro p
  have hsplit : log.take (k p) ++ log.drop (k p) = log := List.take_append_drop _ _
  have := replay_split (log.take (k p)) (log.drop (k p)) init (Image log init k) p
    (by rw [hsplit]; exact h) rfl
  rw [hsplit] at this
  exact this

theorem Image_length (log : List (Rec α)) (init : Pages α) :
    Image log init (fun _ => log.length) = run log init := by
  funext p
  simp only [Image, List.take_length]

theorem replay_run (log : List (Rec α)) (init : Pages α) (h : LogOK log init) :
    ∀ p, replay log (run log init) p = run log init p := by
  intro p
  have := replay_image log init (fun _ => log.length) h p
  rw [Image_length] at this
  exact this

theorem replay_idempotent (log : List (Rec α)) (init : Pages α) (k : Nat → Nat)
    (h : LogOK log init) :
    ∀ p, replay log (replay log (Image log init k)) p = replay log (Image log init k) p := by
  have e : replay log (Image log init k) = run log init := funext (replay_image log init k h)
  intro p
  rw [e]
  exact replay_run log init h p

theorem LogOK_take (log : List (Rec α)) (init : Pages α) (j : Nat) (h : LogOK log init) :
    LogOK (log.take j) init := by
  refine ⟨?_, fun r hr => h.2 r (List.mem_of_mem_take hr)⟩
  rw [List.map_take]
  exact List.Pairwise.sublist (List.take_sublist _ _) h.1

/-- A log cut at `j` recovers exactly the first `j` records, provided no page in the file is ahead
of the cut (the write-ahead rule).  (`j ≤ log.length` is not needed.) -/
theorem replay_prefix (log : List (Rec α)) (init : Pages α) (k : Nat → Nat) (j : Nat)
    (h : LogOK log init) (hk : ∀ p, k p ≤ j) :
    ∀ p, replay (log.take j) (Image log init k) p = run (log.take j) init p := by
  have e : Image log init k = Image (log.take j) init k := by
    funext p
    simp only [Image, List.take_take, Nat.min_eq_left (hk p)]
  rw [e]
  exact replay_image (log.take j) init k (LogOK_take log init j h)

/-! ### non-vacuity, and the need for the write-ahead rule -/

/-- two increments of page 0 over an all-zero file -/
def exLog : List (Rec Nat) := [⟨1, 0, (· + 1)⟩, ⟨2, 0, (· + 1)⟩]
def exInit : Pages Nat := fun _ => ⟨0, 0⟩

theorem exLog_ok : LogOK exLog exInit := by
  refine ⟨by decide, ?_⟩
  intro r hr p
  simp only [exLog, List.mem_cons, List.not_mem_nil, or_false] at hr
  rcases hr with rfl | rfl <;> simp [exInit]

example : (run exLog exInit 0).lsn = 2 ∧ (run exLog exInit 0).val = 2 := ⟨rfl, rfl⟩

/-- page 0 never flushed: both records are redone -/
example : (replay exLog (Image exLog exInit (fun _ => 0)) 0).val = 2 := rfl
/-- page 0 flushed after the first statement: only the second is redone -/
example : (replay exLog (Image exLog exInit (fun _ => 1)) 0).val = 2 := rfl
/-- without the skip rule the first increment would be applied twice -/
example : (run exLog (Image exLog exInit (fun _ => 1)) 0).val = 3 := rfl

/-- Without `k p ≤ j` the conclusion of `replay_prefix` fails: page 0 reached the file after both
statements, the log was cut after the first; recovery leaves the page with both changes. -/
example :
    LogOK exLog exInit ∧ 1 ≤ exLog.length ∧
    ¬ ∀ p, replay (exLog.take 1) (Image exLog exInit (fun _ => 2)) p = run (exLog.take 1) exInit p := by
  refine ⟨exLog_ok, by decide, ?_⟩
  intro hall
  have h0 := congrArg Pg.val (hall 0)
  have h1 : (replay (exLog.take 1) (Image exLog exInit (fun _ => 2)) 0).val = 2 := rfl
  have h2 : (run (exLog.take 1) exInit 0).val = 1 := rfl
  rw [h1, h2] at h0
  exact absurd h0 (by decide)

end Mkdb.Redo
