import Mkdb.Proofs.DbCrash
import Mkdb.Proofs.SessInv
/-!
Sessions and crashes: **the crash invariants of a session, and what keeps them**.

`SessCrash s w` is `SessAbs s w` with every database satisfying `DbCrash` for `w name`; `SessCrash'` says outright
that the databases that are NOT selected are checkpointed (`CkptNS`; it follows: `SessCrash.prime`); `SessCrashL`,
`SessCrashB` are `SessCrash'` with `DbCrashL`, `DbCrashB` in the place of `DbCrash`.  Every theorem is proved
once, for `CrashInv C s w clean`: the same for any per-database invariant `C` (`CrashLike C`: one of the three),
with the flag of the list theorems - while it is set EVERY database is checkpointed.  Each invariant implies the
next (`SessCrash.prime`, `.toL`, `.toB`) and `DbCrashB` is kept by everything the others are kept by: a NEW theorem
is best stated for `CrashInv C` with `CrashLike C`, or for `SessCrashB` (with `OkOps4` along a list) if it needs
one of them by name.

NOT covered (and not true): a statement refused at a later row may leave rows in the cache that no log record
holds (`C17_crash_loses_rows_of_a_refused_insert`).
-/
set_option autoImplicit false
namespace Mkdb.Session
open Mkdb.Engine Mkdb.Sql Mkdb.Tree
open Mkdb.Store hiding Stmt

/-- **The crash invariant of a session**: it abstracts to the plain databases `w`, and every database
is reached from a checkpoint by accepted row statements (the others than the selected one ARE
checkpointed: `SessAbs` says they are closed). -/
structure SessCrash (s : Sess) (w : String → Spec.SDB) : Prop where
  abs : SessAbs s w
  crash : ∀ p ∈ s.dbs, DbCrash p.2 (w p.1)

/-- **The crash invariant with the non-selected databases checkpointed.** -/
structure SessCrash' (s : Sess) (w : String → Spec.SDB) : Prop where
  base : SessCrash s w
  others : ∀ p ∈ s.dbs, s.cur ≠ some p.1 → CkptNS p.2 (w p.1)

/-- **The crash invariant of a session, up to the cache of its databases**: it abstracts to the plain
databases `w`; every database is reached from a checkpoint by a live run (accepted row statements and
cache-only steps); every database that is not selected is checkpointed. -/
structure SessCrashL (s : Sess) (w : String → Spec.SDB) : Prop where
  abs : SessAbs s w
  crash : ∀ p ∈ s.dbs, DbCrashL p.2 (w p.1)
  others : ∀ p ∈ s.dbs, s.cur ≠ some p.1 → CkptNS p.2 (w p.1)

/-- **The crash invariant of a session, up to the cache and the counters of its databases**: `SessCrashL` with
`DbCrashB` in the place of `DbCrashL`. -/
structure SessCrashB (s : Sess) (w : String → Spec.SDB) : Prop where
  abs : SessAbs s w
  crash : ∀ p ∈ s.dbs, DbCrashB p.2 (w p.1)
  others : ∀ p ∈ s.dbs, s.cur ≠ some p.1 → CkptNS p.2 (w p.1)

theorem SessCrash.inv {s : Sess} {w : String → Spec.SDB} (h : SessCrash s w) : SessInv s := ⟨w, h.abs⟩

theorem SessCrashL.inv {s : Sess} {w : String → Spec.SDB} (h : SessCrashL s w) : SessInv s := ⟨w, h.abs⟩

theorem SessCrashB.inv {s : Sess} {w : String → Spec.SDB} (h : SessCrashB s w) : SessInv s := ⟨w, h.abs⟩

theorem SessCrash'.all_ckpt {s : Sess} {w : String → Spec.SDB} (h : SessCrash' s w) (hc : s.cur = none) :
    ∀ p ∈ s.dbs, CkptNS p.2 (w p.1) := fun p hp => h.others p hp (by rw [hc]; intro hx; cases hx)

theorem SessCrash.allB {s : Sess} {w : String → Spec.SDB} (h : SessCrash s w) : ∀ p ∈ s.dbs, DbCrashB p.2 (w p.1) :=
  fun p hp => (h.crash p hp).toL.toB

theorem SessCrashL.allB {s : Sess} {w : String → Spec.SDB} (h : SessCrashL s w) : ∀ p ∈ s.dbs, DbCrashB p.2 (w p.1) :=
  fun p hp => (h.crash p hp).toB

theorem SessCrash'.toL {s : Sess} {w : String → Spec.SDB} (h : SessCrash' s w) : SessCrashL s w :=
  ⟨h.base.abs, fun p hp => (h.base.crash p hp).toL, h.others⟩

theorem SessCrashL.toB {s : Sess} {w : String → Spec.SDB} (h : SessCrashL s w) : SessCrashB s w :=
  ⟨h.abs, fun p hp => (h.crash p hp).toB, h.others⟩

/-! ### the invariant for any of the three per-database invariants -/

/-- what the session theorems use of a crash invariant `C` of one database (`DbCrash`, `DbCrashL`, `DbCrashB`):
a checkpointed database satisfies it; it implies the weakest one, so the flush and start-up recovery succeed;
one more accepted row statement keeps it -/
structure CrashLike (C : DB → Spec.SDB → Prop) : Prop where
  ofCkpt : ∀ {db sdb}, CkptNS db sdb → C db sdb
  toB : ∀ {db sdb}, C db sdb → DbCrashB db sdb
  step : ∀ {db db' sdb sdb'}, C db sdb → (∀ sch, ∃ st, SpecRun sch db sdb [st] db' sdb') → C db' sdb'

theorem crashLike : CrashLike DbCrash := ⟨CkptNS.dbCrash, fun h => h.toL.toB, DbCrash.step⟩
theorem crashLikeL : CrashLike DbCrashL := ⟨CkptNS.dbCrashL, DbCrashL.toB, DbCrashL.step⟩
theorem crashLikeB : CrashLike DbCrashB := ⟨CkptNS.dbCrashB, id, DbCrashB.step⟩

/-- `C` is kept by a step in which only the cache grows (`DbCrashL`, `DbCrashB`; not `DbCrash`) -/
def SameClosed (C : DB → Spec.SDB → Prop) : Prop :=
  ∀ (db db' : DB) (sdb : Spec.SDB), C db sdb → Same db.store db'.store → db'.wal = db.wal →
    DiskSame db.store db'.store → MemFiled db'.store → C db' sdb

theorem sameClosedL : SameClosed DbCrashL := fun _ _ _ => DbCrashL.same
theorem sameClosedB : SameClosed DbCrashB := fun _ _ _ => DbCrashB.same

/-- **The crash invariant of a session for the per-database invariant `C`**, with the flag of the list theorems:
the session abstracts to the plain databases `w`; every database satisfies `C`; every database that is not
selected is checkpointed; and while the flag is set every database - the selected one too - is checkpointed. -/
structure CrashInv (C : DB → Spec.SDB → Prop) (s : Sess) (w : String → Spec.SDB) (clean : Bool) : Prop where
  abs : SessAbs s w
  holds : Holds (fun n db => C db (w n)) (fun n db => CkptNS db (w n)) s clean

section
variable {C : DB → Spec.SDB → Prop} {s : Sess} {w : String → Spec.SDB} {clean : Bool}

theorem CrashInv.crash (h : CrashInv C s w clean) : ∀ p ∈ s.dbs, C p.2 (w p.1) := h.holds.all
theorem CrashInv.others (h : CrashInv C s w clean) : ∀ p ∈ s.dbs, s.cur ≠ some p.1 → CkptNS p.2 (w p.1) :=
  fun p hp hc => h.holds.closed p hp (.inl hc)
theorem CrashInv.ck (h : CrashInv C s w clean) : clean = true → ∀ p ∈ s.dbs, CkptNS p.2 (w p.1) :=
  fun hcl p hp => h.holds.closed p hp (.inr hcl)

theorem CrashInv.mk' (habs : SessAbs s w) (hcr : ∀ p ∈ s.dbs, C p.2 (w p.1))
    (hoth : ∀ p ∈ s.dbs, s.cur ≠ some p.1 → CkptNS p.2 (w p.1)) (hck : clean = true → ∀ p ∈ s.dbs, CkptNS p.2 (w p.1)) :
    CrashInv C s w clean :=
  ⟨habs, hcr, fun p hp hc => hc.elim (hoth p hp) fun hcl => hck hcl p hp⟩

/-- a database that is closed and satisfies the crash invariant is checkpointed: the base invariant `SessCrash`
is `SessCrash'` -/
theorem SessCrash.prime (h : SessCrash s w) : SessCrash' s w := by
  refine ⟨h, fun p hp hc => ?_⟩
  obtain ⟨pt, sch, tbls, _, hk⟩ := h.abs.dbs p hp
  have hfl := hk hc
  obtain ⟨_, habs0, _⟩ := id hfl.inv.abs
  obtain ⟨hself, hfresh⟩ := (h.crash p hp).toL.toB.self_fresh habs0.cat
  exact ⟨sch, pt, tbls, hfl.ckpt hself hfresh, hfl.inv.nostale⟩

theorem SessCrash'.crashInv (h : SessCrash' s w) : CrashInv DbCrash s w false :=
  .mk' h.base.abs h.base.crash h.others fun hx => by cases hx
theorem SessCrashL.crashInv (h : SessCrashL s w) : CrashInv DbCrashL s w false :=
  .mk' h.abs h.crash h.others fun hx => by cases hx
theorem SessCrashB.crashInv (h : SessCrashB s w) : CrashInv DbCrashB s w false :=
  .mk' h.abs h.crash h.others fun hx => by cases hx
theorem CrashInv.sessCrash' (h : CrashInv DbCrash s w clean) : SessCrash' s w := ⟨⟨h.abs, h.crash⟩, h.others⟩
theorem CrashInv.sessCrashL (h : CrashInv DbCrashL s w clean) : SessCrashL s w := ⟨h.abs, h.crash, h.others⟩
theorem CrashInv.sessCrashB (h : CrashInv DbCrashB s w clean) : SessCrashB s w := ⟨h.abs, h.crash, h.others⟩

theorem CrashInv.allB (hC : CrashLike C) (h : CrashInv C s w clean) : ∀ p ∈ s.dbs, DbCrashB p.2 (w p.1) :=
  fun p hp => hC.toB (h.crash p hp)

theorem crashInv_empty (C : DB → Spec.SDB → Prop) (w : String → Spec.SDB) (clean : Bool) : CrashInv C {} w clean :=
  ⟨sessAbs_empty w, fun _ hp => absurd hp List.not_mem_nil, fun _ hp => absurd hp List.not_mem_nil⟩

theorem sessCrash_empty (w : String → Spec.SDB) : SessCrash {} w :=
  ⟨sessAbs_empty w, fun _ hp => absurd hp List.not_mem_nil⟩

theorem sessCrash'_of_ckpt {l : List (String × DB)} (hnd : (l.map (·.1)).Nodup)
    (h : ∀ p ∈ l, CkptNS p.2 (w p.1)) : SessCrash' { dbs := l, cur := none } w := by
  refine ⟨⟨.of_holds ⟨fun _ hc => (by cases hc), hnd⟩ (clean := true) ⟨fun p hp => ?_, fun p hp _ => ?_⟩,
    fun p hp => (h p hp).dbCrash⟩, fun p hp _ => h p hp⟩
  · exact FlushedAt.inv _ _ (h p hp).dbFlushed
  · exact (h p hp).dbFlushed

/-! ### restart and crash -/

theorem recovered_ok (habs : SessAbs s w) {l : List (String × DB)} (hn : l.map (·.1) = names s)
    (hl : ∀ p ∈ l, Recoverable p.2 (w p.1)) :
    ∃ s', (recoverEvery l).map (fun dbs => ({ dbs := dbs, cur := none } : Sess)) = some s' ∧ SessCrash' s' w ∧
      names s' = names s ∧ s'.cur = none ∧ ∀ p ∈ s'.dbs, CkptNS p.2 (w p.1) := by
  obtain ⟨l', e⟩ := recoverEvery_some l fun p hp => (hl p hp).imp fun _ hr => hr.1
  obtain ⟨hn', hck⟩ := recoverEvery_all (P := fun n db => Recoverable db (w n)) (R := fun n db => CkptNS db (w n))
    (fun n db r ⟨r', e', hk⟩ hr => by rw [hr] at e'; cases e'; exact hk) l l' hl e
  have hnames : l'.map (·.1) = names s := hn'.trans hn
  exact ⟨{ dbs := l', cur := none }, by rw [e]; rfl, sessCrash'_of_ckpt (by rw [hnames]; exact habs.nodup) hck, hnames,
    rfl, hck⟩

/-- **A crash between two statements loses nothing.**  In a session that abstracts to the plain databases `w`
and all of whose databases satisfy the crash invariant, `crashRestart` - the cache of the selected database is
dropped without a flush, start-up recovery of every database, re-open - succeeds: no recovery fails; the session
after it has the same names, no selection, every database checkpointed for THE SAME plain database. -/
theorem crashRestart_ok (habs : SessAbs s w) (h : ∀ p ∈ s.dbs, DbCrashB p.2 (w p.1)) :
    ∃ s', crashRestart s = some s' ∧ SessCrash' s' w ∧ names s' = names s ∧ s'.cur = none ∧
      ∀ p ∈ s'.dbs, CkptNS p.2 (w p.1) := by
  rw [crashRestart_eq]
  refine recovered_ok habs (names_dropCur s) fun p hp => ?_
  rcases mem_dropCur hp with hp' | ⟨db, _, hg, e⟩
  · exact (h p hp').recoverable.1
  · rw [e]; exact (h _ (getDB_mem hg)).recoverable.2

/-- **`restart`** - the selected database is flushed first - likewise. -/
theorem restart_ok (habs : SessAbs s w) (h : ∀ p ∈ s.dbs, DbCrashB p.2 (w p.1)) :
    ∃ s', restart s = some s' ∧ SessCrash' s' w ∧ names s' = names s ∧ s'.cur = none ∧
      ∀ p ∈ s'.dbs, CkptNS p.2 (w p.1) := by
  rw [restart_eq]
  refine recovered_ok habs (names_closeCur s) fun p hp => ?_
  rcases mem_closeCur hp with ⟨hp', _⟩ | ⟨db, _, hg, hf⟩
  · exact (h p hp').recoverable.1
  · rw [← (Engine.Res.ok.inj ((flush_flushed db []).symm.trans hf)).2]
    exact ((h _ (getDB_mem hg)).flushed []).dbCrashB.recoverable.1

theorem SessCrash'.crashInv_true (hC : CrashLike C) {s' : Sess} (h : SessCrash' s' w)
    (hck : ∀ p ∈ s'.dbs, CkptNS p.2 (w p.1)) : CrashInv C s' w true :=
  ⟨h.base.abs, fun p hp => hC.ofCkpt (hck p hp), fun p hp _ => hck p hp⟩

/-! ### replacing one database -/

theorem setW_frameC (C : DB → Spec.SDB → Prop) (w : String → Spec.SDB) (n : String) (sdb : Spec.SDB) (m : String)
    (db : DB) (h : m ≠ n) :
    (C db (w m) → C db (setW w n sdb m)) ∧ (CkptNS db (w m) → CkptNS db (setW w n sdb m)) := by
  rw [setW_other w sdb h]
  exact ⟨id, id⟩

theorem CrashInv.setCur (h : CrashInv C s w clean) {n : String} (hc : s.cur = some n) {db' : DB} {sdb' : Spec.SDB}
    {pt sch : Levels} {tbls : List (Bytes × Levels)} (hi : DbInv db' sdb' pt sch tbls) (hcr : C db' sdb')
    {clean' : Bool} (hck : clean' = true → CkptNS db' sdb') : CrashInv C (setDB s n db') (setW w n sdb') clean' :=
  ⟨h.abs.setCur hc hi, h.holds.set (setW_frameC C w n sdb') (by rw [setW_same]; exact hcr)
    (fun hx => by rw [setW_same]; exact hx.elim (absurd hc) hck) fun _ => .inr hc⟩

end

/-! ### the plain databases and the flag after a statement -/

/-- the plain databases after CREATE DATABASE: a new empty one if the statement was accepted - by the SESSION's
verdict (`exec`: there is no plain model of the set of databases), whereas `routedW` and `routedClean` below go by
the PLAIN MODEL's verdict on the selected database; so `cdW_ok` / `cdW_refused` rewrite with an outcome of `exec`,
`routed_accepted_eqs` with `Spec.specStmt` -/
def cdW (s : Sess) (w : String → Spec.SDB) (name : Bytes) : String → Spec.SDB :=
  match (exec s (.createDatabase name)).2 with
  | .ok => setW w (canon name) []
  | _ => w

/-- is the statement a CREATE TABLE (the routed statement that ends in a flush: it sets the flag) -/
def isCreateTable : Stmt → Bool
  | .createTable _ _ => true
  | _ => false

/-- the plain databases after a routed statement: the plain model on the selected database -/
def routedW (s : Sess) (w : String → Spec.SDB) (st : Stmt) : String → Spec.SDB :=
  match s.cur with
  | none => w
  | some n =>
    match Spec.specStmt (w n) st with
    | some sdb' => setW w n sdb'
    | none => w

/-- the plain databases after a statement -/
def worldStep (s : Sess) (w : String → Spec.SDB) : Stmt → (String → Spec.SDB)
  | .createDatabase name => cdW s w name
  | st => if isRouted st then routedW s w st else w

/-- the flag after a routed statement: set by an accepted CREATE TABLE, cleared by an accepted row statement -/
def routedClean (s : Sess) (w : String → Spec.SDB) (clean : Bool) (st : Stmt) : Bool :=
  match s.cur with
  | none => clean
  | some n =>
    match Spec.specStmt (w n) st with
    | some _ => isCreateTable st
    | none => clean

/-- the flag after a statement: an accepted USE of another database sets it -/
def cleanStep (s : Sess) (w : String → Spec.SDB) (clean : Bool) : Stmt → Bool
  | .use name =>
    match (exec s (.use name)).2 with
    | .ok => decide (s.cur ≠ some (canon name)) || clean
    | _ => clean
  | st => if isRouted st then routedClean s w clean st else clean

section
variable {C : DB → Spec.SDB → Prop} {s : Sess} {w : String → Spec.SDB} {clean : Bool}

theorem cdW_eq {name : Bytes} {s' : Sess} {out : Out} : exec s (.createDatabase name) = (s', out) →
    cdW s w name = match out with | .ok => setW w (canon name) [] | _ => w := fun e => by
  unfold cdW; rw [e]

theorem cdW_ok {name : Bytes} (h : (exec s (.createDatabase name)).2 = Out.ok) :
    cdW s w name = setW w (canon name) [] := by
  unfold cdW; rw [h]

theorem cdW_refused {name : Bytes} (h : (exec s (.createDatabase name)).2 ≠ Out.ok) : cdW s w name = w := by
  unfold cdW
  cases ho : (exec s (.createDatabase name)).2 with
  | ok => exact absurd ho h
  | err k => rfl
  | panic => rfl
  | rows n => rfl

theorem cleanStep_use {name : Bytes} {s' : Sess} {out : Out} : exec s (.use name) = (s', out) →
    cleanStep s w clean (.use name) =
      match out with | .ok => decide (s.cur ≠ some (canon name)) || clean | _ => clean := fun e => by
  show (match (exec s (.use name)).2 with | .ok => _ | _ => clean) = _
  rw [e]

theorem cleanStep_use_ok {name : Bytes} (hok : (exec s (.use name)).2 = Out.ok) :
    cleanStep s w clean (.use name) = (decide (s.cur ≠ some (canon name)) || clean) := by
  show (match (exec s (.use name)).2 with | .ok => _ | _ => clean) = _
  rw [hok]

theorem worldStep_use (s : Sess) (w : String → Spec.SDB) (name : Bytes) : worldStep s w (.use name) = w := rfl

theorem routed_refused_eqs {st : Stmt} (hno : ∀ n, s.cur = some n → Spec.specStmt (w n) st = none) :
    routedW s w st = w ∧ routedClean s w clean st = clean := by
  unfold routedW routedClean
  cases hc : s.cur with
  | none => exact ⟨rfl, rfl⟩
  | some n => simp only [hno n hc]; exact ⟨trivial, trivial⟩

theorem routed_accepted_eqs {st : Stmt} {n : String} {sdb' : Spec.SDB} (hc : s.cur = some n)
    (hspec : Spec.specStmt (w n) st = some sdb') :
    routedW s w st = setW w n sdb' ∧ routedClean s w clean st = isCreateTable st := by
  unfold routedW routedClean
  simp only [hc, hspec]; exact ⟨trivial, trivial⟩

theorem routed_cur (s : Sess) (st : Stmt) (hr : isRouted st = true) : (exec s st).1.cur = s.cur :=
  ((exec_step s st).frame (isRouted_ne hr).1 (isRouted_ne hr).2).1

theorem routed_getDB {st : Stmt} (hr : isRouted st = true) {n : String} {db : DB} (hc : s.cur = some n)
    (hg : getDB s n = some db) : ∃ db', getDB (exec s st).1 n = some db' := by
  rw [exec_routed s st hr, onCurrent_some _ hc hg]
  cases evalStmt db [] st with
  | ok _ db' => exact ⟨db', getDB_setDB_same _ _ _⟩
  | err _ db' => exact ⟨db', getDB_setDB_same _ _ _⟩
  | _ => exact ⟨db, hg⟩

theorem step_routed_eqs {st : Stmt} (hr : isRouted st = true) :
    worldStep s w st = routedW s w st ∧ cleanStep s w clean st = routedClean s w clean st := by
  cases st with
  | createTable t c => exact ⟨rfl, rfl⟩
  | insert t c r => exact ⟨rfl, rfl⟩
  | update t a c => exact ⟨rfl, rfl⟩
  | delete t c => exact ⟨rfl, rfl⟩
  | _ => cases hr

/-! ### USE -/

theorem use_cur {name : Bytes} (hok : (exec s (.use name)).2 = Out.ok) :
    (exec s (.use name)).1.cur = some (canon name) := by
  have h := exec_step s (.use name)
  rw [hok] at h
  exact h.use_ok.1

theorem use_accepted {name : Bytes} (hv : validDbName name = true) (hne : name.isEmpty = false)
    (h : (getDB s (canon name)).isSome = true) : (exec s (.use name)).2 = Out.ok := by
  cases hg : getDB s (canon name) with
  | none => rw [hg] at h; cases h
  | some x => simp only [exec, hv, hne, hg, Bool.not_true, Bool.false_eq_true, if_false, Option.isNone_some]

theorem flushed_ckpt {db db' : DB} {sdb : Spec.SDB} (h : DbCrashB db sdb) (hf : flush db [] = .ok () db') :
    CkptNS (closed db') sdb := by
  rw [flush_flushed] at hf
  cases hf
  exact (h.flushed []).reopen

/-- **USE keeps the invariant** and changes no plain database; after an accepted USE of a database that was not
the selected one every database is checkpointed - the one left behind after its flush -, so the flag is set. -/
theorem use_crashInv (hC : CrashLike C) (h : CrashInv C s w clean) (name : Bytes) :
    CrashInv C (exec s (.use name)).1 w (cleanStep s w clean (.use name)) := by
  have habs := (use_sessAbs h.abs name).1
  obtain ⟨s', out, e, hstep⟩ := exec_cases s (.use name)
  rw [cleanStep_use e]
  rw [e] at habs ⊢
  cases hstep with
  | refused _ _ => exact h
  | used _ _ hc => exact ⟨habs, h.holds.used hc⟩
  | switched _ _ hc hne hg hf =>
    have hfl : (decide (s.cur ≠ some (canon name)) || clean) = true := by
      simp [hc, hne]
    refine ⟨habs, ?_⟩
    show Holds _ _ _ (decide (s.cur ≠ some (canon name)) || clean)
    rw [hfl]
    exact h.holds.switched hc (flushed_ckpt (hC.toB (h.crash _ (getDB_mem hg))) hf) fun _ _ => hC.ofCkpt
  | lost _ hc hg => exact (h.abs.not_lost hc hg).elim
  | ran _ hr _ _ _ => cases hr
  | stuck _ hr _ _ _ _ => cases hr
  | unclosed _ _ hc _ hbad => exact (h.abs.not_unclosed hc hbad).elim

theorem use_sessCrash (h : SessCrash s w) (name : Bytes) : SessCrash (exec s (.use name)).1 w :=
  (use_crashInv crashLike h.prime.crashInv name).sessCrash'.base

theorem use_ckpt (hC : CrashLike C) (h : CrashInv C s w clean) (name : Bytes)
    (hok : (exec s (.use name)).2 = Out.ok) :
    (exec s (.use name)).1.cur = some (canon name) ∧
    (∀ p ∈ (exec s (.use name)).1.dbs, p.1 ≠ canon name → CkptNS p.2 (w p.1)) ∧
    ∃ db, getDB (exec s (.use name)).1 (canon name) = some db ∧
      (s.cur ≠ some (canon name) → CkptNS db (w (canon name))) := by
  have h' := use_crashInv hC h name
  have hcur := use_cur hok
  refine ⟨hcur, fun p hp hne => h'.others p hp (by rw [hcur]; intro hx; exact hne (Option.some.inj hx).symm), ?_⟩
  obtain ⟨db, _, _, _, hg, hm, _⟩ := h'.abs.selected hcur
  refine ⟨db, hg, fun hsel => h'.ck ?_ (canon name, db) hm⟩
  rw [cleanStep_use_ok hok]
  simp [hsel]

/-! ### CREATE DATABASE -/

theorem ckptNS_newDB : CkptNS newDB [] := ⟨schNew, ptNew, [], ckpt_newDB, noStale_new⟩

theorem createDatabase_crashInv (hC : CrashLike C) (h : CrashInv C s w clean) (name : Bytes) :
    CrashInv C (exec s (.createDatabase name)).1 (cdW s w name) clean := by
  obtain ⟨s', out, e, hstep⟩ := exec_cases s (.createDatabase name)
  rw [cdW_eq e, e]
  rcases hstep.createDatabase with ⟨rfl, hno⟩ | ⟨rfl, _, rfl⟩
  · cases out with
    | ok => exact absurd rfl hno
    | _ => exact h
  · show CrashInv C _ (setW w (canon name) []) clean
    exact ⟨h.abs.addNew _, h.holds.set (setW_frameC C w _ []) (by rw [setW_same]; exact hC.ofCkpt ckptNS_newDB)
      (fun _ => by rw [setW_same]; exact ckptNS_newDB) .inl⟩

theorem createDatabase_sessCrash (h : SessCrash s w) (name : Bytes) :
    SessCrash (exec s (.createDatabase name)).1 (cdW s w name) :=
  (createDatabase_crashInv crashLike h.prime.crashInv name).sessCrash'.base

/-! ### statements routed to the selected database -/

/-- **The plain model accepts `st` on the selected database, with room**: `n` is selected and names `db`, the plain
model of `w n` accepts the statement with the result `sdb'`, and `db` has room for it under whatever catalog
description it has. -/
structure Accepted (s : Sess) (w : String → Spec.SDB) (st : Stmt) (n : String) (db : DB) (sdb' : Spec.SDB) : Prop where
  cur : s.cur = some n
  get : getDB s n = some db
  spec : Spec.specStmt (w n) st = some sdb'
  room : ∀ pt sch tbls, DbInv db (w n) pt sch tbls → StmtRoom db pt sch tbls st

theorem accepted_exec (habs : SessAbs s w) {st : Stmt} {n : String} {db : DB} {sdb' : Spec.SDB}
    (ha : Accepted s w st n db sdb')
    (hk : (∃ t c r, st = .insert t c r) ∨ (∃ t a c, st = .update t a c) ∨ (∃ t c, st = .delete t c)) :
    ∃ db' pt sch tbls, exec s st = (setDB s n db', Out.ok) ∧ DbInv db' sdb' pt sch tbls ∧
      ∀ sch1, ∃ est, SpecRun sch1 db (w n) [est] db' sdb' := by
  obtain ⟨pt, sch, tbls, hi⟩ := habs.cur_inv ha.get
  obtain ⟨db', pt', sch', tbls', e, hi'⟩ := hi.accepted [] st (ha.room pt sch tbls hi) sdb' ha.spec
  exact ⟨db', pt', sch', tbls', exec_routed_ok (isRouted_of_kind (.inr hk)) ha.cur ha.get e, hi',
    fun sch1 => accepted_specRun hi st hk (ha.room pt sch tbls hi) ha.spec e sch1⟩

/-- **A CREATE TABLE that the plain model accepts, with room - whatever the selected database holds unflushed**:
the statement is accepted, writes no log record, and the selected database is replaced by a CHECKPOINTED one that
holds the plain model's result. -/
theorem createTable_exec (habs : SessAbs s w) {t : Bytes} {cols : List ColDef} {n : String} {db : DB} {sdb' : Spec.SDB}
    (ha : Accepted s w (.createTable t cols) n db sdb') (hB : DbCrashB db (w n)) :
    ∃ db', exec s (.createTable t cols) = (setDB s n db', Out.ok) ∧ db'.wal = db.wal ∧ CkptNS db' sdb' := by
  obtain ⟨hc, hg, hspec, hroom⟩ := ha
  obtain ⟨pt, sch, tbls, hi⟩ := habs.cur_inv hg
  obtain ⟨_, habs0, _⟩ := id hi.abs
  obtain ⟨hself, hfresh⟩ := hB.self_fresh habs0.cat
  obtain ⟨hlo, hchk, hpd, hpl, hsd, hsl, hbig⟩ := hroom pt sch tbls hi
  obtain ⟨hfind, hn1, hn2, hhi, hndc, rfl⟩ := specCreate_some hspec
  obtain ⟨db', pt', sch', tbls', e, hw', hk', hns', _⟩ := hi.createTable_ckpt hself hfresh t cols [] hfind hn1 hn2
    (colFields_ok cols hhi hlo hndc) hchk hpd hpl hsd hsl hbig
  have e' : evalStmt db [] (.createTable t cols) = .ok () db' := e
  exact ⟨db', exec_routed_ok rfl hc hg e', hw', sch', pt', tbls', hk', hns'⟩

theorem _root_.Mkdb.Store.StmtRefusalC.routed {sdb : Spec.SDB} {pt : Levels} {st : Stmt} (h : StmtRefusalC sdb pt st) :
    isRouted st = true := by
  cases h <;> rfl

/-- **The selected database refuses `st` with only its cache grown**: `n` is selected and names `db`, and the refusal
is one of `StmtRefusalC` for the plain database `w n`, under whatever catalog description `db` has. -/
structure Refused (s : Sess) (w : String → Spec.SDB) (st : Stmt) (n : String) (db : DB) : Prop where
  cur : s.cur = some n
  get : getDB s n = some db
  bad : ∀ pt sch tbls, DbInv db (w n) pt sch tbls → StmtRefusalC (w n) pt st

theorem refused_exec (habs : SessAbs s w) {st : Stmt} {n : String} {db : DB} (hr : Refused s w st n db) :
    Spec.specStmt (w n) st = none ∧ ∃ k db' pt sch tbls, exec s st = (setDB s n db', Out.err (stmtErr k)) ∧
      DbInv db' (w n) pt sch tbls ∧ Same db.store db'.store ∧ db'.wal = db.wal ∧ DiskSame db.store db'.store ∧
      MemFiled db'.store := by
  obtain ⟨pt, sch, tbls, hi⟩ := habs.cur_inv hr.get
  have hb := hr.bad pt sch tbls hi
  obtain ⟨hnone, k, db', he, hw, hs, hd, hf⟩ := evalStmt_refused_same db pt sch tbls (w n) hi.rel st hb
  exact ⟨hnone, k, db', pt, sch, tbls, exec_routed_err hb.routed hr.cur hr.get he, hi.same hs hd.1 hf hw, hs, hw, hd, hf⟩

theorem row_crashInv (hC : CrashLike C) (h : CrashInv C s w clean) {st : Stmt} {n : String} {db : DB}
    {sdb' : Spec.SDB} (ha : Accepted s w st n db sdb')
    (hk : (∃ t c r, st = .insert t c r) ∨ (∃ t a c, st = .update t a c) ∨ (∃ t c, st = .delete t c)) :
    (exec s st).2 = Out.ok ∧ CrashInv C (exec s st).1 (setW w n sdb') false := by
  obtain ⟨db', pt, sch, tbls, e, hi', hrun⟩ := accepted_exec h.abs ha hk
  rw [e]
  exact ⟨rfl, h.setCur ha.cur hi' (hC.step (h.crash _ (getDB_mem ha.get)) hrun) (fun hx => by cases hx)⟩

/-- **An accepted CREATE TABLE keeps the invariant - whatever the selected database holds unflushed** - and sets
the flag: the selected database is checkpointed after it, and its log is the one before. -/
theorem createTable_crashInv (hC : CrashLike C) (h : CrashInv C s w clean) {t : Bytes} {cols : List ColDef}
    {n : String} {db : DB} {sdb' : Spec.SDB} (ha : Accepted s w (.createTable t cols) n db sdb') :
    (exec s (.createTable t cols)).2 = Out.ok ∧ CrashInv C (exec s (.createTable t cols)).1 (setW w n sdb') true ∧
      ∃ db', getDB (exec s (.createTable t cols)).1 n = some db' ∧ db'.wal = db.wal ∧ CkptNS db' sdb' := by
  obtain ⟨db', e, hw', hck'⟩ := createTable_exec h.abs ha (hC.toB (h.crash _ (getDB_mem ha.get)))
  obtain ⟨pt', sch', tbls', hfl⟩ := hck'.dbFlushed
  rw [e]
  exact ⟨rfl, h.setCur ha.cur hfl.inv (hC.ofCkpt hck') (fun _ => hck'), db', getDB_setDB_same _ _ _, hw', hck'⟩

/-- **An accepted INSERT / UPDATE / DELETE keeps the crash invariant**: the selected database then holds
the plain model's result, and its log redoes it from the data file. -/
theorem accepted_sessCrash (h : SessCrash s w) {st : Stmt} {n : String} {db : DB} {sdb' : Spec.SDB}
    (ha : Accepted s w st n db sdb')
    (hk : (∃ t c r, st = .insert t c r) ∨ (∃ t a c, st = .update t a c) ∨ (∃ t c, st = .delete t c)) :
    (exec s st).2 = Out.ok ∧ SessCrash (exec s st).1 (setW w n sdb') :=
  (row_crashInv crashLike h.prime.crashInv ha hk).imp id (·.sessCrash'.base)

/-- **An accepted CREATE TABLE keeps the crash invariant** (the new state is checkpointed: CREATE TABLE ends
with a flush and writes no log record). -/
theorem createTable_sessCrash (h : SessCrash s w) {t : Bytes} {cols : List ColDef} {n : String} {db : DB}
    {sdb' : Spec.SDB} (ha : Accepted s w (.createTable t cols) n db sdb') :
    (exec s (.createTable t cols)).2 = Out.ok ∧ SessCrash (exec s (.createTable t cols)).1 (setW w n sdb') :=
  (createTable_crashInv crashLike h.prime.crashInv ha).imp id (·.1.sessCrash'.base)

/-- **A statement the selected database refuses with only its cache grown keeps the invariant, for the same
plain databases**, and the flag.  If the selected database was checkpointed it still is. -/
theorem refused_crashInv (hsame : SameClosed C) (h : CrashInv C s w clean) {st : Stmt} {n : String} {db : DB}
    (hr : Refused s w st n db) :
    Spec.specStmt (w n) st = none ∧ (∃ k, (exec s st).2 = Out.err k) ∧ CrashInv C (exec s st).1 w clean ∧
    ∃ db', getDB (exec s st).1 n = some db' ∧ (CkptNS db (w n) → CkptNS db' (w n)) := by
  obtain ⟨hnone, k, db', pt, sch, tbls, e, hi', hs, hw, hd, hf⟩ := refused_exec h.abs hr
  have := h.setCur hr.cur hi' (hsame _ _ _ (h.crash _ (getDB_mem hr.get)) hs hw hd hf) (clean' := clean)
    (fun hcl => (h.ck hcl _ (getDB_mem hr.get)).same hs hw hd hf)
  rw [setW_self] at this
  rw [e]
  exact ⟨hnone, ⟨_, rfl⟩, this, db', getDB_setDB_same _ _ _, fun hck => hck.same hs hw hd hf⟩


/-- **An INSERT refused at its first row - also for the SIZE of the row, after the row-id and LSN counters
moved - keeps the invariant, for the same plain databases.**  The statement returns an error, the plain model
refuses it too; the log and the data file of the selected database are as before.  The flag is cleared: if the
selected database was checkpointed it still abstracts as before, but it is no longer checkpointed when the
counters moved (the header in the data file is behind). -/
theorem firstRow_crashInv (h : CrashInv DbCrashB s w clean) (n : String)
    (hc : s.cur = some n) (db : DB) (hg : getDB s n = some db) (st : Stmt)
    (hbad : FirstRowRefused (w n) st) :
    Spec.specStmt (w n) st = none ∧ (∃ k, (exec s st).2 = Out.err k) ∧ CrashInv DbCrashB (exec s st).1 w false ∧
    ∃ db', getDB (exec s st).1 n = some db' ∧ db'.wal = db.wal ∧ DiskSame db.store db'.store := by
  obtain ⟨pt, sch, tbls, hi⟩ := h.abs.cur_inv hg
  cases st with
  | insert t cols rows =>
    cases rows with
    | nil => exact hbad.elim
    | cons r rest =>
      obtain ⟨tab, hft, hrow⟩ := hbad
      have hnone : Spec.specStmt (w n) (.insert t cols (r :: rest)) = none :=
        (evalStmt_refused_spec db [] pt sch tbls (w n) hi.rel _
          (.insert t cols r rest (.inr ⟨tab, hft, .inl hrow⟩))).1
      obtain ⟨e, s', he, hA', hnf, hlk⟩ := evalStmt_firstRow_refused db pt sch tbls (w n) hi.abs t cols r rest
        ⟨tab, hft, hrow⟩
      obtain ⟨hd, hf⟩ := evalStmt_err_disk_filed hi.filed he
      simp only at hd hf
      -- the refused statement keeps every catalog description, not only the one of `hi`
      have hall : ∀ pt2 sch2 tbls2, AbsV db.store pt2 sch2 tbls2 (w n) → AbsV s' pt2 sch2 tbls2 (w n) := by
        intro pt2 sch2 tbls2 hA2
        obtain ⟨e2, s2, he2, hA2', _⟩ := evalStmt_firstRow_refused db pt2 sch2 tbls2 (w n) hA2 t cols r rest
          ⟨tab, hft, hrow⟩
        rw [he] at he2
        simp only [Engine.Res.err.injEq] at he2
        have : s' = s2 := congrArg Engine.DB.store he2.2
        rw [this]; exact hA2'
      have hcr : DbCrashB { db with store := s' } (w n) :=
        (h.crash (n, db) (getDB_mem hg)).drift hall hnf hlk rfl hd hf
      obtain ⟨_, hcat, _⟩ := id hi.abs
      have hi' : DbInv { db with store := s' } (w n) pt sch tbls :=
        hi.live_run (db' := { db with store := s' }) (.nil _ _) hcat.cat hA' rfl hd.2.2 hlk (.inr rfl) hd hf
      have := h.setCur hc hi' hcr (clean' := false) (fun hx => by cases hx)
      rw [setW_self] at this
      rw [exec_routed_err rfl hc hg he]
      exact ⟨hnone, ⟨_, rfl⟩, this, { db with store := s' }, getDB_setDB_same _ _ _, rfl, hd⟩
  | _ => exact hbad.elim

theorem restart_crashInv (hC : CrashLike C) (h : CrashInv C s w clean) :
    ∃ s1, restart s = some s1 ∧ CrashInv C s1 w true := by
  obtain ⟨s1, e1, h1, _, _, hall⟩ := restart_ok h.abs (h.allB hC)
  exact ⟨s1, e1, h1.crashInv_true hC hall⟩

theorem crashRestart_crashInv (hC : CrashLike C) (h : CrashInv C s w clean) :
    ∃ s1, crashRestart s = some s1 ∧ CrashInv C s1 w true := by
  obtain ⟨s1, e1, h1, _, _, hall⟩ := crashRestart_ok h.abs (h.allB hC)
  exact ⟨s1, e1, h1.crashInv_true hC hall⟩

end

/-! ### the side conditions of one statement, and the statement theorem -/

/-- the side condition of a statement routed to the selected database: it leaves the session as it is and
the plain model refuses it too; or the plain model accepts it, with room, a CREATE TABLE only while the
flag is set (the statement theorem `routed_crashInv` does not use this last conjunct: an accepted CREATE TABLE keeps
the invariant whatever is unflushed, `createTable_crashInv`; `OkRouted4` is the condition without it) -/
def OkRouted (s : Sess) (w : String → Spec.SDB) (clean : Bool) (st : Stmt) : Prop :=
  ((exec s st).1 = s ∧ ∀ n, s.cur = some n → Spec.specStmt (w n) st = none) ∨
  (∃ n db sdb', s.cur = some n ∧ getDB s n = some db ∧ Spec.specStmt (w n) st = some sdb' ∧
    (∀ pt sch tbls, DbInv db (w n) pt sch tbls → StmtRoom db pt sch tbls st) ∧
    (isCreateTable st = true → clean = true))

/-- the side condition of a statement: none for CREATE DATABASE, USE, SHOW DATABASES, SELECT -/
def OkStmt (s : Sess) (w : String → Spec.SDB) (clean : Bool) (st : Stmt) : Prop :=
  isRouted st = true → OkRouted s w clean st

/-- the side condition of a statement routed to the selected database: `OkRouted` (it leaves the session as it
is and the plain model refuses it; or the plain model accepts it with room), or the selected database refuses
it with only its cache grown (`StmtRefusalC`, for whatever catalog description the database has) -/
def OkRouted2 (s : Sess) (w : String → Spec.SDB) (clean : Bool) (st : Stmt) : Prop :=
  OkRouted s w clean st ∨
  ∃ n db, s.cur = some n ∧ getDB s n = some db ∧
    ∀ pt sch tbls, DbInv db (w n) pt sch tbls → StmtRefusalC (w n) pt st

def OkStmt2 (s : Sess) (w : String → Spec.SDB) (clean : Bool) (st : Stmt) : Prop :=
  isRouted st = true → OkRouted2 s w clean st

/-- the side condition of a statement routed to the selected database: it leaves the session as it is and the
plain model refuses it too; or the plain model accepts it, with room - a CREATE TABLE too, whenever it comes -;
or the selected database refuses it with only its cache grown (`StmtRefusalC`) -/
def OkRouted4 (s : Sess) (w : String → Spec.SDB) (st : Stmt) : Prop :=
  ((exec s st).1 = s ∧ ∀ n, s.cur = some n → Spec.specStmt (w n) st = none) ∨
  (∃ n db sdb', s.cur = some n ∧ getDB s n = some db ∧ Spec.specStmt (w n) st = some sdb' ∧
    (∀ pt sch tbls, DbInv db (w n) pt sch tbls → StmtRoom db pt sch tbls st)) ∨
  (∃ n db, s.cur = some n ∧ getDB s n = some db ∧
    ∀ pt sch tbls, DbInv db (w n) pt sch tbls → StmtRefusalC (w n) pt st)

def OkStmt4 (s : Sess) (w : String → Spec.SDB) (st : Stmt) : Prop :=
  isRouted st = true → OkRouted4 s w st

theorem OkRouted2.toOkRouted4 {s : Sess} {w : String → Spec.SDB} {clean : Bool} {st : Stmt}
    (h : OkRouted2 s w clean st) : OkRouted4 s w st := by
  rcases h with (h | ⟨n, db, sdb', hc, hg, hspec, hroom, _⟩) | h
  · exact .inl h
  · exact .inr (.inl ⟨n, db, sdb', hc, hg, hspec, hroom⟩)
  · exact .inr (.inr h)

section
variable {C : DB → Spec.SDB → Prop} {s : Sess} {w : String → Spec.SDB} {clean : Bool}

theorem unchanged_crashInv (h : CrashInv C s w clean) (st : Stmt) (hs : (exec s st).1 = s)
    (hno : ∀ n, s.cur = some n → Spec.specStmt (w n) st = none) :
    CrashInv C (exec s st).1 (routedW s w st) (routedClean s w clean st) := by
  obtain ⟨e1, e2⟩ := routed_refused_eqs (clean := clean) hno
  rw [e1, e2, hs]; exact h

theorem accepted_crashInv (hC : CrashLike C) (h : CrashInv C s w clean) (st : Stmt) (hr : isRouted st = true)
    {n : String} {db : DB} {sdb' : Spec.SDB} (ha : Accepted s w st n db sdb') :
    CrashInv C (exec s st).1 (routedW s w st) (routedClean s w clean st) := by
  obtain ⟨e1, e2⟩ := routed_accepted_eqs (clean := clean) ha.cur ha.spec
  rw [e1, e2]
  cases st with
  | createTable t cols => exact (createTable_crashInv hC h ha).2.1
  | insert t c r => exact (row_crashInv hC h ha (.inl ⟨t, c, r, rfl⟩)).2
  | update t a c => exact (row_crashInv hC h ha (.inr (.inl ⟨t, a, c, rfl⟩))).2
  | delete t c => exact (row_crashInv hC h ha (.inr (.inr ⟨t, c, rfl⟩))).2
  | _ => cases hr

theorem refusedC_crashInv (hsame : SameClosed C) (h : CrashInv C s w clean) (st : Stmt) {n : String} {db : DB}
    (hr : Refused s w st n db) : CrashInv C (exec s st).1 (routedW s w st) (routedClean s w clean st) := by
  obtain ⟨hnone, _, hinv, _⟩ := refused_crashInv hsame h hr
  have hno : ∀ m, s.cur = some m → Spec.specStmt (w m) st = none := fun m hm => by
    rw [hr.cur] at hm; cases hm; exact hnone
  obtain ⟨e1, e2⟩ := routed_refused_eqs (clean := clean) hno
  rw [e1, e2]; exact hinv

theorem routed_crashInv (hC : CrashLike C) (h : CrashInv C s w clean) (st : Stmt) (hr : isRouted st = true)
    (hok : OkRouted s w clean st) : CrashInv C (exec s st).1 (routedW s w st) (routedClean s w clean st) := by
  rcases hok with ⟨hs, hno⟩ | ⟨n, db, sdb', hc, hg, hspec, hroom, _⟩
  · exact unchanged_crashInv h st hs hno
  · exact accepted_crashInv hC h st hr ⟨hc, hg, hspec, hroom⟩

theorem routed4_crashInv (hC : CrashLike C) (hsame : SameClosed C) (h : CrashInv C s w clean) (st : Stmt)
    (hr : isRouted st = true) (hok : OkRouted4 s w st) :
    CrashInv C (exec s st).1 (routedW s w st) (routedClean s w clean st) := by
  rcases hok with ⟨hs, hno⟩ | ⟨n, db, sdb', hc, hg, hspec, hroom⟩ | ⟨n, db, hc, hg, hbad⟩
  · exact unchanged_crashInv h st hs hno
  · exact accepted_crashInv hC h st hr ⟨hc, hg, hspec, hroom⟩
  · exact refusedC_crashInv hsame h st ⟨hc, hg, hbad⟩

/-- **One statement keeps the invariant**, for the plain databases and the flag `worldStep` and `cleanStep` give,
if a statement routed to the selected database does. -/
theorem step_crashInv (hC : CrashLike C) (h : CrashInv C s w clean) (st : Stmt)
    (hrouted : isRouted st = true → CrashInv C (exec s st).1 (routedW s w st) (routedClean s w clean st)) :
    CrashInv C (exec s st).1 (worldStep s w st) (cleanStep s w clean st) := by
  cases st with
  | createDatabase name => exact createDatabase_crashInv hC h name
  | use name => exact use_crashInv hC h name
  | showDatabases => exact h
  | select q =>
    show CrashInv C (exec s (.select q)).1 w clean
    rw [exec_select_fst]; exact h
  | createTable t c => exact hrouted rfl
  | insert t c r => exact hrouted rfl
  | update t a c => exact hrouted rfl
  | delete t c => exact hrouted rfl

end
end Mkdb.Session
