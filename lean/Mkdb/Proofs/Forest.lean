import Mkdb.Proofs.Tree
import Mkdb.Proofs.TreeLookup
/-!
Several trees in one file: new pages come only from the shared allocation frontier, so a step on
one tree leaves every other tree untouched and never makes two trees share a page (`Inv_apart`).  Also the round
trip between the levels representation and the page heap: reading a tree back from any page lookup that
shows its pages (`ofHeap_of_pages`), in particular from its own pages (`ofHeap_flatten`).
-/
set_option autoImplicit false
namespace Mkdb.Tree
open Mkdb.Page Mkdb.Generated

theorem Inv_mono (t : Levels) (nf nf' : Nat) (h : Inv t nf) (hle : nf ≤ nf') : Inv t nf' :=
  { h with offs := ⟨h.offs.1, fun o ho => Nat.lt_of_lt_of_le (h.offs.2 o ho) hle⟩ }

/-- pages that are `old` ones or lie at or above the frontier are no pages of a tree below it that has none of
the `old` -/
theorem Inv_apart {u : Levels} {nf : Nat} (hu : Inv u nf) {old new : List Nat}
    (hnew : ∀ o ∈ new, o ∈ old ∨ nf ≤ o) (hdis : ∀ o ∈ offs u, o ∉ old) : ∀ o ∈ offs u, o ∉ new := by
  intro o ho hon
  rcases hnew o hon with h1 | h1
  · exact hdis o ho h1
  · have := hu.offs.2 o ho; omega

theorem insertAppend_sep {t t' u : Levels} {k lsn nf nf' : Nat} {v : Bytes}
    (h : insertAppend t k lsn v nf = .ok (t', nf')) (hu : Inv u nf) (hdis : ∀ o ∈ offs u, o ∉ offs t) :
    ∀ o ∈ offs u, o ∉ offs t' :=
  Inv_apart hu (fun o ho => (insertAppend_offs_new t t' k lsn nf nf' v h o ho).imp id And.left) hdis

/-! ### a forest of trees over one allocation frontier -/

structure Forest where
  trees : List Levels
  nextFree : Nat

inductive FOp where
  | ins (i key lsn : Nat) (v : Bytes)
  | upd (i key lsn : Nat) (v : Bytes)
  | del (i key lsn : Nat)

def target : FOp → Nat
  | .ins i _ _ _ => i
  | .upd i _ _ _ => i
  | .del i _ _ => i

def Forest.step (f : Forest) : FOp → Forest
  | .ins i key lsn v => match f.trees[i]? with
      | none => f
      | some t => match insertAppend t key lsn v f.nextFree with
        | .ok (t', nf') => { trees := f.trees.set i t', nextFree := nf' }
        | .error _ => f
  | .upd i key lsn v => match f.trees[i]? with
      | none => f
      | some t => { f with trees := f.trees.set i (setVal t key lsn v) }
  | .del i key lsn => match f.trees[i]? with
      | none => f
      | some t => { f with trees := f.trees.set i (setDeleted t key lsn) }

def Forest.run (f : Forest) (ops : List FOp) : Forest := ops.foldl Forest.step f

/-- every tree is well formed below the shared frontier, and no page belongs to two trees -/
def Forest.Inv (f : Forest) : Prop :=
  (∀ t ∈ f.trees, Mkdb.Tree.Inv t f.nextFree) ∧
  (f.trees.map offs).Pairwise (fun a b => ∀ o ∈ a, o ∉ b)

theorem pairwise_set {α} (R : α → α → Prop) (hsym : ∀ a b, R a b → R b a) (l : List α) (i : Nat) (x : α)
    (hp : l.Pairwise R) (hx : ∀ j (hj : j < l.length), j ≠ i → R x l[j]) : (l.set i x).Pairwise R := by
  rw [List.pairwise_iff_getElem] at hp ⊢
  intro a b ha hb hab
  rw [List.length_set] at ha hb
  rw [List.getElem_set, List.getElem_set]
  by_cases h1 : i = a
  · have h2 : ¬ i = b := by omega
    rw [if_pos h1, if_neg h2]
    exact hx b hb (by omega)
  · rw [if_neg h1]
    by_cases h2 : i = b
    · rw [if_pos h2]
      exact hsym _ _ (hx a ha (by omega))
    · rw [if_neg h2]
      exact hp a b ha hb hab

theorem rel_of_pairwise_ne {α} (R : α → α → Prop) (hsym : ∀ a b, R a b → R b a) (l : List α)
    (hp : l.Pairwise R) (a b : Nat) (ha : a < l.length) (hb : b < l.length) (hab : a ≠ b) : R l[a] l[b] := by
  rw [List.pairwise_iff_getElem] at hp
  rcases Nat.lt_or_gt_of_ne hab with h | h
  · exact hp a b ha hb h
  · exact hsym _ _ (hp b a hb ha h)

theorem disj_symm (a b : List Nat) (h : ∀ o ∈ a, o ∉ b) : ∀ o ∈ b, o ∉ a :=
  fun o hb ha => h o ha hb

theorem Forest.set_inv (f : Forest) (i : Nat) (t t' : Levels) (nf' : Nat) (hf : f.Inv)
    (ht : f.trees[i]? = some t) (hle : f.nextFree ≤ nf') (hinv : Mkdb.Tree.Inv t' nf')
    (hnew : ∀ o ∈ offs t', o ∈ offs t ∨ f.nextFree ≤ o) :
    Forest.Inv { trees := f.trees.set i t', nextFree := nf' } := by
  obtain ⟨hall, hdis⟩ := hf
  obtain ⟨hi, hti⟩ := List.getElem?_eq_some_iff.mp ht
  refine ⟨?_, ?_⟩
  · intro s hs
    rcases List.mem_or_eq_of_mem_set hs with hs | rfl
    · exact Inv_mono s _ _ (hall s hs) hle
    · exact hinv
  · show ((f.trees.set i t').map offs).Pairwise _
    rw [List.map_set]
    apply pairwise_set _ disj_symm _ _ _ hdis
    intro j hj hji
    rw [List.length_map] at hj
    rw [List.getElem_map]
    have hd := rel_of_pairwise_ne _ disj_symm _ hdis j i (by simpa using hj) (by simpa using hi) hji
    simp only [List.getElem_map, hti] at hd
    exact disj_symm _ _ (Inv_apart (hall _ (List.getElem_mem hj)) hnew hd)

def FOp.toT : FOp → TOp
  | .ins _ key lsn v => .ins key lsn v
  | .upd _ key lsn v => .upd key lsn v
  | .del _ key lsn => .del key lsn

theorem Forest.step_eq (f : Forest) (op : FOp) :
    f.step op = match f.trees[target op]? with
      | none => f
      | some t => ⟨f.trees.set (target op) (applyOp (t, f.nextFree) op.toT).1,
          (applyOp (t, f.nextFree) op.toT).2⟩ := by
  cases op with
  | ins i key lsn v =>
    simp only [Forest.step, target, FOp.toT, applyOp]
    cases ht : f.trees[i]? with
    | none => rfl
    | some t =>
      dsimp only
      cases hins : insertAppend t key lsn v f.nextFree with
      | ok r => rfl
      | error e =>
        obtain ⟨hi, rfl⟩ := List.getElem?_eq_some_iff.mp ht
        simp only [List.set_getElem_self]
  | upd i key lsn v => rfl
  | del i key lsn => rfl

theorem Forest.step_inv (f : Forest) (op : FOp) (hf : f.Inv) : (f.step op).Inv := by
  rw [Forest.step_eq]
  split
  · exact hf
  · rename_i t ht
    exact Forest.set_inv f _ t _ _ hf ht (applyOp_nf_mono (t, f.nextFree) op.toT)
      (applyOp_inv (t, f.nextFree) op.toT (hf.1 t (List.mem_of_getElem? ht)))
      (applyOp_offs_new (t, f.nextFree) op.toT)

theorem Forest.run_inv (f : Forest) (ops : List FOp) (hf : f.Inv) : (f.run ops).Inv := by
  induction ops generalizing f with
  | nil => exact hf
  | cons op ops ih => exact ih (f.step op) (Forest.step_inv f op hf)

theorem Forest.step_other (f : Forest) (op : FOp) :
    ∀ j, j ≠ target op → (f.step op).trees[j]? = f.trees[j]? := by
  intro j hj
  rw [Forest.step_eq]
  split
  · rfl
  · exact List.getElem?_set_ne hj.symm

theorem Forest.step_trees_length (f : Forest) (op : FOp) : (f.step op).trees.length = f.trees.length := by
  rw [Forest.step_eq]
  split
  · rfl
  · exact List.length_set

theorem Forest.run_trees_length (f : Forest) (ops : List FOp) : (f.run ops).trees.length = f.trees.length := by
  induction ops generalizing f with
  | nil => rfl
  | cons op ops ih => exact (ih (f.step op)).trans (Forest.step_trees_length f op)

theorem Forest.step_nextFree (f : Forest) (op : FOp) : f.nextFree ≤ (f.step op).nextFree := by
  rw [Forest.step_eq]
  split
  · exact Nat.le_refl _
  · rename_i t _
    exact applyOp_nf_mono (t, f.nextFree) op.toT

def cellsAfter (nf : Nat) (t : Levels) : FOp → List LeafCell
  | .ins _ key lsn v =>
    match insertAppend t key lsn v nf with
    | .ok _ => cells t ++ [⟨key, false, v⟩]
    | .error _ => cells t
  | .upd _ key _ v => (cells t).map (fun c => if c.key == key then { c with val := v } else c)
  | .del _ key _ => (cells t).map (fun c => if c.key == key then { c with deleted := true } else c)

theorem cells_applyOp_toT (nf : Nat) (t : Levels) (op : FOp) :
    cells (applyOp (t, nf) op.toT).1 = cellsAfter nf t op := by
  rw [cells_applyOp]
  cases op <;> rfl

theorem Forest.step_cells (f : Forest) (op : FOp) (t : Levels) (ht : f.trees[target op]? = some t) :
    ∃ t', (f.step op).trees[target op]? = some t' ∧ cells t' = cellsAfter f.nextFree t op := by
  rw [Forest.step_eq, ht]
  exact ⟨_, List.getElem?_set_self (List.getElem?_eq_some_iff.mp ht).1, cells_applyOp_toT _ t op⟩

/-- "no row leaks into another table": the cells of every non-target tree are unchanged -/
theorem Forest.step_cells_other (f : Forest) (op : FOp) (j : Nat) (hj : j ≠ target op) :
    (f.step op).trees[j]?.map cells = f.trees[j]?.map cells := by
  rw [Forest.step_other f op j hj]

/-! ### the levels representation and the page heap -/

/-- the tree's own pages as a page lookup: the first entry of `flatten t` under the offset -/
def heapOf (t : Levels) : Nat → Option (Node × Bool) :=
  fun off => ((flatten t).find? (·.1 == off)).map (·.2)

theorem heapOf_mem (t : Levels) (hnd : (offs t).Nodup) (e : Nat × Node × Bool) (he : e ∈ flatten t) :
    heapOf t e.1 = some e.2 := by
  obtain ⟨a, ha, rfl⟩ := List.mem_iff_getElem.mp he
  unfold heapOf
  have := Lookup.find_by_key (fun e : Nat × Node × Bool => e.1) (flatten t) hnd a ha
  rw [this]
  rfl

theorem heapOf_leaf (t : Levels) (hnd : (offs t).Nodup) (p : Leaf × Bool) (hp : p ∈ t.leaves) :
    heapOf t p.1.off = some (Node.leaf p.1, p.2) :=
  heapOf_mem t hnd (p.1.off, Node.leaf p.1, p.2)
    (List.mem_append_left _ (List.mem_map.mpr ⟨p, hp, rfl⟩))

theorem heapOf_internal (t : Levels) (hnd : (offs t).Nodup) (lvl : List (Internal × Bool))
    (hl : lvl ∈ t.inner) (p : Internal × Bool) (hp : p ∈ lvl) :
    heapOf t p.1.off = some (Node.internal p.1, p.2) :=
  heapOf_mem t hnd (p.1.off, Node.internal p.1, p.2)
    (List.mem_append_right _ (List.mem_flatMap.mpr ⟨lvl, hl, List.mem_map.mpr ⟨p, hp, rfl⟩⟩))

/-- the offsets of the topmost row of a stack of levels over a bottom row -/
def topRow : List Nat → List (List (Internal × Bool)) → List Nat
  | below, [] => below
  | _, lvl :: rest => topRow (lvl.map (·.1.off)) rest

theorem topRow_snoc (lo : List (List (Internal × Bool))) (lvl : List (Internal × Bool)) :
    ∀ below, topRow below (lo ++ [lvl]) = lvl.map (·.1.off) := by
  induction lo with
  | nil => intro below; rfl
  | cons l lo ih => intro below; exact ih _

theorem linked_mid (lo : List (List (Internal × Bool))) (lvl : List (Internal × Bool)) (hi) :
    ∀ below, linked below (lo ++ lvl :: hi) → childOffs lvl = topRow below lo := by
  induction lo with
  | nil => intro below h; exact h.1
  | cons l lo ih => intro below h; exact ih _ h.2

theorem linked_topRow_len (lvls : List (List (Internal × Bool))) :
    ∀ below, linked below lvls → (topRow below lvls).length = 1 := by
  induction lvls with
  | nil => intro below h; exact h
  | cons l lvls ih => intro below h; exact ih _ h.2

theorem rootOf_topRow (lvls : List (List (Internal × Bool))) :
    ∀ below, Lookup.rootOf below lvls = (topRow below lvls).head?.getD 0 := by
  induction lvls with
  | nil => intro below; rfl
  | cons l lvls ih => intro below; exact ih _

theorem singleton_head (l : List Nat) (h : l.length = 1) : [l.head?.getD 0] = l := by
  match l, h with
  | [x], _ => rfl

theorem filterMap_map_some {α β : Type} (f : α → β) (g : β → Option α) (h : ∀ a, g (f a) = some a)
    (l : List α) : (l.map f).filterMap g = l := by
  rw [List.filterMap_map, show g ∘ f = some from funext h, List.filterMap_some]

theorem topRow_root (t : Levels) (hl : LinkOK t) :
    topRow (t.leaves.map (·.1.off)) t.inner = [rootOff t] := by
  rw [Lookup.rootOff_eq, rootOf_topRow]
  exact (singleton_head _ (linked_topRow_len _ _ hl)).symm

/-- the root of a linked tree is one page: the only leaf when there is no inner level, … -/
theorem LinkOK.leaves_len {t : Levels} (hl : LinkOK t) (hin : t.inner = []) : t.leaves.length = 1 := by
  unfold LinkOK at hl
  rw [hin] at hl
  exact (List.length_map ..).symm.trans hl

theorem LinkOK.only_leaf {t : Levels} (hl : LinkOK t) (hin : t.inner = []) {pre : List (Leaf × Bool)} {x}
    (hpre : t.leaves = pre ++ [x]) : pre = [] := by
  have h := hl.leaves_len hin
  rw [hpre] at h
  exact List.eq_nil_of_length_eq_zero (by simpa using h)

/-- … else the only node of the last level -/
theorem LinkOK.top_len {t : Levels} (hl : LinkOK t) {lo top} (hin : t.inner = lo ++ [top]) : top.length = 1 := by
  have h1 := linked_topRow_len t.inner _ hl
  rw [hin, topRow_snoc, List.length_map] at h1
  exact h1

/-- the page lookup `get` shows every node of `t`, with its dirty bit, at the offset the node carries.  Of a store:
`Shows (view s) t` is `Store.Holds s t` split by node kind (`Store.shows_of_holds`, RefineInsert); of the tree's own
pages (`heapOf t`) it is `heapOf_leaf` and `heapOf_internal`. -/
def Shows (get : Nat → Option (Node × Bool)) (t : Levels) : Prop :=
  (∀ p ∈ t.leaves, get p.1.off = some (Node.leaf p.1, p.2)) ∧
  (∀ lvl ∈ t.inner, ∀ p ∈ lvl, get p.1.off = some (Node.internal p.1, p.2))

/-- The loop of `ofHeap` rebuilds `t` from any moment of its climb: `rlo` holds the levels already read, top one
first, `hi` the levels still above, and the row the loop stands on is the top row of what was read.  Fuel: one
unit for each level read so far, one more, any `extra`. -/
theorem go_pages (get : Nat → Option (Node × Bool)) (t : Levels) (hsh : Shows get t) (hlink : LinkOK t) :
    ∀ (rlo : List (List (Internal × Bool))) (hi : List (List (Internal × Bool))) (extra : Nat),
      t.inner = rlo.reverse ++ hi →
      ofHeap.go get (rlo.length + 1 + extra) (topRow (t.leaves.map (·.1.off)) rlo.reverse) hi
        = some t := by
  intro rlo
  induction rlo with
  | nil =>
    intro hi extra hin
    have hf : ([] : List (List (Internal × Bool))).length + 1 + extra = extra.succ := by
      simp only [List.length_nil]; omega
    rw [hf, ofHeap.go.eq_2]
    simp only [List.reverse_nil, topRow]
    rw [mapM_map_eq_some_map get (fun p : Leaf × Bool => p.1.off) (fun p => (Node.leaf p.1, p.2)) t.leaves
      (fun p hp => hsh.1 p hp)]
    simp only [List.reverse_nil, List.nil_append] at hin
    cases t with
    | mk leaves inner =>
      subst hin
      simp [List.filterMap_map, Function.comp_def]
  | cons lvl rest ih =>
    intro hi extra hin
    have hf : (lvl :: rest).length + 1 + extra = (rest.length + 1 + extra).succ := by
      simp only [List.length_cons]; omega
    rw [List.reverse_cons, List.append_assoc, List.singleton_append] at hin
    have hmem : lvl ∈ t.inner := by rw [hin]; simp
    have hne : lvl ≠ [] := linked_levels_ne _ _ hlink lvl hmem
    have hchild : childOffs lvl = topRow (t.leaves.map (·.1.off)) rest.reverse := by
      apply linked_mid rest.reverse lvl hi
      rw [← hin]; exact hlink
    rw [hf, ofHeap.go.eq_2, List.reverse_cons, topRow_snoc]
    rw [mapM_map_eq_some_map get (fun p : Internal × Bool => p.1.off) (fun p => (Node.internal p.1, p.2)) lvl
      (fun p hp => hsh.2 lvl hmem p hp)]
    dsimp only
    rw [if_neg (by cases lvl with
          | nil => exact absurd rfl hne
          | cons p ps => simp), if_pos (by simp)]
    have := ih (lvl :: hi) extra hin
    rw [← hchild] at this
    rw [filterMap_map_some (fun p : Internal × Bool => (Node.internal p.1, p.2)) _ (fun p => rfl)]
    exact this

theorem ofHeap_of_pages (get : Nat → Option (Node × Bool)) (t : Levels) (hsh : Shows get t) (hlink : LinkOK t)
    (extra : Nat) : ofHeap get (t.inner.length + 2 + extra) (rootOff t) = some t := by
  have hf : t.inner.length + 2 + extra = (t.inner.length + 1 + extra).succ := by omega
  rw [hf, ofHeap.eq_2, ← topRow_root t hlink]
  have := go_pages get t hsh hlink t.inner.reverse [] extra (by simp)
  simpa using this

theorem ofHeap_flatten_fuel (t : Levels) (nf : Nat) (h : Inv t nf) (extra : Nat) :
    ofHeap (heapOf t) (t.inner.length + 2 + extra) (rootOff t) = some t :=
  ofHeap_of_pages (heapOf t) t ⟨heapOf_leaf t h.offs.1, heapOf_internal t h.offs.1⟩ h.link extra

theorem ofHeap_flatten (t : Levels) (nf : Nat) (h : Inv t nf) :
    ofHeap (heapOf t) (t.inner.length + 2) (rootOff t) = some t :=
  ofHeap_flatten_fuel t nf h 0

/-! ### sanity checks by evaluation -/

example : ofHeap (heapOf sampleTree) 3 (rootOff sampleTree) = some sampleTree := by decide +kernel

/-- two tables in one file: 12 inserts into table 0 (forcing a split) interleaved with work on
table 1 leave table 1 with exactly its own rows -/
example :
    let f0 : Forest := { trees := [emptyTree 4096, emptyTree 8192], nextFree := 12288 }
    let ops := (List.range' 1 12).flatMap fun k => [FOp.ins 0 k 0 [], FOp.ins 1 (100 + k) 0 [], FOp.del 1 (100 + k) 0]
    ((f0.run ops).trees.map fun t => (live t).map (·.key)) = [List.range' 1 12, []] := by decide +kernel

end Mkdb.Tree
