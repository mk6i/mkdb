import Mkdb.Model.Csv
import Mkdb.Proofs.Tuple
import Mkdb.Proofs.ListOption
import Mkdb.Proofs.Atoi
/-!
Proofs about the CSV importer model: an accepted record is stored as exactly the converted
fields (`convert_spec`): `csvToSql` converts position by position (`csvToSql_getElem?`), and the row an
INSERT with a column list stores holds each value at the position of the column it is given for
(`namedRow_getElem?` of `Tuple`; the plain model's `Spec.rowOf` stores the same row).
-/
namespace Mkdb.Csv
open Mkdb.Tuple Mkdb.Generated

section mapM
variable {α β : Type}

theorem mapM_some_length {f : α → Option β} {l : List α} {r : List β}
    (h : l.mapM f = some r) : r.length = l.length :=
  Mkdb.mapM_some_length h

end mapM

/-! ### the catalog lookup of `colTypes` -/

theorem colTypes_getElem? (schema : List FieldDef) (dst : List String) (types : List DataType)
    (hnd : (schema.map (·.name)).Nodup) (h : colTypes schema dst = some types)
    (fd : FieldDef) (hfd : fd ∈ schema) (i : Nat) (hi : dst[i]? = some fd.name) :
    types[i]? = some fd.ty := by
  obtain ⟨ty, h1, h2⟩ := mapM_some_getElem? h hi
  have hnd' : (schema.reverse.map (·.name)).Nodup := by
    rw [List.map_reverse]; exact (List.reverse_perm _).nodup_iff.mpr hnd
  rw [find?_of_mem (key := (·.name)) hnd' (List.mem_reverse.mpr hfd)] at h1
  simp at h1
  rw [h2, h1]

/-! ### converted values are values a Go program can hold -/

theorem convField_valid {ty : DataType} {f : Bytes} {v : Val} (hf : f.length < 2 ^ 32)
    (h : convField ty f = some v) : ValidVal v := by
  unfold convField at h
  split at h
  · cases h; trivial
  · cases ty <;> simp only at h
    · cases ha : Sql.atoi f with
      | none => simp [ha] at h
      | some i => simp [ha] at h; subst h; exact Sql.atoi_int64 ha
    · cases h; exact hf
    · cases hb : boolWord f with
      | none => simp [hb] at h
      | some b => simp [hb] at h; subst h; trivial
    · cases ha : Sql.atoi f with
      | none => simp [ha] at h
      | some i => simp [ha] at h; subst h; exact Sql.atoi_int64 ha

theorem csvToSql_valid {types : List DataType} {src : List Nat} {rec : List Bytes} {vals : List Val}
    (hfields : ∀ f ∈ rec, f.length < 2 ^ 32) (h : csvToSql types src rec = some vals) :
    ∀ v ∈ vals, ValidVal v := by
  unfold csvToSql at h
  intro v hvm
  obtain ⟨⟨idx, ty⟩, _, hconv⟩ := mapM_out_mem h _ hvm
  simp only at hconv
  cases hr : rec[idx]? with
  | none => simp [hr] at hconv
  | some f =>
    simp only [hr] at hconv
    exact convField_valid (hfields f (List.mem_of_getElem? hr)) hconv

theorem csvToSql_getElem? {types : List DataType} {src : List Nat} {rec : List Bytes} {vals : List Val}
    (h : csvToSql types src rec = some vals) {i idx : Nat} {ty : DataType}
    (hi : src[i]? = some idx) (hty : types[i]? = some ty) :
    ∃ f v, rec[idx]? = some f ∧ convField ty f = some v ∧ vals[i]? = some v := by
  have hz : (src.zip types)[i]? = some (idx, ty) := List.getElem?_zip_eq_some.mpr ⟨hi, hty⟩
  obtain ⟨v, hconv, hvi⟩ := mapM_some_getElem? h hz
  simp only at hconv
  cases hr : rec[idx]? with
  | none => simp [hr] at hconv
  | some f => exact ⟨f, v, rfl, by simpa [hr] using hconv, hvi⟩

/-! ### `insertRow` -/

/-- **`Csv.insertRow`, spelled out**: it accepts exactly when there is one value per name, the name test
passes and the row encodes within the size limit; the read-back through `Tuple.Decode` is then the
identity (`decode_encode_aux`), so the stored row holds, column by column, the value given under the
column's name (NULL for a column not named). -/
theorem insertRow_some (schema : List FieldDef) (cols : List String) (vals row : List Val)
    (hnd : (schema.map (·.name)).Nodup) (hvals : ∀ k, ValidVal (get (cols.zip vals).reverse k)) :
    insertRow schema cols vals = some row ↔
      cols.length = vals.length ∧
      (!(cols.all fun c => schema.any fun fd => fd.name == c) || cols.eraseDups.length != cols.length) = false ∧
      ∃ bs, encodeTuple schema (cols.zip vals).reverse = .ok bs ∧ bs.length ≤ c_maxValueSize ∧
        row = schema.map fun fd => get (cols.zip vals).reverse fd.name := by
  unfold insertRow
  by_cases hl : cols.length = vals.length
  · have hl' : (cols.length != vals.length) = false := by simpa using hl
    simp only [hl', Bool.false_eq_true, if_false]
    rw [and_iff_right hl]
    cases (!(cols.all fun c => schema.any fun fd => fd.name == c) || cols.eraseDups.length != cols.length) with
    | true => simp
    | false =>
      simp only [Bool.false_eq_true, if_false, true_and]
      cases henc : encodeTuple schema (cols.zip vals).reverse with
      | error e => simp
      | ok bs =>
        simp only
        by_cases hsz : bs.length > c_maxValueSize
        · simp only [hsz, if_true]
          constructor
          · intro h; cases h
          · rintro ⟨bs', hbs, hle, _⟩
            cases hbs
            omega
        · simp only [hsz, if_false]
          obtain ⟨m, hm1, hm2, _⟩ := decode_encode_aux schema _ hvals hnd bs [] [] (by intros; rfl) henc
          rw [List.append_nil] at hm1
          rw [hm1]
          simp only [Option.some.injEq]
          rw [List.map_congr_left fun fd hfd => hm2 fd hfd]
          constructor
          · intro h
            exact ⟨bs, rfl, by omega, h.symm⟩
          · rintro ⟨_, _, _, h⟩
            exact h.symm
  · have hl' : (cols.length != vals.length) = true := by simpa using hl
    simp only [hl', if_true]
    rw [show (cols.length = vals.length) = False from eq_false hl, false_and]
    constructor
    · intro h; cases h
    · intro h; exact h.elim

/-! ### main theorem -/

theorem convert_spec (cfg : Cfg) (types : List DataType) (rec : List Bytes) (row : List Val)
    (hschema : (cfg.schema.map (·.name)).Nodup)
    (hdst : cfg.dstCols.Nodup)
    (htypes : colTypes cfg.schema cfg.dstCols = some types)
    (hlen : cfg.srcCols.length = cfg.dstCols.length)
    (hfields : ∀ f ∈ rec, f.length < 2 ^ 32)             -- strings a Go program can hold
    (h : importRecord cfg types (some rec) = some row) :
    row.length = cfg.schema.length ∧
    ∀ (k : Nat) (fd : FieldDef), cfg.schema[k]? = some fd →
      (∀ (i : Nat), cfg.dstCols[i]? = some fd.name →
          ∃ idx f v, cfg.srcCols[i]? = some idx ∧ rec[idx]? = some f ∧ convField fd.ty f = some v ∧ row[k]? = some v) ∧
      (fd.name ∉ cfg.dstCols → row[k]? = some .null) := by
  simp only [importRecord] at h
  split at h
  · cases h
  · cases hv : csvToSql types cfg.srcCols rec with
    | none => simp [hv] at h
    | some vals =>
      simp only [hv] at h
      obtain ⟨_, _, _, _, _, rfl⟩ :=
        (insertRow_some _ _ _ _ hschema (get_zip_valid _ _ (csvToSql_valid hfields hv))).mp h
      refine ⟨List.length_map _, fun k fd hk => ?_⟩
      obtain ⟨hnamed, hnot⟩ := namedRow_getElem? cfg.schema cfg.dstCols vals hdst k fd hk
      refine ⟨fun i hi => ?_, hnot⟩
      have hilt : i < cfg.srcCols.length := by rw [hlen]; exact (List.getElem?_eq_some_iff.mp hi).1
      have hsrc := List.getElem?_eq_getElem hilt
      obtain ⟨f, v, hf, hconv, hvi⟩ := csvToSql_getElem? hv hsrc
        (colTypes_getElem? _ _ _ hschema htypes fd (List.mem_of_getElem? hk) i hi)
      exact ⟨_, f, v, hsrc, hf, hconv, hnamed i v hi hvi⟩

/-! ### the import loop -/

theorem importAll_eq (cfg : Cfg) (types : List DataType) (table : List (List Val))
    (recs : List (Option (List Bytes))) :
    importAll cfg types table recs = table ++ recs.filterMap (importRecord cfg types) := by
  induction recs generalizing table with
  | nil => simp [importAll]
  | cons r rest ih =>
    simp only [importAll, List.filterMap_cons]
    cases h : importRecord cfg types r with
    | none => simp only [ih]
    | some row => simp only [ih, List.append_assoc, List.cons_append, List.nil_append]

theorem length_filterMap_eq_filter {α β : Type} (f : α → Option β) (l : List α) :
    (l.filterMap f).length = (l.filter fun a => (f a).isSome).length := by
  rw [List.length_filterMap_eq_countP, List.countP_eq_length_filter]

/-! ### non-vacuity: columns `b`, `a` mapped in swapped order from fields 1, 0; column `c` unmapped -/

def exCfg : Cfg :=
  ⟨[⟨"a", .bigint, 0⟩, ⟨"b", .varchar, 255⟩, ⟨"c", .boolean, 0⟩], ["b", "a"], [1, 0]⟩

/-- All hypotheses of `convert_spec` hold for `exCfg` and the record `123,x`; the theorem applies. -/
example :
    ([.int 123, .str [120], .null] : List Val).length = exCfg.schema.length ∧
    ∀ (k : Nat) (fd : FieldDef), exCfg.schema[k]? = some fd →
      (∀ (i : Nat), exCfg.dstCols[i]? = some fd.name →
          ∃ idx f v, exCfg.srcCols[i]? = some idx ∧ [[49, 50, 51], [120]][idx]? = some f ∧
            convField fd.ty f = some v ∧ [Val.int 123, .str [120], .null][k]? = some v) ∧
      (fd.name ∉ exCfg.dstCols → [Val.int 123, .str [120], .null][k]? = some .null) :=
  convert_spec exCfg [.varchar, .bigint] [[49, 50, 51], [120]] [.int 123, .str [120], .null]
    (by decide) (by decide) (by decide) rfl (by decide) (by decide)

example : (exCfg.schema.map (·.name)).Nodup := by decide
example : exCfg.dstCols.Nodup := by decide
example : colTypes exCfg.schema exCfg.dstCols = some [.varchar, .bigint] := by decide
example : exCfg.srcCols.length = exCfg.dstCols.length := rfl
example : ∀ f ∈ ([[49, 50, 51], [120]] : List Bytes), f.length < 2 ^ 32 := by decide
example : importRecord exCfg [.varchar, .bigint] (some [[49, 50, 51], [120]]) =
    some [.int 123, .str [120], .null] := by decide

end Mkdb.Csv
