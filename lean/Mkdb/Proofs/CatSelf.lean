import Mkdb.Proofs.BaseCaseTable
import Mkdb.Proofs.PtSelfHistories
import Mkdb.Proofs.StoredSelect
/-!
C18, the two catalog tables: what `Fetch` of `sys_pages` and `sys_schema` returns; every statement keeps `CatSelf`.

Two parts: (1) `CatSelf pt sch`, `Fetch` of the two catalog tables under it, `select_any_table_never_panics`;
(2) `SelfOK db` (`CatSelf` under whatever description the store has) and `evalStmt_keeps_self`: every statement
keeps it, whatever its outcome.
-/

section
/-!
`SELECT … FROM sys_pages` and `… FROM sys_schema` are ordinary reads for the engine: `Fetch` looks the
name up in the page table, reads its columns from `sys_schema` and scans from the page the page-table row
names.  For the two catalog tables the catalog invariant `Cat` does not say what those rows are (it
describes the `sys_schema` rows of the USER tables and lets the self-row of the page table name anything).
`CatSelf pt sch` says it: (1) the page table holds the row `(sys_pages, leftmost leaf of the page table)` -
`CREATE DATABASE` writes `(sys_pages, 4096)` when the page table is the one leaf 4096, nothing rewrites
the row, and when that leaf splits it stays the LEFTMOST leaf (the new leaf is its right sibling), so the
row is stale as a root (`PtSelfSplitWitness.db8_stale`) and still the right place to start a scan; (2) the
columns `sys_schema` lists for `sys_pages` are `pageTableSchema`, (3) for `sys_schema`
`schemaTableSchema` - the six rows `CREATE DATABASE` wrote (`schNew_describes_catalog`).
-/
set_option autoImplicit false
namespace Mkdb.Store
open Mkdb.Page Mkdb.Tuple Mkdb.Generated Mkdb.Tree Mkdb.Engine Mkdb.Exec Mkdb.Exec.TypedP Mkdb.Sql

/-! ### the leftmost leaf -/

theorem firstLeafOff_setVal (t : Levels) (k lsn : Nat) (v : Bytes) :
    firstLeafOff (setVal t k lsn v) = firstLeafOff t := by
  unfold firstLeafOff setVal
  cases t.leaves with
  | nil => rfl
  | cons p rest =>
    simp only [List.map_cons, List.head?_cons, Option.map_some, Option.getD_some]
    split <;> rfl

theorem firstLeafOff_clean (t : Levels) : firstLeafOff (clean t) = firstLeafOff t := by
  unfold firstLeafOff clean
  cases t.leaves with
  | nil => rfl
  | cons p rest => rfl

theorem firstLeafOff_insertAppend {t t' : Levels} {k lsn nf nf' : Nat} {v : Bytes}
    (h : insertAppend t k lsn v nf = .ok (t', nf')) : firstLeafOff t' = firstLeafOff t := by
  obtain ⟨pre, last, d, hl, _, _, hc⟩ := insertAppend_inv_cases h
  unfold firstLeafOff
  rw [hl]
  rcases hc with ⟨_, rfl, _⟩ | ⟨_, rfl, _⟩
  · cases pre <;> rfl
  · cases pre <;> rfl

theorem firstLeafOff_eq_head (t : Levels) (hne : t.leaves ≠ []) : firstLeafOff t = ((offs t).head?).getD 0 := by
  unfold firstLeafOff offs flatten
  cases hl : t.leaves with
  | nil => exact absurd hl hne
  | cons p rest => rfl

theorem firstLeafOff_ptSame {a b : Levels} (h : PtSame a b) (hne : a.leaves ≠ []) :
    firstLeafOff b = firstLeafOff a := by
  have hb : b.leaves ≠ [] := by
    intro hb
    have := h.2.2.2.1
    rw [hb] at this
    exact hne (List.length_eq_zero_iff.mp this.symm)
  rw [firstLeafOff_eq_head a hne, firstLeafOff_eq_head b hb, h.1]

/-! ### the invariant of the two catalog tables -/

/-- **The catalog describes itself**: the page table's row about itself names the leftmost leaf of the
page table, and `sys_schema` lists for `sys_pages` and for `sys_schema` the columns the engine decodes
their rows with. -/
structure CatSelf (pt sch : Levels) : Prop where
  self : (sysPages, firstLeafOff pt) ∈ ptEntries pt
  schP : schemaOf sch sysPages = some pageTableSchema
  schS : schemaOf sch sysSchema = some schemaTableSchema

theorem CatSelf.clean {pt sch : Levels} (h : CatSelf pt sch) : CatSelf (clean pt) (clean sch) :=
  ⟨by rw [firstLeafOff_clean, ptEntries_clean]; exact h.self, by rw [schemaOf_clean]; exact h.schP,
    by rw [schemaOf_clean]; exact h.schS⟩

/-! ### `Fetch` of the two catalog tables -/

theorem mapO_some_all {α β} (g : α → Option β) : ∀ (l : List α) (bs : List β), mapO g l = some bs →
    ∀ a ∈ l, ∃ b, g a = some b
  | [], _, _, a, ha => by cases ha
  | x :: rest, bs, h, a, ha => by
    simp only [mapO] at h
    cases hg : g x with
    | none => rw [hg] at h; cases h
    | some b =>
      cases hr : mapO g rest with
      | none => rw [hg, hr] at h; cases h
      | some tl =>
        rcases List.mem_cons.mp ha with rfl | ha'
        · exact ⟨b, hg⟩
        · exact mapO_some_all g rest tl hr a ha'

/-- `schemaOf` decodes EVERY live row before it filters by name, so it is `some` only if all rows decode -/
theorem schemaOf_rows_decode {sch : Levels} {name : Bytes} {fds : List FieldDef} (h : schemaOf sch name = some fds) :
    ∀ c ∈ live sch, ∃ m, decodeTuple schemaTableSchema c.val [] = .ok m := by
  intro c hc
  unfold schemaOf at h
  cases hrows : mapO (fun c : LeafCell => decRow schemaTableSchema c.val) (live sch) with
  | none => rw [hrows] at h; cases h
  | some rows =>
    obtain ⟨m, hm⟩ := mapO_some_all _ _ _ hrows c hc
    unfold decRow at hm
    split at hm
    · rename_i m' hm'
      exact ⟨m', hm'⟩
    · cases hm

theorem ptEntry_decodes {c : LeafCell} (h : ptEntry c ≠ none) : ∃ m, decodeTuple pageTableSchema c.val [] = .ok m := by
  unfold ptEntry at h
  split at h
  · rename_i m hm
    exact ⟨m, hm⟩
  · exact absurd rfl h

theorem fetchTable_sysSchema {s : Store} {pt sch : Levels} {tbls : List (Bytes × Levels)} (h : Cat s pt sch tbls)
    (hs : CatSelf pt sch) :
    ∃ s', fetchTable sysSchema s = .ok (rowsOf schemaTableSchema (live sch), schemaTableSchema) s' ∧ Same s s' :=
  fetchTable_named h Cat.sch_mem h.esch (.inl rfl) hs.schS (schemaOf_rows_decode hs.schS)

/-- **`Fetch` of `sys_pages`**: the scan starts at the page the self-row names - the leftmost leaf of the
page table, whether or not it still is the root - and returns the rows of all live cells of the page
table, under `pageTableSchema`. -/
theorem fetchTable_sysPages {s : Store} {pt sch : Levels} {tbls : List (Bytes × Levels)} (h : Cat s pt sch tbls)
    (hs : CatSelf pt sch) :
    ∃ s', fetchTable sysPages s = .ok (rowsOf pageTableSchema (live pt), pageTableSchema) s' ∧ Same s s' :=
  fetchTable_named h Cat.pt_mem hs.self (.inr rfl) hs.schP fun c hc => ptEntry_decodes (h.dec c hc)

/-! ### a SELECT over any tables -/

theorem catalogOK_of_self {db : Engine.DB} {pt sch : Levels} {tbls : List (Bytes × Levels)}
    (h : Cat db.store pt sch tbls) (hs : CatSelf pt sch) : catalogOK db = true := by
  obtain ⟨s1, e1, _⟩ := fetchTable_sysPages h hs
  obtain ⟨s2, e2, _⟩ := fetchTable_sysSchema h hs
  unfold catalogOK
  simp only [List.all_cons, List.all_nil, e1, e2, Bool.and_true, Bool.and_eq_true, decide_eq_true_eq]
  exact ⟨by decide +kernel, by decide +kernel⟩

theorem fetchOf_catalog {db : Engine.DB} {pt sch : Levels} {tbls : List (Bytes × Levels)}
    (h : Cat db.store pt sch tbls) (hs : CatSelf pt sch) :
    fetchOf db sysPages = some ⟨pageTableSchema.map fun fd => fd.name.toUTF8.toList,
      (rowsOf pageTableSchema (live pt)).map (·.2)⟩ ∧
    fetchOf db sysSchema = some ⟨schemaTableSchema.map fun fd => fd.name.toUTF8.toList,
      (rowsOf schemaTableSchema (live sch)).map (·.2)⟩ := by
  obtain ⟨s1, e1, _⟩ := fetchTable_sysPages h hs
  obtain ⟨s2, e2, _⟩ := fetchTable_sysSchema h hs
  exact ⟨fetchOf_ok e1, fetchOf_ok e2⟩

theorem fetchOf_kinded_self {db : Engine.DB} {sdb : Spec.SDB} {pt sch : Levels} {tbls : List (Bytes × Levels)}
    (h : AbsV db.store pt sch tbls sdb) (hs : CatSelf pt sch) : KindedFetch (fetchOf db) := by
  obtain ⟨sdb0, habs, hv⟩ := h
  exact fetchOf_kinded ⟨sdb0, habs, hv⟩ (catalogOK_of_self habs.cat hs)

/-- **A SELECT over ANY tables never panics**: for a store that abstracts to a plain database and whose
catalog describes itself (`CatSelf`), a select list of a shape the parser builds, any FROM clause - the
two catalog tables included: `Fetch` of every table read returns rows or an error value, the evaluation
returns rows or an error value, and every output column holds values of one kind or NULL. -/
theorem select_never_panics_self {db : Engine.DB} {sdb : Spec.SDB} {pt sch : Levels}
    {tbls : List (Bytes × Levels)} (h : AbsV db.store pt sch tbls sdb) (hs : CatSelf pt sch) (q : Select)
    (hq : Exec.NoPanicP.ParsedShape q) :
    (∀ n ∈ selectNames q, FetchTotal db n) ∧ (∀ x, evaluateSelect (fetchOf db) q ≠ .panic x) ∧
      ∀ rows hdr, evaluateSelect (fetchOf db) q = .ok (rows, hdr) →
        ∃ ks : List Kind, ∀ r ∈ rows, rowHas ks r = true := by
  obtain ⟨sdb0, habs, hv⟩ := h
  exact select_any_table_never_panics ⟨sdb0, habs, hv⟩ (catalogOK_of_self habs.cat hs) q hq

end Mkdb.Store
end

section
/-!
A row statement (INSERT / UPDATE / DELETE on user tables) changes the page table only by re-pointing the
row of a user table whose root moved, and does not touch `sys_schema`.  CREATE TABLE appends one page-table
row - which may split the page table: the leftmost leaf stays the leftmost leaf -, re-points the
`sys_schema` row, and adds `sys_schema` rows under the new table's name only.  `SelfOK db` is `CatSelf`
under whatever catalog description the store has - the form that can be carried through theorems that
return "some catalog description".
-/
set_option autoImplicit false
namespace Mkdb.Store
open Mkdb.Page Mkdb.Tuple Mkdb.Generated Mkdb.Tree Mkdb.Engine

/-! ### the base cases -/

theorem catSelf_new : CatSelf ptNew schNew :=
  ⟨by rw [ptNew_entries]; exact List.mem_cons_self, schNew_describes_catalog.1, schNew_describes_catalog.2⟩

/-- `ptT`, `schT`: the computed database `CREATE DATABASE; CREATE TABLE t (a INT)` (BaseCaseTable) -/
theorem catSelf_tableDB : CatSelf ptT schT :=
  ⟨by rw [ptT_entries]; exact List.mem_cons_self, tableDB_vs_st1.2.2.2.2.2.2.2.1, tableDB_vs_st1.2.2.2.2.2.2.2.2⟩

/-! ### row statements -/

/-- **A live run of row operations keeps the self-row of the page table**: the only change a row
statement makes to the page table is the re-pointing of the row of the user table whose root moved
(`setVal`: same leaves, same offsets, the rows of other names untouched). -/
theorem live_run_self (sch : Levels) {s0 sN : Store} {tbls tblsN : List (Bytes × Levels)} {stmts : List RStmt}
    {logs : List WalRec} (run : LiveRunM sch s0 tbls stmts sN tblsN logs) :
    ∀ (pt : Levels), Cat s0 pt sch tbls → (sysPages, firstLeafOff pt) ∈ ptEntries pt →
      ∃ ptN, Cat sN ptN sch tblsN ∧ (sysPages, firstLeafOff ptN) ∈ ptEntries ptN := by
  intro pt h ho
  refine run.keeps (J := fun _ pt _ _ => (sysPages, firstLeafOff pt) ∈ ptEntries pt) (old := []) ?_ h ho
  intro s pt tbls s1 pt1 tbls1 l1 old h st _ ho
  cases st with
  | quiet hs => exact ho
  | cell table t l d r f ht hm hr hpage hany hrl hlsn hlk hnf hdel => exact ho
  | ins table t t' nf' buf ht hlen hins hd' hl' hbig hlk hnf hroot hent =>
    have hfl : firstLeafOff pt1 = firstLeafOff pt := by
      rcases hroot with ⟨_, rfl, _⟩ | ⟨_, _, a, p, _, _, _, _, rfl, _⟩
      · rfl
      · exact firstLeafOff_setVal _ _ _ _
    rw [hfl, hent]
    exact List.mem_map.mpr ⟨_, ho, repoint_ne _ fun heq => h.tsys.1 (List.mem_map.mpr ⟨(table, t), ht, heq.symm⟩)⟩

/-! ### CREATE TABLE -/

theorem insertAppend_leaves_ne {t t' : Levels} {k lsn nf nf' : Nat} {v : Bytes}
    (h : insertAppend t k lsn v nf = .ok (t', nf')) : t'.leaves ≠ [] := by
  obtain ⟨pre, last, d, _, _, _, hc⟩ := insertAppend_inv_cases h
  rcases hc with ⟨_, rfl, _⟩ | ⟨_, rfl, _⟩ <;> simp

/-- **The body of CREATE TABLE keeps `CatSelf`** (the facts about the new catalog trees are fields of the
record `Created` that `createTable_cat_core` returns; `Created.catSelf` below): the new row of the page
table is appended - if that splits the leftmost leaf, its left half keeps the offset -, then only the
`sys_schema` row is re-pointed; the new rows of `sys_schema` carry the new table's name. -/
theorem CatSelf.createTable_body {pt sch pt1 pt' sch' : Levels} {k lsn nf nf1 off r : Nat} {v : Bytes} {name : Bytes}
    (h : CatSelf pt sch) (hins : insertAppend pt k lsn v nf = .ok (pt1, nf1)) (hsame : PtSame pt1 pt')
    (hent : ptEntries pt' = (ptEntries pt ++ [(name, off)]).map (repoint sysSchema r))
    (hso : ∀ n, n ≠ name → schemaOf sch' n = schemaOf sch n) (hn1 : name ≠ sysPages) (hn2 : name ≠ sysSchema) :
    CatSelf pt' sch' := by
  refine ⟨?_, by rw [hso _ (Ne.symm hn1)]; exact h.schP, by rw [hso _ (Ne.symm hn2)]; exact h.schS⟩
  rw [firstLeafOff_ptSame hsame (insertAppend_leaves_ne hins), firstLeafOff_insertAppend hins]
  exact ptEntries_sys_kept hent h.self

theorem Created.catSelf {s sN : Store} {pt sch pt1 ptN schN : Levels} {nf1 : Nat} {fields : List FieldDef}
    {name : Bytes} (hc : Created s pt sch fields name sN pt1 nf1 ptN schN) (hn1 : name ≠ sysPages)
    (hn2 : name ≠ sysSchema) (hs : CatSelf pt sch) : CatSelf ptN schN :=
  hs.createTable_body hc.ins hc.same hc.ent hc.schOld hn1 hn2

/-! ### the store-level form -/

/-- **The catalog of the database describes itself** - under whatever catalog description the store has
(there is at most one page table and one `sys_schema` tree: `Cat.pt_unique`, `Cat.sch_unique`). -/
def SelfOK (db : Engine.DB) : Prop :=
  ∀ (pt sch : Levels) (tbls : List (Bytes × Levels)), Cat db.store pt sch tbls → CatSelf pt sch

theorem SelfOK.of_cat {db : Engine.DB} {pt sch : Levels} {tbls : List (Bytes × Levels)}
    (hc : Cat db.store pt sch tbls) (hs : CatSelf pt sch) : SelfOK db := by
  intro pt2 sch2 tbls2 h2
  have e1 : pt = pt2 := hc.pt_unique h2
  have e2 : sch = sch2 := hc.sch_unique h2
  subst e1
  subst e2
  exact hs

theorem SelfOK.of_absV {db : Engine.DB} {sdb : Spec.SDB} {pt sch : Levels} {tbls : List (Bytes × Levels)}
    (h : AbsV db.store pt sch tbls sdb) (hs : CatSelf pt sch) : SelfOK db := by
  obtain ⟨_, habs, _⟩ := h
  exact SelfOK.of_cat habs.cat hs

theorem SelfOK.catSelf {db : Engine.DB} {sdb : Spec.SDB} {pt sch : Levels} {tbls : List (Bytes × Levels)}
    (h : SelfOK db) (hi : DbInv db sdb pt sch tbls) : CatSelf pt sch := by
  obtain ⟨_, habs, _⟩ := hi.abs
  exact h pt sch tbls habs.cat

theorem selfOK_newDB : SelfOK newDB := SelfOK.of_cat cat_newDB catSelf_new
theorem selfOK_tableDB : SelfOK tableDB := SelfOK.of_cat cat_tableDB catSelf_tableDB

theorem SelfOK.flush {db db' : Engine.DB} {sdb : Spec.SDB} {pt sch : Levels} {tbls : List (Bytes × Levels)}
    (h : SelfOK db) (hi : DbInv db sdb pt sch tbls) {order : List Nat} (e : Engine.flush db order = .ok () db') :
    SelfOK db' := by
  rw [flush_flushed] at e
  cases e
  exact SelfOK.of_absV (hi.flushed order).inv.abs (h.catSelf hi).clean

theorem SelfOK.reopen {db : Engine.DB} {sdb : Spec.SDB} {pt sch : Levels} {tbls : List (Bytes × Levels)}
    (h : SelfOK db) (hk : DbFlushed db sdb pt sch tbls) : SelfOK { db with store := Store.reopen db.store } :=
  SelfOK.of_absV hk.reopen.inv.abs (h.catSelf hk.inv)

theorem SelfOK.recover {db db' : Engine.DB} {sdb : Spec.SDB} {pt sch : Levels} {tbls : List (Bytes × Levels)}
    (h : SelfOK db) (hk : DbFlushed db sdb pt sch tbls) {o1 o2 : List Nat} (e : Engine.recover db o1 o2 = .ok db') :
    SelfOK db' := by
  obtain ⟨db1, e1, _, hk'⟩ := hk.recover o1 o2
  rw [e] at e1
  cases e1
  exact SelfOK.of_absV hk'.inv.abs (h.catSelf hk.inv)

/-! ### every statement -/

/-- the database a result carries - returned with `.ok` or left behind by `.err` - has a catalog that
describes itself -/
def KeepsSelf (r : Engine.Res Unit) : Prop :=
  ∀ db', (r = .ok () db' ∨ ∃ e, r = .err e db') → SelfOK db'

theorem KeepsSelf.ok {db0 : Engine.DB} (h : SelfOK db0) : KeepsSelf (.ok () db0) := by
  intro db' hr
  rcases hr with hr | ⟨e, hr⟩
  · cases hr; exact h
  · cases hr

theorem KeepsSelf.err {db0 : Engine.DB} {e0 : Engine.StmtErr} (h : SelfOK db0) : KeepsSelf (.err e0 db0) := by
  intro db' hr
  rcases hr with hr | ⟨e, hr⟩
  · cases hr
  · cases hr; exact h

theorem RowEffect.selfOK {sch : Levels} {db db' : Engine.DB} {pt : Levels} {tbls : List (Bytes × Levels)}
    (hc : Cat db.store pt sch tbls) (hs : CatSelf pt sch) (he : RowEffect sch db tbls db') : SelfOK db' := by
  obtain ⟨s1, ptN, tblsN, stmtsM, logs, sdbN, hrun, habs1, habs', _⟩ := he
  obtain ⟨ptN', hcN, hself⟩ := live_run_self sch hrun pt hc hs.self
  have e : ptN' = ptN := hcN.pt_unique habs1.cat
  subst e
  exact SelfOK.of_cat habs'.cat ⟨hself, hs.schP, hs.schS⟩

theorem KeepsSelf.of_effect {α} {sch : Levels} {db : Engine.DB} {pt : Levels} {tbls : List (Bytes × Levels)}
    (hc : Cat db.store pt sch tbls) (hs : CatSelf pt sch) {r : Engine.Res α} (he : ResEffect sch db tbls r) :
    KeepsSelf (voidRes r) := by
  cases r with
  | ok a db0 => exact KeepsSelf.ok (RowEffect.selfOK hc hs he)
  | err e db0 => exact KeepsSelf.err (RowEffect.selfOK hc hs he)
  | panic p => exact he.elim
  | unmodelled w => exact he.elim
  | fuel => exact he.elim

theorem createTable_ok_self_abs {db : Engine.DB} {sdb : Spec.SDB} {pt sch : Levels} {tbls : List (Bytes × Levels)}
    (habsV : AbsV db.store pt sch tbls sdb) (hmf : MemFiled db.store) (hs : CatSelf pt sch) (name : Bytes)
    (cols : List Sql.ColDef) (order : List Nat)
    (hfind : Spec.findTable sdb name = none) (hn1 : name ≠ sysPages) (hn2 : name ≠ sysSchema)
    (hfld : checkFieldsFrom [] (cols.map Engine.colTypeToField) = none)
    (hchk : checkCatalogRows (cols.map Engine.colTypeToField) name = none)
    (hpd : pt.inner.length + 3 ≤ treeFuel) (hpl : pt.leaves.length + 1 ≤ scanFuel)
    (hsd : sch.inner.length + cols.length + 2 ≤ treeFuel) (hsl : sch.leaves.length + cols.length ≤ scanFuel)
    (hbig : db.store.hdr.nextFree + 262144 * cols.length + 262144 ≤ 9223372036854775807) :
    KeepsSelf (Engine.evalCreateTable db name cols order true) := by
  obtain ⟨sdb0, habs0, hv⟩ := habsV
  have hn3 : name ∉ tbls.map (·.1) := habs0.not_mem ((findTable_none_congr hv name).mpr hfind)
  obtain ⟨sN, pt1, nf1, ptN, schN, hcN, hc, hmfN, _, heval⟩ := evalCreateTable_accepted habs0.cat hmf name cols
    order hn1 hn2 hn3 hfld hchk hpd hpl hsd hsl hbig
  rw [heval]
  exact KeepsSelf.ok (SelfOK.of_cat (db := { db with store := flushed order sN }) (hcN.flushed hmfN order)
    (hc.catSelf hn1 hn2 hs).clean)

/-- **Every statement keeps `SelfOK`, whatever its outcome**: the database a CREATE TABLE / INSERT / UPDATE /
DELETE returns - accepted, refused before a change, or refused at a later row - has a catalog that describes
itself; the other statement kinds change no database.  From the abstraction and a filed cache alone (what
`DbInv` and `Rel` share). -/
theorem evalStmt_keeps_self_abs (db : Engine.DB) (order : List Nat) (sdb : Spec.SDB) (pt sch : Levels)
    (tbls : List (Bytes × Levels)) (habs : AbsV db.store pt sch tbls sdb) (hmf : MemFiled db.store)
    (hs : CatSelf pt sch) (st : Sql.Stmt)
    (hnames : StmtNames pt tbls st) (hroom : StmtRoomT db pt sch tbls st) (hlits : StmtLits st) :
    KeepsSelf (evalStmt db order st) := by
  obtain ⟨sdb0, habs0, hv⟩ := habs
  have hkeep : KeepsSelf (.ok () db) := KeepsSelf.ok (SelfOK.of_cat habs0.cat hs)
  cases st with
  | insert t cols rows =>
    exact KeepsSelf.of_effect habs0.cat hs
      (evalInsert_effect db pt sch tbls sdb0 habs0 t cols _ (litRows_valid rows hroom.1) hnames hroom.2)
  | update t sets w =>
    have := KeepsSelf.of_effect habs0.cat hs (evalUpdate_effect db pt sch tbls sdb0 habs0 t sets w hlits hnames)
    rw [voidRes_unit] at this
    exact this
  | delete t w =>
    exact KeepsSelf.of_effect habs0.cat hs (evalDelete_effect db pt sch tbls sdb0 habs0 t w hnames)
  | createTable n cols =>
    obtain ⟨hpd, hpl, hsd, hsl, hbig⟩ := hroom
    rcases evalCreateTable_refused_or_checked db pt sch tbls sdb ⟨sdb0, habs0, hv⟩ n cols order hnames with
      ⟨e, db', he, _, _, ha⟩ | ⟨hfind, hs1, hs2, hfld, hchk⟩
    · show KeepsSelf (Engine.evalCreateTable db n cols order true)
      rw [he]
      exact KeepsSelf.err (SelfOK.of_absV ha hs)
    · exact createTable_ok_self_abs ⟨sdb0, habs0, hv⟩ hmf hs n cols order hfind hs1 hs2 hfld hchk hpd hpl hsd hsl hbig
  | _ => exact hkeep

theorem evalStmt_keeps_self (db : Engine.DB) (order : List Nat) (sdb : Spec.SDB) (pt sch : Levels)
    (tbls : List (Bytes × Levels)) (h : DbInv db sdb pt sch tbls) (hs : CatSelf pt sch) (st : Sql.Stmt)
    (hnames : StmtNames pt tbls st) (hroom : StmtRoomT db pt sch tbls st) (hlits : StmtLits st) :
    KeepsSelf (evalStmt db order st) :=
  evalStmt_keeps_self_abs db order sdb pt sch tbls h.abs h.filed hs st hnames hroom hlits

end Mkdb.Store
end
