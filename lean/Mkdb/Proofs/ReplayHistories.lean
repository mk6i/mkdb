import Mkdb.Proofs.ReplaySteps
/-!
The history theorems of redo, read off the step lemmas of `ReplaySteps`: a list of statements run live,
their logs concatenated and replayed on a store with the catalog description of the store they started
from.  `replay_history(_gen)`: INSERT statements (`LiveRun`), under `Fresh` - only root pages are named by
INSERT records; `replay_history_mixed`: INSERT / UPDATE / DELETE (`LiveRunM`), under `FreshM`; non-vacuity
on the concrete store `st0` of `StmtInsert`.  Then `LiveRunB`: a log whose writer's counters ran ahead of it.
-/

section
set_option autoImplicit false
namespace Mkdb.Store
open Mkdb.Page Mkdb.Tuple Mkdb.Generated Mkdb.Tree Mkdb.Engine

/-! ### a history of INSERT statements -/

/-- **Crash with nothing flushed since the checkpoint.**  A list of INSERT statements is run live
from `s0`; the concatenation of their logs is replayed on a store `r0` satisfying the same catalog
description as `s0` (e.g. `s0` itself).  The replay succeeds and ends in a store satisfying the same
catalog description as the live final store: the same page table and the same trees for all tables,
page for page; allocation frontier and row-id counter agree; the LSN counter is not ahead. -/
theorem replay_history_gen (sch : Levels) {s0 sN : Store} {tbls tblsN : List (Bytes × Levels)}
    {stmts : List Stmt} {logs : List WalRec} (run : LiveRun sch s0 tbls stmts sN tblsN logs) :
    ∀ (pt : Levels) (r0 : Store), Cat s0 pt sch tbls → Cat r0 pt sch tbls → PtSelf pt → Fresh s0 tbls →
      r0.hdr.nextFree = s0.hdr.nextFree → r0.hdr.lastKey = s0.hdr.lastKey →
      r0.hdr.nextLSN ≤ s0.hdr.nextLSN →
      ∃ ptN rN, replayAll logs r0 = (rN, none, false) ∧
        Cat sN ptN sch tblsN ∧ Cat rN ptN sch tblsN ∧ PtSelf ptN ∧ Fresh sN tblsN ∧
        rN.hdr.nextFree = sN.hdr.nextFree ∧ rN.hdr.lastKey = sN.hdr.lastKey ∧
        rN.hdr.nextLSN ≤ sN.hdr.nextLSN := by
  induction run with
  | nil s tbls =>
    intro pt r0 h hr hself hf e1 e2 e3
    exact ⟨pt, r0, rfl, h, hr, hself, hf, e1, e2, e3⟩
  | @cons s s1 s2 tbls tbls2 st rest logs logs2 t schema buf t' nf' ht hsch hcols hnames henc hlen hins hd' hl' hbig
      hrun _ ih =>
    intro pt r0 h hr hself hf e1 e2 e3
    obtain ⟨_, hIt, _, _, _⟩ := h.tree t (Cat.tb_mem ht)
    obtain ⟨s', ptF, logs', erun, hc', hlk', hnf', hcase, hent⟩ := insert_refines' s pt sch tbls h st.table t ht st.cols
      st.vals schema buf hsch hcols hnames henc hlen t' nf' hins hd' hl' hbig
    obtain ⟨rfl, rfl⟩ := SRes.ok.inj (hrun.symm.trans erun)
    obtain ⟨r1, e, hb1, a1, _⟩ := Behind.ins ⟨h, hr, hself, e1, Nat.le_of_eq e2, e3⟩ ht hins hd' hl' hbig hlk' hnf'
      hcase hent hc' (hf.lsn _ ht) (hf.pos _ ht _ (rootOff_mem_offs t _ hIt))
    obtain ⟨ptN, rN, eN, c⟩ := ih ptF r1 hc' hb1.redo hb1.self (hf.step ht hIt hins (RootCase.lsn_lt hcase) hnf')
      hb1.nf a1 hb1.lsn
    exact ⟨ptN, rN, by rw [replayAll_append e]; exact eN, c⟩

/-- the case `r0 = s0` of `replay_history_gen`, with what it means for the pages: after replaying
the logs of the whole run on the store the run started from, every page of every tree of the
catalog (page table, `sys_schema`, all user tables) is seen exactly as in the live final store. -/
theorem replay_history (sch : Levels) {s0 sN : Store} {tbls tblsN : List (Bytes × Levels)}
    {stmts : List Stmt} {logs : List WalRec} (run : LiveRun sch s0 tbls stmts sN tblsN logs)
    (pt : Levels) (h : Cat s0 pt sch tbls) (hself : PtSelf pt) (hf : Fresh s0 tbls) :
    ∃ ptN rN, replayAll logs s0 = (rN, none, false) ∧
      Cat sN ptN sch tblsN ∧ Cat rN ptN sch tblsN ∧
      (∀ x ∈ catTrees ptN sch tblsN, ∀ o ∈ offs x, view rN o = view sN o) ∧
      rN.hdr.nextFree = sN.hdr.nextFree ∧ rN.hdr.lastKey = sN.hdr.lastKey ∧
      rN.hdr.ptRoot = sN.hdr.ptRoot ∧ rN.hdr.nextLSN ≤ sN.hdr.nextLSN := by
  obtain ⟨ptN, rN, e, c1, c2, _, _, c4, c5, c6⟩ :=
    replay_history_gen sch run pt s0 h h hself hf rfl rfl (Nat.le_refl _)
  exact ⟨ptN, rN, e, c1, c2, c1.same_pages c2, c4, c5, by rw [← c1.root, ← c2.root], c6⟩

/-! ### a mixed history -/

/-- **Crash with nothing flushed since the checkpoint, mixed history** (`replay_run` with `r0 = s0`,
spelt out): after replaying the logs of the whole mixed run on the store the run started
from, every page of every tree of the catalog (page table, `sys_schema`, all user tables) is seen
exactly as in the live final store; allocation frontier, row-id counter and page-table root agree,
the LSN counter is not ahead. -/
theorem replay_history_mixed (sch : Levels) {s0 sN : Store} {tbls tblsN : List (Bytes × Levels)}
    {stmts : List RStmt} {logs : List WalRec} (run : LiveRunM sch s0 tbls stmts sN tblsN logs)
    (pt : Levels) (h : Cat s0 pt sch tbls) (hself : PtSelf pt) (hf : FreshM s0 tbls) :
    ∃ ptN rN, replayAll logs s0 = (rN, none, false) ∧
      Cat sN ptN sch tblsN ∧ Cat rN ptN sch tblsN ∧
      (∀ x ∈ catTrees ptN sch tblsN, ∀ o ∈ offs x, view rN o = view sN o) ∧
      rN.hdr.nextFree = sN.hdr.nextFree ∧ rN.hdr.lastKey = sN.hdr.lastKey ∧
      rN.hdr.ptRoot = sN.hdr.ptRoot ∧ rN.hdr.nextLSN ≤ sN.hdr.nextLSN := by
  obtain ⟨ptN, rN, e, hb, _, k, _⟩ := replay_run sch run ⟨h, h, hself, rfl, Nat.le_refl _, Nat.le_refl _⟩ hf
  exact ⟨ptN, rN, e, hb.live, hb.redo, hb.live.same_pages hb.redo, hb.nf, k rfl,
    by rw [← hb.live.root, ← hb.redo.root], hb.lsn⟩

/-! ### non-vacuity: the concrete store `st0` -/

theorem pt0_self : PtSelf pt0 := by
  intro off hm
  rw [pt0_entries] at hm
  simp only [List.mem_cons, Prod.mk.injEq, List.not_mem_nil, or_false] at hm
  rcases hm with ⟨_, rfl⟩ | ⟨h1, _⟩ | ⟨h1, _⟩
  · decide
  · rw [sysPages_eq, sysSchema_eq] at h1; exact absurd h1 (by decide)
  · rw [sysPages_eq] at h1; exact absurd h1 (by decide)

/-- the tree of table `"t"` after the insert of the empty row -/
def rt1 : Levels := ⟨[(⟨12288, 7, false, false, 0, 0, [⟨4, false, []⟩]⟩, true)], []⟩

/-- one insert into the table `"t"` of `st0`, then its log replayed on `st0`: the replay succeeds
and the replayed store satisfies the same catalog description as the live one, with the new row -/
theorem replay_st0 : ∃ s' ptF logs r', insert tname [] [] st0 = .ok logs s' ∧
    Cat s' ptF sch0 [(tname, rt1)] ∧
    replayAll logs st0 = (r', none, false) ∧ Cat r' ptF sch0 [(tname, rt1)] ∧
    live rt1 = [⟨4, false, []⟩] ∧ r'.hdr.lastKey = 4 ∧ r'.hdr.nextFree = 16384 ∧ r'.hdr.nextLSN = 7 := by
  have hm : (tname, t0) ∈ [(tname, t0)] := List.mem_singleton.mpr rfl
  obtain ⟨s', ptF, logs, e, hc, hlk, hnf, hcase, hent⟩ := insert_refines' st0 pt0 sch0 [(tname, t0)] cat0 tname t0 hm
    [] [] [] [] (by decide) (by decide) rfl rfl (by decide) rt1 16384 rfl (by decide) (by decide) (by decide)
  obtain ⟨r', hrep, hb, a1, a2, _⟩ := Behind.ins ⟨cat0, cat0, pt0_self, rfl, Nat.le_refl _, Nat.le_refl _⟩ hm rfl
    (by decide) (by decide) (by decide) hlk hnf hcase hent hc (by decide) (by decide)
  have hst : setTable [(tname, t0)] tname rt1 = [(tname, rt1)] := by simp [setTable]
  rw [hst] at hc hb
  refine ⟨s', ptF, logs, r', e, hc, hrep, hb.redo, rfl, by rw [a1, hlk]; rfl, by rw [hb.nf, hnf], ?_⟩
  rcases hcase with ⟨_, _, h2, _⟩ | ⟨h1, _⟩
  · rw [h2] at a2
    have : st0.hdr.nextLSN = 7 := rfl
    omega
  · exact absurd rfl h1

/-! ### non-vacuity with a root move: the only leaf of the table is one cell short of full -/

def leaf8 : Leaf := ⟨12288, 5, false, false, 0, 0,
  [⟨4, false, []⟩, ⟨5, false, []⟩, ⟨6, false, []⟩, ⟨7, false, []⟩,
   ⟨8, false, []⟩, ⟨9, false, []⟩, ⟨10, false, []⟩, ⟨11, false, []⟩]⟩
def t8 : Levels := ⟨[(leaf8, true)], []⟩
def st8 : Store :=
  { hdr := { lastKey := 11, ptRoot := 4096, nextFree := 16384, nextLSN := 20 },
    mem := [(4096, ⟨.leaf ptLeaf, true⟩), (8192, ⟨.leaf ⟨8192, 0, false, false, 0, 0, []⟩, true⟩),
            (12288, ⟨.leaf leaf8, true⟩)] }

/-- the tree after the ninth row: the leaf split, a new root at 20480 -/
def t9 : Levels :=
  ⟨[(⟨12288, 20, false, true, 0, 16384,
       [⟨4, false, []⟩, ⟨5, false, []⟩, ⟨6, false, []⟩, ⟨7, false, []⟩]⟩, true),
    (⟨16384, 20, true, false, 12288, 0,
       [⟨8, false, []⟩, ⟨9, false, []⟩, ⟨10, false, []⟩, ⟨11, false, []⟩, ⟨12, false, []⟩]⟩, true)],
   [[(⟨20480, 20, 16384, [⟨8, 12288⟩]⟩, true)]]⟩

theorem cat8 : Cat st8 pt0 sch0 [(tname, t8)] := by decide +kernel

/-- one insert into the table of `st8` (the root moves: two log records), then its log replayed on
`st8`: the replay succeeds, the replayed store satisfies the same catalog description as the live
one - the split tree `t9`, the catalog row of the table naming the new root 20480 -/
theorem replay_st8 : ∃ s' ptF logs r', insert tname [] [] st8 = .ok logs s' ∧
    Cat s' ptF sch0 [(tname, t9)] ∧ logs.length = 2 ∧
    replayAll logs st8 = (r', none, false) ∧ Cat r' ptF sch0 [(tname, t9)] ∧
    (tname, 20480) ∈ ptEntries ptF ∧
    r'.hdr.lastKey = 12 ∧ r'.hdr.nextFree = 24576 ∧ r'.hdr.nextLSN = 21 ∧ s'.hdr.nextLSN = 22 := by
  have hm : (tname, t8) ∈ [(tname, t8)] := List.mem_singleton.mpr rfl
  obtain ⟨s', ptF, logs, e, hc, hlk, hnf, hcase, hent⟩ := insert_refines' st8 pt0 sch0 [(tname, t8)] cat8 tname t8 hm
    [] [] [] [] (by decide) (by decide) rfl rfl (by decide) t9 24576 rfl (by decide) (by decide) (by decide)
  obtain ⟨r', hrep, hb, a1, a2, _⟩ := Behind.ins ⟨cat8, cat8, pt0_self, rfl, Nat.le_refl _, Nat.le_refl _⟩ hm rfl
    (by decide) (by decide) (by decide) hlk hnf hcase hent hc (by decide) (by decide)
  have hst : setTable [(tname, t8)] tname t9 = [(tname, t9)] := by simp [setTable]
  rw [hst] at hc hb
  have h20 : st8.hdr.nextLSN = 20 := rfl
  rcases hcase with ⟨h1, _⟩ | ⟨_, h2, _, _, _, _, _, _, _, h3⟩
  · exact absurd h1 (by decide)
  · exact ⟨s', ptF, logs, r', e, hc, by rw [h3]; rfl, hrep, hb.redo, hb.redo.etb (tname, t9) (by simp),
      by rw [a1, hlk]; rfl, by rw [hb.nf, hnf], by omega, by omega⟩

/-! ### non-vacuity of the history theorem: two inserts from `st0` -/

/-- the tree of table `"t"` after two inserts of the empty row -/
def t2 : Levels := ⟨[(⟨12288, 8, false, false, 0, 0, [⟨4, false, []⟩, ⟨5, false, []⟩]⟩, true)], []⟩

theorem fresh_st0 : Fresh st0 [(tname, t0)] :=
  ⟨by intro e he; simp at he; subst he; decide, by decide, by intro e he; simp at he; subst he; decide⟩

/-- two statements run live from `st0` form a `LiveRun`; replaying their logs on `st0` reproduces
the final tables -/
theorem history_st0 : ∃ sN ptN rN logs,
    LiveRun sch0 st0 [(tname, t0)] [⟨tname, [], []⟩, ⟨tname, [], []⟩] sN [(tname, t2)] logs ∧
    replayAll logs st0 = (rN, none, false) ∧
    Cat sN ptN sch0 [(tname, t2)] ∧ Cat rN ptN sch0 [(tname, t2)] ∧
    rN.hdr.lastKey = sN.hdr.lastKey ∧ sN.hdr.lastKey = 5 := by
  obtain ⟨s1, ptF1, logs1, e1, hc1, hk1, hn1, hcase1⟩ := insert_refines st0 pt0 sch0 [(tname, t0)] cat0 tname t0
    (by simp) [] [] [] [] (by decide) (by decide) rfl rfl (by decide) rt1 16384 rfl (by decide) (by decide)
    (by decide)
  have hst1 : setTable [(tname, t0)] tname rt1 = [(tname, rt1)] := by simp [setTable]
  have hst2 : setTable [(tname, rt1)] tname t2 = [(tname, t2)] := by simp [setTable]
  have hl1 : s1.hdr.nextLSN = 8 := by
    rcases hcase1 with ⟨_, _, h, _⟩ | ⟨h, _⟩
    · exact h
    · exact absurd rfl h
  rw [hst1] at hc1
  have hins2 : insertAppend rt1 (s1.hdr.lastKey + 1) s1.hdr.nextLSN [] s1.hdr.nextFree = .ok (t2, 16384) := by
    rw [hk1, hl1, hn1]; rfl
  obtain ⟨s2, ptF2, logs2, e2, hc2, hk2, hn2, _⟩ := insert_refines s1 ptF1 sch0 [(tname, rt1)] hc1 tname rt1
    (by simp) [] [] [] [] (by decide) (by decide) rfl rfl (by decide) t2 16384 hins2 (by decide) (by decide)
    (by decide)
  have run2 : LiveRun sch0 s1 [(tname, rt1)] [⟨tname, [], []⟩] s2 [(tname, t2)] (logs2 ++ []) :=
    LiveRun.cons (st := ⟨tname, [], []⟩) rt1 [] [] t2 16384 (by simp) (by decide) (by decide) rfl rfl (by decide)
      hins2 (by decide) (by decide) (by decide) e2 (by rw [hst2]; exact LiveRun.nil _ _)
  have run : LiveRun sch0 st0 [(tname, t0)] [⟨tname, [], []⟩, ⟨tname, [], []⟩] s2 [(tname, t2)]
      (logs1 ++ (logs2 ++ [])) :=
    LiveRun.cons (st := ⟨tname, [], []⟩) t0 [] [] rt1 16384 (by simp) (by decide) (by decide) rfl rfl (by decide)
      rfl (by decide) (by decide) (by decide) e1 (by rw [hst1]; exact run2)
  obtain ⟨ptN, rN, e, c1, c2, _, _, c5, _⟩ := replay_history sch0 run pt0 cat0 pt0_self fresh_st0
  exact ⟨s2, ptN, rN, _, run, e, c1, c2, c5, by rw [hk2, hk1]; rfl⟩

/-! ### non-vacuity: insert, update, delete from `st0` -/

theorem freshM_st0 : FreshM st0 [(tname, t0)] :=
  ⟨by intro e he; simp at he; subst he; decide, by decide, by intro e he; simp at he; subst he; decide⟩

/-- the table after the insert of the empty row (id 4, LSN 7), its update (LSN 8) and its delete (LSN 9) -/
def tIUD : Levels := setDeleted (setVal t1 4 8 []) 4 9

/-- three statements - insert a row, update it, delete it - run live from `st0` form a `LiveRunM`;
replaying their three log records on `st0` reproduces the final table (one tombstone) -/
theorem history_mixed_st0 : ∃ sN ptN rN logs,
    LiveRunM sch0 st0 [(tname, t0)] [.ins tname [] [], .upd tname 4 [] [], .del tname 4] sN [(tname, tIUD)] logs ∧
    logs.length = 3 ∧
    replayAll logs st0 = (rN, none, false) ∧
    Cat sN ptN sch0 [(tname, tIUD)] ∧ Cat rN ptN sch0 [(tname, tIUD)] ∧
    cells tIUD = [⟨4, true, []⟩] ∧ live tIUD = [] ∧
    rN.hdr.lastKey = sN.hdr.lastKey ∧ rN.hdr.nextLSN ≤ sN.hdr.nextLSN := by
  obtain ⟨s1, ptF1, logs1, e1, hc1, hk1, hn1, hcase1⟩ := insert_refines st0 pt0 sch0 [(tname, t0)] cat0 tname t0
    (by simp) [] [] [] [] (by decide) (by decide) rfl rfl (by decide) t1 16384 rfl (by decide) (by decide)
    (by decide)
  have hst1 : setTable [(tname, t0)] tname t1 = [(tname, t1)] := by decide
  rw [hst1] at hc1
  obtain ⟨hl1, hlen1⟩ : s1.hdr.nextLSN = 8 ∧ logs1.length = 1 := by
    rcases hcase1 with ⟨_, _, h, hl⟩ | ⟨h, _⟩
    · exact ⟨h, by rw [hl]; rfl⟩
    · exact absurd (by decide) h
  have hmem1 : (tname, t1) ∈ [(tname, t1)] := List.mem_singleton.mpr rfl
  obtain ⟨s2, l2, d2, _, _, e2, hc2, hl2, _⟩ := update_cat hc1 tname t1 hmem1 [] (by decide) 4 [] [] rfl
    ⟨4, false, []⟩ (by decide) rfl [] [] rfl rfl (by decide)
  rw [hl1] at hc2 hl2
  have hst2 : setTable [(tname, t1)] tname (setVal t1 4 8 []) = [(tname, setVal t1 4 8 [])] := by decide
  rw [hst2] at hc2
  have hmem2 : (tname, setVal t1 4 8 []) ∈ [(tname, setVal t1 4 8 [])] := List.mem_singleton.mpr rfl
  obtain ⟨s3, l3, d3, _, _, e3, hc3, _⟩ := markDeleted_cat hc2 tname _ hmem2 4 ⟨4, false, []⟩ (by decide) rfl
  have hst3 : setTable [(tname, setVal t1 4 8 [])] tname (setDeleted (setVal t1 4 8 []) 4 9) = [(tname, tIUD)] := by
    decide
  have run3 : LiveRunM sch0 s2 [(tname, setVal t1 4 8 [])] [.del tname 4] s3 [(tname, tIUD)] (_ ++ []) :=
    LiveRunM.del tname 4 _ ⟨4, false, []⟩ hmem2 (by decide) rfl e3
      (by rw [hl2, hst3]; exact LiveRunM.nil _ _)
  have run2 : LiveRunM sch0 s1 [(tname, t1)] [.upd tname 4 [] [], .del tname 4] s3 [(tname, tIUD)] (_ ++ (_ ++ [])) :=
    LiveRunM.upd tname 4 [] [] t1 [] ⟨4, false, []⟩ [] [] hmem1 (by decide) (by decide) rfl rfl rfl (by decide) e2
      (by rw [hl1, hst2]; exact run3)
  have run : LiveRunM sch0 st0 [(tname, t0)] [.ins tname [] [], .upd tname 4 [] [], .del tname 4] s3
      [(tname, tIUD)] (logs1 ++ (_ ++ (_ ++ []))) :=
    LiveRunM.ins tname [] [] t0 [] [] t1 16384 (by simp) (by decide) (by decide) rfl rfl (by decide) rfl (by decide)
      (by decide) (by decide) e1 (by rw [hst1]; exact run2)
  obtain ⟨ptN, rN, e, c1, c2, _, _, c5, _, c7⟩ := replay_history_mixed sch0 run pt0 cat0 pt0_self freshM_st0
  refine ⟨s3, ptN, rN, _, run, ?_, e, c1, c2, by decide, by decide, c5, c7⟩
  simp [hlen1]

end Mkdb.Store
end

section
/-!
Replay of a log whose writer's counters ran ahead of it.

An INSERT whose first row is too large for a page cell is refused inside the tree insert, after the row-id
counter and the LSN counter were advanced; no log record is written and no page changes.  So the live store may
be ahead of what a replay of its log reaches: recovery raises the row-id counter to the key of every INSERT record
it replays and the LSN counter to every record's LSN, and catches up at the next logged INSERT.  `Drift` is such a
step, `LiveRunB` is live runs (`LiveRunM`) separated by them, and the replay theorems are stated for a replay store
whose row-id and LSN counters are BEHIND the live ones.
-/
set_option autoImplicit false
namespace Mkdb.Store
open Mkdb.Page Mkdb.Tuple Mkdb.Generated Mkdb.Tree Mkdb.Engine

/-- every page of the user tables carries an LSN the counter `b` has reached -/
def LsnR (b : Nat) (tbls : List (Bytes × Levels)) : Prop :=
  ∀ e ∈ tbls, ∀ x ∈ flatten e.2, nodeLSN x.2.1 ≤ b

theorem LsnR.of_fresh {s : Store} {tbls : List (Bytes × Levels)} (hf : FreshM s tbls) {b : Nat}
    (hb : s.hdr.nextLSN ≤ b + 1) : LsnR b tbls := fun e he x hx => by
  exact Nat.le_of_lt_succ (Nat.lt_of_lt_of_le (hf.lsn e he x hx) hb)

/-- `replay_run`, with what recovery's final LSN bump needs: the replayed LSN counter has reached every
page LSN (it is one short of the live counter once anything was logged) -/
theorem replay_run_lsnR (sch : Levels) {s0 sN : Store} {tbls tblsN : List (Bytes × Levels)}
    {stmts : List RStmt} {logs : List WalRec} (run : LiveRunM sch s0 tbls stmts sN tblsN logs)
    {pt : Levels} {r0 : Store} (hb : Behind sch s0 r0 pt tbls) (hf : FreshM s0 tbls)
    (hl : LsnR r0.hdr.nextLSN tbls) :
    ∃ ptN rN, replayAll logs r0 = (rN, none, false) ∧ Behind sch sN rN ptN tblsN ∧ FreshM sN tblsN ∧
      LsnR rN.hdr.nextLSN tblsN := by
  obtain ⟨ptN, rN, e, hbN, hfN, _, n⟩ := replay_run sch run hb hf
  refine ⟨ptN, rN, e, hbN, hfN, ?_⟩
  rcases n with ⟨_, rfl, _, rfl⟩ | n
  · exact hl
  · exact LsnR.of_fresh hfN (Nat.le_of_eq n.symm)

/-- from `s` to `s'` nothing the catalogue description sees changed and nothing was logged, but the row-id and LSN
counters may have advanced (a refused statement took them); why `Behind` has `≤` for both -/
structure Drift (sch : Levels) (s : Store) (tbls : List (Bytes × Levels)) (s' : Store) : Prop where
  cat : ∀ pt, Cat s pt sch tbls → Cat s' pt sch tbls
  nf : s'.hdr.nextFree = s.hdr.nextFree
  lk : s.hdr.lastKey ≤ s'.hdr.lastKey
  lsn : s.hdr.nextLSN ≤ s'.hdr.nextLSN

/-- live runs with drifts in between; the log is the log of the runs -/
inductive LiveRunB (sch : Levels) : Store → List (Bytes × Levels) → Store → List (Bytes × Levels) → List WalRec → Prop
  | one {s s1 : Store} {tbls tbls1 : List (Bytes × Levels)} {stmts : List RStmt} {logs : List WalRec}
      (run : LiveRunM sch s tbls stmts s1 tbls1 logs) : LiveRunB sch s tbls s1 tbls1 logs
  | drift {s s1 s2 s3 : Store} {tbls tbls1 tbls3 : List (Bytes × Levels)} {stmts : List RStmt}
      {logs logs2 : List WalRec} (run : LiveRunM sch s tbls stmts s1 tbls1 logs) (hd : Drift sch s1 tbls1 s2)
      (rest : LiveRunB sch s2 tbls1 s3 tbls3 logs2) : LiveRunB sch s tbls s3 tbls3 (logs ++ logs2)

theorem LiveRunB.append_run {sch : Levels} {s s1 s2 : Store} {tbls tbls1 tbls2 : List (Bytes × Levels)}
    {stmts : List RStmt} {l1 l2 : List WalRec} (h1 : LiveRunB sch s tbls s1 tbls1 l1)
    (h2 : LiveRunM sch s1 tbls1 stmts s2 tbls2 l2) : LiveRunB sch s tbls s2 tbls2 (l1 ++ l2) := by
  induction h1 with
  | one run => exact .one (run.append h2)
  | drift run hd _ ih =>
    rw [List.append_assoc]
    exact .drift run hd (ih h2)

theorem LiveRunB.append_drift {sch : Levels} {s s1 s2 : Store} {tbls tbls1 : List (Bytes × Levels)}
    {l1 : List WalRec} (h1 : LiveRunB sch s tbls s1 tbls1 l1) (h2 : Drift sch s1 tbls1 s2) :
    LiveRunB sch s tbls s2 tbls1 l1 := by
  induction h1 with
  | one run =>
    have := LiveRunB.drift run h2 (.one (.nil _ _))
    rwa [List.append_nil] at this
  | drift run hd _ ih => exact .drift run hd (ih h2)

theorem Behind.drift {sch : Levels} {s s1 r : Store} {pt : Levels} {tbls : List (Bytes × Levels)}
    (hb : Behind sch s r pt tbls) (hd : Drift sch s tbls s1) : Behind sch s1 r pt tbls :=
  hb.ahead (hd.cat pt hb.live) hd.nf hd.lk hd.lsn

/-- **Crash with nothing flushed since the checkpoint**, for live runs separated by counter moves -/
theorem live_runB_replay (sch : Levels) {s0 sN : Store} {tbls tblsN : List (Bytes × Levels)}
    {logs : List WalRec} (run : LiveRunB sch s0 tbls sN tblsN logs) :
    ∀ {pt : Levels} {r0 : Store}, Behind sch s0 r0 pt tbls → FreshM s0 tbls → LsnR r0.hdr.nextLSN tbls →
      ∃ ptN rN, replayAll logs r0 = (rN, none, false) ∧ Behind sch sN rN ptN tblsN ∧ FreshM sN tblsN ∧
        LsnR rN.hdr.nextLSN tblsN := by
  induction run with
  | one run => exact fun hb hf hl => replay_run_lsnR sch run hb hf hl
  | drift run hd _ ih =>
    intro pt r0 hb hf hl
    obtain ⟨pt1, r1, e, hb1, hf1, hl1⟩ := replay_run_lsnR sch run hb hf hl
    obtain ⟨ptN, rN, e', c⟩ := ih (hb1.drift hd) (hf1.of_hdr hd.lsn (by rw [hd.nf]; exact Nat.le_refl _)) hl1
    exact ⟨ptN, rN, by rw [replayAll_append e]; exact e', c⟩

theorem LiveRunB.keeps {sch : Levels} {J : Store → Levels → List (Bytes × Levels) → List WalRec → Prop}
    (hstep : ∀ {s pt tbls s1 pt1 tbls1 l1 old}, Cat s pt sch tbls → RowStep s pt tbls s1 pt1 tbls1 l1 →
      Cat s1 pt1 sch tbls1 → J s pt tbls old → J s1 pt1 tbls1 (old ++ l1))
    (hdrift : ∀ {s pt tbls s1 old}, Cat s pt sch tbls → Drift sch s tbls s1 → J s pt tbls old → J s1 pt tbls old)
    {s0 sN : Store} {tbls tblsN : List (Bytes × Levels)} {logs : List WalRec}
    (run : LiveRunB sch s0 tbls sN tblsN logs) :
    ∀ {pt : Levels}, Cat s0 pt sch tbls → ∀ {old : List WalRec}, J s0 pt tbls old →
      ∃ ptN, Cat sN ptN sch tblsN ∧ J sN ptN tblsN (old ++ logs) := by
  induction run with
  | one run => exact fun h _ hJ => run.keeps hstep h hJ
  | drift run hd _ ih =>
    intro pt h old hJ
    obtain ⟨pt1, c1, j1⟩ := run.keeps hstep h hJ
    obtain ⟨ptN, c, j⟩ := ih (hd.cat pt1 c1) (hdrift c1 hd j1)
    exact ⟨ptN, c, by rw [← List.append_assoc]; exact j⟩

end Mkdb.Store
end
