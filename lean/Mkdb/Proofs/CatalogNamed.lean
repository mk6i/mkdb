import Mkdb.Proofs.CatalogRepoint
import Mkdb.Proofs.TreeLSN
/-!
# The catalog invariant after one of its trees changed

`Named` tells the catalog invariant with `sys_schema` as one more named tree (`Cat.named` is the translation), so that
what happens to a named tree is proved once: `Named.replace` (`Named.rebuild` for an insert),
of which `Cat.rebuild` (an insert into a user table) and `Cat.updTable` (a cell change in a leaf
of a user table) are instances; and `Named.add`, for a page table that got the row of a new table whose root page
was just allocated.  `WrittenSince lo t t'` tells what a statement did to one catalog tree, for the layers that look
at pages.  What `Named` says of names alone is `Names`: a replaced tree and its re-pointed row keep theirs, a new table
adds one (`Names.snoc`).  Pages taken at the frontier are no pages of a tree that stood before (`Inv_apart`),
which is why the other trees are as they were (`GoodTree.frame`).
-/

section
set_option autoImplicit false
namespace Mkdb.Store
open Mkdb.Page Mkdb.Tuple Mkdb.Generated Mkdb.Tree

/-! ### the root page -/

theorem root_held (s : Store) (t : Levels) (nf : Nat) (hH : Holds s t) (hI : Inv t nf) :
    ∃ n d, view s (rootOff t) = some (n, d) ∧ nodeOff n = rootOff t := by
  obtain ⟨n, d, hm, ho⟩ := root_entry t nf hI
  exact ⟨n, d, hH _ hm, ho⟩

theorem disj_named (pt : Levels) (all : List (Bytes × Levels)) :
    ((pt :: all.map (·.2)).map offs).Pairwise (fun a b => ∀ o ∈ a, o ∉ b) ↔
      (∀ e ∈ all, ∀ o ∈ offs pt, o ∉ offs e.2) ∧ all.Pairwise (fun a b => ∀ o ∈ offs a.2, o ∉ offs b.2) := by
  simp only [List.map_cons, List.map_map, List.pairwise_cons, List.pairwise_map, List.forall_mem_map,
    Function.comp]

theorem Cat.disj_parts {s : Store} {pt sch : Levels} {tbls : List (Bytes × Levels)} (h : Cat s pt sch tbls) :
    (∀ o ∈ offs pt, o ∉ offs sch) ∧ (∀ e ∈ tbls, ∀ o ∈ offs pt, o ∉ offs e.2) ∧
    (∀ e ∈ tbls, ∀ o ∈ offs sch, o ∉ offs e.2) ∧
    tbls.Pairwise (fun a b => ∀ o ∈ offs a.2, o ∉ offs b.2) := by
  obtain ⟨hp, hd⟩ := (disj_named pt ((sysSchema, sch) :: tbls)).mp h.disj
  obtain ⟨h3, h4⟩ := List.pairwise_cons.mp hd
  exact ⟨hp _ List.mem_cons_self, fun e he => hp e (List.mem_cons_of_mem _ he), h3, h4⟩

theorem fetch_root {s : Store} {t : Levels} {nf : Nat} (hH : Holds s t) (hI : Inv t nf) :
    ∃ n s', fetch (rootOff t) s = .ok n s' ∧ Same s s' := by
  obtain ⟨n, d, hvn, hon⟩ := root_held s t nf hH hI
  exact ⟨n, fetch_same hvn hon⟩

theorem Cat.fetch_root {s : Store} {pt sch : Levels} {tbls : List (Bytes × Levels)} (h : Cat s pt sch tbls)
    {t : Levels} (ht : t ∈ catTrees pt sch tbls) :
    ∃ n s', fetch (rootOff t) s = .ok n s' ∧ Same s s' ∧ Cat s' pt sch tbls := by
  obtain ⟨n, s', e, hs⟩ := Store.fetch_root (h.tree t ht).1 (h.tree t ht).2.1
  exact ⟨n, s', e, hs, h.of_same hs⟩

/-! ### what `setVal` on the page table keeps -/

/-- `ptF` is the page table, possibly with the value of one row rewritten -/
def PtLike (pt ptF : Levels) : Prop := ptF = pt ∨ ∃ k l v, ptF = setVal pt k l v

theorem PtLike.facts {pt ptF : Levels} (h : PtLike pt ptF) :
    offs ptF = offs pt ∧ rootOff ptF = rootOff pt ∧ ptF.inner.length = pt.inner.length ∧
    ptF.leaves.length = pt.leaves.length ∧ keys ptF = keys pt ∧ ∀ nf, Inv pt nf → Inv ptF nf := by
  rcases h with rfl | ⟨k, l, v, rfl⟩
  · exact ⟨rfl, rfl, rfl, rfl, rfl, fun _ h => h⟩
  · refine ⟨offs_setVal pt k l v, ?_, rfl, ?_, keys_setVal pt k l v, fun nf h => setVal_inv pt k l nf v h⟩
    · rw [setVal_eq, rootOff_updLeaves]
    · simp [setVal]

/-! ### how a statement changes a catalog tree -/

/-- `t'` is `t` after inserts at the frontier and cell changes, all stamped with LSNs from `lo` on: what
the statements do to the page table and to `sys_schema`, forgetting the store and the other trees -/
inductive WrittenSince (lo : Nat) : Levels → Levels → Prop
  | refl (t : Levels) : WrittenSince lo t t
  | ins {t t1 t2 : Levels} {key lsn nf nf' : Nat} {buf : Bytes} : WrittenSince lo t t1 → Inv t1 nf → lo ≤ lsn →
      insertAppend t1 key lsn buf nf = .ok (t2, nf') → WrittenSince lo t t2
  | upd {t t1 : Levels} (f : LeafCell → LeafCell) (key : Nat) {lsn : Nat} : WrittenSince lo t t1 → lo ≤ lsn →
      WrittenSince lo t (updLeaves f key lsn t1)

theorem WrittenSince.trans {lo : Nat} {a b c : Levels} (h1 : WrittenSince lo a b) (h2 : WrittenSince lo b c) :
    WrittenSince lo a c := by
  induction h2 with
  | refl => exact h1
  | ins _ hI hl hins ih => exact .ins ih hI hl hins
  | upd f key _ hl ih => exact .upd f key ih hl

theorem WrittenSince.mono {lo lo' : Nat} {a b : Levels} (h : WrittenSince lo a b) (hle : lo' ≤ lo) :
    WrittenSince lo' a b := by
  induction h with
  | refl => exact .refl _
  | ins _ hI hl hins ih => exact .ins ih hI (Nat.le_trans hle hl) hins
  | upd f key _ hl ih => exact .upd f key ih (Nat.le_trans hle hl)

theorem WrittenSince.setVal {lo lsn : Nat} (t : Levels) (k : Nat) (v : Bytes) (hl : lo ≤ lsn) :
    WrittenSince lo t (setVal t k lsn v) := by
  rw [setVal_eq]
  exact .upd _ k (.refl _) hl

theorem repoint_id (name : Bytes) (off : Nat) (ents : List (Bytes × Nat)) (hnd : (ents.map (·.1)).Nodup)
    (hm : (name, off) ∈ ents) : ents.map (repoint name off) = ents := by
  conv => rhs; rw [← List.map_id ents]
  apply List.map_congr_left
  intro e he
  unfold repoint
  split
  · rename_i hn
    exact (inj_of_nodup_map (·.1) ents hnd e he (name, off) hm hn).symm
  · rfl

theorem repoint_names (name : Bytes) (off : Nat) (ents : List (Bytes × Nat)) :
    (ents.map (repoint name off)).map (·.1) = ents.map (·.1) := by
  rw [List.map_map]
  exact List.map_congr_left fun e _ => repoint_fst name off e

/-! ### the invariant with `sys_schema` as one more named tree -/

/-- what the catalog invariant asks of each tree: held, well formed below the frontier, within the
fuels, its keys already issued -/
def GoodTree (s : Store) (x : Levels) : Prop :=
  Holds s x ∧ Inv x s.hdr.nextFree ∧ x.inner.length + 2 ≤ treeFuel ∧ x.leaves.length ≤ scanFuel ∧
    ∀ a ∈ keys x, a ≤ s.hdr.lastKey

theorem GoodTree.frame {s s' : Store} {x : Levels} (h : GoodTree s x) (hv : ∀ o ∈ offs x, view s' o = view s o)
    (hnf : s.hdr.nextFree ≤ s'.hdr.nextFree) (hlk : s.hdr.lastKey ≤ s'.hdr.lastKey) : GoodTree s' x :=
  ⟨fun e he => by rw [hv _ (List.mem_map.mpr ⟨e, he, rfl⟩)]; exact h.1 e he, Inv_mono x _ _ h.2.1 hnf, h.2.2.1,
    h.2.2.2.1, fun a ha => Nat.le_trans (h.2.2.2.2 a ha) hlk⟩

theorem keys_insertAppend {t t' : Levels} {k lsn nf nf' : Nat} {v : Bytes}
    (h : insertAppend t k lsn v nf = .ok (t', nf')) : keys t' = keys t ++ [k] := by
  unfold keys
  rw [cells_insertAppend t t' k lsn nf nf' v h, List.map_append]
  rfl

theorem GoodTree.insertAppend {s s' : Store} {t t' : Levels} {key lsn nf nf' : Nat} {buf : Bytes}
    (h : GoodTree s t) (hle : s.hdr.nextFree ≤ nf) (hins : insertAppend t key lsn buf nf = .ok (t', nf'))
    (hH : Holds s' t') (hnf : s'.hdr.nextFree = nf') (hk : key ≤ s'.hdr.lastKey)
    (hlk : s.hdr.lastKey ≤ s'.hdr.lastKey) (hd' : t'.inner.length + 2 ≤ treeFuel)
    (hl' : t'.leaves.length ≤ scanFuel) : GoodTree s' t' := by
  refine ⟨hH, hnf ▸ insertAppend_inv t t' key lsn nf nf' buf (Inv_mono t _ _ h.2.1 hle) hins, hd', hl', ?_⟩
  intro a ha
  rw [keys_insertAppend hins, List.mem_append, List.mem_singleton] at ha
  rcases ha with ha | rfl
  · exact Nat.le_trans (h.2.2.2.2 a ha) hlk
  · exact hk

/-- What the catalog invariant asks of the names alone: `ptn` those in the rows of the page table, `alln`
those of the trees it names.  A row that is re-pointed and a tree that is replaced keep their names
(`repoint_names`, `setTable_names`); only a new table changes the two lists (`Names.snoc`). -/
structure Names (ptn alln : List Bytes) : Prop where
  nodup : ptn.Nodup
  only : ∀ n ∈ ptn, n = sysPages ∨ n ∈ alln
  anodup : alln.Nodup
  asys : sysPages ∉ alln
  alen : ∀ n ∈ alln, n.length + 14 ≤ c_maxValueSize

theorem Names.snoc {ptn alln : List Bytes} (h : Names ptn alln) {name : Bytes} (hn1 : name ≠ sysPages)
    (hn3 : name ∉ alln) (hnl : name.length + 14 ≤ c_maxValueSize) : Names (ptn ++ [name]) (alln ++ [name]) where
  nodup := (List.perm_append_singleton _ _).nodup_iff.mpr
    (List.nodup_cons.mpr ⟨fun hm => (h.only name hm).elim hn1 hn3, h.nodup⟩)
  only := fun n hn => (List.mem_append.mp hn).elim (fun hn => (h.only n hn).imp id (List.mem_append_left _))
    fun hn => .inr (List.mem_append_right _ hn)
  anodup := (List.perm_append_singleton _ _).nodup_iff.mpr (List.nodup_cons.mpr ⟨hn3, h.anodup⟩)
  asys := fun hm => (List.mem_append.mp hm).elim h.asys fun hm => hn1 (List.mem_singleton.mp hm).symm
  alen := fun n hn => (List.mem_append.mp hn).elim (h.alen n) fun hn => List.mem_singleton.mp hn ▸ hnl

/-- The catalog invariant, told of the page table `pt` and the list `all` of the trees it names:
`sys_schema` first, then the user tables.  `Cat.named` is the translation; what holds of a named
tree is proved here once, for `sys_schema` and for a user table alike.  `Cat`, which keeps `sys_schema` apart, is the
form the properties are stated in: state a lemma about a tree that changes for `Named` and read it for `Cat` through
`Cat.named`; a new clause goes into both structures and into `Cat.named`. -/
structure Named (s : Store) (pt : Levels) (all : List (Bytes × Levels)) : Prop where
  gpt : GoodTree s pt
  tree : ∀ e ∈ all, GoodTree s e.2
  ptd : ∀ e ∈ all, ∀ o ∈ offs pt, o ∉ offs e.2
  disj : all.Pairwise (fun a b => ∀ o ∈ offs a.2, o ∉ offs b.2)
  root : rootOff pt = s.hdr.ptRoot
  dec : ∀ c ∈ live pt, ptEntry c ≠ none
  ent : ∀ e ∈ all, (e.1, rootOff e.2) ∈ ptEntries pt
  names : Names ((ptEntries pt).map (·.1)) (all.map (·.1))

theorem sysPages_ne_sysSchema : sysPages ≠ sysSchema := by decide +kernel

theorem sysSchema_short : sysSchema.length + 14 ≤ c_maxValueSize := by decide +kernel

theorem Cat.named {s : Store} {pt sch : Levels} {tbls : List (Bytes × Levels)} :
    Cat s pt sch tbls ↔ Named s pt ((sysSchema, sch) :: tbls) := by
  constructor
  · intro h
    obtain ⟨d1, d2⟩ := (disj_named pt ((sysSchema, sch) :: tbls)).mp h.disj
    exact {
      gpt := h.tree pt Cat.pt_mem
      tree := fun e he => h.tree e.2 (List.mem_cons_of_mem _ (List.mem_map.mpr ⟨e, he, rfl⟩))
      ptd := d1, disj := d2, root := h.root, dec := h.dec
      ent := fun e he => (List.mem_cons.mp he).elim (fun heq => heq ▸ h.esch) (h.etb e)
      names := {
        nodup := h.names
        only := List.forall_mem_map.mpr fun e he => (h.only e he).imp id List.mem_cons.mpr
        anodup := List.nodup_cons.mpr ⟨h.tsys.2, h.tnames⟩
        asys := fun hm => (List.mem_cons.mp hm).elim sysPages_ne_sysSchema h.tsys.1
        alen := fun n hn => (List.mem_cons.mp hn).elim (fun heq => heq ▸ sysSchema_short) fun hn =>
          let ⟨e, he, hen⟩ := List.mem_map.mp hn
          hen ▸ h.tlen e he } }
  · intro h
    obtain ⟨a1, a2⟩ := List.nodup_cons.mp h.names.anodup
    exact {
      tree := by
        intro x hx
        rcases List.mem_cons.mp hx with rfl | hx
        · exact h.gpt
        · obtain ⟨e, he, rfl⟩ := List.mem_map.mp (show x ∈ ((sysSchema, sch) :: tbls).map (·.2) from hx)
          exact h.tree e he
      disj := (disj_named pt ((sysSchema, sch) :: tbls)).mpr ⟨h.ptd, h.disj⟩
      root := h.root, dec := h.dec, names := h.names.nodup
      esch := h.ent _ List.mem_cons_self
      etb := fun e he => h.ent e (List.mem_cons_of_mem _ he)
      only := fun e he => (h.names.only e.1 (List.mem_map_of_mem he)).imp id List.mem_cons.mp
      tnames := a2
      tsys := ⟨fun hm => h.names.asys (List.mem_cons_of_mem _ hm), a1⟩
      tlen := fun e he => h.names.alen e.1 (List.mem_cons_of_mem _ (List.mem_map_of_mem he)) }

theorem Named.replace {s s' : Store} {pt : Levels} {all : List (Bytes × Levels)} (h : Named s pt all)
    {nm : Bytes} {t t' : Levels} (ht : (nm, t) ∈ all) (ptF : Levels) (hF : PtLike pt ptF)
    (hent : ptEntries ptF = (ptEntries pt).map (repoint nm (rootOff t')))
    (hdecF : ∀ c ∈ live ptF, ptEntry c ≠ none)
    (hnf : s.hdr.nextFree ≤ s'.hdr.nextFree) (hlk : s.hdr.lastKey ≤ s'.hdr.lastKey)
    (hpr : s'.hdr.ptRoot = s.hdr.ptRoot)
    (hnew : ∀ o ∈ offs t', o ∈ offs t ∨ s.hdr.nextFree ≤ o)
    (hGt : GoodTree s' t') (hHp : Holds s' ptF)
    (hframe : ∀ off, off ∉ offs t' → off ∉ offs pt → view s' off = view s off) :
    Named s' ptF (setTable all nm t') := by
  obtain ⟨f1, f2, f3, f4, f5, f6⟩ := hF.facts
  obtain ⟨_, hIpt, hdpt, hlpt, hkpt⟩ := h.gpt
  -- the trees under other names share no page with `t`, so none with `t'`
  have hdt : ∀ e ∈ all, e.1 ≠ nm → ∀ o ∈ offs e.2, o ∉ offs t' := fun e he hn =>
    Inv_apart (h.tree e he).2.1 hnew (pairwise_mem_ne (fun (a b : Bytes × Levels) => ∀ o ∈ offs a.2, o ∉ offs b.2)
      (fun _ _ => disj_symm _ _) all h.disj e he (nm, t) ht fun heq => hn (by rw [heq]))
  refine ⟨?gpt, ?tree, ?ptd, ?disj, by rw [f2, hpr]; exact h.root, hdecF, ?ent, ?names⟩
  case gpt =>
    exact ⟨hHp, f6 _ (Inv_mono pt _ _ hIpt hnf), by omega, by omega,
      fun a ha => Nat.le_trans (hkpt a (f5 ▸ ha)) hlk⟩
  case tree =>
    exact forall_mem_setTable hGt fun e he hn =>
      (h.tree e he).frame (fun o ho => hframe o (hdt e he hn o ho) fun hp => h.ptd e he o hp ho) hnf hlk
  case ptd =>
    rw [f1]
    exact forall_mem_setTable (Inv_apart h.gpt.2.1 hnew (h.ptd _ ht)) fun e he _ => h.ptd e he
  case disj =>
    exact pairwise_setTable (fun _ _ => disj_symm _ _) h.disj h.names.anodup hdt
  case ent =>
    rw [hent]
    exact forall_mem_setTable (List.mem_map.mpr ⟨_, h.ent _ ht, repoint_same nm _ _⟩) fun e he hn =>
      List.mem_map.mpr ⟨_, h.ent e he, repoint_ne _ hn⟩
  case names =>
    rw [hent, repoint_names, setTable_names]
    exact h.names

/-- **A named tree after `insertAppend`** of any key: the key and the row-id counter are only asked to be
consistent afterwards (`key ≤ s'.hdr.lastKey`), so the statement also serves a replayed insert, whose key
need not be the next row id. -/
theorem Named.rebuild {s s' : Store} {pt : Levels} {all : List (Bytes × Levels)} (h : Named s pt all)
    {nm : Bytes} {t : Levels} (ht : (nm, t) ∈ all) {key lsn nf' : Nat} {buf : Bytes} {t' : Levels}
    (hins : insertAppend t key lsn buf s.hdr.nextFree = .ok (t', nf')) (hkey : key ≤ s'.hdr.lastKey)
    (ptF : Levels) (hF : PtLike pt ptF)
    (hent : ptEntries ptF = (ptEntries pt).map (repoint nm (rootOff t')))
    (hdecF : ∀ c ∈ live ptF, ptEntry c ≠ none)
    (hnf : s'.hdr.nextFree = nf') (hlk : s.hdr.lastKey ≤ s'.hdr.lastKey)
    (hpr : s'.hdr.ptRoot = s.hdr.ptRoot) (hHt : Holds s' t') (hHp : Holds s' ptF)
    (hframe : ∀ off, off ∉ offs t' → off ∉ offs pt → view s' off = view s off)
    (hd' : t'.inner.length + 2 ≤ treeFuel) (hl' : t'.leaves.length ≤ scanFuel) :
    Named s' ptF (setTable all nm t') :=
  h.replace ht ptF hF hent hdecF (hnf ▸ insertAppend_nextFree t t' key lsn _ nf' buf hins) hlk hpr
    (fun o ho => (insertAppend_offs_new t t' key lsn _ nf' buf hins o ho).imp id And.left)
    (GoodTree.insertAppend (h.tree _ ht) (Nat.le_refl _) hins hHt hnf hkey hlk hd' hl') hHp hframe

theorem Cat.rebuild_le {s s' : Store} {pt sch : Levels} {tbls : List (Bytes × Levels)} (h : Cat s pt sch tbls)
    {table : Bytes} {t : Levels} (ht : (table, t) ∈ tbls) {key lsn nf' : Nat} {buf : Bytes} {t' : Levels}
    (hins : insertAppend t key lsn buf s.hdr.nextFree = .ok (t', nf')) (hkey : key ≤ s'.hdr.lastKey)
    (ptF : Levels) (hF : PtLike pt ptF)
    (hent : ptEntries ptF = (ptEntries pt).map (repoint table (rootOff t')))
    (hdecF : ∀ c ∈ live ptF, ptEntry c ≠ none)
    (hnf : s'.hdr.nextFree = nf') (hlk : s.hdr.lastKey ≤ s'.hdr.lastKey)
    (hpr : s'.hdr.ptRoot = s.hdr.ptRoot) (hHt : Holds s' t') (hHp : Holds s' ptF)
    (hframe : ∀ off, off ∉ offs t' → off ∉ offs pt → view s' off = view s off)
    (hd' : t'.inner.length + 2 ≤ treeFuel) (hl' : t'.leaves.length ≤ scanFuel) :
    Cat s' ptF sch (setTable tbls table t') := by
  have hne : sysSchema ≠ table := fun heq => h.tsys.2 (heq ▸ List.mem_map.mpr ⟨(table, t), ht, rfl⟩)
  have := (Cat.named.mp h).rebuild (List.mem_cons_of_mem _ ht) hins hkey ptF hF hent hdecF hnf hlk hpr hHt
    hHp hframe hd' hl'
  rw [setTable_cons_ne tbls t' hne] at this
  exact Cat.named.mpr this

theorem Cat.rebuild {s s' : Store} {pt sch : Levels} {tbls : List (Bytes × Levels)} (h : Cat s pt sch tbls)
    {table : Bytes} {t : Levels} (ht : (table, t) ∈ tbls) {key lsn nf' : Nat} {buf : Bytes} {t' : Levels}
    (hins : insertAppend t key lsn buf s.hdr.nextFree = .ok (t', nf')) (hkey : key = s.hdr.lastKey + 1)
    (ptF : Levels) (hF : PtLike pt ptF)
    (hent : ptEntries ptF = (ptEntries pt).map (repoint table (rootOff t')))
    (hdecF : ∀ c ∈ live ptF, ptEntry c ≠ none)
    (hnf : s'.hdr.nextFree = nf') (hlk : s'.hdr.lastKey = s.hdr.lastKey + 1)
    (hpr : s'.hdr.ptRoot = s.hdr.ptRoot) (hHt : Holds s' t') (hHp : Holds s' ptF)
    (hframe : ∀ off, off ∉ offs t' → off ∉ offs pt → view s' off = view s off)
    (hd' : t'.inner.length + 2 ≤ treeFuel) (hl' : t'.leaves.length ≤ scanFuel) :
    Cat s' ptF sch (setTable tbls table t') :=
  h.rebuild_le ht hins (by omega) ptF hF hent hdecF hnf (by omega) hpr hHt hHp hframe hd' hl'

/-- A cell change in a leaf of a user table: `setVal` and `setDeleted` are `updLeaves f key lsn` with `f` keeping
the key. -/
theorem Cat.updTable {s s' : Store} {pt sch : Levels} {tbls : List (Bytes × Levels)} (h : Cat s pt sch tbls)
    {table : Bytes} {t : Levels} (ht : (table, t) ∈ tbls) (f : LeafCell → LeafCell) (key lsn : Nat)
    (hf : ∀ c, (f c).key = c.key)
    (hH' : Holds s' (updLeaves f key lsn t))
    (hnf : s'.hdr.nextFree = s.hdr.nextFree) (hlk : s'.hdr.lastKey = s.hdr.lastKey)
    (hpr : s'.hdr.ptRoot = s.hdr.ptRoot)
    (hframe : ∀ off, off ∉ offs t → view s' off = view s off) :
    Cat s' pt sch (setTable tbls table (updLeaves f key lsn t)) := by
  have hn := Cat.named.mp h
  have hne : sysSchema ≠ table := fun heq => h.tsys.2 (heq ▸ List.mem_map.mpr ⟨(table, t), ht, rfl⟩)
  have htm : (table, t) ∈ (sysSchema, sch) :: tbls := List.mem_cons_of_mem _ ht
  obtain ⟨_, hIt, hdt, hlt, hkt⟩ := h.tree t (Cat.tb_mem ht)
  have hoffs := offs_updLeaves f key lsn t
  have hGt : GoodTree s' (updLeaves f key lsn t) :=
    ⟨hH', hnf ▸ updLeaves_inv f key lsn hf t _ hIt, hdt, by simpa [updLeaves] using hlt,
      by rw [hlk, keys_updLeaves f key lsn hf]; exact hkt⟩
  have hHp : Holds s' pt := (hn.gpt.frame (fun o ho => hframe o (hn.ptd _ htm o ho))
    (Nat.le_of_eq hnf.symm) (Nat.le_of_eq hlk.symm)).1
  have := hn.replace htm pt (.inl rfl)
    (by rw [rootOff_updLeaves]; exact (repoint_id table _ _ h.names (h.etb _ ht)).symm) h.dec
    (Nat.le_of_eq hnf.symm) (Nat.le_of_eq hlk.symm) hpr (fun o ho => .inl (hoffs ▸ ho)) hGt hHp
    (fun off h1 _ => hframe off (hoffs ▸ h1))
  rw [setTable_cons_ne tbls _ hne] at this
  exact Cat.named.mpr this

end Mkdb.Store
end

section
/-! ## A new table -/
set_option autoImplicit false
namespace Mkdb.Store
open Mkdb.Page Mkdb.Tuple Mkdb.Generated Mkdb.Tree

theorem offs_emptyTree (off : Nat) : offs (emptyTree off) = [off] := rfl
theorem rootOff_emptyTree (off : Nat) : rootOff (emptyTree off) = off := rfl
theorem keys_emptyTree (off : Nat) : keys (emptyTree off) = [] := rfl

theorem Named.add {s s' : Store} {pt : Levels} {all : List (Bytes × Levels)} (h : Named s pt all)
    {name : Bytes} {tn pt1 : Levels} (hn1 : name ≠ sysPages) (hn3 : name ∉ all.map (·.1))
    (hnl : name.length + 14 ≤ c_maxValueSize)
    (hnf : s.hdr.nextFree ≤ s'.hdr.nextFree) (hlk : s.hdr.lastKey ≤ s'.hdr.lastKey)
    (hpr : s'.hdr.ptRoot = rootOff pt1) (hGp : GoodTree s' pt1) (hGt : GoodTree s' tn)
    (hnewp : ∀ o ∈ offs pt1, o ∈ offs pt ∨ s.hdr.nextFree ≤ o) (hnewt : ∀ o ∈ offs tn, s.hdr.nextFree ≤ o)
    (hsep : ∀ o ∈ offs pt1, o ∉ offs tn)
    (hent : ptEntries pt1 = ptEntries pt ++ [(name, rootOff tn)])
    (hdec1 : ∀ c ∈ live pt1, ptEntry c ≠ none)
    (hframe : ∀ o, o ∉ offs pt1 → o ∉ offs tn → view s' o = view s o) :
    Named s' pt1 (all ++ [(name, tn)]) := by
  -- the trees of `all` lie below the frontier, the new pages at or above it
  have hp1 : ∀ e ∈ all, ∀ o ∈ offs pt1, o ∉ offs e.2 := fun e he =>
    disj_symm _ _ (Inv_apart (h.tree e he).2.1 hnewp (disj_symm _ _ (h.ptd e he)))
  have htn : ∀ e ∈ all, ∀ o ∈ offs e.2, o ∉ offs tn := fun e he =>
    Inv_apart (h.tree e he).2.1 (old := []) (fun o ho => .inr (hnewt o ho)) fun _ _ => List.not_mem_nil
  refine ⟨hGp, ?tree, ?ptd, ?disj, hpr.symm, hdec1, ?ent, ?names⟩
  case tree =>
    refine List.forall_mem_append.mpr ⟨fun e he => ?_, List.forall_mem_singleton.mpr hGt⟩
    exact (h.tree e he).frame (fun o ho => hframe o (fun hp => hp1 e he o hp ho) (htn e he o ho)) hnf hlk
  case ptd =>
    exact List.forall_mem_append.mpr ⟨hp1, List.forall_mem_singleton.mpr hsep⟩
  case disj =>
    refine List.pairwise_append.mpr ⟨h.disj, List.pairwise_singleton _ _, fun a ha b hb => ?_⟩
    rw [List.mem_singleton.mp hb]
    exact htn a ha
  case ent =>
    rw [hent]
    exact List.forall_mem_append.mpr ⟨fun e he => List.mem_append_left _ (h.ent e he),
      List.forall_mem_singleton.mpr (List.mem_append_right _ (List.mem_singleton.mpr rfl))⟩
  case names =>
    rw [hent, List.map_append, List.map_append]
    exact h.names.snoc hn1 hn3 hnl

end Mkdb.Store
end
