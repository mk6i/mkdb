import Mkdb.Model.Bin
/-!
The little-endian integer codecs give back what was encoded: an unsigned value modulo the field width,
a signed one (two's complement) within the signed range of the width.
-/
namespace Mkdb.Bin

theorem encLE_length (k n : Nat) : (encLE k n).length = k := by
  induction k generalizing n with
  | zero => rfl
  | succ k ih => simp [encLE, ih]

theorem decLE_encLE (k n : Nat) (rest : Bytes) :
    decLE k (encLE k n ++ rest) = some (n % 256 ^ k, rest) := by
  induction k generalizing n with
  | zero => simp [encLE, decLE, Nat.mod_one]
  | succ k ih =>
    simp only [encLE, List.cons_append, decLE, ih]
    congr 2
    have h1 : (n % 256).toUInt8.toNat = n % 256 := by
      simp [Nat.toUInt8, UInt8.toNat_ofNat']
    rw [h1, Nat.pow_succ', Nat.mod_mul]

theorem decLE_encLE_of_lt (k n : Nat) (rest : Bytes) (h : n < 256 ^ k) :
    decLE k (encLE k n ++ rest) = some (n, rest) := by
  rw [decLE_encLE, Nat.mod_eq_of_lt h]

theorem decLE_cases (k : Nat) (bs : Bytes) :
    (bs.length < k ∧ decLE k bs = none) ∨ (k ≤ bs.length ∧ ∃ v, decLE k bs = some (v, bs.drop k)) := by
  induction k generalizing bs with
  | zero => exact .inr ⟨Nat.zero_le _, 0, rfl⟩
  | succ k ih =>
    cases bs with
    | nil => exact .inl ⟨Nat.succ_pos k, rfl⟩
    | cons b t =>
      rcases ih t with ⟨h, e⟩ | ⟨h, v, e⟩
      · exact .inl ⟨Nat.succ_lt_succ h, by rw [decLE, e]⟩
      · exact .inr ⟨Nat.succ_le_succ h, b.toNat + 256 * v, by rw [decLE, e]; rfl⟩

theorem decLE_short (k : Nat) (bs : Bytes) (h : bs.length < k) : decLE k bs = none :=
  (decLE_cases k bs).elim (·.2) fun h' => absurd h (Nat.not_lt.mpr h'.1)

theorem twos_complement (H : Nat) (i : Int) (h1 : -(H : Int) ≤ i) (h2 : i < H) :
    (if (i % ((2 * H : Nat) : Int)).toNat % (2 * H) < H then (((i % ((2 * H : Nat) : Int)).toNat % (2 * H) : Nat) : Int)
      else (((i % ((2 * H : Nat) : Int)).toNat % (2 * H) : Nat) : Int) - (2 * H : Nat)) = i := by
  generalize hM : 2 * H = M
  by_cases hi : 0 ≤ i
  · rw [Int.emod_eq_of_lt hi (by omega), Nat.mod_eq_of_lt (by omega), if_pos (by omega),
      Int.toNat_of_nonneg hi]
  · have hr : i % (M : Int) = i + M := by
      rw [← Int.add_mul_emod_self_left i M 1, Int.mul_one, Int.emod_eq_of_lt (by omega) (by omega)]
    rw [hr, Nat.mod_eq_of_lt (by omega), if_neg (by omega), Int.toNat_of_nonneg (by omega)]
    omega

/-- `binary.Write` then `binary.Read` of a signed integer of `k + 1` bytes (`int32`: `k = 3`, `int64`:
`k = 7`) gives the integer back when it is in the signed range of that width. -/
theorem decI_encI (k : Nat) (i : Int) (rest : Bytes)
    (h1 : -((128 * 256 ^ k : Nat) : Int) ≤ i) (h2 : i < ((128 * 256 ^ k : Nat) : Int)) :
    decI (k + 1) (encI (k + 1) i ++ rest) = some (i, rest) := by
  have hM : 256 ^ (k + 1) = 2 * (128 * 256 ^ k) := by rw [Nat.pow_succ]; omega
  have hH : 256 ^ (k + 1) / 2 = 128 * 256 ^ k := by omega
  simp only [decI, encI, decLE_encLE, hH]
  rw [hM, twos_complement _ i h1 h2]

end Mkdb.Bin
