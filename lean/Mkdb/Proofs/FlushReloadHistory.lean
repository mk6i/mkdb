import Mkdb.Proofs.EngineNodeFields
import Mkdb.Proofs.FlushReloadHeapInv
/-!
Histories of one tree on the page heap in which flushes and re-opens are interleaved with the tree
operations of `RefineHistory`.  On the levels model a flush and a reload (`Store.reopen`: the cache
dropped, the header re-read, every page read from the data file again) clear every dirty bit (`clean`)
and change nothing else.  A reload is admitted only at a moment when no page of the tree is dirty
(`clean t = t`: right after a flush, after another reload, after reads and refused operations) - a
re-open with dirty pages is a crash, which loses them (C02/C03).  Three parts: the heap run of such a
history ends in a heap that holds the tree of the levels run; flushes and reloads change nothing
logical; the field ranges pass through them.
-/

section
set_option autoImplicit false
namespace Mkdb.Store
open Mkdb.Page Mkdb.Tuple Mkdb.Generated Mkdb.Tree

inductive FROp where
  | op (o : HOp)
  | flush (order : List Nat)
  | reload

def applyF (st : Levels × Nat) : FROp → Levels × Nat
  | .op o => applyH st o
  | .flush _ => (clean st.1, st.2)
  | .reload => (clean st.1, st.2)

def runF (st : Levels × Nat) (ops : List FROp) : Levels × Nat := ops.foldl applyF st

/-- one step on the heap; returns the (possibly new) root -/
def heapStepF (root : Nat) : FROp → SM Nat
  | .op o => heapStep root o
  | .flush order => flushPages order >>= fun _ => pure root
  | .reload => fun s => .ok root (reopen s)

def heapRunF : Nat → List FROp → SM Nat
  | root, [] => pure root
  | root, op :: rest => heapStepF root op >>= fun root' => heapRunF root' rest

/-- the hypotheses on a history, along the levels run -/
def RunOKF : Levels × Nat → List FROp → Prop
  | _, [] => True
  | st, .op o :: rest => st.1.inner.length + 1 ≤ treeFuel ∧ OpOK st o ∧ RunOKF (applyH st o) rest
  | st, .flush _ :: rest => RunOKF (clean st.1, st.2) rest
  | st, .reload :: rest => clean st.1 = st.1 ∧ RunOKF (clean st.1, st.2) rest

instance decRunOKF : (st : Levels × Nat) → (ops : List FROp) → Decidable (RunOKF st ops)
  | _, [] => isTrue trivial
  | st, .op o :: rest =>
    have := decRunOKF (applyH st o) rest
    inferInstanceAs (Decidable (st.1.inner.length + 1 ≤ treeFuel ∧ OpOK st o ∧ RunOKF (applyH st o) rest))
  | st, .flush _ :: rest => decRunOKF (clean st.1, st.2) rest
  | st, .reload :: rest =>
    have := decRunOKF (clean st.1, st.2) rest
    inferInstanceAs (Decidable (clean st.1 = st.1 ∧ RunOKF (clean st.1, st.2) rest))

theorem applyF_inv (st : Levels × Nat) (op : FROp) (h : Inv st.1 st.2) : Inv (applyF st op).1 (applyF st op).2 := by
  cases op with
  | op o => exact applyH_inv st o h
  | flush _ => exact clean_inv st.1 st.2 h
  | reload => exact clean_inv st.1 st.2 h

theorem runF_inv (ops : List FROp) : ∀ (st : Levels × Nat), Inv st.1 st.2 → Inv (runF st ops).1 (runF st ops).2 := by
  induction ops with
  | nil => intro st h; exact h
  | cons op rest ih => intro st h; exact ih _ (applyF_inv st op h)

theorem heapStepF_refines (s : Store) (t : Levels) (op : FROp) (h : HeapInv s t)
    (hok : RunOKF (t, s.hdr.nextFree) [op]) :
    ∃ s', heapStepF (rootOff t) op s = .ok (rootOff (applyF (t, s.hdr.nextFree) op).1) s' ∧
      HeapInv s' (applyF (t, s.hdr.nextFree) op).1 ∧
      s'.hdr.nextFree = (applyF (t, s.hdr.nextFree) op).2 := by
  cases op with
  | op o =>
    obtain ⟨hdepth, hop, _⟩ := hok
    exact h.op o hdepth hop
  | flush order =>
    obtain ⟨s', e, hi, hh, _⟩ := h.flush order
    refine ⟨s', ?_, hi, by rw [hh]; rfl⟩
    show (flushPages order >>= fun _ => pure (rootOff t)) s = _
    rw [bind_ok e]
    show _ = SRes.ok (rootOff (clean t)) s'
    rw [rootOff_clean]
    rfl
  | reload =>
    obtain ⟨hc, _⟩ := hok
    obtain ⟨hi, hn⟩ := h.reload hc
    refine ⟨reopen s, ?_, hi, hn⟩
    show SRes.ok (rootOff t) (reopen s) = SRes.ok (rootOff (clean t)) (reopen s)
    rw [rootOff_clean]

theorem heapRunF_refines (ops : List FROp) : ∀ (s : Store) (t : Levels), HeapInv s t →
    RunOKF (t, s.hdr.nextFree) ops →
    ∃ s' root', heapRunF (rootOff t) ops s = .ok root' s' ∧
      root' = rootOff (runF (t, s.hdr.nextFree) ops).1 ∧
      HeapInv s' (runF (t, s.hdr.nextFree) ops).1 ∧
      s'.hdr.nextFree = (runF (t, s.hdr.nextFree) ops).2 := by
  induction ops with
  | nil =>
    intro s t h _
    exact ⟨s, rootOff t, rfl, rfl, h, rfl⟩
  | cons op rest ih =>
    intro s t h hok
    have hok1 : RunOKF (t, s.hdr.nextFree) [op] ∧ RunOKF (applyF (t, s.hdr.nextFree) op) rest := by
      cases op with
      | op o => exact ⟨⟨hok.1, hok.2.1, trivial⟩, hok.2.2⟩
      | flush order => exact ⟨trivial, hok⟩
      | reload => exact ⟨⟨hok.1, trivial⟩, hok.2⟩
    obtain ⟨s1, e1, h1, hn1⟩ := heapStepF_refines s t op h hok1.1
    have hst : ((applyF (t, s.hdr.nextFree) op).1, s1.hdr.nextFree) = applyF (t, s.hdr.nextFree) op := by
      rw [hn1]
    obtain ⟨s', root', e2, hr, h', hn'⟩ := ih s1 (applyF (t, s.hdr.nextFree) op).1 h1
      (by rw [hst]; exact hok1.2)
    rw [hst] at hr h' hn'
    refine ⟨s', root', ?_, hr, h', hn'⟩
    show (heapStepF (rootOff t) op >>= fun root' => heapRunF root' rest) s = _
    rw [bind_ok e1]
    exact e2

/-! ### the store a history starts from -/

/-- a store whose heap holds `t` with every page dirty (a tree just created, nothing flushed yet) -/
theorem HeapInv.of_all_dirty {s : Store} {t : Levels} (hH : Holds s t) (hI : Inv t s.hdr.nextFree)
    (hmf : MemFiled s) (hd : ∀ e ∈ flatten t, e.2.2 = true) : HeapInv s t := by
  have hne : flatten t ≠ [] := by
    have := linked_below_ne t.inner _ hI.link
    intro h
    unfold flatten at h
    have h2 := (List.append_eq_nil_iff.mp h).1
    rw [List.map_eq_nil_iff] at h2
    rw [h2] at this
    exact this rfl
  refine ⟨hH, hI, hmf, ?_, ?_⟩
  · intro e he hcl
    rw [hd e he] at hcl; cases hcl
  · intro hc
    obtain ⟨e, he⟩ := List.exists_mem_of_ne_nil _ hne
    have := clean_self_pages hc e he
    rw [hd e he] at this; cases this

/-! ### non-vacuity -/

/-- 12 inserts (a leaf split, a new root), a flush, an update and a delete, a flush in another order, a
reload, a refused insert, another reload, two more inserts, a flush and a reload -/
def opsF0 : List FROp :=
  (List.range' 1 12).map (fun k => FROp.op (.ins k k [1])) ++
  [.flush [], .op (.upd 3 20 [9]), .op (.del 5 21), .flush [12288, 4096], .reload, .op (.ins 5 22 []), .reload,
   .op (.ins 13 23 [7]), .op (.ins 14 24 [7]), .flush [8192], .reload]

/-- the side conditions of `opsF0` (and of `opsF0` without its last flush and reload) hold: evaluated once, for
the examples here and in `Props/C11`, `Props/C12` -/
theorem opsF0_ok : RunOKF (emptyTree 4096, s0.hdr.nextFree) opsF0 := by decide +kernel

theorem opsF0_take_ok : RunOKF (emptyTree 4096, s0.hdr.nextFree) (opsF0.take 21) := by decide +kernel

example : RunOKF (emptyTree 4096, 8192) opsF0 := opsF0_ok

theorem s0_memFiled : MemFiled s0 := by unfold MemFiled; decide

theorem s0_heapInv : HeapInv s0 (emptyTree 4096) := by
  exact HeapInv.of_all_dirty s0_holds (emptyTree_inv 4096 8192 (by decide)) s0_memFiled (by decide)

example : ∃ s' root', heapRunF 4096 opsF0 s0 = .ok root' s' ∧ HeapInv s' (runF (emptyTree 4096, 8192) opsF0).1 ∧
    ((runF (emptyTree 4096, 8192) opsF0).1.leaves.length, (runF (emptyTree 4096, 8192) opsF0).1.inner.length,
      (live (runF (emptyTree 4096, 8192) opsF0).1).map (·.key)) = (3, 1, [1, 2, 3, 4, 6, 7, 8, 9, 10, 11, 12, 13, 14]) := by
  obtain ⟨s', root', e, _, h, _⟩ := heapRunF_refines opsF0 s0 (emptyTree 4096) s0_heapInv opsF0_ok
  exact ⟨s', root', e, h, by decide +kernel⟩

end Mkdb.Store
end

section
/-!
The tree operations do not look at dirty bits: an operation on the cleaned tree gives, up to dirty bits,
what it gives on the tree itself (same refusals, same pages, same frontier).  So the tree after a history
with flushes and reloads is, up to dirty bits, the tree after the same history *without* them
(`runF_erase`).
-/
set_option autoImplicit false
namespace Mkdb.Store
open Mkdb.Page Mkdb.Tuple Mkdb.Generated Mkdb.Tree

theorem setLast_map {α β} (f : α → β) (l : List α) (a : α) : (setLast l a).map f = setLast (l.map f) (f a) := by
  simp [setLast, List.map_dropLast]

theorem cleanLvl_idem (l : List (Internal × Bool)) : cleanLvl (cleanLvl l) = cleanLvl l := by
  simp [cleanLvl, List.map_map]

theorem bubble_clean (lsn : Nat) : ∀ (lvls : List (List (Internal × Bool))) (sep l nc nf : Nat),
    (bubble lsn (lvls.map cleanLvl) sep l nc nf).1.map cleanLvl = (bubble lsn lvls sep l nc nf).1.map cleanLvl ∧
    (bubble lsn (lvls.map cleanLvl) sep l nc nf).2 = (bubble lsn lvls sep l nc nf).2 := by
  intro lvls
  induction lvls with
  | nil => intro sep l nc nf; exact ⟨rfl, rfl⟩
  | cons lvl rest ih =>
    intro sep l nc nf
    rcases eq_nil_or_snoc lvl with rfl | ⟨pre, ⟨p, d⟩, rfl⟩
    · simp [cleanLvl, bubble_cons_nil]
    · have hc : cleanLvl (pre ++ [(p, d)]) = cleanLvl pre ++ [(p, false)] := by simp [cleanLvl]
      rw [List.map_cons, hc, bubble_cons_snoc, bubble_cons_snoc]
      by_cases hlt : (intApp p sep nc lsn).cells.length < c_maxInternalNodeCells
      · rw [if_pos hlt, if_pos hlt]
        refine ⟨?_, rfl⟩
        simp [cleanLvl, List.map_map]
      · rw [if_neg hlt, if_neg hlt]
        obtain ⟨ih1, ih2⟩ := ih (midCell (intApp p sep nc lsn)).key p.off nf (nf + c_pageSize)
        refine ⟨?_, ih2⟩
        simp only [List.map_cons, ih1]
        congr 1
        simp [cleanLvl, List.map_map]


theorem clean_mk (lv : List (Leaf × Bool)) (inn : List (List (Internal × Bool))) :
    clean { leaves := lv, inner := inn } = { leaves := lv.map (fun p => (p.1, false)), inner := inn.map cleanLvl } := rfl

theorem insertAppend_clean (t : Levels) (k lsn : Nat) (v : Bytes) (nf : Nat) :
    (insertAppend (clean t) k lsn v nf).map (fun r => (clean r.1, r.2)) =
      (insertAppend t k lsn v nf).map (fun r => (clean r.1, r.2)) := by
  unfold insertAppend
  rw [cells_clean, clean_leaves, List.getLast?_map]
  cases hl : t.leaves.getLast? with
  | none => rfl
  | some ld =>
    obtain ⟨last, d⟩ := ld
    simp only [Option.map_some]
    by_cases h1 : (cells t).any (fun c => c.key == k) = true
    · simp only [h1, if_true]
    · simp only [h1]
      by_cases h2 : v.length > c_maxValueSize
      · simp only [h2, if_true]
      · simp only [h2]
        by_cases h3 : ((last.cells.getLast?.map (·.key)).getD 0 ≥ k && !last.cells.isEmpty) = true
        · simp only [h3, if_true]
        · simp only [h3]
          simp only [Bool.false_eq_true, if_false]
          have hmm : ∀ l : List (Leaf × Bool), (l.map (fun p => (p.1, false))).map (fun p => (p.1, false)) =
              l.map (fun p => (p.1, false)) := by
            intro l; rw [List.map_map]; rfl
          have hinn : (t.inner.map cleanLvl).map cleanLvl = t.inner.map cleanLvl := by
            rw [List.map_map]
            apply List.map_congr_left
            intro l _
            exact cleanLvl_idem l
          by_cases h4 : (last.cells ++ [(⟨k, false, v⟩ : LeafCell)]).length < c_maxLeafNodeCells
          · simp only [h4, if_true, Except.map, clean_mk, setLast_map, clean_inner', hmm, hinn]
          · simp only [h4, if_false, Except.map, clean_mk, setLast_map, clean_inner', hmm, List.map_append, List.map_cons,
              List.map_nil]
            obtain ⟨b1, b2⟩ := bubble_clean lsn t.inner
              ((Option.map (fun x => x.key)
                (List.drop ((last.cells ++ [(⟨k, false, v⟩ : LeafCell)]).length / 2)
                  (last.cells ++ [(⟨k, false, v⟩ : LeafCell)])).head?).getD 0)
              last.off nf (nf + c_pageSize)
            rw [b1, b2]


theorem updLeaf_fst (f : LeafCell → LeafCell) (key lsn : Nat) (p : Leaf × Bool) :
    (updLeaf f key lsn (p.1, false)).1 = (updLeaf f key lsn p).1 := by
  unfold updLeaf
  split <;> rfl

theorem updLeaves_clean (f : LeafCell → LeafCell) (key lsn : Nat) (t : Levels) :
    clean (updLeaves f key lsn (clean t)) = clean (updLeaves f key lsn t) := by
  unfold updLeaves
  simp only [clean_mk, clean_leaves, clean_inner', List.map_map, Levels.mk.injEq]
  refine ⟨?_, ?_⟩
  · apply List.map_congr_left
    intro p _
    simp only [Function.comp, updLeaf_fst]
  · apply List.map_congr_left
    intro l _
    exact cleanLvl_idem l

theorem applyH_clean (t : Levels) (nf : Nat) (o : HOp) :
    clean (applyH (clean t, nf) o).1 = clean (applyH (t, nf) o).1 ∧
    (applyH (clean t, nf) o).2 = (applyH (t, nf) o).2 := by
  cases o with
  | ins k lsn v =>
    have h := insertAppend_clean t k lsn v nf
    simp only [applyH]
    cases h1 : insertAppend (clean t) k lsn v nf with
    | ok r1 =>
      cases h2 : insertAppend t k lsn v nf with
      | ok r2 =>
        rw [h1, h2] at h
        simp only [Except.map, Except.ok.injEq, Prod.mk.injEq] at h
        exact h
      | error e2 => rw [h1, h2] at h; cases h
    | error e1 =>
      cases h2 : insertAppend t k lsn v nf with
      | ok r2 => rw [h1, h2] at h; cases h
      | error e2 => exact ⟨clean_clean t, rfl⟩
  | upd k lsn v =>
    simp only [applyH, setVal_eq]
    exact ⟨updLeaves_clean _ k lsn t, trivial⟩
  | del k lsn =>
    simp only [applyH, setDeleted_eq]
    exact ⟨updLeaves_clean _ k lsn t, trivial⟩

theorem applyH_clean_congr {t u : Levels} (h : clean t = clean u) (nf : Nat) (o : HOp) :
    clean (applyH (t, nf) o).1 = clean (applyH (u, nf) o).1 ∧ (applyH (t, nf) o).2 = (applyH (u, nf) o).2 := by
  obtain ⟨a1, a2⟩ := applyH_clean t nf o
  obtain ⟨b1, b2⟩ := applyH_clean u nf o
  rw [h] at a1 a2
  exact ⟨a1.symm.trans b1, a2.symm.trans b2⟩

def stripF (ops : List FROp) : List HOp :=
  ops.filterMap fun op => match op with | .op o => some o | _ => none

theorem runF_erase (ops : List FROp) : ∀ (st st' : Levels × Nat), clean st.1 = clean st'.1 → st.2 = st'.2 →
    clean (runF st ops).1 = clean (runH st' (stripF ops)).1 ∧ (runF st ops).2 = (runH st' (stripF ops)).2 := by
  induction ops with
  | nil => intro st st' h1 h2; exact ⟨h1, h2⟩
  | cons op rest ih =>
    intro st st' h1 h2
    cases op with
    | op o =>
      have hc := applyH_clean_congr h1 st.2 o
      have e1 : applyH st o = applyH (st.1, st.2) o := rfl
      have e2 : applyH st' o = applyH (st'.1, st.2) o := by rw [h2]
      exact ih (applyH st o) (applyH st' o) (by rw [e1, e2]; exact hc.1) (by rw [e1, e2]; exact hc.2)
    | flush order => exact ih (clean st.1, st.2) st' (by rw [clean_clean]; exact h1) h2
    | reload => exact ih (clean st.1, st.2) st' (by rw [clean_clean]; exact h1) h2

end Mkdb.Store
end

section
set_option autoImplicit false
namespace Mkdb.Store
open Mkdb.Page Mkdb.Tuple Mkdb.Generated Mkdb.Tree

def FROpInRange : FROp → Prop
  | .op o => OpInRange o.toT
  | .flush _ => True
  | .reload => True

instance decFROpInRange : (op : FROp) → Decidable (FROpInRange op)
  | .op o => decOpInRange o.toT
  | .flush _ => isTrue trivial
  | .reload => isTrue trivial

theorem clean_fields {P L K : Nat} {t : Levels} (h : FieldsOK P L K t) : FieldsOK P L K (clean t) := by
  refine ⟨?_, ?_⟩
  · intro p hp
    rw [clean_leaves] at hp
    obtain ⟨q, hq, rfl⟩ := List.mem_map.mp hp
    exact h.leaves q hq
  · intro lvl hl p hp
    rw [clean_inner] at hl
    obtain ⟨lvl0, hl0, rfl⟩ := List.mem_map.mp hl
    obtain ⟨q, hq, rfl⟩ := List.mem_map.mp hp
    exact h.inner lvl0 hl0 q hq

theorem applyF_nf_mono (st : Levels × Nat) (op : FROp) : st.2 ≤ (applyF st op).2 := by
  cases op with
  | op o => simp only [applyF, applyH_eq_applyOp]; exact applyOp_nf_mono st o.toT
  | flush _ => exact Nat.le_refl _
  | reload => exact Nat.le_refl _

theorem applyF_fields {P : Nat} (st : Levels × Nat) (op : FROp) (hop : FROpInRange op)
    (hnf : (applyF st op).2 ≤ P) (h : FieldsOK P (2 ^ 64) (2 ^ 32) st.1) :
    FieldsOK P (2 ^ 64) (2 ^ 32) (applyF st op).1 := by
  cases op with
  | op o =>
    simp only [applyF, applyH_eq_applyOp] at hnf ⊢
    exact applyOp_fields st o.toT hop hnf h
  | flush _ => exact clean_fields h
  | reload => exact clean_fields h

theorem runF_fields {P : Nat} (ops : List FROp) : ∀ (st : Levels × Nat), (∀ op ∈ ops, FROpInRange op) →
    (runF st ops).2 ≤ P → FieldsOK P (2 ^ 64) (2 ^ 32) st.1 → FieldsOK P (2 ^ 64) (2 ^ 32) (runF st ops).1 :=
  foldl_bounded applyF FROpInRange (fun P => FieldsOK P (2 ^ 64) (2 ^ 32)) applyF_nf_mono applyF_fields ops

theorem runF_wf (t : Levels) (nf : Nat) (hinv : Inv t nf) (hf : FieldsOK (2 ^ 64) (2 ^ 64) (2 ^ 32) t)
    (ops : List FROp) (hops : ∀ op ∈ ops, FROpInRange op) (hnf : (runF (t, nf) ops).2 ≤ 2 ^ 64) :
    ∀ e ∈ flatten (runF (t, nf) ops).1, WF e.2.1 :=
  (runF_fields ops (t, nf) hops hnf hf).wf (runF_inv ops (t, nf) hinv).cap

end Mkdb.Store
end
