import Mkdb.Model.Session
import Mkdb.Proofs.ListOption
/-! Lemmas about the session model: the database table (`getDB`, `setDB`, `names`) is a finite map.  What a
statement does to it is `SessionStep`. -/
namespace Mkdb.Session
open Mkdb.Engine Mkdb.Store Mkdb.Sql

def names (s : Sess) : List String := s.dbs.map (·.1)

theorem find_map_set (l : List (String × DB)) (n m : String) (db : DB) :
    ((l.map fun p => if p.1 == n then (n, db) else p).find? (·.1 == m)) =
      if m == n then (if l.any (·.1 == n) then some (n, db) else none) else l.find? (·.1 == m) := by
  induction l with
  | nil => simp
  | cons p rest ih =>
    rw [List.map_cons, List.find?_cons, ih, List.find?_cons, List.any_cons]
    by_cases hpn : p.1 = n
    · subst hpn
      by_cases hmn : m = p.1
      · subst hmn; simp
      · have h1 : (p.1 == m) = false := by simpa using fun h => hmn h.symm
        have h2 : (m == p.1) = false := by simpa using hmn
        simp [h1, h2]
    · have h1 : (p.1 == n) = false := by simpa using hpn
      rw [h1, Bool.false_or, if_neg Bool.false_ne_true]
      by_cases hpm : p.1 = m
      · subst hpm; simp [h1]
      · have h2 : (p.1 == m) = false := by simpa using hpm
        rw [h2]

theorem getDB_setDB (s : Sess) (n m : String) (db : DB) :
    getDB (setDB s n db) m = if m == n then some db else getDB s m := by
  unfold getDB setDB
  by_cases hex : s.dbs.any (·.1 == n)
  · simp only [hex, if_true]
    rw [find_map_set]
    by_cases hmn : m == n <;> simp [hmn, hex]
  · simp only [hex, Bool.false_eq_true, if_false, List.find?_append]
    have hnone : ∀ x ∈ s.dbs, (x.1 == n) = false := by
      intro x hx
      cases h : (x.1 == n) with
      | false => rfl
      | true => exact absurd (List.any_eq_true.mpr ⟨x, hx, h⟩) hex
    by_cases hmn : m == n
    · have : s.dbs.find? (·.1 == m) = none := by
        rw [List.find?_eq_none]; intro x hx
        rw [beq_iff_eq] at hmn; subst hmn; simp [hnone x hx]
      have hnm : (n == m) = true := by rw [beq_iff_eq] at hmn ⊢; exact hmn.symm
      simp [this, hmn, hnm]
    · have hnm : (n == m) = false := by
        cases h : (n == m) with
        | false => rfl
        | true => rw [beq_iff_eq] at h; subst h; simp at hmn
      simp only [hmn, Bool.false_eq_true, if_false, List.find?_cons, hnm, List.find?_nil]
      cases s.dbs.find? (·.1 == m) <;> rfl

theorem names_setDB (s : Sess) (n : String) (db : DB) :
    names (setDB s n db) = if (getDB s n).isSome then names s else names s ++ [n] := by
  unfold names setDB getDB
  by_cases hex : s.dbs.any (·.1 == n)
  · have hsome : (s.dbs.find? (·.1 == n)).isSome = true := by
      rw [List.find?_isSome]; exact List.any_eq_true.mp hex
    simp only [hex, if_true, Option.isSome_map, hsome, List.map_map]
    apply List.map_congr_left
    intro p _
    by_cases h : p.1 = n <;> simp [h]
  · have hnone : (s.dbs.find? (·.1 == n)).isSome = false := by
      cases h : (s.dbs.find? (·.1 == n)).isSome with
      | false => rfl
      | true => rw [List.find?_isSome] at h; exact absurd (List.any_eq_true.mpr h) hex
    simp [hex, hnone]

theorem setDB_cur (s : Sess) (n : String) (db : DB) : (setDB s n db).cur = s.cur := rfl

theorem getDB_mem {s : Sess} {n : String} {db : DB} (h : getDB s n = some db) : (n, db) ∈ s.dbs := by
  unfold getDB at h
  obtain ⟨p, hp, hpd⟩ := Option.map_eq_some_iff.mp h
  have h1 := List.find?_some hp
  have h2 := List.mem_of_find?_eq_some hp
  obtain ⟨a, b⟩ := p
  simp only [beq_iff_eq] at h1 hpd
  subst h1; subst hpd
  exact h2

theorem mem_getDB {s : Sess} (hnd : (names s).Nodup) {n : String} {db : DB} (h : (n, db) ∈ s.dbs) :
    getDB s n = some db := congrArg (Option.map Prod.snd) (find?_of_mem (key := Prod.fst) hnd h)

theorem getDB_none_not_mem {s : Sess} {n : String} (h : getDB s n = none) : n ∉ names s := by
  intro hm
  obtain ⟨p, hp, hpn⟩ := List.mem_map.mp hm
  unfold getDB at h
  rw [Option.map_eq_none_iff, List.find?_eq_none] at h
  have := h p hp
  simp [hpn] at this

theorem mem_setDB {s : Sess} {n : String} {db : DB} {p : String × DB} (h : p ∈ (setDB s n db).dbs) :
    p = (n, db) ∨ (p ∈ s.dbs ∧ p.1 ≠ n) := by
  unfold setDB at h
  simp only at h
  split at h
  · obtain ⟨q, hq, rfl⟩ := List.mem_map.mp h
    by_cases hqn : q.1 = n
    · left; simp [hqn]
    · right
      have hb : (q.1 == n) = false := by simpa using hqn
      simp only [hb, Bool.false_eq_true, if_false]
      exact ⟨hq, hqn⟩
  · rename_i hany
    rcases List.mem_append.mp h with h1 | h1
    · right
      refine ⟨h1, ?_⟩
      intro heq
      apply hany
      rw [List.any_eq_true]
      exact ⟨p, h1, by simp [heq]⟩
    · left; simpa using h1

theorem nodup_setDB {s : Sess} (hnd : (names s).Nodup) (n : String) (db : DB) : (names (setDB s n db)).Nodup := by
  rw [names_setDB]
  split
  · exact hnd
  · rename_i hn
    have hnone : getDB s n = none := Option.not_isSome_iff_eq_none.mp hn
    rw [List.nodup_append]
    refine ⟨hnd, by simp, ?_⟩
    intro a ha b hb
    simp only [List.mem_singleton] at hb
    subst hb
    intro heq
    exact getDB_none_not_mem hnone (heq ▸ ha)

theorem getDB_setDB_same (s : Sess) (n : String) (db : DB) : getDB (setDB s n db) n = some db := by
  rw [getDB_setDB]; simp

theorem getDB_setDB_ne (s : Sess) {n m : String} (db : DB) (h : m ≠ n) : getDB (setDB s n db) m = getDB s m := by
  have hb : (m == n) = false := by simpa using h
  rw [getDB_setDB, hb]; rfl

/-! ### `sortedNames`: what SHOW DATABASES lists -/

theorem insertSortedStr_perm (k : String) (l : List String) : (insertSortedStr k l).Perm (k :: l) := by
  induction l with
  | nil => exact List.Perm.refl _
  | cons x xs ih =>
    simp only [insertSortedStr]
    split
    · exact List.Perm.refl _
    · exact (List.Perm.cons x ih).trans (List.Perm.swap k x xs)

theorem sortedNames_perm_aux (l : List (String × DB)) (acc : List String) :
    (l.foldl (fun acc p => insertSortedStr p.1 acc) acc).Perm (acc ++ l.map (·.1)) := by
  induction l generalizing acc with
  | nil => simp
  | cons p rest ih =>
    simp only [List.foldl_cons, List.map_cons]
    refine (ih _).trans ?_
    refine ((insertSortedStr_perm p.1 acc).append_right _).trans ?_
    simpa using (List.perm_middle (a := p.1) (l₁ := acc) (l₂ := rest.map (·.1))).symm

end Mkdb.Session
