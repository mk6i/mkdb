import Mkdb.Proofs.BaseCase
import Mkdb.Proofs.CountersStatements
/-!
The header counters along any history, and the bound under which the model's natural numbers are the values
of the Go fields.  Each event of a history (`Hist`) moves each counter by an amount linear in the work
`w : Work` it is given (`hist_bounds`); from the database CREATE DATABASE leaves this gives `counters_fit`.  No
invariant of the store is assumed and none is needed.  The events as data (`Ev`, run by `runEv`, counted by
`workEv`): a history is a run of events (`hist_step`, `Hist.ev_induct`; as a list, `hist_of_run`).  Last, a
history computed by the model (`exEvents`, `ex_history`): counters and work listed, bounds checked.
-/

section
set_option autoImplicit false
namespace Mkdb.Store
open Mkdb.Page Mkdb.Tuple Mkdb.Generated Mkdb.Tree Mkdb.Engine

/-- the database a statement leaves, if it leaves one (`.ok` and `.err`; not a panic, an unmodelled
branch or a hang) -/
def resDB {α} : Engine.Res α → Option Engine.DB
  | .ok _ db => some db
  | .err _ db => some db
  | _ => none

def recDB : Engine.RecRes → Option Engine.DB
  | .ok db => some db
  | .err _ db => some db
  | _ => none

/-- what a history did, as far as the counters are concerned -/
structure Work where
  /-- row ids at stake: the rows of every INSERT statement that was run (accepted or refused), and for
  every CREATE TABLE that was run its catalog rows (one per column, plus one) -/
  rows : Nat := 0
  /-- CREATE TABLE statements run (each may allocate the root page of the table) -/
  creates : Nat := 0
  /-- LSNs consumed by UPDATE and DELETE statements: one per row version written (for an accepted
  statement: the number of records it appended to the log, `evalUpdate_counters`) -/
  lsns : Nat := 0
  /-- start-up recoveries -/
  recs : Nat := 0
  /-- INSERT records in the log at the moment of each recovery, summed: recovery replays the whole log
  (it is never truncated), and a replayed INSERT may allocate again the pages a crash lost -/
  replayed : Nat := 0
deriving DecidableEq, Repr

/-- the total: the `N` of the wrap-around bound -/
def Work.total (w : Work) : Nat := w.rows + w.creates + w.lsns + w.recs + w.replayed

/-- **Any history of the engine**: `db` is reached from `db0` by ANY sequence of engine events - INSERT,
UPDATE, DELETE, CREATE TABLE with any arguments and any outcome that leaves a database (accepted or refused:
the Go code mutates in place), flushes in any page write order, crashes (also in the middle of a flush:
`tornFlush`) followed by start-up recovery with any outcome that leaves a database, re-opening.  `w : Work`
counts what the history did. -/
inductive Hist (db0 : Engine.DB) : Work → Engine.DB → Prop
  | nil : Hist db0 {} db0
  | insert {w : Work} {db db' : Engine.DB} (h : Hist db0 w db) (table : Bytes) (cols : List Bytes)
      (rows : List (List Val)) (hr : resDB (Engine.evalInsert db table cols rows) = some db') :
      Hist db0 { w with rows := w.rows + rows.length } db'
  | update {w : Work} {db db' : Engine.DB} (h : Hist db0 w db) (table : Bytes) (sets : List (Bytes × Sql.VExpr))
      (wh : Option Sql.Cond) (hr : resDB (Engine.evalUpdate db table sets wh) = some db') :
      Hist db0 { w with lsns := w.lsns + (db'.store.hdr.nextLSN - db.store.hdr.nextLSN) } db'
  | delete {w : Work} {db db' : Engine.DB} (h : Hist db0 w db) (table : Bytes) (wh : Option Sql.Cond)
      (hr : resDB (Engine.evalDelete db table wh) = some db') :
      Hist db0 { w with lsns := w.lsns + (db'.store.hdr.nextLSN - db.store.hdr.nextLSN) } db'
  | createTable {w : Work} {db db' : Engine.DB} (h : Hist db0 w db) (name : Bytes) (cols : List Sql.ColDef)
      (order : List Nat) (doFlush : Bool)
      (hr : resDB (Engine.evalCreateTable db name cols order doFlush) = some db') :
      Hist db0 { w with rows := w.rows + (cols.length + 1), creates := w.creates + 1 } db'
  | flush {w : Work} {db db' : Engine.DB} (h : Hist db0 w db) (order : List Nat)
      (hr : resDB (Engine.flush db order) = some db') : Hist db0 w db'
  | recover {w : Work} {db db' : Engine.DB} (h : Hist db0 w db) (o1 o2 : List Nat)
      (hr : recDB (Engine.recover db o1 o2) = some db') :
      Hist db0 { w with recs := w.recs + 1, replayed := w.replayed + insCount db.wal } db'
  | torn {w : Work} {db : Engine.DB} (h : Hist db0 w db) (order : List Nat) (j : Nat) :
      Hist db0 w { db with store := tornFlush db.store order j }
  | reopen {w : Work} {db : Engine.DB} (h : Hist db0 w db) : Hist db0 w { db with store := reopen db.store }

/-- the events of a history, as data -/
inductive Ev where
  | insert (table : Bytes) (cols : List Bytes) (rows : List (List Val))
  | update (table : Bytes) (sets : List (Bytes × Sql.VExpr)) (wh : Option Sql.Cond)
  | delete (table : Bytes) (wh : Option Sql.Cond)
  | createTable (name : Bytes) (cols : List Sql.ColDef) (order : List Nat) (doFlush : Bool)
  | flush (order : List Nat)
  | recover (o1 o2 : List Nat)
  | torn (order : List Nat) (j : Nat)
  | reopen

/-- the database an event leaves (`none`: the model panics, leaves the modelled branches, or hangs) -/
def runEv (db : Engine.DB) : Ev → Option Engine.DB
  | .insert t c rows => resDB (Engine.evalInsert db t c rows)
  | .update t sets wh => resDB (Engine.evalUpdate db t sets wh)
  | .delete t wh => resDB (Engine.evalDelete db t wh)
  | .createTable n cols order fl => resDB (Engine.evalCreateTable db n cols order fl)
  | .flush order => resDB (Engine.flush db order)
  | .recover o1 o2 => recDB (Engine.recover db o1 o2)
  | .torn order j => some { db with store := tornFlush db.store order j }
  | .reopen => some { db with store := reopen db.store }

def workEv (w : Work) (db db' : Engine.DB) : Ev → Work
  | .insert _ _ rows => { w with rows := w.rows + rows.length }
  | .update _ _ _ => { w with lsns := w.lsns + (db'.store.hdr.nextLSN - db.store.hdr.nextLSN) }
  | .delete _ _ => { w with lsns := w.lsns + (db'.store.hdr.nextLSN - db.store.hdr.nextLSN) }
  | .createTable _ cols _ _ => { w with rows := w.rows + (cols.length + 1), creates := w.creates + 1 }
  | .flush _ => w
  | .recover _ _ => { w with recs := w.recs + 1, replayed := w.replayed + insCount db.wal }
  | .torn _ _ => w
  | .reopen => w

theorem hist_step {db0 db db' : Engine.DB} {w : Work} (h : Hist db0 w db) (e : Ev) (hr : runEv db e = some db') :
    Hist db0 (workEv w db db' e) db' := by
  cases e with
  | insert t c rows => exact h.insert t c rows hr
  | update t sets wh => exact h.update t sets wh hr
  | delete t wh => exact h.delete t wh hr
  | createTable n cols order fl => exact h.createTable n cols order fl hr
  | flush order => exact h.flush order hr
  | recover o1 o2 => exact h.recover o1 o2 hr
  | torn order j =>
    simp only [runEv, Option.some.injEq] at hr
    subst hr
    exact h.torn order j
  | reopen =>
    simp only [runEv, Option.some.injEq] at hr
    subst hr
    exact h.reopen

/-- **A history is a run of events**: the induction over `Hist` with one case for all events. -/
@[elab_as_elim]
theorem Hist.ev_induct {db0 : Engine.DB} {motive : (w : Work) → (db : Engine.DB) → Hist db0 w db → Prop}
    (nil : motive {} db0 .nil)
    (step : ∀ {w : Work} {db db' : Engine.DB} (e : Ev) (h : Hist db0 w db) (hr : runEv db e = some db'),
      motive w db h → motive (workEv w db db' e) db' (hist_step h e hr))
    {w : Work} {db : Engine.DB} (h : Hist db0 w db) : motive w db h := by
  induction h with
  | nil => exact nil
  | insert h t c rows hr ih => exact step (.insert t c rows) h hr ih
  | update h t sets wh hr ih => exact step (.update t sets wh) h hr ih
  | delete h t wh hr ih => exact step (.delete t wh) h hr ih
  | createTable h n cols order fl hr ih => exact step (.createTable n cols order fl) h hr ih
  | flush h order hr ih => exact step (.flush order) h hr ih
  | recover h o1 o2 hr ih => exact step (.recover o1 o2) h hr ih
  | torn h order j ih => exact step (.torn order j) h rfl ih
  | reopen h ih => exact step .reopen h rfl ih

/-- every counter of the database - the header in memory, the header in the data file, the keys of the
logged inserts and the logged LSNs - is at most `K` / `L` / `F` -/
structure Bnd (db : Engine.DB) (K L F : Nat) : Prop where
  k : db.store.hdr.lastKey ≤ K
  kd : db.store.dhdr.lastKey ≤ K
  kw : ∀ r ∈ db.wal, r.op = c_OpInsert → r.cell ≤ K
  l : db.store.hdr.nextLSN ≤ L
  ld : db.store.dhdr.nextLSN ≤ L
  lw : ∀ r ∈ db.wal, r.lsn < L
  f : db.store.hdr.nextFree ≤ F
  fd : db.store.dhdr.nextFree ≤ F

theorem Bnd.mono {db : Engine.DB} {K L F K' L' F' : Nat} (h : Bnd db K L F) (hk : K ≤ K') (hl : L ≤ L')
    (hf : F ≤ F') : Bnd db K' L' F' :=
  ⟨Nat.le_trans h.k hk, Nat.le_trans h.kd hk, fun r hr hop => Nat.le_trans (h.kw r hr hop) hk,
   Nat.le_trans h.l hl, Nat.le_trans h.ld hl, fun r hr => Nat.lt_of_lt_of_le (h.lw r hr) hl,
   Nat.le_trans h.f hf, Nat.le_trans h.fd hf⟩

theorem Bnd.step {db db' : Engine.DB} {K L F dk dl df : Nat} (h : Bnd db K L F)
    (ha : AdvF db.store db'.store dk dl df) (logs : List WalRec) (hw : db'.wal = db.wal ++ logs)
    (hl : ∀ r ∈ logs, r.lsn < db'.store.hdr.nextLSN)
    (hk : ∀ r ∈ logs, r.op = c_OpInsert → r.cell ≤ db'.store.hdr.lastKey) :
    Bnd db' (K + dk) (L + dl) (F + df) := by
  obtain ⟨b1, b2, b3, b4, b5, b6, b7, b8⟩ := h
  obtain ⟨a1, a2, a3, a4, a5, a6, a7⟩ := ha
  have k' : db'.store.hdr.lastKey ≤ K + dk := Nat.le_trans a2 (Nat.add_le_add_right b1 _)
  have l' : db'.store.hdr.nextLSN ≤ L + dl := Nat.le_trans a4 (Nat.add_le_add_right b4 _)
  have f' : db'.store.hdr.nextFree ≤ F + df := Nat.le_trans a6 (Nat.add_le_add_right b7 _)
  -- the header in the data file is the old one, or the new one in memory
  have hd : ∀ (g : Header → Nat) (B d : Nat), g db.store.dhdr ≤ B → g db'.store.hdr ≤ B + d →
      g db'.store.dhdr ≤ B + d := by
    intro g B d h1 h2
    rcases a7 with e | e <;> rw [e]
    · exact Nat.le_trans h1 (Nat.le_add_right _ _)
    · exact h2
  refine ⟨k', hd (·.lastKey) K dk b2 k', ?_, l', hd (·.nextLSN) L dl b5 l', ?_, f', hd (·.nextFree) F df b8 f'⟩
  · intro r hr hop
    rw [hw] at hr
    rcases List.mem_append.mp hr with hr | hr
    · exact Nat.le_trans (b3 r hr hop) (Nat.le_add_right _ _)
    · exact Nat.le_trans (hk r hr hop) k'
  · intro r hr
    rw [hw] at hr
    rcases List.mem_append.mp hr with hr | hr
    · exact Nat.lt_of_lt_of_le (b6 r hr) (Nat.le_add_right _ _)
    · exact Nat.lt_of_lt_of_le (hl r hr) l'

theorem resDB_ok {α} {r : Engine.Res α} {db' : Engine.DB} (h : resDB r = some db') :
    (∃ a, r = .ok a db') ∨ (∃ e, r = .err e db') := by
  cases r with
  | ok a db => simp only [resDB, Option.some.injEq] at h; subst h; exact .inl ⟨a, rfl⟩
  | err e db => simp only [resDB, Option.some.injEq] at h; subst h; exact .inr ⟨e, rfl⟩
  | panic p => cases h
  | unmodelled w => cases h
  | fuel => cases h

theorem Bnd.insert {db db' : Engine.DB} {K L F : Nat} (h : Bnd db K L F) (table : Bytes) (cols : List Bytes)
    (rows : List (List Val)) (hr : resDB (Engine.evalInsert db table cols rows) = some db') :
    Bnd db' (K + rows.length) (L + 2 * rows.length) (F + 270336 * rows.length) := by
  have hc := evalInsert_counters db table cols rows
  rcases resDB_ok hr with ⟨a, e⟩ | ⟨x, e⟩
  · rw [e] at hc
    obtain ⟨ha, logs, hw, hl⟩ := hc
    exact h.step ha.advF logs hw (fun r hr => (hl.lsn r hr).2) (fun r hr hop => (hl.key r hr hop).2)
  · rw [e] at hc
    exact h.step hc.1.advF [] (by rw [hc.2, List.append_nil]) (fun _ hr => by cases hr) (fun _ hr => by cases hr)

theorem Bnd.updel {α} {db db' : Engine.DB} {K L F : Nat} (h : Bnd db K L F) {r : Engine.Res α}
    (hc : ResUD db r) (hr : resDB r = some db') :
    Bnd db' K (L + (db'.store.hdr.nextLSN - db.store.hdr.nextLSN)) F := by
  rcases resDB_ok hr with ⟨a, e⟩ | ⟨x, e⟩
  · rw [e] at hc
    obtain ⟨ha, logs, hw, hl⟩ := hc
    exact h.step ha.adv.advF logs hw (fun r hr => (hl.lsn r hr).2) (fun r hr hop => (hl.key r hr hop).2)
  · rw [e] at hc
    exact h.step hc.1.adv.advF [] (by rw [hc.2, List.append_nil]) (fun _ hr => by cases hr)
      (fun _ hr => by cases hr)

theorem Bnd.createTable {db db' : Engine.DB} {K L F : Nat} (h : Bnd db K L F) (name : Bytes)
    (cols : List Sql.ColDef) (order : List Nat) (doFlush : Bool)
    (hr : resDB (Engine.evalCreateTable db name cols order doFlush) = some db') :
    Bnd db' (K + (cols.length + 1)) (L + (2 * cols.length + 1)) (F + (4096 + 270336 * (cols.length + 1))) := by
  have hc := evalCreateTable_counters db name cols order doFlush
  rcases resDB_ok hr with ⟨a, e⟩ | ⟨x, e⟩ <;> rw [e] at hc <;>
    exact h.step hc.1 [] (by rw [hc.2, List.append_nil]) (fun _ hr => by cases hr) (fun _ hr => by cases hr)

theorem Bnd.flush {db db' : Engine.DB} {K L F : Nat} (h : Bnd db K L F) (order : List Nat)
    (hr : resDB (Engine.flush db order) = some db') : Bnd db' K L F := by
  obtain ⟨db2, e, hh, hd, hw⟩ := flush_counters db order
  rw [e] at hr
  simp only [resDB, Option.some.injEq] at hr
  subst hr
  obtain ⟨b1, b2, b3, b4, b5, b6, b7, b8⟩ := h
  exact ⟨by rw [hh]; exact b1, by rw [hd]; exact b1, by rw [hw]; exact b3, by rw [hh]; exact b4,
    by rw [hd]; exact b4, by rw [hw]; exact b6, by rw [hh]; exact b7, by rw [hd]; exact b7⟩

theorem recDB_adv {db db' : Engine.DB} {o1 o2 : List Nat} (hr : recDB (Engine.recover db o1 o2) = some db') :
    RecAdv db db' := by
  have hc := recover_counters db o1 o2
  cases e : Engine.recover db o1 o2 with
  | ok d => rw [e] at hc hr; simp only [recDB, Option.some.injEq] at hr; subst hr; exact hc
  | err m d => rw [e] at hc hr; simp only [recDB, Option.some.injEq] at hr; subst hr; exact hc
  | panic p => rw [e] at hr; cases hr
  | unmodelled w => rw [e] at hr; cases hr
  | fuel => rw [e] at hr; cases hr

/-- **Recovery keeps the bound on the row ids, needs one more LSN, and at most 66 pages per logged
INSERT** - because the header on file and every logged key / LSN were below the bounds. -/
theorem Bnd.recover {db db' : Engine.DB} {K L F : Nat} (h : Bnd db K L F) (o1 o2 : List Nat)
    (hr : recDB (Engine.recover db o1 o2) = some db') : Bnd db' K (L + 1) (F + 270336 * insCount db.wal) := by
  obtain ⟨b1, b2, b3, b4, b5, b6, b7, b8⟩ := h
  obtain ⟨a1, a2, a3, a4, a5, a6, a7, a8⟩ := recDB_adv hr
  have hk : maxKey db.wal db.store.dhdr.lastKey ≤ K := maxKey_le _ _ _ b2 b3
  have hl : maxLsn db.wal db.store.dhdr.nextLSN ≤ L := maxLsn_le _ _ _ b5 (fun r hr => Nat.le_of_lt (b6 r hr))
  have k' : db'.store.hdr.lastKey ≤ K := Nat.le_trans a2 hk
  have l' : db'.store.hdr.nextLSN ≤ L + 1 := Nat.le_trans a4 (Nat.add_le_add_right hl 1)
  have f' : db'.store.hdr.nextFree ≤ F + 270336 * insCount db.wal := Nat.le_trans a6 (Nat.add_le_add_right b8 _)
  refine ⟨k', by rw [a7]; exact k', by rw [a8]; exact b3, l', by rw [a7]; exact l', ?_, f', by rw [a7]; exact f'⟩
  intro r hr
  rw [a8] at hr
  exact Nat.lt_succ_of_lt (b6 r hr)

/-- the crash images keep the bounds: the in-memory header is replaced by the one in the data file -/
theorem Bnd.torn {db : Engine.DB} {K L F : Nat} (h : Bnd db K L F) (order : List Nat) (j : Nat) :
    Bnd { db with store := tornFlush db.store order j } K L F :=
  ⟨h.kd, h.kd, h.kw, h.ld, h.ld, h.lw, h.fd, h.fd⟩

theorem Bnd.reopen {db : Engine.DB} {K L F : Nat} (h : Bnd db K L F) :
    Bnd { db with store := reopen db.store } K L F :=
  ⟨h.kd, h.kd, h.kw, h.ld, h.ld, h.lw, h.fd, h.fd⟩

/-- **The three linear bounds.**  From a database whose counters are at most `K`, `L`, `F`, after ANY
history with work `w`: every row id in use is at most `K + rows`; every LSN at most
`L + 2 rows + lsns + recs`; the allocation frontier at most `F + 66 pages × (rows + replayed) + 1 page ×
creates`. -/
theorem hist_bounds {db0 db : Engine.DB} {w : Work} {K L F : Nat} (h0 : Bnd db0 K L F) (hist : Hist db0 w db) :
    Bnd db (K + w.rows) (L + 2 * w.rows + w.lsns + w.recs)
      (F + 270336 * w.rows + 4096 * w.creates + 270336 * w.replayed) := by
  induction hist with
  | nil => exact h0
  | insert _ table cols rows hr ih =>
    exact (ih.insert table cols rows hr).mono (by simp only; omega) (by simp only; omega) (by simp only; omega)
  | update _ table sets wh hr ih =>
    exact (ih.updel (evalUpdate_counters _ table sets wh) hr).mono (by simp only; omega) (by simp only; omega)
      (by simp only; omega)
  | delete _ table wh hr ih =>
    exact (ih.updel (evalDelete_counters _ table wh) hr).mono (by simp only; omega) (by simp only; omega)
      (by simp only; omega)
  | createTable _ name cols order doFlush hr ih =>
    exact (ih.createTable name cols order doFlush hr).mono (by simp only; omega) (by simp only; omega)
      (by simp only; omega)
  | flush _ order hr ih => exact ih.flush order hr
  | recover _ o1 o2 hr ih =>
    exact (ih.recover o1 o2 hr).mono (by simp only; omega) (by simp only; omega) (by simp only; omega)
  | torn _ order j ih => exact ih.torn order j
  | reopen _ ih => exact ih.reopen

theorem Hist.trans {db0 db1 db2 : Engine.DB} {w1 w2 : Work} (h1 : Hist db0 w1 db1) (h2 : Hist db1 w2 db2) :
    Hist db0 ⟨w1.rows + w2.rows, w1.creates + w2.creates, w1.lsns + w2.lsns, w1.recs + w2.recs,
      w1.replayed + w2.replayed⟩ db2 := by
  induction h2 using Hist.ev_induct with
  | nil => exact h1
  | step e _ hr ih =>
    have := hist_step ih e hr
    cases e <;> simp only [workEv, Nat.add_assoc] at this ⊢ <;> exact this

/-- the database CREATE DATABASE leaves: eight row ids and eight LSNs used (the catalog describes itself:
two rows in `sys_pages`, six in `sys_schema`), the frontier behind the header page and the two catalog
pages; an empty log -/
theorem newDB_bnd : Bnd newDB 8 8 12288 :=
  ⟨Nat.le_refl _, Nat.le_refl _, fun _ hr => (by cases hr), Nat.le_refl _, Nat.le_refl _,
   fun _ hr => (by cases hr), Nat.le_refl _, Nat.le_refl _⟩

theorem hist_from_create_database {db : Engine.DB} {w : Work} (hist : Hist newDB w db) :
    db.store.hdr.lastKey ≤ 8 + w.rows ∧
    db.store.hdr.nextLSN ≤ 8 + 2 * w.rows + w.lsns + w.recs ∧
    db.store.hdr.nextFree ≤ 12288 + 270336 * w.rows + 4096 * w.creates + 270336 * w.replayed := by
  have := hist_bounds newDB_bnd hist
  exact ⟨this.k, this.l, this.f⟩

/-- the largest amount of row-id work for which `lastKey` is still a `uint32`: `2^32 - 9` -/
def maxRows : Nat := 4294967287

theorem maxRows_eq : 8 + maxRows = 2 ^ 32 - 1 := by decide

/-- **The counters fit their Go types.**  Each counter on its own: the row-id counter is a `uint32` as long
as the history put at most `maxRows = 2^32 - 9` row ids at stake - this bound is exact: `newDB` starts at 8
and every row insert that reaches the tree adds exactly one (`btInsert_counters`) -; the LSN counter is a
`uint64`, the allocation frontier an `int64` file offset, under their own (far weaker) conditions. -/
theorem counters_fit_each {db : Engine.DB} {w : Work} (hist : Hist newDB w db) :
    (w.rows ≤ maxRows → db.store.hdr.lastKey < 2 ^ 32) ∧
    (2 * w.rows + w.lsns + w.recs < 2 ^ 64 - 8 → db.store.hdr.nextLSN < 2 ^ 64) ∧
    (66 * (w.rows + w.replayed) + w.creates < 2 ^ 51 - 3 → db.store.hdr.nextFree < 2 ^ 63) := by
  obtain ⟨h1, h2, h3⟩ := hist_from_create_database hist
  refine ⟨fun h => ?_, fun h => ?_, fun h => ?_⟩
  · have : (2 : Nat) ^ 32 = 4294967296 := by decide
    unfold maxRows at h
    omega
  · have : (2 : Nat) ^ 64 = 18446744073709551616 := by decide
    omega
  · have e1 : (2 : Nat) ^ 63 = 9223372036854775808 := by decide
    have e2 : (2 : Nat) ^ 51 = 2251799813685248 := by decide
    omega

/-- **… all three at once**: a history whose total work is at most `2^32 - 9`. -/
theorem counters_fit {db : Engine.DB} {w : Work} (hist : Hist newDB w db) (hN : w.total ≤ maxRows) :
    db.store.hdr.lastKey < 2 ^ 32 ∧ db.store.hdr.nextLSN < 2 ^ 64 ∧ db.store.hdr.nextFree < 2 ^ 63 := by
  obtain ⟨h1, h2, h3⟩ := counters_fit_each hist
  unfold Work.total maxRows at hN
  have e1 : (2 : Nat) ^ 64 = 18446744073709551616 := by decide
  have e2 : (2 : Nat) ^ 51 = 2251799813685248 := by decide
  exact ⟨h1 (by unfold maxRows; omega), h2 (by omega), h3 (by omega)⟩

end Mkdb.Store
end

section
set_option autoImplicit false
namespace Mkdb.Store
open Mkdb.Page Mkdb.Tuple Mkdb.Generated Mkdb.Tree Mkdb.Engine

def runEvs : Engine.DB → Work → List Ev → Option (Engine.DB × Work)
  | db, w, [] => some (db, w)
  | db, w, e :: rest =>
    match runEv db e with
    | some db' => runEvs db' (workEv w db db' e) rest
    | none => none

theorem hist_of_run {db0 : Engine.DB} : ∀ (evs : List Ev) (db : Engine.DB) (w : Work) (dbN : Engine.DB) (wN : Work),
    Hist db0 w db → runEvs db w evs = some (dbN, wN) → Hist db0 wN dbN
  | [], db, w, dbN, wN, h, hr => by
    simp only [runEvs, Option.some.injEq, Prod.mk.injEq] at hr
    obtain ⟨rfl, rfl⟩ := hr
    exact h
  | e :: rest, db, w, dbN, wN, h, hr => by
    simp only [runEvs] at hr
    cases he : runEv db e with
    | none => rw [he] at hr; cases hr
    | some db' =>
      rw [he] at hr
      exact hist_of_run rest db' _ dbN wN (hist_step h e he) hr

/-- `CREATE TABLE t (a INT)`; `INSERT INTO t VALUES (5), ('x')` (refused: `'x'` is no INT);
`INSERT INTO t VALUES (5), (6)`; `UPDATE t SET a = 7 WHERE a = 6`; crash (nothing flushed) and start-up
recovery; a flush -/
def exEvents : List Ev :=
  [.createTable tname acols [] true,
   .insert tname [] [[.int 5], [.str [120]]],
   .insert tname [] [[.int 5], [.int 6]],
   .update tname [([97], .lit (.int 7))] (some (condEq 6)),
   .recover [] [],
   .flush []]

/-- what is listed of a run: the header and the length of the log after each prefix of the events -/
def traceEvs : Engine.DB → List Ev → List (Option (Header × Nat))
  | _, [] => []
  | db, e :: rest =>
    match runEv db e with
    | some db' => some (db'.store.hdr, db'.wal.length) :: traceEvs db' rest
    | none => [none]


/-- the run, computed once: the listing of `ex_trace` and the end of the run come from one kernel
evaluation of the six events (with their work `⟨6, 1, 1, 1, 2⟩`, see `ex_history`) -/
theorem ex_eval : traceEvs newDB exEvents =
    [some (⟨10, 4096, 16384, 10⟩, 0), some (⟨11, 4096, 16384, 11⟩, 0), some (⟨13, 4096, 16384, 13⟩, 2),
     some (⟨13, 4096, 16384, 14⟩, 3), some (⟨13, 4096, 16384, 14⟩, 3), some (⟨13, 4096, 16384, 14⟩, 3)] ∧
    (runEvs newDB {} exEvents).map (fun p => (p.1.store.hdr, p.1.wal.length, p.2)) =
      some (⟨13, 4096, 16384, 14⟩, 3, ⟨6, 1, 1, 1, 2⟩) := by decide +kernel

theorem ex_trace : traceEvs newDB exEvents =
    [some (⟨10, 4096, 16384, 10⟩, 0),     -- CREATE TABLE: two catalog rows; one page
     some (⟨11, 4096, 16384, 11⟩, 0),     -- refused INSERT: one row id and one LSN are gone, nothing is logged
     some (⟨13, 4096, 16384, 13⟩, 2),     -- accepted INSERT: two records
     some (⟨13, 4096, 16384, 14⟩, 3),     -- UPDATE of one row: one record
     some (⟨13, 4096, 16384, 14⟩, 3),     -- recovery from the data file (row-id counter 10, LSN counter 10)
     some (⟨13, 4096, 16384, 14⟩, 3)] := ex_eval.1

/-- **The example history**: a `Hist` from CREATE DATABASE with work `rows = 6` (two catalog rows, the two
rows of the refused INSERT, the two rows of the accepted one), one CREATE TABLE, one LSN of an UPDATE, one
recovery that replayed two INSERT records; final counters 13 / 14 / 16384 - within `8 + 6`,
`8 + 2·6 + 1 + 1`, `12288 + 66 pages × (6 + 2) + 1 page`. -/
theorem ex_history : ∃ db, Hist newDB ⟨6, 1, 1, 1, 2⟩ db ∧ db.store.hdr = ⟨13, 4096, 16384, 14⟩ ∧
    db.wal.length = 3 := by
  have h := ex_eval.2
  cases e : runEvs newDB {} exEvents with
  | none => rw [e] at h; cases h
  | some p =>
    rw [e] at h
    simp only [Option.map_some, Option.some.injEq, Prod.mk.injEq] at h
    obtain ⟨h1, h2, h3⟩ := h
    refine ⟨p.1, ?_, h1, h2⟩
    have := hist_of_run exEvents newDB {} p.1 p.2 .nil e
    rw [h3] at this
    exact this

end Mkdb.Store
end
