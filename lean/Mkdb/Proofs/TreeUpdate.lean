import Mkdb.Proofs.TreeBubble
/-!
`setVal` and `setDeleted` are one operation, `updLeaves f`: map a key-preserving `f` over the cell `key`.
It maps the cell list and preserves the invariant (`updLeaves_inv`).  The `setVal_*` lemmas at the end are instances
for the callers that speak of `setVal`; for `setDeleted` go through `setDeleted_eq` and the `updLeaves_*` lemmas.
-/
set_option autoImplicit false
namespace Mkdb.Tree
open Mkdb.Page Mkdb.Generated

def updCell (f : LeafCell → LeafCell) (key : Nat) (c : LeafCell) : LeafCell :=
  if c.key == key then f c else c

def updLeaf (f : LeafCell → LeafCell) (key lsn : Nat) (p : Leaf × Bool) : Leaf × Bool :=
  if p.1.cells.any (fun c => c.key == key) then
    ({ p.1 with cells := p.1.cells.map (updCell f key), lsn := lsn }, true)
  else p

def updLeaves (f : LeafCell → LeafCell) (key lsn : Nat) (t : Levels) : Levels :=
  { t with leaves := t.leaves.map (updLeaf f key lsn) }

theorem setVal_eq (t : Levels) (key lsn : Nat) (v : Bytes) :
    setVal t key lsn v = updLeaves (fun c => { c with val := v }) key lsn t := by
  unfold setVal updLeaves
  congr 1

theorem setDeleted_eq (t : Levels) (key lsn : Nat) :
    setDeleted t key lsn = updLeaves (fun c => { c with deleted := true }) key lsn t := by
  unfold setDeleted updLeaves
  congr 1

variable (f : LeafCell → LeafCell) (key lsn : Nat)

theorem updLeaf_cells (p : Leaf × Bool) :
    (updLeaf f key lsn p).1.cells = p.1.cells.map (updCell f key) := by
  unfold updLeaf
  split
  · rfl
  · rename_i h
    symm
    rw [List.map_congr_left (g := id), List.map_id]
    intro c hc
    simp only [List.any_eq_true, not_exists, not_and] at h
    simp [updCell, h c hc]

theorem updLeaf_off (p : Leaf × Bool) : (updLeaf f key lsn p).1.off = p.1.off := by
  unfold updLeaf; split <;> rfl

theorem updLeaf_sibs (p : Leaf × Bool) :
    (updLeaf f key lsn p).1.hasL = p.1.hasL ∧ (updLeaf f key lsn p).1.hasR = p.1.hasR ∧
    (updLeaf f key lsn p).1.lSib = p.1.lSib ∧ (updLeaf f key lsn p).1.rSib = p.1.rSib := by
  unfold updLeaf; split <;> simp

theorem cells_updLeaves (t : Levels) :
    cells (updLeaves f key lsn t) = (cells t).map (updCell f key) := by
  simp only [cells, updLeaves, List.flatMap_map, List.map_flatMap, updLeaf_cells]

theorem updCell_key (hf : ∀ c, (f c).key = c.key) (c : LeafCell) : (updCell f key c).key = c.key := by
  unfold updCell; split <;> simp [hf]

theorem keys_updLeaves (hf : ∀ c, (f c).key = c.key) (t : Levels) :
    keys (updLeaves f key lsn t) = keys t := by
  simp only [keys, cells_updLeaves, List.map_map]
  apply List.map_congr_left
  intro c _
  exact updCell_key f key hf c

theorem leafOffs_updLeaves (t : Levels) :
    (updLeaves f key lsn t).leaves.map (·.1.off) = t.leaves.map (·.1.off) := by
  simp [updLeaves, updLeaf_off]

theorem offs_updLeaves (t : Levels) : offs (updLeaves f key lsn t) = offs t := by
  rw [offs_eq, leafOffs_updLeaves, offs_eq]
  rfl

/-! ### `Inv` is a property of the skeleton -/

/-- what `Inv` reads of a leaf: offset, sibling links, key list -/
def skelL (p : Leaf × Bool) : Nat × Bool × Bool × Nat × Nat × List Nat :=
  (p.1.off, p.1.hasL, p.1.hasR, p.1.lSib, p.1.rSib, p.1.cells.map (·.key))

/-- the five header fields of a leaf that `skelL` carries: what a change of cells and LSN leaves alone -/
def hdr5 (l : Leaf) : Nat × Bool × Bool × Nat × Nat := (l.off, l.hasL, l.hasR, l.lSib, l.rSib)

theorem keys_eq_flatten (t : Levels) : keys t = (t.leaves.map (fun p => p.1.cells.map (·.key))).flatten := by
  unfold keys cells
  rw [List.map_flatMap, List.flatMap_def]

theorem chainFrom_congr : ∀ (ls ls' : List Leaf), ls.map hdr5 = ls'.map hdr5 →
    ∀ prev, chainFrom prev ls → chainFrom prev ls'
  | [], [], _, _, h => h
  | [], _ :: _, e, _, _ => by simp at e
  | _ :: _, [], e, _, _ => by simp at e
  | l :: rest, l' :: rest', e, prev, h => by
    simp only [List.map_cons, List.cons.injEq] at e
    obtain ⟨e1, e2⟩ := e
    simp only [hdr5, Prod.mk.injEq] at e1
    obtain ⟨a1, a2, a3, a4, a5⟩ := e1
    obtain ⟨h1, h2, h3⟩ := h
    refine ⟨?_, ?_, ?_⟩
    · cases prev with
      | none => simpa [← a2] using h1
      | some p => simpa [← a2, ← a4] using h1
    · match rest, rest', e2, h2 with
      | [], [], _, h2 => simpa [← a3] using h2
      | [], _ :: _, e2, _ => simp at e2
      | _ :: _, [], e2, _ => simp at e2
      | m :: ms, m' :: ms', e2, h2 =>
        simp only [List.map_cons, List.cons.injEq, hdr5, Prod.mk.injEq] at e2
        simp only at h2 ⊢
        rw [← a3, ← a5, ← e2.1.1]
        exact h2
    · rw [← a1]
      exact chainFrom_congr rest rest' e2 _ h3

section
variable (g : Internal × Bool → Internal × Bool) (hg : ∀ p, (g p).1 = p.1)
include hg

/-! the recursive clauses look at the nodes only, not at what is paired with them -/

theorem childOffs_map (lvl : List (Internal × Bool)) : childOffs (lvl.map g) = childOffs lvl := by
  unfold childOffs
  rw [List.flatMap_map]
  simp only [hg]

theorem lvlOffs_map (lvl : List (Internal × Bool)) : (lvl.map g).map (·.1.off) = lvl.map (·.1.off) := by
  rw [List.map_map]
  exact List.map_congr_left fun p _ => by simp only [Function.comp, hg]

theorem linked_map : ∀ (inner : List (List (Internal × Bool))) (below : List Nat),
    linked below inner → linked below (inner.map (·.map g))
  | [], _, h => h
  | lvl :: rest, below, h => by
    simp only [List.map_cons, linked] at h ⊢
    rw [childOffs_map g hg, lvlOffs_map g hg]
    exact ⟨h.1, linked_map rest _ h.2⟩

theorem sepsOK_map : ∀ (lvl : List (Internal × Bool)) (los : List Nat), sepsOK los lvl → sepsOK los (lvl.map g)
  | [], _, h => h
  | p :: rest, los, h => by
    simp only [List.map_cons, sepsOK, hg] at h ⊢
    exact ⟨h.1, h.2.1, sepsOK_map rest _ h.2.2⟩

theorem levelLos_map : ∀ (lvl : List (Internal × Bool)) (los : List Nat), levelLos los (lvl.map g) = levelLos los lvl
  | [], _ => rfl
  | p :: rest, los => by
    simp only [List.map_cons, levelLos, hg]
    rw [levelLos_map rest]

theorem sepsAll_map : ∀ (inner : List (List (Internal × Bool))) (los : List Nat),
    sepsAll los inner → sepsAll los (inner.map (·.map g))
  | [], _, _ => trivial
  | lvl :: rest, los, h => by
    simp only [List.map_cons, sepsAll] at h ⊢
    rw [levelLos_map g hg]
    exact ⟨sepsOK_map g hg lvl los h.1, sepsAll_map rest _ h.2⟩

theorem innerOffs_map (inner : List (List (Internal × Bool))) : innerOffs (inner.map (·.map g)) = innerOffs inner := by
  unfold innerOffs
  rw [List.flatMap_map]
  simp only [lvlOffs_map g hg]

/-- `Inv` passes to any tree with the same leaf skeletons whose inner nodes are those of `t` up to a relabelling `g` of
the dirty bits (`g` keeps the node: `hg`).  `updLeaves` (`g = id`) and `clean` (`g` clears the bit) are its users. -/
theorem inv_of_skel {t t' : Levels} {nf : Nat} (hI : Inv t nf) (hin : t'.inner = t.inner.map (·.map g))
    (hl : t'.leaves.map skelL = t.leaves.map skelL) : Inv t' nf := by
  have hlen : t'.leaves.length = t.leaves.length := by simpa using congrArg List.length hl
  -- the two trees agree on whatever is read off the skeleton
  have hproj : ∀ {γ} (π : _ → γ), t'.leaves.map (π ∘ skelL) = t.leaves.map (π ∘ skelL) := fun π => by
    rw [← List.map_map, hl, List.map_map]
  have hoffs : t'.leaves.map (·.1.off) = t.leaves.map (·.1.off) := hproj (·.1)
  have hkeys : t'.leaves.map (fun p => p.1.cells.map (·.key)) = t.leaves.map (fun p => p.1.cells.map (·.key)) :=
    hproj (·.2.2.2.2.2)
  -- what the key list of every leaf of `t` satisfies, that of every leaf of `t'` does
  have hall : ∀ P : List Nat → Prop, (∀ p ∈ t.leaves, P (p.1.cells.map (·.key))) →
      ∀ p' ∈ t'.leaves, P (p'.1.cells.map (·.key)) := by
    intro P h p' hp'
    have : p'.1.cells.map (·.key) ∈ t.leaves.map (fun p => p.1.cells.map (·.key)) :=
      hkeys ▸ List.mem_map_of_mem (f := fun p : Leaf × Bool => p.1.cells.map (·.key)) hp'
    obtain ⟨p, hp, e⟩ := List.mem_map.mp this
    exact e ▸ h p hp
  refine ⟨⟨?_, ?_⟩, ?_, ?_, ?_, ?_, ?_, ?_⟩
  · intro p' hp'
    simpa using hall (·.length < c_maxLeafNodeCells) (fun p hp => by simpa using hI.cap.1 p hp) p' hp'
  · rw [hin]
    intro lvl hlvl p hp
    obtain ⟨lvl0, hl0, rfl⟩ := List.mem_map.mp hlvl
    obtain ⟨q, hq, rfl⟩ := List.mem_map.mp hp
    rw [hg]
    exact hI.cap.2 lvl0 hl0 q hq
  · unfold KeysAsc
    rw [keys_eq_flatten, hkeys, ← keys_eq_flatten]
    exact hI.asc
  · intro h2 p' hp'
    simpa using hall (· ≠ []) (fun p hp => by simpa using hI.ne (hlen ▸ h2) p hp) p' hp'
  · unfold ChainOK
    have hc : chainFrom none (t.leaves.map (·.1)) := hI.chain
    apply chainFrom_congr (t.leaves.map (·.1)) (t'.leaves.map (·.1)) _ none hc
    rw [List.map_map, List.map_map]
    exact (hproj fun x => (x.1, x.2.1, x.2.2.1, x.2.2.2.1, x.2.2.2.2.1)).symm
  · unfold LinkOK
    rw [hin, hoffs]
    exact linked_map g hg _ _ hI.link
  · unfold SepsOK
    rw [hin]
    have : t'.leaves.map (fun p => (p.1.cells.head?.map (·.key)).getD 0) =
        t.leaves.map (fun p => (p.1.cells.head?.map (·.key)).getD 0) := by
      simpa [Function.comp_def, skelL, List.head?_map] using hproj (·.2.2.2.2.2.head?.getD 0)
    rw [this]
    exact sepsAll_map g hg _ _ hI.seps
  · unfold OffsOK
    rw [offs_eq, hin, innerOffs_map g hg, hoffs, ← offs_eq]
    exact hI.offs

end

theorem updLeaves_inv (hf : ∀ c, (f c).key = c.key) (t : Levels) (nf : Nat) (hinv : Inv t nf) :
    Inv (updLeaves f key lsn t) nf := by
  refine inv_of_skel id (fun _ => rfl) hinv (by simp [updLeaves]) ?_
  simp only [updLeaves, List.map_map]
  refine List.map_congr_left fun p _ => ?_
  obtain ⟨hL, hR, hl, hr⟩ := updLeaf_sibs f key lsn p
  simp only [Function.comp, skelL, updLeaf_off, hL, hR, hl, hr, updLeaf_cells, List.map_map]
  congr 5
  exact List.map_congr_left fun c _ => updCell_key f key hf c

theorem updLeaves_pages_new (t : Levels) :
    ∀ x ∈ flatten (updLeaves f key lsn t), x ∈ flatten t ∨ (Mkdb.Store.nodeLSN x.2.1 = lsn ∧ x.2.2 = true) := by
  intro x hx
  rcases mem_flatten.mp hx with ⟨q, hq, rfl⟩ | ⟨lvl, hl, q, hq, rfl⟩
  · obtain ⟨q0, hq0, rfl⟩ := List.mem_map.mp hq
    unfold updLeaf
    split
    · exact .inr ⟨rfl, rfl⟩
    · exact .inl (mem_flatten.mpr (.inl ⟨q0, hq0, rfl⟩))
  · exact .inl (mem_flatten.mpr (.inr ⟨lvl, hl, q, hq, rfl⟩))

theorem updLeaves_page_kept (t : Levels) :
    ∀ e ∈ flatten t, ∃ e' ∈ flatten (updLeaves f key lsn t),
      e'.1 = e.1 ∧ (e' = e ∨ (Mkdb.Store.nodeLSN e'.2.1 = lsn ∧ e'.2.2 = true)) := by
  intro e he
  rcases mem_flatten.mp he with ⟨p, hp, rfl⟩ | ⟨lvl, hl, p, hp, rfl⟩
  · refine ⟨_, mem_flatten.mpr (.inl ⟨updLeaf f key lsn p, List.mem_map.mpr ⟨p, hp, rfl⟩, rfl⟩),
      updLeaf_off f key lsn p, ?_⟩
    unfold updLeaf
    split
    · exact .inr ⟨rfl, rfl⟩
    · exact .inl rfl
  · exact ⟨_, mem_flatten.mpr (.inr ⟨lvl, hl, p, hp, rfl⟩), rfl, .inl rfl⟩

theorem updLeaves_touched (t : Levels) : Touched lsn t (updLeaves f key lsn t) :=
  ⟨updLeaves_pages_new f key lsn t, updLeaves_page_kept f key lsn t⟩

/-! ### `setVal` -/

theorem cells_setVal (t : Levels) (key lsn : Nat) (v : Bytes) :
    cells (setVal t key lsn v) =
      (cells t).map (fun c => if c.key == key then { c with val := v } else c) := by
  rw [setVal_eq, cells_updLeaves]
  rfl

theorem keys_setVal (t : Levels) (key lsn : Nat) (v : Bytes) : keys (setVal t key lsn v) = keys t := by
  rw [setVal_eq]
  exact keys_updLeaves (fun c => { c with val := v }) key lsn (fun _ => rfl) t

theorem offs_setVal (t : Levels) (key lsn : Nat) (v : Bytes) : offs (setVal t key lsn v) = offs t := by
  rw [setVal_eq]; exact offs_updLeaves _ key lsn t

theorem setVal_inv (t : Levels) (key lsn nf : Nat) (v : Bytes) (hinv : Inv t nf) :
    Inv (setVal t key lsn v) nf := by
  rw [setVal_eq]
  exact updLeaves_inv (fun c => { c with val := v }) key lsn (fun _ => rfl) t nf hinv

theorem setVal_inner (t : Levels) (key lsn : Nat) (v : Bytes) : (setVal t key lsn v).inner = t.inner := rfl

/-- UPDATE does not change which rows are live, only the value of the row `key` -/
theorem live_setVal (t : Levels) (key lsn : Nat) (v : Bytes) :
    live (setVal t key lsn v) =
      (live t).map (fun c => if c.key == key then { c with val := v } else c) := by
  unfold live
  rw [cells_setVal, List.filter_map]
  congr 1
  apply List.filter_congr
  intro c _
  simp only [Function.comp]
  split <;> rfl

/-! ### `setDeleted` -/

theorem cells_setDeleted (t : Levels) (key lsn : Nat) :
    cells (setDeleted t key lsn) =
      (cells t).map (fun c => if c.key == key then { c with deleted := true } else c) := by
  rw [setDeleted_eq, cells_updLeaves]
  rfl

theorem keys_setDeleted (t : Levels) (key lsn : Nat) : keys (setDeleted t key lsn) = keys t := by
  rw [setDeleted_eq]
  exact keys_updLeaves (fun c => { c with deleted := true }) key lsn (fun _ => rfl) t

theorem setDeleted_inner (t : Levels) (key lsn : Nat) : (setDeleted t key lsn).inner = t.inner := rfl

/-- DELETE removes exactly the row `key` from what a scan sees -/
theorem live_setDeleted (t : Levels) (key lsn : Nat) :
    live (setDeleted t key lsn) = (live t).filter (fun c => c.key != key) := by
  unfold live
  rw [cells_setDeleted]
  generalize cells t = cs
  induction cs with
  | nil => rfl
  | cons c cs ih =>
    simp only [List.map_cons, List.filter_cons, ih]
    by_cases hk : c.key = key
    · cases hd : c.deleted <;> simp [hk]
    · cases hd : c.deleted <;> simp [hk, hd]

theorem not_live_setDeleted (t : Levels) (key lsn : Nat) (c : LeafCell)
    (hc : c ∈ live (setDeleted t key lsn)) : c.key ≠ key := by
  rw [live_setDeleted, List.mem_filter] at hc
  simpa using hc.2

end Mkdb.Tree

namespace Mkdb.Store
open Mkdb.Page Mkdb.Generated Mkdb.Tree

theorem rootOff_updLeaves (f : LeafCell → LeafCell) (key lsn : Nat) (t : Levels) :
    rootOff (updLeaves f key lsn t) = rootOff t := by
  unfold rootOff updLeaves
  simp only [List.head?_map, Option.map_map]
  have : ((fun p : Leaf × Bool => p.1.off) ∘ updLeaf f key lsn) = fun p => p.1.off :=
    funext (updLeaf_off f key lsn)
  rw [this]

theorem leaf_off_mem_offs {t : Levels} {l : Leaf} {d : Bool} (hm : (l, d) ∈ t.leaves) : l.off ∈ offs t := by
  rw [offs_eq]
  exact List.mem_append_left _ (List.mem_map.mpr ⟨(l, d), hm, rfl⟩)

theorem live_keys_asc {t : Levels} (hasc : KeysAsc t) : ((live t).map (·.key)).Pairwise (· < ·) := by
  unfold KeysAsc keys at hasc
  unfold live
  exact hasc.sublist ((List.filter_sublist).map _)

theorem live_keys_nodup {t : Levels} (hasc : KeysAsc t) : ((live t).map (·.key)).Nodup :=
  (live_keys_asc hasc).imp (fun hlt => Nat.ne_of_lt hlt)

end Mkdb.Store
