import Mkdb.Proofs.MeaningPipeline
import Mkdb.Proofs.SessInvHistory
/-!
The SELECT of a session against the plain database.

Two parts: (1) `select_on_stored_never_panics` on every database of a session that satisfies the invariant
(`sessInv_select_never_panics`; `typed_specHist`: the plain database of a history stays typed), with examples
computed on `tableDB` (the database `CREATE DATABASE; CREATE TABLE t (a INT)` leaves); (2) the outcome of a
session's SELECT is that of the executor on the plain database (`select_on_stored_eq_plain`,
`session_select_outcome`), and `Out.ok` whenever the query has a reference meaning there
(`session_meaningful_select_answered`), with examples.
-/

section
set_option autoImplicit false
namespace Mkdb.Store
open Mkdb.Page Mkdb.Tuple Mkdb.Generated Mkdb.Tree Mkdb.Engine Mkdb.Exec Mkdb.Exec.TypedP Mkdb.Sql

theorem typed_specHist : ∀ (sts : List Sql.Stmt) (sdb : Spec.SDB), Spec.Typed sdb → Spec.Typed (specHist sdb sts)
  | [], _, h => h
  | st :: rest, sdb, h => by
    unfold specHist
    apply typed_specHist rest
    cases hs : Spec.specStmt sdb st with
    | none => exact h
    | some sdb' => exact h.specStmt hs

end Mkdb.Store

namespace Mkdb.Session
open Mkdb.Engine Mkdb.Store Mkdb.Sql Mkdb.Exec

theorem sessInv_select_never_panics {s : Sess} (h : SessInv s) : ∀ p ∈ s.dbs, ∀ q : Select,
    (Exec.NoPanicP.ParsedShape q) → UserTables q →
    (∀ n ∈ selectNames q, FetchTotal p.2 n) ∧ ∀ x, evaluateSelect (fetchOf p.2) q ≠ .panic x := by
  obtain ⟨w, hw⟩ := h
  intro p hp q hq hn
  obtain ⟨pt, sch, tbls, hi, _⟩ := hw.dbs p hp
  obtain ⟨h1, h2, _⟩ := select_on_stored_never_panics hi.abs q hq hn
  exact ⟨h1, h2⟩

end Mkdb.Session

namespace Mkdb.Store
open Mkdb.Page Mkdb.Tuple Mkdb.Generated Mkdb.Tree Mkdb.Engine Mkdb.Exec Mkdb.Exec.TypedP Mkdb.Sql

/-! ### examples -/

/-- `SELECT a, count(*) FROM t GROUP BY a ORDER BY a` -/
def exGroupQuery : Select :=
  { list := [⟨.expr (.val (.col ⟨[], [97]⟩)), []⟩, ⟨.count none, []⟩],
    from_ := some (.table ⟨tname, none⟩),
    groupBy := [⟨[], [97]⟩],
    orderBy := [⟨⟨[], [97]⟩, false⟩] }

/-- `SELECT * FROM t x LEFT JOIN t y ON x.a < y.a ORDER BY y.a DESC` -/
def exJoinQuery : Select :=
  { list := [⟨.star, []⟩],
    from_ := some (.join (.table ⟨tname, some [120]⟩) .left ⟨tname, some [121]⟩
      (.pred ⟨.col ⟨[120], [97]⟩, Generated.t_LT, .col ⟨[121], [97]⟩⟩)),
    orderBy := [⟨⟨[121], [97]⟩, true⟩] }

theorem exQueries_ok : (Exec.NoPanicP.ParsedShape exGroupQuery) ∧
    UserTables exGroupQuery ∧
    (Exec.NoPanicP.ParsedShape exJoinQuery) ∧ UserTables exJoinQuery :=
  ⟨by decide, by decide +kernel, by decide, by decide +kernel⟩

/-- the result of a query as a Boolean test (the result type has no decidable equality) -/
def selectGives (r : Exec.X (List Row × List Field)) (rows : List Row) (hdr : List Field) : Bool :=
  match r with
  | .ok (rs, h) => rs == rows && h == hdr
  | _ => false

theorem fetchOf_tableDB : (fetchOf tableDB tname).map (fun t => (t.cols, t.rows)) = some ([[97]], []) ∧
    (fetchOf tableDB [117]).isNone = true := by
  decide +kernel

theorem exQueries_on_tableDB :
    selectGives (evaluateSelect (fetchOf tableDB) exGroupQuery) [] [⟨tname, [97]⟩, ⟨[], "count(*)".toUTF8.toList⟩] = true ∧
    selectGives (evaluateSelect (fetchOf tableDB) exJoinQuery) [] [⟨[120], [97]⟩, ⟨[121], [97]⟩] = true := by
  decide +kernel

/-- `SELECT * FROM sys_schema ORDER BY field_type` -/
def exCatalogQuery : Select :=
  { list := [⟨.star, []⟩],
    from_ := some (.table ⟨sysSchema, none⟩),
    orderBy := [⟨⟨[], "field_type".toUTF8.toList⟩, false⟩] }

/-- the computed database passes the check of its two catalog tables; the catalog query returns the seven
rows of `sys_schema` (two for `sys_pages`, four for `sys_schema`, one for `t`) -/
theorem catalogOK_tableDB : catalogOK tableDB = true ∧
    (match evaluateSelect (fetchOf tableDB) exCatalogQuery with
      | .ok (rows, hdr) => rows.length == 7 && hdr.length == 4
      | _ => false) = true := by
  decide +kernel

/-! an executor-level example with rows: a LEFT JOIN whose padding puts NULLs into the sorted column -/

def exKT : Table := ⟨[[97], [98]], [[.int 1, .str [120]], [.int 2, .null], [.int 3, .str [121]]]⟩
def exKFetch : Bytes → Option Table := fun n => if n = tname then some exKT else none

theorem exKFetch_kinded : KindedFetch exKFetch := by
  intro n t h
  unfold exKFetch at h
  split at h
  · cases h
    exact ⟨[.int, .str], rfl, by decide⟩
  · cases h

theorem exJoin_on_exKFetch : selectGives (evaluateSelect exKFetch exJoinQuery)
    [[.int 1, .str [120], .int 3, .str [121]], [.int 2, .null, .int 3, .str [121]],
     [.int 1, .str [120], .int 2, .null], [.int 3, .str [121], .null, .null]]
    [⟨[120], [97]⟩, ⟨[120], [98]⟩, ⟨[121], [97]⟩, ⟨[121], [98]⟩] = true := by decide +kernel

end Mkdb.Store
end

section
/-!
The SELECT of a session (the session model evaluates it: `Session.exec s (.select q)` runs
`Exec.evaluateSelect` on `fetchOfDB` of the selected database), related to the plain database: on a store
that abstracts to the plain database `sdb`, what a SELECT reads for a name other than the two catalog
tables IS the table of `sdb`, so the outcome of a session's SELECT over user tables is that of the executor
on the plain database - and `Out.ok` whenever the query has a reference meaning there.
-/
set_option autoImplicit false
namespace Mkdb.Store
open Mkdb.Page Mkdb.Tuple Mkdb.Generated Mkdb.Tree Mkdb.Engine Mkdb.Exec Mkdb.Exec.TypedP Mkdb.Sql

theorem select_on_stored_eq_plain {db : Engine.DB} {sdb : Spec.SDB} {pt sch : Levels}
    {tbls : List (Bytes × Levels)} (h : AbsV db.store pt sch tbls sdb) (q : Select) (hn : UserTables q) :
    evaluateSelect (fetchOf db) q = evaluateSelect (fetchOfPlain sdb) q := by
  apply evaluateSelect_congr
  intro tr htr n hmem
  have : n ∈ selectNames q := by unfold selectNames; rw [htr]; exact hmem
  exact fetchOf_eq_plain h n (hn n this).1 (hn n this).2

end Mkdb.Store

namespace Mkdb.Session
open Mkdb.Engine Mkdb.Store Mkdb.Sql Mkdb.Exec Mkdb.Exec.MeaningP Mkdb.Exec.SelectP

/-- **The outcome of a session's SELECT is that of the executor on the plain database**: in a session
that abstracts to the plain databases `w`, with the database `n` selected, a SELECT over user tables
changes nothing and reports what `evaluateSelect` returns on `fetchOfPlain (w n)`; with a select list of a
shape the parser builds that is rows or an error value - not a panic. -/
theorem session_select_outcome {s : Sess} {w : String → Spec.SDB} (h : SessAbs s w) {n : String}
    (hc : s.cur = some n) (q : Select) (hn : UserTables q) :
    exec s (.select q) = (s, selectOut (evaluateSelect (fetchOfPlain (w n)) q)) ∧
    ((Exec.NoPanicP.ParsedShape q) →
      ∀ x, evaluateSelect (fetchOfPlain (w n)) q ≠ .panic x) := by
  obtain ⟨db, pt, sch, tbls, hg, _, hi⟩ := h.selected hc
  have he := select_on_stored_eq_plain hi.abs q hn
  exact ⟨by rw [exec_select_cur hc hg q, he],
    fun hq => (TypedP.evaluateSelect_kinded q (fun _ _ => (fetchOfPlain_kinded hi.typed).typed _) hq).not_panic⟩

theorem SessAbs.typed_cur {s : Sess} {w : String → Spec.SDB} (h : SessAbs s w) {n : String}
    (hc : s.cur = some n) : Spec.Typed (w n) := by
  obtain ⟨_, _, _, _, _, _, hi⟩ := h.selected hc
  exact hi.typed

theorem session_meaningful_select_answered {s : Sess} {w : String → Spec.SDB} (h : SessAbs s w) {n : String}
    (hc : s.cur = some n) (q : Select) (hq : Exec.NoPanicP.ParsedShape q) (hn : UserTables q)
    {want : List Row} {keys : List (Nat × Bool)}
    (hm : Spec.meaning (fetchOfPlain (w n)) q = some want)
    (hk : Spec.sortKeys q (judgeHeader (fetchOfPlain (w n)) q) = some keys)
    (hcomp : ∀ a ∈ want, ∀ b ∈ want, KeyComparable keys a b)
    (hgrp : groups q = true → avgGroupsConstant (fetchOfPlain (w n)) q = true) :
    exec s (.select q) = (s, .ok) := by
  obtain ⟨got, _, he⟩ := meaningful_answered (fetchOfPlain_kinded (h.typed_cur hc)).wellShaped hq.ne_nil hq.bounds hm hk hcomp hgrp
  rw [(session_select_outcome h hc q hn).1, he]
  rfl

/-! ### examples -/

/-- tests of an outcome (`Out` has no decidable equality) -/
def Out.isOk : Out → Bool
  | .ok => true
  | _ => false

def Out.isErr (kind : String) : Out → Bool
  | .err e => e == kind
  | _ => false

theorem runAll_selects {s : Sess} {n : String} {db : DB} (hc : s.cur = some n) (hg : getDB s n = some db) :
    ∀ qs : List Select, (runAll s (qs.map .select)).2 = qs.map fun q => selectOut (evaluateSelect (fetchOf db) q)
  | [] => rfl
  | q :: rest => by
    simp only [List.map_cons, runAll, exec_select_cur hc hg q]
    rw [runAll_selects hc hg rest]

theorem isOk_selectOut {r : Exec.X (List Row × List Field)} {rows : List Row} {hdr : List Field}
    (h : selectGives r rows hdr = true) : (selectOut r).isOk = true := by
  cases r with
  | ok a => rfl
  | err e => cases h
  | panic x => cases h

/-- `SELECT a, count(*) FROM t GROUP BY a ORDER BY a` and `SELECT * FROM t x LEFT JOIN t y ON x.a < y.a
ORDER BY y.a DESC` in the session whose selected database holds the empty table `t (a INT)`: both are
EVALUATED (computed by the model: the pages of `t` are read through the cache) and answered -/
theorem sessT_selects_answered :
    (runAll sessT [.select exGroupQuery, .select exJoinQuery]).2.map Out.isOk = [true, true] := by
  have h := runAll_selects (s := sessT) rfl getDB_sessT [exGroupQuery, exJoinQuery]
  simp only [List.map_cons, List.map_nil] at h
  simp only [h, List.map_cons, List.map_nil, isOk_selectOut exQueries_on_tableDB.1,
    isOk_selectOut exQueries_on_tableDB.2]

/-- a history from the empty session whose last statement is a SELECT that is evaluated on the database
`CREATE DATABASE` left: the table does not exist, an error value -/
theorem select_on_new_database_refused :
    (runAll {} [.use [120], .createDatabase [100], .createDatabase [101], .use [100], .select exGroupQuery]).2.map
      (Out.isErr "tableNotExist") = [false, false, false, false, true] := by
  decide +kernel

/-- the session after `INSERT INTO t VALUES (5), (6)` on `sessT`: accepted, `d` still selected, and the
session abstracts to plain databases whose `d` is the plain model's result -/
theorem sessT_after_insert :
    ∃ s1 w, exec sessT (.insert tname [] [[.int 5], [.int 6]]) = (s1, .ok) ∧ SessAbs s1 w ∧
      s1.cur = some "d" ∧ w "d" = sdbA1 := by
  have hg := getDB_sessT
  obtain ⟨db', pt', sch', tbls', e, hi'⟩ := dbFlushed_tableDB.inv.accepted [] _ room_insert56 sdbA1 rfl
  refine ⟨setDB sessT "d" db', setW (fun _ => sdbA0) "d" sdbA1, ?_, sessAbs_sessT.setCur rfl hi', rfl,
    setW_same _ _ _⟩
  exact exec_routed_ok rfl rfl hg e

theorem exGroupQuery_meaning_sdbA1 :
    Spec.meaning (fetchOfPlain sdbA1) exGroupQuery = some [[.int 5, .int 1], [.int 6, .int 1]] ∧
    Spec.sortKeys exGroupQuery (judgeHeader (fetchOfPlain sdbA1) exGroupQuery) = some [(0, false)] ∧
    (∀ a ∈ [[Tuple.Val.int 5, .int 1], [.int 6, .int 1]], ∀ b ∈ [[Tuple.Val.int 5, .int 1], [.int 6, .int 1]],
      KeyComparable [(0, false)] a b) ∧
    isStar exGroupQuery.list = false ∧ avgGroupsConstant (fetchOfPlain sdbA1) exGroupQuery = true := by
  refine ⟨by decide +kernel, by decide +kernel, by decide, rfl, by decide +kernel⟩

/-- **so the session answers it after the INSERT** - by the theorem, without computing on the pages -/
theorem sessT_after_insert_select_answered :
    ∃ s1, exec sessT (.insert tname [] [[.int 5], [.int 6]]) = (s1, .ok) ∧
      exec s1 (.select exGroupQuery) = (s1, .ok) := by
  obtain ⟨s1, w, e, h1, hc, hw⟩ := sessT_after_insert
  obtain ⟨hm, hk, hcomp, _, havg⟩ := exGroupQuery_meaning_sdbA1
  refine ⟨s1, e, session_meaningful_select_answered h1 hc exGroupQuery exQueries_ok.1 exQueries_ok.2.1
    (by rw [hw]; exact hm) (by rw [hw]; exact hk) hcomp (fun _ => by rw [hw]; exact havg)⟩

end Mkdb.Session
end
