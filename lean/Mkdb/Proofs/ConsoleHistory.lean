import Mkdb.Proofs.ConsoleBytes
import Mkdb.Proofs.ConsoleEdit
/-!
The history of the console model: the splitter returns only runes of its input, what `addHistory` stores, the
states reached by typing (`TypedState`) and what the ring then holds.  Then the keys Up and Down: Down undoes Up (back
to the line that was being typed, kept aside as `historyPending`), Up at the oldest entry changes nothing, and:
Up k times, Enter hands over the k-th most recent statement again.
-/

section
namespace Mkdb.Console

theorem split_outputs_all (Pc : Nat → Prop) (l : List Nat) (hl : ∀ r ∈ l, Pc r) :
    ∀ s ∈ (splitStatements l).1, ∀ c ∈ s, Pc c := by
  obtain ⟨ps, r, q, h⟩ := cut_exists l .top
  rw [splitStatements_cut h]
  intro s hs c hc
  obtain ⟨p, hp, rfl⟩ := List.mem_map.mp hs
  exact hl c (by rw [h.text]; exact List.mem_append_left _ (List.mem_flatten.mpr ⟨p, hp, mem_trim hc⟩))

theorem step_enter_single (t : Term) (h : WFStmt t.line) :
    step t 13 = (addHistory { t with line := [], pos := 0 } [t.line], some [t.line]) := by
  show step t keyEnter = _
  rw [step_enter_split, split_single h]
  rfl

theorem take_append_take (n : Nat) (x y : List (List Nat)) :
    (x ++ y.take n).take n = (x ++ y).take n := by
  rw [List.take_append, List.take_append, List.take_take]
  congr 2
  omega

theorem addHistory_history : ∀ (s : List (List Nat)) (t : Term), t.history.length ≤ 100 →
    (addHistory t s).history = ((s.reverse.map (·.map validRune)) ++ t.history).take 100
  | [], t, h => by
    simp only [addHistory, List.foldl_nil, List.reverse_nil, List.map_nil, List.nil_append]
    exact (List.take_of_length_le h).symm
  | a :: s, t, _ => by
    have ih := addHistory_history s
      { t with historyIndex := -1, history := (a.map validRune :: t.history).take 100 }
      (by simp only [List.length_take]; omega)
    unfold addHistory at ih ⊢
    rw [List.foldl_cons, ih, take_append_take]
    simp

theorem addHistory_index (s : List (List Nat)) (t : Term) (h : t.historyIndex = -1) :
    (addHistory t s).historyIndex = -1 := by
  unfold addHistory
  induction s generalizing t with
  | nil => exact h
  | cons a s ih => rw [List.foldl_cons]; exact ih _ rfl

theorem map_validRune_id {s : List Nat} (h : ∀ c ∈ s, validRune c = c) : s.map validRune = s := by
  induction s with
  | nil => rfl
  | cons a s ih =>
    rw [List.map_cons, h a List.mem_cons_self, ih (fun c hc => h c (List.mem_cons_of_mem _ hc))]

theorem map_map_validRune_id {ss : List (List Nat)} (h : ∀ s ∈ ss, ∀ c ∈ s, validRune c = c) :
    ss.map (·.map validRune) = ss := by
  induction ss with
  | nil => rfl
  | cons a ss ih =>
    rw [List.map_cons, map_validRune_id (h a List.mem_cons_self),
      ih (fun s hs => h s (List.mem_cons_of_mem _ hs))]

/-- the states reached by typing: outside paste mode, not in the history, only Unicode scalar values
in the line, at most 100 history entries -/
structure TypedState (t : Term) : Prop where
  paste : t.pasteActive = false
  idx : t.historyIndex = -1
  valid : ∀ c ∈ t.line, validRune c = c
  cap : t.history.length ≤ 100

theorem typedState_init : TypedState {} := ⟨rfl, rfl, (fun c hc => by cases hc), by simp⟩

theorem typedState_addKey {t : Term} (h : TypedState t) {k : Nat} (hk : validRune k = k) : TypedState (addKeyToLine t k) := by
  refine ⟨h.paste, h.idx, ?_, h.cap⟩
  intro c hc
  simp only [addKeyToLine, List.mem_append, List.mem_cons] at hc
  rcases hc with hc | hc | hc
  · exact h.valid c (List.mem_of_mem_take hc)
  · rw [hc]; exact hk
  · exact h.valid c (List.mem_of_mem_drop hc)

theorem typedState_step {t : Term} (h : TypedState t) {k : Nat} (hk : TypedKey k) :
    TypedState (step t k).1 ∧
    (step t k).1.history = (((step t k).2.getD []).reverse ++ t.history).take 100 ∧
    ∀ s ∈ (step t k).2.getD [], WFStmt s := by
  rcases step_typed t hk.1 with ⟨_, _, hs⟩ | hs <;> rw [hs] <;> dsimp only [Option.getD_some, Option.getD_none]
  · have hwf := split_outputs_wf t.line
    have hval := split_outputs_all (fun c => validRune c = c) t.line h.valid
    refine ⟨⟨?_, ?_, ?_, ?_⟩, ?_, hwf⟩
    · rw [addHistory_paste]; exact h.paste
    · exact addHistory_index _ _ h.idx
    · rw [addHistory_line]; intro c hc; cases hc
    · rw [addHistory_history _ { t with line := [], pos := 0 } h.cap]; simp only [List.length_take]; omega
    · rw [addHistory_history _ { t with line := [], pos := 0 } h.cap,
        map_map_validRune_id fun s hs => hval s (List.mem_reverse.mp hs)]
  · refine ⟨typedState_addKey h ?_, (List.take_of_length_le h.cap).symm, fun s hs => by cases hs⟩
    split
    · decide
    · exact hk.2

theorem subs_flatten (o : Option (List (List Nat))) : (subs o).flatten = o.getD [] := by
  cases o <;> simp [subs]

theorem typedState_run : ∀ (keys : List Nat) (t : Term), TypedState t → (∀ k ∈ keys, TypedKey k) →
    TypedState (final t keys) ∧
    (final t keys).history = ((run t keys).flatten.reverse ++ t.history).take 100 ∧
    ∀ s ∈ (run t keys).flatten, WFStmt s
  | [], t, h, _ => ⟨h, by simp [final, run, List.take_of_length_le h.cap], fun s hs => by cases hs⟩
  | k :: keys, t, h, hv => by
    obtain ⟨g1, h1, w1⟩ := typedState_step h (hv k List.mem_cons_self)
    obtain ⟨g2, h2, w2⟩ := typedState_run keys (step t k).1 g1 (fun x hx => hv x (List.mem_cons_of_mem _ hx))
    rw [final_cons, run_cons_subs, List.flatten_append, subs_flatten]
    refine ⟨g2, ?_, fun x hx => (List.mem_append.mp hx).elim (w1 x) (w2 x)⟩
    rw [h2, h1, take_append_take, List.reverse_append, List.append_assoc]

theorem nthPrevious_ofNat (h : List (List Nat)) (n : Nat) : nthPrevious h (n : Int) = h[n]? := by
  unfold nthPrevious
  rw [if_neg (by omega)]
  rfl

end Mkdb.Console
end

section
namespace Mkdb.Console

theorem step_down_zero (t : Term) (hpa : t.pasteActive = false) (hi : t.historyIndex = 0) :
    step t keyDown = (setLine { t with historyIndex := -1 } t.historyPending, none) := by
  rw [(step_table t hpa).down, hi]; rfl

theorem step_down_pos (t : Term) (hpa : t.pasteActive = false) (m : Nat) (hi : t.historyIndex = (m : Int) + 1)
    (e : List Nat) (h : t.history[m]? = some e) :
    step t keyDown = (setLine { t with historyIndex := (m : Int) } e, none) := by
  have h1 : (t.historyIndex == -1) = false := by rw [hi]; simp; omega
  have h2 : (t.historyIndex == 0) = false := by rw [hi]; simp; omega
  have h4 : t.historyIndex - 1 = (m : Int) := by omega
  rw [(step_table t hpa).down, h1, h2, h4, nthPrevious_ofNat, h]
  rfl

theorem step_up_none (t : Term) (hpa : t.pasteActive = false)
    (h : nthPrevious t.history (t.historyIndex + 1) = none) : step t keyUp = (t, none) := by
  rw [(step_table t hpa).up, h]

/-- inside the history at entry `m`: the line is that entry, the cursor at its end -/
structure InHist (t : Term) (m : Nat) : Prop where
  paste : t.pasteActive = false
  idx : t.historyIndex = (m : Int)
  line : t.history[m]? = some t.line
  pos : t.pos = t.line.length

theorem up_state {t : Term} {m : Nat} (h : InHist t m) (hlen : m + 1 < t.history.length) :
    step t keyUp = (setLine { t with historyIndex := (m : Int) + 1 } t.history[m + 1], none) := by
  have hn : nthPrevious t.history (t.historyIndex + 1) = some t.history[m + 1] := by
    rw [h.idx, show (m : Int) + 1 = ((m + 1 : Nat) : Int) by omega, nthPrevious_ofNat,
      List.getElem?_eq_getElem hlen]
  have hne : (t.historyIndex == -1) = false := by rw [h.idx]; simp
  rw [(step_table t h.paste).up, hn, hne, h.idx]
  rfl

theorem up_inHist {t : Term} {m : Nat} (h : InHist t m) (hlen : m + 1 < t.history.length) :
    InHist (step t keyUp).1 (m + 1) ∧ (step t keyUp).2 = none ∧ (step t keyUp).1.history = t.history ∧
      step (step t keyUp).1 keyDown = (t, none) := by
  rw [up_state h hlen]
  refine ⟨⟨h.paste, ?_, ?_, rfl⟩, rfl, rfl, ?_⟩
  · show (m : Int) + 1 = ((m + 1 : Nat) : Int)
    omega
  · exact List.getElem?_eq_getElem hlen
  · have hd := step_down_pos (setLine { t with historyIndex := (m : Int) + 1 } t.history[m + 1]) h.paste m rfl
      t.line h.line
    show step (setLine { t with historyIndex := (m : Int) + 1 } t.history[m + 1]) keyDown = (t, none)
    rw [hd]
    cases t with
    | mk line pos pa hist hi hp =>
      have h1 := h.idx
      have h2 := h.pos
      simp only at h1 h2
      subst h1
      subst h2
      rfl

theorem replicate_up_down (j : Nat) :
    List.replicate (j + 1) keyUp ++ List.replicate (j + 1) keyDown =
      keyUp :: ((List.replicate j keyUp ++ List.replicate j keyDown) ++ [keyDown]) := by
  rw [List.replicate_succ, List.replicate_succ' (n := j), List.cons_append, List.append_assoc]

theorem ups_downs_inHist : ∀ (j : Nat) (t : Term) (m : Nat), InHist t m → m + j < t.history.length →
    Runs t (List.replicate j keyUp ++ List.replicate j keyDown) [] t
  | 0, t, _, _, _ => .nil t
  | j + 1, t, m, h, hlen => by
    obtain ⟨h1, hnone, hh, hback⟩ := up_inHist h (by omega)
    rw [replicate_up_down]
    exact .cons (Prod.ext rfl hnone : step t keyUp = ((step t keyUp).1, none))
      ((ups_downs_inHist j (step t keyUp).1 (m + 1) h1 (by rw [hh]; omega)).append (.key hback))

/-- what Up and then Down leave of a state that was outside the history: the line that was being typed comes
back as it was kept aside - `string(line)` converted back to runes - with the cursor at its end -/
def afterUpDown (t : Term) : Term :=
  { t with line := t.line.map validRune, pos := t.line.length, historyPending := t.line.map validRune }

theorem up_first (t : Term) (hpa : t.pasteActive = false) (hi : t.historyIndex = -1)
    (hlen : 0 < t.history.length) :
    step t keyUp = (setLine { t with historyPending := t.line.map validRune, historyIndex := 0 }
      t.history[0], none) ∧ InHist (step t keyUp).1 0 := by
  have hn : nthPrevious t.history (t.historyIndex + 1) = some t.history[0] := by
    rw [hi, show (-1 : Int) + 1 = ((0 : Nat) : Int) by rfl, nthPrevious_ofNat, List.getElem?_eq_getElem hlen]
  have hs := (step_table t hpa).up
  rw [hn, hi] at hs
  refine ⟨hs, ?_⟩
  rw [hs]
  exact ⟨hpa, rfl, List.getElem?_eq_getElem hlen, rfl⟩

theorem ups_downs (j : Nat) (t : Term) (hpa : t.pasteActive = false) (hi : t.historyIndex = -1)
    (hj : j ≤ t.history.length) (hj1 : 1 ≤ j) :
    Runs t (List.replicate j keyUp ++ List.replicate j keyDown) [] (afterUpDown t) := by
  obtain ⟨i, rfl⟩ : ∃ i, j = i + 1 := ⟨j - 1, by omega⟩
  obtain ⟨hs, h1⟩ := up_first t hpa hi (by omega)
  have hback : step (step t keyUp).1 keyDown = (afterUpDown t, none) := by
    rw [step_down_zero _ h1.paste h1.idx, hs]
    cases t with
    | mk line pos pa hist hx hp =>
      simp only at hi
      subst hi
      simp [setLine, afterUpDown]
  rw [replicate_up_down]
  exact .cons (by rw [hs] : step t keyUp = ((step t keyUp).1, none))
    ((ups_downs_inHist i (step t keyUp).1 0 h1 (by rw [hs]; simp only [setLine]; omega)).append (.key hback))

theorem afterUpDown_valid (t : Term) (hv : ∀ c ∈ t.line, validRune c = c) (hend : t.pos = t.line.length) :
    afterUpDown t = { t with historyPending := t.line } := by
  unfold afterUpDown
  rw [map_validRune_id hv, ← hend]

theorem ups_beyond : ∀ (j : Nat) (t : Term), t.pasteActive = false →
    nthPrevious t.history (t.historyIndex + 1) = none → Runs t (List.replicate j keyUp) [] t
  | 0, t, _, _ => .nil t
  | j + 1, t, hpa, h => .cons (step_up_none t hpa h) (ups_beyond j t hpa h)

theorem inHist_lt {t : Term} {m : Nat} (h : InHist t m) : m < t.history.length :=
  (List.getElem?_eq_some_iff.mp h.line).1

theorem ups_any : ∀ (j : Nat) (t : Term) (m : Nat), InHist t m →
    ∃ t', Runs t (List.replicate j keyUp) [] t' ∧ t'.history = t.history ∧
      InHist t' (min (m + j) (t.history.length - 1))
  | 0, t, m, h => ⟨t, .nil t, rfl, by rw [Nat.add_zero, Nat.min_eq_left (by have := inHist_lt h; omega)]; exact h⟩
  | j + 1, t, m, h => by
    have hm := inHist_lt h
    by_cases hlen : m + 1 < t.history.length
    · obtain ⟨h1, hnone, hh, _⟩ := up_inHist h hlen
      obtain ⟨t', r, hh', hi⟩ := ups_any j (step t keyUp).1 (m + 1) h1
      refine ⟨t', .cons (Prod.ext rfl hnone : step t keyUp = ((step t keyUp).1, none)) r, hh'.trans hh, ?_⟩
      rwa [hh, show m + 1 + j = m + (j + 1) by omega] at hi
    · have hn : nthPrevious t.history (t.historyIndex + 1) = none := by
        rw [h.idx, show (m : Int) + 1 = ((m + 1 : Nat) : Int) by omega, nthPrevious_ofNat,
          List.getElem?_eq_none (by omega)]
      refine ⟨t, ups_beyond (j + 1) t h.paste hn, rfl, ?_⟩
      rwa [Nat.min_eq_right (by omega), show t.history.length - 1 = m by omega]

/-- **Up `k ≥ 1` times, then Enter**, after typed keys that handed over at least one statement: the statement
handed over again is the `k`-th most recent one - or, when `k` is beyond the entries there are, the oldest the
ring holds (it keeps the 100 most recent). -/
theorem recall_any (keys : List Nat) (hv : ∀ k ∈ keys, TypedKey k) (k : Nat) (hk1 : 1 ≤ k)
    (hn1 : 1 ≤ (run {} keys).flatten.length) :
    ∃ s, (run {} keys).flatten.reverse[min k (min (run {} keys).flatten.length 100) - 1]? = some s ∧
      run {} (keys ++ List.replicate k keyUp ++ [keyEnter]) = run {} keys ++ [[s]] := by
  obtain ⟨g, hh, hw⟩ := typedState_run keys {} typedState_init hv
  rw [List.append_nil] at hh
  have hlen : (final {} keys).history.length = min (run {} keys).flatten.length 100 := by
    rw [hh, List.length_take, List.length_reverse, Nat.min_comm]
  obtain ⟨j, rfl⟩ : ∃ j, k = j + 1 := ⟨k - 1, by omega⟩
  obtain ⟨hs, h0⟩ := up_first (final {} keys) g.paste g.idx (by omega)
  obtain ⟨t', r, hhist, hin⟩ := ups_any j _ 0 h0
  have hh1 : (step (final {} keys) keyUp).1.history = (final {} keys).history := by rw [hs]; rfl
  rw [hh1, hlen, Nat.zero_add] at hin
  rw [hh1] at hhist
  have ln := hin.line
  rw [hhist, hh, List.getElem?_take, if_pos (by omega)] at ln
  have hwf : WFStmt t'.line := hw _ (List.mem_reverse.mp (List.mem_of_getElem? ln))
  refine ⟨t'.line, by rw [← ln]; congr 1; omega, ?_⟩
  have hs' : step (final {} keys) keyUp = ((step (final {} keys) keyUp).1, none) := by rw [hs]
  have := ((Runs.self {} keys).append (Runs.cons hs' r)).append (Runs.cons (step_enter_single t' hwf) (.nil _))
  rw [List.replicate_succ]
  simpa [subs, keyEnter] using this.1

theorem recall (keys : List Nat) (hv : ∀ k ∈ keys, TypedKey k) (k : Nat) (hk1 : 1 ≤ k)
    (hkn : k ≤ (run {} keys).flatten.length) (hk100 : k ≤ 100) :
    run {} (keys ++ List.replicate k keyUp ++ [keyEnter]) =
      run {} keys ++ [[(run {} keys).flatten[(run {} keys).flatten.length - k]]] := by
  obtain ⟨s, hs, h⟩ := recall_any keys hv k hk1 (by omega)
  rw [Nat.min_eq_left (by omega), List.getElem?_reverse (by omega), List.getElem?_eq_getElem (by omega)] at hs
  rw [h, ← Option.some.inj hs]
  congr 4
  omega

end Mkdb.Console
end
