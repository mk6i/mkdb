import Mkdb.Model.Header
import Mkdb.Proofs.Bin
/-!
The page frame and the file header.  The field and cell codecs of a page give back what was encoded,
on values within the field widths; a header and a footer that leave room make a page of exactly
`pageSize` bytes; a well-formed node encoded is the node `decodePage` reads (`decodePage_encodeLeaf`,
`decodePage_encodeInternal`); `open` reads a header exactly from files of at least 28 bytes.
-/

section
namespace Mkdb.Page
open Mkdb.Bin Mkdb.Generated

@[simp] theorem decU8_enc (n : Nat) (rest : Bytes) (h : n < 2 ^ 8) : decU8 (encU8 n ++ rest) = some (n, rest) :=
  decLE_encLE_of_lt 1 n rest h
@[simp] theorem decU16_enc (n : Nat) (rest : Bytes) (h : n < 2 ^ 16) : decU16 (encU16 n ++ rest) = some (n, rest) :=
  decLE_encLE_of_lt 2 n rest h
@[simp] theorem decU32_enc (n : Nat) (rest : Bytes) (h : n < 2 ^ 32) : decU32 (encU32 n ++ rest) = some (n, rest) :=
  decLE_encLE_of_lt 4 n rest h
@[simp] theorem decU64_enc (n : Nat) (rest : Bytes) (h : n < 2 ^ 64) : decU64 (encU64 n ++ rest) = some (n, rest) :=
  decLE_encLE_of_lt 8 n rest h
@[simp] theorem decBool_enc (b : Bool) (rest : Bytes) : decBool (encBool b ++ rest) = some (b, rest) := by
  cases b <;> rfl

theorem readN_append (v rest : Bytes) : readN v.length (v ++ rest) = some (v, rest) := by
  unfold readN
  cases v with
  | nil => simp
  | cons a t => simp

theorem skipN_replicate (n : Nat) (rest : Bytes) : skipN n (List.replicate n 0 ++ rest) = rest := by
  simp [skipN]

theorem decOffsets_enc (l : List Nat) (hl : ∀ o ∈ l, o < 2 ^ 16) (rest : Bytes) :
    decOffsets l.length (l.flatMap encU16 ++ rest) = some (l, rest) := by
  induction l with
  | nil => simp [decOffsets]
  | cons o t ih =>
    have ho := hl o List.mem_cons_self
    have ht := ih (fun x hx => hl x (List.mem_cons_of_mem _ hx))
    simp only [List.length_cons, List.flatMap_cons, List.append_assoc, decOffsets, decU16_enc _ _ ho, ht]

theorem decOffsets_range (n : Nat) (hn : n ≤ 2 ^ 16) (rest : Bytes) :
    decOffsets n (encOffsets n ++ rest) = some (List.range n, rest) := by
  have := decOffsets_enc (List.range n) (fun o ho => by
    have := List.mem_range.mp ho; omega) rest
  simpa [encOffsets] using this

theorem decLeafCell_enc (c : LeafCell) (hc : WFLeafCell c) (rest : Bytes) :
    decLeafCell (encLeafCell c ++ rest) = some (c, rest) := by
  obtain ⟨hk, hv⟩ := hc
  have hv' : c.val.length < 2 ^ 32 := by
    have : c_maxValueSize = 400 := rfl
    omega
  simp only [decLeafCell, encLeafCell, List.append_assoc, decU32_enc _ _ hk, decBool_enc,
    decU32_enc _ _ hv', readN_append]

theorem decLeafCells_enc (cs : List LeafCell) (h : ∀ c ∈ cs, WFLeafCell c) (rest : Bytes) :
    decLeafCells cs.length (cs.flatMap encLeafCell ++ rest) = some (cs, rest) := by
  induction cs with
  | nil => simp [decLeafCells]
  | cons c t ih =>
    have hc := h c List.mem_cons_self
    have ht := ih (fun x hx => h x (List.mem_cons_of_mem _ hx))
    simp only [List.length_cons, List.flatMap_cons, List.append_assoc, decLeafCells,
      decLeafCell_enc c hc, ht]

theorem decICell_enc (c : ICell) (hc : WFICell c) (rest : Bytes) :
    decICell (encICell c ++ rest) = some (c, rest) := by
  obtain ⟨hk, hv⟩ := hc
  simp only [decICell, encICell, List.append_assoc, decU32_enc _ _ hk, decU64_enc _ _ hv]

theorem decICells_enc (cs : List ICell) (h : ∀ c ∈ cs, WFICell c) (rest : Bytes) :
    decICells cs.length (cs.flatMap encICell ++ rest) = some (cs, rest) := by
  induction cs with
  | nil => simp [decICells]
  | cons c t ih =>
    have hc := h c List.mem_cons_self
    have ht := ih (fun x hx => h x (List.mem_cons_of_mem _ hx))
    simp only [List.length_cons, List.flatMap_cons, List.append_assoc, decICells,
      decICell_enc c hc, ht]

theorem place_range {α : Type} (cs : List α) : place (List.range cs.length) cs = some cs := by
  simp [place]

theorem encOffsets_length (n : Nat) : (encOffsets n).length = 2 * n := by
  induction n with
  | zero => simp [encOffsets]
  | succ n ih =>
    simp only [encOffsets, List.range_succ, List.flatMap_append, List.length_append] at ih ⊢
    simp [ih, encU16, encLE_length]; omega

theorem leafFooter_length_le (cs : List LeafCell) (h : ∀ c ∈ cs, WFLeafCell c) :
    (cs.flatMap encLeafCell).length ≤ cs.length * c_leafNodeCellSize := by
  induction cs with
  | nil => simp
  | cons c t ih =>
    have hc := (h c List.mem_cons_self).2
    have ht := ih (fun x hx => h x (List.mem_cons_of_mem _ hx))
    have h1 : c_maxValueSize = 400 := rfl
    have h2 : c_leafNodeCellSize = 409 := rfl
    simp only [List.flatMap_cons, List.length_append, List.length_cons, encLeafCell, encU32, encBool,
      encLE_length, List.length_nil] at ht ⊢
    rw [Nat.succ_mul]
    omega

theorem internalFooter_length (cs : List ICell) :
    (cs.flatMap encICell).length = cs.length * c_nodeCellSize := by
  induction cs with
  | nil => simp
  | cons c t ih =>
    have h2 : c_nodeCellSize = 12 := rfl
    simp only [List.flatMap_cons, List.length_append, List.length_cons, encICell, encU32, encU64,
      encLE_length] at ih ⊢
    rw [Nat.succ_mul]
    omega

theorem leafHeader_length (l : Leaf) : (leafHeader l).length = 39 + 2 * l.cells.length := by
  simp only [leafHeader, List.length_append, encU8, encU64, encU32, encBool, encLE_length,
    encOffsets_length, List.length_cons, List.length_nil]

theorem internalHeader_length (n : Internal) : (internalHeader n).length = 29 + 2 * n.cells.length := by
  simp only [internalHeader, List.length_append, encU8, encU64, encU32, encLE_length,
    encOffsets_length]

/-- A header and a footer that leave room for the two bytes of `freeSize` make a page: the gap is what
is left of `pageSize`, it fits 16 bits, and the result has exactly `pageSize` bytes. -/
theorem finishPage_ok (hdr footer : Bytes) (h : hdr.length + footer.length + 2 ≤ c_pageSize) :
    ∃ free, free < 2 ^ 16 ∧
      finishPage hdr footer = .ok (hdr ++ encU16 free ++ List.replicate free 0 ++ footer) ∧
      (hdr ++ encU16 free ++ List.replicate free 0 ++ footer).length = c_pageSize := by
  obtain ⟨free, hf⟩ := Nat.exists_eq_add_of_le h
  have hps : c_pageSize = 4096 := rfl
  have hlen : (hdr ++ encU16 free ++ List.replicate free 0 ++ footer).length = c_pageSize := by
    simp only [List.length_append, List.length_replicate, encU16, encLE_length]
    omega
  have hfree : (c_pageSize : Int) - hdr.length - footer.length - 2 = (free : Int) := by omega
  refine ⟨free, by omega, ?_, hlen⟩
  simp only [finishPage, hfree]
  rw [Int.emod_eq_of_lt (by omega) (by omega), Int.toNat_natCast, if_pos hlen]

/-- **The round trip of a whole leaf page**: header, identity offset array, gap, cells - read back through
the first-byte dispatch. -/
theorem decodePage_encodeLeaf (l : Leaf) (h : WFLeaf l) :
    ∃ page, encodeLeaf l = .ok page ∧ page.length = c_pageSize ∧
      decodePage page = .ok (.leaf l) (List.range l.cells.length) := by
  obtain ⟨hoff, hlsn, hls, hrs, hn, hcells⟩ := h
  have hmax : c_maxLeafNodeCells = 9 := rfl
  have hroom : (leafHeader l).length + (l.cells.flatMap encLeafCell).length + 2 ≤ c_pageSize := by
    have hfoot := leafFooter_length_le l.cells hcells
    have hcs : c_leafNodeCellSize = 409 := rfl
    have hps : c_pageSize = 4096 := rfl
    rw [leafHeader_length, hps]; rw [hcs] at hfoot
    omega
  obtain ⟨free, hfree16, henc, hlen⟩ := finishPage_ok _ _ hroom
  refine ⟨_, henc, hlen, ?_⟩
  have hcount : l.cells.length < 2 ^ 32 := by omega
  have hcount16 : l.cells.length ≤ 2 ^ 16 := by omega
  have hfirst : ∀ rest : Bytes, decodePage (encU8 c_LeafNode ++ rest) = decodeLeaf (encU8 c_LeafNode ++ rest) := by
    intro rest; rfl
  simp only [leafHeader, List.append_assoc]
  rw [hfirst]
  simp only [decodeLeaf, decU8_enc _ _ (by decide : c_LeafNode < 2 ^ 8), ne_eq, not_true_eq_false,
    ↓reduceIte, decU64_enc _ _ hoff, decU64_enc _ _ hlsn, decBool_enc, decU64_enc _ _ hls,
    decU64_enc _ _ hrs, decU32_enc _ _ hcount, decOffsets_range _ hcount16,
    decU16_enc _ _ hfree16, skipN_replicate]
  have := decLeafCells_enc l.cells hcells []
  simp only [List.append_nil] at this
  simp only [this, place_range]

/-- likewise for an internal node -/
theorem decodePage_encodeInternal (n : Internal) (h : WFInternal n) :
    ∃ page, encodeInternal n = .ok page ∧ page.length = c_pageSize ∧
      decodePage page = .ok (.internal n) (List.range n.cells.length) := by
  obtain ⟨hoff, hlsn, hr, hn, hcells⟩ := h
  have hmax : c_maxInternalNodeCells = 290 := rfl
  have hroom : (internalHeader n).length + (n.cells.flatMap encICell).length + 2 ≤ c_pageSize := by
    have hcs : c_nodeCellSize = 12 := rfl
    have hps : c_pageSize = 4096 := rfl
    rw [internalHeader_length, internalFooter_length, hcs, hps]
    omega
  obtain ⟨free, hfree16, henc, hlen⟩ := finishPage_ok _ _ hroom
  refine ⟨_, henc, hlen, ?_⟩
  have hcount : n.cells.length < 2 ^ 32 := by omega
  have hcount16 : n.cells.length ≤ 2 ^ 16 := by omega
  have hfirst : ∀ rest : Bytes, decodePage (encU8 c_InternalNode ++ rest) = decodeInternal (encU8 c_InternalNode ++ rest) := by
    intro rest; rfl
  simp only [internalHeader, List.append_assoc]
  rw [hfirst]
  simp only [decodeInternal, decU8_enc _ _ (by decide : c_InternalNode < 2 ^ 8), ne_eq, not_true_eq_false,
    ↓reduceIte, decU64_enc _ _ hoff, decU64_enc _ _ hlsn, decU64_enc _ _ hr,
    decU32_enc _ _ hcount, decOffsets_range _ hcount16,
    decU16_enc _ _ hfree16, skipN_replicate]
  have := decICells_enc n.cells hcells []
  simp only [List.append_nil] at this
  simp only [this, place_range]

end Mkdb.Page
end

section
namespace Mkdb.Header
open Mkdb.Bin Mkdb.Store

theorem encode_length (h : Header) : (encode h).length = 28 := by
  simp [encode, encU32, encU64, encLE_length]

theorem decode_encode_wrap (h : Header) (rest : Bytes) : decode (encode h ++ rest) = some (wrap h) := by
  simp only [encode, decode, encU32, encU64, decU32, decU64, List.append_assoc, decLE_encLE, wrap]

theorem wrap_of_fits (h : Header) (hf : Fits h) : wrap h = h := by
  obtain ⟨h1, h2, h3, h4⟩ := hf
  cases h
  simp only [wrap, Header.mk.injEq]
  exact ⟨Nat.mod_eq_of_lt h1, Nat.mod_eq_of_lt h2, Nat.mod_eq_of_lt h3, Nat.mod_eq_of_lt h4⟩

/-- `open` reads a header exactly from files of at least 28 bytes: each of the four reads either meets
the end of the file or moves on by its width -/
theorem decode_some_iff (bs : Bytes) : (∃ h, decode bs = some h) ↔ 28 ≤ bs.length := by
  have hnone : ∀ {n : Nat}, n < 28 → ((∃ h : Header, none = some h) ↔ 28 ≤ n) :=
    fun hn => ⟨fun h => (by obtain ⟨_, h⟩ := h; cases h), fun h => by omega⟩
  unfold decode decU32 decU64
  rcases decLE_cases 4 bs with ⟨h1, e1⟩ | ⟨h1, v1, e1⟩ <;> rw [e1] <;> simp only []
  · exact hnone (by omega)
  rcases decLE_cases 8 (bs.drop 4) with ⟨h2, e2⟩ | ⟨h2, v2, e2⟩ <;> rw [e2] <;> simp only [] <;> rw [List.length_drop] at h2
  · exact hnone (by omega)
  rcases decLE_cases 8 ((bs.drop 4).drop 8) with ⟨h3, e3⟩ | ⟨h3, v3, e3⟩ <;> rw [e3] <;> simp only [] <;>
    rw [List.length_drop, List.length_drop] at h3
  · exact hnone (by omega)
  rcases decLE_cases 8 (((bs.drop 4).drop 8).drop 8) with ⟨h4, e4⟩ | ⟨h4, v4, e4⟩ <;> rw [e4] <;> simp only [] <;>
    rw [List.length_drop, List.length_drop, List.length_drop] at h4
  · exact hnone (by omega)
  · exact ⟨fun _ => by omega, fun _ => ⟨_, rfl⟩⟩

end Mkdb.Header
end
