import Mkdb.Proofs.SpecRefine
/-!
Why the side conditions `PtSelf` and `FreshM` remain: the crash theorems are false of stores that violate
them.  Both stores below are hand-made variants of the example store `st1` (SpecRefine: one table
`t (a INT)`, root leaf at 12288, counters `lastKey = 4`, `nextLSN = 7`); neither is reachable
(`C02_side_conditions_hold_in_every_reachable_database`); the catalog invariant `Cat` looks neither at LSN
stamps nor at the offset in the self-row, so it does not exclude them.  The results are kernel evaluations
of the model.
-/
set_option autoImplicit false
namespace Mkdb.Store
open Mkdb.Page Mkdb.Tuple Mkdb.Generated Mkdb.Tree Mkdb.Engine

/-- `st1` with the root leaf of `t` stamped with LSN 100, ahead of the counter (7) -/
def stStale : Store :=
  { st1 with mem := [(4096, ⟨.leaf ptLeaf, true⟩), (8192, ⟨.leaf schLeaf, true⟩),
      (12288, ⟨.leaf ⟨12288, 100, false, false, 0, 0, []⟩, true⟩)] }

def cellsAt (s : Store) (off : Nat) : Nat :=
  match view s off with
  | some (.leaf l, _) => l.cells.length
  | _ => 0

/-- `INSERT INTO t VALUES (5)` on a store, then its log replayed on that store: (cells of the root leaf
after the live run, cells after the replay, replay ended without error) -/
def insertThenReplay (s : Store) : Option (Nat × Nat × Bool) :=
  match insert tname [] [Val.int 5] s with
  | .ok logs s' =>
    some (cellsAt s' 12288, cellsAt (replayAll logs s).1 12288,
      (replayAll logs s).2.1.isNone && !(replayAll logs s).2.2)
  | _ => none

/-- `FreshM` (every page of a user table is older than the LSN counter) is needed.  On `stStale` the root
leaf of `t` carries LSN 100 while the counter stands at 7: `INSERT` stamps its record with 7, the replay
finds the page "newer" than the record and skips it - it ends without error and the row is gone.  On `st1`
the replay redoes the insert (one cell, as live). -/
theorem freshM_is_needed :
    insertThenReplay st1 = some (1, 1, true) ∧ insertThenReplay stStale = some (1, 0, true) := by
  decide +kernel

/-- a page table whose self-row names the root of `t` -/
def ptLeafBad : Leaf := ⟨4096, 0, false, false, 0, 0,
  [⟨1, false, ptRow sysPages 12288⟩, ⟨2, false, ptRow sysSchema 8192⟩, ⟨3, false, ptRow tname 12288⟩]⟩

def stSelfBad : Store :=
  { st1 with mem := [(4096, ⟨.leaf ptLeafBad, true⟩), (8192, ⟨.leaf schLeaf, true⟩),
      (12288, ⟨.leaf ⟨12288, 0, false, false, 0, 0, []⟩, true⟩)] }

def insertMany : List Int → Store → List WalRec → Option (List WalRec × Store)
  | [], s, acc => some (acc, s)
  | i :: rest, s, acc =>
    match insert tname [] [Val.int i] s with
    | .ok logs s' => insertMany rest s' (acc ++ logs)
    | _ => none

def entryOffs (s : Store) : List Nat :=
  match view s 4096 with
  | some (.leaf l, _) => l.cells.map fun c => ((ptEntry c).map (·.2)).getD 0
  | _ => []

/-- nine inserts on a store; the first `k` records of their log replayed on that store: (length of the
log, offsets in the page table live, offsets after the replay, replay ended without error) -/
def nineThenReplay (s : Store) (k : Nat) : Option (Nat × List Nat × List Nat × Bool) :=
  match insertMany [1, 2, 3, 4, 5, 6, 7, 8, 9] s [] with
  | some (logs, s') =>
    some (logs.length, entryOffs s', entryOffs (replayAll (logs.take k) s).1,
      (replayAll (logs.take k) s).2.1.isNone && !(replayAll (logs.take k) s).2.2)
  | none => none

/-- `PtSelf` (the self-row names a page of the page table, which is never the root of a user table) is
needed.  Rows of the page table are (`sys_pages`, `sys_schema`, `t`); nine inserts move the root of `t`
from 12288 to 20480.  On `st1` the replay of the nine INSERT records alone - WITHOUT the catalog record
that follows, the log cut of C03 - re-points the row of `t` as the live run did.  On `stSelfBad`, whose
self-row names 12288, it re-points "the row that names 12288": the first one, the self-row; the row of
`t` keeps naming 12288, by then the left half of the table.  The whole log (ten records) repairs the row
of `t` (the catalog record names it by page and cell) but leaves the self-row rewritten, unlike the live
run. -/
theorem ptSelf_is_needed :
    nineThenReplay st1 9 = some (10, [4096, 8192, 20480], [4096, 8192, 20480], true) ∧
    nineThenReplay stSelfBad 9 = some (10, [12288, 8192, 20480], [20480, 8192, 12288], true) ∧
    nineThenReplay stSelfBad 10 = some (10, [12288, 8192, 20480], [20480, 8192, 20480], true) := by
  decide +kernel

end Mkdb.Store
