import Mkdb.Model.LRU
/-!
The page cache in front of the data file (storage/page.go `fileStore.fetch`, `update`/`markDirty`,
`flushPages`, over storage/lru.go), with page *contents*, for C16: what the engine reads through a
cache of any capacity is what it would read with an unbounded one.

`items` is the recency list (most recently used first) of resident pages with their content and
dirty bit; `disk` is the data file.  Eviction is exactly `LRUCache.set`'s: the coldest clean entry,
refusal (`ErrCacheFull`, here `none`) when every resident page is dirty.  A change to a page is
fetch + in-place change + `markDirty`; a flush writes every dirty page and marks it clean.
-/
namespace Mkdb.PageCache

structure Ent (α : Type) where
  key   : Nat
  val   : α
  dirty : Bool

structure St (α : Type) where
  cap   : Nat
  items : List (Ent α)
  disk  : Nat → α

variable {α : Type}

def find? (l : List (Ent α)) (k : Nat) : Option (Ent α) := l.find? fun e => e.key == k
def remove (l : List (Ent α)) (k : Nat) : List (Ent α) := l.filter fun e => !(e.key == k)

/-- remove the coldest (last) clean entry; `none` when all are dirty -/
def evict : List (Ent α) → Option (List (Ent α))
  | [] => none
  | e :: rest =>
    match evict rest with
    | some rest' => some (e :: rest')
    | none => if e.dirty then none else some rest

/-- the key / dirty-bit view of the recency list, as in the LRU model of C15 (`id` := the key) -/
def proj (l : List (Ent α)) : List LRU.Entry := l.map fun e => ⟨e.key, e.key, e.dirty⟩

/-- `LRUCache.set` of a page that is not resident -/
def insertNew (s : St α) (e : Ent α) : Option (St α) :=
  if s.items.length == s.cap then
    match evict s.items with
    | none => none                                   -- ErrCacheFull
    | some items' => some { s with items := e :: items' }
  else some { s with items := e :: s.items }

/-- `fileStore.fetch`: a hit moves the page to the front; a miss reads the file and caches a clean copy -/
def fetch (s : St α) (k : Nat) : Option (St α × α) :=
  match find? s.items k with
  | some e => some ({ s with items := e :: remove s.items k }, e.val)
  | none =>
    match insertNew s ⟨k, s.disk k, false⟩ with
    | some s' => some (s', s.disk k)
    | none => none

/-- change a page: fetch it, change the resident copy in place, mark it dirty -/
def write (s : St α) (k : Nat) (f : α → α) : Option (St α) :=
  match fetch s k with
  | none => none
  | some (s', _) =>
    some { s' with items := s'.items.map fun e => if e.key == k then { e with val := f e.val, dirty := true } else e }

/-- `flushPages`: every dirty page goes to the file and becomes clean -/
def flush (s : St α) : St α :=
  { s with
    disk := fun k => match find? s.items k with
      | some e => if e.dirty then e.val else s.disk k
      | none => s.disk k
    items := s.items.map fun e => { e with dirty := false } }

inductive Op (α : Type) where
  | fetch (k : Nat)
  | write (k : Nat) (f : α → α)
  | flush

/-- one operation; `none` = the cache refused (`ErrCacheFull`); the output is what a fetch returned -/
def step (s : St α) : Op α → Option (St α × Option α)
  | .fetch k => (fetch s k).map fun (s', v) => (s', some v)
  | .write k f => (write s k f).map fun s' => (s', none)
  | .flush => some (flush s, none)

def run (s : St α) : List (Op α) → Option (St α × List (Option α))
  | [] => some (s, [])
  | op :: rest =>
    match step s op with
    | none => none
    | some (s', o) =>
      match run s' rest with
      | none => none
      | some (s'', os) => some (s'', o :: os)

/-- the reference: no cache at all, one current content per page -/
def refStep (m : Nat → α) : Op α → (Nat → α) × Option α
  | .fetch k => (m, some (m k))
  | .write k f => (fun k' => if k' = k then f (m k) else m k', none)
  | .flush => (m, none)

def refRun (m : Nat → α) : List (Op α) → (Nat → α) × List (Option α)
  | [] => (m, [])
  | op :: rest =>
    let (m', o) := refStep m op
    let (m'', os) := refRun m' rest
    (m'', o :: os)

/-- the logical content of page `k`: the resident copy, else the file -/
def view (s : St α) (k : Nat) : α :=
  match find? s.items k with
  | some e => e.val
  | none => s.disk k

/-- resident keys are distinct, the cache is within its capacity, and a clean resident page equals its
disk image ("only clean pages are evictable, so an evicted page equals its disk image") -/
def Inv (s : St α) : Prop :=
  ((s.items.map (·.key)).Nodup) ∧ s.items.length ≤ s.cap ∧
  ∀ e ∈ s.items, e.dirty = false → s.disk e.key = e.val

/-! ### the flush as the code does it: it changes the recency order

`fileStore.flushPagesLocked` ranges over the cache's Go map - in an order that is arbitrary and differs
from run to run - and for every dirty page calls `update`, which ends in `setCache` = `LRUCache.set` of
a resident key = `MoveToFront`, and then `markClean`.  After a flush every page that was dirty is at the
front of the recency list, the page visited LAST in front; the pages that were clean follow in their old
relative order.  `flush` above is the idealisation that keeps the order; `flushOrd` is the code. -/

/-- `markClean` -/
def clean (e : Ent α) : Ent α := { e with dirty := false }

/-- one turn of the loop of `flushPagesLocked` at page `k`: a resident dirty page is written,
moved to the front (`update` → `setCache` → `MoveToFront`) and marked clean; anything else is skipped -/
def visit (l : List (Ent α)) (k : Nat) : List (Ent α) :=
  match find? l k with
  | some e => if e.dirty then clean e :: remove l k else l
  | none => l

/-- `flushPagesLocked` when the map iteration meets the keys in the order `order` (first visited
first; so the LAST key of `order` ends up in front).  Total in `order`: a key that is not resident, not
dirty, or was met before is skipped (as the loop skips clean pages; a Go map has each key once); dirty
pages that `order` does not name are visited after the named ones, coldest first (they go in front of the
named ones and keep their relative order).  The code visits every dirty page, so its behaviours are
exactly the `order`s that enumerate the dirty resident keys; completing the other `order`s instead of
demanding an enumeration keeps every theorem free of a side condition on `order` and adds no
behaviour (`flushOrd_complete_order` in Proofs/FlushOrder: every `order` gives the state of one that
enumerates the dirty keys).  Disk and dirty bits are those of `flush`. -/
def flushOrd (s : St α) (order : List Nat) : St α :=
  let v := order.foldl visit s.items
  { s with
    disk := (flush s).disk
    items := (v.filter fun e => e.dirty).map clean ++ v.filter fun e => !e.dirty }

/-- `Op` with the flush of the code: the order of the map iteration is a parameter of the operation -/
inductive OpF (α : Type) where
  | fetch (k : Nat)
  | write (k : Nat) (f : α → α)
  | flushOrd (order : List Nat)

/-- the operation with the iteration order forgotten -/
def OpF.toOp : OpF α → Op α
  | .fetch k => .fetch k
  | .write k f => .write k f
  | .flushOrd _ => .flush

def stepF (s : St α) : OpF α → Option (St α × Option α)
  | .fetch k => (fetch s k).map fun (s', v) => (s', some v)
  | .write k f => (write s k f).map fun s' => (s', none)
  | .flushOrd order => some (flushOrd s order, none)

def runF (s : St α) : List (OpF α) → Option (St α × List (Option α))
  | [] => some (s, [])
  | op :: rest =>
    match stepF s op with
    | none => none
    | some (s', o) =>
      match runF s' rest with
      | none => none
      | some (s'', os) => some (s'', o :: os)

end Mkdb.PageCache
